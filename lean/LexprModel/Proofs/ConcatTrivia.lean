/-
  ConcatTrivia — C12, concatenation and trivia insensitivity together: the concatenation of
  *trivia variants* of printed values (`TV p ryu v t` of `TriviaBase.lean`: the text of `v` with
  whitespace and comments inserted at its token boundaries), separated by trivia, is read back as
  exactly those values, in order, followed by end of input.

  An instance of `Concat.C12_pieces` through `reads_tv` (`TriviaRel.lean`).  `SepsOKT` lets a
  separator be empty only in front of a text that starts with a byte ending every token (`(`,
  `[`) — not behind a self-closing value as in `Concat.C12_concat`.
-/
import LexprModel.Proofs.Concat
import LexprModel.Proofs.Trivia
namespace Lexpr
namespace Parse
namespace Concat
open Print Spec ListRT

/-- The input: each variant text preceded by its separator; an item is
    (separator, value, variant of the text of the value). -/
def concatTextT : List (List UInt8 × Value × List UInt8) → List UInt8
  | [] => []
  | (sep, _, t) :: xs => sep ++ (t ++ concatTextT xs)

/-- the unread input after each value -/
def restsT (tEnd : List UInt8) : List (List UInt8 × Value × List UInt8) → List (List UInt8)
  | [] => []
  | _ :: xs => (concatTextT xs ++ tEnd) :: restsT tEnd xs

/-- Separators are trivia, texts are trivia variants of the printed values; a separator may be
    empty only at the very beginning (`free`) or in front of a text that starts with a byte
    ending every token. -/
def SepsOKT (p : Print.Options) (ryu : Nat → List UInt8) :
    Bool → List (List UInt8 × Value × List UInt8) → Prop
  | _, [] => True
  | free, (sep, v, t) :: xs =>
    Trivia sep ∧ TV p ryu v t ∧ (free = true ∨ sep ≠ [] ∨ startsFollow t = true) ∧
      SepsOKT p ryu false xs

def valueItemsT (p : Print.Options) (r : Options) (items : List (List UInt8 × Value × List UInt8)) :
    List Item :=
  items.map fun it => Item.value (fold p r it.2.1)

/-- the piece for a trivia variant; nothing is assumed about what follows it (`SepsOKT` does not
    look at whether the value closes itself) -/
def pieceT (p : Print.Options) (r : Options) (it : List UInt8 × Value × List UInt8) : Piece :=
  ⟨it.1, it.2.2, fold p r it.2.1, false, nestingP p it.2.1⟩

theorem piecesText_T (p : Print.Options) (r : Options) :
    ∀ items, piecesText (items.map (pieceT p r)) = concatTextT items
  | [] => rfl
  | (_, _, _) :: xs => by simp [piecesText, concatTextT, pieceT, piecesText_T p r xs]

theorem piecesRests_T (p : Print.Options) (r : Options) (tEnd : List UInt8) :
    ∀ items, piecesRests tEnd (items.map (pieceT p r)) = restsT tEnd items
  | [] => rfl
  | _ :: xs => by simp [piecesRests, restsT, piecesText_T, piecesRests_T p r tEnd xs]

theorem sepsP_T (p : Print.Options) (r : Options) (ryu : Nat → List UInt8) :
    ∀ (items : List (List UInt8 × Value × List UInt8)) (free : Bool), SepsOKT p ryu free items →
      SepsP free (items.map (pieceT p r))
  | [], _, _ => trivial
  | (_, _, _) :: xs, _, ⟨h1, _, h3, h4⟩ => ⟨h1, h3, sepsP_T p r ryu xs false h4⟩

theorem tv_of_sepsOKT (p : Print.Options) (ryu : Nat → List UInt8) :
    ∀ (items : List (List UInt8 × Value × List UInt8)) (free : Bool),
      SepsOKT p ryu free items → ∀ it ∈ items, TV p ryu it.2.1 it.2.2
  | [], _, _, _, hit => nomatch hit
  | _ :: xs, _, ⟨_, h2, _, h4⟩, it, hit => by
    rcases List.mem_cons.1 hit with rfl | hit
    · exact h2
    · exact tv_of_sepsOKT p ryu xs false h4 it hit

/-- **C12_concat_trivia.**  For every compatible printer / parser option pair, every ryu
    parameter, values plain for the pair with nesting at most 127, and for each value any trivia
    variant of its printed text: a fresh slice parser on
    `sep1 ++ t1 ++ sep2 ++ t2 ++ … ++ tEnd` returns `fold p cfg.opts v1`, …, `fold p cfg.opts vn`
    and then end of input (for each of the three ways of asking for the next value); further calls
    keep reporting the end; the depth budget is 128 after every call and the unread input after
    the `i`-th call is exactly what follows the `i`-th text. -/
theorem C12_concat_trivia (p : Print.Options) (cfg : Cfg) (ryu : Nat → List UInt8)
    (hc : Compatible p cfg.opts = true) (op : Op) (hop : ValueOp op)
    (items : List (List UInt8 × Value × List UInt8)) (tEnd : List UInt8)
    (hall : ∀ it ∈ items, AllPlainFor p cfg it.2.1 ∧ nestingP p it.2.1 ≤ 127)
    (hs : SepsOKT p ryu true items) (hE : TriviaEnd tEnd) :
    let s0 := initSt .slice (concatTextT items ++ tEnd)
    (∀ cap, items.length + 1 ≤ cap →
        iterate cfg op cap s0 = valueItemsT p cfg.opts items ++ [.none_]) ∧
    (∀ k, runHistory cfg (List.replicate (items.length + (k + 1)) op) s0 =
        valueItemsT p cfg.opts items ++ List.replicate (k + 1) .none_) ∧
    (∀ k, (runStates cfg (List.replicate (items.length + (k + 1)) op) s0).map obs =
        (restsT tEnd items).map (fun r => (r, 128)) ++ List.replicate (k + 1) ([], 128)) := by
  intro s0
  have hR := (reads_tv p cfg ryu (compatible_brackets p cfg.opts hc)).1
  have h := C12_pieces cfg op hop (items.map (pieceT p cfg.opts)) tEnd s0 ⟨rfl, rfl⟩
    (by rw [piecesText_T]; rfl)
    (fun x hx => by
      obtain ⟨it, hit, rfl⟩ := List.mem_map.1 hx
      have hr := hR it.2.1 (allAtomsOKP_of_plain p cfg ryu hc it.2.1 (hall it hit).1) it.2.2
        (tv_of_sepsOKT p ryu items true hs it hit)
      have := (hall it hit).2
      exact ⟨⟨hr.1.first, fun s rest fuel hf => hr.2 s rest fuel (.inr (follow_of_open hf))⟩,
        show nestingP p it.2.1 + 1 ≤ 128 by omega⟩)
    (sepsP_T p cfg.opts ryu items true hs) hE
  have hd0 : s0.depth = 128 := rfl
  simpa [piecesRests_T, valueItemsT, pieceT, List.map_map, Function.comp_def, hd0] using
    And.intro h.2.2 (And.intro h.1 h.2.1)

/-- `(a 1)`, `"s;x"`, `#(#t ())`, `foo` -/
def exVs : List Value :=
  [.cons (.symbol (asc "a")) (.cons (.number (.pos 1)) .null), .string (asc "s;x"),
   .vector [.bool true, .null], .symbol (asc "foo")]

/-- four values with trivia *inside* and between them; the variant texts are written by the
    trivia-inserting printer `textT` of `Trivia.lean` -/
def exT (ryu : Nat → List UInt8) : List (List UInt8 × Value × List UInt8) :=
  [ (asc ";lead\n", .cons (.symbol (asc "a")) (.cons (.number (.pos 1)) .null),
      textT (nthT [asc " ", asc "\t;in\n", asc " "]) Print.Options.default ryu
        (.cons (.symbol (asc "a")) (.cons (.number (.pos 1)) .null))),
    (asc "\x0c", .string (asc "s;x"),
      textT (nthT []) Print.Options.default ryu (.string (asc "s;x"))),
    (asc ";c\n", .vector [.bool true, .null],
      textT (nthT [asc " ", asc "\x0c", asc "", asc " "]) Print.Options.default ryu
        (.vector [.bool true, .null])),
    (asc "  ", .symbol (asc "foo"),
      textT (nthT []) Print.Options.default ryu (.symbol (asc "foo"))) ]

/-- the input: `;lead⏎( a⇥;in⏎1 )␌"s;x";c⏎#( #t␌() )  foo ; end` -/
example (ryu : Nat → List UInt8) :
    concatTextT (exT ryu) ++ asc " ; end" =
      asc ";lead\n( a\t;in\n1 )\x0c\"s;x\";c\n#( #t\x0c() )  foo ; end" := by rfl

theorem exT_seps (ryu : Nat → List UInt8) : SepsOKT Print.Options.default ryu true (exT ryu) :=
  ⟨trivia_of_triviaB _ (by decide), tv_textT _ (nthT_triv _ (by decide)) _ _ _, .inl rfl,
   trivia_of_triviaB _ (by decide), tv_textT _ (nthT_triv _ (by decide)) _ _ _,
     .inr (.inl (by decide)),
   trivia_of_triviaB _ (by decide), tv_textT _ (nthT_triv _ (by decide)) _ _ _,
     .inr (.inl (by decide)),
   trivia_of_triviaB _ (by decide), tv_textT _ (nthT_triv _ (by decide)) _ _ _,
     .inr (.inl (by decide)), trivial⟩

example (ryu : Nat → List UInt8) (op : Op) (hop : ValueOp op) :
    iterate cfg0 op 5 (initSt .slice (concatTextT (exT ryu) ++ asc " ; end")) =
      exVs.map Item.value ++ [.none_] := by
  have h := (C12_concat_trivia Print.Options.default cfg0 ryu (by decide) op hop (exT ryu)
    (asc " ; end") ?_ (exT_seps ryu) (triviaEnd_of_triviaEndB _ (by decide))).1 5 (Nat.le_refl 5)
  · rw [h]
    simp [valueItemsT, exT, exVs, cfg0, FullRT.fold_default]
  · intro it hit
    simp only [exT, List.mem_cons, List.not_mem_nil, or_false] at hit
    rcases hit with rfl | rfl | rfl | rfl <;>
      refine ⟨?_, by simp [nestingP, nestingTailP, nestingSeqP]⟩ <;>
      simp only [AllPlainFor, AllPlainForSeq, LeafPlainFor, AtomPlainFor, dotOkP] <;> decide

#print axioms C12_concat_trivia

end Concat
end Parse
end Lexpr
