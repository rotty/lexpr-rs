/-
  Utf8InputTokNum — C17, input clause: the number scanners consume ASCII bytes only.

  What a number scanner consumes is a numeric literal (`NumberWholeBase`, the `_eats` lemmas), a
  literal is ASCII text (`bodyW_ascii`), and a run keeps the source mode (`SufP.of_held`).
  `HeadA s`: "the next byte, if any, is ASCII".  Main results: `parseNumToken_asuf`,
  `parseRadixToken_asuf`, `parseNumber_asuf`, `expectNumberEnd_asuf`.
-/
import LexprModel.Proofs.Utf8Scan
import LexprModel.Proofs.NumberWholeBase
namespace Lexpr
namespace Parse
namespace InTok
open Utf8 Utf8.U8 Parse.U8 Spec

def HeadA (s : St) : Prop := ∀ b, s.rd.rest.head? = some b → b < 0x80

theorem peekOrNull_same {s s1 : St} {c : UInt8} (hp : peekOrNull s = .ok c s1) : ASuf s s1 := by
  obtain ⟨hm, hr, _⟩ := peekOrNull_frame hp
  exact ASuf.same hm hr

theorem headA_of_peek {s s1 : St} {c : UInt8} (hp : peekOrNull s = .ok c s1) (hc : c < 0x80) :
    HeadA s1 := by
  obtain ⟨_, hr, hcd⟩ := peekOrNull_frame hp
  intro b hb
  rw [hr] at hb
  rw [hb] at hcd
  simp only [Option.getD_some] at hcd
  rw [← hcd]; exact hc

theorem discard_asuf {s s' : St} {u : Unit} (hd : discard s = .ok u s') (hh : HeadA s) :
    ASuf s s' := by
  obtain ⟨hm, b, hr⟩ := discard_frame hd
  exact ASuf.one hm hr (hh b (by rw [hr]; rfl))

theorem peekOrNull_discard {s s1 s2 : St} {c : UInt8} {u : Unit} (hp : peekOrNull s = .ok c s1)
    (hd : discard s1 = .ok u s2) (hc : c < 0x80) : ASuf s s2 :=
  (peekOrNull_same hp).trans (discard_asuf hd (headA_of_peek hp hc))

theorem digitVal_ascii {radix : Nat} {c : UInt8} {d : Nat} (h : digitVal radix c = some d) :
    c < 0x80 :=
  Decidable.by_contra fun hb => by
    obtain ⟨-, -, -, -, h1, h2, h3⟩ := nonascii_table c hb
    simp [digitVal, h1, h2, h3] at h

theorem eq_ascii {c k : UInt8} (h : (c == k) = true) (hk : k < 0x80) : c < 0x80 := by
  rw [eq_of_beq h]; exact hk

theorem exp_letter_ascii {c : UInt8} (h : (c == 101 || c == 69) = true) : c < 0x80 := by
  simp only [Bool.or_eq_true] at h
  rcases h with h | h
  · exact eq_ascii h (by decide)
  · exact eq_ascii h (by decide)

theorem ascii_of_all {p : UInt8 → Bool} (hp : ∀ b, p b = true → b < 0x80) {w : List UInt8}
    (h : w.all p = true) : Ascii w := fun b hb => hp b (List.all_eq_true.mp h b hb)

theorem dOk_ascii {radix : Nat} (b : UInt8) (h : C08.dOk radix b = true) : b < 0x80 := by
  unfold C08.dOk at h
  cases hd : digitVal radix b with
  | none => rw [hd] at h; cases h
  | some d => exact digitVal_ascii hd

/-- the ASCII bytes are a class for the literals of every radix -/
theorem ascii_class (radix : Nat) : C08.LitClass radix (fun b => decide (b < 0x80)) where
  digit b h := by simpa using dOk_ascii b h
  dec b h := by simpa using isDigit_ascii h
  exp b h := by simpa using exp_letter_ascii (by simpa [Spec.isExpMark] using h)
  plus := by decide
  minus := by decide
  dot := by decide

theorem bodyW_ascii {radix : Nat} {w : List UInt8} (h : C08.BodyW radix w) : Ascii w :=
  ascii_of_all (fun _ hb => by simpa using hb) ((ascii_class radix).body h)

theorem parseNumLiteral_asuf {cfg : Cfg} {f radix : Nat} {pos : Bool} {s s' : St} {r : Number}
    (h : parseNumLiteral cfg f radix pos s = .ok r s') : ASuf s s' := by
  obtain ⟨w, hw, hb⟩ := C08.parseNumLiteral_eats h
  exact ⟨((SufP.of_held (Held.parseNumLiteral (b := true) cfg radix pos (.refl f))).ok _ _ _ h).1, w,
    bodyW_ascii hb, hw⟩

theorem parseRadixLiteral_asuf {cfg : Cfg} {f radix : Nat} {s s' : St} {r : Number}
    (h : parseRadixLiteral cfg f radix s = .ok r s') : ASuf s s' := by
  obtain ⟨sg, w, hw, hsg, hb⟩ := C08.parseRadixLiteral_eats h
  exact ⟨((SufP.of_held (Held.parseRadixLiteral (b := true) cfg radix (.refl f))).ok _ _ _ h).1, sg ++ w,
    ascii_of_all (fun _ hb => by simpa using hb) ((ascii_class radix).signed hsg hb), hw⟩

theorem expectNumberEnd_asuf {n m : Number} {s s' : St} (h : expectNumberEnd n s = .ok m s') :
    ASuf s s' := by
  unfold expectNumberEnd at h
  obtain ⟨a, s1, hp, h⟩ := bind_ok h
  cases a with
  | none => rw [← (pure_ok h).2]; exact peek_same hp
  | some c =>
    try simp only [] at h
    rcases ite_ok h with ⟨_, h⟩ | ⟨_, h⟩
    · nomatch h
    · rw [← (pure_ok h).2]; exact peek_same hp

theorem parseNumToken_asuf {cfg : Cfg} {f : Nat} {pos : Bool} {s s' : St} {r : Number}
    (h : parseNumToken cfg f pos s = .ok r s') : ASuf s s' := by
  unfold parseNumToken at h
  obtain ⟨n, s1, h1, h⟩ := bind_ok h
  exact (parseNumLiteral_asuf h1).trans (expectNumberEnd_asuf h)

theorem parseRadixToken_asuf {cfg : Cfg} {f radix : Nat} {s s' : St} {r : Number}
    (h : parseRadixToken cfg f radix s = .ok r s') : ASuf s s' := by
  unfold parseRadixToken at h
  obtain ⟨n, s1, h1, h⟩ := bind_ok h
  exact (parseRadixLiteral_asuf h1).trans (expectNumberEnd_asuf h)

/-- a byte-vector element is ASCII text -/
theorem parseNumber_asuf {cfg : Cfg} {f : Nat} {s s' : St} {r : Number}
    (h : parseNumber cfg f s = .ok r s') : ASuf s s' := by
  unfold parseNumber at h
  obtain ⟨c, s1, hp, h⟩ := bind_ok h
  rcases ite_ok h with ⟨hc, h⟩ | ⟨_, h⟩
  · obtain ⟨_, s2, hd, h⟩ := bind_ok h
    have h2 := peekOrNull_discard hp hd (eq_ascii hc (by decide))
    obtain ⟨a, s3, hn, h⟩ := bind_ok h
    cases a with
    | none => nomatch h
    | some x =>
      obtain ⟨hm3, hr3⟩ := next_some_frame hn
      try simp only [] at h
      rcases ite_ok h with ⟨hx, h⟩ | ⟨_, h⟩
      · exact (h2.trans (ASuf.one hm3 hr3 (eq_ascii hx (by decide)))).trans (parseRadixLiteral_asuf h)
      rcases ite_ok h with ⟨hx, h⟩ | ⟨_, h⟩
      · exact (h2.trans (ASuf.one hm3 hr3 (eq_ascii hx (by decide)))).trans (parseRadixLiteral_asuf h)
      rcases ite_ok h with ⟨hx, h⟩ | ⟨_, h⟩
      · exact (h2.trans (ASuf.one hm3 hr3 (eq_ascii hx (by decide)))).trans (parseRadixLiteral_asuf h)
      rcases ite_ok h with ⟨hx, h⟩ | ⟨_, h⟩
      · exact (h2.trans (ASuf.one hm3 hr3 (eq_ascii hx (by decide)))).trans (parseRadixLiteral_asuf h)
      · nomatch h
  · exact (peekOrNull_same hp).trans (parseRadixLiteral_asuf h)

end InTok
end Parse
end Lexpr
