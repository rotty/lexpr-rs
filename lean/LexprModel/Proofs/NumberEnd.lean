/-
  C08 — the first half of "a token is read as a number only if the whole token is a numeric literal"
  (the literal itself is in `NumberWhole.lean`): whenever `parse_token` returns a number, for ANY
  input, option set and reader state, the reader has stopped at the end of input or in front of a
  delimiter (`C08_number_delimited`): the number parser's `expect_number_end`, or — on the
  leading-digit path — the end of the symbol that was checked as a whole.  So `1+`, `+5x`, `#x1Fz`
  are never a number followed by something else (they are errors, or — `1+` under leading-digit
  symbols — symbols).
-/
import LexprModel.Proofs.TokenCase
import LexprModel.Proofs.FrameTok
namespace Lexpr
namespace Parse
namespace C08

def EndsDelim (s : St) : Prop :=
  s.rd.rest = [] ∨ ∃ b bs, s.rd.rest = b :: bs ∧ isDelimiter b = true

theorem parseRadixToken_ends {cfg : Cfg} {fuel radix : Nat} {s s' : St} {n : Number}
    (h : parseRadixToken cfg fuel radix s = .ok n s') : EndsDelim s' := by
  obtain ⟨m, s1, _, h2⟩ := bind_ok h
  exact (expectNumberEnd_ok h2).2.2

theorem parseSymbolBytes_ends {sc name : List UInt8} {s s' : St}
    (h : parseSymbolBytes sc s = .ok name s') : EndsDelim s' := by
  unfold EndsDelim
  rw [(parseSymbolBytes_ok h).2]
  cases hd : s.rd.rest.drop (symLen s.rd.mode s.rd.rest) with
  | nil => exact .inl rfl
  | cons b bs =>
    exact .inr ⟨b, bs, rfl, term_delimiter b (symTerm_eq s.rd.mode b ▸ U8.symLen_drop _ _ hd)⟩

end C08

open C08

/-- **C08_number_delimited** — "a token is read as a number only if the whole token is a numeric
    literal": whenever `parse_token` returns a number (whatever the input, the options and the
    reader state), the reader is at the end of input or in front of a delimiter (ASCII
    whitespace or one of `|()[]";`). -/
theorem C08_number_delimited (cfg : Cfg) (fuel : Nat) (pk : UInt8) (s s' : St) (n : Number)
    (h : parseToken cfg fuel pk s = .ok (.number n) s') :
    s'.rd.rest = [] ∨ ∃ b bs, s'.rd.rest = b :: bs ∧ isDelimiter b = true := by
  cases parseToken_number h with
  | radix _ _ _ _ _ _ hn => exact parseRadixToken_ends hn
  | num _ _ _ _ _ hn => exact (parseNumToken_ok hn).2
  | whole _ _ _ hs _ => exact parseSymbolBytes_ends hs

/-- the hypothesis is satisfiable: `-5 x` -/
example : ∃ n s', parseToken (cfgOf Options.default) 5 45 (initSt .slice (asc "-5 x")) =
    .ok (.number n) s' := ⟨_, _, rfl⟩

end Parse
end Lexpr

#print axioms Lexpr.Parse.C08_number_delimited
