/-
  ReadsRel — the structural round trip, once: every trivia variant (`TV`) of the text printed
  under any printer options `p` for a value — the printed text itself is one — is read as one
  value related to the value printed, given a reading of the plain text of each leaf.
  Parameters are
    * the relation between the value printed and the value read back (`Structural`: read back as
      the folded value, or as a value that differs in float leaves only, …),
    * the hypothesis on the value (`Hyp`: any predicate that can be taken apart at pairs, vectors
      and sequences and gives a reading of each leaf).
  The clause of `ElemHead` on a leading dot is asked of the text of cars only (`ReadsW`).  Only
  byte vectors have variants at a leaf, and those are read as the byte vector under every option
  set (`ReadsW.variants`), so `Hyp` speaks of plain texts only.
  `reads_relT` is the one induction over a value on the reader's side.  `reads_rel` is its case
  of the printed text; `reads_textP` (`DialectStructRT.lean`), `reads_tv` (`TriviaRel.lean`), the
  image round trip (`ImageStruct.lean`, `Image.reparse_rel`) and the approximate one
  (`struct_rtA`, `FloatApproxStruct.lean`) are instances.
-/
import LexprModel.Proofs.TriviaBytes
namespace Lexpr
namespace Parse
namespace ListRT
open Print

mutual
/-- number of `enter`s pending at the deepest point while the text of `v` is read: one per list
    or vector, also for `()` — which is also how `Nil` is written with `NilSyntax::EmptyList` —
    not counting along the cdr chain -/
def nestingP (p : Print.Options) : Value → Nat
  | .cons a d => 1 + max (nestingP p a) (nestingTailP p d)
  | .vector xs => 1 + nestingSeqP p xs
  | .null => 1
  | .nil => if p.nil = .emptyList then 1 else 0
  | .bool _ => 0
  | .number _ => 0
  | .char _ => 0
  | .string _ => 0
  | .symbol _ => 0
  | .keyword _ => 0
  | .bytes _ => 0
def nestingTailP (p : Print.Options) : Value → Nat
  | .cons a d => max (nestingP p a) (nestingTailP p d)
  | .vector xs => 1 + nestingSeqP p xs
  | .null => 0
  | .nil => if p.nil = .emptyList then 1 else 0
  | .bool _ => 0
  | .number _ => 0
  | .char _ => 0
  | .string _ => 0
  | .symbol _ => 0
  | .keyword _ => 0
  | .bytes _ => 0
def nestingSeqP (p : Print.Options) : List Value → Nat
  | [] => 0
  | x :: xs => max (nestingP p x) (nestingSeqP p xs)
end

theorem nestingTailP_dotted (p : Print.Options) (d : Value) (h1 : d.isCons = false)
    (h3 : d ≠ .null) : nestingTailP p d = nestingP p d := by
  cases d <;> simp_all [Value.isCons, nestingP, nestingTailP]

/-- a relation between the value printed and the value read back that the constructions respect -/
structure Structural (R : Value → Value → Prop) (RS : List Value → List Value → Prop) : Prop where
  cons : ∀ {a a' d d'}, R a a' → R d d' → R (.cons a d) (.cons a' d')
  vector : ∀ {xs ws}, RS xs ws → R (.vector xs) (.vector ws)
  null : R .null .null
  nil : RS [] []
  seq : ∀ {x x' xs ws}, R x x' → RS xs ws → RS (x :: xs) (x' :: ws)

/-- a hypothesis on the value printed that can be taken apart along the value: the text of a car
    is an `ElemHead`, and a leaf comes with one value `w` that its text is read as in every
    follow context -/
structure Hyp (p : Print.Options) (cfg : Cfg) (ryu : Nat → List UInt8) (R : Value → Value → Prop)
    (P : Value → Prop) (PS : List Value → Prop) : Prop where
  cons : ∀ {a d}, P (.cons a d) → P a ∧ ElemHead (text p ryu a) ∧ P d
  vector : ∀ {xs}, P (.vector xs) → PS xs
  seq : ∀ {x xs}, PS (x :: xs) → P x ∧ PS xs
  leaf : ∀ {v}, v.isCons = false → v.isVector = false → v ≠ .null → P v →
    ∃ w, R v w ∧ ReadsW cfg false (atomTextP p ryu v) w (nestingP p v)

/-- a leaf whose plain text is read as `w` has every trivia variant read as `w`: only byte vectors
    have variants, these are read as the byte vector whatever the options, and the plain text is
    one of them -/
theorem ReadsW.variants {p : Print.Options} {cfg : Cfg} {ryu : Nat → List UInt8} {v w : Value}
    {n : Nat} (h1 : v.isCons = false) (h2 : v.isVector = false) (h3 : v ≠ .null)
    (h : ReadsW cfg false (atomTextP p ryu v) w n) (t : List UInt8) (ht : TV p ryu v t) :
    ReadsW cfg false t w n := by
  by_cases hb : ∃ b, v = .bytes b
  · obtain ⟨b, rfl⟩ := hb
    simp only [TV] at ht
    rcases bytesVar_runs p cfg ryu b with ⟨-, hv⟩ | ⟨-, hv⟩
    · rw [hv t ht]; exact h
    · -- the plain text is a variant, so it is read as `w` and as `.bytes b`
      let s0 : St := { initSt .slice (atomTextP p ryu (.bytes b)) with depth := n + 1 }
      have hs0 : s0.rd.rest = atomTextP p ryu (.bytes b) ++ [] := by simp [s0, initSt]
      obtain ⟨s1, e1, -⟩ := h.2 s0 [] (2 * s0.rd.rest.length + 3) (.inr (.inl rfl)) ⟨rfl, rfl⟩ hs0
        (Nat.le_refl _) (Nat.le_refl _)
      obtain ⟨s2, e2, -⟩ := hv _ (bytesVar_plain p ryu b) s0 [] (2 * s0.rd.rest.length + 3)
        ⟨rfl, rfl⟩ hs0 (by omega)
      have hw : w = .bytes b := by rw [e1] at e2; injection e2 with e2; injection e2 with e2
      subst hw
      exact ⟨(bytesVar_head p b t ht).first, fun s rest fuel _ hg hr hfu _ =>
        hv t ht s rest fuel hg hr (by omega)⟩
  · rw [tv_atom p ryu v h1 h2 h3 (fun b hv => hb ⟨b, hv⟩)] at ht
    subst ht; exact h

theorem elemHead_tv {p : Print.Options} {ryu : Nat → List UInt8} {v : Value} {t : List UInt8}
    (ht : TV p ryu v t) (h : ElemHead (text p ryu v)) : ElemHead t := by
  cases v with
  | cons a d =>
    simp only [TV] at ht; obtain ⟨w, ta, td, -, -, -, rfl⟩ := ht
    exact head_of_byte _ _ (by decide) (by decide) (by decide) (by decide) (by decide)
  | vector xs => simp only [TV] at ht; obtain ⟨ts, -, rfl⟩ := ht; exact vopen_head p _
  | null =>
    simp only [TV] at ht; obtain ⟨w, -, rfl⟩ := ht
    exact head_of_byte _ _ (by decide) (by decide) (by decide) (by decide) (by decide)
  | bytes b => simp only [TV] at ht; exact bytesVar_head p b t ht
  | _ => simp only [TV] at ht; subst ht; rwa [textP_atom p ryu _ rfl rfl] at h


structure ReadsAsT (p : Print.Options) (cfg : Cfg) (ryu : Nat → List UInt8) (v w : Value) : Prop where
  value : ∀ t, TV p ryu v t → ReadsW cfg (Concat.closes v) t w (nestingP p v)
  tail : ∀ t, TVTail p ryu v t → ReadsTail cfg t w (nestingTailP p v)

theorem reads_relT (p : Print.Options) (cfg : Cfg) (ryu : Nat → List UInt8)
    (hb : p.vector = .brackets → cfg.opts.brackets = .vector)
    {R : Value → Value → Prop} {RS : List Value → List Value → Prop} {P : Value → Prop}
    {PS : List Value → Prop} (hR : Structural R RS) (hP : Hyp p cfg ryu R P PS) :
    (∀ v, P v → ∃ w, R v w ∧ ReadsAsT p cfg ryu v w) ∧
    (∀ xs, PS xs → ∃ ws, RS xs ws ∧ ∀ first t, TVSeq p ryu first xs t →
      ReadsSeq cfg (vclose p) first t ws (nestingSeqP p xs)) := by
  refine value_induction2 ?_ ?_ ?_ ?_ ?_ ?_
  · intro a d ha hd h
    obtain ⟨h1, hh, h2⟩ := hP.cons h
    obtain ⟨a', ra, A⟩ := ha h1
    obtain ⟨d', rd, D⟩ := hd h2
    refine ⟨.cons a' d', hR.cons ra rd, fun t ht => ?_, fun t ht => ?_⟩
    · simp only [TV] at ht
      obtain ⟨w, ta, td, hw, hta, htd, rfl⟩ := ht
      simp only [nestingP]
      exact (Reads.cons hw ((A.value ta hta).strong (elemHead_tv hta hh)) (D.tail td htd)).weak
    · simp only [TVTail] at ht
      obtain ⟨w, ta, td, hw, hne, hta, htd, rfl⟩ := ht
      simp only [nestingTailP]
      exact ReadsTail.cons hw hne ((A.value ta hta).strong (elemHead_tv hta hh)) (D.tail td htd)
  · intro xs hs h
    obtain ⟨ws, rs, S⟩ := hs (hP.vector h)
    have hV : ∀ t, TV p ryu (.vector xs) t →
        Reads cfg true t (.vector ws) (nestingP p (.vector xs)) := by
      intro t ht
      simp only [TV] at ht
      obtain ⟨ts, hts, rfl⟩ := ht
      simp only [nestingP]
      exact Reads.vector p hb (S true ts hts)
    refine ⟨.vector ws, hR.vector rs, fun t ht => (hV t ht).weak, fun t ht => ?_⟩
    rw [tvTail_dotted p ryu _ rfl (by simp)] at ht
    obtain ⟨tx, htx, hs⟩ := ht
    rw [nestingTailP_dotted p _ rfl (by simp)]
    exact ReadsTail.dotted hs (hV tx htx)
  · intro _
    refine ⟨.null, hR.null, fun t ht => ?_, fun t ht => ?_⟩
    · simp only [TV] at ht
      obtain ⟨w, hw, rfl⟩ := ht
      simp only [nestingP]
      exact (Reads.null cfg hw).weak
    · simp only [TVTail] at ht; simp only [nestingTailP]
      exact ReadsTail.null cfg ht
  · intro v h1 h2 h3 h
    obtain ⟨w, r, W⟩ := hP.leaf h1 h2 h3 h
    refine ⟨w, r, fun t ht => ?_, fun t ht => ?_⟩
    · rw [closes_leaf v h1 h2 h3]; exact W.variants h1 h2 h3 t ht
    · rw [tvTail_dotted p ryu v h1 h3] at ht
      obtain ⟨tx, htx, hs⟩ := ht
      rw [nestingTailP_dotted p v h1 h3]
      exact ReadsTail.dottedW hs (W.variants h1 h2 h3 tx htx)
  · intro _
    exact ⟨[], hR.nil, fun first t ht => by
      simp only [TVSeq] at ht; simp only [nestingSeqP]
      exact ReadsSeq.nil cfg (vclose_cases p) first ht⟩
  · intro x xs hx hs h
    obtain ⟨h1, h2⟩ := hP.seq h
    obtain ⟨x', rx, X⟩ := hx h1
    obtain ⟨ws, rs, S⟩ := hs h2
    refine ⟨x' :: ws, hR.seq rx rs, fun first t ht => ?_⟩
    simp only [TVSeq] at ht
    obtain ⟨w, tx, ts, hw, hne, htx, hts, rfl⟩ := ht
    simp only [nestingSeqP]
    exact ReadsSeq.consW hw hne (X.value tx htx) (S false ts hts)

/-- the text of `v` is read as `w`: by `next_value` (whatever follows if the text closes itself)
    and, in tail position, by the list loop -/
structure ReadsAs (p : Print.Options) (cfg : Cfg) (ryu : Nat → List UInt8) (v w : Value) : Prop where
  value : ReadsW cfg (Concat.closes v) (text p ryu v) w (nestingP p v)
  tail : ReadsTail cfg (flatten (emitsTail p ryu v)) w (nestingTailP p v)

/-- the printed text itself is one of its variants -/
theorem reads_rel (p : Print.Options) (cfg : Cfg) (ryu : Nat → List UInt8)
    (hb : p.vector = .brackets → cfg.opts.brackets = .vector)
    {R : Value → Value → Prop} {RS : List Value → List Value → Prop} {P : Value → Prop}
    {PS : List Value → Prop} (hR : Structural R RS) (hP : Hyp p cfg ryu R P PS) :
    (∀ v, P v → ∃ w, R v w ∧ ReadsAs p cfg ryu v w) ∧
    (∀ xs, PS xs → ∃ ws, RS xs ws ∧ ∀ first,
      ReadsSeq cfg (vclose p) first (flatten (emitsSeq p ryu first xs)) ws (nestingSeqP p xs)) := by
  have H := reads_relT p cfg ryu hb hR hP
  refine ⟨fun v h => ?_, fun xs h => ?_⟩
  · obtain ⟨w, r, A⟩ := H.1 v h
    exact ⟨w, r, A.value _ (tv_plain p ryu v), A.tail _ (tvTail_plain p ryu v)⟩
  · obtain ⟨ws, r, S⟩ := H.2 xs h
    exact ⟨ws, r, fun first => S first _ (tvSeq_plain p ryu first xs)⟩

end ListRT
end Parse
end Lexpr
