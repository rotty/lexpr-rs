/-
  C11, re-parse clause — the two kinds of element that are not returned by a `next_datum` call of
  their own: a symbol that starts with a dot inside a list (`(a .b)`, read by `parse_list_meta`
  itself), and the head of a quote shorthand (exempt from the clause: its span covers just the
  shorthand characters).
-/
import LexprModel.Proofs.ReparseTop
import LexprModel.Proofs.TokYields
import LexprModel.Proofs.TokenRT
import LexprModel.Proofs.Primitives
namespace Lexpr
namespace Parse
namespace Reparse
open Progress Spans

/-! ### `parse_symbol_bytes` run forwards -/

theorem parseSymbolBytes_intro {scratch : List UInt8} {S : St} {name : List UInt8}
    (hname : name = scratch ++ S.rd.rest.take (symLen S.rd.mode S.rd.rest))
    (h46 : (name == [46]) = false) (hv : S.rd.mode = .str ∨ Utf8.valid name = true)
    (hf : S.rd.rest.drop (symLen S.rd.mode S.rd.rest) = [] → S.rd.faulty = false) :
    ∃ S', parseSymbolBytes scratch S = .ok name S' ∧
      S'.rd.rest = S.rd.rest.drop (symLen S.rd.mode S.rd.rest) := by
  rw [PrefixDet.parseSymbolBytes_eq, bind_ok_eq (getMode_eq S), bind_ok_eq (PrefixDet.scan_apply _ S)]
  have hpk : ∃ nxt Sc, peek ({ S with rd := S.rd.consume (symLen S.rd.mode S.rd.rest) } : St) =
      .ok nxt Sc ∧ Sc.rd.rest = S.rd.rest.drop (symLen S.rd.mode S.rd.rest) := by
    cases hb : ({ S with rd := S.rd.consume (symLen S.rd.mode S.rd.rest) } : St).rd.rest with
    | nil =>
      have hb' : S.rd.rest.drop (symLen S.rd.mode S.rd.rest) = [] := by
        rw [← Rd.consume_rest]; exact hb
      refine ⟨none, _, peek_end hb ?_, by rw [hb', hb]⟩
      show (S.rd.consume _).faulty = false
      rw [Rd.consume_faulty]; exact hf hb'
    | cons c t => exact ⟨some c, _, peek_cons hb, by rw [pk_rest, ← Rd.consume_rest]⟩
  obtain ⟨nxt, Sc, hp, hr⟩ := hpk
  rw [bind_ok_eq hp, ← hname]
  refine ⟨Sc, ?_, hr⟩
  rw [if_neg (by simp [h46])]
  rcases hv with hstr | hval
  · rw [if_pos (by simp [hstr])]; rfl
  · by_cases hstr : (S.rd.mode == Mode.str) = true
    · rw [if_pos hstr]; rfl
    · rw [if_neg hstr, if_pos hval]; rfl

theorem afterWs_symbolToken {cfg : Cfg} {F : Nat} {pk : UInt8} {S S2 : St} {name : List UInt8}
    (ht : parseToken cfg (S.rd.rest.length + 1) pk S = .ok (symbolToken cfg.opts name) S2) :
    afterWs cfg F pk S = .ok (some (symbolValue cfg.opts name)) S2 := by
  unfold afterWs
  have htf : tokenFuel S = .ok (S.rd.rest.length + 1) S := rfl
  rw [bind_ok_eq htf, bind_ok_eq ht]
  unfold symbolValue symbolToken
  split <;> rfl

/-- `parse_list_meta` at a dot that is not followed by a delimiter reads `.` and the symbol
    bytes after it; `next_value` started at the dot reads the same symbol and stops at the same
    place -/
theorem dotSymbol_run {cfg : Cfg} {F : Nat} {S1 S2 S3 S4 : St} {t : List UInt8} {nxt : UInt8}
    {name : List UInt8} (h1 : S1.rd.rest = 46 :: t) (hd : discard S1 = .ok () S2)
    (hp : peekOrNull S2 = .ok nxt S3) (hs : parseSymbolBytes [46] S3 = .ok name S4) :
    ∃ S4', nextValue cfg (F + 1) S1 = .ok (some (symbolValue cfg.opts name)) S4' ∧
      S4'.rd.rest = S4.rd.rest := by
  -- the state in which the symbol bytes are read on the datum side
  rw [discard_cons h1] at hd
  cases hd
  have hS3 : S3.rd.rest = t ∧ S3.rd.mode = S1.rd.mode ∧ S3.rd.faulty = S1.rd.faulty := by
    obtain ⟨-, p, rfl⟩ := peekOrNull_ok hp
    exact ⟨adv1_rest h1, Rd.consume_mode _ _, Rd.consume_faulty _ _⟩
  obtain ⟨hname, hrest4, -, h46, hval, hfl⟩ := parseSymbolBytes_result hs
  rw [hS3.1, hS3.2.1] at hname hrest4
  rw [hS3.2.1] at hval
  rw [hS3.2.2] at hfl
  -- the value side
  obtain ⟨S1a, hws, hr1a, hm1a, hf1a, _⟩ :=
    parseWhitespace_token (s := S1) (b := 46) (t := t) h1 (by decide) (by decide)
  have hsym : symLen S1a.rd.mode S1a.rd.rest = symLen S1.rd.mode t + 1 := by
    rw [hr1a, hm1a]
    have : symTerm S1.rd.mode 46 = false := symTerm_of_ext (by decide)
    simp [symLen, this]
  obtain ⟨S4', hpsb, hr4'⟩ := parseSymbolBytes_intro (scratch := []) (S := S1a) (name := name)
    (by rw [hsym, hr1a, hname]; rfl) h46 (by rw [hm1a]; exact hval)
    (by
      rw [hsym, hr1a, List.drop_succ_cons, hf1a]
      intro h0
      exact hfl (by rw [hrest4]; exact h0))
  refine ⟨S4', ?_, by rw [hr4', hsym, hr1a, List.drop_succ_cons, hrest4]⟩
  rw [nextValue_succ, bind_ok_eq hws]
  refine afterWs_symbolToken ?_
  rw [parseToken_46, bind_ok_eq hpsb]
  rfl

/-! ### the token of a quote shorthand covers exactly the shorthand characters -/

/-- only `'`, `` ` `` and `,` select an arm of `parse_token` that can return a quotation mark -/
theorem quoteByte : ∀ b : UInt8, (tokClass b).yields (.quotation .quote) = true →
    b = 39 ∨ b = 96 ∨ b = 44 := by
  apply byte_forall; decide +kernel

theorem parseToken_quotation_inv {cfg : Cfg} {fuel : Nat} {pk : UInt8} {s s2 : St} {q : Quote}
    (h : parseToken cfg fuel pk s = .ok (.quotation q) s2) (hpk : s.rd.rest.head? = some pk) :
    s.rd.rest = q.shorthand ++ s2.rd.rest := by
  cases hr : s.rd.rest with
  | nil => rw [hr] at hpk; cases hpk
  | cons c t =>
    rw [hr] at hpk
    obtain rfl : c = pk := by simpa using hpk
    have hy := C08.parseToken_yields h
    rcases quoteByte c hy with rfl | rfl | rfl
    · rw [parseToken_39, bind_ok_eq (discard_cons hr)] at h
      cases h
      rw [adv1_rest hr]; rfl
    · rw [parseToken_96, bind_ok_eq (discard_cons hr)] at h
      cases h
      rw [adv1_rest hr]; rfl
    · rw [parseToken_44, bind_ok_eq (discard_cons hr)] at h
      obtain ⟨c2, S3, hp, h⟩ := bind_ok h
      obtain ⟨hr3, hc2⟩ := (peekOrNull_tri (adv1 s)).ok hp
      rw [adv1_rest hr] at hr3 hc2
      by_cases h64 : (c2 == 64) = true
      · rw [if_pos h64] at h
        obtain ⟨_, S4, hd, h⟩ := bind_ok h
        cases h
        cases ht : t with
        | nil =>
          rw [ht] at hc2
          rw [hc2] at h64
          exact absurd h64 (by decide)
        | cons c3 t3 =>
          rw [ht] at hc2 hr3
          have h3 : c3 = 64 := by
            simp only [List.head?_cons, Option.getD_some] at hc2
            rw [hc2] at h64
            exact eq_of_beq h64
          subst h3
          rw [discard_cons hr3] at hd
          cases hd
          rw [adv1_rest hr3]; rfl
      · rw [if_neg h64] at h
        cases h
        rw [hr3]; rfl

/-- the head of a quote shorthand: the symbol `quote` / `quasiquote` / `unquote` /
    `unquote-splicing`, whose span covers exactly the shorthand characters `'`, `` ` ``, `,`, `,@` -/
def QuoteHead (input : List UInt8) (v : Value) (sp : Span) : Prop :=
  ∃ (q : Quote) (p : List UInt8), (p ++ q.shorthand) <+: input ∧
    sp = ⟨posOf p, posOf (p ++ q.shorthand)⟩ ∧ v = .symbol q.name

theorem quoteHead_of_token {cfg : Cfg} {fuel : Nat} {pk : UInt8} {s s2 : St} {q : Quote}
    {input : List UInt8} (h : parseToken cfg fuel pk s = .ok (.quotation q) s2)
    (hpk : s.rd.rest.head? = some pk) (hat : At input s) (hat2 : At input s2) :
    QuoteHead input (.symbol q.name) ⟨s.rd.position, s2.rd.position⟩ := by
  have hsh := parseToken_quotation_inv h hpk
  obtain ⟨pre, hin, hpos⟩ := hat
  obtain ⟨pre2, hin2, hpos2⟩ := hat2
  have hp2 : pre2 = pre ++ q.shorthand := by
    have : pre2 ++ s2.rd.rest = (pre ++ q.shorthand) ++ s2.rd.rest := by
      rw [hin2, ← hin, hsh, List.append_assoc]
    exact List.append_cancel_right this
  refine ⟨q, pre, ⟨s2.rd.rest, by rw [← hp2, hin2]⟩, by rw [hpos, hpos2, hp2], rfl⟩

end Reparse
end Parse
end Lexpr
