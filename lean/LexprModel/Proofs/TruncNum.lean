/-
  Truncation (C19): the lexer, part 2 (numeric literals).

  Every `NumberOutOfRange` is an exception here (`hB`): a literal whose integer part has more than
  308 digits is out of range when the input ends, but a negative exponent may follow
  (`C19_truncation_counterexample_long_integer`, TruncExamples.lean).
-/
import LexprModel.Proofs.TruncLex
import LexprModel.Proofs.Numbers
namespace Lexpr
namespace Parse
namespace Trunc
open PrefixDet (Sim ext Scanner digitsLen scan ext_rest ext_consume)

section num
variable {X : Err → Prop} {s : St} {q : List UInt8}

theorem f64FromParts_t {cfg : Cfg} {pos : Bool} {sig : Nat} {e : Int} :
    TS X QF (f64FromParts cfg pos sig e) (f64FromParts cfg pos sig e) s q := by
  unfold f64FromParts
  ts (by assumption) []

theorem f64FromParts_eo (hB : ∀ l k, X (.syntax .numberOutOfRange l k)) {cfg : Cfg} {pos : Bool}
    {sig : Nat} {e : Int} (h0 : s.rd.rest = []) :
    EO X (f64FromParts cfg pos sig e) s (fun _ _ => True) := by
  unfold f64FromParts
  split
  · split
    · exact EO.pure h0 trivial
    · exact EO.errX hB
  · dsimp only
    split
    · exact EO.errX hB
    · exact EO.pure h0 trivial

theorem skipDigits_t (hq : q ≠ []) : TS X QT skipDigits skipDigits s q := by
  rw [PrefixDet.skipDigits_eq]
  refine TS.bind (scan_t PrefixDet.digits_scanner) (fun _ _ _ _ => ?_) (fun _ _ _ h0 _ => ?_)
  · ts hq []
    te []
  · te []

theorem skipDigits_eo (h0 : s.rd.rest = []) : EO X skipDigits s (fun _ _ => True) := by
  rw [PrefixDet.skipDigits_eq]
  refine EO.bind_scan PrefixDet.digits_scanner h0 (fun s1 h1 _ _ _ => ?_)
  refine EO.bind_peek h1 ?_
  exact EO.pure h1 trivial

theorem parseExponentOverflow_t (hq : q ≠ []) {pos : Bool} {sig : Nat} {posExp : Bool} :
    TS X QT (parseExponentOverflow pos sig posExp) (parseExponentOverflow pos sig posExp) s q := by
  unfold parseExponentOverflow
  ts hq [skipDigits_t hq]
  te []

theorem exponentLoop_t (hq : q ≠ []) (hB : ∀ l k, X (.syntax .numberOutOfRange l k)) {cfg : Cfg}
    {pos : Bool} {sig : Nat} {startExp : Int} {posExp : Bool} {f f' exp : Nat} (h : f ≤ f') :
    TS X QT (exponentLoop cfg pos sig startExp posExp f exp)
      (exponentLoop cfg pos sig startExp posExp f' exp) s q := by
  induction f generalizing f' exp s with
  | zero => exact TS.outOfFuel
  | succ f ih =>
    cases f' with
    | zero => exact absurd h (Nat.not_succ_le_zero f)
    | succ g =>
      unfold exponentLoop
      ts hq [f64FromParts_t, parseExponentOverflow_t hq, ih (Nat.le_of_succ_le_succ h)]
      te [f64FromParts_eo hB ‹_›]

theorem parseExponent_t (hq : q ≠ []) (hB : ∀ l k, X (.syntax .numberOutOfRange l k)) {cfg : Cfg}
    {f f' : Nat} {pos : Bool} {sig : Nat} {startExp : Int} (h : f ≤ f') :
    TS X QT (parseExponent cfg f pos sig startExp) (parseExponent cfg f' pos sig startExp) s q := by
  unfold parseExponent
  simp only [ite_bind, bind_assoc]
  ts hq [exponentLoop_t hq hB h]
  te []

theorem decimalLoop_t (hq : q ≠ []) {f f' sig : Nat} {exp : Int} {zeros : Nat} {any : Bool}
    (h : f ≤ f') : TS X QT (decimalLoop f sig exp zeros any) (decimalLoop f' sig exp zeros any) s q := by
  induction f generalizing f' sig exp zeros any s with
  | zero => exact TS.outOfFuel
  | succ f ih =>
    cases f' with
    | zero => exact absurd h (Nat.not_succ_le_zero f)
    | succ g =>
      unfold decimalLoop
      ts hq [skipDigits_t hq, ih (Nat.le_of_succ_le_succ h)]
      te []

theorem parseDecimal_t (hq : q ≠ []) (hB : ∀ l k, X (.syntax .numberOutOfRange l k)) {cfg : Cfg}
    {f f' : Nat} {pos : Bool} {sig : Nat} {exp : Int} (h : f ≤ f') :
    TS X QT (parseDecimal cfg f pos sig exp) (parseDecimal cfg f' pos sig exp) s q := by
  unfold parseDecimal
  ts hq [f64FromParts_t, decimalLoop_t hq h, parseExponent_t hq hB h]
  te [f64FromParts_eo hB ‹_›]

theorem parseLongInteger_t (hq : q ≠ []) (hB : ∀ l k, X (.syntax .numberOutOfRange l k))
    {cfg : Cfg} {radix : Nat} {pos : Bool} {sig f f' exp : Nat} (h : f ≤ f') :
    TS X QT (parseLongInteger cfg radix pos sig f exp) (parseLongInteger cfg radix pos sig f' exp)
      s q := by
  induction f generalizing f' exp s with
  | zero => exact TS.outOfFuel
  | succ f ih =>
    cases f' with
    | zero => exact absurd h (Nat.not_succ_le_zero f)
    | succ g =>
      unfold parseLongInteger
      generalize (2 : Nat) ^ 1024 = big
      ts hq [f64FromParts_t, parseDecimal_t hq hB h, parseExponent_t hq hB h,
        ih (Nat.le_of_succ_le_succ h)]
      simp only [digitVal_zero]
      te [f64FromParts_eo hB ‹_›]

/-- the number is not a byte (`as_u64` fails or exceeds 255) -/
def nonOctet (n : Number) : Prop := ∀ v, n.asU64 = some v → 255 < v

/-- the diverged result of the integer scanners: if the truncated literal is not a byte, the
    longer one is not a byte either -/
def NumQ : Number → St → Res Number → Prop := fun n _ r' =>
  ∀ n' s', r' = .ok n' s' → nonOctet n → nonOctet n'

theorem negResult_none {sig : Nat} (h1 : 1 ≤ sig) (hs : sig ≤ u64Max) :
    (if wrappingNeg (asI64 sig) > 0 then Number.ofF64 (F64.neg (F64.ofNat sig))
      else Number.ofSigned (wrappingNeg (asI64 sig))).asU64 = none := by
  split
  · rfl
  · rename_i hneg
    unfold Number.ofSigned
    split
    · exfalso
      rename_i h0
      simp only [u64Max] at hs
      simp only [wrappingNeg, asI64, i64Min] at hneg h0
      split at hneg <;> split at hneg <;> simp_all <;> omega
    · rfl

/-- The tail of a literal with integer digits `sig`: a result that fits `u64` is `sig` itself (a
    fraction or an exponent makes it a float), and a negative literal other than `-0` never fits. -/
theorem parseNumTail_asU64 {cfg : Cfg} {fuel radix : Nat} {pos : Bool} {sig : Nat} {x x' : St}
    {n : Number} (h : parseNumTail cfg fuel radix pos sig x = .ok n x') (hs : sig ≤ u64Max) :
    (pos = true → ∀ v, n.asU64 = some v → sig = v) ∧ (pos = false → 1 ≤ sig → n.asU64 = none) := by
  unfold parseNumTail at h
  obtain ⟨c, s1, _, h⟩ := bind_ok h
  rcases ite_ok h with ⟨_, h⟩ | ⟨_, h⟩
  · rcases ite_ok h with ⟨_, h⟩ | ⟨_, h⟩
    · cases h
    · obtain ⟨f, s2, _, h⟩ := bind_ok h
      obtain ⟨rfl, _⟩ := pure_ok h
      exact ⟨fun _ v hv => (by cases hv), fun _ _ => rfl⟩
  rcases ite_ok h with ⟨_, h⟩ | ⟨_, h⟩
  · rcases ite_ok h with ⟨_, h⟩ | ⟨_, h⟩
    · cases h
    · obtain ⟨f, s2, _, h⟩ := bind_ok h
      obtain ⟨rfl, _⟩ := pure_ok h
      exact ⟨fun _ v hv => (by cases hv), fun _ _ => rfl⟩
  rcases ite_ok h with ⟨hp, h⟩ | ⟨hp, h⟩
  · obtain ⟨rfl, _⟩ := pure_ok h
    exact ⟨fun _ v hv => (by cases hv; rfl), fun hp' => (by rw [hp'] at hp; cases hp)⟩
  · dsimp only at h
    refine ⟨fun hp' => absurd hp' hp, fun _ h1 => ?_⟩
    have := negResult_none h1 hs
    rcases ite_ok h with ⟨hc, h⟩ | ⟨hc, h⟩
    · obtain ⟨rfl, _⟩ := pure_ok h; rfl
    · obtain ⟨rfl, _⟩ := pure_ok h
      rw [if_neg hc] at this; exact this

/-- More digits only make the number larger: a result of the digit loop that fits `u64` is at
    least the value `res` read so far, because each step replaces `res` by `res * radix + d`. -/
theorem numLoop_asU64 {cfg : Cfg} {radix : Nat} {pos : Bool} :
    ∀ (f res : Nat) {x x' : St} {n : Number}, numLoop cfg radix pos f res x = .ok n x' →
      res ≤ u64Max →
      (pos = true → ∀ v, n.asU64 = some v → res ≤ v) ∧ (pos = false → 1 ≤ res → n.asU64 = none) := by
  intro f
  induction f with
  | zero => intro res x x' n h; cases h
  | succ f ih =>
    intro res x x' n h hres
    unfold numLoop at h
    obtain ⟨c, s1, _, h⟩ := bind_ok h
    cases hd : digitVal radix c with
    | none =>
      rw [hd] at h
      have := parseNumTail_asU64 h hres
      exact ⟨fun hp v hv => Nat.le_of_eq (this.1 hp v hv), this.2⟩
    | some d =>
      rw [hd] at h
      dsimp only at h
      rcases ite_ok h with ⟨_, h⟩ | ⟨hlt, h⟩
      · cases h
      · obtain ⟨_, s2, _, h⟩ := bind_ok h
        rcases ite_ok h with ⟨_, h⟩ | ⟨hov, h⟩
        · obtain ⟨g, s3, _, h⟩ := bind_ok h
          obtain ⟨rfl, _⟩ := pure_ok h
          exact ⟨fun _ v hv => (by cases hv), fun _ _ => rfl⟩
        · have hr : 0 < radix := by omega
          have hov' : overflow res radix d u64Max = false := by simpa using hov
          have hle := (Numbers.overflow_false_iff hr (by omega)).mp hov'
          have hge : res ≤ res * radix + d :=
            Nat.le_trans (Nat.le_mul_of_pos_right res hr) (Nat.le_add_right _ _)
          have := ih _ h hle
          exact ⟨fun hp v hv => Nat.le_trans hge (this.1 hp v hv), fun hp h1 => this.2 hp (by omega)⟩

/-- the result of the scanners when the input ends after the digits read so far -/
theorem numTail_eof_q {pos : Bool} {sig : Nat} {r' : Res Number}
    (hs : sig ≤ u64Max)
    (hr : ∀ n' s', r' = .ok n' s' →
      (pos = true → ∀ v, n'.asU64 = some v → sig ≤ v) ∧ (pos = false → 1 ≤ sig → n'.asU64 = none))
    (h0 : s.rd.rest = []) :
    TE X NumQ (if pos = true then pure (Number.ofUnsigned sig)
      else
        let neg := wrappingNeg (asI64 sig)
        if neg > 0 then pure (Number.ofF64 (F64.neg (F64.ofNat sig)))
        else pure (Number.ofSigned neg)) r' s := by
  refine TE.ite (fun hp => TE.pure h0 ?_) (fun hp => ?_)
  · intro n' s' hn' hno v hv
    have := (hr n' s' hn').1 hp v hv
    have := hno sig rfl
    omega
  · have hq' : ∀ n : Number, (1 ≤ sig → n.asU64 = none) →
        (sig = 0 → n = Number.pos 0) → NumQ n s r' := by
      intro n hn1 hn0 n' s' hn' hno v hv
      rcases Nat.eq_zero_or_pos sig with h0' | h1
      · have := hno 0 (by rw [hn0 h0']; rfl)
        omega
      · have hp' : pos = false := by simpa using hp
        rw [(hr n' s' hn').2 hp' h1] at hv; cases hv
    refine TE.ite (fun hc => TE.pure h0 (hq' _ (fun _ => rfl) (fun hz => ?_)))
      (fun hc => TE.pure h0 (hq' _ (fun h1 => ?_) (fun hz => ?_)))
    · subst hz; simp [wrappingNeg, asI64, i64Min] at hc
    · have := negResult_none h1 hs
      rw [if_neg hc] at this; exact this
    · subst hz; simp [wrappingNeg, asI64, i64Min, Number.ofSigned]

theorem numQ_flt (b : Nat) (s1 : St) (r : Res Nat) :
    NumQ (Number.ofF64 b) s1 (rbind r fun f => pure (Number.ofF64 f)) := by
  intro n' s' hn' _ v hv
  cases r with
  | ok a x => cases hn'; cases hv
  | err e x => cases hn'
  | panic p => cases hn'
  | fuel => cases hn'

theorem parseNumTail_t (hq : q ≠ []) (hB : ∀ l k, X (.syntax .numberOutOfRange l k)) {cfg : Cfg}
    {f f' radix : Nat} {pos : Bool} {sig : Nat} (h : f ≤ f') (hs : sig ≤ u64Max) :
    TS X NumQ (parseNumTail cfg f radix pos sig) (parseNumTail cfg f' radix pos sig) s q := by
  unfold parseNumTail
  refine TS.bind_peekOrNull hq (fun c s1 _ => ?_) (fun h0 => ?_)
  · refine TS.ite (fun _ => TS.ite (fun _ => TS.peekErr) (fun _ => ?_)) (fun _ => TS.ite
      (fun _ => TS.ite (fun _ => TS.peekErr) (fun _ => ?_)) (fun _ => ?_))
    · refine TS.bind (parseDecimal_t hq hB h) (fun _ _ _ _ => TS.pure) (fun b s2 _ h0 _ => ?_)
      exact TE.pure h0 (numQ_flt _ _ _)
    · refine TS.bind (parseExponent_t hq hB h) (fun _ _ _ _ => TS.pure) (fun b s2 _ h0 _ => ?_)
      exact TE.pure h0 (numQ_flt _ _ _)
    · ts hq []
  · refine TE.ite_neg (by decide) (TE.ite_neg (by decide) ?_)
    refine numTail_eof_q hs (fun n' s' hn' => ?_) h0
    have := parseNumTail_asU64 (cfg := cfg) (fuel := f') (radix := radix) (pos := pos) (sig := sig)
      (x := ext q s) (by unfold parseNumTail; exact hn') hs
    exact ⟨fun hp v hv => Nat.le_of_eq (this.1 hp v hv), this.2⟩

theorem numLoop_t (hq : q ≠ []) (hB : ∀ l k, X (.syntax .numberOutOfRange l k)) {cfg : Cfg}
    {radix : Nat} {pos : Bool} {f f' res : Nat} (h : f ≤ f') (hs : res ≤ u64Max) :
    TS X NumQ (numLoop cfg radix pos f res) (numLoop cfg radix pos f' res) s q := by
  induction f generalizing f' res s with
  | zero => exact TS.outOfFuel
  | succ f ih =>
    obtain ⟨g, rfl⟩ : ∃ g, f' = g + 1 := ⟨f' - 1, by omega⟩
    unfold numLoop
    refine TS.bind_peekOrNull hq (fun c s1 _ => ?_) (fun h0 => ?_)
    · cases hd : digitVal radix c with
      | none => exact parseNumTail_t hq hB (by omega) hs
      | some d =>
        dsimp only
        refine TS.ite (fun _ => TS.peekErr) (fun hlt => ?_)
        refine TS.bindF discard_t (fun _ s2 _ _ => ?_)
        refine TS.ite (fun _ => ?_) (fun hov => ?_)
        · refine TS.bind (parseLongInteger_t hq hB (by omega)) (fun _ _ _ _ => TS.pure)
            (fun b s3 _ h0 _ => TE.pure h0 (numQ_flt _ _ _))
        · have hr : 0 < radix := by omega
          have hov' : overflow res radix d u64Max = false := by simpa using hov
          exact ih (by omega) ((Numbers.overflow_false_iff hr (by omega)).mp hov')
    · simp only [digitVal_zero]
      unfold parseNumTail
      refine TE.bind_peekOrNull h0 (TE.ite_neg (by decide) (TE.ite_neg (by decide) ?_))
      refine numTail_eof_q hs (fun n' s' hn' => ?_) h0
      exact numLoop_asU64 (cfg := cfg) (radix := radix) (pos := pos) (g + 1) res (x := ext q s)
        (by unfold numLoop; exact hn') hs

theorem digitVal_le {radix : Nat} {c : UInt8} {d : Nat} (h : digitVal radix c = some d) :
    d ≤ u64Max :=
  Nat.le_of_lt (Nat.lt_of_lt_of_le (digitVal_lt h) (by decide))

theorem parseNumLiteral_t (hq : q ≠ []) (hB : ∀ l k, X (.syntax .numberOutOfRange l k)) {cfg : Cfg}
    {f f' radix : Nat} {pos : Bool} (h : f ≤ f') :
    TS X NumQ (parseNumLiteral cfg f radix pos) (parseNumLiteral cfg f' radix pos) s q := by
  unfold parseNumLiteral
  refine TS.bind_next hq (fun c s1 _ => ?_) (fun h0 => ?_)
  · dsimp only
    cases hd : digitVal radix c with
    | none => exact TS.peekErr
    | some d =>
      dsimp only
      exact TS.ite (fun _ => TS.peekErr) (fun _ => numLoop_t hq hB h (digitVal_le hd))
  · te []

theorem parseNumLiteral_eo {cfg : Cfg} {f radix : Nat} {pos : Bool} (h0 : s.rd.rest = []) :
    EO X (parseNumLiteral cfg f radix pos) s (fun _ _ => False) := by
  unfold parseNumLiteral
  refine EO.bind_next h0 ?_
  exact EO.peekErrSoft (by decide)

theorem parseRadixLiteral_t (hq : q ≠ []) (hB : ∀ l k, X (.syntax .numberOutOfRange l k))
    {cfg : Cfg} {f f' radix : Nat} (h : f ≤ f') :
    TS X NumQ (parseRadixLiteral cfg f radix) (parseRadixLiteral cfg f' radix) s q := by
  unfold parseRadixLiteral
  ts hq [parseNumLiteral_t hq hB h]
  te [parseNumLiteral_eo ‹_›]

theorem parseRadixLiteral_eo {cfg : Cfg} {f radix : Nat} (h0 : s.rd.rest = []) :
    EO X (parseRadixLiteral cfg f radix) s (fun _ _ => False) := by
  unfold parseRadixLiteral
  refine EO.bind_peekOrNull h0 ?_
  rw [if_neg (by decide), if_neg (by decide)]
  exact parseNumLiteral_eo h0

/-- the diverged result of `expect_number_end`: the number itself, on both sides -/
def QSame (n : Number) : Number → St → Res Number → Prop := fun a _ r' =>
  a = n ∧ ∀ a' s', r' = .ok a' s' → a' = n

theorem expectNumberEnd_ok {n a : Number} {x x' : St} (h : expectNumberEnd n x = .ok a x') :
    a = n := (expectNumberEnd_inv h).1

theorem expectNumberEnd_t (hq : q ≠ []) {n : Number} :
    TS X (QSame n) (expectNumberEnd n) (expectNumberEnd n) s q := by
  unfold expectNumberEnd
  ts hq []
  refine TE.pure ‹_› ⟨rfl, fun a' s' hr => ?_⟩
  exact expectNumberEnd_ok (n := n) (x := ext q s) (by unfold expectNumberEnd; exact hr)

theorem numQ_expectEnd {n : Number} {s1 : St} {r' : Res Number} (hq1 : NumQ n s1 r') :
    NumQ n s1 (rbind r' fun n => expectNumberEnd n) := by
  intro n' s' hn' hno
  cases r' with
  | ok a x =>
    simp only [rbind] at hn'
    rw [expectNumberEnd_ok hn']
    exact hq1 a x rfl hno
  | err e x => cases hn'
  | panic p => cases hn'
  | fuel => cases hn'

theorem TS.bind_expectNumberEnd (hq : q ≠ []) {m m' : P Number}
    {Q1 : Number → St → Res Number → Prop} (hm : TS X Q1 m m' s q) :
    TS X QT (m >>= expectNumberEnd) (m' >>= expectNumberEnd) s q := by
  refine TS.bind hm (fun n s1 _ _ => (expectNumberEnd_t hq).toQT) (fun n s1 _ h0 _ => ?_)
  unfold expectNumberEnd
  te []

theorem parseNumToken_t (hq : q ≠ []) (hB : ∀ l k, X (.syntax .numberOutOfRange l k)) {cfg : Cfg}
    {f f' : Nat} {pos : Bool} (h : f ≤ f') :
    TS X QT (parseNumToken cfg f pos) (parseNumToken cfg f' pos) s q :=
  TS.bind_expectNumberEnd hq (parseNumLiteral_t hq hB h)

theorem parseRadixToken_t (hq : q ≠ []) (hB : ∀ l k, X (.syntax .numberOutOfRange l k))
    {cfg : Cfg} {f f' radix : Nat} (h : f ≤ f') :
    TS X QT (parseRadixToken cfg f radix) (parseRadixToken cfg f' radix) s q :=
  TS.bind_expectNumberEnd hq (parseRadixLiteral_t hq hB h)

theorem parseNumber_t (hq : q ≠ []) (hB : ∀ l k, X (.syntax .numberOutOfRange l k)) {cfg : Cfg}
    {f f' : Nat} (h : f ≤ f') : TS X NumQ (parseNumber cfg f) (parseNumber cfg f') s q := by
  unfold parseNumber
  ts hq [parseRadixLiteral_t hq hB h]
  te [parseRadixLiteral_eo ‹_›]

end num
end Trunc
end Parse
end Lexpr
