/-
  What holds of everything the printer emits: `emits_forall`.  The walk over `emits` / `emitsTail` /
  `emitsSeq` (a value, the rest of a cdr chain, the elements of a vector) is `value_induction`; a
  property of single emissions has to be checked on the seven delimiters and on what a leaf emits.
-/
import LexprModel.Print
import LexprModel.Proofs.ReadsLeaves
namespace Lexpr
namespace Print
open Parse.ListRT FullRT

theorem emits_leaf (o : Options) (ryu : Nat → List UInt8) {v : Value} (hc : v.isCons = false)
    (hv : v.isVector = false) : emits o ryu v = atomEmits o ryu v := by
  cases v with
  | cons _ _ => cases hc
  | vector _ => cases hv
  | _ => rfl

/-- a tail that is neither a pair nor `()` is printed as a value after the dot (`print.rs` calls
    `self.print(pair.cdr())`), a vector included -/
theorem emitsTail_dotted (o : Options) (ryu : Nat → List UInt8) (d : Value) (h1 : d.isCons = false)
    (h2 : d ≠ .null) :
    emitsTail o ryu d = [.all (asc " "), .all (asc "."), .all (asc " ")] ++ emits o ryu d := by
  cases d with
  | cons _ _ => cases h1
  | null => exact (h2 rfl).elim
  | _ => rfl

def delims (o : Options) : List Emit :=
  [.all (asc "("), .all (asc ")"), .all (asc " "), .all (asc "."), .all (vecOpen o),
   .all (vecClose o), .all (asc "()")]

theorem emits_forall (o : Options) (ryu : Nat → List UInt8) (Q : Emit → Prop) (L : Value → Prop)
    (hd : ∀ e ∈ delims o, Q e)
    (hl : ∀ l, IsLeaf l → L l → ∀ e ∈ atomEmits o ryu l, Q e) :
    (∀ v, AllLeaves L v → ∀ e ∈ emits o ryu v, Q e) ∧
    (∀ v, AllLeaves L v → ∀ e ∈ emitsTail o ryu v, Q e) ∧
    (∀ xs, AllLeavesSeq L xs → ∀ first, ∀ e ∈ emitsSeq o ryu first xs, Q e) := by
  simp only [delims, List.forall_mem_cons] at hd
  obtain ⟨po, pc, sp, dt, vo, vc, nl, -⟩ := hd
  have one {e : Emit} (h : Q e) : ∀ x ∈ [e], Q x := List.forall_mem_cons.2 ⟨h, nofun⟩
  refine value_induction ?_ ?_ ?_ ?_ ?_ ?_ ?_ ?_ ?_
  · intro a d ha hd h; simp only [AllLeaves] at h; rw [emits]
    exact List.forall_mem_cons.2 ⟨po, List.forall_mem_append.2
      ⟨List.forall_mem_append.2 ⟨ha h.1, hd h.2⟩, one pc⟩⟩
  · intro xs hs h; simp only [AllLeaves] at h; rw [emits]
    exact List.forall_mem_cons.2 ⟨vo, List.forall_mem_append.2 ⟨hs h true, one vc⟩⟩
  · intro _; exact one nl
  · intro v h1 h2 h3 h; rw [emits_leaf o ryu h1 h2]
    exact hl v ⟨h1, h2, h3⟩ ((allLeaves_leaf L v h1 h2 h3).1 h)
  · intro a d ha hd h; simp only [AllLeaves] at h; rw [emitsTail]
    exact List.forall_mem_cons.2 ⟨sp, List.forall_mem_append.2 ⟨ha h.1, hd h.2⟩⟩
  · intro _; rw [emitsTail]; exact nofun
  · intro d h1 h3 hm h; rw [emitsTail_dotted o ryu d h1 h3]
    exact List.forall_mem_append.2
      ⟨List.forall_mem_cons.2 ⟨sp, List.forall_mem_cons.2 ⟨dt, one sp⟩⟩, hm h⟩
  · intro _ b; rw [emitsSeq]; exact nofun
  · intro x xs hx hs h b; simp only [AllLeavesSeq] at h
    cases b <;> rw [emitsSeq]
    · exact List.forall_mem_cons.2 ⟨sp, List.forall_mem_append.2 ⟨hx h.1, hs h.2 false⟩⟩
    · exact List.forall_mem_append.2 ⟨hx h.1, hs h.2 false⟩

theorem allLeaves_true : (∀ v, AllLeaves (fun _ => True) v) ∧ ∀ xs, AllLeavesSeq (fun _ => True) xs := by
  refine value_induction2 ?_ ?_ ?_ ?_ ?_ ?_
  · intro a d ha hd; simp only [AllLeaves]; exact ⟨ha, hd⟩
  · intro xs hs; simp only [AllLeaves]; exact hs
  · simp only [AllLeaves]
  · intro v h1 h2 h3; exact (allLeaves_leaf _ v h1 h2 h3).2 trivial
  · simp only [AllLeavesSeq]
  · intro x xs hx hs; simp only [AllLeavesSeq]; exact ⟨hx, hs⟩

end Print
end Lexpr
