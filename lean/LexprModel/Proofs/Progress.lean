/-
  Progress, termination and sufficiency of fuel.

  Every model function only ever consumes input.  `Spec m s s0 ko ke F` says of running `m` in
  state `s` (of a call that started in `s0`):
    * an `ok a s'` result has consumed at least `ko a` bytes counted from `s0`,
    * an `err e s'` result has consumed at least `ke e` bytes, and `e = io` needs a faulty source,
    * in both cases the unread input of `s'` is a suffix of that of `s0`, and the `faulty` flag
      and the mode are unchanged,
    * a `fuel` result is possible only if `F` holds (`F` is `fuel ≤ remaining length` for the
      scanners, `fuel ≤ 2 * remaining length (+ 1)` for the recursive parsers).
  For every function it is read off the function's statement in RunLexer.lean / RunParser.lean
  (`Run.spec`); the walk is there, not here.  `Spec.rawErr`, `Spec.outOfFuel`, `Spec.errAt_bind`,
  `Spec.weaken`, `consumeN_spec` say what `Spec` is on the primitives and how it weakens.  The main
  theorems are at the end of the file.
-/
import LexprModel.Proofs.StepOp
import LexprModel.Proofs.RunParser
namespace Lexpr
namespace Parse
namespace Progress

/-- `s'` is reachable from `s0` by consuming at least `k` bytes. -/
structure Ext (k : Nat) (s0 s' : St) : Prop where
  suf : s'.rd.rest <:+ s0.rd.rest
  len : s'.rd.rest.length + k ≤ s0.rd.rest.length
  faulty : s'.rd.faulty = s0.rd.faulty
  mode : s'.rd.mode = s0.rd.mode

theorem Ext.mono {a b : Nat} {s0 s1 : St} (h : Ext a s0 s1) (hb : b ≤ a) : Ext b s0 s1 :=
  ⟨h.suf, by have := h.len; omega, h.faulty, h.mode⟩

theorem _root_.Lexpr.Parse.At0.ext {k : Nat} {s0 s : St} (h : At0 k s0 s) : Ext k s0 s :=
  ⟨h.adv.suffix, h.len, h.adv.faulty, h.adv.mode⟩

/-- The standard error post-condition: at least `k` bytes consumed, and an `io` error only from a
    faulty source. -/
def EP (k : Nat) (s0 : St) (e : Err) (s' : St) : Prop :=
  Ext k s0 s' ∧ (e = .io → s0.rd.faulty = true)

theorem EP.mono {a b : Nat} {s0 s' : St} {e : Err} (h : EP a s0 e s') (hb : b ≤ a) : EP b s0 e s' :=
  ⟨h.1.mono hb, h.2⟩

/-- Standard shape: run `m` at `s`; `ok a` consumes at least `ko a` bytes counted from `s0`,
    `err e` at least `ke e`; `F` says whether running out of fuel is possible. -/
def Spec {α : Type} (m : P α) (s s0 : St) (ko : α → Nat) (ke : Err → Nat) (F : Prop) : Prop :=
  Sat (m s) (fun a s' => Ext (ko a) s0 s') (fun e s' => EP (ke e) s0 e s') F

section rules
variable {α β : Type} {k : Nat} {s0 s : St} {ko : α → Nat} {ke : Err → Nat} {F : Prop}

/-- raising a syntax error: `errAt`, `peekErr` and the literal form in `parseToken` -/
theorem Spec.rawErr {c : Code} {l col : Nat} (h : Ext k s0 s) (hk : ke (.syntax c l col) ≤ k) :
    Spec (fun s' => Res.err (.syntax c l col) s' : P α) s s0 ko ke F :=
  ⟨h.mono hk, fun hio => by cases hio⟩

theorem Spec.outOfFuel (hF : F) : Spec (outOfFuel : P α) s s0 ko ke F := hF

end rules

theorem consumeN_spec {s : St} {n : Nat} :
    Spec (consumeN n) s s (fun _ => min n s.rd.rest.length) (fun _ => min n s.rd.rest.length)
      False :=
  (At0.consume s n).ext

section rules
variable {α β : Type} {k : Nat} {s0 s : St} {ko : β → Nat} {ke : Err → Nat} {F : Prop}

theorem Spec.errAt_bind {α : Type} {c : Code} {f : α → P β} (h : Ext k s0 s)
    (hk : ke (.syntax c s.rd.position.line s.rd.position.col) ≤ k) :
    Spec ((Parse.errAt c : P α) >>= f) s s0 ko ke F :=
  Spec.rawErr (α := β) h hk

theorem Spec.weaken {α : Type} {m : P α} {ko ko' : α → Nat} {ke' : Err → Nat}
    (hm : Spec m s s0 ko' ke' F) (hko : ∀ a, ko a ≤ ko' a) (hke : ∀ e, ke e ≤ ke' e) :
    Spec m s s0 ko ke F :=
  Sat.imp hm (fun a _ h => h.mono (hko a)) (fun e _ h => h.mono (hke e)) id

end rules

section rules
variable {α β : Type} {k : Nat} {s0 s : St} {ko : β → Nat} {ke : Err → Nat} {F : Prop}

theorem Spec.ok {α : Type} {m : P α} {ko : α → Nat} {a : α} {s' : St}
    (h : Spec m s s0 ko ke F) (hr : m s = .ok a s') : Ext (ko a) s0 s' :=
  (Sat.iff_tri.1 h).ok hr

theorem Spec.err {α : Type} {m : P α} {ko : α → Nat} {e : Err} {s' : St}
    (h : Spec m s s0 ko ke F) (hr : m s = .err e s') : EP (ke e) s0 e s' :=
  (Sat.iff_tri.1 h).err hr

theorem Spec.progress {α : Type} {m : P (Option α)} {s' : St} (h : Spec m s s optN synN F) :
    (∀ v, m s = .ok (some v) s' → s'.rd.rest.length < s.rd.rest.length) ∧
    (∀ c l k, m s = .err (.syntax c l k) s' → s'.rd.rest.length < s.rd.rest.length) :=
  ⟨fun _ hr => (h.ok hr).len, fun _ _ _ hr => (h.err hr).1.len⟩

theorem Spec.no_fuel {α : Type} {m : P α} {ko : α → Nat}
    (h : Spec m s s0 ko ke F) (hF : ¬F) : m s ≠ .fuel :=
  fun hr => hF ((Sat.iff_tri.1 h).fuel hr)

end rules

/-- `Spec` forgets the post-condition, the error codes and when a panic is possible. -/
theorem _root_.Lexpr.Parse.Run.spec {α : Type} {m : P α} {lv : Lv} {s : St} {ko : α → Nat}
    {ke : Err → Nat} {Q : α → St → Prop} {N F : Prop} (h : Run m lv s s ko ke Q N F) :
    Spec m s s ko ke F :=
  Res.Tri.imp h (fun _ _ h => h.1.ext) (fun e _ h => ⟨h.1.ext, fun he => by subst he; exact h.2.1.1⟩)
    (fun _ => trivial) id

section run
variable {cfg : Cfg} {s : St}

theorem nextOrNull_spec {s : St} : Spec nextOrNull s s (fun _ => 0) (fun _ => 0) False :=
  nextOrNull_run.spec

theorem parseExponent_spec {fuel : Nat} {pos : Bool} {sig : Nat} {startExp : Int} :
    Spec (parseExponent cfg fuel pos sig startExp) s s (fun _ => 1) (fun _ => 0)
      (fuel ≤ s.rd.rest.length) := parseExponent_run.spec

theorem parseDecimal_spec {fuel : Nat} {pos : Bool} {sig : Nat} {exp : Int} :
    Spec (parseDecimal cfg fuel pos sig exp) s s (fun _ => 1) (fun _ => 0)
      (fuel ≤ s.rd.rest.length) := parseDecimal_run.spec

theorem parseNumToken_spec {fuel : Nat} {pos : Bool} :
    Spec (parseNumToken cfg fuel pos) s s (fun _ => 1) (fun _ => min 1 s.rd.rest.length)
      (fuel ≤ s.rd.rest.length) := parseNumToken_run.spec

theorem parseNumber_spec {fuel : Nat} :
    Spec (parseNumber cfg fuel) s s (fun _ => 1) (fun _ => 0) (fuel ≤ s.rd.rest.length) :=
  parseNumber_run.spec

theorem parseSignDotSymbol_spec {pfx : List UInt8} :
    Spec (parseSignDotSymbol cfg pfx) s s (fun _ => 1) (fun _ => 0) False :=
  parseSignDotSymbol_run.spec

theorem parseToken_spec {fuel : Nat} {pk : UInt8} (hpk : s.rd.rest.head? = some pk) :
    Spec (parseToken cfg fuel pk) s s (fun _ => 1) (fun _ => 1) (fuel ≤ s.rd.rest.length) :=
  (parseToken_run (c := 1) (Nat.le_refl 1) fun _ => hpk).spec

theorem parseByteList_spec {close : UInt8} {fuel : Nat} :
    Spec (parseByteList cfg fuel close) s s (fun _ => 0) (fun _ => 0)
      (fuel ≤ s.rd.rest.length) := parseByteList_run.spec

theorem value_specs (cfg : Cfg) (fuel : Nat) :
    (∀ s, Spec (nextValue cfg fuel) s s optN synN (fuel ≤ 2 * s.rd.rest.length)) ∧
    (∀ term acc s, Spec (parseList cfg fuel term acc) s s (fun _ => 0) (fun _ => 0)
      (fuel ≤ 2 * s.rd.rest.length + 1)) ∧
    (∀ term acc s, Spec (parseVector cfg fuel term acc) s s (fun _ => 0) (fun _ => 0)
      (fuel ≤ 2 * s.rd.rest.length + 1)) :=
  ⟨fun _ => (nextValue_run cfg fuel).spec,
   fun term acc _ => (value_loops_run cfg fuel term acc).1.spec,
   fun term acc _ => (value_loops_run cfg fuel term acc).2.spec⟩

theorem datum_specs (cfg : Cfg) (fuel : Nat) :
    (∀ s, Spec (nextDatum cfg fuel) s s optN synN (fuel ≤ 2 * s.rd.rest.length)) ∧
    (∀ term acc ms s, Spec (parseListMeta cfg fuel term acc ms) s s (fun _ => 0) (fun _ => 0)
      (fuel ≤ 2 * s.rd.rest.length + 1)) ∧
    (∀ term acc ms s, Spec (parseVectorMeta cfg fuel term acc ms) s s (fun _ => 0) (fun _ => 0)
      (fuel ≤ 2 * s.rd.rest.length + 1)) :=
  ⟨fun _ => (nextDatum_run cfg fuel).spec,
   fun term acc ms _ => (datum_loops_run cfg fuel term acc ms).1.spec,
   fun term acc ms _ => (datum_loops_run cfg fuel term acc ms).2.spec⟩

theorem nextValueTop_spec {cfg : Cfg} {s : St} : Spec (nextValueTop cfg) s s optN synN False :=
  nextValueTop_run.spec

theorem nextDatumTop_spec {cfg : Cfg} {s : St} : Spec (nextDatumTop cfg) s s optN synN False :=
  nextDatumTop_run.spec

theorem expectValue_spec {cfg : Cfg} {s : St} :
    Spec (expectValue cfg) s s (fun _ => 1) (fun _ => 0) False :=
  expectValue_run.spec

theorem expectDatum_spec {cfg : Cfg} {s : St} :
    Spec (expectDatum cfg) s s (fun _ => 1) (fun _ => 0) False :=
  expectDatum_run.spec

theorem expectEnd_spec {s : St} : Spec expectEnd s s (fun _ => 0) (fun _ => 0) False :=
  expectEnd_run.spec

theorem fromTrait_spec {cfg : Cfg} {s : St} :
    Spec (fromTrait cfg) s s (fun _ => 1) (fun _ => 0) False :=
  fromTrait_run.spec

theorem fromTraitDatum_spec {cfg : Cfg} {s : St} :
    Spec (fromTraitDatum cfg) s s (fun _ => 1) (fun _ => 0) False :=
  fromTraitDatum_run.spec

end run

/-- An item that reports consumed input: a value, a datum or a syntax error. -/
def _root_.Lexpr.Parse.Item.isProgress : Item → Prop
  | .value _ => True
  | .datum _ => True
  | .err (.syntax _ _ _) => True
  | _ => False

/-- The operations that `iterate` is meant for. -/
def _root_.Lexpr.Parse.Op.isNext : Op → Prop
  | .nextValue | .nextDatum | .valueIterNext | .datumIterNext | .parserNext => True
  | _ => False

/-- One step of a call with the `next` interface on a non-faulty source: it reports the end of the
    input, or consumes at least one byte (a value, or a syntax error) and leaves the source
    non-faulty, or panics.  Never `fuel`, never an `io` error. -/
theorem Spec.next_step {α : Type} {m : P (Option α)} {s : St} {mk : Option α → Item}
    (h : Spec m s s optN synN False) (hf : s.rd.faulty = false) (hnone : mk none = .none_)
    (hsome : ∀ a, (mk (some a)).isProgress) :
    (∃ o, (m s).step mk = (.none_, o)) ∨
    (∃ it s', (m s).step mk = (it, some s') ∧ it.isProgress ∧
      s'.rd.rest.length < s.rd.rest.length ∧ s'.rd.faulty = false) ∨
    (∃ p, (m s).step mk = (.panic p, none)) := by
  unfold Spec at h
  rcases hr : m s with ⟨_ | v, s'⟩ | ⟨⟨c, l, k⟩ | _, s'⟩ | p | _ <;> rw [hr] at h
  · exact .inl ⟨some s', by rw [Res.step, hnone]⟩
  · exact .inr (.inl ⟨_, s', rfl, hsome v, h.len, h.faulty.trans hf⟩)
  · exact .inr (.inl ⟨_, s', rfl, trivial, h.1.len, h.1.faulty.trans hf⟩)
  · exact absurd ((h.2 rfl).symm.trans hf) (by decide)
  · exact .inr (.inr ⟨p, rfl⟩)
  · exact h.elim

theorem stepOp_cases (cfg : Cfg) (op : Op) (hop : op.isNext) (s : St)
    (hf : s.rd.faulty = false) :
    (∃ o, stepOp cfg op s = (.none_, o)) ∨
    (∃ it s', stepOp cfg op s = (it, some s') ∧ it.isProgress ∧
      s'.rd.rest.length < s.rd.rest.length ∧ s'.rd.faulty = false) ∨
    (∃ p, stepOp cfg op s = (.panic p, none)) := by
  rw [stepOp_eq]
  cases op <;> first
    | exact hop.elim
    | exact nextValueTop_spec.next_step hf rfl fun _ => trivial
    | exact nextDatumTop_spec.next_step hf rfl fun _ => trivial

theorem iterate_terminates (cfg : Cfg) (op : Op) (hop : op.isNext) :
    ∀ (cap : Nat) (s : St), s.rd.faulty = false → s.rd.rest.length + 1 < cap →
    ∃ items last, iterate cfg op cap s = items ++ [last] ∧
      items.length ≤ s.rd.rest.length ∧ (∀ it ∈ items, it.isProgress) ∧
      (last = .none_ ∨ ∃ p, last = .panic p) := by
  intro cap
  induction cap with
  | zero => intro s _ h; omega
  | succ cap ih =>
    intro s hf hcap
    rcases stepOp_cases cfg op hop s hf with ⟨o, h⟩ | ⟨it, s', h, hit, hlen, hf'⟩ | ⟨p, h⟩
    · refine ⟨[], .none_, ?_, by simp, by simp, Or.inl rfl⟩
      simp only [iterate, h, List.nil_append]
    · obtain ⟨items, last, hi, hl, hall, hlast⟩ := ih s' hf' (by omega)
      refine ⟨it :: items, last, ?_, by simp only [List.length_cons]; omega, ?_, hlast⟩
      · cases it <;> first | exact hit.elim | simp only [iterate, h, hi, List.cons_append]
      · intro x hx
        rcases List.mem_cons.mp hx with rfl | hx
        · exact hit
        · exact hall x hx
    · refine ⟨[], .panic p, ?_, by simp, by simp, Or.inr ⟨p, rfl⟩⟩
      simp only [iterate, h, List.nil_append]

/-- `m` run at `s` returns `ok none` only in a state without unread input -/
def NoneEnd {α : Type} (m : P (Option α)) (s : St) : Prop :=
  Sat (m s) (fun a s' => a = none → s'.rd.rest = []) (fun _ _ => True) True

section rules
variable {α β : Type} {s : St}

theorem NoneEnd.outOfFuel : NoneEnd (Parse.outOfFuel : P (Option α)) s := trivial

theorem NoneEnd.ok {m : P (Option α)} {s' : St} (h : NoneEnd m s) (hr : m s = .ok none s') :
    s'.rd.rest = [] :=
  (Sat.iff_tri.1 h).ok hr rfl

end rules

theorem _root_.Lexpr.Parse.Run.noneEnd {α : Type} {m : P (Option α)} {lv : Lv} {s : St}
    {ko : Option α → Nat} {ke : Err → Nat} {Q : Option α → St → Prop} {N F : Prop}
    (h : Run m lv s s ko ke Q N F) (hq : ∀ s', Q none s' → s'.rd.rest = []) : NoneEnd m s :=
  Res.Tri.imp h (fun _ s' h ha => hq s' (ha ▸ h.2)) (fun _ _ _ => trivial) (fun _ => trivial)
    (fun _ => trivial)

theorem nextValue_noneEnd (cfg : Cfg) (fuel : Nat) (s : St) : NoneEnd (nextValue cfg fuel) s :=
  (nextValue_run cfg fuel).noneEnd
    fun _ h => h.1 rfl

theorem nextDatum_noneEnd (cfg : Cfg) (fuel : Nat) (s : St) : NoneEnd (nextDatum cfg fuel) s :=
  (nextDatum_run cfg fuel).noneEnd
    fun _ h => h.1 rfl

theorem stepOp_ne_fuel (cfg : Cfg) : StepKeeps cfg (fun _ => True) (· ≠ .fuel) := by
  have keeps {α : Type} {r : Res α} (h : r ≠ .fuel) : r.Keeps (fun _ => True) (· ≠ .fuel) := by
    cases r with
    | ok a s => trivial
    | err e s => exact ⟨trivial, nofun⟩
    | panic p => exact nofun
    | fuel => exact absurd rfl h
  exact .of_run (fun _ => nofun) (fun _ => nofun) nofun nofun fun op s _ =>
    Op.run_forall (C := fun m => (m s).Keeps (fun _ => True) (· ≠ .fuel))
      (keeps (nextValueTop_spec.no_fuel id)) (keeps (nextDatumTop_spec.no_fuel id))
      (keeps (expectValue_spec.no_fuel id)) (keeps (expectDatum_spec.no_fuel id))
      (keeps (expectEnd_spec.no_fuel id)) op

/-- `r` stopped in state `s'`, successfully or with an error. -/
def _root_.Lexpr.Parse.Res.endsIn {α : Type} (r : Res α) (s' : St) : Prop :=
  (∃ a, r = .ok a s') ∨ (∃ e, r = .err e s')

theorem Spec.ends {α : Type} {m : P α} {s s' : St} {ko : α → Nat} {ke : Err → Nat} {F : Prop}
    (h : Spec m s s ko ke F) (hr : (m s).endsIn s') : Ext 0 s s' := by
  rcases hr with ⟨a, hr⟩ | ⟨e, hr⟩
  · exact (h.ok hr).mono (Nat.zero_le _)
  · exact (h.err hr).1.mono (Nat.zero_le _)

theorem Spec.suffix {α : Type} {m : P α} {s s' : St} {ko : α → Nat} {ke : Err → Nat} {F : Prop}
    (h : Spec m s s ko ke F) (hr : (m s).endsIn s') : s'.rd.rest <:+ s.rd.rest :=
  (h.ends hr).suf

def okSome {α : Type} : Res (Option α) → Bool
  | .ok (some _) _ => true
  | _ => false
def okAny {α : Type} : Res α → Bool
  | .ok _ _ => true
  | _ => false
def syntaxErr {α : Type} : Res α → Bool
  | .err (.syntax _ _ _) _ => true
  | _ => false
def ioErr {α : Type} : Res α → Bool
  | .err .io _ => true
  | _ => false

theorem okSome_elim {α : Type} {r : Res (Option α)} (h : okSome r = true) :
    ∃ v s', r = .ok (some v) s' := by
  rcases r with ⟨_ | v, s'⟩ | _ | _ | _ <;> first | exact ⟨_, _, rfl⟩ | cases h
theorem okAny_elim {α : Type} {r : Res α} (h : okAny r = true) : ∃ v s', r = .ok v s' := by
  rcases r with ⟨v, s'⟩ | _ | _ | _ <;> first | exact ⟨_, _, rfl⟩ | cases h
theorem syntaxErr_elim {α : Type} {r : Res α} (h : syntaxErr r = true) :
    ∃ c l k s', r = .err (.syntax c l k) s' := by
  rcases r with _ | ⟨_ | _, s'⟩ | _ | _ <;> first | exact ⟨_, _, _, _, rfl⟩ | cases h
theorem ioErr_elim {α : Type} {r : Res α} (h : ioErr r = true) : ∃ s', r = .err .io s' := by
  rcases r with _ | ⟨_ | _, s'⟩ | _ | _ <;> first | exact ⟨_, rfl⟩ | cases h

def exCfg : Cfg := { opts := Options.default, isAlphabetic := fun _ => false, pow10 := fun _ => 0 }

/-- **rest_suffix**: `next_value`, `next_datum` and `expect_end` only consume input: whenever they
    stop in a state `s'` (with a result or with an error), the unread input of `s'` is a suffix of
    the unread input they started from.  This holds for every amount of fuel. -/
theorem rest_suffix (cfg : Cfg) (fuel : Nat) (s s' : St) :
    ((nextValue cfg fuel s).endsIn s' → s'.rd.rest <:+ s.rd.rest) ∧
    ((nextDatum cfg fuel s).endsIn s' → s'.rd.rest <:+ s.rd.rest) ∧
    ((expectEnd s).endsIn s' → s'.rd.rest <:+ s.rd.rest) :=
  ⟨((value_specs cfg fuel).1 s).suffix, ((datum_specs cfg fuel).1 s).suffix, expectEnd_spec.suffix⟩

example : ∃ v s', nextValue exCfg 20 (initSt .str (asc "(a . b) c")) = .ok (some v) s' :=
  okSome_elim (by decide +kernel)

/-- **rest_suffix_api**: the same for the public entry points, which compute their own fuel. -/
theorem rest_suffix_api (cfg : Cfg) (s s' : St) :
    ((nextValueTop cfg s).endsIn s' → s'.rd.rest <:+ s.rd.rest) ∧
    ((nextDatumTop cfg s).endsIn s' → s'.rd.rest <:+ s.rd.rest) ∧
    ((expectValue cfg s).endsIn s' → s'.rd.rest <:+ s.rd.rest) ∧
    ((expectDatum cfg s).endsIn s' → s'.rd.rest <:+ s.rd.rest) ∧
    ((fromTrait cfg s).endsIn s' → s'.rd.rest <:+ s.rd.rest) ∧
    ((fromTraitDatum cfg s).endsIn s' → s'.rd.rest <:+ s.rd.rest) :=
  ⟨nextValueTop_spec.suffix, nextDatumTop_spec.suffix, expectValue_spec.suffix,
   expectDatum_spec.suffix, fromTrait_spec.suffix, fromTraitDatum_spec.suffix⟩

example : ∃ v s', fromTrait exCfg (initSt .slice (asc " #(1 2) ")) = .ok v s' :=
  okAny_elim (by decide +kernel)

/-- **C12_progress**: a call of `next_value` / `next_datum` that returns a value, or that fails
    with a syntax error, has consumed at least one byte.  (Only `Ok(None)` and an `io` error can
    leave the input where it was.)  Holds for every amount of fuel. -/
theorem C12_progress (cfg : Cfg) (fuel : Nat) (s s' : St) :
    (∀ v, nextValue cfg fuel s = .ok (some v) s' → s'.rd.rest.length < s.rd.rest.length) ∧
    (∀ c l k, nextValue cfg fuel s = .err (.syntax c l k) s' →
      s'.rd.rest.length < s.rd.rest.length) ∧
    (∀ d, nextDatum cfg fuel s = .ok (some d) s' → s'.rd.rest.length < s.rd.rest.length) ∧
    (∀ c l k, nextDatum cfg fuel s = .err (.syntax c l k) s' →
      s'.rd.rest.length < s.rd.rest.length) :=
  have hv := ((value_specs cfg fuel).1 s).progress (s' := s')
  have hd := ((datum_specs cfg fuel).1 s).progress (s' := s')
  ⟨hv.1, hv.2, hd.1, hd.2⟩

example : ∃ c l k s', nextValue exCfg 5 (initSt .slice (asc ")")) = .err (.syntax c l k) s' :=
  syntaxErr_elim (by decide +kernel)
example : ∃ d s', nextDatum exCfg 9 (initSt .io (asc "'x")) = .ok (some d) s' :=
  okSome_elim (by decide +kernel)

/-- **C12_progress_api**: the same for `nextValueTop` / `nextDatumTop`. -/
theorem C12_progress_api (cfg : Cfg) (s s' : St) :
    (∀ v, nextValueTop cfg s = .ok (some v) s' → s'.rd.rest.length < s.rd.rest.length) ∧
    (∀ c l k, nextValueTop cfg s = .err (.syntax c l k) s' →
      s'.rd.rest.length < s.rd.rest.length) ∧
    (∀ d, nextDatumTop cfg s = .ok (some d) s' → s'.rd.rest.length < s.rd.rest.length) ∧
    (∀ c l k, nextDatumTop cfg s = .err (.syntax c l k) s' →
      s'.rd.rest.length < s.rd.rest.length) :=
  have hv := (@nextValueTop_spec cfg s).progress (s' := s')
  have hd := (@nextDatumTop_spec cfg s).progress (s' := s')
  ⟨hv.1, hv.2, hd.1, hd.2⟩

example : ∃ v s', nextValueTop exCfg (initSt .str (asc "\"a\\x41;\" 1")) = .ok (some v) s' :=
  okSome_elim (by decide +kernel)

/-- **io_error_faulty**: an `io` error is only ever reported by a faulty source, and the
    `faulty` flag and the kind of source never change. -/
theorem io_error_faulty (cfg : Cfg) (fuel : Nat) (s s' : St) :
    (nextValue cfg fuel s = .err .io s' → s.rd.faulty = true) ∧
    (nextDatum cfg fuel s = .err .io s' → s.rd.faulty = true) ∧
    ((nextValue cfg fuel s).endsIn s' → s'.rd.faulty = s.rd.faulty ∧ s'.rd.mode = s.rd.mode) ∧
    ((nextDatum cfg fuel s).endsIn s' → s'.rd.faulty = s.rd.faulty ∧ s'.rd.mode = s.rd.mode) :=
  have hv := (value_specs cfg fuel).1 s
  have hd := (datum_specs cfg fuel).1 s
  ⟨fun h => (hv.err h).2 rfl, fun h => (hd.err h).2 rfl,
    fun hr => ⟨(hv.ends hr).faulty, (hv.ends hr).mode⟩,
    fun hr => ⟨(hd.ends hr).faulty, (hd.ends hr).mode⟩⟩

example : ∃ s', nextValue exCfg 9 (initSt .io (asc "(a") true) = .err .io s' :=
  ioErr_elim (by decide +kernel)

/-- **C12_none_at_end**: `next_value` / `next_datum` (for every amount of fuel, hence also the
    public entry points) report `Ok(None)` only when no unread input is left. -/
theorem C12_none_at_end (cfg : Cfg) (fuel : Nat) (s s' : St) :
    (nextValue cfg fuel s = .ok none s' → s'.rd.rest = []) ∧
    (nextDatum cfg fuel s = .ok none s' → s'.rd.rest = []) ∧
    (nextValueTop cfg s = .ok none s' → s'.rd.rest = []) ∧
    (nextDatumTop cfg s = .ok none s' → s'.rd.rest = []) := by
  have key1 : ∀ fuel, nextValue cfg fuel s = .ok none s' → s'.rd.rest = [] :=
    fun fuel => (nextValue_noneEnd cfg fuel s).ok
  have key2 : ∀ fuel, nextDatum cfg fuel s = .ok none s' → s'.rd.rest = [] :=
    fun fuel => (nextDatum_noneEnd cfg fuel s).ok
  exact ⟨key1 fuel, key2 fuel, fun h => key1 _ (nextValueTop_eq cfg s ▸ h),
    fun h => key2 _ (nextDatumTop_eq cfg s ▸ h)⟩

example : ∃ s', nextValue exCfg 3 (initSt .str (asc " ; c")) = .ok none s' ∧ s'.rd.rest = [] := by
  refine ⟨_, rfl, rfl⟩

/-- **C12_terminates**: iterating one of the `next` operations on a non-faulty source, with a cap
    larger than the input length plus one, produces `items ++ [last]` where `last` is `Ok(None)`
    (or a panic), there are at most as many `items` as there are input bytes, and every item is
    a value, a datum or a syntax error.  In particular no `fuel` and no `io` item occurs and the
    cap is never what stops the iteration. -/
theorem C12_terminates (cfg : Cfg) (op : Op)
    (hop : op = .nextValue ∨ op = .nextDatum ∨ op = .valueIterNext ∨ op = .datumIterNext ∨
      op = .parserNext)
    (s : St) (hf : s.rd.faulty = false) (cap : Nat) (hcap : cap > s.rd.rest.length + 1) :
    ∃ items last, iterate cfg op cap s = items ++ [last] ∧
      items.length ≤ s.rd.rest.length ∧ (∀ it ∈ items, it.isProgress) ∧
      (last = .none_ ∨ ∃ p, last = .panic p) := by
  refine iterate_terminates cfg op ?_ cap s hf hcap
  rcases hop with rfl | rfl | rfl | rfl | rfl <;> trivial

example : (initSt .str (asc "a (b) #t")).rd.faulty = false ∧
    12 > (initSt .str (asc "a (b) #t")).rd.rest.length + 1 := by decide
example : (iterate exCfg .nextValue 12 (initSt .str (asc "a (b) #t"))).length = 4 := by
  decide +kernel

/-- **C03_fuel**: the public entry points never run out of fuel. -/
theorem C03_fuel (cfg : Cfg) (s : St) :
    nextValueTop cfg s ≠ .fuel ∧ nextDatumTop cfg s ≠ .fuel ∧ expectValue cfg s ≠ .fuel ∧
    expectDatum cfg s ≠ .fuel ∧ expectEnd s ≠ .fuel ∧ fromTrait cfg s ≠ .fuel ∧
    fromTraitDatum cfg s ≠ .fuel :=
  ⟨nextValueTop_spec.no_fuel id, nextDatumTop_spec.no_fuel id, expectValue_spec.no_fuel id,
   expectDatum_spec.no_fuel id, expectEnd_spec.no_fuel id, fromTrait_spec.no_fuel id,
   fromTraitDatum_spec.no_fuel id⟩

example : nextValueTop exCfg (initSt .str (asc "((((((")) ≠ .fuel := (C03_fuel _ _).1

/-- **C03_fuel_bound**: `2 * length + 1` units of fuel are enough for `next_value` / `next_datum`
    (`apiFuel` passes `2 * length + 4`), `length + 1` units (`tokenFuel`) are enough for
    `parse_token` and for `parse_byte_list`. -/
theorem C03_fuel_bound (cfg : Cfg) (fuel : Nat) (s : St) :
    (2 * s.rd.rest.length < fuel → nextValue cfg fuel s ≠ .fuel ∧ nextDatum cfg fuel s ≠ .fuel) ∧
    (s.rd.rest.length < fuel →
      (∀ pk, s.rd.rest.head? = some pk → parseToken cfg fuel pk s ≠ .fuel) ∧
      (∀ close, parseByteList cfg fuel close s ≠ .fuel)) := by
  refine ⟨fun h => ⟨((value_specs cfg fuel).1 s).no_fuel (by omega),
    ((datum_specs cfg fuel).1 s).no_fuel (by omega)⟩,
    fun h => ⟨fun pk hpk => (parseToken_spec hpk).no_fuel (by omega),
      fun close => parseByteList_spec.no_fuel (by omega)⟩⟩

example : 2 * (initSt .str (asc "(1 . 2)")).rd.rest.length < 15 := by decide

/-- **C03_fuel_scanners**: for each scanner of Lex.lean that loops, more fuel than there are unread
    bytes (`tokenFuel` is `length + 1`) is enough. -/
theorem C03_fuel_scanners (cfg : Cfg) (fuel : Nat) (s : St) (h : s.rd.rest.length < fuel) :
    (∀ n, decodeR6rsHexEscape fuel n s ≠ .fuel) ∧
    (∀ acc, parseR6rsEscape fuel acc s ≠ .fuel) ∧
    (∀ acc, parseR6rsStr fuel acc s ≠ .fuel) ∧
    (∀ n, decodeElispHexEscape fuel n s ≠ .fuel) ∧
    (∀ n, decodeElispOctalEscape fuel n s ≠ .fuel) ∧
    (∀ acc, parseElispEscape fuel acc s ≠ .fuel) ∧
    (∀ acc ub mb na, parseElispStr fuel acc ub mb na s ≠ .fuel) ∧
    (∀ n first, decodeR6rsCharHexEscape fuel n first s ≠ .fuel) ∧
    parseR6rsChar fuel s ≠ .fuel ∧
    decodeElispCharEscape fuel s ≠ .fuel ∧
    parseElispChar fuel s ≠ .fuel ∧
    (∀ pos sig startExp posExp exp, exponentLoop cfg pos sig startExp posExp fuel exp s ≠ .fuel) ∧
    (∀ pos sig startExp, parseExponent cfg fuel pos sig startExp s ≠ .fuel) ∧
    (∀ sig exp zeros any, decimalLoop fuel sig exp zeros any s ≠ .fuel) ∧
    (∀ pos sig exp, parseDecimal cfg fuel pos sig exp s ≠ .fuel) ∧
    (∀ radix pos sig exp, parseLongInteger cfg radix pos sig fuel exp s ≠ .fuel) ∧
    (∀ radix pos sig, parseNumTail cfg fuel radix pos sig s ≠ .fuel) ∧
    (∀ radix pos res, numLoop cfg radix pos fuel res s ≠ .fuel) ∧
    (∀ radix pos, parseNumLiteral cfg fuel radix pos s ≠ .fuel) ∧
    (∀ radix, parseRadixLiteral cfg fuel radix s ≠ .fuel) ∧
    (∀ pos, parseNumToken cfg fuel pos s ≠ .fuel) ∧
    (∀ radix, parseRadixToken cfg fuel radix s ≠ .fuel) ∧
    parseNumber cfg fuel s ≠ .fuel ∧
    (∀ sign pos, parseSignToken cfg fuel sign pos s ≠ .fuel) ∧
    (∀ close acc, byteListLoop cfg close fuel acc s ≠ .fuel) := by
  have hF : ¬ fuel ≤ s.rd.rest.length := by omega
  exact ⟨fun _ => decodeR6rsHexEscape_run.no_fuel hF,
    fun _ => parseR6rsEscape_run.no_fuel (by omega),
    fun _ => parseR6rsStr_run.no_fuel hF,
    fun _ => decodeElispHexEscape_run.no_fuel hF,
    fun _ => decodeElispOctalEscape_run.no_fuel hF,
    fun _ => parseElispEscape_run.no_fuel hF,
    fun _ _ _ _ => parseElispStr_run.no_fuel hF,
    fun _ _ => decodeR6rsCharHexEscape_run.no_fuel hF,
    parseR6rsChar_run.no_fuel hF,
    decodeElispCharEscape_run.no_fuel hF,
    parseElispChar_run.no_fuel hF,
    fun _ _ _ _ _ => exponentLoop_run.no_fuel hF,
    fun _ _ _ => parseExponent_run.no_fuel hF,
    fun _ _ _ _ => decimalLoop_run.no_fuel hF,
    fun _ _ _ => parseDecimal_run.no_fuel hF,
    fun _ _ _ _ => parseLongInteger_run.no_fuel hF,
    fun _ _ _ => parseNumTail_run.no_fuel hF,
    fun _ _ _ => numLoop_run.no_fuel hF,
    fun _ _ => parseNumLiteral_run.no_fuel hF,
    fun _ => parseRadixLiteral_run.no_fuel hF,
    fun _ => parseNumToken_run.no_fuel hF,
    fun _ => parseRadixToken_run.no_fuel hF,
    parseNumber_run.no_fuel hF,
    fun _ _ => parseSignToken_run.no_fuel hF,
    fun _ _ => byteListLoop_run.no_fuel hF⟩

example : (initSt .str (asc "abc\"")).rd.rest.length < 5 ∧
    okAny (parseR6rsStr 5 [] (initSt .str (asc "abc\""))) = true := by decide +kernel

/-- **C03_fuel_history**: no call history on one parser ever contains a `fuel` item. -/
theorem C03_fuel_history (cfg : Cfg) (ops : List Op) (s : St) :
    ∀ it ∈ runHistory cfg ops s, it ≠ Item.fuel :=
  runHistory_forall (stepOp_ne_fuel cfg) ops s trivial

example : (runHistory exCfg [.nextValue, .expectEnd, .nextDatum] (initSt .str (asc "a b"))).length
    = 3 := by decide +kernel

end Progress
end Parse
end Lexpr
