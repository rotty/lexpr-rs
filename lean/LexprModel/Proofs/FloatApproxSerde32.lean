/-
  C04, second sentence ("to the accuracy of C05"), for ALL types of the universe, `f32` included: Rust data →
  `to_string` → `from_str` (`from_slice`, `from_reader`) → Rust data, default options, every build
  (`C04_text_approx_all`, `C04_text_identity_approx_all`; `C04_text_f32`: an `f32` comes back exactly).

  `Data.approxEqAt t d d'` is the typed refinement of `Data.approxEq`: `d'` equals `d : t` except that `f64` leaves
  may differ within `floatApprox`; `f32` leaves are IDENTICAL.  A value `approxEq` to `ser t d` deserializes to such a
  `d'` (`writes_de_approx`, one induction over what `ser` wrote): at an `f32` leaf the deserializer narrows the
  double it is given (`roundToF32`), and `roundToF32_stable` (F32Stable.lean) shows the narrowing returns the original
  `f32`.
  `f32_max_witness`: in the default build the text of `f32::MAX` is read back as the double one ulp above
  `f32::MAX`; it still narrows to `f32::MAX`.
-/
import LexprModel.Proofs.FloatApproxSerde
import LexprModel.Proofs.F32Stable
namespace Lexpr
namespace Serde
open Parse FullRT Decimals FloatApprox

def RelList {α β : Type} (R : α → β → Prop) : List α → List β → Prop
  | [], ys => ys = []
  | x :: xs, ys => ∃ y ys', ys = y :: ys' ∧ R x y ∧ RelList R xs ys'

mutual
/-- `d'` equals `d : t` except that `f64` leaves may differ within
    `floatApprox`; `f32` leaves (and every other leaf) are identical. -/
def Data.approxEqAt : Ty → Data → Data → Prop
  | .f64, .float a, e => ∃ b, e = .float b ∧ floatApprox a b
  | .option t, .some d, e => ∃ d', e = .some d' ∧ Data.approxEqAt t d d'
  | .seq t, .seq ds, e => ∃ ds', e = .seq ds' ∧ RelList (Data.approxEqAt t) ds ds'
  | .set t, .seq ds, e => ∃ ds', e = .seq ds' ∧ RelList (Data.approxEqAt t) ds ds'
  | .tuple ts, .seq ds, e => ∃ ds', e = .seq ds' ∧ Data.approxEqAtTuple ts ds ds'
  | .tupleStruct ts, .seq ds, e => ∃ ds', e = .seq ds' ∧ Data.approxEqAtTuple ts ds ds'
  | .newtypeStruct t, d, e => Data.approxEqAt t d e
  | .map k v, .map kvs, e => ∃ kvs', e = .map kvs' ∧
      RelList (fun p p' => Data.approxEqAt k p.1 p'.1 ∧ Data.approxEqAt v p.2 p'.2) kvs kvs'
  | .struct fs, .seq ds, e => ∃ ds', e = .seq ds' ∧ Data.approxEqAtFields fs ds ds'
  | .enum vs, .variant i p, e => ∃ p', e = .variant i p' ∧ Data.approxEqAtVariant vs i p p'
  | _, d, e => e = d
def Data.approxEqAtTuple : TyList → List Data → List Data → Prop
  | .cons t ts, d :: ds, es =>
    ∃ e es', es = e :: es' ∧ Data.approxEqAt t d e ∧ Data.approxEqAtTuple ts ds es'
  | _, ds, es => es = ds
def Data.approxEqAtFields : FieldList → List Data → List Data → Prop
  | .cons _ t fs, d :: ds, es =>
    ∃ e es', es = e :: es' ∧ Data.approxEqAt t d e ∧ Data.approxEqAtFields fs ds es'
  | _, ds, es => es = ds
def Data.approxEqAtVariant : VariantList → Nat → Data → Data → Prop
  | .nil, _, p, p' => p' = p
  | .cons _ var _, 0, p, p' =>
    match var, p with
    | .newtype t, p => Data.approxEqAt t p p'
    | .tuple ts, .seq ds => ∃ ds', p' = .seq ds' ∧ Data.approxEqAtTuple ts ds ds'
    | .struct fs, .seq ds => ∃ ds', p' = .seq ds' ∧ Data.approxEqAtFields fs ds ds'
    | _, p => p' = p
  | .cons _ _ vs, i + 1, p, p' => Data.approxEqAtVariant vs i p p'
end

/-- `de` reads a value `approxEq` to what `ser` wrote: `writes_de` with the value `w` read in place of the
    value written.  Each premise first inverts `Value.approxEq` at the shape written, which gives `w` the
    same shape; at an `f32` leaf `de` narrows the double read, and `roundToF32_stable` gives back the `f32`
    written.  `F` holds of every float leaf and implies it is a 64-bit pattern (needed there, see the
    example after `roundToF32_stable`). -/
theorem writes_de_approx (F : Nat → Prop) (hF : ∀ b, F b → b < 2 ^ 64) :
    (∀ {t d v}, Writes t d v → WellFormed t → LeavesOK F t d → ∀ w, Value.approxEq v w →
      ∃ d', de t w = .ok d' ∧ Data.approxEqAt t d d') ∧
    (∀ {ts ds xs}, WritesTuple ts ds xs → WFTys ts → LeavesOKTuple F ts ds →
      ∀ ws, Value.approxEqList xs ws → ∃ ds', deTupleVec ts ws = .ok ds' ∧ Data.approxEqAtTuple ts ds ds') ∧
    (∀ {fs ds xs}, WritesFields fs ds xs → WFFields fs → fs.names.Nodup → LeavesOKFields F fs ds →
      ∀ ws, Value.approxEqList xs ws →
      ∃ es : List Entry, ws = es.map Entry.val ∧ es.map (·.1) = fs.names ∧
        Data.approxEqAtFields fs ds (es.map (·.2.2)) ∧ ∀ e ∈ es, deField fs e.1 e.2.1 = some (.ok e.2.2)) ∧
    (∀ {vs i p v}, WritesVariant vs i p v → WFVariants vs → vs.names.Nodup → LeavesOKVariant F vs i p →
      ∀ w, Value.approxEq v w →
      ∃ name pl p', w = variantValue name pl ∧ name ∈ vs.names ∧
        (∀ k, deVariant vs k name pl = .ok (.variant (k + i) p')) ∧ Data.approxEqAtVariant vs i p p') := by
  apply Writes.induct
    (PL := fun t ds xs => WellFormed t → (∀ d ∈ ds, LeavesOK F t d) → ∀ ws, Value.approxEqList xs ws →
      ∃ ds', ws.mapM (de t) = .ok ds' ∧ RelList (Data.approxEqAt t) ds ds')
    (PP := fun k w kvs xs => WellFormed k → WellFormed w →
      (∀ p ∈ kvs, LeavesOK F k p.1 ∧ LeavesOK F w p.2) → ∀ ws, Value.approxEqList xs ws →
      ∃ kvs', ws.mapM (deEntry (de k) (de w)) = .ok kvs' ∧
        RelList (fun p p' => Data.approxEqAt k p.1 p'.1 ∧ Data.approxEqAt w p.2 p'.2) kvs kvs')
  case int =>
    refine fun h1 h2 _ _ x hx => ?_
    rw [approxEq_serInt _ _ x hx]
    exact ⟨_, de_serInt _ _ h1 h2, by simp only [Data.approxEqAt]⟩
  case f32 =>
    refine fun {b} h _ hl w hw => ?_
    simp only [Value.approxEq] at hw
    obtain ⟨b', rfl, hb⟩ := hw
    have hround : roundToF32 b' = b := by
      rcases hb with rfl | hb
      · exact h
      · exact roundToF32_stable b b' (hF b hl) h hb
    exact ⟨.float b, by simp [de, deNumber, hround], by simp only [Data.approxEqAt]⟩
  case f64 =>
    refine fun _ _ w hw => ?_
    simp only [Value.approxEq] at hw
    obtain ⟨b', rfl, hb⟩ := hw
    exact ⟨.float b', by simp [de, deNumber], by simp only [Data.approxEqAt]; exact ⟨b', rfl, hb⟩⟩
  -- the other leaves: the value read is the value written
  case bool | char | str | bytes | unit | unitStruct | none =>
    refine fun _ _ w hw => ?_
    simp only [Value.approxEq] at hw; subst hw
    exact ⟨_, by rw [de], by simp only [Data.approxEqAt]⟩
  case some =>
    refine fun _ ih wf hl w hw => ?_
    simp only [Value.approxEq] at hw
    obtain ⟨x', n', rfl, hxx, rfl⟩ := hw
    obtain ⟨d', hd', hR⟩ := ih wf hl x' hxx
    exact ⟨.some d', by simp [de, hd'], by simp only [Data.approxEqAt]; exact ⟨d', rfl, hR⟩⟩
  case seq | set =>
    refine fun _ ih wf hl w hw => ?_
    obtain ⟨ws, rfl, hws⟩ := approxEq_list _ w hw
    obtain ⟨ds', hds', hR⟩ := ih wf hl ws hws
    exact ⟨.seq ds', by rw [de, deSeqLike_list, deSeqLike, hds']; rfl,
      by simp only [Data.approxEqAt]; exact ⟨ds', rfl, hR⟩⟩
  case tuple | tupleStruct =>
    refine fun _ ih wf hl w hw => ?_
    simp only [Value.approxEq] at hw
    obtain ⟨ws, rfl, hws⟩ := hw
    obtain ⟨ds', hds', hR⟩ := ih wf hl ws hws
    exact ⟨.seq ds', by simp [de, deTupleLike, hds'], by simp only [Data.approxEqAt]; exact ⟨ds', rfl, hR⟩⟩
  case newtypeStruct =>
    refine fun _ ih wf hl w hw => ?_
    obtain ⟨d', hd', hR⟩ := ih wf hl w hw
    exact ⟨d', by rw [de]; exact hd', by simp only [Data.approxEqAt]; exact hR⟩
  case map =>
    refine fun _ ih wf hl x hx => ?_
    obtain ⟨ws, rfl, hws⟩ := approxEq_list _ x hx
    obtain ⟨kvs', h, hR⟩ := ih wf.1 wf.2 hl ws hws
    exact ⟨.map kvs', by rw [de_map_list, h]; rfl, by simp only [Data.approxEqAt]; exact ⟨_, rfl, hR⟩⟩
  case struct =>
    refine fun _ ih wf hl w hw => ?_
    obtain ⟨ws, rfl, hws⟩ := approxEq_list _ w hw
    obtain ⟨es, rfl, hn, hR, hf⟩ := ih wf.2 wf.1 hl ws hws
    refine ⟨.seq (es.map (·.2.2)), ?_, by simp only [Data.approxEqAt]; exact ⟨_, rfl, hR⟩⟩
    rw [de, deStructLike_entries es hn wf.1 hf]
  case enum =>
    refine fun {_ i _ _} _ ih wf hl w hw => ?_
    obtain ⟨name, pl, p', rfl, _, hd, hR⟩ := ih wf.2 wf.1 hl w hw
    exact ⟨.variant i p', by rw [de_enum_variantValue, hd 0]; simp,
      by simp only [Data.approxEqAt]; exact ⟨p', rfl, hR⟩⟩
  case lnil =>
    refine fun _ _ ws hws => ?_
    simp only [Value.approxEqList] at hws; subst hws
    exact ⟨[], rfl, by simp only [RelList]⟩
  case lcons =>
    refine fun _ _ ih ihs wf hl ws hws => ?_
    simp only [Value.approxEqList] at hws
    obtain ⟨y, ws', rfl, hxy, hws'⟩ := hws
    obtain ⟨d', hd', hR⟩ := ih wf (hl _ List.mem_cons_self) y hxy
    obtain ⟨ds', hds', hRs⟩ := ihs wf (fun e he => hl e (List.mem_cons_of_mem _ he)) ws' hws'
    exact ⟨d' :: ds', by rw [List.mapM_cons, hd', hds']; rfl, by simp only [RelList]; exact ⟨d', ds', rfl, hR, hRs⟩⟩
  case pnil =>
    refine fun _ _ _ ws hws => ?_
    simp only [Value.approxEqList] at hws; subst hws
    exact ⟨[], rfl, by simp only [RelList]⟩
  case pcons =>
    refine fun _ _ _ ihx ihy ihs wk ww hl ws hws => ?_
    simp only [Value.approxEqList] at hws
    obtain ⟨z, ws', rfl, hz, hws'⟩ := hws
    simp only [Value.approxEq] at hz
    obtain ⟨x', y', rfl, hxx, hyy⟩ := hz
    obtain ⟨a', ha', hRa⟩ := ihx wk (hl _ List.mem_cons_self).1 x' hxx
    obtain ⟨b', hb', hRb⟩ := ihy ww (hl _ List.mem_cons_self).2 y' hyy
    obtain ⟨kvs', hd, hRs⟩ := ihs wk ww (fun p hp => hl p (List.mem_cons_of_mem _ hp)) ws' hws'
    exact ⟨(a', b') :: kvs', by rw [List.mapM_cons, deEntry, ha', hb', hd]; rfl,
      by simp only [RelList]; exact ⟨_, _, rfl, ⟨hRa, hRb⟩, hRs⟩⟩
  case tnil =>
    refine fun _ _ ws hws => ?_
    simp only [Value.approxEqList] at hws; subst hws
    exact ⟨[], by rw [deTupleVec], by simp only [Data.approxEqAtTuple]⟩
  case tcons =>
    refine fun _ _ ih ihs wf hl ws hws => ?_
    simp only [Value.approxEqList] at hws
    obtain ⟨y, ws', rfl, hxy, hws'⟩ := hws
    obtain ⟨d', hd', hR⟩ := ih wf.1 hl.1 y hxy
    obtain ⟨ds', hds', hRs⟩ := ihs wf.2 hl.2 ws' hws'
    exact ⟨d' :: ds', by rw [deTupleVec, hd', hds']; rfl,
      by simp only [Data.approxEqAtTuple]; exact ⟨d', ds', rfl, hR, hRs⟩⟩
  case fnil =>
    refine fun _ _ _ ws hws => ?_
    simp only [Value.approxEqList] at hws; subst hws
    exact ⟨[], rfl, rfl, by simp [Data.approxEqAtFields], nofun⟩
  case fcons =>
    refine fun _ _ ih ihs wf hnd hl ws hws => ?_
    obtain ⟨hn', hnd'⟩ := List.nodup_cons.1 hnd
    simp only [Value.approxEqList] at hws
    obtain ⟨y, ws', rfl, hxy, hws'⟩ := hws
    obtain ⟨x', rfl, hxx⟩ := approxEq_entry hxy
    obtain ⟨d', hd', hR⟩ := ih wf.1 hl.1 x' hxx
    obtain ⟨es, rfl, hn, hRs, hf⟩ := ihs wf.2 hnd' hl.2 ws' hws'
    refine ⟨(_, x', d') :: es, rfl, by simp [FieldList.names, hn], ?_, deField_entries_cons hn' hn hd' hf⟩
    simp only [List.map_cons, Data.approxEqAtFields]; exact ⟨d', _, rfl, hR, hRs⟩
  -- the head variant, by kind (`deVariant_hit`)
  case vunit =>
    refine fun _ _ _ w hw => ?_
    simp only [Value.approxEq] at hw; subst hw
    exact ⟨_, none, .unit, rfl, List.mem_cons_self, fun k => by rw [deVariant_hit]; rfl,
      by simp only [Data.approxEqAtVariant]⟩
  case vnewtype =>
    refine fun _ ih wf _ hl w hw => ?_
    obtain ⟨x', rfl, hxx⟩ := approxEq_entry hw
    obtain ⟨p', hp', hR⟩ := ih wf.1 hl x' hxx
    exact ⟨_, some x', p', rfl, List.mem_cons_self, fun k => by rw [deVariant_hit]; simp only [hp']; rfl,
      by simp only [Data.approxEqAtVariant]; exact hR⟩
  case vtuple =>
    refine fun _ ih wf _ hl w hw => ?_
    obtain ⟨l', rfl, hl'⟩ := approxEq_entry hw
    obtain ⟨ws, rfl, hws⟩ := approxEq_list _ l' hl'
    obtain ⟨ds', hds', hR⟩ := ih wf.1 hl ws hws
    exact ⟨_, some (Value.list ws), .seq ds', rfl, List.mem_cons_self,
      fun k => by rw [deVariant_hit]; simp only [deTupleLike_vec_ok hds']; rfl,
      by simp only [Data.approxEqAtVariant]; exact ⟨ds', rfl, hR⟩⟩
  case vstruct =>
    refine fun _ ih wf _ hl w hw => ?_
    obtain ⟨l', rfl, hl'⟩ := approxEq_entry hw
    obtain ⟨ws, rfl, hws⟩ := approxEq_list _ l' hl'
    obtain ⟨es, rfl, hn, hR, hf⟩ := ih wf.1.2 wf.1.1 hl ws hws
    exact ⟨_, some (Value.list (es.map Entry.val)), .seq (es.map (·.2.2)), rfl, List.mem_cons_self,
      fun k => by rw [deVariant_hit]; simp only [deStructLike_entries es hn wf.1.1 hf]; rfl,
      by simp only [Data.approxEqAtVariant]; exact ⟨_, rfl, hR⟩⟩
  case vsucc =>
    refine fun _ ih wf hnd hl w hw => ?_
    rw [WFVariants.eq_def] at wf
    obtain ⟨name, pl, p', rfl, hmem, hd, hR⟩ := ih wf.2 (List.nodup_cons.1 hnd).2 hl w hw
    exact ⟨name, pl, p', rfl, List.mem_cons_of_mem _ hmem, deVariant_succ hnd hmem hd,
      by simp only [Data.approxEqAtVariant]; exact hR⟩

theorem de_approx (F : Nat → Prop) (hF : ∀ b, F b → b < 2 ^ 64) :
    ∀ (t : Ty) (d : Data) (v w : Value), WellFormed t → HasTy t d → LeavesOK F t d →
    ser t d = some v → Value.approxEq v w →
    ∃ d', de t w = .ok d' ∧ Data.approxEqAt t d d' := fun _ _ _ w wf h hl hs hw =>
  (writes_de_approx F hF).1 (of_total (ser_total _ _ h) hs) wf hl w hw

theorem de_approx_variant (F : Nat → Prop) (hF : ∀ b, F b → b < 2 ^ 64) :
    ∀ (vs : VariantList) (i : Nat) (p : Data) (v w : Value),
    WFVariants vs → vs.names.Nodup → HasTyVariant vs i p → LeavesOKVariant F vs i p →
    serVariant vs i p = some v → Value.approxEq v w →
    ∃ name pl p', w = variantValue name pl ∧ name ∈ vs.names ∧
      (∀ k, deVariant vs k name pl = .ok (.variant (k + i) p')) ∧
      Data.approxEqAtVariant vs i p p' := fun _ _ _ _ w wf hnd h hl hs hw =>
  (writes_de_approx F hF).2.2.2 (of_total (serVariant_total _ _ _ h) hs) wf hnd hl w hw

/-- for a well-typed datum the typed relation implies the untyped one of `FloatApproxSerde`; the value
    plays no part: a derivation of `Writes` is the typing of the datum in inductive form -/
theorem writes_approxEqAt :
    (∀ {t d v}, Writes t d v → ∀ d', Data.approxEqAt t d d' → Data.approxEq d d') ∧
    (∀ {ts ds xs}, WritesTuple ts ds xs → ∀ ds', Data.approxEqAtTuple ts ds ds' → Data.approxEqList ds ds') ∧
    (∀ {fs ds xs}, WritesFields fs ds xs → ∀ ds', Data.approxEqAtFields fs ds ds' → Data.approxEqList ds ds') ∧
    (∀ {vs i p v}, WritesVariant vs i p v → ∀ p', Data.approxEqAtVariant vs i p p' → Data.approxEq p p') := by
  apply Writes.induct
    (PL := fun t ds _ => ∀ ds', RelList (Data.approxEqAt t) ds ds' → Data.approxEqList ds ds')
    (PP := fun k w kvs _ => ∀ kvs', RelList (fun p p' => Data.approxEqAt k p.1 p'.1 ∧ Data.approxEqAt w p.2 p'.2) kvs kvs' →
      Data.approxEqPairs kvs kvs')
  -- leaves other than `f64`, and the unit variant: the typed relation is equality
  case int => exact fun _ _ _ hr => hr ▸ Data.approxEq_refl _
  case f32 => exact fun _ _ hr => hr ▸ Data.approxEq_refl _
  case bool | char | str | bytes | unit | unitStruct | none | vunit =>
    exact fun _ hr => hr ▸ Data.approxEq_refl _
  case f64 => exact fun d' hr => by simp only [Data.approxEqAt] at hr; simp only [Data.approxEq]; exact hr
  -- one component, under the same constructor on both sides
  case some | seq | set | tuple | tupleStruct | map | struct | enum | vtuple | vstruct =>
    refine fun _ ih _ hr => ?_
    simp only [Data.approxEqAt, Data.approxEqAtVariant] at hr
    obtain ⟨e, rfl, hR⟩ := hr
    simp only [Data.approxEq]; exact ⟨e, rfl, ih e hR⟩
  -- one component, no constructor
  case newtypeStruct | vnewtype | vsucc =>
    exact fun _ ih d' hr => ih d' (by simpa only [Data.approxEqAt, Data.approxEqAtVariant] using hr)
  case lnil | tnil | fnil =>
    refine fun _ hr => ?_
    simp only [RelList, Data.approxEqAtTuple, Data.approxEqAtFields] at hr; subst hr; simp only [Data.approxEqList]
  case lcons | tcons | fcons =>
    refine fun _ _ ih ihs _ hr => ?_
    simp only [RelList, Data.approxEqAtTuple, Data.approxEqAtFields] at hr
    obtain ⟨e, es, rfl, hR, hRs⟩ := hr
    simp only [Data.approxEqList]; exact ⟨e, es, rfl, ih e hR, ihs es hRs⟩
  case pnil =>
    refine fun _ hr => ?_
    simp only [RelList] at hr; subst hr; simp only [Data.approxEqPairs]
  case pcons =>
    refine fun _ _ _ ihx ihy ihs _ hr => ?_
    simp only [RelList] at hr
    obtain ⟨⟨a', b'⟩, es, rfl, ⟨hRa, hRb⟩, hRs⟩ := hr
    simp only [Data.approxEqPairs]; exact ⟨a', b', es, rfl, ihx a' hRa, ihy b' hRb, ihs es hRs⟩

theorem approxEqAt_approxEq : ∀ (t : Ty) (d d' : Data), HasTy t d → Data.approxEqAt t d d' →
    Data.approxEq d d' := fun t d d' h hr =>
  let ⟨_, _, r⟩ := ser_total t d h; writes_approxEqAt.1 r d' hr
theorem approxEqAtTuple_approxEq : ∀ (ts : TyList) (ds ds' : List Data), HasTyTuple ts ds →
    Data.approxEqAtTuple ts ds ds' → Data.approxEqList ds ds' := fun ts ds ds' h hr =>
  let ⟨_, _, r⟩ := serTuple_total ts ds h; writes_approxEqAt.2.1 r ds' hr
theorem approxEqAtFields_approxEq : ∀ (fs : FieldList) (ds ds' : List Data), HasTyFields fs ds →
    Data.approxEqAtFields fs ds ds' → Data.approxEqList ds ds' := fun fs ds ds' h hr =>
  let ⟨_, _, r⟩ := serFields_total fs ds h; writes_approxEqAt.2.2.1 r ds' hr
theorem approxEqAtVariant_approxEq : ∀ (vs : VariantList) (i : Nat) (p p' : Data),
    HasTyVariant vs i p → Data.approxEqAtVariant vs i p p' → Data.approxEq p p' := fun vs i p p' h hr =>
  let ⟨_, _, r⟩ := serVariant_total vs i p h; writes_approxEqAt.2.2.2 r p' hr

/-- For a well-formed type (`f32` allowed) and a datum of it whose `f32` leaves
    are 64-bit patterns: every value `approxEq` to its serialization deserializes, and the result
    equals the datum except for `f64` leaves within `floatApprox`. -/
theorem C04_de_approx (t : Ty) (d : Data) (v w : Value) (wf : WellFormed t) (h : HasTy t d)
    (hl : LeavesOK (fun b => b < 2 ^ 64) t d) (hs : ser t d = some v) (hw : Value.approxEq v w) :
    ∃ d', de t w = .ok d' ∧ Data.approxEqAt t d d' :=
  de_approx (fun b => b < 2 ^ 64) (fun _ hb => hb) t d v w wf h hl hs hw

/-- Rust data → text → Rust data: for EVERY well-formed type of the
    universe with plain-identifier names and a datum of it (strings well-formed, characters scalar,
    `f32` and `f64` leaves finite with `RyuSpecOnly`, `depthOf t d ≤ 127`), from all three sources,
    the default parser reads the default printer's text of `ser t d` back as a value `w`, `w`
    deserializes to a datum `d'`, and `d'` equals `d` except that `f64` leaves may differ within
    `floatApprox`: `Data.approxEqAt t d d'` — `f32` leaves come back exactly
    (`roundToF32_stable`) — and hence also `Data.approxEq d d'`. -/
theorem C04_text_approx_all (cfg : Cfg) (ho : cfg.opts = Options.default) (ryu : Nat → List UInt8)
    (t : Ty) (d : Data) (wf : WellFormed t) (hN : PlainNames t) (h : HasTy t d)
    (hl : LeavesOK (RyuSpecOnly cfg ryu) t d) (hn : depthOf t d ≤ 127) (m : Mode) :
    ∃ v w s' d', ser t d = some v ∧
      fromTrait cfg (initSt m (Print.text Print.Options.default ryu v)) = .ok w s' ∧
      s'.rd.rest = [] ∧ s'.depth = 128 ∧ Value.approxEq v w ∧
      de t w = .ok d' ∧ Data.approxEqAt t d d' ∧ Data.approxEq d d' := by
  obtain ⟨v, hs, _⟩ := C04_value t d wf h
  obtain ⟨a, b⟩ := C04_ser_leaves PlainName (RyuSpecOnly cfg ryu) t d v hN h hl hs
  have hsup : AllSupportedApprox cfg ryu v :=
    AllLeaves.mono (fun x _ hx => leafFullA_of_serLeaf cfg ryu x hx) v a
  obtain ⟨w, s', hw, e, r, dp⟩ := C01_roundtrip_approx cfg ho ryu v hsup (by omega) m
  obtain ⟨d', hde, hR⟩ :=
    de_approx (RyuSpecOnly cfg ryu) (fun _ hb => hb.1) t d v w wf h hl hs hw
  exact ⟨v, w, s', d', hs, e, r, dp, hw, hde, hR, approxEqAt_approxEq t d d' h hR⟩

/-- `C04_text_approx_all` for the types without `f32`, with the untyped relation `Data.approxEq` only. -/
theorem C04_text_approx (cfg : Cfg) (ho : cfg.opts = Options.default) (ryu : Nat → List UInt8)
    (t : Ty) (d : Data) (wf : WellFormed t) (hN : PlainNames t) (hf : NoF32 t) (h : HasTy t d)
    (hl : LeavesOK (RyuSpecOnly cfg ryu) t d) (hn : depthOf t d ≤ 127) (m : Mode) :
    ∃ v w s' d', ser t d = some v ∧
      fromTrait cfg (initSt m (Print.text Print.Options.default ryu v)) = .ok w s' ∧
      s'.rd.rest = [] ∧ s'.depth = 128 ∧ Value.approxEq v w ∧
      de t w = .ok d' ∧ Data.approxEq d d' := by
  obtain ⟨v, w, s', d', hs, e, r, dp, hw, hd, -, hR⟩ :=
    C04_text_approx_all cfg ho ryu t d wf hN h hl hn m
  exact ⟨v, w, s', d', hs, e, r, dp, hw, hd, hR⟩

/-- `from_str(to_string(d)) = Ok(d')` with
    `Data.approxEqAt t d d'` (and the same for the other sources), for every type. -/
theorem C04_text_identity_approx_all (cfg : Cfg) (ho : cfg.opts = Options.default)
    (ryu : Nat → List UInt8) (t : Ty) (d : Data) (wf : WellFormed t) (hN : PlainNames t)
    (h : HasTy t d) (hl : LeavesOK (RyuSpecOnly cfg ryu) t d)
    (hn : depthOf t d ≤ 127) (m : Mode) :
    ∃ bytes d', toText ryu t d = some bytes ∧ fromText cfg m t bytes = some (.ok d') ∧
      Data.approxEqAt t d d' ∧ Data.approxEq d d' := by
  obtain ⟨v, w, s', d', hs, e, -, -, -, hd, hR, hR'⟩ :=
    C04_text_approx_all cfg ho ryu t d wf hN h hl hn m
  exact ⟨_, d', toText_of_ser hs, (fromText_of_ok e).trans (congrArg some hd), hR, hR'⟩

/-- `from_str(to_string(d)) = Ok(d')` with `Data.approxEq d d'`
    (and the same for the other sources). -/
theorem C04_text_identity_approx (cfg : Cfg) (ho : cfg.opts = Options.default)
    (ryu : Nat → List UInt8) (t : Ty) (d : Data) (wf : WellFormed t) (hN : PlainNames t)
    (hf : NoF32 t) (h : HasTy t d) (hl : LeavesOK (RyuSpecOnly cfg ryu) t d)
    (hn : depthOf t d ≤ 127) (m : Mode) :
    ∃ bytes d', toText ryu t d = some bytes ∧ fromText cfg m t bytes = some (.ok d') ∧
      Data.approxEq d d' := by
  obtain ⟨bytes, d', h1, h2, -, h3⟩ := C04_text_identity_approx_all cfg ho ryu t d wf hN h hl hn m
  exact ⟨bytes, d', h1, h2, h3⟩

/-- `from_str::<f32>(&to_string(&x))  = Ok(x)` for every finite `f32` (a
    64-bit pattern fixed by `roundToF32`) whose text meets `RyuSpecOnly` — exactly, in every
    build, although the double read back may differ from the double printed. -/
theorem C04_text_f32 (cfg : Cfg) (ho : cfg.opts = Options.default) (ryu : Nat → List UInt8)
    (b : Nat) (h : roundToF32 b = b) (hr : RyuSpecOnly cfg ryu b) (m : Mode) :
    ∃ bytes, toText ryu .f32 (.float b) = some bytes ∧
      fromText cfg m .f32 bytes = some (.ok (.float b)) := by
  obtain ⟨bytes, d', h1, h2, h3, -⟩ := C04_text_identity_approx_all cfg ho ryu .f32 (.float b)
    (by simp only [WellFormed]) (by simp only [PlainNames, NamesOK])
    (by simp only [HasTy]; exact h) (by simp only [LeavesOK]; exact hr)
    (by simp [depthOf]) m
  simp only [Data.approxEqAt] at h3
  subst h3
  exact ⟨bytes, h1, h2⟩

/-- `struct P { x: f64, tags: Vec<(i8, Option<f64>)>, e: E }`, `enum E { idle, at { y: f64 } }` -/
def apTy : Ty :=
  .struct (.cons (asc "x") .f64
    (.cons (asc "tags") (.seq (.tuple (.cons (.int .i8) (.cons (.option .f64) .nil))))
    (.cons (asc "e") (.enum (.cons (asc "idle") .unit
      (.cons (asc "at") (.struct (.cons (asc "y") .f64 .nil)) .nil))) .nil)))

/-- `P { x: 1e-23, tags: vec![(-1, Some(2.5)), (7, None)], e: E::at { y: f64::MAX } }` -/
def apData : Data :=
  .seq [.float 0x3B282DB34012B251,
        .seq [.seq [.int (-1), .some (.float 0x4004000000000000)], .seq [.int 7, .none]],
        .variant 1 (.seq [.float 0x7FEFFFFFFFFFFFFF])]

/-- non-vacuity of `C04_text_identity_approx`: `1e-23` and `f64::MAX` lie outside the exactness window of
    the default build (`C04_text` does not apply to this datum) -/
example (m : Mode) :
    ∃ bytes d', toText ryuAx apTy apData = some bytes ∧
      fromText exCfgFast m apTy bytes = some (.ok d') ∧ Data.approxEq apData d' := by
  refine C04_text_identity_approx exCfgFast rfl ryuAx apTy apData ?_ ?_ ?_ ?_ ?_ ?_ m
  · simp only [apTy, WellFormed, WFFields, WFVariants, WFTys, FieldList.names, VariantList.names,
      and_true, true_and]
    decide
  · simp only [apTy, PlainNames, NamesOK, NamesOKFields, NamesOKVariants, NamesOKTys, and_true,
      true_and]
    decide
  · simp [apTy, NoF32, NoF32Fields, NoF32Tys, NoF32Variants]
  · simp [apTy, apData, HasTy, HasTyFields, HasTyTuple, HasTyVariant, IntTy.lo, IntTy.hi]
  · simp only [apTy, apData, LeavesOK, LeavesOKFields, LeavesOKVariant, LeavesOKTuple,
      List.mem_cons, List.not_mem_nil, or_false, forall_eq_or_imp, forall_eq, and_true, true_and]
    exact ⟨ryuAx_1em23, ryuAx_25, ryuAx_max⟩
  · simp [apTy, apData, depthOf, depthFields, depthVariant, depthTuple, maxNat]

/-- a stand-in for ryu on `0.1f32` widened (`0.10000000149011612`, 17 digits), on `1e-23` and on `f32::MAX` widened -/
def ryuAx32 (b : Nat) : List UInt8 :=
  if b = 0x3FB99999A0000000 then asc "0.10000000149011612"
  else if b = 0x3B282DB34012B251 then asc "1e-23"
  else if b = 0x47EFFFFFE0000000 then asc "3.4028234663852886e38"
  else []

theorem ryuAx32_01 : RyuSpecOnly exCfgFast ryuAx32 0x3FB99999A0000000 :=
  ⟨by decide, by decide, ⟨false, 10000000149011612, -17, .small⟩,
    ⟨by decide, by decide +kernel, by decide, by decide +kernel⟩, fun h => ⟨exTab h, by decide +kernel⟩⟩

set_option exponentiation.threshold 2048 in
theorem ryuAx32_1em23 : RyuSpecOnly exCfgFast ryuAx32 0x3B282DB34012B251 :=
  ⟨by decide, by decide, ⟨false, 1, -23, .sci1⟩,
    ⟨by decide, by decide +kernel, by decide, fast_1em23.2⟩, fun h => ⟨exTab h, by decide +kernel⟩⟩

/-- `struct Q { a: f32, b: f64 }` -/
def apTy32 : Ty := .struct (.cons (asc "a") .f32 (.cons (asc "b") .f64 .nil))

/-- `Q { a: 0.1f32, b: 1e-23 }` -/
def apData32 : Data := .seq [.float 0x3FB99999A0000000, .float 0x3B282DB34012B251]

theorem f32_01_fixed : roundToF32 0x3FB99999A0000000 = 0x3FB99999A0000000 := by decide +kernel

/-- non-vacuity of `C04_text_identity_approx_all`, default build: the `f32` field `0.1f32` comes
    back exactly, the `f64` field `1e-23` (read one ulp up in the default build) within
    `floatApprox` -/
example (m : Mode) :
    ∃ bytes b', toText ryuAx32 apTy32 apData32 = some bytes ∧
      fromText exCfgFast m apTy32 bytes =
        some (.ok (.seq [.float 0x3FB99999A0000000, .float b'])) ∧
      floatApprox 0x3B282DB34012B251 b' := by
  obtain ⟨bytes, d', h1, h2, h3, -⟩ :=
    C04_text_identity_approx_all exCfgFast rfl ryuAx32 apTy32 apData32
      (by simp only [apTy32, WellFormed, WFFields, FieldList.names, and_true]; decide)
      (by simp only [apTy32, PlainNames, NamesOK, NamesOKFields, and_true]; decide)
      (by simp only [apTy32, apData32, HasTy, HasTyFields, and_true]; exact f32_01_fixed)
      (by simp only [apTy32, apData32, LeavesOK, LeavesOKFields, and_true]
          exact ⟨ryuAx32_01, ryuAx32_1em23⟩)
      (by simp [apTy32, apData32, depthOf, depthFields]) m
  simp only [apTy32, apData32, Data.approxEqAt, Data.approxEqAtFields] at h3
  obtain ⟨ds', rfl, e1, es1, rfl, rfl, e2, es2, rfl, ⟨b', rfl, hb⟩, rfl⟩ := h3
  exact ⟨bytes, b', h1, h2, hb⟩

/-- `f32::MAX` widened is `0x47EFFFFFE0000000`; ryu prints it as `3.4028234663852886e38` -/
theorem ryuAx32_max : RyuSpecOnly exCfgFast ryuAx32 0x47EFFFFFE0000000 :=
  ⟨by decide, by decide, ⟨false, 34028234663852886, 22, .sci⟩,
    ⟨by decide, by decide +kernel, by decide, by decide +kernel⟩, fun h => ⟨exTab h, by decide +kernel⟩⟩

/-- The stability lemma is needed, at the overflow edge: in the default
    build the text of `f32::MAX` is read back as the double ONE ULP ABOVE `f32::MAX`
    (`0x47EFFFFFE0000001`; the real `from_str::<f64>("3.4028234663852886e38")` returns the same
    bits), the correctly rounded double being `0x47EFFFFFE0000000`; narrowing still gives
    `f32::MAX`, not infinity. -/
theorem f32_max_witness :
    fastParts Numbers.pow10Tab ((22 : Int).natAbs / 308 + 2) (F64.ofNat 34028234663852886) 22 =
      some 0x47EFFFFFE0000001 ∧
    F64.rnDec 34028234663852886 22 = 0x47EFFFFFE0000000 ∧
    roundToF32 0x47EFFFFFE0000001 = 0x47EFFFFFE0000000 := by decide +kernel

/-- `f64_from_parts` of the default build on the digits of `f32::MAX` -/
theorem f32_max_parts (s : St) :
    f64FromParts exCfgFast true 34028234663852886 22 s = .ok 0x47EFFFFFE0000001 s := by
  unfold f64FromParts
  simp only [exCfgFast, if_true]
  rw [f32_max_witness.1]
  rfl

/-- non-vacuity of `C04_text_f32`: `f32::MAX`, default build, every source -/
example (m : Mode) : ∃ bytes, toText ryuAx32 .f32 (.float 0x47EFFFFFE0000000) = some bytes ∧
    fromText exCfgFast m .f32 bytes = some (.ok (.float 0x47EFFFFFE0000000)) :=
  C04_text_f32 exCfgFast rfl ryuAx32 _ (by decide +kernel) ryuAx32_max m

#print axioms de_approx
#print axioms approxEqAt_approxEq
#print axioms C04_text_approx_all
#print axioms C04_text_approx
#print axioms C04_text_identity_approx_all
#print axioms C04_text_identity_approx
#print axioms C04_text_f32

end Serde
end Lexpr
