/-
  C09 — a free-standing `-` before a string or character literal, end to end.

  The macro (lexpr-macros/src/parser.rs, `is_numeric_literal`) takes a free-standing `-` for the
  sign of the following literal only when that literal is numeric; `WF` (MacroSpec: `sepOk`,
  `startsNum`) accordingly excludes only `-` directly before an integer or float literal.  The trees
  `(- "s")`, `(- 'a')`, `(- "s" 1)` are therefore inside `C09_agree`, `C09_agree_full` and the
  unquote theorems; this file instantiates them (macro on the Rust tokens = parser on the text =
  the list that starts with the symbol `-`).  Macro side alone: `minus_before_string_tokens`,
  `C09_expand_minus_before_string` in MacroSpec; that the condition on numeric literals is
  necessary: `minus_before_number_witness` there.
-/
import LexprModel.Proofs.MacroText2
import LexprModel.Proofs.MacroUnquote
namespace Lexpr
namespace Macro
open Print
open Parse.ListRT

/-- `(- "s")` -/
def minusStr : Doc := .list [.psym [45], .str (asc "s") (asc "s")]
/-- `(- 'a')`, as S-expression text `(- #\a)` -/
def minusChr : Doc := .list [.psym [45], .chr 97]
/-- `(- "s" 1)` -/
def minusStrInt : Doc := .list [.psym [45], .str (asc "s") (asc "s"), .int 1]

theorem minus_docs_wf : WF minusStr ∧ WF minusChr ∧ WF minusStrInt := by decide
theorem minus_docs_ok : TextOK minusStr ∧ TextOK minusChr ∧ TextOK minusStrInt := by decide
theorem minus_docs_text : stext minusStr = asc "(- \"s\")" ∧ stext minusChr = asc "(- #\\a)" ∧
    stext minusStrInt = asc "(- \"s\" 1)" := by decide +kernel

theorem minus_docs_value (env : Tok → Value) :
    valueOf env minusStr = Value.list [.symbol [45], .string (asc "s")] ∧
    valueOf env minusChr = Value.list [.symbol [45], .char 97] ∧
    valueOf env minusStrInt = Value.list [.symbol [45], .string (asc "s"), .number (.pos 1)] := by
  simp [minusStr, minusChr, minusStrInt, valueOf, valueOfL, Number.ofSigned]

/-- `(- "s")` through `C09_agree`: `sexp!((- "s"))` and `from_slice("(- \"s\")")` are both the
    two-element list of the symbol `-` and the string `s`. -/
theorem C09_agree_minus_string (env : Tok → Value) (cfg : Parse.Cfg)
    (ho : cfg.opts = Parse.Options.default) :
    expand env (toks minusStr) = some (Value.list [.symbol [45], .string (asc "s")]) ∧
      ∃ s', Parse.fromTrait cfg (Parse.initSt .slice (asc "(- \"s\")")) =
          .ok (Value.list [.symbol [45], .string (asc "s")]) s' ∧
        s'.rd.rest = [] ∧ s'.depth = 128 := by
  have h := C09_agree env cfg ho minusStr minus_docs_wf.1 minus_docs_ok.1 (by decide) (by decide)
  rw [minus_docs_text.1, (minus_docs_value env).1] at h
  exact h

/-- `(- 'a')` through `C09_agree`: the symbol `-` and the character `a` -/
theorem C09_agree_minus_char (env : Tok → Value) (cfg : Parse.Cfg)
    (ho : cfg.opts = Parse.Options.default) :
    expand env (toks minusChr) = some (Value.list [.symbol [45], .char 97]) ∧
      ∃ s', Parse.fromTrait cfg (Parse.initSt .slice (asc "(- #\\a)")) =
          .ok (Value.list [.symbol [45], .char 97]) s' ∧
        s'.rd.rest = [] ∧ s'.depth = 128 := by
  have h := C09_agree env cfg ho minusChr minus_docs_wf.2.1 minus_docs_ok.2.1 (by decide)
    (by decide)
  rw [minus_docs_text.2.1, (minus_docs_value env).2.1] at h
  exact h

/-- `(- "s" 1)` through `C09_agree` -/
theorem C09_agree_minus_string_int (env : Tok → Value) (cfg : Parse.Cfg)
    (ho : cfg.opts = Parse.Options.default) :
    expand env (toks minusStrInt) =
        some (Value.list [.symbol [45], .string (asc "s"), .number (.pos 1)]) ∧
      ∃ s', Parse.fromTrait cfg (Parse.initSt .slice (asc "(- \"s\" 1)")) =
          .ok (Value.list [.symbol [45], .string (asc "s"), .number (.pos 1)]) s' ∧
        s'.rd.rest = [] ∧ s'.depth = 128 := by
  have h := C09_agree env cfg ho minusStrInt minus_docs_wf.2.2 minus_docs_ok.2.2 (by decide)
    (by decide)
  rw [minus_docs_text.2.2, (minus_docs_value env).2.2] at h
  exact h

/-! ## Through `C09_agree_full` (any build, strings of arbitrary content) -/

/-- `(- "s")` and `(- 'a')` as `Sx` -/
def minusStrSx : Sx := .list [.leaf (.psym [45]), .leaf (.str (asc "s") (asc "s"))]
def minusChrSx : Sx := .list [.leaf (.psym [45]), .leaf (.chr 97)]
/-- `(- "a\"b" 1)`: the string literal has the source text `a\"b` and the value `a"b` -/
def minusEscSx : Sx :=
  .list [.leaf (.psym [45]), .leaf (.str (asc "a\\\"b") (asc "a\"b")), .leaf (.int 1)]

theorem minusSx_erase : erase minusStrSx = minusStr ∧ erase minusChrSx = minusChr := by
  constructor <;> rfl

theorem minusSx_ok (cfg : Parse.Cfg) :
    TextOK2 cfg minusStrSx ∧ TextOK2 cfg minusChrSx ∧ TextOK2 cfg minusEscSx := by
  refine ⟨?_, ?_, ?_⟩ <;>
    simp only [TextOK2, minusStrSx, minusChrSx, minusEscSx, textOk2, textOkL2, LeafOK, and_true]
  · exact ⟨Or.inl (by decide), by decide⟩
  · exact ⟨Or.inl (by decide), by decide⟩
  · exact ⟨Or.inl (by decide), by decide, by decide⟩

/-- `(- "s")` through `C09_agree_full`, in every build -/
theorem C09_agree_full_minus_string (env : Tok → Value) (cfg : Parse.Cfg)
    (ho : cfg.opts = Parse.Options.default) :
    expand env (toks (erase minusStrSx)) = some (Value.list [.symbol [45], .string (asc "s")]) ∧
      ∃ s', Parse.fromTrait cfg (Parse.initSt .slice (asc "(- \"s\")")) =
          .ok (Value.list [.symbol [45], .string (asc "s")]) s' ∧
        s'.rd.rest = [] ∧ s'.depth = 128 := by
  have h := C09_agree_full env cfg ho minusStrSx (by decide) (minusSx_ok cfg).1 (by decide)
    (by decide)
  have ht : stext2 minusStrSx = asc "(- \"s\")" := by decide +kernel
  rw [ht, minusSx_erase.1, (minus_docs_value env).1] at h
  exact h

/-- `(- 'a')` through `C09_agree_full`, in every build -/
theorem C09_agree_full_minus_char (env : Tok → Value) (cfg : Parse.Cfg)
    (ho : cfg.opts = Parse.Options.default) :
    expand env (toks (erase minusChrSx)) = some (Value.list [.symbol [45], .char 97]) ∧
      ∃ s', Parse.fromTrait cfg (Parse.initSt .slice (asc "(- #\\a)")) =
          .ok (Value.list [.symbol [45], .char 97]) s' ∧
        s'.rd.rest = [] ∧ s'.depth = 128 := by
  have h := C09_agree_full env cfg ho minusChrSx (by decide) (minusSx_ok cfg).2.1 (by decide)
    (by decide)
  have ht : stext2 minusChrSx = asc "(- #\\a)" := by decide +kernel
  rw [ht, minusSx_erase.2, (minus_docs_value env).2.1] at h
  exact h

/-- `(- "a\"b" 1)` through `C09_agree_full`: a string that needs an escape after the symbol `-` -/
theorem C09_agree_full_minus_escaped (env : Tok → Value) (cfg : Parse.Cfg)
    (ho : cfg.opts = Parse.Options.default) :
    expand env (toks (erase minusEscSx)) =
        some (Value.list [.symbol [45], .string (asc "a\"b"), .number (.pos 1)]) ∧
      ∃ s', Parse.fromTrait cfg (Parse.initSt .slice (asc "(- \"a\\\"b\" 1)")) =
          .ok (Value.list [.symbol [45], .string (asc "a\"b"), .number (.pos 1)]) s' ∧
        s'.rd.rest = [] ∧ s'.depth = 128 := by
  have h := C09_agree_full env cfg ho minusEscSx (by decide) (minusSx_ok cfg).2.2 (by decide)
    (by decide)
  have ht : stext2 minusEscSx = asc "(- \"a\\\"b\" 1)" := by decide +kernel
  have hv : valueOf env (erase minusEscSx) =
      Value.list [.symbol [45], .string (asc "a\"b"), .number (.pos 1)] := by
    simp [minusEscSx, erase, eraseL, valueOf, valueOfL, Number.ofSigned]
  rw [ht, hv] at h
  exact h

/-! ## With an unquote -/

/-- `(- "s" . ,e)`: the symbol `-`, the string, consed onto `Value::from(e)`
    (`C09_unquote_tail_atom`); with `e` a list the list continues (`C09_unquote_tail_list`) -/
theorem C09_unquote_minus_string (env : Tok → Value) (e : Tok) :
    expand env (toks (.dotted [.psym [45], .str (asc "s") (asc "s")] (.unq e))) =
      some (.cons (.symbol [45]) (.cons (.string (asc "s")) (env e))) ∧
    (∀ ys, env e = Value.list ys →
      expand env (toks (.dotted [.psym [45], .str (asc "s") (asc "s")] (.unq e))) =
        some (Value.list (.symbol [45] :: .string (asc "s") :: ys))) := by
  refine ⟨?_, fun ys h => ?_⟩
  · simpa [valueOf, Value.append] using
      C09_unquote_tail_atom env [.psym [45], .str (asc "s") (asc "s")] e (by decide) (by decide)
  · simpa [valueOf] using
      C09_unquote_tail_list env [.psym [45], .str (asc "s") (asc "s")] e ys h (by decide)
        (by decide)

/-- `C09_unquote_agree` on `(- 'a' ,x)` with `x = "s"`: the macro on the tokens and the parser on
    the text `(- #\a "s")` agree -/
theorem C09_unquote_agree_minus_char (cfg : Parse.Cfg) (ho : cfg.opts = Parse.Options.default)
    (env : Tok → Value) (hx : env tokX = .string (asc "s"))
    (hother : ∀ t, t ≠ tokX → env t = .nil) :
    expand env (toks (.list [.psym [45], .chr 97, .unq tokX])) =
        some (Value.list [.symbol [45], .char 97, .string (asc "s")]) ∧
      ∃ s', Parse.fromTrait cfg (Parse.initSt .slice (asc "(- #\\a \"s\")")) =
          .ok (Value.list [.symbol [45], .char 97, .string (asc "s")]) s' ∧
        s'.rd.rest = [] ∧ s'.depth = 128 := by
  classical
  let σ : Tok → Doc := fun t => if t = tokX then .str (asc "s") (asc "s") else .nil
  have hσ : ∀ t, env t = valueOf env (σ t) := by
    intro t
    by_cases h1 : t = tokX
    · subst h1; simp [σ, hx, valueOf]
    · simp [σ, h1, hother t h1, valueOf]
  have hp : plug σ (.list [.psym [45], .chr 97, .unq tokX]) =
      .list [.psym [45], .chr 97, .str (asc "s") (asc "s")] := by
    simp [plug, plugL, σ]
  have ht : stext (plug σ (.list [.psym [45], .chr 97, .unq tokX])) = asc "(- #\\a \"s\")" := by
    rw [hp]; decide +kernel
  have hv : valueOf env (.list [.psym [45], .chr 97, .unq tokX]) =
      Value.list [.symbol [45], .char 97, .string (asc "s")] := by
    simp [valueOf, valueOfL, hx]
  have := C09_unquote_agree env cfg ho σ hσ (.list [.psym [45], .chr 97, .unq tokX]) (by decide)
    (by rw [hp]; decide) (by rw [hp]; decide) (by decide)
  rw [ht, hv] at this
  exact this

#print axioms C09_agree_minus_string
#print axioms C09_agree_minus_char
#print axioms C09_agree_minus_string_int
#print axioms C09_agree_full_minus_string
#print axioms C09_agree_full_minus_char
#print axioms C09_agree_full_minus_escaped
#print axioms C09_unquote_minus_string
#print axioms C09_unquote_agree_minus_char

end Macro
end Lexpr
