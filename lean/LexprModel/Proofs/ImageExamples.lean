/-
  ImageExamples — C13: instances of the theorems of `Image.lean` on accepted texts that use
  alternative spellings (non-vacuity), and the witnesses that show each side condition necessary.

  Acceptance facts are checked by the kernel (`decide +kernel`) through a Boolean comparison of the
  value read with the expected one (`veq`, structural equality; `Value` has no `DecidableEq`).
-/
import LexprModel.Proofs.Image
namespace Lexpr
namespace Parse
namespace Image
open Utf8 Spec

mutual
def veq : Value → Value → Bool
  | .nil, .nil => true
  | .null, .null => true
  | .bool a, .bool b => a == b
  | .number a, .number b => decide (a = b)
  | .char a, .char b => a == b
  | .string a, .string b => a == b
  | .symbol a, .symbol b => a == b
  | .keyword a, .keyword b => a == b
  | .bytes a, .bytes b => a == b
  | .cons a d, .cons a' d' => veq a a' && veq d d'
  | .vector xs, .vector ys => veqList xs ys
  | _, _ => false
def veqList : List Value → List Value → Bool
  | [], [] => true
  | x :: xs, y :: ys => veq x y && veqList xs ys
  | _, _ => false
end

mutual
theorem veq_eq : ∀ a b : Value, veq a b = true → a = b
  | .nil, b, h => by cases b <;> simp [veq] at h ⊢
  | .null, b, h => by cases b <;> simp [veq] at h ⊢
  | .bool x, b, h => by cases b <;> simp [veq] at h ⊢; exact h
  | .number x, b, h => by cases b <;> simp [veq] at h ⊢; exact h
  | .char x, b, h => by cases b <;> simp [veq] at h ⊢; exact h
  | .string x, b, h => by cases b <;> simp [veq] at h ⊢; exact h
  | .symbol x, b, h => by cases b <;> simp [veq] at h ⊢; exact h
  | .keyword x, b, h => by cases b <;> simp [veq] at h ⊢; exact h
  | .bytes x, b, h => by cases b <;> simp [veq] at h ⊢; exact h
  | .cons a d, b, h => by
    cases b <;> simp [veq] at h ⊢
    exact ⟨veq_eq _ _ h.1, veq_eq _ _ h.2⟩
  | .vector xs, b, h => by
    cases b <;> simp [veq] at h ⊢
    exact veqList_eq _ _ h
theorem veqList_eq : ∀ xs ys : List Value, veqList xs ys = true → xs = ys
  | [], ys, h => by cases ys <;> simp [veqList] at h ⊢
  | x :: xs, ys, h => by
    cases ys <;> simp [veqList] at h ⊢
    exact ⟨veq_eq _ _ h.1, veqList_eq _ _ h.2⟩
end

/-- `from_slice_custom(bytes)` is `Ok(v)` -/
def parsesTo (cfg : Cfg) (bytes : List UInt8) (v : Value) : Bool :=
  match fromTrait cfg (initSt .slice bytes) with
  | .ok w _ => veq w v
  | _ => false

theorem parsesTo_spec {cfg : Cfg} {bytes : List UInt8} {v : Value}
    (h : parsesTo cfg bytes v = true) : ∃ s1, fromTrait cfg (initSt .slice bytes) = .ok v s1 := by
  unfold parsesTo at h
  split at h
  · rename_i w s1 heq
    exact ⟨s1, by rw [heq, veq_eq w v h]⟩
  · cases h

/-- `from_slice_custom(bytes)` is a syntax error with this code -/
def rejectsWith (cfg : Cfg) (bytes : List UInt8) (c : Code) : Bool :=
  match fromTrait cfg (initSt .slice bytes) with
  | .err (.syntax c' _ _) _ => decide (c' = c)
  | _ => false

theorem rejectsWith_spec {cfg : Cfg} {bytes : List UInt8} {c : Code}
    (h : rejectsWith cfg bytes c = true) :
    ∀ v s', fromTrait cfg (initSt .slice bytes) ≠ .ok v s' := by
  intro v s' hok
  unfold rejectsWith at h
  rw [hok] at h
  cases h

def ryuNone : Nat → List UInt8 := fun _ => []

def mk (o : Options) : Cfg := { opts := o, isAlphabetic := fun c => c == 955, pow10 := fun _ => 0 }

def cfgD : Cfg := mk Options.default
/-- `Parser::new`: no keyword syntax at all -/
def cfgNew : Cfg := mk Options.new
def cfgEl : Cfg := mk Options.elisp
/-- Racket names, `name:` and `#:name` keywords, digit-initial symbols -/
def cfgRk : Cfg := mk { Options.default with racket := true, kwPostfix := true, leadingDigit := true }
def cfgPost : Cfg :=
  mk { Options.default with kwOctothorpe := false, kwPostfix := true, leadingDigit := true,
                            brackets := .vector }

/-! ### non-vacuity: accepted texts in alternative spellings close the loop -/

/-- `#x1F` is read as 31 and printed `31` -/
example : ∃ s', fromTrait cfgD (initSt .slice (Print.text (pof cfgD.opts) ryuNone
    (.number (.pos 31)))) = .ok (.number (.pos 31)) s' ∧ s'.rd.rest = [] ∧ s'.depth = 128 := by
  obtain ⟨s1, h⟩ := parsesTo_spec (cfg := cfgD) (bytes := asc "#x1F") (v := .number (.pos 31))
    (by decide +kernel)
  exact C13_reparse_partial cfgD ryuNone _ _ s1 h ⟨rfl, trivial⟩ rfl (by decide)

/-- radix prefix, `#true` (read as `#t` followed by the symbol `rue`), a hex character, a hex
    string escape, brackets as a list, a quote shorthand, a dotted proper list, a byte vector in
    R6RS spelling, a non-ASCII symbol and a negative hexadecimal integer:
    `(#true #\x41 "\x41;" [a b] 'a (a . (b c)) #vu8(1 #x10) λx #x-1F)` -/
def exV1 : Value :=
  Value.list [.bool true, .symbol (asc "rue"), .char 65, .string [65],
    Value.list [.symbol (asc "a"), .symbol (asc "b")],
    Value.list [.symbol (asc "quote"), .symbol (asc "a")],
    Value.list [.symbol (asc "a"), .symbol (asc "b"), .symbol (asc "c")],
    .bytes [1, 16], .symbol [0xCE, 0xBB, 120], .number (.neg (-31))]

def exT1 : List UInt8 :=
  asc "(#true #\\x41 \"\\x41;\" [a b] 'a (a . (b c)) #vu8(1 #x10) " ++ [0xCE, 0xBB, 120] ++
    asc " #x-1F)"

theorem exT1_accepted : ∃ s1, fromTrait cfgD (initSt .slice exT1) = .ok exV1 s1 :=
  parsesTo_spec (by decide +kernel)

theorem exV1_side (cfg : Cfg) : AllAtoms (AtomSideW cfg ryuNone) exV1 := by
  simp only [exV1, Value.list, Value.append, AllAtoms, AtomSideW, floatSide, kwDotOk, and_self]

example : ∃ s', fromTrait cfgD (initSt .slice (Print.text (pof cfgD.opts) ryuNone exV1)) =
    .ok exV1 s' ∧ s'.rd.rest = [] ∧ s'.depth = 128 := by
  obtain ⟨s1, h⟩ := exT1_accepted
  exact C13_reparse_partial cfgD ryuNone _ _ s1 h (exV1_side cfgD) (by decide) (by decide)

/-- `C13_image` and `C13_image_shape` on that value: all its atoms are in the image, and those
    that pass the side conditions are read back from their printed text -/
example : AllAtoms (AtomImg cfgD) exV1 ∧
    AllAtoms (fun a => AtomSide cfgD ryuNone a →
      ListRT.AtomOKP (pof cfgD.opts) cfgD ryuNone a) exV1 := by
  obtain ⟨s1, h⟩ := exT1_accepted
  obtain ⟨f, s2, hnv⟩ := fromTrait_inv h
  exact ⟨C13_image_shape cfgD f _ _ exV1 (by simp [initSt]) hnv,
    C13_image cfgD ryuNone f _ _ exV1 (by simp [initSt]) hnv⟩

/-- `C13_reparse_next`: the printed text in the middle of an input -/
example (s : St) (hg : s.rd.mode = .slice ∧ s.rd.faulty = false) (hd : 128 ≤ s.depth)
    (hr : s.rd.rest = Print.text (pof cfgD.opts) ryuNone exV1 ++ asc ") tail") :
    ∃ s', nextValue cfgD (2 * s.rd.rest.length + 3) s = .ok (some exV1) s' ∧
      s'.rd.rest = asc ") tail" ∧ s'.depth = s.depth := by
  obtain ⟨s1, h⟩ := exT1_accepted
  obtain ⟨f, s2, hnv⟩ := fromTrait_inv h
  exact C13_reparse_next cfgD ryuNone f _ s2 exV1 (by simp [initSt]) (by simp [initSt]) hnv
    (exV1_side cfgD) (by decide) (by decide) s _ _ (Or.inr ⟨41, asc " tail", by decide, by decide⟩)
    hg hr (Nat.le_refl _) (by simpa [initSt] using hd)

example : ∃ v' s', fromTrait cfgD (initSt .slice (Print.text (pof cfgD.opts) ryuNone exV1)) =
      .ok v' s' ∧
    Print.text (pof cfgD.opts) ryuNone v' = Print.text (pof cfgD.opts) ryuNone exV1 ∧
    ∃ s'', fromTrait cfgD (initSt .slice (Print.text (pof cfgD.opts) ryuNone v')) = .ok v' s'' := by
  obtain ⟨s1, h⟩ := exT1_accepted
  exact C13_fixpoint cfgD ryuNone _ _ s1 h (exV1_side cfgD) (by decide) (by decide)

/-- what is printed: `(#t rue #\A "A" (a b) (quote a) (a b c) #u8(1 16) λx -31)` -/
example : Print.text (pof cfgD.opts) ryuNone exV1 =
    asc "(#t rue #\\A \"A\" (a b) (quote a) (a b c) #u8(1 16) " ++ [0xCE, 0xBB, 120] ++
      asc " -31)" := by decide +kernel

/-- the same text under `Parser::new` (no keyword syntax: `pof` is not `Compatible`, and still the
    loop closes — nothing in the value is a keyword) -/
example : ∃ s', fromTrait cfgNew (initSt .slice (Print.text (pof cfgNew.opts) ryuNone exV1)) =
    .ok exV1 s' ∧ s'.rd.rest = [] ∧ s'.depth = 128 := by
  obtain ⟨s1, h⟩ := parsesTo_spec (cfg := cfgNew) (bytes := exT1) (v := exV1) (by decide +kernel)
  exact C13_reparse_partial cfgNew ryuNone _ _ s1 h (exV1_side cfgNew) (by decide) (by decide)

example : Compatible (pof cfgNew.opts) cfgNew.opts = false := by decide

/-- Emacs Lisp: `(a ?\x41 "\101" "\x41\ " 1+ nil t [1 :k] . "s")` — a hex character, a unibyte
    string (read as a byte vector, printed `#u8(65)`), a digit-initial symbol, `nil` read as `()`,
    a bracket vector, a `:k` keyword, a dotted string tail -/
def exV2 : Value :=
  Value.append [.symbol (asc "a"), .char 65, .bytes [65], .bytes [65], .symbol (asc "1+"), .null,
    .symbol (asc "t"), .vector [.number (.pos 1), .keyword (asc "k")]] (.string (asc "s"))

def exT2 : List UInt8 := asc "(a ?\\x41 \"\\101\" \"\\x41\\ \" 1+ nil t [1 :k] . \"s\")"

example : ∃ s', fromTrait cfgEl (initSt .slice (Print.text (pof cfgEl.opts) ryuNone exV2)) =
    .ok exV2 s' ∧ s'.rd.rest = [] ∧ s'.depth = 128 := by
  obtain ⟨s1, h⟩ := parsesTo_spec (cfg := cfgEl) (bytes := exT2) (v := exV2) (by decide +kernel)
  refine C13_reparse_partial cfgEl ryuNone _ _ s1 h ?_ (by decide) (fun _ => by decide)
  simp only [exV2, Value.append, AllAtoms, AllAtomsSeq, AtomSideW, floatSide, and_true]
  decide

example : Print.text (pof cfgEl.opts) ryuNone exV2 =
    asc "(a ?A #u8(65) #u8(65) 1+ () t [1 :k] . \"s\")" := by decide +kernel

/-- Racket names and keywords read through `name:` but printed `#:name` (also a digit-initial
    one): `(#%app foo: 1: -x 2x .5 a.b:)` -/
def exV3 : Value :=
  Value.list [.symbol (asc "#%app"), .keyword (asc "foo"), .keyword (asc "1"), .symbol (asc "-x"),
    .symbol (asc "2x"), .symbol (asc ".5"), .keyword (asc "a.b")]

example : ∃ s', fromTrait cfgRk (initSt .slice (Print.text (pof cfgRk.opts) ryuNone exV3)) =
    .ok exV3 s' ∧ s'.rd.rest = [] ∧ s'.depth = 128 := by
  obtain ⟨s1, h⟩ := parsesTo_spec (cfg := cfgRk) (bytes := asc "(#%app foo: 1: -x 2x .5 a.b:)")
    (v := exV3) (by decide +kernel)
  refine C13_reparse_partial cfgRk ryuNone _ _ s1 h ?_ (by decide) (by decide)
  simp only [exV3, Value.list, Value.append, AllAtoms, AtomSideW, floatSide, and_true]
  decide

example : Print.text (pof cfgRk.opts) ryuNone exV3 = asc "(#%app #:foo #:1 -x 2x .5 #:a.b)" := by
  decide +kernel

/-- `name:` as the only keyword syntax: keywords are printed `name:` again, the one named `.`
    included, and a digit-initial one; vector elements may start with `.|`:
    `[foo: 1x: .: .|a|]` -/
def exV4 : Value :=
  .vector [.keyword (asc "foo"), .keyword (asc "1x"), .keyword (asc "."), .symbol (asc ".|a|")]

example : ∃ s', fromTrait cfgPost (initSt .slice (Print.text (pof cfgPost.opts) ryuNone exV4)) =
    .ok exV4 s' ∧ s'.rd.rest = [] ∧ s'.depth = 128 := by
  obtain ⟨s1, h⟩ := parsesTo_spec (cfg := cfgPost) (bytes := asc "[foo: 1x: .: .|a|]") (v := exV4)
    (by decide +kernel)
  refine C13_reparse_partial cfgPost ryuNone _ _ s1 h ?_ (by decide) (by decide)
  simp only [exV4, AllAtoms, AllAtomsSeq, AtomSideW, floatSide, and_true]
  decide

/-- floats in the fast build, with ryu's text for the two doubles (`Decimals.ryuEx`):
    `(1.50 -1e2)` is read as `1.5` and `-100.0`, printed `(1.5 -100.0)` -/
def exV5 : Value :=
  Value.list [.number (.flt 0x3FF8000000000000), .number (.flt 0xC059000000000000)]

example : ∃ s', fromTrait Decimals.exCfgFast (initSt .slice
      (Print.text (pof Decimals.exCfgFast.opts) Decimals.ryuEx exV5)) = .ok exV5 s' ∧
    s'.rd.rest = [] ∧ s'.depth = 128 := by
  obtain ⟨s1, h⟩ := parsesTo_spec (cfg := Decimals.exCfgFast) (bytes := asc "(1.50 -1e2)")
    (v := exV5) (by decide +kernel)
  refine C13_reparse_partial Decimals.exCfgFast Decimals.ryuEx _ _ s1 h ?_ (by decide) (by decide)
  simp only [exV5, Value.list, Value.append, AllAtoms, AtomSideW, floatSide, kwDotOk, true_and,
    and_true]
  exact ⟨Decimals.floatOK_ex_15, Decimals.floatOK_ex_m100⟩

/-- **(b), the known finding.**  `'.|a` is accepted as `(quote .|a)`; the printed text
    `(quote .|a)` is rejected (`parse_list` takes the dot for the dotted-pair marker). -/
theorem C13_witness_dot :
    parsesTo cfgD (asc "'.|a") (Value.list [.symbol (asc "quote"), .symbol (asc ".|a")]) = true ∧
    Print.text (pof cfgD.opts) ryuNone (Value.list [.symbol (asc "quote"), .symbol (asc ".|a")]) =
      asc "(quote .|a)" ∧
    rejectsWith cfgD (asc "(quote .|a)") .expectedSomeValue = true ∧
    carDotOk (pof cfgD.opts) (Value.list [.symbol (asc "quote"), .symbol (asc ".|a")]) = false := by
  decide +kernel

/-- **(b), worse.**  With `"` after the dot the printed text is accepted — as something else:
    `'."x"` is read as `(quote ."x")` (a symbol named `."x"`), printed `(quote ."x")`, and that
    is read as the pair `(quote . "x")`. -/
theorem C13_witness_dot_misread :
    parsesTo cfgD (asc "'.\"x\"") (Value.list [.symbol (asc "quote"), .symbol (asc ".\"x\"")])
      = true ∧
    Print.text (pof cfgD.opts) ryuNone (Value.list [.symbol (asc "quote"), .symbol (asc ".\"x\"")])
      = asc "(quote .\"x\")" ∧
    parsesTo cfgD (asc "(quote .\"x\")") (.cons (.symbol (asc "quote")) (.string (asc "x")))
      = true ∧
    carDotOk (pof cfgD.opts) (Value.list [.symbol (asc "quote"), .symbol (asc ".\"x\"")])
      = false := by
  decide +kernel

/-- … but the same symbol is harmless at top level, in a vector and as a dotted tail: condition
    (b) is not needed there (`carDotOk` holds). -/
example : ∃ s', fromTrait cfgD (initSt .slice (Print.text (pof cfgD.opts) ryuNone
      (.vector [.symbol (asc ".|a"), .cons (.symbol (asc "x")) (.symbol (asc ".\"b"))]))) =
    .ok (.vector [.symbol (asc ".|a"), .cons (.symbol (asc "x")) (.symbol (asc ".\"b"))]) s' ∧
    s'.rd.rest = [] ∧ s'.depth = 128 := by
  obtain ⟨s1, h⟩ := parsesTo_spec (cfg := cfgD) (bytes := asc "#(.|a (x . .\"b))")
    (v := .vector [.symbol (asc ".|a"), .cons (.symbol (asc "x")) (.symbol (asc ".\"b"))])
    (by decide +kernel)
  refine C13_reparse_partial cfgD ryuNone _ _ s1 h ?_ (by decide) (by decide)
  simp only [AllAtoms, AllAtomsSeq, AtomSideW, floatSide, and_true]
  decide

/-- **(d1).**  With `name:` and `#:name` keywords both enabled, `.:` is accepted as the
    keyword named `.`; `pof` prints `#:.`, which is rejected (`parse_symbol` refuses the lone
    dot).  The same with `:name` instead of `#:name` (`:.`).  Checked against the Rust code. -/
theorem C13_witness_kwdot :
    parsesTo cfgRk (asc ".:") (.keyword (asc ".")) = true ∧
    Print.text (pof cfgRk.opts) ryuNone (.keyword (asc ".")) = asc "#:." ∧
    rejectsWith cfgRk (asc "#:.") .eofValue = true ∧
    kwDotOk cfgRk.opts (.keyword (asc ".")) = false ∧
    (let cfg := mk { Options.default with kwOctothorpe := false, kwPrefix := true, kwPostfix := true }
     parsesTo cfg (asc "(a .:)") (Value.list [.symbol (asc "a"), .keyword (asc ".")]) = true ∧
     Print.text (pof cfg.opts) ryuNone (Value.list [.symbol (asc "a"), .keyword (asc ".")]) =
       asc "(a :.)" ∧
     rejectsWith cfg (asc "(a :.)") .invalidSymbol = true) := by
  decide +kernel

/-- **the hypothesis on the source.**  A `&str` source is not validated (in Rust its type
    guarantees well-formed text); run on ill-formed bytes it returns an ill-formed symbol, whose
    printed text a slice source rejects.  Hence `mode ≠ .str` in `C13_image`. -/
example :
    (match nextValue cfgD 10 (initSt .str [97, 0xFF]) with
     | .ok (some (.symbol n)) _ => n == [97, 0xFF]
     | _ => false) = true ∧
    rejectsWith cfgD [97, 0xFF] .invalidUnicodeCodePoint = true := by decide +kernel

/-- `n` pairs of parentheses around `mid` -/
def nestT (n : Nat) (mid : List UInt8) : List UInt8 :=
  List.replicate n 40 ++ mid ++ List.replicate n 41

/-- the value of `nestT n mid` when `mid` is read as `v` -/
def nestV : Nat → Value → Value
  | 0, v => v
  | n + 1, v => .cons (nestV n v) .null

theorem text_nestV (p : Print.Options) (ryu : Nat → List UInt8) (v : Value) :
    ∀ n, Print.text p ryu (nestV n v) = nestT n (Print.text p ryu v)
  | 0 => by simp [nestV, nestT]
  | n + 1 => by
    rw [nestV, ListRT.textP_cons, text_nestV p ryu v n]
    simp [nestT, Print.emitsTail, Print.flatten, List.replicate_succ, ← List.replicate_succ']

/-- **(d2).**  With `NilSymbol::EmptyList` (as in the Emacs Lisp options) the symbol `nil`
    inside 127 lists is accepted — 127 levels of recursion — as `()` inside 127 lists, whose
    printed text needs 128 levels and is rejected with `RecursionLimitExceeded`. -/
theorem C13_witness_depth :
    let cfg := mk { Options.default with nil := .emptyList }
    parsesTo cfg (nestT 127 (asc "nil")) (nestV 127 .null) = true ∧
    Print.text (pof cfg.opts) ryuNone (nestV 127 .null) = nestT 127 (asc "()") ∧
    rejectsWith cfg (nestT 127 (asc "()")) .recursionLimitExceeded = true ∧
    ListRT.nestingP (pof cfg.opts) (nestV 127 .null) = 128 := by
  intro cfg
  refine ⟨by decide +kernel, ?_, by decide +kernel, by decide +kernel⟩
  rw [text_nestV, ListRT.textP_null]
  rfl

/-- (a): the window hypothesis on floats cannot be dropped in the fast build —
    `Decimals.atomRT_float_window_needed` (the double nearest to `1e-23` is printed `1e-23` by any
    ryu satisfying `RyuSpec`, and that text reads back one ulp up).  The property allows this
    ("floats to C05 accuracy"). -/
example := @Decimals.atomRT_float_window_needed

#print axioms C13_image_shape
#print axioms C13_image
#print axioms C13_image_weak
#print axioms C13_keyword_enabled
#print axioms C13_reparse_partial
#print axioms C13_reparse_next
#print axioms C13_fixpoint
#print axioms C13_witness_dot
#print axioms C13_witness_dot_misread
#print axioms C13_witness_kwdot
#print axioms C13_witness_depth

end Image
end Parse
end Lexpr
