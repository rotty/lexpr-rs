/-
  SpecRTElisp — C02, last clause: the text written under the Emacs Lisp printer options "is readable by
  an independent reader of the documented Emacs Lisp subset" (`Spec.readElispWith`,
  Spec/ReaderElisp.lean), as the documented folding of the value (Nil and false become the empty
  list, true the symbol `t`, the empty byte vector the empty string).

  Same plan as SpecRTAtoms.lean and SpecRT.lean: the generic structure theorem of SpecRTBase.lean
  instantiated with the lexemes and meanings of this dialect, and one lemma per kind of atom, on top
  of what the two readers share (`Lexemes`, SpecRTLex.lean; numbers, SpecRTNum.lean).
-/
import LexprModel.Proofs.SpecRTNum
import LexprModel.Spec.ReaderElisp
namespace Lexpr
namespace SpecRT
namespace El
open Spec Print

abbrev pe : Print.Options := Print.Options.elisp
abbrev re : Parse.Options := Parse.Options.elisp

theorem lexeme_lpar (r : List UInt8) : Elisp.lexeme (40 :: r) = some (some .lpar, 1) := by
  simp [Elisp.lexeme, isWhite]
theorem lexeme_rpar (r : List UInt8) : Elisp.lexeme (41 :: r) = some (some .rpar, 1) := by
  simp [Elisp.lexeme, isWhite]
theorem lexeme_lbrk (r : List UInt8) : Elisp.lexeme (91 :: [] ++ r) = some (some .lbrk, 1) := by
  simp [Elisp.lexeme, isWhite]
theorem lexeme_rbrk (r : List UInt8) : Elisp.lexeme (93 :: r) = some (some .rbrk, 1) := by
  simp [Elisp.lexeme, isWhite]
theorem lexeme_space (r : List UInt8) : Elisp.lexeme (32 :: r) = some (none, 1) := by
  simp [Elisp.lexeme, isWhite]

theorem asc_hq : asc "#'" = [35, 39] := by decide
theorem asc_nil : asc "nil" = [110, 105, 108] := by decide

/-- a run of atom bytes that does not start with `?` is one atom lexeme -/
theorem atom_lexeme (x : UInt8) (xs rest : List UInt8) (hb : ∀ b ∈ x :: xs, AtomByte b)
    (h63 : x ≠ 63) (hf : Follow rest) :
    Elisp.lexeme (x :: xs ++ rest) = some (some (.atom (x :: xs)), xs.length + 1) := by
  obtain ⟨hd, q1, q2, q3, q4⟩ := hb x (by simp)
  obtain ⟨f1, f2, f3, f4, f5, f6, f7⟩ := nondelim_facts x hd
  have hlen := atomLen_append (x :: xs) rest (fun b h => (hb b h).1) hf
  simp only [List.cons_append] at hlen ⊢
  simp [Elisp.lexeme, f1, f2, f3, f4, f5, f6, f7, q1, q2, q3, q4, h63, hlen, asc_hq]

theorem lexeme_dot (r : List UInt8) : Elisp.lexeme (46 :: 32 :: r) = some (some (.atom [46]), 1) :=
  atom_lexeme 46 [] (32 :: r) (by decide) (by decide) (follow_cons 32 r (by decide))

theorem lexeme_string (body rest : List UInt8) (h : strLen (body ++ 34 :: rest) = some body.length) :
    Elisp.lexeme (34 :: (body ++ [34]) ++ rest) =
      some (some (.str body), (body ++ [34]).length + 1) := by
  have e : body ++ [34] ++ rest = body ++ 34 :: rest := by simp
  simp [Elisp.lexeme, isWhite, asc_hq, e, h]

/-- a literal that does not end in `.` and does not start with `#` means what it means in Scheme -/
theorem number_eq (x : UInt8) (xs : List UInt8) (h35 : x ≠ 35) (hlast : (x :: xs).getLast? ≠ some 46) :
    Elisp.number (x :: xs) = Spec.number (x :: xs) := by
  have h1 : ((x :: xs).getLast? == some 46) = false := by simpa using hlast
  have e1 : asc "#d" = [35, 100] := by decide
  have e2 : asc "#D" = [35, 68] := by decide
  simp only [Elisp.number, h1, Bool.false_and, Bool.false_eq_true, if_false]
  simp [e1, e2, h35]

theorem lexemes_elisp (alpha : Nat → Bool) : Lexemes Elisp.lexeme (Elisp.classify alpha) where
  atom := atom_lexeme
  str := lexeme_string
  num x xs n hb hlast hn := by
    have hx := hb x (by simp)
    have hnil : (x :: xs == asc "nil") = false := by rw [asc_nil]; simp [ne_of_class hx 110]
    have h58 : ((x :: xs).head? == some 58) = false := by simpa using ne_of_class hx 58
    simp only [Elisp.classify, ne_dot_of_last x xs hlast, Bool.false_eq_true, if_false,
      Elisp.atomValue, hnil, h58, number_eq x xs (ne_of_class hx 35) hlast, hn]
    rfl

theorem brackets_elisp (alpha : Nat → Bool) : Brackets Elisp.lexeme (Elisp.classify alpha) pe where
  lpar := lexeme_lpar
  rpar := lexeme_rpar
  space := lexeme_space
  dot := lexeme_dot
  cl_lpar := rfl
  cl_rpar := rfl
  cl_dot := rfl
  vec := ⟨91, [], 93, .lbrk, .rbrk, .rbrk, .vector .rbrk, by decide, by decide, by decide, lexeme_lbrk,
    rfl, lexeme_rbrk, rfl, fun _ => by simp [finish]⟩

theorem reads_nil_text (alpha : Nat → Bool) :
    ReadsAs Elisp.lexeme (Elisp.classify alpha) [110, 105, 108] .null :=
  (lexemes_elisp alpha).readsAs_atom 110 _ .null (by decide) (by decide) rfl

theorem reads_nil (alpha : Nat → Bool) (ryu : Nat → List UInt8) :
    ReadsAs Elisp.lexeme (Elisp.classify alpha) (text pe ryu .nil) (fold pe re .nil) := by
  rw [text_nil, show nilText pe = [110, 105, 108] by decide]
  exact reads_nil_text alpha

theorem reads_bool (alpha : Nat → Bool) (ryu : Nat → List UInt8) (b : Bool) :
    ReadsAs Elisp.lexeme (Elisp.classify alpha) (text pe ryu (.bool b)) (fold pe re (.bool b)) := by
  rw [text_bool]
  cases b
  · rw [show boolText pe false = [110, 105, 108] by decide]
    exact reads_nil_text alpha
  · rw [show boolText pe true = [116] by decide]
    exact (lexemes_elisp alpha).readsAs_atom 116 _ (.symbol [116]) (by decide) (by decide) rfl

/-- a byte after a backslash that starts none of the keyboard, hexadecimal, octal and Unicode
    escapes -/
abbrev Ordinary (e : UInt8) : Prop :=
  (e == 94) = false ∧ e ∉ asc "CMSHAs" ∧ (e == 120) = false ∧ Elisp.isOct e = false ∧
  (e == 117) = false ∧ (e == 85) = false ∧ (e == 78) = false

/-- such a byte, if ASCII, stands for what its mnemonic says, else for itself -/
theorem escape_ordinary (e : UInt8) (rest : List UInt8) (h : Ordinary e) (ha : e < 0x80) :
    Elisp.escape (e :: rest) = some (.chr ((Elisp.mnemonic.lookup e).getD e.toNat), 1) := by
  obtain ⟨h1, h2, h3, h4, h5, h6, h7⟩ := h
  have ht : e.toNat < 128 := by simpa [UInt8.lt_iff_toNat_lt] using ha
  have hl : (Utf8.encode e.toNat).length = 1 := by simp [Utf8.encode, ht]
  cases hm : Elisp.mnemonic.lookup e <;>
    simp [Elisp.escape, h1, h2, h3, h4, h5, h6, h7, hm, Utf8.decodeFirst, ha, hl]

/-- the characters the printer writes after a backslash stand for themselves -/
theorem escapeChars_facts : ∀ b ∈ elispEscapeChars,
    Ordinary b ∧ b < 0x80 ∧ Elisp.mnemonic.lookup b = none := by
  decide +kernel

theorem escape_self (b : UInt8) (rest : List UInt8) (h : elispEscapeChars.contains b = true) :
    Elisp.escape (b :: rest) = some (.chr b.toNat, 1) := by
  obtain ⟨h1, h2, h3⟩ := escapeChars_facts b (List.contains_iff_mem.mp h)
  rw [escape_ordinary b rest h1 h2, h3]; rfl

theorem lexeme_char_esc (c : Nat) (hp : 32 ≤ c ∧ c < 127) (rest : List UInt8)
    (he : elispEscapeChars.contains (UInt8.ofNat c) = true) (hf : Follow rest) :
    Elisp.lexeme (63 :: [92, UInt8.ofNat c] ++ rest) = some (some (.chr c []), 3) := by
  obtain ⟨-, p2, -⟩ := ascii_facts c (by omega)
  simp [Elisp.lexeme, isWhite, asc_hq, Elisp.charBody, escape_self _ rest he, p2,
    atomLen_follow rest hf]

theorem lexeme_char_plain (c : Nat) (hp : 32 ≤ c ∧ c < 127) (rest : List UInt8)
    (he : elispEscapeChars.contains (UInt8.ofNat c) = false) (hf : Follow rest) :
    Elisp.lexeme (63 :: [UInt8.ofNat c] ++ rest) = some (some (.chr c []), 2) := by
  obtain ⟨p1, p2, p3⟩ := ascii_facts c (by omega)
  have p4 : (UInt8.ofNat c == 92) = false :=
    beq_false_of_ne (ne_of_apply_ne elispEscapeChars.contains (by rw [he]; decide))
  simp [Elisp.lexeme, isWhite, asc_hq, Elisp.charBody, p4, Utf8.decodeFirst, p1, p2, p3,
    atomLen_follow rest hf]

theorem follow_not_hex (rest : List UInt8) (hf : Follow rest) : RunEnd Elisp.isHex rest := by
  rcases hf with rfl | ⟨b, tl, rfl, hb⟩
  · exact runEnd_nil _
  · exact runEnd_cons (Bool.eq_false_iff.mpr fun hx => by
      rw [(atomByte_of_class (p := Elisp.isHex) (by decide +kernel) hx).1] at hb; cases hb) _

theorem escape_hex (c : Nat) (hc : isScalar c = true) (rest : List UInt8) (hf : Follow rest) :
    ∃ e, Elisp.escape (120 :: (natHexLower c ++ rest)) = some (e, 1 + (natHexLower c).length) ∧
      (e = .chr c ∨ e = .raw c) := by
  have ht := (span_class Elisp.isHex (natHexLower c) rest
    (fun b hb => ((natHexLower_facts c).2.1 b hb).1) (follow_not_hex rest hf)).1
  have e1 : (120 : UInt8) ∉ asc "CMSHAs" := by decide
  by_cases h : c < 256
  · exact ⟨.raw c, by simp [Elisp.escape, e1, ht, digitsVal_hex, Elisp.numEsc, h], Or.inr rfl⟩
  · exact ⟨.chr c, by simp [Elisp.escape, e1, ht, digitsVal_hex, Elisp.numEsc, h, hc], Or.inl rfl⟩

theorem lexeme_char_hex (c : Nat) (hc : isScalar c = true) (rest : List UInt8) (hf : Follow rest) :
    Elisp.lexeme (63 :: (92 :: 120 :: natHexLower c) ++ rest) =
      some (some (.chr c []), (92 :: 120 :: natHexLower c).length + 1) := by
  obtain ⟨e, he, hv⟩ := escape_hex c hc rest hf
  have hd : List.drop (natHexLower c).length (natHexLower c ++ rest) = rest := by simp
  rcases hv with rfl | rfl <;>
    (simp [Elisp.lexeme, isWhite, asc_hq, Elisp.charBody, he, atomLen_follow rest hf,
      Nat.add_comm 1 (natHexLower c).length, hd]
     try omega)

theorem asc_qbx : asc "?\\x" = [63, 92, 120] := by decide

theorem reads_char (alpha : Nat → Bool) (ryu : Nat → List UInt8) (c : Nat)
    (h : isScalar c = true) :
    ReadsAs Elisp.lexeme (Elisp.classify alpha) (text pe ryu (.char c)) (.char c) := by
  rw [text_char]
  show ReadsAs _ _ (elispChar c) _
  have hcl : Elisp.classify alpha (.chr c []) = some (.datum (.char c)) := by
    simp [Elisp.classify, h]
  unfold elispChar
  split
  · rename_i hp
    split
    · rename_i he
      exact readsAs_datum _ _ 63 [92, UInt8.ofNat c] (.chr c []) _
        (fun rest hf => lexeme_char_esc c hp rest he hf) hcl
    · rename_i he
      exact readsAs_datum _ _ 63 [UInt8.ofNat c] (.chr c []) _
        (fun rest hf => lexeme_char_plain c hp rest (by simpa using he) hf) hcl
  · rw [asc_qbx]
    exact readsAs_datum _ _ 63 (92 :: 120 :: natHexLower c) (.chr c []) _
      (fun rest hf => lexeme_char_hex c h rest hf) hcl

/-- what one printed byte of a string is read as: itself, or the character of its escape -/
def elOf (b : UInt8) : Elisp.StrEl :=
  if escClass b = .none then .lit b else .esc (.chr b.toNat)

/-- the letter escapes: neither of the two skipped escapes, and the letter means the byte -/
theorem letter_facts : ∀ k p, Parse.escPair k = some p →
    (p.2 == 10) = false ∧ (p.2 == 32) = false ∧ Ordinary p.2 ∧ p.2 < 0x80 ∧
    (Elisp.mnemonic.lookup p.2).getD p.2.toNat = p.1.toNat ∧ elOf p.1 = .esc (.chr p.1.toNat) := by
  intro k p h
  cases k <;> cases h <;> decide +kernel

theorem piece_elisp (b : UInt8) :
    Piece Elisp.strElement (elOf b) (escapeText .elisp b (escClass b)) := by
  refine piece_escape Elisp.strElement elOf .elisp ?_ ?_ ?_ b
  · intro b rest h
    simp [Elisp.strElement, (plain_facts b h).2, elOf, h]
  · intro k p hk rest
    obtain ⟨h1, h2, h3, h4, h5, h6⟩ := letter_facts k p hk
    simp [Elisp.strElement, h1, h2, escape_ordinary p.2 rest h3 h4, h5, h6]
  · intro b h
    obtain ⟨g1, -, g2⟩ := control_facts b h
    have hb : b.toNat < 256 := UInt8.toNat_lt b
    refine piece_backslash Elisp.strElement _ 117
      [48, 48, hexDigitUpper (b.toNat / 16), hexDigitUpper (b.toNat % 16)] ?_ fun rest => ?_
    · simp only [List.forall_mem_cons]
      exact ⟨by decide, by decide, (hexUpper_facts _ (by omega)).2.1, (hexUpper_facts _ (by omega)).2.1,
        by simp⟩
    · have e1 : (117 : UInt8) ∉ asc "CMSHAs" := by decide
      have e2 : Elisp.isOct 117 = false := by decide
      simp [Elisp.strElement, Elisp.escape, e1, e2, digitsVal_zero_cons _ _ (digitsVal_zero_cons _ _ g2),
        Elisp.uniEsc, g1, elOf, h]

theorem elOf_facts (b : UInt8) : (elOf b).isRaw = false ∧ (elOf b).bytes = [b] := by
  unfold elOf
  split
  · exact ⟨rfl, rfl⟩
  · rename_i h
    exact ⟨rfl, escaped_encode b h⟩

theorem elOf_list (s : List UInt8) :
    (s.map elOf).any Elisp.StrEl.isRaw = false ∧ (s.map elOf).flatMap Elisp.StrEl.bytes = s := by
  induction s with
  | nil => exact ⟨rfl, rfl⟩
  | cons b bs ih =>
    obtain ⟨f1, f2⟩ := elOf_facts b
    simp [f1, f2, ih.1, ih.2]

theorem reads_string (alpha : Nat → Bool) (ryu : Nat → List UInt8) (s : List UInt8)
    (h : Utf8.valid s = true) :
    ReadsAs Elisp.lexeme (Elisp.classify alpha) (text pe ryu (.string s)) (.string s) := by
  rw [text_string]
  refine (lexemes_elisp alpha).readsAs_pieces Elisp.strElement _ elOf piece_elisp s _ ?_
  have hch := (flatMap_pieces Elisp.strElement _ elOf piece_elisp s).2
  obtain ⟨f1, f2⟩ := elOf_list s
  have f3 : ((s.map elOf).any fun e => e.isRaw && e.bytes.any (· ≥ 128)) = false := by
    rw [List.any_eq_false] at f1 ⊢
    intro e he
    simp [Bool.eq_false_iff.mpr (f1 e he)]
  simp only [Elisp.classify, Elisp.strValue, hch, f1, f2, f3, Bool.false_and,
    Bool.false_eq_true, if_false, h, if_true]
  rfl

/-- an octal digit is plain in a string body and, after a backslash, starts an octal escape -/
theorem octalDigit_facts : ∀ n, n < 8 →
    escClass (octalDigit n) = .none ∧ digitVal 8 (octalDigit n) = some n ∧
    (octalDigit n == 10) = false ∧ (octalDigit n == 32) = false ∧ (octalDigit n == 94) = false ∧
    octalDigit n ∉ asc "CMSHAs" ∧ (octalDigit n == 120) = false := by
  decide +kernel

theorem piece_octal (b : UInt8) :
    Piece Elisp.strElement (.esc (.raw b.toNat)) [92, octalDigit (b.toNat / 64 % 8),
      octalDigit (b.toNat / 8 % 8), octalDigit (b.toNat % 8)] := by
  obtain ⟨-, v1, g1, g2, g3, g4, g5⟩ := octalDigit_facts (b.toNat / 64 % 8) (by omega)
  obtain ⟨p2, v2, -⟩ := octalDigit_facts (b.toNat / 8 % 8) (by omega)
  obtain ⟨p3, v3, -⟩ := octalDigit_facts (b.toNat % 8) (by omega)
  have hb : b.toNat < 256 := UInt8.toNat_lt b
  have hv : (b.toNat / 64 % 8 * 8 + b.toNat / 8 % 8) * 8 + b.toNat % 8 = b.toNat := by omega
  refine piece_backslash Elisp.strElement _ _ [_, _] ?_ fun rest => ?_
  · simp only [List.forall_mem_cons]
    exact ⟨p2, p3, by simp⟩
  · simp [Elisp.strElement, Elisp.escape, Elisp.isOct, g1, g2, g3, g4, g5, digitsVal, v1, v2, v3, hv,
      Elisp.numEsc, hb]

theorem raw_list (bs : List UInt8) :
    let es : List Elisp.StrEl := bs.map fun b => .esc (.raw b.toNat)
    es.any Elisp.StrEl.isRaw = !bs.isEmpty ∧ es.any Elisp.StrEl.nonAscii = false ∧
    es.flatMap Elisp.StrEl.bytes = bs := by
  induction bs with
  | nil => exact ⟨rfl, rfl, rfl⟩
  | cons b bs ih =>
    obtain ⟨-, i2, i3⟩ := ih
    refine ⟨by simp [Elisp.StrEl.isRaw], ?_, ?_⟩
    · simp [Elisp.StrEl.nonAscii, i2]
    · simp only [List.map_cons, List.flatMap_cons, Elisp.StrEl.bytes, UInt8.ofNat_toNat]
      rw [i3]; rfl

theorem reads_bytes (alpha : Nat → Bool) (ryu : Nat → List UInt8) (bs : List UInt8) :
    ReadsAs Elisp.lexeme (Elisp.classify alpha) (text pe ryu (.bytes bs)) (fold pe re (.bytes bs)) := by
  rw [text_bytes]
  refine (lexemes_elisp alpha).readsAs_pieces Elisp.strElement _ _ piece_octal bs _ ?_
  have hch := (flatMap_pieces Elisp.strElement _ _ piece_octal bs).2
  obtain ⟨f1, f2, f3⟩ := raw_list bs
  cases bs with
  | nil => rfl
  | cons b bs =>
    simp only [List.isEmpty_cons, Bool.not_false] at f1
    simp only [Elisp.classify, Elisp.strValue, hch, f1, f2, f3, Bool.not_false,
      Bool.and_self, if_true, fold, List.isEmpty_cons, Bool.false_and, Bool.false_eq_true, if_false]
    rfl

theorem constituent_atomByte {b : UInt8} (h : Elisp.isConstituent b = true) : AtomByte b :=
  atomByte_of_class (by decide +kernel) h

/-- the names that are symbols of the Emacs Lisp subset and are read as such: not `nil` (the empty
    list) and not starting with `:` (a keyword) -/
def SymbolOK (alpha : Nat → Bool) (n : List UInt8) : Prop :=
  Elisp.isSymbol alpha n = true ∧ n ≠ asc "nil" ∧ n.head? ≠ some 58

theorem isSymbol_parts {alpha : Nat → Bool} {n : List UInt8} (h : Elisp.isSymbol alpha n = true) :
    n ≠ [] ∧ (∀ b ∈ n, Elisp.isConstituent b = true) ∧ n.head? ≠ some 63 ∧ n ≠ [46] ∧
    Elisp.number n = none := by
  simp only [Elisp.isSymbol, Bool.and_eq_true, Bool.not_eq_true', List.all_eq_true, bne_iff_ne, ne_eq,
    Option.isNone_iff_eq_none] at h
  obtain ⟨⟨⟨⟨⟨h1, h2⟩, h3⟩, h4⟩, h5⟩, -⟩ := h
  exact ⟨by intro e; simp [e] at h1, h2, h3, h4, h5⟩

theorem reads_symbol (alpha : Nat → Bool) (ryu : Nat → List UInt8) (n : List UInt8)
    (h : SymbolOK alpha n) :
    ReadsAs Elisp.lexeme (Elisp.classify alpha) (text pe ryu (.symbol n)) (.symbol n) := by
  rw [text_symbol]
  obtain ⟨hs, hnil, h58⟩ := h
  obtain ⟨hne, hall, h63, h46, hnum⟩ := isSymbol_parts hs
  cases n with
  | nil => exact absurd rfl hne
  | cons x xs =>
    refine (lexemes_elisp alpha).readsAs_atom x xs _ (fun b hb => constituent_atomByte (hall b hb))
      (by simpa using h63) ?_
    have e46 : (x :: xs == [46]) = false := by simpa using h46
    have enil : (x :: xs == asc "nil") = false := by simpa using hnil
    have e58 : ((x :: xs).head? == some 58) = false := by simpa using h58
    simp only [Elisp.classify, e46, Bool.false_eq_true, if_false, Elisp.atomValue, enil, e58, hnum,
      hs, if_true]
    rfl

theorem reads_keyword (alpha : Nat → Bool) (ryu : Nat → List UInt8) (n : List UInt8)
    (h : Elisp.isSymbol alpha n = true) :
    ReadsAs Elisp.lexeme (Elisp.classify alpha) (text pe ryu (.keyword n)) (.keyword n) := by
  rw [text_keyword]
  show ReadsAs _ _ (58 :: n) _
  obtain ⟨-, hall, -, -, -⟩ := isSymbol_parts h
  refine (lexemes_elisp alpha).readsAs_atom 58 n _ ?_ (by decide) ?_
  · simp only [List.forall_mem_cons]
    exact ⟨by decide, fun b hb => constituent_atomByte (hall b hb)⟩
  · have e46 : (58 :: n == [46]) = false := by simp
    have enil : (58 :: n == asc "nil") = false := by rw [asc_nil]; simp
    simp only [Elisp.classify, e46, Bool.false_eq_true, if_false, Elisp.atomValue, enil,
      List.head?_cons, beq_self_eq_true, if_true, List.drop_succ_cons, List.drop_zero, h]
    rfl

/-- The leaves of the Emacs Lisp independent-reader theorem: Nil, booleans, `u64` / negative `i64`
    integers, doubles for which ryu meets its specification (no exactness window), scalar
    characters, valid UTF-8 strings, byte vectors with any content, symbols that are symbols of the
    subset other than `nil` and not starting with `:`, keywords whose names are such symbols. -/
def ElispLeaf (alpha : Nat → Bool) (ryu : Nat → List UInt8) : Value → Prop
  | .nil => True
  | .bool _ => True
  | .number (.pos n) => n ≤ u64Max
  | .number (.neg i) => i64Min ≤ i ∧ i < 0
  | .number (.flt b) => b < 2 ^ 64 ∧ ∃ d : Decimals.RyuDec, Decimals.RyuSpec ryu b d
  | .char c => isScalar c = true
  | .string x => Utf8.valid x = true
  | .symbol x => SymbolOK alpha x
  | .keyword x => Elisp.isSymbol alpha x = true
  | .bytes _ => True
  | _ => False

theorem reads_leaf (alpha : Nat → Bool) (ryu : Nat → List UInt8) (v : Value)
    (h : ElispLeaf alpha ryu v) :
    ReadsAs Elisp.lexeme (Elisp.classify alpha) (text pe ryu v) (fold pe re v) := by
  cases v with
  | nil => exact reads_nil alpha ryu
  | bool b => exact reads_bool alpha ryu b
  | number n =>
    cases n with
    | pos n => exact reads_posint (lexemes_elisp alpha) pe ryu n h
    | neg i => exact reads_negint (lexemes_elisp alpha) pe ryu i h.1 h.2
    | flt b => obtain ⟨hb, d, hd⟩ := h; exact reads_float (lexemes_elisp alpha) pe ryu b hb d hd
  | char c => exact reads_char alpha ryu c h
  | string x => exact reads_string alpha ryu x h
  | symbol x => exact reads_symbol alpha ryu x h
  | keyword x => exact reads_keyword alpha ryu x h
  | bytes x => exact reads_bytes alpha ryu x
  | null => exact absurd h id
  | cons a d => exact absurd h id
  | vector xs => exact absurd h id

theorem readElisp_eq (alpha : Nat → Bool) (bs : List UInt8) :
    readElispWith alpha bs = (lexItems Elisp.lexeme (Elisp.classify alpha) bs).bind build := by
  unfold readElispWith lexItems
  cases chunks Elisp.lexeme 0 bs <;> rfl

/-- The text written under the Emacs Lisp printer options is read by the independent Emacs Lisp
    reader as the documented folding of the value: one datum, nothing left over, any nesting depth. -/
theorem C02_independent_elisp_leaves (alpha : Nat → Bool) (ryu : Nat → List UInt8) (v : Value)
    (h : Leaves (ElispLeaf alpha ryu) v) :
    readElispWith alpha (Print.text Print.Options.elisp ryu v) =
      some (Spec.fold Print.Options.elisp Parse.Options.elisp v) := by
  rw [readElisp_eq]
  exact read_text Elisp.lexeme (Elisp.classify alpha) pe (brackets_elisp alpha) ryu re
    (ElispLeaf alpha ryu) (fun v _ _ _ hv => reads_leaf alpha ryu v hv) v h

/-- symbol and keyword names are symbols of the documented subset -/
def ElNames (alpha : Nat → Bool) : Value → Prop
  | .symbol x => Elisp.isSymbol alpha x = true
  | .keyword x => Elisp.isSymbol alpha x = true
  | _ => True

theorem symbolPlain_elisp (cfg : Parse.Cfg) (ho : cfg.opts = Parse.Options.elisp) (n : List UInt8)
    (h : Parse.symbolPlainFor cfg n = true) : n ≠ asc "nil" ∧ n.head? ≠ some 58 := by
  simp only [Parse.symbolPlainFor, ho, Parse.Options.elisp, Bool.and_eq_true, Bool.not_eq_true',
    Bool.and_eq_false_iff, Bool.true_and, Bool.false_and] at h
  obtain ⟨⟨⟨-, h58⟩, hnil⟩, -⟩ := h
  refine ⟨?_, ?_⟩
  · simpa using hnil
  · simpa using h58

theorem elispLeaf_of_plain (alpha : Nat → Bool) (cfg : Parse.Cfg) (ho : cfg.opts = Parse.Options.elisp)
    (ryu : Nat → List UInt8) (v : Value) (h : FullRT.LeafPlainForF pe cfg ryu v)
    (hn : v ≠ .null) (hid : ElNames alpha v) : ElispLeaf alpha ryu v := by
  cases v with
  | number n =>
    cases n with
    | pos n => exact h.1
    | neg i => exact h.1
    | flt b => obtain ⟨hb, d, hd, -⟩ := h; exact ⟨hb, d, hd⟩
  | symbol x =>
    obtain ⟨h1, h2⟩ := symbolPlain_elisp cfg ho x h.1
    exact ⟨hid, h1, h2⟩
  | keyword x => exact hid
  | nil => trivial
  | bool b => trivial
  | char c => exact h.1
  | string x => exact h.1
  | bytes x => trivial
  | null => exact absurd rfl hn
  | cons a d => exact h.1
  | vector xs => exact h.1

/-- Under the hypotheses of the Emacs Lisp round trip through the crate's own parser (`AllPlainForF`
    for the pair `Print.Options.elisp` / `Parse.Options.elisp`) WITHOUT the nesting bound, plus:
    names are symbols of the documented subset. -/
theorem C02_independent_elisp (alpha : Nat → Bool) (cfg : Parse.Cfg)
    (ho : cfg.opts = Parse.Options.elisp) (ryu : Nat → List UInt8) (v : Value)
    (h : FullRT.AllPlainForF Print.Options.elisp cfg ryu v)
    (hid : FullRT.AllLeaves (ElNames alpha) v) :
    readElispWith alpha (Print.text Print.Options.elisp ryu v) =
      some (Spec.fold Print.Options.elisp Parse.Options.elisp v) :=
  C02_independent_elisp_leaves alpha ryu v
    (leaves_of_allLeaves (fun v hn hp => elispLeaf_of_plain alpha cfg ho ryu v hp hn) v h hid)

/-! ## Witnesses: why the names must be symbols of the documented subset

As in SpecRT.lean: the printer writes names verbatim and the crate's parser takes every run of
non-terminator bytes for a symbol.  The values below satisfy the hypothesis of the crate-parser round
trip for the Emacs Lisp pair (`AllPlainForF`, so `C02_roundtrip_full` applies), yet the text is not
that symbol for a reader of Emacs Lisp.  Checked against the real crate:
`to_string_custom(Value::symbol(".5"), elisp) == ".5"`, read back by the crate as `Symbol(".5")`;
Emacs reads `.5` as the float 0.5. -/

theorem plain_symbol (ryu : Nat → List UInt8) (x : List UInt8)
    (h : Parse.symbolPlainFor Parse.elCfg x = true ∧ Parse.ListRT.dotHeadOk x = true) :
    FullRT.AllPlainForF pe Parse.elCfg ryu (.symbol x) := by
  simpa only [FullRT.AllPlainForF, FullRT.AllLeaves, FullRT.LeafPlainForF, Parse.ListRT.LeafPlainFor,
    Parse.AtomPlainFor, Parse.ListRT.dotOkP] using h

theorem witness_dot5 (alpha : Nat → Bool) (ryu : Nat → List UInt8) :
    FullRT.AllPlainForF pe Parse.elCfg ryu (.symbol (asc ".5")) ∧
    readElispWith alpha (Print.text Print.Options.elisp ryu (.symbol (asc ".5"))) =
      some (.number (.flt 0x3FE0000000000000)) :=
  ⟨plain_symbol ryu _ (by decide), by rw [text_symbol]; rfl⟩

theorem witness_quote (alpha : Nat → Bool) (ryu : Nat → List UInt8) :
    FullRT.AllPlainForF pe Parse.elCfg ryu (.symbol (asc "a\"b")) ∧
    readElispWith alpha (Print.text Print.Options.elisp ryu (.symbol (asc "a\"b"))) = none :=
  ⟨plain_symbol ryu _ (by decide), by rw [text_symbol]; rfl⟩

theorem witness_hash (alpha : Nat → Bool) (ryu : Nat → List UInt8) :
    FullRT.AllPlainForF pe Parse.elCfg ryu (.symbol (asc "a#b")) ∧
    readElispWith alpha (Print.text Print.Options.elisp ryu (.symbol (asc "a#b"))) = none :=
  ⟨plain_symbol ryu _ (by decide), by rw [text_symbol]; rfl⟩

/-- `(:k [1.5 "\001\310" nil 1+] t ?\( "a\u0001\n" "" . -100.0)` as a value: keyword, bracket vector,
    float, unibyte string, Nil, a digit-initial symbol, true, a character, a string with a control
    character, an empty byte vector, a dotted float tail -/
def exValue : Value :=
  .cons (.keyword (asc "k")) (.cons (.vector [.number (.flt 0x3FF8000000000000), .bytes [1, 200], .nil,
    .symbol (asc "1+")]) (.cons (.bool true) (.cons (.char 40) (.cons (.string [97, 1, 10])
      (.cons (.bytes []) (.number (.flt 0xC059000000000000)))))))

open Decimals in
theorem exValue_leaves (alpha : Nat → Bool) : Leaves (ElispLeaf alpha ryuEx) exValue := by
  simp only [exValue, Leaves, LeavesSeq, ElispLeaf, SymbolOK, and_true, true_and]
  refine ⟨rfl, ⟨⟨by decide, ⟨false, 15, -1, .mid⟩, ?_⟩, rfl, by decide, by decide⟩, by decide, by decide,
    ⟨by decide, ⟨true, 1, 2, .intDot0⟩, ?_⟩⟩
  all_goals exact ⟨by decide +kernel, by decide +kernel, by decide +kernel, by decide +kernel⟩

example (alpha : Nat → Bool) :
    readElispWith alpha (Print.text Print.Options.elisp Decimals.ryuEx exValue) =
      some (Spec.fold Print.Options.elisp Parse.Options.elisp exValue) :=
  C02_independent_elisp_leaves alpha _ _ (exValue_leaves alpha)

example : Print.text Print.Options.elisp Decimals.ryuEx exValue =
    asc "(:k [1.5 \"\\001\\310\" nil 1+] t ?\\( \"a\\u0001\\n\" \"\" . -100.0)" := by decide +kernel

/-- the folding on this value: Nil becomes `()`, true the symbol `t`, the empty byte vector `""` -/
example : Spec.fold Print.Options.elisp Parse.Options.elisp exValue =
    .cons (.keyword (asc "k")) (.cons (.vector [.number (.flt 0x3FF8000000000000), .bytes [1, 200],
      .null, .symbol (asc "1+")]) (.cons (.symbol (asc "t")) (.cons (.char 40)
      (.cons (.string [97, 1, 10]) (.cons (.string []) (.number (.flt 0xC059000000000000))))))) := rfl

/-- the reader itself, run by the kernel on that text (compared with `Value.beq`) -/
example : (readElispWith (fun _ => false)
    (asc "(:k [1.5 \"\\001\\310\" nil 1+] t ?\\( \"a\\u0001\\n\" \"\" . -100.0)")).map
      (Value.beq · (Spec.fold Print.Options.elisp Parse.Options.elisp exValue)) = some true := by
  decide +kernel

/-- the hypotheses of `C02_independent_elisp` are satisfiable together -/
example : FullRT.AllPlainForF pe Parse.elCfg Decimals.ryuEx
      (.cons (.symbol (asc "setq")) (.cons (.keyword (asc "k")) (.string (asc "s")))) ∧
    FullRT.AllLeaves (ElNames (fun _ => false))
      (.cons (.symbol (asc "setq")) (.cons (.keyword (asc "k")) (.string (asc "s")))) := by
  simp only [FullRT.AllPlainForF, FullRT.AllLeaves, FullRT.LeafPlainForF, Parse.ListRT.LeafPlainFor,
    Parse.AtomPlainFor, Parse.ListRT.dotOkP, ElNames]
  exact ⟨⟨by decide, by decide, by decide⟩, by decide +kernel, by decide +kernel, trivial⟩

#print axioms C02_independent_elisp_leaves
#print axioms C02_independent_elisp
#print axioms witness_dot5
#print axioms witness_quote
#print axioms witness_hash

end El
end SpecRT
end Lexpr
