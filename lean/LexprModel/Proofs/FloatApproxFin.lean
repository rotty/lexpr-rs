/-
  FloatApproxFin — every float the parser returns is a finite double (C05 "never infinity or NaN",
  lifted from `f64_from_parts` to numbers, tokens and values).

  `Numbers.partsMag_finite` (behind `C05_never_inf`) is about `f64_from_parts`; here the fact is
  carried through the three float scanners (`parse_decimal`, `parse_exponent`,
  `parse_long_integer`, each by following its definition with the rules of `Parse.Post Q m`,
  "every value `m` returns satisfies `Q`"), the functions that dispatch to them (an instance of
  `Image.NumLeaves`), `parse_token`, and `next_value` / `parse_list` / `parse_vector` (an instance
  of `ReaderInv`).  `nextValue_floats_finite`: all float leaves of a value returned by
  `next_value` satisfy `FinF` (finite, `< 2^64`), for every source mode, provided the `POW10`
  table holds finite doubles `≥ 1.0` (`TabFin`; true of the real table).  Used to discharge the
  finiteness part of `RyuSpecOnly` in C13 (`C13_reparse_approx_fin`, `FloatApproxImage.lean`).
-/
import LexprModel.Proofs.FloatApprox
import LexprModel.Proofs.Image
import LexprModel.Proofs.ReaderWalk
namespace Lexpr
namespace FloatApprox
open Parse F64 Numbers Decimals

/-- a finite double given as 64 bits -/
def FinF (g : Nat) : Prop := isFinite g = true ∧ g < 2 ^ 64

/-- the `POW10` entries are finite doubles `≥ 1.0` (what `Numbers.C05_never_inf` asks for) -/
def TabFin (cfg : Cfg) : Prop :=
  cfg.fast = true → ∀ k, k ≤ 308 → oneBits ≤ cfg.pow10 k ∧ cfg.pow10 k < infBits

theorem tabFin_of_rounded (cfg : Cfg)
    (h : cfg.fast = true → ∀ k, k ≤ 308 → cfg.pow10 k = rn (10 ^ k) 1) : TabFin cfg := by
  intro hf k hk
  obtain ⟨a, b, _⟩ := Accuracy.tab_facts (h hf) hk
  exact ⟨b, a⟩

def NumFin : Number → Prop
  | .flt g => FinF g
  | _ => True

theorem finF_signed (pos : Bool) {f : Nat} (hf : f < infBits) : FinF (signed pos f) :=
  ⟨(signed_finite pos hf).1, (signed_props pos hf).2.1⟩

theorem f64FromParts_fin {cfg : Cfg} (ht : TabFin cfg) {pos : Bool} {sig : Nat} {e : Int}
    (hs : sig ≤ u64Max) : Post FinF (f64FromParts cfg pos sig e) := fun _ _ _ h => by
  obtain ⟨g, hg, rfl, -⟩ := f64FromParts_ok h
  exact finF_signed pos (partsMag_finite hs ht hg)

theorem parseExponentOverflow_fin {pos : Bool} {sig : Nat} {posExp : Bool} :
    Post FinF (parseExponentOverflow pos sig posExp) := by
  unfold parseExponentOverflow
  refine .ite (fun _ => .errAt _) fun _ => .bind_any fun _ => .pure ?_
  cases pos <;> exact ⟨by decide, by decide⟩

theorem exponentLoop_fin {cfg : Cfg} (ht : TabFin cfg) {pos : Bool} {sig : Nat} {startExp : Int}
    {posExp : Bool} (hs : sig ≤ u64Max) :
    ∀ f exp, Post FinF (exponentLoop cfg pos sig startExp posExp f exp) := by
  intro f
  induction f with
  | zero => intro exp; unfold exponentLoop; exact .outOfFuel
  | succ f ih =>
    intro exp
    unfold exponentLoop
    exact .bind_any fun c => .ite (fun _ => .bind_any fun _ =>
      .ite (fun _ => parseExponentOverflow_fin) fun _ => ih _) fun _ => f64FromParts_fin ht hs

theorem parseExponent_fin {cfg : Cfg} (ht : TabFin cfg) {fuel : Nat} {pos : Bool} {sig : Nat}
    {startExp : Int} (hs : sig ≤ u64Max) : Post FinF (parseExponent cfg fuel pos sig startExp) := by
  unfold parseExponent
  refine .bind_any fun _ => .bind_any fun c => .bind_any fun posExp => .bind_any fun a => ?_
  cases a with
  | none => exact .errAt _
  | some d => exact .ite (fun _ => exponentLoop_fin ht hs _ _) fun _ => .errAt _

theorem decimalLoop_le : ∀ (f sig : Nat) (exp : Int) (zeros : Nat) (any : Bool), sig ≤ u64Max →
    Post (fun r => r.1 ≤ u64Max) (decimalLoop f sig exp zeros any) := by
  intro f
  induction f with
  | zero => intro sig exp zeros any _; unfold decimalLoop; exact .outOfFuel
  | succ f ih =>
    intro sig exp zeros any hs
    unfold decimalLoop
    refine .bind_any fun c => .ite (fun hdig => .bind_any fun _ =>
      .ite (fun _ => ih _ _ _ _ hs) fun _ => ?_) fun _ => .pure hs
    have hle := (shiftIn_bounds zeros sig exp (c.toNat - 48) (isDigit_val c hdig).1 hs).1
    rcases hsh : shiftIn sig exp zeros (c.toNat - 48) with ⟨sig', exp', fl⟩
    rw [hsh] at hle
    cases fl with
    | true => exact .bind_any fun _ => .pure hle
    | false => exact ih _ _ _ _ hle

theorem parseDecimal_fin {cfg : Cfg} (ht : TabFin cfg) {fuel : Nat} {pos : Bool} {sig : Nat}
    {exp : Int} (hs : sig ≤ u64Max) : Post FinF (parseDecimal cfg fuel pos sig exp) := by
  unfold parseDecimal
  refine .bind_any fun _ => .bind (decimalLoop_le _ _ _ _ _ hs) fun r hr => ?_
  obtain ⟨sig', exp', any⟩ := r
  refine .ite (fun _ => .bind_any fun a => ?_) fun _ => .bind_any fun c =>
    .ite (fun _ => parseExponent_fin ht hr) fun _ => f64FromParts_fin ht hr
  cases a <;> exact .peekErr _

theorem parseLongInteger_fin {cfg : Cfg} (ht : TabFin cfg) {radix : Nat} {pos : Bool} {sig : Nat}
    (hs : sig ≤ u64Max) : ∀ f exp, Post FinF (parseLongInteger cfg radix pos sig f exp) := by
  intro f
  induction f with
  | zero => intro exp; unfold parseLongInteger; exact .outOfFuel
  | succ f ih =>
    intro exp
    unfold parseLongInteger
    refine .bind_any fun c => ?_
    cases digitVal radix c with
    | some d =>
      exact .ite (fun _ => .peekErr _) fun _ => .bind_any fun _ =>
        .ite (fun _ => .panicAt _) fun _ => ih _
    | none =>
      refine .ite (fun _ => .ite (fun _ => .peekErr _) fun _ => parseDecimal_fin ht hs) fun _ =>
        .ite (fun _ => .ite (fun _ => .peekErr _) fun _ => parseExponent_fin ht hs) fun _ =>
        .ite (fun _ => .ite (fun _ => .errAt _) fun hninf => .pure ?_) fun _ =>
        f64FromParts_fin ht hs
      -- the product of the significand and a power of the radix, or infinity outright
      refine finF_signed pos (lt_inf_of_not_isInf ?_ (Bool.eq_false_iff.mpr hninf))
      split
      · exact mulPos_le_inf _ _
      · exact Nat.le_refl _

/-- finiteness rests on the three float scanners (above) and on the significand fitting `u64` -/
theorem numFin_leaves {cfg : Cfg} (ht : TabFin cfg) : Image.NumLeaves cfg FinF NumFin where
  dec hs h := parseDecimal_fin ht hs _ _ _ h
  exp hs h := parseExponent_fin ht hs _ _ _ h
  long hs h := parseLongInteger_fin ht hs _ _ _ _ _ h
  flt _ hf := hf
  pos _ _ := trivial
  negF _ hs := finF_signed false (ofNat_finite hs)
  negI _ _ _ := by unfold Number.ofSigned; split <;> trivial

def TokFin : Token → Prop
  | .number n => NumFin n
  | _ => True

/-- **every float token `parse_token` returns is finite** (all source modes): a number comes from
    `parse_radix_token`, `parse_num_token` or the sub-parser of the leading-digit path
    (`parseToken_number`) -/
theorem parseToken_fin {cfg : Cfg} (ht : TabFin cfg) {fuel : Nat} {pk : UInt8} :
    Post TokFin (parseToken cfg fuel pk) := by
  intro s tok s' h
  cases tok with
  | number n =>
    cases C08.parseToken_number h with
    | radix c radix s1 _ _ hm hn =>
      exact Image.parseRadixToken_leaf (numFin_leaves ht) (radixOfMark_pos hm) hn
    | num _ _ _ _ _ hn => exact Image.parseNumToken_leaf (numFin_leaves ht) hn
    | whole _ _ _ _ hw => exact Image.wholeNumber_leaf (numFin_leaves ht) hw
  | _ => trivial

def LeafFin : Value → Prop
  | .number n => NumFin n
  | _ => True

theorem atom_fin {tok : Token} {v : Value} (ht : TokFin tok) (h : tok.atom = some v) :
    Image.AllAtoms LeafFin v := by
  cases tok <;> simp only [Token.atom, Option.some.injEq] at h <;> (try cases h) <;>
    first
      | exact ht
      | exact True.intro

theorem symbolValue_fin (o : Options) (name : List UInt8) :
    Image.AllAtoms LeafFin (symbolValue o name) := by
  unfold symbolValue
  rcases symbolToken_cases o name with hc | hc <;> rw [hc] <;> exact True.intro

/-- no state invariant, no index: `ReaderInv` of `ReaderWalk` -/
theorem finWalk (cfg : Cfg) (ht : TabFin cfg) :
    ReaderInv cfg (fun (_ : Unit) _ => True) (fun _ _ => True) TokFin (fun _ => True)
      (fun _ => Image.AllAtoms LeafFin) (fun _ => Image.AllAtoms LeafFin)
      (fun _ => Image.AllAtomsSeq LeafFin) where
  ws _ _ _ _ _ _ := trivial
  tok _ _ _ _ _ _ h _ := ⟨trivial, parseToken_fin ht _ _ _ h⟩
  clBytes _ := trivial
  clVec _ := trivial
  clList _ := trivial
  byteList _ _ _ _ _ _ _ _ _ := trivial
  enter _ _ _ _ _ _ := ⟨(), trivial, trivial⟩
  leave _ _ _ _ _ _ _ _ := trivial
  endSeq _ _ _ _ _ _ _ _ := trivial
  dot _ _ _ _ _ _ := trivial
  peek _ _ _ _ _ _ := trivial
  dotsym _ _ _ _ _ _ := ⟨trivial, symbolValue_fin _ _⟩
  atom hq h := atom_fin hq h
  bytes := True.intro
  vector _ h := h
  list _ h := h
  quote q _ h := by
    simp only [Value.list, Value.append, Image.AllAtoms, and_true]; exact ⟨True.intro, h⟩
  nil := True.intro
  snoc h hv := Image.allAtomsSeq_snoc _ _ _ h hv
  tnull := True.intro
  append h ht := Image.allAtoms_append _ _ _ h ht
  tail h := h

/-- Every float leaf of a value returned by `next_value` is a
    finite double (`FinF`: `isFinite`, `< 2^64`) — every source mode, every state, every option
    set — when the `POW10` table holds finite doubles `≥ 1.0`. -/
theorem nextValue_floats_finite {cfg : Cfg} (ht : TabFin cfg) {fuel : Nat} {s s' : St} {v : Value}
    (h : nextValue cfg fuel s = .ok (some v) s') : Image.AllAtoms LeafFin v :=
  (((finWalk cfg ht).readers fuel).1 () _ _ _ h trivial).2 v rfl

/-- the same for the public entry points -/
theorem fromTrait_floats_finite {cfg : Cfg} (ht : TabFin cfg) {s s' : St} {v : Value}
    (h : fromTrait cfg s = .ok v s') : Image.AllAtoms LeafFin v := by
  obtain ⟨f, s1, hnv⟩ := Image.fromTrait_inv h
  exact nextValue_floats_finite ht hnv

/-- `1e400` would be infinite: it is rejected, and `1e-400` is `+0.0` -/
example : fastParts pow10Tab 3 (ofNat 1) 400 = none ∧
    fastParts pow10Tab 3 (ofNat 1) (-400) = some 0 := by decide +kernel

#print axioms parseToken_fin
#print axioms nextValue_floats_finite
#print axioms fromTrait_floats_finite

end FloatApprox
end Lexpr
