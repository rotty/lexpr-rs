/-
  C06, read faults on the stream source: the parser proper (`next_value`, `next_datum`,
  lists, vectors, the public entry points).  `Loc` is closed under the two shapes in which
  `next_value` / `next_datum` capture errors (`Loc.deeperSeq`, `Loc.deeper`); the datum functions
  are walked once, the value functions are the datum functions with the value mapped.
-/
import LexprModel.Proofs.FaultParse
import LexprModel.Proofs.ParserProg
import LexprModel.Proofs.DatumSim
import LexprModel.Proofs.RunLexer
namespace Lexpr
namespace Parse

/-! ## the dead parser: after the fault every read reports the fault again -/

theorem parseWhitespace_dead {t : St} (h : FDead t) :
    ∃ t', parseWhitespace t = .err .io t' ∧ FDead t' := by
  have hd := dead_consume h.2 (wsLen t.rd.rest) (by simp [h.1])
  refine ⟨_, ?_, hd⟩
  unfold parseWhitespace
  simp only [bind_apply, getRest, consumeN]
  exact peek_dead hd.1 hd.2

theorem dead_bind {α β : Type} {m : P α} {f : α → P β} {t : St}
    (h : ∃ t', m t = .err .io t' ∧ FDead t') : ∃ t', (m >>= f) t = .err .io t' ∧ FDead t' := by
  obtain ⟨t', h1, h2⟩ := h
  exact ⟨t', by rw [bind_apply, h1], h2⟩

theorem endSeq_dead (close : UInt8) {t : St} (h : FDead t) :
    ∃ t', endSeq close t = .err .io t' ∧ FDead t' := dead_bind (parseWhitespace_dead h)

theorem expectEnd_dead {t : St} (h : FDead t) : ∃ t', expectEnd t = .err .io t' ∧ FDead t' :=
  dead_bind (parseWhitespace_dead h)

theorem nextValue_dead (cfg : Cfg) (f : Nat) {t : St} (h : FDead t) :
    ∃ t', nextValue cfg (f + 1) t = .err .io t' ∧ FDead t' := by
  unfold nextValue; exact dead_bind (parseWhitespace_dead h)

theorem nextDatum_dead (cfg : Cfg) (f : Nat) {t : St} (h : FDead t) :
    ∃ t', nextDatum cfg (f + 1) t = .err .io t' ∧ FDead t' := by
  unfold nextDatum; exact dead_bind (parseWhitespace_dead h)

theorem nextValueTop_dead (cfg : Cfg) {t : St} (h : FDead t) :
    ∃ t', nextValueTop cfg t = .err .io t' ∧ FDead t' := by
  rw [nextValueTop_eq]
  exact nextValue_dead cfg _ h

theorem nextDatumTop_dead (cfg : Cfg) {t : St} (h : FDead t) :
    ∃ t', nextDatumTop cfg t = .err .io t' ∧ FDead t' := by
  rw [nextDatumTop_eq]
  exact nextDatum_dead cfg _ h

theorem expectValue_dead (cfg : Cfg) {t : St} (h : FDead t) :
    ∃ t', expectValue cfg t = .err .io t' ∧ FDead t' := dead_bind (nextValueTop_dead cfg h)

theorem expectDatum_dead (cfg : Cfg) {t : St} (h : FDead t) :
    ∃ t', expectDatum cfg t = .err .io t' ∧ FDead t' := dead_bind (nextDatumTop_dead cfg h)

/-- `end_seq` neither panics nor needs fuel -/
theorem endSeq_total (close : UInt8) (s : St) : ∃ r s', attempt (endSeq close) s = .ok r s' := by
  unfold attempt
  cases h : endSeq close s with
  | ok a s' => exact ⟨_, _, rfl⟩
  | err e s' => exact ⟨_, _, rfl⟩
  | panic p => exact absurd h (endSeq_run.no_panic id p)
  | fuel => exact absurd h (endSeq_run.no_fuel id)

section
variable {tail : List UInt8} {α β : Type}

theorem RestNonInc.attempt {m : P α} (hm : RestNonInc m) : RestNonInc (attempt m) := by
  intro s s' he
  unfold Parse.attempt at he
  cases hms : m s with
  | ok a s1 =>
    rw [hms] at he
    rcases he with ⟨a', h⟩ | ⟨e', h⟩ <;> cases h
    exact hm s _ (.inl ⟨_, hms⟩)
  | err e s1 =>
    rw [hms] at he
    rcases he with ⟨a', h⟩ | ⟨e', h⟩ <;> cases h
    exact hm s _ (.inr ⟨_, hms⟩)
  | panic p => rw [hms] at he; rcases he with ⟨a', h⟩ | ⟨e', h⟩ <;> cases h
  | fuel => rw [hms] at he; rcases he with ⟨a', h⟩ | ⟨e', h⟩ <;> cases h

theorem RestNonInc.liftExcept (x : Except Err α) : RestNonInc (liftExcept x) :=
  .of_sim PrefixDet.Sim.liftExcept

theorem RestNonInc.enter : RestNonInc enter := .of_sim PrefixDet.enter_s

/-- the fault-free side of a block whose body has read beyond the cut -/
theorem FBeyond.attempt_bind {body : P α} {f : Except Err α → P β} {s : St}
    (hb : FBeyond tail (body s)) (hf : ∀ r, RestNonInc (f r)) :
    FBeyond tail (P.bind (attempt body) f s) := by
  intro s' he
  unfold P.bind Parse.attempt at he
  cases hbs : body s with
  | ok a s1 => rw [hbs] at he; exact Nat.le_trans (hf _ s1 s' he) (hb s1 (.inl ⟨a, hbs⟩))
  | err e s1 => rw [hbs] at he; exact Nat.le_trans (hf _ s1 s' he) (hb s1 (.inr ⟨e, hbs⟩))
  | panic p => rw [hbs] at he; rcases he with ⟨a', h⟩ | ⟨e', h⟩ <;> cases h
  | fuel => rw [hbs] at he; rcases he with ⟨a', h⟩ | ⟨e', h⟩ <;> cases h

/-- `attempt body >>= g`.  `attempt` turns the `Err.io` of a run that has hit the fault into a
    value, so `Loc` is not closed under it; the block is, if `g` throws a captured error again
    once the faulty reader is dead: (`hio`) the read error itself, or an error that the
    fault-free run raises whatever its body gave; (`herr`) the same error on both sides. -/
theorem Loc.attempt_bind {b c d : Bool} {m₁ m₂ : P α} {g₁ g₂ : Except Err α → P β}
    (hm : Loc True tail b c m₁ m₂) (hg : ∀ x, Loc True tail false d (g₁ x) (g₂ x))
    (hio : ∀ t, FDead t → ∃ e t', g₂ (.error .io) t = .err e t' ∧ FDead t' ∧
      (e = .io ∨ ((∀ x s, ∃ s', g₁ x s = .err e s') ∧ ∀ s, ∃ x s', attempt m₁ s = .ok x s')))
    (herr : ∀ e s t, FDead t →
      ∃ e' s' t', g₁ (.error e) s = .err e' s' ∧ g₂ (.error e) t = .err e' t' ∧ FDead t') :
    Loc True tail b d (attempt m₁ >>= g₁) (attempt m₂ >>= g₂) := by
  have hfr : ∀ x, RestNonInc (g₁ x) := fun x => (hg x).2
  refine ⟨fun s t hs hb => ?_, hm.2.attempt.bind hfr⟩
  have h := hm.1 s t hs hb
  show LocRes True tail d (P.bind (attempt m₁) g₁ s) (P.bind (attempt m₂) g₂ t)
  rcases h with ⟨hf, _⟩ | ⟨t', e, hd, hbey⟩ | hc
  · exact .inl ⟨by unfold P.bind Parse.attempt; rw [hf], .inl trivial⟩
  · have hB := FBeyond.attempt_bind hbey hfr
    obtain ⟨e', t'', eg, hd', hc⟩ := hio t' hd
    have hr : P.bind (attempt m₂) g₂ t = .err e' t'' := by
      unfold P.bind Parse.attempt; rw [e]; exact eg
    rcases hc with rfl | ⟨hG, hM⟩
    · exact .inr (.inl ⟨t'', hr, hd', hB⟩)
    · obtain ⟨x, s1, hx⟩ := hM s
      obtain ⟨s2, hs2⟩ := hG x s1
      have hl : P.bind (attempt m₁) g₁ s = .err e' s2 := by unfold P.bind; rw [hx]; exact hs2
      rw [hl] at hB ⊢
      rw [hr]
      exact .inr (.inr (.err (.inr ⟨trivial, hd', hB s2 (.inr ⟨e', rfl⟩)⟩)))
  · unfold P.bind Parse.attempt
    generalize m₁ s = r₁ at hc ⊢
    generalize m₂ t = r₂ at hc ⊢
    cases hc with
    | ok hs' _ => exact (hg _).1 _ _ hs' nofun
    | @err e s1 t1 hd =>
      rcases hd with hs' | ⟨_, hd, hl⟩
      · exact (hg _).1 _ _ hs' nofun
      · obtain ⟨e', s', t', e₁, e₂, hd'⟩ := herr e s1 t1 hd
        show LocRes True tail d (g₁ (.error e) s1) (g₂ (.error e) t1)
        rw [e₁, e₂]
        exact .inr (.inr (.err (.inr ⟨trivial, hd',
          Nat.le_trans (hfr _ s1 s' (.inr ⟨e', e₁⟩)) hl⟩)))
    | panic => exact .inr (.inr .panic)

theorem Loc.raise {b d : Bool} (e : Err) :
    Loc True tail b d (liftExcept (.error e) : P β) (liftExcept (.error e)) :=
  ⟨fun _ _ hs _ => .err rfl hs, .liftExcept _⟩

/-- what follows the body of a list or vector, on a dead reader: `end_seq` fails again -/
theorem leave_endSeq_dead (close : UInt8) (K : Except Err Unit → P β) {t : St} (hd : FDead t) :
    ∃ t', (leave >>= fun _ => attempt (endSeq close) >>= K) t = K (.error .io) t' ∧ FDead t' := by
  obtain ⟨t', h1, h2⟩ := endSeq_dead close (t := { t with depth := t.depth + 1 }) hd
  refine ⟨t', ?_, h2⟩
  show P.bind (attempt (endSeq close)) K { t with depth := t.depth + 1 } = _
  unfold P.bind Parse.attempt
  rw [h1]

theorem leave_endSeq_total (close : UInt8) (K : Except Err Unit → P β) (s : St) :
    ∃ x s', (leave >>= fun _ => attempt (endSeq close) >>= K) s = K x s' := by
  obtain ⟨x, s', h⟩ := endSeq_total close { s with depth := s.depth + 1 }
  refine ⟨x, s', ?_⟩
  show P.bind (attempt (endSeq close)) K { s with depth := s.depth + 1 } = _
  unfold P.bind
  rw [h]

theorem Loc.deeperSeq {b c d : Bool} (close : UInt8) {m₁ m₂ : P α} {k₁ k₂ : α → P β}
    (hm : Loc True tail false c m₁ m₂) (hk : ∀ a, Loc True tail false d (k₁ a) (k₂ a)) :
    Loc True tail b d (deeperSeq close m₁ k₁) (deeperSeq close m₂ k₂) := by
  unfold Parse.deeperSeq
  refine Loc.bind Loc.enter fun _ => Loc.attempt_bind hm (fun ret =>
    Loc.bind Loc.leave fun _ => Loc.attempt_bind (Loc.of_held (.endSeq close)) (fun es => ?_)
      (fun t hd => ?_) (fun e s t hd => ?_)) (fun t hd => ?_) (fun e s t hd => ?_)
  · rcases ret with e0 | a <;> rcases es with e | ⟨⟨⟩⟩
    · exact Loc.raise e0
    · exact Loc.raise e0
    · exact Loc.raise e
    · exact hk a
  · rcases ret with e0 | a
    · exact ⟨e0, t, rfl, hd, .inr ⟨fun x s => by rcases x with e | ⟨⟨⟩⟩ <;> exact ⟨s, rfl⟩,
        endSeq_total close⟩⟩
    · exact ⟨.io, t, rfl, hd, .inl rfl⟩
  · rcases ret with e0 | a
    · exact ⟨e0, s, t, rfl, rfl, hd⟩
    · exact ⟨e, s, t, rfl, rfl, hd⟩
  · obtain ⟨t', h1, h2⟩ := leave_endSeq_dead close _ hd
    exact ⟨.io, t', h1, h2, .inl rfl⟩
  · obtain ⟨t', h1, h2⟩ := leave_endSeq_dead close _ hd
    obtain ⟨x, s', h3⟩ := leave_endSeq_total close _ s
    refine ⟨e, s', t', h3.trans ?_, h1, h2⟩
    rcases x with e' | ⟨⟨⟩⟩ <;> rfl

theorem Loc.deeper {b c d : Bool} {m₁ m₂ : P α} {k₁ k₂ : α → P β}
    (hm : Loc True tail false c m₁ m₂) (hk : ∀ a, Loc True tail false d (k₁ a) (k₂ a)) :
    Loc True tail b d (deeper m₁ k₁) (deeper m₂ k₂) := by
  unfold Parse.deeper
  refine Loc.bind Loc.enter fun _ => Loc.attempt_bind hm (fun ret =>
    Loc.bind Loc.leave fun _ => ?_) (fun t hd => ⟨.io, _, rfl, hd, .inl rfl⟩)
    (fun e s t hd => ⟨e, _, _, rfl, rfl, hd⟩)
  rcases ret with e | a
  · exact Loc.raise e
  · exact hk a

/-- `token_fuel`: the faulty side computes a smaller fuel -/
theorem Loc.bind_tokenFuel {b d : Bool} {f₁ f₂ : Nat → P β}
    (hf : ∀ n n', n' ≤ n → Loc True tail b d (f₁ n) (f₂ n')) :
    Loc True tail b d (Parse.tokenFuel >>= f₁) (Parse.tokenFuel >>= f₂) :=
  ⟨fun s t h hb => (hf _ _ (by rw [h.rest]; simp)).1 s t h hb,
    RestNonInc.tokenFuel.bind fun n => (hf n n (Nat.le_refl n)).2⟩

/-- a byte that is held need not be -/
theorem Loc.held {c : Bool} {m₁ m₂ : P α} (h : Loc True tail false c m₁ m₂) :
    Loc True tail true c m₁ m₂ :=
  ⟨fun s t hs _ => h.1 s t hs nofun, h.2⟩

end

section
variable {tail : List UInt8} {cfg : Cfg} {f g : Nat}
  (ih : Loc True tail false false (nextDatum cfg g) (nextDatum cfg f) ∧
    (∀ term acc ms, Loc True tail false false (parseListMeta cfg g term acc ms)
      (parseListMeta cfg f term acc ms)) ∧
    (∀ term acc ms, Loc True tail false false (parseVectorMeta cfg g term acc ms)
      (parseVectorMeta cfg f term acc ms)))
include ih

theorem Loc.nextDatum_succ :
    Loc True tail false false (nextDatum cfg (g + 1)) (nextDatum cfg (f + 1)) := by
  rw [Parse.nextDatum_succ, Parse.nextDatum_succ]
  refine Loc.bind (Loc.of_held .parseWhitespace) fun o => ?_
  cases o with
  | none => exact Loc.leaf (.pure _)
  | some pk =>
    refine Loc.bind Loc.getPos fun start => Loc.bind_tokenFuel fun n n' hn =>
      Loc.bind (Loc.of_held (.parseToken trivial cfg pk (ge_rel hn))) fun tok => ?_
    cases tok
    case byteVecOpen close =>
      exact Loc.bind (Loc.of_held (.parseByteList cfg close (ge_rel hn))) fun _ =>
        Loc.bind Loc.getPos fun _ => Loc.leaf (.pure _)
    case vecOpen close =>
      exact Loc.deeperSeq close (ih.2.2 _ _ _) fun _ => Loc.bind Loc.getPos fun _ => Loc.leaf (.pure _)
    case listOpen close =>
      refine Loc.deeperSeq close (ih.2.1 _ _ _) fun r => ?_
      rcases r with _ | ⟨v, c, d⟩ <;> exact Loc.bind Loc.getPos fun _ => Loc.leaf (.pure _)
    case quotation q =>
      refine Loc.bind Loc.getPos fun _ => Loc.deeper ih.1 fun r => ?_
      cases r with
      | none => exact Loc.leaf (.peekErr _)
      | some d => exact Loc.leaf (.pure _)
    all_goals first
      | exact Loc.bind Loc.getPos fun _ => Loc.leaf (.pure _)
      | exact Loc.leaf (.panicAt _)

theorem Loc.parseVectorMeta_succ (term : UInt8) (acc : List Value) (ms : List SpanInfo) :
    Loc True tail false false (parseVectorMeta cfg (g + 1) term acc ms)
      (parseVectorMeta cfg (f + 1) term acc ms) := by
  rw [parseVectorMeta, parseVectorMeta]
  refine Loc.bind (Loc.of_held .parseWhitespace) fun o => ?_
  cases o with
  | none => exact Loc.leaf (.peekErr _)
  | some c =>
    refine ite_rel (ite_rel (Loc.leaf (.peekErr _)) (Loc.leaf (.pure _)))
      (Loc.bind ih.1.held fun o => ?_)
    cases o with
    | none => exact Loc.leaf (.peekErr _)
    | some v => exact ih.2.2 _ _ _

/-- the held byte: `discard` of the dot follows `parse_whitespace`, the symbol bytes follow
    `peekOrNull` -/
theorem Loc.parseListMeta_succ (term : UInt8) (acc : List Value) (ms : List SpanInfo) :
    Loc True tail false false (parseListMeta cfg (g + 1) term acc ms)
      (parseListMeta cfg (f + 1) term acc ms) := by
  rw [parseListMeta, parseListMeta]
  refine Loc.bind (Loc.of_held .parseWhitespace) fun o => ?_
  cases o with
  | none => exact Loc.leaf (.peekErr _)
  | some c =>
    refine ite_rel (ite_rel (Loc.leaf (.peekErr _)) (ite_rel (Loc.leaf (.pure _)) (Loc.leaf (.pure _))))
      (ite_rel ?_ (Loc.bind ih.1.held fun o => ?_))
    · refine Loc.bind Loc.getPos fun _ => Loc.bind (Loc.leaf .discard) fun _ =>
        Loc.bind (Loc.of_held .peekOrNull) fun nxt =>
        ite_rel (ite_rel (Loc.bind (Loc.leaf .peek) fun o => ?_) ?_)
          (Loc.bind (Loc.of_held (.parseSymbolBytes _ trivial)) fun _ =>
            Loc.bind Loc.getPos fun _ => ih.2.1 _ _ _)
      · cases o <;> exact Loc.leaf (.peekErr _)
      · refine Loc.bind (c := false) (Loc.bind ih.1.held fun o => ?_) fun _ =>
          Loc.bind (Loc.of_held .parseWhitespace) fun o => ?_
        · cases o with
          | none => exact Loc.leaf (.peekErr _)
          | some v => exact Loc.leaf (.pure _)
        · cases o with
          | none => exact Loc.leaf (.peekErr _)
          | some c' => exact ite_rel (Loc.leaf (.pure _)) (Loc.leaf (.peekErr _))
    · cases o with
      | none => exact Loc.leaf (.peekErr _)
      | some v => exact ih.2.1 _ _ _

end

/-- The one walk of the parser proper; the fault-free side has at least the fuel of the faulty
    one. -/
theorem Loc.datum_all {tail : List UInt8} (cfg : Cfg) : ∀ f' f : Nat, f' ≤ f →
    Loc True tail false false (nextDatum cfg f) (nextDatum cfg f') ∧
    (∀ term acc ms, Loc True tail false false (parseListMeta cfg f term acc ms)
      (parseListMeta cfg f' term acc ms)) ∧
    (∀ term acc ms, Loc True tail false false (parseVectorMeta cfg f term acc ms)
      (parseVectorMeta cfg f' term acc ms)) := by
  intro f'
  induction f' with
  | zero =>
    intro f _
    have hs := PrefixDet.datum_ss cfg f f (Nat.le_refl f)
    exact ⟨(GRel.fuel0 (.of_sim hs.1)).loc, fun _ _ _ => (GRel.fuel0 (.of_sim (hs.2.1 _ _ _))).loc,
      fun _ _ _ => (GRel.fuel0 (.of_sim (hs.2.2 _ _ _))).loc⟩
  | succ f' ih =>
    intro f h
    obtain ⟨g, rfl⟩ : ∃ g, f = g + 1 := ⟨f - 1, by omega⟩
    have ih' := ih g (by omega)
    exact ⟨Loc.nextDatum_succ ih', Loc.parseListMeta_succ ih', Loc.parseVectorMeta_succ ih'⟩

theorem GRel.datum_all {tail : List UInt8} (cfg : Cfg) : ∀ f' f : Nat, f' ≤ f →
    GRel tail (nextDatum cfg f) (nextDatum cfg f') ∧
    (∀ term acc ms, GRel tail (parseListMeta cfg f term acc ms) (parseListMeta cfg f' term acc ms)) ∧
    (∀ term acc ms,
      GRel tail (parseVectorMeta cfg f term acc ms) (parseVectorMeta cfg f' term acc ms)) :=
  fun f' f h =>
    have L := Loc.datum_all (tail := tail) cfg f' f h
    ⟨L.1.grel, fun term acc ms => (L.2.1 term acc ms).grel, fun term acc ms => (L.2.2 term acc ms).grel⟩

theorem GRel.nextDatum {tail : List UInt8} (cfg : Cfg) {f f' : Nat} (h : f' ≤ f) :
    GRel tail (nextDatum cfg f) (nextDatum cfg f') := (GRel.datum_all cfg f' f h).1
theorem GRel.parseListMeta {tail : List UInt8} (cfg : Cfg) {f f' : Nat} (h : f' ≤ f) (term : UInt8)
    (acc : List Value) (ms : List SpanInfo) :
    GRel tail (parseListMeta cfg f term acc ms) (parseListMeta cfg f' term acc ms) :=
  (GRel.datum_all cfg f' f h).2.1 term acc ms
theorem GRel.parseVectorMeta {tail : List UInt8} (cfg : Cfg) {f f' : Nat} (h : f' ≤ f) (term : UInt8)
    (acc : List Value) (ms : List SpanInfo) :
    GRel tail (parseVectorMeta cfg f term acc ms) (parseVectorMeta cfg f' term acc ms) :=
  (GRel.datum_all cfg f' f h).2.2 term acc ms

section
variable {less : Prop} {tail : List UInt8} {α β : Type} {g : α → β}

theorem RestNonInc.map {md : P α} {mv : P β} (hd : RestNonInc md) (h : MapSim g md mv) :
    RestNonInc mv := by
  intro s s' he
  rw [← h s] at he
  refine hd s s' ?_
  cases hr : md s <;> rw [hr] at he <;> rcases he with ⟨a, h'⟩ | ⟨e, h'⟩ <;> cases h'
  · exact .inl ⟨_, rfl⟩
  · exact .inr ⟨_, rfl⟩

theorem FBeyond.map {r : Res α} (hb : FBeyond tail r) : FBeyond tail (Res.map g r) := by
  intro s' he
  refine hb s' ?_
  cases r <;> rcases he with ⟨a, h'⟩ | ⟨e, h'⟩ <;> cases h'
  · exact .inl ⟨_, rfl⟩
  · exact .inr ⟨_, rfl⟩

theorem LocRes.map {c : Bool} {r₁ r₂ : Res α} (h : LocRes less tail c r₁ r₂) :
    LocRes less tail c (Res.map g r₁) (Res.map g r₂) := by
  rcases h with ⟨rfl, hl | rfl⟩ | ⟨t', rfl, hd, hb⟩ | hc
  · exact .inl ⟨rfl, .inl hl⟩
  · exact .inl ⟨rfl, .inr rfl⟩
  · exact .inr (.inl ⟨t', rfl, hd, hb.map⟩)
  · refine .inr (.inr ?_)
    cases hc with
    | ok hs hh => exact .ok hs hh
    | err hd => exact .err hd
    | panic => exact .panic

theorem Loc.map {b c : Bool} {md₁ md₂ : P α} {mv₁ mv₂ : P β} (h : Loc less tail b c md₁ md₂)
    (h₁ : MapSim g md₁ mv₁) (h₂ : MapSim g md₂ mv₂) : Loc less tail b c mv₁ mv₂ :=
  ⟨fun s t hs hb => by rw [← h₁ s, ← h₂ t]; exact (h.1 s t hs hb).map, h.2.map h₁⟩

end

theorem GRel.value_all {tail : List UInt8} (cfg : Cfg) : ∀ f' f : Nat, f' ≤ f →
    GRel tail (nextValue cfg f) (nextValue cfg f') ∧
    (∀ term acc, GRel tail (parseList cfg f term acc) (parseList cfg f' term acc)) ∧
    (∀ term acc, GRel tail (parseVector cfg f term acc) (parseVector cfg f' term acc)) :=
  fun f' f h =>
    have L := Loc.datum_all (tail := tail) cfg f' f h
    have S := sim_all cfg f
    have S' := sim_all cfg f'
    ⟨(L.1.map S.1 S'.1).grel,
     fun term acc => ((L.2.1 term acc []).map (S.2.1 term acc []) (S'.2.1 term acc [])).grel,
     fun term acc => ((L.2.2 term acc []).map (S.2.2 term acc []) (S'.2.2 term acc [])).grel⟩

theorem GRel.nextValue {tail : List UInt8} (cfg : Cfg) {f f' : Nat} (h : f' ≤ f) :
    GRel tail (nextValue cfg f) (nextValue cfg f') := (GRel.value_all cfg f' f h).1
theorem GRel.parseList {tail : List UInt8} (cfg : Cfg) {f f' : Nat} (h : f' ≤ f) (term : UInt8)
    (acc : List Value) : GRel tail (parseList cfg f term acc) (parseList cfg f' term acc) :=
  (GRel.value_all cfg f' f h).2.1 term acc
theorem GRel.parseVector {tail : List UInt8} (cfg : Cfg) {f f' : Nat} (h : f' ≤ f) (term : UInt8)
    (acc : List Value) : GRel tail (parseVector cfg f term acc) (parseVector cfg f' term acc) :=
  (GRel.value_all cfg f' f h).2.2 term acc

theorem GRel.nextValueTop {tail : List UInt8} (cfg : Cfg) :
    GRel tail (nextValueTop cfg) (nextValueTop cfg) := by
  unfold Parse.nextValueTop
  exact GRel.bind_apiFuel fun _ _ h => GRel.nextValue cfg h

theorem GRel.nextDatumTop {tail : List UInt8} (cfg : Cfg) :
    GRel tail (nextDatumTop cfg) (nextDatumTop cfg) := by
  unfold Parse.nextDatumTop
  exact GRel.bind_apiFuel fun _ _ h => GRel.nextDatum cfg h
theorem GRel.expectValue {tail : List UInt8} (cfg : Cfg) :
    GRel tail (expectValue cfg) (expectValue cfg) :=
  GRel.bind (GRel.nextValueTop cfg) fun
    | some _ => GRel.pure _
    | none => GRel.peekErr _

theorem GRel.expectDatum {tail : List UInt8} (cfg : Cfg) :
    GRel tail (expectDatum cfg) (expectDatum cfg) :=
  GRel.bind (GRel.nextDatumTop cfg) fun
    | some _ => GRel.pure _
    | none => GRel.peekErr _

theorem GRel.fromTrait {tail : List UInt8} (cfg : Cfg) :
    GRel tail (fromTrait cfg) (fromTrait cfg) :=
  GRel.bind (GRel.expectValue cfg) fun _ => GRel.bind GRel.expectEnd fun _ => GRel.pure _

theorem GRel.fromTraitDatum {tail : List UInt8} (cfg : Cfg) :
    GRel tail (fromTraitDatum cfg) (fromTraitDatum cfg) :=
  GRel.bind (GRel.expectDatum cfg) fun _ => GRel.bind GRel.expectEnd fun _ => GRel.pure _

end Parse
end Lexpr
