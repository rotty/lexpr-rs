/-
  C09 (text half, second part) — leaves outside `TextOK`: strings with arbitrary content and
  float literals, each with its text and the proof that the text is read back.  (The tree type
  `Sx` over these leaves, its text `stext2` and the side conditions `TextOK2` are in MacroText2.)

  * A Rust string literal reaches the macro unescaped (the model's token carries the value bytes),
    so the equivalent S-expression text of `"…"` is the default printer's rendering of the value:
    `"` + R6RS escapes (`\a \b \t \n \r \" \\ \xH…;`) + `"` (`strText_print`).  It is read
    back for every well-formed UTF-8 value (`str_reads`).
  * A float literal is passed through to rustc: the macro side is the correctly rounded double
    of the written decimal.  The text side is the same spelling `digits[.digits][(e|E)[+|-]digits]`
    (`DecLit`, a sub-syntax of Rust's float literals), read by the crate's scanner: `float_reads`
    under `ExactBuild` (default build: digits below 2^53 and |exponent| ≤ 22; build without
    fast-float-parsing: at most 19 significant digits and a finite result).
-/
import LexprModel.Proofs.MacroText
import LexprModel.Proofs.FloatLeaf
namespace Lexpr
namespace Macro
open Print
open Parse.ListRT
open Parse (PlainIdent symTermSlice)
open Decimals

/-! ## Leaves: strings -/

/-- the default printer's text of a string value -/
def strText (val : List UInt8) : List UInt8 := 34 :: (escapeStr .r6rs val ++ [34])

theorem strText_print (ryu : Nat → List UInt8) (val : List UInt8) :
    strText val = Print.text Print.Options.default ryu (.string val) :=
  (SpecRT.text_string .default ryu val).symm

/-- The printer's rendering of any well-formed UTF-8 string is read back as that
    string, in every follow context. -/
theorem str_reads (cfg : Parse.Cfg) (ho : cfg.opts = Parse.Options.default) (val : List UInt8)
    (h : Utf8.valid val = true) :
    Reads cfg false (strText val) (.string val) 0 := by
  have := reads_supported cfg ho (.string val) (by simpa [AllSupported, SupportedAtom] using h)
  rwa [SpecRT.text_string] at this

/-! ## Leaves: float literals -/

/-- the text of a float literal with its optional minus sign -/
def fltText (neg : Bool) (L : DecLit) : List UInt8 := (if neg then [45] else []) ++ L.text

/-- the double a float literal denotes: the correctly rounded value of the scanned pair (which is
    the exact value of the written digits, `DecLit.value_eq`), with the sign bit set for `-` -/
def fltBits (neg : Bool) (L : DecLit) : Nat :=
  if neg then F64.neg (F64.rnDec L.sig L.exp10) else F64.rnDec L.sig L.exp10

theorem fltBits_eq (neg : Bool) (L : DecLit) (hS : L.sig ≤ u64Max) :
    fltBits neg L = signed (!neg) (decRn L.sig L.exp10) := by
  unfold fltBits signed
  rw [rnDec_eq_all _ _ hS]
  generalize decRn L.sig L.exp10 = r
  cases neg <;> simp

/-- A float literal is read as whatever `f64_from_parts` makes of the scanned pair (exact or not):
    `FullRT.token_lit_signed` gives the token `parse_token` returns on it. -/
theorem float_reads_parts (cfg : Parse.Cfg) (ho : cfg.opts = Parse.Options.default) (neg : Bool)
    (L : DecLit) (g : Nat) (hwf : L.WF) (hsmall : L.Small) (hS : L.sig ≤ u64Max)
    (hparts : ∀ u, Parse.f64FromParts cfg (!neg) L.sig L.exp10 u = .ok g u) :
    Reads cfg false (fltText neg L) (.number (.flt g)) 0 := by
  refine reads_of_parseToken cfg _ _ (.number (.flt g)) rfl (FullRT.lit_signed_head neg L hwf) ?_
  intro s rest pk tl hf hg ht hr
  have hlen := congrArg List.length hr
  simp only [List.length_append] at hlen
  unfold fltText at ht hr hlen
  have := FullRT.token_lit_signed cfg (s.rd.rest.length + 1) neg L rest s g pk hwf hr
    (by rw [ht]; rfl) ((follow_iff rest).mp hf) (fun _ => hg.2) hS hsmall (by omega) hparts
  exact runs_of_adv _ s _ _ _ rest hg this (by simp [hr])

/-- A float literal `[-]digits[.digits][(e|E)[+|-]digits]` on which the build's
    `f64_from_parts` is exact (`ExactBuild`) is read, in every follow context, as the correctly
    rounded double of the written decimal, bit for bit (the sign of `-0.0` included). -/
theorem float_reads (cfg : Parse.Cfg) (ho : cfg.opts = Parse.Options.default) (neg : Bool)
    (L : DecLit) (hwf : L.WF) (hsmall : L.Small) (hb : ExactBuild cfg L.sig L.exp10) :
    Reads cfg false (fltText neg L) (.number (.flt (fltBits neg L))) 0 :=
  float_reads_parts cfg ho neg L _ hwf hsmall hb.sig_le
    (fun u => by rw [hb.parts, fltBits_eq neg L hb.sig_le])

/-- `fltBits` in terms of the written digits: the double nearest to `rawSig * 10^rawExp` -/
theorem fltBits_raw (neg : Bool) (L : DecLit) (hS : L.sig ≤ u64Max) :
    fltBits neg L =
      (if neg then F64.neg (F64.rn (L.rawSig * 10 ^ L.rawExp.toNat) (10 ^ (-L.rawExp).toNat))
       else F64.rn (L.rawSig * 10 ^ L.rawExp.toNat) (10 ^ (-L.rawExp).toNat)) := by
  unfold fltBits
  rw [rnDec_eq_all _ _ hS, L.decRn_eq]
  rfl

end Macro
end Lexpr
