/-
  C11, re-parse clause — one datum: the text between the end of the leading trivia and the place
  where `next_value` / `next_datum` stopped, parsed on its own, yields the same value.
-/
import LexprModel.Proofs.ReparseParse
import LexprModel.Proofs.DatumSim
import LexprModel.Proofs.TokenRT
namespace Lexpr
namespace Parse
namespace Reparse
open Progress Spans

theorem parseWhitespace_apply (s : St) :
    parseWhitespace s = peek { s with rd := s.rd.consume (wsLen s.rd.rest) } := rfl

theorem wsLen_head {b : UInt8} {t : List UInt8} (h1 : isTrivia b = false) (h2 : b ≠ 59) :
    wsLen (b :: t) = 0 := wsLen_nontrivia b t h1 h2

theorem parseWhitespace_token {s : St} {b : UInt8} {t : List UInt8} (hs : s.rd.rest = b :: t)
    (h1 : isTrivia b = false) (h2 : b ≠ 59) :
    ∃ s1, parseWhitespace s = .ok (some b) s1 ∧ s1.rd.rest = b :: t ∧ s1.rd.mode = s.rd.mode ∧
      s1.rd.faulty = s.rd.faulty ∧ s1.depth = s.depth :=
  ⟨_, Parse.parseWhitespace_token s b t hs h1 h2, by rw [adv_rest, hs]; rfl, adv_mode _ _ _,
    adv_faulty _ _ _, rfl⟩

theorem parseWhitespace_end {s : St} (hs : s.rd.rest = []) (hf : s.rd.faulty = false) :
    ∃ s1, parseWhitespace s = .ok none s1 := by
  have hr : ({ s with rd := s.rd.consume (wsLen s.rd.rest) } : St).rd.rest = [] := by
    show (s.rd.consume (wsLen s.rd.rest)).rest = _
    rw [Rd.consume_rest, hs]; rfl
  have hf' : ({ s with rd := s.rd.consume (wsLen s.rd.rest) } : St).rd.faulty = false := by
    show (s.rd.consume (wsLen s.rd.rest)).faulty = _
    rw [Rd.consume_faulty, hf]
  exact ⟨_, by rw [parseWhitespace_apply]; exact peek_end hr hf'⟩

/-- on a text that starts with a token byte, the call of `next_value` in `from_trait` is `afterWs`
    behind that byte, with the fuel of the entry point -/
theorem nextValueTop_token {cfg : Cfg} {mode : Mode} {c : UInt8} {mid : List UInt8} {s1 : St}
    (hws : parseWhitespace (initSt mode (c :: mid)) = .ok (some c) s1) :
    nextValueTop cfg (initSt mode (c :: mid)) = afterWs cfg (2 * (c :: mid).length + 3) c s1 := by
  show nextValue cfg (2 * (c :: mid).length + 3 + 1) _ = _
  rw [nextValue_succ, bind_ok_eq hws]

/-- `from_trait` on a text that starts with a token byte, from what `afterWs` does behind it -/
theorem fromTrait_of_afterWs {cfg : Cfg} {mode : Mode} {c : UInt8} {mid : List UInt8} {v : Value}
    {s1 s2 : St} (hws : parseWhitespace (initSt mode (c :: mid)) = .ok (some c) s1)
    (hK : afterWs cfg (2 * (c :: mid).length + 3) c s1 = .ok (some v) s2)
    (hr : s2.rd.rest = []) (hf : s2.rd.faulty = false) :
    ∃ sF, fromTrait cfg (initSt mode (c :: mid)) = .ok v sF := by
  obtain ⟨s3, hend⟩ := parseWhitespace_end hr hf
  have hev : expectValue cfg (initSt mode (c :: mid)) = .ok v s2 := by
    unfold expectValue
    rw [bind_ok_eq ((nextValueTop_token hws).trans hK)]
    rfl
  have hee : expectEnd s2 = .ok () s3 := by
    unfold expectEnd
    rw [bind_ok_eq hend]
    rfl
  refine ⟨s3, ?_⟩
  unfold fromTrait
  rw [bind_ok_eq hev, bind_ok_eq hee]
  rfl

/-- what a successful `next_value` consumed: trivia, then a non-empty text `b :: mid`; and that
    text, parsed on its own, yields the same value -/
theorem reparse_of_run {cfg : Cfg} {f : Nat} {s s' : St} {v : Value}
    (h : nextValue cfg f s = .ok (some v) s') (hd : s.depth ≤ 128) :
    ∃ b mid, s.rd.rest = s.rd.rest.take (wsLen s.rd.rest) ++ (b :: mid) ++ s'.rd.rest ∧
      ∃ sF, fromTrait cfg (initSt s.rd.mode (b :: mid)) = .ok v sF := by
  obtain ⟨m, hm, _⟩ : Reach s s' := by
    have := (value_invs (I := Reach s) cfg f).1 s (Reach.refl s)
    rwa [h] at this
  cases f with
  | zero => rw [nextValue] at h; cases h
  | succ f0 =>
    rw [nextValue_succ] at h
    obtain ⟨o, S1, hws, hK⟩ := bind_ok h
    obtain ⟨_, hrest, ho⟩ := (parseWhitespace_tri s).ok hws
    have hmode1 : S1.rd.mode = s.rd.mode := by
      have := parseWhitespace_inv (I := fun t : St => t.rd.mode = s.rd.mode) s rfl
      rwa [hws] at this
    have hdep1 : S1.depth = s.depth := (parseWhitespace_t1.frame s o S1 hws).2
    cases o with
    | none => cases hK
    | some pk =>
      obtain ⟨t, hS1⟩ := List.head?_eq_some_iff.mp ho.symm
      obtain ⟨hb1, hb2⟩ := (wsLen_drop_head s.rd.rest).1 pk t (by rw [← hrest, hS1])
      -- the text: what is consumed behind the trivia, not empty because the token consumes.
      -- Both unread inputs are suffixes of that of `s`, and the later one is the shorter.
      have hprog := afterWs_prog cfg f0 pk hS1 hK
      obtain ⟨text, hmid⟩ : s'.rd.rest <:+ S1.rd.rest :=
        List.suffix_of_suffix_length_le ⟨m, hm⟩ (hrest ▸ List.drop_suffix _ _)
          (Nat.le_of_lt hprog)
      cases text with
      | nil => rw [← hmid] at hprog; simp at hprog
      | cons c' mid =>
        obtain rfl : c' = pk := by
          rw [hS1, List.cons_append] at hmid
          exact (List.cons.inj hmid).1
        refine ⟨c', mid, ?_, ?_⟩
        · rw [List.append_assoc, hmid, hrest, List.take_append_drop]
        · -- the run on the text alone
          obtain ⟨s01, hws0, hr01, hm01, hf01, hd01⟩ :=
            parseWhitespace_token (s := initSt s.rd.mode (c' :: mid)) (b := c') (t := mid) rfl hb1 hb2
          have hrel : TRel s'.rd.rest S1 s01 :=
            ⟨by rw [hr01, hmid], by rw [hmode1, hm01]; rfl, by rw [hf01]; rfl,
              by rw [hdep1, hd01]; exact hd⟩
          rcases (afterWs_t (cfg := cfg) (f := f0) (f' := 2 * (c' :: mid).length + 3) (pk := c')
              s'.rd.rest S1 s01 (some v) s' hrel hK).2 (by omega) with hfu | ⟨s02, hs02, hrel2⟩
          · exact absurd ((nextValueTop_token hws0).trans hfu)
              ((nextValueTop_spec (cfg := cfg)).no_fuel fun hF => hF)
          · exact fromTrait_of_afterWs hws0 hs02 (List.self_eq_append_left.mp hrel2.1) hrel2.2.2.1

/-- **the re-parse clause for one span**: `sp` is `⟨posOf p, posOf q⟩` for prefixes `p ≤ q` of
    the input, and the text between them (`q` without its first `p.length` bytes), parsed on its
    own with the same options and kind of source, yields `v` -/
def ReparsesTo (cfg : Cfg) (mode : Mode) (input : List UInt8) (v : Value) (sp : Span) : Prop :=
  ∃ p q, p <+: q ∧ q <+: input ∧ sp = ⟨posOf p, posOf q⟩ ∧
    ∃ sF, fromTrait cfg (initSt mode (q.drop p.length)) = .ok v sF

/-- a run of `next_value` from a state that is `At input`: the span from the position after the
    leading trivia (`t1`) to the position where it stopped re-parses to the value -/
theorem reparsesTo_of_run {cfg : Cfg} {f : Nat} {s s' t1 : St} {v : Value} {input : List UInt8}
    (h : nextValue cfg f s = .ok (some v) s') (hat : At input s) (hd : s.depth ≤ 128)
    (ht1 : Reach s t1) (ht1r : t1.rd.rest = s.rd.rest.drop (wsLen s.rd.rest)) :
    ReparsesTo cfg s.rd.mode input v ⟨t1.rd.position, s'.rd.position⟩ := by
  obtain ⟨b, mid, hsplit, sF, hre⟩ := reparse_of_run h hd
  have hat' : At input s' := by
    have := (value_invs (I := At input) cfg f).1 s hat
    rw [h] at this
    exact this
  obtain ⟨pre, hin, hpos⟩ := hat
  obtain ⟨pre', hin', hpos'⟩ := hat'
  have p1 := ht1.pos_of_drop ht1r (wsLen_le _).1
  -- the input: what `s` has consumed, the trivia, the text, what `s'` has left
  have hall : (pre ++ s.rd.rest.take (wsLen s.rd.rest) ++ (b :: mid)) ++ s'.rd.rest = input := by
    rw [← hin]
    conv => rhs; rw [hsplit]
    simp only [List.append_assoc]
  have hq : pre' = pre ++ s.rd.rest.take (wsLen s.rd.rest) ++ (b :: mid) :=
    List.append_cancel_right (hin'.trans hall.symm)
  refine ⟨pre ++ s.rd.rest.take (wsLen s.rd.rest), _, List.prefix_append _ (b :: mid),
    ⟨s'.rd.rest, hall⟩, ?_, sF, ?_⟩
  · rw [p1, hpos, hpos', hq, ← posOf_append]
  · rw [List.drop_left]
    exact hre

/-- **one datum**: the span of a datum returned by `next_datum` re-parses to the datum's value -/
theorem reparsesTo_datum {cfg : Cfg} {f : Nat} {s s' : St} {d : Datum} {input : List UInt8}
    (h : nextDatum cfg f s = .ok (some d) s') (hat : At input s) (hd : s.depth ≤ 128) :
    ReparsesTo cfg s.rd.mode input d.value d.info.span := by
  have hv : nextValue cfg f s = .ok (some d.value) s' := by
    have := (sim_all cfg f).1 s
    rw [h] at this
    exact this.symm
  obtain ⟨t1, ht1, ht1r, _, hspan, _⟩ := datumOK_of_ok h
  rw [hspan]
  exact reparsesTo_of_run hv hat hd ht1.reach ht1r

end Reparse
end Parse
end Lexpr
