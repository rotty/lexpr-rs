/-
  Utf8InputAllOpts — C17, input clause, for WHOLE inputs and EVERY option set (slice and stream
  sources; the string syntax, the character syntax and every other option are arbitrary):

    `C17_whole_input_valid_all_num` (in `Utf8InputAll`, beside what it rests on): if `from_slice` /
    `from_reader` accepts `bytes`, every run of trivia in `bytes` is well-formed (`TV bytes`; in
    particular when `bytes` has no `;`) and — only needed under the Emacs Lisp string syntax — no
    backslash of `bytes` is directly followed by `x` or by an octal digit (`NoNumEsc bytes`,
    defined in `Utf8InputTok`), then `bytes` is valid UTF-8.

  `NoNumEsc` is a syntactic condition on the input that excludes the byte escapes `\xHH`, `\ooo`,
  the exception recorded in `Utf8InputLoop`; that SOME condition is needed is shown in
  `Utf8InputAllOptsEx` (`noByteEsc_needed_hex`, `noByteEsc_needed_octal`: whole inputs without `;`
  that are not UTF-8 and are accepted under the Emacs Lisp options).  `NoByteEsc` excludes the
  escaped blank as well; the reader rejects a continuation byte after an escaped blank
  (`escaped_blank_inside_sequence_rejected_whole`), so that is not needed, and every statement
  with `NoByteEsc` here is the `_num` statement of the same name after `NoByteEsc.toNum`.

  This file: the statements for `next_value`, the datum reader and the contrapositives.
-/
import LexprModel.Proofs.Utf8InputAll
namespace Lexpr
namespace Parse
namespace InAllOpts
open Utf8 Utf8.U8 Parse.U8 InLoop InTok InAll

theorem tokH_of_noByteEsc {cfg : Cfg} {s0 : St}
    (h : cfg.opts.string = .elisp → NoByteEsc s0.rd.rest) : TokH cfg s0 :=
  tokH_of_noNumEsc (fun hel => (h hel).toNum)

/-- **`next_value` consumes a valid chunk, every option set** (one call of `Parser::next_value` /
    one item of the value iterator), from any state of a slice or stream reader whose remaining
    trivia are well-formed and — Emacs Lisp string syntax — whose remaining input satisfies
    `NoNumEsc`. -/
theorem C17_next_value_input_valid_all_num {cfg : Cfg} {S S' : St} {v : Option Value}
    {w : List UInt8} (h : nextValueTop cfg S = .ok v S')
    (hm : S.rd.mode ≠ .str) (htv : TV S.rd.rest)
    (hnb : cfg.opts.string = .elisp → NoNumEsc S.rd.rest)
    (hw : S.rd.rest = w ++ S'.rd.rest) :
    Utf8.valid w = true :=
  (nextValueTop_inv h hm htv hnb).vc.valid_of hw

theorem C17_next_value_input_valid_all {cfg : Cfg} {S S' : St} {v : Option Value}
    {w : List UInt8} (h : nextValueTop cfg S = .ok v S')
    (hm : S.rd.mode ≠ .str) (htv : TV S.rd.rest)
    (hnb : cfg.opts.string = .elisp → NoByteEsc S.rd.rest)
    (hw : S.rd.rest = w ++ S'.rd.rest) :
    Utf8.valid w = true :=
  C17_next_value_input_valid_all_num h hm htv (fun hel => (hnb hel).toNum) hw

theorem fromTrait_inv_all {cfg : Cfg} {s s' : St} {v : Value}
    (h : fromTrait cfg s = .ok v s') (hm : s.rd.mode ≠ .str) (htv : TV s.rd.rest)
    (hnb : cfg.opts.string = .elisp → NoByteEsc s.rd.rest) :
    Inv s s' ∧ s'.rd.rest = [] :=
  fromTrait_inv_all_num h hm htv (fun hel => (hnb hel).toNum)

theorem C17_whole_input_valid_all {cfg : Cfg} {mode : Mode} {bytes : List UInt8} {faulty : Bool}
    {v : Value} {S' : St} (h : fromTrait cfg (initSt mode bytes faulty) = .ok v S')
    (hm : mode ≠ .str) (htv : TV bytes) (hnb : cfg.opts.string = .elisp → NoByteEsc bytes) :
    Utf8.valid bytes = true :=
  C17_whole_input_valid_all_num h hm htv (fun hel => (hnb hel).toNum)

/-- **The rule of the differential oracle, every option set**: input that is not UTF-8, contains
    no `;`, has no backslash directly followed by `x` or an octal digit, and is read to
    the end is never accepted (slice and stream sources). -/
theorem C17_whole_input_valid_all_no_comment_num {cfg : Cfg} {mode : Mode} {bytes : List UInt8}
    {faulty : Bool} {v : Value} {S' : St}
    (h : fromTrait cfg (initSt mode bytes faulty) = .ok v S')
    (hm : mode ≠ .str) (hno : ∀ b ∈ bytes, b ≠ 59) (hnb : NoNumEsc bytes) :
    Utf8.valid bytes = true :=
  C17_whole_input_valid_all_num h hm (TV.of_no59 hno) (fun _ => hnb)

theorem C17_whole_input_valid_all_no_comment {cfg : Cfg} {mode : Mode} {bytes : List UInt8}
    {faulty : Bool} {v : Value} {S' : St}
    (h : fromTrait cfg (initSt mode bytes faulty) = .ok v S')
    (hm : mode ≠ .str) (hno : ∀ b ∈ bytes, b ≠ 59) (hnb : NoByteEsc bytes) :
    Utf8.valid bytes = true :=
  C17_whole_input_valid_all_no_comment_num h hm hno hnb.toNum

/-- the contrapositive, as the oracle states it -/
theorem C17_ill_formed_input_rejected_all_num {cfg : Cfg} {mode : Mode} {bytes : List UInt8}
    {faulty : Bool} (hm : mode ≠ .str) (hno : ∀ b ∈ bytes, b ≠ 59) (hnb : NoNumEsc bytes)
    (hbad : Utf8.valid bytes = false) :
    ∀ v S', fromTrait cfg (initSt mode bytes faulty) ≠ .ok v S' :=
  fun _ _ h =>
    Bool.noConfusion ((C17_whole_input_valid_all_no_comment_num h hm hno hnb).symm.trans hbad)

theorem C17_ill_formed_input_rejected_all {cfg : Cfg} {mode : Mode} {bytes : List UInt8}
    {faulty : Bool} (hm : mode ≠ .str) (hno : ∀ b ∈ bytes, b ≠ 59) (hnb : NoByteEsc bytes)
    (hbad : Utf8.valid bytes = false) :
    ∀ v S', fromTrait cfg (initSt mode bytes faulty) ≠ .ok v S' :=
  C17_ill_formed_input_rejected_all_num hm hno hnb.toNum hbad

/-- for an accepted input that satisfies `NoNumEsc`: valid UTF-8 exactly when its trivia are
    well-formed — ill-formed bytes can hide in comments and nowhere else -/
theorem C17_whole_input_valid_all_iff_num {cfg : Cfg} {mode : Mode} {bytes : List UInt8}
    {faulty : Bool} {v : Value} {S' : St}
    (h : fromTrait cfg (initSt mode bytes faulty) = .ok v S')
    (hm : mode ≠ .str) (hnb : cfg.opts.string = .elisp → NoNumEsc bytes) :
    Utf8.valid bytes = true ↔ TV bytes :=
  ⟨TV.of_valid, fun htv => C17_whole_input_valid_all_num h hm htv hnb⟩

theorem C17_whole_input_valid_all_iff {cfg : Cfg} {mode : Mode} {bytes : List UInt8}
    {faulty : Bool} {v : Value} {S' : St}
    (h : fromTrait cfg (initSt mode bytes faulty) = .ok v S')
    (hm : mode ≠ .str) (hnb : cfg.opts.string = .elisp → NoByteEsc bytes) :
    Utf8.valid bytes = true ↔ TV bytes :=
  C17_whole_input_valid_all_iff_num h hm (fun hel => (hnb hel).toNum)

/-- the theorem of `Utf8InputAll` is the instance `string = .r6rs` -/
example {cfg : Cfg} {mode : Mode} {bytes : List UInt8} {faulty : Bool}
    {v : Value} {S' : St} (h : fromTrait cfg (initSt mode bytes faulty) = .ok v S')
    (hr6 : cfg.opts.string = .r6rs) (hm : mode ≠ .str) (htv : TV bytes) :
    Utf8.valid bytes = true :=
  C17_whole_input_valid_all h hm htv (fun hel => by rw [hr6] at hel; cases hel)

/-! ### the datum reader

  `datum::from_slice` / `datum::from_reader`, `Parser::next_datum`: the same statements, transferred
  along the lock-step simulation of the datum readers by the value readers (`Parse.sim_*`). -/

/-- **`next_datum` consumes a valid chunk, every option set** (one call of `Parser::next_datum` /
    one item of the datum iterator). -/
theorem C17_next_datum_input_valid_all_num {cfg : Cfg} {S S' : St} {d : Option Datum}
    {w : List UInt8} (h : nextDatumTop cfg S = .ok d S')
    (hm : S.rd.mode ≠ .str) (htv : TV S.rd.rest)
    (hnb : cfg.opts.string = .elisp → NoNumEsc S.rd.rest)
    (hw : S.rd.rest = w ++ S'.rd.rest) :
    Utf8.valid w = true :=
  C17_next_value_input_valid_all_num ((Parse.sim_nextTop cfg).ok h) hm htv hnb hw

theorem C17_next_datum_input_valid_all {cfg : Cfg} {S S' : St} {d : Option Datum}
    {w : List UInt8} (h : nextDatumTop cfg S = .ok d S')
    (hm : S.rd.mode ≠ .str) (htv : TV S.rd.rest)
    (hnb : cfg.opts.string = .elisp → NoByteEsc S.rd.rest)
    (hw : S.rd.rest = w ++ S'.rd.rest) :
    Utf8.valid w = true :=
  C17_next_datum_input_valid_all_num h hm htv (fun hel => (hnb hel).toNum) hw

/-- **C17, input clause, whole inputs, datum reader, EVERY option set**: if `datum::from_slice` /
    `datum::from_reader` accepts `bytes`, the trivia of `bytes` are well-formed and — only needed
    under the Emacs Lisp string syntax — `bytes` satisfies `NoNumEsc`, then `bytes` is valid
    UTF-8. -/
theorem C17_whole_input_valid_datum_all_num {cfg : Cfg} {mode : Mode} {bytes : List UInt8}
    {faulty : Bool} {d : Datum} {S' : St}
    (h : fromTraitDatum cfg (initSt mode bytes faulty) = .ok d S')
    (hm : mode ≠ .str) (htv : TV bytes) (hnb : cfg.opts.string = .elisp → NoNumEsc bytes) :
    Utf8.valid bytes = true :=
  C17_whole_input_valid_all_num ((Parse.sim_fromTrait cfg).ok h) hm htv hnb

theorem C17_whole_input_valid_datum_all {cfg : Cfg} {mode : Mode} {bytes : List UInt8}
    {faulty : Bool} {d : Datum} {S' : St}
    (h : fromTraitDatum cfg (initSt mode bytes faulty) = .ok d S')
    (hm : mode ≠ .str) (htv : TV bytes) (hnb : cfg.opts.string = .elisp → NoByteEsc bytes) :
    Utf8.valid bytes = true :=
  C17_whole_input_valid_datum_all_num h hm htv (fun hel => (hnb hel).toNum)

/-- the rule of the differential oracle, datum reader, every option set -/
theorem C17_whole_input_valid_datum_all_no_comment_num {cfg : Cfg} {mode : Mode} {bytes : List UInt8}
    {faulty : Bool} {d : Datum} {S' : St}
    (h : fromTraitDatum cfg (initSt mode bytes faulty) = .ok d S')
    (hm : mode ≠ .str) (hno : ∀ b ∈ bytes, b ≠ 59) (hnb : NoNumEsc bytes) :
    Utf8.valid bytes = true :=
  C17_whole_input_valid_datum_all_num h hm (TV.of_no59 hno) (fun _ => hnb)

theorem C17_whole_input_valid_datum_all_no_comment {cfg : Cfg} {mode : Mode} {bytes : List UInt8}
    {faulty : Bool} {d : Datum} {S' : St}
    (h : fromTraitDatum cfg (initSt mode bytes faulty) = .ok d S')
    (hm : mode ≠ .str) (hno : ∀ b ∈ bytes, b ≠ 59) (hnb : NoByteEsc bytes) :
    Utf8.valid bytes = true :=
  C17_whole_input_valid_datum_all_no_comment_num h hm hno hnb.toNum

end InAllOpts
end Parse
end Lexpr
