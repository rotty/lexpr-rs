/-
  Error analysis of `F64.rn` (property C05, accuracy clause), part 1: the value of `rn n d` as a
  rational number and its distance from `n / d`.
-/
import LexprModel.Proofs.Decimals
namespace Lexpr
namespace Accuracy
open Parse F64 Numbers Decimals

/-- `|rne n d - n/d| ≤ 1/2`, cross-multiplied. -/
theorem rne_err {n d : Nat} (hd : 0 < d) :
    2 * n ≤ 2 * (d * rne n d) + d ∧ 2 * (d * rne n d) ≤ 2 * n + d := by
  have hdm := Nat.div_add_mod n d
  have hm := Nat.mod_lt n hd
  unfold rne
  simp only []
  split
  · rw [Nat.mul_succ]; omega
  · split
    · split
      · rw [Nat.mul_succ]; omega
      · omega
    · omega

/-- the rational value `m * 2^p` of the magnitude bits of a finite double -/
def val (b : Nat) : Rat := ((decode b).1 : Rat) * (2 : Rat) ^ (decode b).2

theorem two_ne : (2 : Rat) ≠ 0 := by decide

theorem mul_le_mul_nn {a b c d : Rat} (h1 : a ≤ b) (h2 : c ≤ d) (ha : 0 ≤ a) (hc : 0 ≤ c) :
    a * c ≤ b * d := by
  have hb : 0 ≤ b := Rat.le_trans ha h1
  exact Rat.le_trans (Rat.mul_le_mul_of_nonneg_left h2 ha) (Rat.mul_le_mul_of_nonneg_right h1 (Rat.le_trans hc h2))

theorem one_le_pow_of_one_le {b : Rat} (hb : 1 ≤ b) (k : Nat) : (1 : Rat) ≤ b ^ k := by
  induction k with
  | zero => simp
  | succ k ih =>
    rw [Rat.pow_succ]
    have := mul_le_mul_nn ih hb (by decide) (by decide)
    simpa using this

theorem zpow_mono_of_one_le {b : Rat} (hb : 1 ≤ b) {x y : Int} (h : x ≤ y) : b ^ x ≤ b ^ y := by
  have hb0 : (0 : Rat) < b := by grind
  obtain ⟨k, rfl⟩ : ∃ k : Nat, y = x + (k : Int) := ⟨(y - x).toNat, by omega⟩
  rw [Rat.zpow_add (by grind), Rat.zpow_natCast]
  have := Rat.mul_le_mul_of_nonneg_left (one_le_pow_of_one_le hb k)
    (Rat.le_of_lt (Rat.zpow_pos hb0 (n := x)))
  simpa using this

theorem zpow_split {b : Rat} (hb : b ≠ 0) (p : Int) : b ^ p * b ^ (-p).toNat = b ^ p.toNat := by
  rw [← Rat.zpow_natCast, ← Rat.zpow_natCast, ← Rat.zpow_add hb]
  congr 1
  omega

theorem two_zpow_pos (p : Int) : (0 : Rat) < (2 : Rat) ^ p := Rat.zpow_pos (by decide)

theorem two_zpow_split (p : Int) :
    (2 : Rat) ^ p * ((2 ^ (-p).toNat : Nat) : Rat) = ((2 ^ p.toNat : Nat) : Rat) := by
  rw [Rat.natCast_pow, Rat.natCast_pow]
  exact zpow_split two_ne p

theorem val_zero : val 0 = 0 := by decide +kernel

theorem val_nonneg (b : Nat) : 0 ≤ val b := by
  unfold val
  have h1 : (0 : Rat) ≤ ((decode b).1 : Rat) := Rat.natCast_nonneg
  have h2 := Rat.le_of_lt (two_zpow_pos (decode b).2)
  have := Rat.mul_le_mul_of_nonneg_right h1 h2
  simpa using this

/-- value of the bit pattern `E * 2^52 + m`, `m` the mantissa including the hidden bit, possibly
    carried up to `2^53` -/
theorem val_bits {E m : Nat} (hfin : E * two52 + m < infBits) (hm : m ≤ 2 * two52)
    (h : E = 0 ∨ two52 ≤ m) :
    val (E * two52 + m) = (m : Rat) * (2 : Rat) ^ ((E : Int) - 1074) := by
  by_cases hlt : m < 2 * two52
  · have hE : E ≤ 2045 := by simp only [two52, infBits] at *; omega
    unfold val; rw [decode_bits hE hlt h]
  · have hmeq : m = 2 * two52 := by omega
    subst hmeq
    have hE : E + 1 ≤ 2045 := by simp only [two52, infBits] at *; omega
    have e1 : E * two52 + 2 * two52 = (E + 1) * two52 + two52 := by simp only [two52]; omega
    unfold val
    rw [e1, decode_bits hE (by simp [two52]) (Or.inr (Nat.le_refl _))]
    simp only []
    have e2 : ((E + 1 : Nat) : Int) - 1074 = ((E : Int) - 1074) + 1 := by omega
    rw [e2, Rat.zpow_add_one two_ne, Rat.natCast_mul]
    generalize (2 : Rat) ^ ((E : Int) - 1074) = t
    have : ((2 : Nat) : Rat) = 2 := rfl
    rw [this]
    grind

/-- the value of `rn n d`: the rounded mantissa times the unit in the last place -/
theorem rn_val {n d : Nat} (hn : 0 < n) (hd : 0 < d) {e ee : Int} (he : Bracket n d e)
    (hee : ee = if e < -1022 then -1022 else e) (hfin : rn n d < infBits) :
    val (rn n d) =
      (rne (n * 2 ^ (-(ee - 52)).toNat) (d * 2 ^ (ee - 52).toNat) : Rat) * (2 : Rat) ^ (ee - 52) := by
  obtain ⟨hm, hm52, hrn⟩ := rn_spec hn hd he hee
  rw [hrn] at hfin ⊢
  have hlo : (ee + 1022).toNat = 0 ∨
      two52 ≤ rne (n * 2 ^ (-(ee - 52)).toNat) (d * 2 ^ (ee - 52).toNat) := by
    by_cases hlt : e < -1022
    · left; rw [hee, if_pos hlt]; rfl
    · exact .inr (hm52 (by omega))
  generalize rne (n * 2 ^ (-(ee - 52)).toNat) (d * 2 ^ (ee - 52).toNat) = m at *
  by_cases hb : (ee + 1022).toNat * two52 + m ≥ infBits
  · rw [if_pos hb] at hfin; omega
  · rw [if_neg hb] at hfin ⊢
    rw [val_bits hfin hm hlo]
    congr 2
    omega

theorem natCast_pos' {k : Nat} (h : 0 < k) : (0 : Rat) < (k : Rat) := Rat.natCast_pos.mpr h

theorem two_pow_cast_pos (k : Nat) : (0 : Rat) < ((2 ^ k : Nat) : Rat) :=
  natCast_pos' (Nat.two_pow_pos k)

theorem div_mul_self' {f P : Rat} (hP : 0 < P) : f / P * P = f :=
  Rat.div_mul_cancel (by grind)

theorem div_mul_self {n d : Nat} (hd : 0 < d) : ((n : Rat) / (d : Rat)) * (d : Rat) = (n : Rat) :=
  div_mul_self' (natCast_pos' hd)

theorem quot_nonneg {y P f : Rat} (hP : 0 < P) (hf : 0 ≤ f) (h : y * P = f) : 0 ≤ y := by
  apply Rat.not_lt.mp
  intro hneg
  have := Rat.mul_lt_mul_of_pos_right hneg hP
  grind

/-- `n/d` against `2^e`, multiplied out: both sides times `d * 2^(-e)⁺` -/
theorem quot_scaled {n d : Nat} (hd : 0 < d) (e : Int) :
    0 < (d : Rat) * ((2 ^ (-e).toNat : Nat) : Rat) ∧
    (n : Rat) / (d : Rat) * ((d : Rat) * ((2 ^ (-e).toNat : Nat) : Rat)) = ((n * 2 ^ (-e).toNat : Nat) : Rat) ∧
    (2 : Rat) ^ e * ((d : Rat) * ((2 ^ (-e).toNat : Nat) : Rat)) = ((d * 2 ^ e.toNat : Nat) : Rat) := by
  have hs := two_zpow_split e
  have hA := two_pow_cast_pos (-e).toNat
  have hx := div_mul_self (n := n) hd
  have hd' := natCast_pos' hd
  rw [Rat.natCast_mul, Rat.natCast_mul]
  generalize ((2 ^ (-e).toNat : Nat) : Rat) = A at *
  generalize ((2 ^ e.toNat : Nat) : Rat) = B at *
  refine ⟨Rat.mul_pos hd' hA, by rw [← Rat.mul_assoc, hx], ?_⟩
  rw [← hs]; grind

theorem quot_ge_iff {n d : Nat} (hd : 0 < d) (e : Int) :
    d * 2 ^ e.toNat ≤ n * 2 ^ (-e).toNat ↔ (2 : Rat) ^ e ≤ (n : Rat) / (d : Rat) := by
  obtain ⟨hp, h1, h2⟩ := quot_scaled (n := n) hd e
  rw [← Rat.natCast_le_natCast, ← h1, ← h2]
  exact ⟨fun h => Rat.le_of_mul_le_mul_right h hp, fun h => Rat.mul_le_mul_of_nonneg_right h (Rat.le_of_lt hp)⟩

theorem quot_lt_iff {n d : Nat} (hd : 0 < d) (e : Int) :
    n * 2 ^ (-e).toNat < d * 2 ^ e.toNat ↔ (n : Rat) / (d : Rat) < (2 : Rat) ^ e := by
  have := quot_ge_iff (n := n) hd e
  rw [← Nat.not_le, ← Rat.not_le, this]
theorem halfulp_core (x t K M : Rat) (hK : 0 < K)
    (h1 : 2 * (x * K) ≤ 2 * (t * K * M) + t * K) (h2 : 2 * (t * K * M) ≤ 2 * (x * K) + t * K) :
    x - t / 2 ≤ M * t ∧ M * t ≤ x + t / 2 := by
  constructor
  · have key : (x - t / 2) * K ≤ (M * t) * K := by grind
    exact Rat.le_of_mul_le_mul_right key hK
  · have key : (M * t) * K ≤ (x + t / 2) * K := by grind
    exact Rat.le_of_mul_le_mul_right key hK

/-- `|val (rn n d) - n/d| ≤ 2^(ee-52) / 2`: half a unit in the last place -/
theorem rn_halfulp {n d : Nat} (hn : 0 < n) (hd : 0 < d) {e ee : Int} (he : Bracket n d e)
    (hee : ee = if e < -1022 then -1022 else e) (hfin : rn n d < infBits) :
    (n : Rat) / (d : Rat) - (2 : Rat) ^ (ee - 52) / 2 ≤ val (rn n d) ∧
    val (rn n d) ≤ (n : Rat) / (d : Rat) + (2 : Rat) ^ (ee - 52) / 2 := by
  rw [rn_val hn hd he hee hfin]
  obtain ⟨h1, h2⟩ := rne_err (n := n * 2 ^ (-(ee - 52)).toNat)
    (Nat.mul_pos hd (Nat.two_pow_pos (ee - 52).toNat))
  obtain ⟨hK, e1, e2⟩ := quot_scaled (n := n) hd (ee - 52)
  generalize rne (n * 2 ^ (-(ee - 52)).toNat) (d * 2 ^ (ee - 52).toNat) = m at *
  have h1' := Rat.natCast_le_natCast.mpr h1
  have h2' := Rat.natCast_le_natCast.mpr h2
  simp only [Rat.natCast_mul, Rat.natCast_add] at h1' h2' e1 e2
  -- both sides of `rne_err` in units of `K = d * 2^(-(ee-52))⁺`
  rw [show ((2 : Nat) : Rat) = 2 from rfl, ← e1, ← e2] at h1' h2'
  exact halfulp_core _ _ _ _ hK h1' h2'

/-- the unit roundoff `2^-53` -/
def u : Rat := 1 / 2 ^ 53
/-- half the smallest subnormal, `2^-1075` -/
def eta : Rat := (2 : Rat) ^ (-1075 : Int)

theorem u_pos : 0 < u := by decide +kernel
theorem eta_pos : 0 < eta := two_zpow_pos _

theorem zero_div' (d : Rat) : ((0 : Nat) : Rat) / d = 0 := by
  rw [Rat.div_def]; exact Rat.zero_mul _

theorem two_zpow_mono {a b : Int} (h : a ≤ b) : (2 : Rat) ^ a ≤ (2 : Rat) ^ b :=
  zpow_mono_of_one_le (by decide) h

theorem bracket_rat {n d : Nat} {e : Int} (hd : 0 < d) (he : Bracket n d e) :
    (2 : Rat) ^ e ≤ (n : Rat) / (d : Rat) ∧ (n : Rat) / (d : Rat) < (2 : Rat) ^ (e + 1) := by
  refine ⟨(quot_ge_iff hd e).mp he.1, ?_⟩
  have h := (quot_lt_iff (n := n) (d := 2 * d) (by omega) e).mp (by rw [Nat.mul_assoc]; exact he.2)
  have hd' := natCast_pos' hd
  rw [Rat.natCast_mul, show ((2 : Nat) : Rat) = 2 from rfl] at h
  rw [Rat.zpow_add_one two_ne]
  have : (n : Rat) / (2 * (d : Rat)) = (n : Rat) / (d : Rat) / 2 := by grind
  grind

theorem halfulp_normal (e : Int) : (2 : Rat) ^ (e - 52) / 2 = (2 : Rat) ^ e * u := by
  have : e - 52 = e + (-52 : Int) := by omega
  rw [this, Rat.zpow_add two_ne]
  have : (2 : Rat) ^ (-52 : Int) / 2 = u := by decide +kernel
  grind

theorem halfulp_sub : (2 : Rat) ^ ((-1022 : Int) - 52) / 2 = eta := by decide +kernel

/-- In the normal range (`2^-1022 ≤ n/d`, result finite) the value of `rn n d`
    is within relative error `2^-53` of `n / d`:  `|val (rn n d) - n/d| ≤ 2^-53 * (n/d)`. -/
theorem rn_relerr {n d : Nat} (hd : 0 < d)
    (hnorm : (2 : Rat) ^ (-1022 : Int) ≤ (n : Rat) / (d : Rat)) (hfin : rn n d < infBits) :
    (n : Rat) / (d : Rat) * (1 - u) ≤ val (rn n d) ∧
    val (rn n d) ≤ (n : Rat) / (d : Rat) * (1 + u) := by
  have hn : 0 < n := by
    rcases Nat.eq_zero_or_pos n with h | h
    · subst h
      have := two_zpow_pos (-1022)
      have h0 := zero_div' (d : Rat)
      rw [h0] at hnorm
      grind
    · exact h
  have he := ilog2_spec hn hd
  generalize ilog2 n d = e at he
  obtain ⟨hb1, hb2⟩ := bracket_rat hd he
  have hge : ¬ e < -1022 := by
    intro hlt
    have := two_zpow_mono (show e + 1 ≤ -1022 by omega)
    grind
  obtain ⟨h1, h2⟩ := rn_halfulp hn hd he (ee := e) (by rw [if_neg hge]) hfin
  rw [halfulp_normal] at h1 h2
  have hu := Rat.mul_le_mul_of_nonneg_right hb1 (Rat.le_of_lt u_pos)
  grind

/-- Below the normal range the absolute error is at most `2^-1075`. -/
theorem rn_abserr {n d : Nat} (hd : 0 < d)
    (hsub : (n : Rat) / (d : Rat) < (2 : Rat) ^ (-1022 : Int)) :
    rn n d < infBits ∧
    (n : Rat) / (d : Rat) - eta ≤ val (rn n d) ∧ val (rn n d) ≤ (n : Rat) / (d : Rat) + eta := by
  rcases Nat.eq_zero_or_pos n with h | hn
  · subst h
    have h0 := zero_div' (d : Rat)
    have := eta_pos
    rw [rn_zero_left, val_zero, h0]
    refine ⟨by decide, ?_, ?_⟩ <;> grind
  have he := ilog2_spec hn hd
  generalize ilog2 n d = e at he
  obtain ⟨hb1, hb2⟩ := bracket_rat hd he
  have hlt : e < -1022 := by
    apply Int.not_le.mp
    intro hge
    have := two_zpow_mono hge
    grind
  have hfin : rn n d < infBits := by
    apply rn_finite_of_lt_pow (k := 0) hd (by decide)
    have h1 : (n : Rat) / (d : Rat) < (2 : Rat) ^ (0 : Int) := by
      have := two_zpow_mono (show (-1022 : Int) ≤ 0 by decide)
      grind
    have := (quot_lt_iff hd 0).mpr h1
    simpa using this
  obtain ⟨h1, h2⟩ := rn_halfulp hn hd he (ee := -1022) (by rw [if_pos hlt]) hfin
  rw [halfulp_sub] at h1 h2
  exact ⟨hfin, h1, h2⟩

/-- both ranges at once: `|val (rn n d) - n/d| ≤ 2^-53 * (n/d) + 2^-1075` -/
theorem rn_err {n d : Nat} (hd : 0 < d) (hfin : rn n d < infBits) :
    (n : Rat) / (d : Rat) * (1 - u) - eta ≤ val (rn n d) ∧
    val (rn n d) ≤ (n : Rat) / (d : Rat) * (1 + u) + eta := by
  have hx : (0 : Rat) ≤ (n : Rat) / (d : Rat) :=
    quot_nonneg (natCast_pos' hd) Rat.natCast_nonneg (div_mul_self hd)
  have hu := u_pos
  have he := eta_pos
  have hxu := Rat.mul_le_mul_of_nonneg_left (Rat.le_of_lt hu) hx
  rcases Rat.le_total (a := (2 : Rat) ^ (-1022 : Int)) (b := (n : Rat) / (d : Rat)) with h | h
  · obtain ⟨h1, h2⟩ := rn_relerr hd h hfin
    grind
  · rcases Rat.le_iff_lt_or_eq.mp h with h | h
    · obtain ⟨_, h1, h2⟩ := rn_abserr hd h
      grind
    · obtain ⟨h1, h2⟩ := rn_relerr hd (by rw [h]; exact Rat.le_refl) hfin
      grind

/-- `Numbers.rn_underflow` read in `Rat` -/
theorem rn_zero_rat {n d : Nat} (hd : 0 < d) (h : (n : Rat) / (d : Rat) < eta) : rn n d = 0 :=
  rn_underflow hd (by
    have := (quot_lt_iff (n := n) hd (-1075)).mpr h
    rwa [show (-(-1075 : Int)).toNat = 1075 from rfl, show (-1075 : Int).toNat = 0 from rfl,
      Nat.pow_zero, Nat.mul_one] at this)

theorem val_def (b : Nat) : val b = ((decode b).1 : Rat) * (2 : Rat) ^ (decode b).2 := rfl

theorem two_zpow_sub (a b : Int) : (2 : Rat) ^ (a - b) * (2 : Rat) ^ b = (2 : Rat) ^ a := by
  rw [← Rat.zpow_add two_ne]; congr 1; omega

/-- `mulPos a b` rounds the rational `val a * val b` -/
theorem mulPos_rat (a b : Nat) :
    ∃ n d : Nat, 0 < d ∧ mulPos a b = rn n d ∧ (n : Rat) / (d : Rat) = val a * val b := by
  refine ⟨_, _, Nat.two_pow_pos _, by rw [mulPos_rn, rnScaled_eq], ?_⟩
  rw [val_def, val_def, Rat.natCast_mul, Rat.natCast_mul]
  have hs := two_zpow_split ((decode a).2 + (decode b).2)
  have hA := two_pow_cast_pos (-((decode a).2 + (decode b).2)).toNat
  rw [Rat.zpow_add two_ne] at hs
  generalize ((2 ^ (-((decode a).2 + (decode b).2)).toNat : Nat) : Rat) = A at *
  generalize ((2 ^ ((decode a).2 + (decode b).2).toNat : Nat) : Rat) = B at *
  generalize (2 : Rat) ^ (decode a).2 = ta at *
  generalize (2 : Rat) ^ (decode b).2 = tb at *
  rw [← hs]
  grind

/-- `divPos a b` rounds the rational `val a / val b` (divisor not zero) -/
theorem divPos_rat (a b : Nat) (hb : 0 < (decode b).1) :
    ∃ n d : Nat, 0 < d ∧ divPos a b = rn n d ∧ (n : Rat) / (d : Rat) = val a / val b := by
  refine ⟨_, _, Nat.mul_pos hb (Nat.two_pow_pos _), divPos_eq a b, ?_⟩
  rw [val_def, val_def, Rat.natCast_mul, Rat.natCast_mul]
  have hs := two_zpow_split ((decode a).2 - (decode b).2)
  have hA := two_pow_cast_pos (-((decode a).2 - (decode b).2)).toNat
  have hsub := two_zpow_sub (decode a).2 (decode b).2
  have htb := two_zpow_pos (decode b).2
  have hmb := natCast_pos' hb
  generalize ((2 ^ (-((decode a).2 - (decode b).2)).toNat : Nat) : Rat) = A at *
  generalize ((2 ^ ((decode a).2 - (decode b).2).toNat : Nat) : Rat) = B at *
  generalize (2 : Rat) ^ ((decode a).2 - (decode b).2) = t at *
  generalize (2 : Rat) ^ (decode a).2 = ta at *
  generalize (2 : Rat) ^ (decode b).2 = tb at *
  rw [← hs, ← hsub]
  grind

theorem decode_pos_of_val_pos {b : Nat} (h : 0 < val b) : 0 < (decode b).1 := by
  rcases Nat.eq_zero_or_pos (decode b).1 with h0 | h0
  · rw [val_def, h0] at h
    have : ((0 : Nat) : Rat) * (2 : Rat) ^ (decode b).2 = 0 := Rat.zero_mul _
    rw [this] at h
    exact absurd h Rat.lt_irrefl
  · exact h0

theorem mulPos_err {a b : Nat} (hfin : mulPos a b < infBits) :
    val a * val b * (1 - u) - eta ≤ val (mulPos a b) ∧
    val (mulPos a b) ≤ val a * val b * (1 + u) + eta := by
  obtain ⟨n, d, hd, h1, h2⟩ := mulPos_rat a b
  rw [h1] at hfin ⊢
  rw [← h2]
  exact rn_err hd hfin

theorem divPos_err {a b : Nat} (hb : 0 < val b) (hfin : divPos a b < infBits) :
    val a / val b * (1 - u) - eta ≤ val (divPos a b) ∧
    val (divPos a b) ≤ val a / val b * (1 + u) + eta := by
  obtain ⟨n, d, hd, h1, h2⟩ := divPos_rat a b (decode_pos_of_val_pos hb)
  rw [h1] at hfin ⊢
  rw [← h2]
  exact rn_err hd hfin

theorem divPos_zero {a b : Nat} (hb : 0 < val b) (h : val a / val b < eta) : divPos a b = 0 := by
  obtain ⟨n, d, hd, h1, h2⟩ := divPos_rat a b (decode_pos_of_val_pos hb)
  rw [h1]
  exact rn_zero_rat hd (by rw [h2]; exact h)

theorem norm_rat {n d : Nat} (hd : 0 < d) (h : d ≤ n * 2 ^ 1022) :
    (2 : Rat) ^ (-1022 : Int) ≤ (n : Rat) / (d : Rat) :=
  (quot_ge_iff hd (-1022)).mp (by
    rwa [show (-(-1022 : Int)).toNat = 1022 from rfl, show (-1022 : Int).toNat = 0 from rfl,
      Nat.pow_zero, Nat.mul_one])

/-- `rn_relerr` stated over `Nat` only.  With `(m, p) = decode (rn n d)`,
    `A = 2^max(-p,0)`, `B = 2^max(p,0)` (so the value is `m * B / A`):

      `|m * B * d - n * A| * 2^53 ≤ n * A`,

    i.e. `|m * 2^p - n/d| ≤ 2^-53 * (n/d)`, for `n/d` in the normal range and a finite result. -/
theorem rn_relerr_cross {n d : Nat} (hd : 0 < d) (hnorm : d ≤ n * 2 ^ 1022)
    (hfin : rn n d < infBits) :
    n * 2 ^ (-(decode (rn n d)).2).toNat * 2 ^ 53 ≤
      (decode (rn n d)).1 * 2 ^ (decode (rn n d)).2.toNat * d * 2 ^ 53 +
        n * 2 ^ (-(decode (rn n d)).2).toNat ∧
    (decode (rn n d)).1 * 2 ^ (decode (rn n d)).2.toNat * d * 2 ^ 53 ≤
      n * 2 ^ (-(decode (rn n d)).2).toNat * 2 ^ 53 + n * 2 ^ (-(decode (rn n d)).2).toNat := by
  obtain ⟨h1, h2⟩ := rn_relerr hd (norm_rat hd hnorm) hfin
  clear hnorm
  rw [val_def] at h1 h2
  have hs := two_zpow_split (decode (rn n d)).2
  have hA := two_pow_cast_pos (-(decode (rn n d)).2).toNat
  have hx := div_mul_self (n := n) hd
  have hd' := natCast_pos' hd
  have huT : u * ((2 ^ 53 : Nat) : Rat) = 1 := by decide +kernel
  have hT := two_pow_cast_pos 53
  rw [← Rat.natCast_le_natCast, ← Rat.natCast_le_natCast]
  simp only [Rat.natCast_mul, Rat.natCast_add]
  generalize ((2 ^ (-(decode (rn n d)).2).toNat : Nat) : Rat) = A at *
  generalize ((2 ^ (decode (rn n d)).2.toNat : Nat) : Rat) = B at *
  generalize (2 : Rat) ^ (decode (rn n d)).2 = t at *
  generalize ((decode (rn n d)).1 : Rat) = m at *
  generalize ((2 ^ 53 : Nat) : Rat) = T at *
  generalize (n : Rat) / (d : Rat) = x at *
  -- both bounds times `d * A * T`; then `x * d = n`, `u * T = 1`, `t * A = B`
  have hpos := Rat.le_of_lt (Rat.mul_pos (Rat.mul_pos hd' hA) hT)
  have c1 := Rat.mul_le_mul_of_nonneg_right h1 hpos
  have c2 := Rat.mul_le_mul_of_nonneg_right h2 hpos
  have e1 : x * (1 - u) * ((d : Rat) * A * T) = x * (d : Rat) * A * T - x * (d : Rat) * A * (u * T) := by
    grind
  have e1' : x * (1 + u) * ((d : Rat) * A * T) = x * (d : Rat) * A * T + x * (d : Rat) * A * (u * T) := by
    grind
  have e2 : m * t * ((d : Rat) * A * T) = m * (t * A) * (d : Rat) * T := by grind
  rw [e1, e2, hx, huT, hs] at c1
  rw [e1', e2, hx, huT, hs] at c2
  exact ⟨by grind, by grind⟩

set_option exponentiation.threshold 2048 in
/-- `1/10`: the hypotheses hold, and the instance reads
    `|7205759403792794 * 10 - 2^56| * 2^53 ≤ 2^56` -/
example : decode (rn 1 10) = (7205759403792794, -56) ∧ (10 ≤ 1 * 2 ^ 1022) ∧ rn 1 10 < infBits := by
  decide +kernel
set_option exponentiation.threshold 2048 in
example := rn_relerr_cross (n := 1) (d := 10) (by decide) (by decide +kernel) (by decide +kernel)

#print axioms rn_relerr
#print axioms rn_abserr
#print axioms rn_err
#print axioms rn_relerr_cross
#print axioms mulPos_err
#print axioms divPos_err

end Accuracy
end Lexpr
