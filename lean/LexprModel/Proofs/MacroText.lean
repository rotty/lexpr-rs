/-
  C09 (text half) — the documented `sexp!` syntax, written as S-expression text, is read by the
  parser as the value the macro builds from it.
-/
import LexprModel.Proofs.MacroSpec
import LexprModel.Proofs.ListRTGlue
import LexprModel.Proofs.SpecRTBase
namespace Lexpr
namespace Macro
open Print
open Parse.ListRT
open Parse (PlainIdent symTermSlice)

/-! ## The S-expression text of a documented tree -/

/-- the text of the leaves; `[]` for the constructors outside the sub-language (floats, unquotes)
    and for the composite ones -/
def stextAtom : Doc → List UInt8
  | .int n => natDigits n
  | .negInt n => 45 :: natDigits n
  | .str src _ => 34 :: (src ++ [34])
  | .chr c => schemeChar c
  | .tru => [35, 116]
  | .fls => [35, 102]
  | .nil => [35, 110, 105, 108]
  | .sym name => name
  | .psym cs => cs
  | .qsym src _ => src
  | .kw name => 35 :: 58 :: name
  | .ckw name => 35 :: 58 :: name
  | .qkw src _ => 35 :: 58 :: src
  | .cqkw src _ => 35 :: 58 :: src
  | .pkw cs => 35 :: 58 :: cs
  | _ => []

mutual
/-- The S-expression text equivalent to the macro syntax `d`: integers in decimal, strings between
    double quotes, characters as `#\c`, `#t #f #nil`, symbols verbatim, every keyword spelling as
    `#:name`, lists `(a b c)`, dotted lists `(a b . t)` where a tail that is itself a list or
    dotted list is written merged (`(a . (b c))` is written `(a b c)`, as the printer does), vectors
    `#(a b c)`; single spaces as separators. -/
def stext : Doc → List UInt8
  | .list [] => [40, 41]
  | .list (x :: xs) => 40 :: (stext x ++ (stextRest xs ++ [41]))
  | .dotted [] t => stext t
  | .dotted (x :: xs) t => 40 :: (stext x ++ (stextRest xs ++ (stextTail t ++ [41])))
  | .vec [] => [35, 40, 41]
  | .vec (x :: xs) => 35 :: 40 :: (stext x ++ (stextRest xs ++ [41]))
  | .int n => stextAtom (.int n)
  | .negInt n => stextAtom (.negInt n)
  | .float s e => stextAtom (.float s e)
  | .negFloat s e => stextAtom (.negFloat s e)
  | .str src val => stextAtom (.str src val)
  | .chr c => stextAtom (.chr c)
  | .tru => stextAtom .tru
  | .fls => stextAtom .fls
  | .nil => stextAtom .nil
  | .sym name => stextAtom (.sym name)
  | .psym cs => stextAtom (.psym cs)
  | .qsym src val => stextAtom (.qsym src val)
  | .kw name => stextAtom (.kw name)
  | .ckw name => stextAtom (.ckw name)
  | .qkw src val => stextAtom (.qkw src val)
  | .cqkw src val => stextAtom (.cqkw src val)
  | .pkw cs => stextAtom (.pkw cs)
  | .unq t => stextAtom (.unq t)
/-- further elements, each preceded by a space -/
def stextRest : List Doc → List UInt8
  | [] => []
  | x :: xs => 32 :: (stext x ++ stextRest xs)
/-- the tail of a dotted list, up to the closing parenthesis: merged if it is a list -/
def stextTail : Doc → List UInt8
  | .list ys => stextRest ys
  | .dotted ys t => stextRest ys ++ stextTail t
  | .vec [] => [32, 46, 32, 35, 40, 41]
  | .vec (x :: xs) => 32 :: 46 :: 32 :: 35 :: 40 :: (stext x ++ (stextRest xs ++ [41]))
  | d => 32 :: 46 :: 32 :: stextAtom d
end

/-! ## Side conditions -/

/-- no byte of the string needs an escape: no `"`, no `\`, no control character -/
def noEscape (s : List UInt8) : Bool := s.all (fun b => decide (escClass b = .none))

/-- a symbol name the reader returns verbatim -/
def symOk (name : List UInt8) : Bool := decide (PlainIdent name) && dotHeadOk name

/-- a keyword name the reader returns verbatim after `#:` -/
def kwOk (name : List UInt8) : Bool :=
  name.all (fun b => !symTermSlice b) && name != [46] && Utf8.valid name

def atomOk : Doc → Bool
  | .int n => decide (n ≤ u64Max)
  | .negInt n => decide (1 ≤ n ∧ n ≤ 9223372036854775808)
  | .str src val => src == val && noEscape src && Utf8.valid src
  | .chr c => isScalar c
  | .tru => true
  | .fls => true
  | .nil => true
  | .sym name => symOk name
  | .psym cs => symOk cs
  | .qsym src _ => symOk src
  | .kw name => kwOk name
  | .ckw name => kwOk name
  | .qkw src _ => kwOk src
  | .cqkw src _ => kwOk src
  | .pkw cs => kwOk cs
  | _ => false

mutual
def textOk : Doc → Bool
  | .list xs => textOkL xs
  | .dotted [] _ => false
  | .dotted (x :: xs) t => textOk x && textOkL xs && textOkTail t
  | .vec xs => textOkL xs
  | .int n => atomOk (.int n)
  | .negInt n => atomOk (.negInt n)
  | .float s e => atomOk (.float s e)
  | .negFloat s e => atomOk (.negFloat s e)
  | .str src val => atomOk (.str src val)
  | .chr c => atomOk (.chr c)
  | .tru => atomOk .tru
  | .fls => atomOk .fls
  | .nil => atomOk .nil
  | .sym name => atomOk (.sym name)
  | .psym cs => atomOk (.psym cs)
  | .qsym src val => atomOk (.qsym src val)
  | .kw name => atomOk (.kw name)
  | .ckw name => atomOk (.ckw name)
  | .qkw src val => atomOk (.qkw src val)
  | .cqkw src val => atomOk (.cqkw src val)
  | .pkw cs => atomOk (.pkw cs)
  | .unq t => atomOk (.unq t)
def textOkL : List Doc → Bool
  | [] => true
  | x :: xs => textOk x && textOkL xs
/-- in tail position a dotted list may have no elements before its dot -/
def textOkTail : Doc → Bool
  | .list ys => textOkL ys
  | .dotted ys t => textOkL ys && textOkTail t
  | .vec xs => textOkL xs
  | d => atomOk d
end

/-- The side conditions under which `stext d` is the printer's text of the denoted value and is
    read back (`textOk` is the executable check):
    * no float, no unquote;
    * `int n`: `n ≤ u64::MAX`; `negInt n`: `1 ≤ n ≤ 2^63` (`-0` denotes `0`, which prints `0`);
    * `str src val`: the source text is the denoted string (`src = val`), it needs no escape
      (no `"`, `\`, control character) and is valid UTF-8;
    * `chr c`: `c` is a Unicode scalar value;
    * symbols (`sym`, `psym`, `qsym`): the name is a `PlainIdent` and a leading `.` is not followed
      by NUL, `|` or `"` (`dotHeadOk`);
    * keywords (all five spellings): no byte of the name is a symbol terminator, the name is not
      the lone `.`, and it is valid UTF-8;
    * a dotted list has at least one element before the dot (`sexp!((. 5))` is `5`, which no list
      text denotes), except in tail position, where it is merged anyway. -/
def TextOK (d : Doc) : Prop := textOk d = true

instance (d : Doc) : Decidable (TextOK d) := inferInstanceAs (Decidable (textOk d = true))

/-! ## Leaves -/

theorem escapeStr_noEscape (syn : StringSyntax) (s : List UInt8) (h : noEscape s = true) :
    escapeStr syn s = s := by
  induction s with
  | nil => rfl
  | cons b s ih =>
    simp only [noEscape, List.all_cons, Bool.and_eq_true, decide_eq_true_eq] at h
    rw [Parse.escapeStr_cons, h.1, ih (by simpa [noEscape] using h.2)]
    rfl

theorem ofSigned_nat (n : Nat) : Number.ofSigned (n : Int) = .pos n := by
  simp [Number.ofSigned]

theorem ofSigned_neg (n : Nat) (h : 1 ≤ n) : Number.ofSigned (-(n : Int)) = .neg (-(n : Int)) := by
  have : ¬ (-(n : Int) ≥ 0) := by omega
  simp only [Number.ofSigned, this, if_false]

theorem intDigits_neg (n : Nat) (h : 1 ≤ n) : intDigits (-(n : Int)) = 45 :: natDigits n := by
  have : (-(n : Int)) < 0 := by omega
  simp only [intDigits, this, if_true, Int.natAbs_neg, Int.natAbs_natCast]
  rfl

theorem symOk_iff (name : List UInt8) : symOk name = true ↔ PlainIdent name ∧ dotHeadOk name = true := by
  simp [symOk]

theorem kwOk_iff (name : List UInt8) : kwOk name = true ↔
    (∀ b ∈ name, symTermSlice b = false) ∧ name ≠ [46] ∧ Utf8.valid name = true := by
  simp [kwOk, and_assoc]

theorem atom_facts (env : Tok → Value) (ryu : Nat → List UInt8) (d : Doc) (h : atomOk d = true) :
    text po ryu (valueOf env d) = stextAtom d ∧ (valueOf env d).isCons = false ∧
      (valueOf env d).isVector = false ∧ valueOf env d ≠ .null ∧ AllSupported (valueOf env d) := by
  cases d with
  | int n =>
    simp only [atomOk, decide_eq_true_eq] at h
    simp only [valueOf, ofSigned_nat, stextAtom, SpecRT.text_number, numberText]
    exact ⟨trivial, rfl, rfl, by simp, by simpa [AllSupported, SupportedAtom] using h⟩
  | negInt n =>
    simp only [atomOk, decide_eq_true_eq] at h
    simp only [valueOf, ofSigned_neg n h.1, stextAtom, SpecRT.text_number, numberText,
      intDigits_neg n h.1]
    refine ⟨trivial, rfl, rfl, by simp, ?_⟩
    simp only [AllSupported, SupportedAtom, i64Min]
    omega
  | str src val =>
    simp only [atomOk, Bool.and_eq_true, beq_iff_eq] at h
    obtain ⟨⟨rfl, h2⟩, h3⟩ := h
    simp only [valueOf, stextAtom, SpecRT.text_string, escapeStr_noEscape _ _ h2]
    exact ⟨trivial, rfl, rfl, by simp, by simpa [AllSupported, SupportedAtom] using h3⟩
  | chr c =>
    simp only [atomOk] at h
    exact ⟨SpecRT.text_char po ryu c, rfl, rfl, by simp [valueOf],
      by simpa [valueOf, AllSupported, SupportedAtom] using h⟩
  | tru | fls =>
    exact ⟨SpecRT.text_bool po ryu _, rfl, rfl, by simp [valueOf], by simp [valueOf, AllSupported]⟩
  | nil =>
    exact ⟨SpecRT.text_nil po ryu, rfl, rfl, by simp [valueOf], by simp [valueOf, AllSupported]⟩
  | sym name | psym name | qsym name _ =>
    simp only [atomOk, symOk_iff] at h
    exact ⟨SpecRT.text_symbol po ryu _, rfl, rfl, by simp [valueOf],
      by simpa [valueOf, AllSupported, SupportedAtom] using h⟩
  | kw name | ckw name | qkw name _ | cqkw name _ | pkw name =>
    simp only [atomOk, kwOk_iff] at h
    exact ⟨SpecRT.text_keyword po ryu _, rfl, rfl, by simp [valueOf],
      by simpa [valueOf, AllSupported, SupportedAtom] using h⟩
  | float _ _ | negFloat _ _ | unq _ | list _ | dotted _ _ | vec _ => simp [atomOk] at h

theorem atom_nesting (env : Tok → Value) (d : Doc) (h : atomOk d = true) :
    nesting (valueOf env d) = 0 ∧ nestingTail (valueOf env d) = 0 :=
  have ⟨_, h1, h2, h3, _⟩ := atom_facts env (fun _ => []) d h
  nesting_atom _ h1 h2 h3

/-! ## `stext` is the printer's text of the denoted value -/

theorem atom_tail (env : Tok → Value) (ryu : Nat → List UInt8) (d : Doc) (h : atomOk d = true) :
    32 :: 46 :: 32 :: stextAtom d = flatten (emitsTail po ryu (valueOf env d)) := by
  obtain ⟨h1, h2, _, h3, _⟩ := atom_facts env ryu d h
  rw [tailP_dotted po ryu _ h2 h3, h1]

mutual
theorem stext_eq (env : Tok → Value) (ryu : Nat → List UInt8) :
    ∀ d : Doc, textOk d = true → stext d = text po ryu (valueOf env d)
  | .list [], _ => (textP_null po ryu).symm
  | .list (x :: xs), h => by
    simp only [textOk, textOkL, Bool.and_eq_true] at h
    simp only [stext, valueOf, valueOfL, Value.list, Value.append, textP_cons,
      stextRest_eq env ryu xs .null h.2, tailP_null, List.append_nil, stext_eq env ryu x h.1]
  | .dotted [] t, h => by simp [textOk] at h
  | .dotted (x :: xs) t, h => by
    simp only [textOk, Bool.and_eq_true] at h
    simp only [stext, valueOf, valueOfL, Value.append, textP_cons,
      stextRest_eq env ryu xs _ h.1.2, stext_eq env ryu x h.1.1, stextTail_eq env ryu t h.2,
      List.append_assoc]
  | .vec [], _ => by simp only [stext, valueOf, valueOfL, text_vector, seqP_nil, List.nil_append]
  | .vec (x :: xs), h => by
    simp only [textOk, textOkL, Bool.and_eq_true] at h
    simp only [stext, valueOf, valueOfL, text_vector, seqP_true, stextSeq_eq env ryu xs h.2,
      stext_eq env ryu x h.1, List.append_assoc]
  -- On a leaf constructor `stext` and `textOk` reduce to `stextAtom` and `atomOk` (as do
  -- `stextTail`, `textOkTail`, `dnest`, `rtext`, `rawOk` below): the leaf lemmas apply as they stand.
  | .int _, h | .negInt _, h | .float _ _, h | .negFloat _ _, h | .str _ _, h | .chr _, h
  | .tru, h | .fls, h | .nil, h | .sym _, h | .psym _, h | .qsym _ _, h | .kw _, h | .ckw _, h
  | .qkw _ _, h | .cqkw _ _, h | .pkw _, h | .unq _, h => (atom_facts env ryu _ h).1.symm
theorem stextRest_eq (env : Tok → Value) (ryu : Nat → List UInt8) :
    ∀ (xs : List Doc) (t : Value), textOkL xs = true →
      flatten (emitsTail po ryu (Value.append (valueOfL env xs) t)) =
        stextRest xs ++ flatten (emitsTail po ryu t)
  | [], _, _ => rfl
  | x :: xs, t, h => by
    simp only [textOkL, Bool.and_eq_true] at h
    simp only [valueOfL, Value.append, stextRest, tailP_cons, stextRest_eq env ryu xs t h.2,
      stext_eq env ryu x h.1, List.cons_append, List.append_assoc]
theorem stextSeq_eq (env : Tok → Value) (ryu : Nat → List UInt8) :
    ∀ xs : List Doc, textOkL xs = true →
      flatten (emitsSeq po ryu false (valueOfL env xs)) = stextRest xs
  | [], _ => seqP_nil po ryu false
  | x :: xs, h => by
    simp only [textOkL, Bool.and_eq_true] at h
    simp only [valueOfL, seqP_false, stextRest, stextSeq_eq env ryu xs h.2, stext_eq env ryu x h.1]
theorem stextTail_eq (env : Tok → Value) (ryu : Nat → List UInt8) :
    ∀ t : Doc, textOkTail t = true → stextTail t = flatten (emitsTail po ryu (valueOf env t))
  | .list ys, h => by
    simp only [textOkTail] at h
    simp only [stextTail, valueOf, Value.list, stextRest_eq env ryu ys .null h, tailP_null,
      List.append_nil]
  | .dotted ys t, h => by
    simp only [textOkTail, Bool.and_eq_true] at h
    simp only [stextTail, valueOf, stextRest_eq env ryu ys _ h.1, stextTail_eq env ryu t h.2]
  | .vec [], _ => by
    rw [tailP_dotted po ryu _ rfl (by simp [valueOf])]
    simp only [stextTail, valueOf, valueOfL, text_vector, seqP_nil, List.nil_append]
  | .vec (x :: xs), h => by
    simp only [textOkTail, textOkL, Bool.and_eq_true] at h
    rw [tailP_dotted po ryu _ rfl (by simp [valueOf])]
    simp only [stextTail, valueOf, valueOfL, text_vector, seqP_true, stextSeq_eq env ryu xs h.2,
      stext_eq env ryu x h.1, List.append_assoc]
  | .int _, h | .negInt _, h | .float _ _, h | .negFloat _ _, h | .str _ _, h | .chr _, h
  | .tru, h | .fls, h | .nil, h | .sym _, h | .psym _, h | .qsym _ _, h | .kw _, h | .ckw _, h
  | .qkw _ _, h | .cqkw _ _, h | .pkw _, h | .unq _, h => atom_tail env ryu _ h
end

/-! ## The denoted value is supported by the round-trip theorem -/

mutual
theorem supported_valueOf (env : Tok → Value) :
    ∀ d : Doc, textOk d = true → AllSupported (valueOf env d)
  | .list xs, h => supported_append env xs .null h trivial
  | .dotted [] t, h => by simp [textOk] at h
  | .dotted (x :: xs) t, h => by
    simp only [textOk, Bool.and_eq_true] at h
    exact ⟨supported_valueOf env x h.1.1, supported_append env xs _ h.1.2 (supported_tail env t h.2)⟩
  | .vec xs, h => supported_seq env xs h
  | .int _, h | .negInt _, h | .float _ _, h | .negFloat _ _, h | .str _ _, h | .chr _, h
  | .tru, h | .fls, h | .nil, h | .sym _, h | .psym _, h | .qsym _ _, h | .kw _, h | .ckw _, h
  | .qkw _ _, h | .cqkw _ _, h | .pkw _, h | .unq _, h => (atom_facts env (fun _ => []) _ h).2.2.2.2
theorem supported_append (env : Tok → Value) :
    ∀ (xs : List Doc) (t : Value), textOkL xs = true → AllSupported t →
      AllSupported (Value.append (valueOfL env xs) t)
  | [], _, _, ht => ht
  | x :: xs, t, h, ht => by
    simp only [textOkL, Bool.and_eq_true] at h
    exact ⟨supported_valueOf env x h.1, supported_append env xs t h.2 ht⟩
theorem supported_seq (env : Tok → Value) :
    ∀ xs : List Doc, textOkL xs = true → AllSupportedSeq (valueOfL env xs)
  | [], _ => trivial
  | x :: xs, h => by
    simp only [textOkL, Bool.and_eq_true] at h
    exact ⟨supported_valueOf env x h.1, supported_seq env xs h.2⟩
theorem supported_tail (env : Tok → Value) :
    ∀ t : Doc, textOkTail t = true → AllSupported (valueOf env t)
  | .list ys, h => supported_append env ys .null h trivial
  | .dotted ys t, h => by
    simp only [textOkTail, Bool.and_eq_true] at h
    exact supported_append env ys _ h.1 (supported_tail env t h.2)
  | .vec xs, h => supported_seq env xs h
  | .int _, h | .negInt _, h | .float _ _, h | .negFloat _ _, h | .str _ _, h | .chr _, h
  | .tru, h | .fls, h | .nil, h | .sym _, h | .psym _, h | .qsym _ _, h | .kw _, h | .ckw _, h
  | .qkw _ _, h | .cqkw _ _, h | .pkw _, h | .unq _, h => (atom_facts env (fun _ => []) _ h).2.2.2.2
end

theorem textOk_tail_of_textOk (d : Doc) (h : textOk d = true) : textOkTail d = true := by
  cases d with
  | dotted ys t =>
    cases ys with
    | nil => simp [textOk] at h
    | cons y ys =>
      simp only [textOk, Bool.and_eq_true] at h
      simp only [textOkTail, textOkL, h.1.1, h.1.2, h.2, Bool.and_self]
  | _ => exact h

/-! ## Nesting of the denoted value, computed on the tree -/

mutual
/-- parentheses pending at the deepest point of `stext d` (merged tails do not count) -/
def dnest : Doc → Nat
  | .list xs => 1 + dnestL xs
  | .dotted [] t => dnest t
  | .dotted (x :: xs) t => 1 + max (dnest x) (max (dnestL xs) (dnestTail t))
  | .vec xs => 1 + dnestL xs
  | _ => 0
def dnestL : List Doc → Nat
  | [] => 0
  | x :: xs => max (dnest x) (dnestL xs)
def dnestTail : Doc → Nat
  | .list ys => dnestL ys
  | .dotted ys t => max (dnestL ys) (dnestTail t)
  | .vec xs => 1 + dnestL xs
  | _ => 0
end

mutual
theorem nesting_valueOf (env : Tok → Value) :
    ∀ d : Doc, textOk d = true → nesting (valueOf env d) = dnest d
  | .list [], _ => by simp [valueOf, valueOfL, Value.list, Value.append, nesting, dnest, dnestL]
  | .list (x :: xs), h => by
    simp only [textOk, textOkL, Bool.and_eq_true] at h
    simp only [valueOf, valueOfL, Value.list, Value.append, nesting, dnest, dnestL,
      nesting_valueOf env x h.1, nestingTail_append env xs .null h.2, nestingTail]
    omega
  | .dotted [] t, h => by simp [textOk] at h
  | .dotted (x :: xs) t, h => by
    simp only [textOk, Bool.and_eq_true] at h
    simp only [valueOf, valueOfL, Value.append, nesting, dnest,
      nesting_valueOf env x h.1.1, nestingTail_append env xs _ h.1.2, nestingTail_valueOf env t h.2]
  | .vec xs, h => by
    simp only [textOk] at h
    simp only [valueOf, nesting, dnest, nestingSeq_valueOfL env xs h]
  | .int _, h | .negInt _, h | .float _ _, h | .negFloat _ _, h | .str _ _, h | .chr _, h
  | .tru, h | .fls, h | .nil, h | .sym _, h | .psym _, h | .qsym _ _, h | .kw _, h | .ckw _, h
  | .qkw _ _, h | .cqkw _ _, h | .pkw _, h | .unq _, h => (atom_nesting env _ h).1
theorem nestingTail_append (env : Tok → Value) :
    ∀ (xs : List Doc) (t : Value), textOkL xs = true →
      nestingTail (Value.append (valueOfL env xs) t) = max (dnestL xs) (nestingTail t)
  | [], t, _ => (Nat.zero_max _).symm
  | x :: xs, t, h => by
    simp only [textOkL, Bool.and_eq_true] at h
    simp only [valueOfL, Value.append, nestingTail, dnestL, nesting_valueOf env x h.1,
      nestingTail_append env xs t h.2]
    omega
theorem nestingSeq_valueOfL (env : Tok → Value) :
    ∀ xs : List Doc, textOkL xs = true → nestingSeq (valueOfL env xs) = dnestL xs
  | [], _ => rfl
  | x :: xs, h => by
    simp only [textOkL, Bool.and_eq_true] at h
    simp only [valueOfL, nestingSeq, dnestL, nesting_valueOf env x h.1,
      nestingSeq_valueOfL env xs h.2]
theorem nestingTail_valueOf (env : Tok → Value) :
    ∀ t : Doc, textOkTail t = true → nestingTail (valueOf env t) = dnestTail t
  | .list ys, h => by
    simp only [textOkTail] at h
    simp only [valueOf, Value.list, nestingTail_append env ys .null h, nestingTail, dnestTail]
    omega
  | .dotted ys t, h => by
    simp only [textOkTail, Bool.and_eq_true] at h
    simp only [valueOf, nestingTail_append env ys _ h.1, nestingTail_valueOf env t h.2, dnestTail]
  | .vec xs, h => by
    simp only [textOkTail] at h
    simp only [valueOf, nestingTail, dnestTail, nestingSeq_valueOfL env xs h]
  | .int _, h | .negInt _, h | .float _ _, h | .negFloat _ _, h | .str _ _, h | .chr _, h
  | .tru, h | .fls, h | .nil, h | .sym _, h | .psym _, h | .qsym _ _, h | .kw _, h | .ckw _, h
  | .qkw _ _, h | .cqkw _ _, h | .pkw _, h | .unq _, h => (atom_nesting env _ h).2
end

/-! ## The literal text: dotted tails written as they stand

  `rtext d` writes `(a . (b c))` as it stands.  The printer never emits that text (it prints
  `(a b c)`), so the round-trip theorem does not apply; the list loop is followed directly. -/

mutual
/-- the literal S-expression text of `d`: as `stext`, but a dotted tail is always written
    ` . tail` -/
def rtext : Doc → List UInt8
  | .list [] => [40, 41]
  | .list (x :: xs) => 40 :: (rtext x ++ (rtextRest xs ++ [41]))
  | .dotted [] _ => []
  | .dotted (x :: xs) t => 40 :: (rtext x ++ ((rtextRest xs ++ 32 :: 46 :: 32 :: rtext t) ++ [41]))
  | .vec [] => [35, 40, 41]
  | .vec (x :: xs) => 35 :: 40 :: ((rtext x ++ rtextRest xs) ++ [41])
  | .int n => stextAtom (.int n)
  | .negInt n => stextAtom (.negInt n)
  | .float s e => stextAtom (.float s e)
  | .negFloat s e => stextAtom (.negFloat s e)
  | .str src val => stextAtom (.str src val)
  | .chr c => stextAtom (.chr c)
  | .tru => stextAtom .tru
  | .fls => stextAtom .fls
  | .nil => stextAtom .nil
  | .sym name => stextAtom (.sym name)
  | .psym cs => stextAtom (.psym cs)
  | .qsym src val => stextAtom (.qsym src val)
  | .kw name => stextAtom (.kw name)
  | .ckw name => stextAtom (.ckw name)
  | .qkw src val => stextAtom (.qkw src val)
  | .cqkw src val => stextAtom (.cqkw src val)
  | .pkw cs => stextAtom (.pkw cs)
  | .unq t => stextAtom (.unq t)
def rtextRest : List Doc → List UInt8
  | [] => []
  | x :: xs => 32 :: (rtext x ++ rtextRest xs)
end

mutual
/-- side conditions for the literal text: those of `textOk`, and every dotted list (also one in
    tail position) has an element before its dot; with `z = true` the literal `-0` is allowed
    (it denotes `0`, which the printer writes `0`: fine for reading, not for `stext_eq_print`) -/
def rawOk (z : Bool) : Doc → Bool
  | .list xs => rawOkL z xs
  | .dotted [] _ => false
  | .dotted (x :: xs) t => rawOk z x && rawOkL z xs && rawOk z t
  | .vec xs => rawOkL z xs
  | .int n => atomOk (.int n)
  | .negInt n => (z && n == 0) || atomOk (.negInt n)
  | .float s e => atomOk (.float s e)
  | .negFloat s e => atomOk (.negFloat s e)
  | .str src val => atomOk (.str src val)
  | .chr c => atomOk (.chr c)
  | .tru => atomOk .tru
  | .fls => atomOk .fls
  | .nil => atomOk .nil
  | .sym name => atomOk (.sym name)
  | .psym cs => atomOk (.psym cs)
  | .qsym src val => atomOk (.qsym src val)
  | .kw name => atomOk (.kw name)
  | .ckw name => atomOk (.ckw name)
  | .qkw src val => atomOk (.qkw src val)
  | .cqkw src val => atomOk (.cqkw src val)
  | .pkw cs => atomOk (.pkw cs)
  | .unq t => atomOk (.unq t)
def rawOkL (z : Bool) : List Doc → Bool
  | [] => true
  | x :: xs => rawOk z x && rawOkL z xs
end

/-- the side conditions for reading the literal text (see `rawOk`; `-0` allowed) -/
def RawOK (d : Doc) : Prop := rawOk true d = true

instance (d : Doc) : Decidable (RawOK d) := inferInstanceAs (Decidable (rawOk true d = true))

/-- `RawOK` without `-0`: the merged text is then the printer's text as well -/
def RawOKStrict (d : Doc) : Prop := rawOk false d = true

instance (d : Doc) : Decidable (RawOKStrict d) := inferInstanceAs (Decidable (rawOk false d = true))

mutual
/-- parentheses pending at the deepest point of `rtext d` (a list in tail position counts) -/
def rnest : Doc → Nat
  | .list xs => 1 + rnestL xs
  | .dotted xs t => 1 + max (rnestL xs) (rnest t)
  | .vec xs => 1 + rnestL xs
  | _ => 0
def rnestL : List Doc → Nat
  | [] => 0
  | x :: xs => max (rnest x) (rnestL xs)
end

/-! Reading a text is `Reads` / `ReadsTail` / `ReadsSeq` of `Reads.lean`, with single spaces as
    separators.  `TailReads` and `SeqReads` are the second components of `ReadsTail` and `ReadsSeq`
    (at `)`), `SpaceOrEnd` a sufficient condition for the first. -/

/-- the list loop, after at least one element, reads the text `E` up to the closing parenthesis
    as the rest `tl` of the cdr chain (`TailRT` for an arbitrary text) -/
def TailReads (cfg : Parse.Cfg) (E : List UInt8) (tl : Value) (n : Nat) : Prop :=
  ∀ (s : Parse.St) (rest : List UInt8) (fuel : Nat) (acc : List Value), acc ≠ [] → Good s →
    s.rd.rest = E ++ 41 :: rest → fuel ≥ 2 * s.rd.rest.length + 3 → n + 1 ≤ s.depth →
    Runs (Parse.parseList cfg fuel 41 acc) s (Value.append acc tl) (41 :: rest)

/-- the vector loop reads the text `E` up to the closing parenthesis as the elements `xs` -/
def SeqReads (cfg : Parse.Cfg) (first : Bool) (E : List UInt8) (xs : List Value) (n : Nat) : Prop :=
  ∀ (s : Parse.St) (rest : List UInt8) (fuel : Nat) (acc : List Value), Good s →
    s.rd.rest = E ++ 41 :: rest → fuel ≥ 2 * s.rd.rest.length + (if first then 4 else 3) →
    n + 1 ≤ s.depth →
    Runs (Parse.parseVector cfg fuel 41 acc) s (acc ++ xs) (41 :: rest)

/-- what follows an element inside a list or vector: nothing (then the parenthesis) or a space -/
def SpaceOrEnd (E : List UInt8) : Prop := E = [] ∨ ∃ tl, E = 32 :: tl

theorem follow_spaceOrEnd (E rest : List UInt8) (h : SpaceOrEnd E) : Follow (E ++ 41 :: rest) := by
  rcases h with rfl | ⟨tl, rfl⟩
  · exact follow_cons _ _ (by decide)
  · exact follow_cons _ _ (by decide)

theorem SpaceOrEnd.append {A E : List UInt8} (hA : SpaceOrEnd A) (hE : SpaceOrEnd E) :
    SpaceOrEnd (A ++ E) := by
  rcases hA with rfl | ⟨tl, rfl⟩
  · exact hE
  · exact Or.inr ⟨tl ++ E, rfl⟩

theorem TailReads.reads {cfg : Parse.Cfg} {E : List UInt8} {tl : Value} {n : Nat}
    (h : TailReads cfg E tl n) (hE : SpaceOrEnd E) : ReadsTail cfg E tl n :=
  ⟨fun rest => follow_spaceOrEnd E rest hE, h⟩

/-- a list whose elements are read whatever follows them, closed -/
theorem readsTail_close (cfg : Parse.Cfg) {R : List UInt8} {vs : List Value} {n : Nat}
    (h : ∀ E tl nt, ReadsTail cfg E tl nt →
      ReadsTail cfg (R ++ E) (Value.append vs tl) (max n nt)) :
    ReadsTail cfg R (Value.list vs) n := by
  simpa [Value.list] using h [] .null 0 (ReadsTail.null cfg .nil)

/-- `#(`, the elements, `)` -/
theorem reads_vector {cfg : Parse.Cfg} {E : List UInt8} {xs : List Value} {n : Nat}
    (hS : ReadsSeq cfg 41 true E xs n) :
    Reads cfg true (35 :: 40 :: (E ++ [41])) (.vector xs) (1 + n) :=
  Reads.vector po (fun h => absurd h (by decide)) hS

theorem reads_supported (cfg : Parse.Cfg) (ho : cfg.opts = Parse.Options.default) (v : Value)
    (h : AllSupported v) : Reads cfg false (text po (fun _ => []) v) v (nesting v) :=
  ((reads_text cfg _).1 v (allAtomsOK_of_supported cfg ho _ v h)).toOpen

theorem raw_atom (env : Tok → Value) (cfg : Parse.Cfg) (ho : cfg.opts = Parse.Options.default)
    (d : Doc) (h : atomOk d = true) : Reads cfg false (stextAtom d) (valueOf env d) 0 := by
  obtain ⟨h1, _, _, _, h4⟩ := atom_facts env (fun _ => []) d h
  have := reads_supported cfg ho _ h4
  rwa [h1, (atom_nesting env d h).1] at this

/-- A text `T` that `parse_token` (called, as `next_value` does, with the first byte of the text
    and fuel `unread length + 1`) turns into a token with the value `v` is read as `v` in every
    follow context: `atomOK_of_parseToken` for a text that need not be the printer's. -/
theorem reads_of_parseToken (cfg : Parse.Cfg) (T : List UInt8) (v : Value) (tok : Parse.Token)
    (hat : tok.atom = some v) (hhead : ElemHead T)
    (hrun : ∀ (s : Parse.St) (rest : List UInt8) (pk : UInt8) (tl : List UInt8), Follow rest →
      Good s → T = pk :: tl → s.rd.rest = T ++ rest →
      Runs (Parse.parseToken cfg (s.rd.rest.length + 1) pk) s tok rest) :
    Reads cfg false T v 0 := by
  refine ⟨hhead, ?_⟩
  intro s rest fuel hf hg hr hfu _
  obtain ⟨c, tl, ht, hc1, hc2, -, -, -⟩ := hhead
  obtain ⟨F, rfl⟩ : ∃ F, fuel = F + 1 := ⟨fuel - 1, by omega⟩
  exact nextValue_of_parseToken cfg F s c tl rest v tok hat hg (by rw [hr, ht]) hc1 hc2
    fun s1 g1 r1 => hrun s1 rest c tl (follow_of_open hf) g1 ht (by rw [r1, ht])

theorem minus_digits_reads (cfg : Parse.Cfg) (n : Nat) (hn : n ≤ u64Max) :
    Reads cfg false (45 :: natDigits n) (.number (Parse.numTailVal false n)) 0 := by
  refine reads_of_parseToken cfg _ _ (.number (Parse.numTailVal false n)) rfl
    (head_of_nonterm 45 _ (by decide) (by decide)) ?_
  intro s rest pk tl hF hg ht hr
  obtain ⟨rfl, -⟩ : 45 = pk ∧ _ := by simpa using ht
  have := Parse.minus_digits_token cfg (s.rd.rest.length + 1) n hn rest s
    (by simpa using hr) (by rw [hr]; simp; omega) hF (fun _ => hg.2)
  exact runs_of_adv _ s _ _ _ rest hg this (by simp [hr])

theorem raw_negInt (env : Tok → Value) (cfg : Parse.Cfg) (ho : cfg.opts = Parse.Options.default)
    (z : Bool) (n : Nat) (h : ((z && n == 0) || atomOk (.negInt n)) = true) :
    Reads cfg false (stextAtom (.negInt n)) (valueOf env (.negInt n)) 0 := by
  by_cases h0 : n = 0
  · subst h0
    have := minus_digits_reads cfg 0 (by decide)
    rwa [show Parse.numTailVal false 0 = Number.ofSigned (-((0 : Nat) : Int)) by decide] at this
  · have : atomOk (.negInt n) = true := by simpa [h0] using h
    exact raw_atom env cfg ho _ this

mutual
theorem raw_reads (env : Tok → Value) (cfg : Parse.Cfg) (ho : cfg.opts = Parse.Options.default)
    (z : Bool) : ∀ d : Doc, rawOk z d = true → Reads cfg false (rtext d) (valueOf env d) (rnest d)
  | .list [], _ => (Reads.null cfg .nil).toOpen
  | .list (x :: xs), h => by
    simp only [rawOk, rawOkL, Bool.and_eq_true] at h
    exact (Reads.cons .nil (raw_reads env cfg ho z x h.1)
      (readsTail_close cfg fun _ _ _ => raw_readsRest env cfg ho z xs h.2)).toOpen
  | .dotted [] t, h => by simp [rawOk] at h
  | .dotted (x :: xs) t, h => by
    simp only [rawOk, Bool.and_eq_true] at h
    have := Reads.cons .nil (raw_reads env cfg ho z x h.1.1) (raw_readsRest env cfg ho z xs h.1.2
      (ReadsTail.dotted (dotShape_plain _) (raw_reads env cfg ho z t h.2)))
    rw [← Nat.max_assoc] at this
    exact this.toOpen
  | .vec [], _ => (reads_vector (ReadsSeq.nil cfg (.inl rfl) true .nil)).toOpen
  | .vec (x :: xs), h => by
    simp only [rawOk, rawOkL, Bool.and_eq_true] at h
    exact (reads_vector (ReadsSeq.cons .nil (fun h => nomatch h) (raw_reads env cfg ho z x h.1)
      (raw_readsSeq env cfg ho z xs h.2))).toOpen
  | .negInt n, h => raw_negInt env cfg ho z n h
  | .int _, h | .float _ _, h | .negFloat _ _, h | .str _ _, h | .chr _, h | .tru, h | .fls, h
  | .nil, h | .sym _, h | .psym _, h | .qsym _ _, h | .kw _, h | .ckw _, h | .qkw _ _, h
  | .cqkw _ _, h | .pkw _, h | .unq _, h => raw_atom env cfg ho _ h
theorem raw_readsRest (env : Tok → Value) (cfg : Parse.Cfg) (ho : cfg.opts = Parse.Options.default)
    (z : Bool) : ∀ (xs : List Doc) {E : List UInt8} {tl : Value} {nt : Nat}, rawOkL z xs = true →
      ReadsTail cfg E tl nt →
      ReadsTail cfg (rtextRest xs ++ E) (Value.append (valueOfL env xs) tl) (max (rnestL xs) nt)
  | [], _, _, _, _, hD => by
    simpa [rtextRest, valueOfL, Value.append, rnestL] using hD
  | x :: xs, _, _, _, h, hD => by
    simp only [rawOkL, Bool.and_eq_true] at h
    have := ReadsTail.cons triv_space (by simp) (raw_reads env cfg ho z x h.1)
      (raw_readsRest env cfg ho z xs h.2 hD)
    simpa [rtextRest, valueOfL, Value.append, rnestL, Nat.max_assoc] using this
theorem raw_readsSeq (env : Tok → Value) (cfg : Parse.Cfg) (ho : cfg.opts = Parse.Options.default)
    (z : Bool) : ∀ xs : List Doc, rawOkL z xs = true →
      ReadsSeq cfg 41 false (rtextRest xs) (valueOfL env xs) (rnestL xs)
  | [], _ => ReadsSeq.nil cfg (.inl rfl) false .nil
  | x :: xs, h => by
    simp only [rawOkL, Bool.and_eq_true] at h
    exact ReadsSeq.cons triv_space (fun _ => by simp) (raw_reads env cfg ho z x h.1)
      (raw_readsSeq env cfg ho z xs h.2)
end

theorem raw_rest (env : Tok → Value) (cfg : Parse.Cfg) (ho : cfg.opts = Parse.Options.default)
    (z : Bool) : ∀ (xs : List Doc) (E : List UInt8) (tl : Value) (nt : Nat), rawOkL z xs = true →
      SpaceOrEnd E → TailReads cfg E tl nt →
      TailReads cfg (rtextRest xs ++ E) (Value.append (valueOfL env xs) tl) (max (rnestL xs) nt) :=
  fun xs _ _ _ h hE hD => (raw_readsRest env cfg ho z xs h (hD.reads hE)).2

theorem raw_seq (env : Tok → Value) (cfg : Parse.Cfg) (ho : cfg.opts = Parse.Options.default)
    (z : Bool) : ∀ xs : List Doc, rawOkL z xs = true →
      SeqReads cfg false (rtextRest xs) (valueOfL env xs) (rnestL xs) :=
  fun xs h => (raw_readsSeq env cfg ho z xs h).2

mutual
theorem textOk_of_rawOk : ∀ d : Doc, rawOk false d = true → textOk d = true
  | .list xs, h => textOkL_of_rawOkL xs h
  | .dotted [] t, h => by simp [rawOk] at h
  | .dotted (x :: xs) t, h => by
    simp only [rawOk, Bool.and_eq_true] at h
    simp only [textOk, Bool.and_eq_true]
    exact ⟨⟨textOk_of_rawOk x h.1.1, textOkL_of_rawOkL xs h.1.2⟩,
      textOk_tail_of_textOk t (textOk_of_rawOk t h.2)⟩
  | .vec xs, h => textOkL_of_rawOkL xs h
  | .int _, h | .negInt _, h | .float _ _, h | .negFloat _ _, h | .str _ _, h | .chr _, h
  | .tru, h | .fls, h | .nil, h | .sym _, h | .psym _, h | .qsym _ _, h | .kw _, h | .ckw _, h
  | .qkw _ _, h | .cqkw _ _, h | .pkw _, h | .unq _, h => h
theorem textOkL_of_rawOkL : ∀ xs : List Doc, rawOkL false xs = true → textOkL xs = true
  | [], _ => rfl
  | x :: xs, h => by
    simp only [rawOkL, Bool.and_eq_true] at h
    simp only [textOkL, Bool.and_eq_true]
    exact ⟨textOk_of_rawOk x h.1, textOkL_of_rawOkL xs h.2⟩
end

mutual
theorem rawOk_mono (z : Bool) : ∀ d : Doc, rawOk false d = true → rawOk z d = true
  | .list xs, h => rawOkL_mono z xs h
  | .dotted [] t, h => by simp [rawOk] at h
  | .dotted (x :: xs) t, h => by
    simp only [rawOk, Bool.and_eq_true] at h ⊢
    exact ⟨⟨rawOk_mono z x h.1.1, rawOkL_mono z xs h.1.2⟩, rawOk_mono z t h.2⟩
  | .vec xs, h => rawOkL_mono z xs h
  | .negInt n, h => by
    simp only [rawOk, Bool.false_and, Bool.false_or] at h
    simp only [rawOk, h, Bool.or_true]
  | .int _, h | .float _ _, h | .negFloat _ _, h | .str _ _, h | .chr _, h
  | .tru, h | .fls, h | .nil, h | .sym _, h | .psym _, h | .qsym _ _, h | .kw _, h | .ckw _, h
  | .qkw _ _, h | .cqkw _ _, h | .pkw _, h | .unq _, h => h
theorem rawOkL_mono (z : Bool) : ∀ xs : List Doc, rawOkL false xs = true → rawOkL z xs = true
  | [], _ => rfl
  | x :: xs, h => by
    simp only [rawOkL, Bool.and_eq_true] at h ⊢
    exact ⟨rawOk_mono z x h.1, rawOkL_mono z xs h.2⟩
end

/-! ## Names the macro syntax can produce are fine

  A symbol or keyword written in the macro without string literal is a Rust identifier or a run
  of punctuation.  For ASCII identifiers and for every well-formed punctuation run except the
  lone `.`, the name conditions of `TextOK` hold. -/

/-- an ASCII Rust identifier: a letter or `_`, then letters, digits and `_` -/
def rustIdent : List UInt8 → Bool
  | [] => false
  | b :: tl => (Parse.isAsciiAlpha b || b == 95) &&
      tl.all (fun c => Parse.isAsciiAlpha c || Parse.isDigit c || c == 95)

theorem kwOk_of_symOk (name : List UInt8) (h : symOk name = true) : kwOk name = true := by
  rw [symOk_iff] at h
  obtain ⟨⟨hshape, hvalid⟩, _⟩ := h
  rw [kwOk_iff]
  cases name with
  | nil => simp [Parse.plainShape] at hshape
  | cons b tl =>
    simp only [Parse.plainShape, Bool.and_eq_true, List.all_eq_true, Bool.not_eq_true'] at hshape
    refine ⟨hshape.1, ?_, hvalid⟩
    intro he
    obtain ⟨rfl, rfl⟩ : b = 46 ∧ tl = [] := by simpa using he
    exact absurd hshape.2 (by decide)

theorem rustIdent_asciiIdent (name : List UInt8) (h : rustIdent name = true) :
    Parse.asciiIdent name = true := by
  cases name with
  | nil => simp [rustIdent] at h
  | cons b tl =>
    simp only [rustIdent, Bool.and_eq_true, Bool.or_eq_true, beq_iff_eq, List.all_eq_true] at h
    simp only [Parse.asciiIdent, Bool.and_eq_true, Bool.or_eq_true, List.all_eq_true]
    refine ⟨?_, ?_⟩
    · rcases h.1 with h1 | h1
      · exact Or.inl h1
      · subst h1; exact Or.inr (by decide)
    · intro c hc
      rcases h.2 c hc with (h1 | h1) | h1
      · simp [Parse.isIdentSubsequent, h1]
      · simp [Parse.isIdentSubsequent, h1]
      · subst h1; decide

theorem symOk_of_asciiIdent (name : List UInt8) (h : Parse.asciiIdent name = true) :
    symOk name = true := by
  rw [symOk_iff]
  refine ⟨Parse.asciiIdent_plain name h, ?_⟩
  cases name with
  | nil => rfl
  | cons b tl =>
    simp only [Parse.asciiIdent, Bool.and_eq_true, Bool.or_eq_true, bne_iff_ne, ne_eq] at h
    have hb : b ≠ 46 := by
      rcases h.1 with h1 | h1
      · intro he; subst he; exact absurd h1 (by decide)
      · exact h1.2
    unfold dotHeadOk
    split
    · rename_i heq; simp only [List.cons.injEq] at heq; exact absurd heq.1 hb
    · rfl

theorem symPunct_facts : ∀ c : UInt8, isSymPunct c = true →
    symTermSlice c = false ∧ c < 0x80 ∧ Parse.isDigit c = false ∧ c ≠ 0 ∧
      Parse.isDelimiter c = false ∧ (Parse.isSignSubsequent c = true ∨ c = 46) ∧
      (Parse.isSymbolExtended c = true ∨ c = 43 ∨ c = 45) := by
  apply Parse.byte_forall; decide +kernel

theorem idPunct_symPunct (c : UInt8) (h : isIdPunct c = true) : isSymPunct c = true := by
  simp only [isIdPunct, Bool.and_eq_true] at h; exact h.1

/-- Every well-formed punctuation symbol except the lone `.` is a plain identifier.  All the
    per-character facts come from `symPunct_facts`: the characters are ASCII and no terminators; the
    first is an extended symbol character or a sign, and after a sign `signTailOk` looks at the next
    one (a sign-subsequent, or a dot that no digit follows); `dotHeadOk` looks at the character after
    a leading dot (neither NUL nor a delimiter). -/
theorem symOk_of_punct (cs : List UInt8) (hwf : wf (.psym cs) = true) (hdot : cs ≠ [46]) :
    symOk cs = true := by
  cases cs with
  | nil => simp [wf] at hwf
  | cons b tl =>
    simp only [wf, Bool.and_eq_true, List.all_eq_true] at hwf
    obtain ⟨hb, htl⟩ := hwf
    have hall : ∀ x ∈ b :: tl, isSymPunct x = true :=
      List.forall_mem_cons.mpr ⟨hb, fun x hx => idPunct_symPunct x (htl x hx)⟩
    rw [symOk_iff]
    refine ⟨⟨?_, Utf8.U8.valid_ascii (fun x hx => (symPunct_facts x (hall x hx)).2.1)⟩, ?_⟩
    · simp only [Parse.plainShape, Bool.and_eq_true, List.all_eq_true, Bool.not_eq_true',
        Bool.or_eq_true, bne_iff_ne, ne_eq, beq_iff_eq]
      refine ⟨fun x hx => (symPunct_facts x (hall x hx)).1, ?_⟩
      obtain ⟨-, -, -, -, -, -, he | he⟩ := symPunct_facts b hb
      · exact Or.inl ⟨Or.inr he, hdot⟩
      · refine Or.inr ⟨he, ?_⟩
        cases tl with
        | nil => rfl
        | cons c tl' =>
          simp only [Parse.signTailOk, Bool.or_eq_true, Bool.and_eq_true, beq_iff_eq]
          obtain ⟨-, -, -, -, -, h1 | h1, -⟩ := symPunct_facts c (hall c (by simp))
          · exact Or.inl (Or.inr h1)
          · refine Or.inr ⟨h1, ?_⟩
            cases tl' with
            | nil => rfl
            | cons d tl'' =>
              obtain ⟨-, -, hdig, -⟩ := symPunct_facts d (hall d (by simp))
              simp [Parse.dotTailOk, hdig]
    · unfold dotHeadOk
      split
      · rename_i b' tl' heq
        simp only [List.cons.injEq] at heq
        obtain ⟨-, rfl⟩ := heq
        obtain ⟨-, -, -, hnul, hdelim, -⟩ := symPunct_facts b' (hall b' (by simp))
        simp [hnul, hdelim]
      · rfl

/-- every well-formed punctuation keyword except `#:.` has a supported name: the run is a
    well-formed punctuation symbol as well -/
theorem kwOk_of_punct (cs : List UInt8) (hwf : wf (.pkw cs) = true) (hdot : cs ≠ [46]) :
    kwOk cs = true := by
  refine kwOk_of_symOk cs (symOk_of_punct cs ?_ hdot)
  cases cs with
  | nil => simp [wf] at hwf
  | cons b tl =>
    simp only [wf, Bool.and_eq_true] at hwf ⊢
    exact ⟨idPunct_symPunct b hwf.1, hwf.2⟩

/-! ## Why the side conditions are there, and where macro and parser differ

  Concrete witnesses (`cfg0` is the concrete parser configuration of `ListRT`). -/

/-- Without `TextOK` the equation `stext d = print (valueOf d)` is false: `-0` denotes
    `0`, printed `0`; a string containing `"` is printed with an escape. -/
theorem stext_ne_print_witness (env : Tok → Value) (ryu : Nat → List UInt8) :
    stext (.negInt 0) ≠ Print.text Print.Options.default ryu (valueOf env (.negInt 0)) ∧
    stext (.str (asc "a\"b") (asc "a\"b")) ≠
      Print.text Print.Options.default ryu (valueOf env (.str (asc "a\"b") (asc "a\"b"))) := by
  constructor
  · have : valueOf env (.negInt 0) = .number (.pos 0) := by simp [valueOf, Number.ofSigned]
    rw [this, SpecRT.text_number]; simp only [numberText]; decide
  · simp only [valueOf, SpecRT.text_string]; decide

/-- `sexp!((. 5))` is `5` (a dotted list without elements is accepted by `parse_list` and
    evaluates to its tail), but the text `(. 5)` is rejected by the parser: `WF` trees with an
    empty dotted front have no S-expression text; `TextOK` excludes them. -/
theorem empty_front_witness (env : Tok → Value) :
    WF (.dotted [] (.int 5)) ∧
    expand env (toks (.dotted [] (.int 5))) = some (.number (.pos 5)) ∧
    errCode (Parse.fromTrait cfg0 (Parse.initSt .slice (asc "(. 5)"))) = some .expectedSomeValue := by
  refine ⟨by decide, ?_, by decide +kernel⟩
  rw [C09_expand env _ (by decide) (by decide)]
  simp [valueOf, valueOfL, Value.append, Number.ofSigned]

/-- `sexp!(#(. a))` is the vector of the symbols `.` and `a` (`WF` exempts vectors from the
    lone-dot rule), but the text `#(. a)` — which is also what the printer writes for that value
    — is rejected by the parser (`.` alone is not a symbol).  `TextOK` excludes the symbol `.`. -/
theorem lone_dot_witness (env : Tok → Value) :
    WF (.vec [.psym [46], .sym (asc "a")]) ∧
    expand env (toks (.vec [.psym [46], .sym (asc "a")])) =
      some (.vector [.symbol [46], .symbol (asc "a")]) ∧
    Print.text Print.Options.default (fun _ => []) (.vector [.symbol [46], .symbol (asc "a")]) =
      asc "#(. a)" ∧
    errCode (Parse.fromTrait cfg0 (Parse.initSt .slice (asc "#(. a)"))) = some .invalidSymbol := by
  refine ⟨by decide, ?_, by decide, by decide +kernel⟩
  rw [C09_expand env _ (by decide) (by decide)]
  simp [valueOf, valueOfL]

/-- Under the side conditions `TextOK d`, the S-expression text of the
    documented tree `d` is exactly what the default printer writes for the value `d` denotes. -/
theorem stext_eq_print (env : Tok → Value) (ryu : Nat → List UInt8) (d : Doc) (h : TextOK d) :
    stext d = Print.text Print.Options.default ryu (valueOf env d) :=
  stext_eq env ryu d h

/-- The value denoted by a `TextOK` tree is in the fragment covered by
    `C01_roundtrip_supported`. -/
theorem C09_supported (env : Tok → Value) (d : Doc) (h : TextOK d) :
    AllSupported (valueOf env d) :=
  supported_valueOf env d h

theorem C09_nesting (env : Tok → Value) (d : Doc) (h : TextOK d) :
    nesting (valueOf env d) = dnest d :=
  nesting_valueOf env d h

/-- The parser (default options, slice source) reads the text of a `TextOK` tree of
    nesting at most 127 as the denoted value, consuming all of it. -/
theorem C09_text (env : Tok → Value) (cfg : Parse.Cfg) (ho : cfg.opts = Parse.Options.default)
    (d : Doc) (hok : TextOK d) (hn : dnest d ≤ 127) :
    ∃ s', Parse.fromTrait cfg (Parse.initSt .slice (stext d)) = .ok (valueOf env d) s' ∧
      s'.rd.rest = [] ∧ s'.depth = 128 := by
  rw [stext_eq_print env (fun _ => []) d hok]
  exact C01_roundtrip_supported cfg ho _ _ (C09_supported env d hok)
    (by rw [C09_nesting env d hok]; exact hn)

/-- The macro and the parser agree on the documented syntax: for a well-formed
    tree `d` (`WF d`: no glued tokens, see `MacroSpec`) that satisfies the text side conditions
    (`TextOK d`) and nests at most 127 deep, `sexp!` applied to the Rust tokens of `d` and
    `from_slice` applied to the S-expression text of `d` both yield `valueOf env d`.
    (`hfuel` is the fuel artefact of the macro model, as in `C09_expand`.) -/
theorem C09_agree (env : Tok → Value) (cfg : Parse.Cfg) (ho : cfg.opts = Parse.Options.default)
    (d : Doc) (hwf : WF d) (hok : TextOK d) (hn : dnest d ≤ 127)
    (hfuel : need d ≤ 2 * (toks d).length + 1000) :
    expand env (toks d) = some (valueOf env d) ∧
      ∃ s', Parse.fromTrait cfg (Parse.initSt .slice (stext d)) = .ok (valueOf env d) s' ∧
        s'.rd.rest = [] ∧ s'.depth = 128 :=
  ⟨C09_expand env d hwf hfuel, C09_text env cfg ho d hok hn⟩

/-- `C09_agree` with the nesting bound stated on the value and a fuel hypothesis that does not
    mention `need`: at most 500 nodes. -/
theorem C09_agree_small (env : Tok → Value) (cfg : Parse.Cfg)
    (ho : cfg.opts = Parse.Options.default) (d : Doc) (hwf : WF d) (hok : TextOK d)
    (hn : nesting (valueOf env d) ≤ 127) (hsize : nodes d ≤ 500) :
    expand env (toks d) = some (valueOf env d) ∧
      ∃ s', Parse.fromTrait cfg (Parse.initSt .slice (stext d)) = .ok (valueOf env d) s' ∧
        s'.rd.rest = [] ∧ s'.depth = 128 :=
  ⟨C09_expand_small env d hwf hsize,
    C09_text env cfg ho d hok (by rw [← C09_nesting env d hok]; exact hn)⟩

/-- The parser reads the *literal* text of a `RawOK` tree — dotted tails
    written as they stand, `(a . (b c))` — as the denoted value: it merges the tail as the macro
    does.  The depth bound is on the text (`rnest`): a list in tail position opens a parenthesis
    although the value does not nest there. -/
theorem C09_text_literal (env : Tok → Value) (cfg : Parse.Cfg)
    (ho : cfg.opts = Parse.Options.default) (d : Doc) (hok : RawOK d) (hn : rnest d ≤ 127) :
    ∃ s', Parse.fromTrait cfg (Parse.initSt .slice (rtext d)) = .ok (valueOf env d) s' ∧
      s'.rd.rest = [] ∧ s'.depth = 128 :=
  (raw_reads env cfg ho true d hok).fromTrait_plain hn

/-- `C09_agree` for the literal text: the macro on the tokens of `d` and the
    parser on the literal text of `d` both yield `valueOf env d`. -/
theorem C09_agree_literal (env : Tok → Value) (cfg : Parse.Cfg)
    (ho : cfg.opts = Parse.Options.default) (d : Doc) (hwf : WF d) (hok : RawOK d)
    (hn : rnest d ≤ 127) (hfuel : need d ≤ 2 * (toks d).length + 1000) :
    expand env (toks d) = some (valueOf env d) ∧
      ∃ s', Parse.fromTrait cfg (Parse.initSt .slice (rtext d)) = .ok (valueOf env d) s' ∧
        s'.rd.rest = [] ∧ s'.depth = 128 :=
  ⟨C09_expand env d hwf hfuel, C09_text_literal env cfg ho d hok hn⟩

/-- Without `-0`, the side conditions of the literal text imply those of
    the merged text (so `stext_eq_print`, `C09_text`, `C09_agree` apply as well) and `RawOK`. -/
theorem RawOKStrict_TextOK (d : Doc) (h : RawOKStrict d) : TextOK d ∧ RawOK d :=
  ⟨textOk_of_rawOk d h, rawOk_mono true d h⟩

/-- The name conditions of `TextOK` hold for every name the macro syntax can spell
    without a string literal: ASCII Rust identifiers (as symbol and as keyword) and every
    well-formed punctuation run except the lone `.`. -/
theorem C09_names :
    (∀ name, rustIdent name = true → symOk name = true ∧ kwOk name = true) ∧
    (∀ cs, wf (.psym cs) = true → cs ≠ [46] → symOk cs = true) ∧
    (∀ cs, wf (.pkw cs) = true → cs ≠ [46] → kwOk cs = true) :=
  ⟨fun name h => ⟨symOk_of_asciiIdent name (rustIdent_asciiIdent name h),
      kwOk_of_symOk name (symOk_of_asciiIdent name (rustIdent_asciiIdent name h))⟩,
    symOk_of_punct, kwOk_of_punct⟩

/-- `(1 . (1 . ( … . ())))`, `n` dots deep -/
def deepTail : Nat → Doc
  | 0 => .list []
  | n + 1 => .dotted [.int 1] (deepTail n)

theorem deepTail_facts (n : Nat) :
    wf (deepTail n) = true ∧ textOk (deepTail n) = true ∧ textOkTail (deepTail n) = true ∧
      rawOk true (deepTail n) = true ∧ dnest (deepTail n) = 1 ∧ dnestTail (deepTail n) = 0 ∧
      rnest (deepTail n) = n + 1 ∧ need (deepTail n) = 3 * n + 1 := by
  induction n with
  | zero => decide
  | succ n ih =>
    obtain ⟨h1, -, h2, h3, -, h4, h5, h6⟩ := ih
    simp only [deepTail, wf, wfSeq, isDotSym, sepOk, textOk, textOkL, textOkTail, rawOk, rawOkL,
      dnest, dnestL, dnestTail, rnest, rnestL, need, needSeq, h1, h2, h3, h4, h5, h6]
    refine ⟨by decide, by decide, by decide, by decide, by omega, by omega, by omega, by omega⟩

/-- the literal text of `deepTail n` written flat: `n` times `(1 . `, then `()`, then `n` times `)`
    (with a continuation `r`, so that the induction does not re-associate) -/
theorem rtext_deepTail (n : Nat) : ∀ r : List UInt8, rtext (deepTail n) ++ r =
    (List.replicate n [40, 49, 32, 46, 32]).flatten ++ 40 :: 41 :: (List.replicate n 41 ++ r) := by
  induction n with
  | zero => intro r; rfl
  | succ n ih =>
    intro r
    show 40 :: 49 :: 32 :: 46 :: 32 :: ((rtext (deepTail n) ++ [41]) ++ r) = _
    rw [List.append_assoc, ih, List.replicate_succ, List.flatten_cons, List.replicate_succ']
    simp only [List.append_assoc, List.cons_append, List.nil_append]

/-- The depth limit separates macro and parser on the literal syntax: the macro turns the 127-fold
    `(1 . (1 . ( … . ())))` into the flat list of 127 ones (nesting 1), and the parser reads the
    merged text `(1 1 … 1)` as that value, but it rejects the literal text with
    `RecursionLimitExceeded`, because every list in tail position opens a parenthesis
    (`rnest = 128`).  One level less is read (`C09_text_literal`). -/
theorem literal_depth_witness (env : Tok → Value) :
    WF (deepTail 127) ∧ TextOK (deepTail 127) ∧ RawOK (deepTail 127) ∧
    dnest (deepTail 127) = 1 ∧ rnest (deepTail 127) = 128 ∧
    expand env (toks (deepTail 127)) = some (valueOf env (deepTail 127)) ∧
    (∃ s', Parse.fromTrait cfg0 (Parse.initSt .slice (stext (deepTail 127))) =
      .ok (valueOf env (deepTail 127)) s') ∧
    errCode (Parse.fromTrait cfg0 (Parse.initSt .slice (rtext (deepTail 127)))) =
      some .recursionLimitExceeded := by
  obtain ⟨hwf, hok, -, hraw, hn, -, hr, hneed⟩ := deepTail_facts 127
  refine ⟨hwf, hok, hraw, hn, hr, C09_expand env _ hwf (by rw [hneed]; decide), ?_, ?_⟩
  · obtain ⟨s', h, _⟩ := C09_text env cfg0 rfl _ hok (by omega)
    exact ⟨s', h⟩
  · -- on the flat form of the text: the 127 left-nested appends of `rtext` are slow to evaluate
    rw [← List.append_nil (rtext (deepTail 127)), rtext_deepTail]
    decide +kernel

/-- `(define (f + <= ... ->) #:a :b #:"c-d" -5 (1 2 . (3 . ())) (x . y) #("hi" 'z' #t #nil))`:
    a nested tree with symbols, punctuation symbols, keywords in three macro spellings, a negative
    integer, a dotted list with a list tail (merged in the text), a dotted pair, a vector -/
def textDoc : Doc :=
  .list [.sym (asc "define"),
    .list [.sym (asc "f"), .psym (asc "+"), .psym (asc "<="), .psym (asc "..."), .psym (asc "->")],
    .kw (asc "a"), .ckw (asc "b"), .qkw (asc "c-d") (asc "c-d"), .negInt 5,
    .dotted [.int 1, .int 2] (.dotted [.int 3] (.list [])),
    .dotted [.sym (asc "x")] (.sym (asc "y")),
    .vec [.str (asc "hi") (asc "hi"), .chr 122, .tru, .nil]]

theorem textDoc_wf : WF textDoc := by decide +kernel
theorem textDoc_ok : TextOK textDoc := by decide +kernel

/-- `asc` of a string literal is its characters mapped by `ch`.  An equation `t = asc "…"` with a
    long literal is evaluated as `t = List.map ch _` (`.trans ?_ (asc_ofList _).symm`: the literal
    unifies with `String.ofList` of its characters), since `asc "…"` itself is slow to evaluate. -/
theorem asc_ofList (cs : List Char) : asc (String.ofList cs) = cs.map ch := by
  simp [asc]

theorem textDoc_text : stext textDoc =
    asc "(define (f + <= ... ->) #:a #:b #:c-d -5 (1 2 3) (x . y) #(\"hi\" #\\z #t #nil))" := by
  refine .trans ?_ (asc_ofList _).symm
  decide +kernel

example (env : Tok → Value) (ryu : Nat → List UInt8) :
    stext textDoc = Print.text Print.Options.default ryu (valueOf env textDoc) :=
  stext_eq_print env ryu textDoc textDoc_ok

example (env : Tok → Value) : AllSupported (valueOf env textDoc) := C09_supported env _ textDoc_ok

example (env : Tok → Value) : nesting (valueOf env textDoc) = 2 :=
  (C09_nesting env _ textDoc_ok).trans (by decide)

example (env : Tok → Value) (cfg : Parse.Cfg) (ho : cfg.opts = Parse.Options.default) :
    ∃ s', Parse.fromTrait cfg (Parse.initSt .slice (stext textDoc)) = .ok (valueOf env textDoc) s' ∧
      s'.rd.rest = [] ∧ s'.depth = 128 :=
  C09_text env cfg ho textDoc textDoc_ok (by decide)

example (env : Tok → Value) (cfg : Parse.Cfg) (ho : cfg.opts = Parse.Options.default) :
    expand env (toks textDoc) = some (valueOf env textDoc) ∧
      ∃ s', Parse.fromTrait cfg (Parse.initSt .slice (stext textDoc)) = .ok (valueOf env textDoc) s' ∧
        s'.rd.rest = [] ∧ s'.depth = 128 :=
  C09_agree env cfg ho textDoc textDoc_wf textDoc_ok (by decide) (by decide)

example (env : Tok → Value) (cfg : Parse.Cfg) (ho : cfg.opts = Parse.Options.default) :
    expand env (toks textDoc) = some (valueOf env textDoc) ∧
      ∃ s', Parse.fromTrait cfg (Parse.initSt .slice (stext textDoc)) = .ok (valueOf env textDoc) s' ∧
        s'.rd.rest = [] ∧ s'.depth = 128 :=
  C09_agree_small env cfg ho textDoc textDoc_wf textDoc_ok
    (by rw [C09_nesting env _ textDoc_ok]; decide) (by decide)

/-- `(a . (b c))`: the literal text, the merged text, and the common value `(a b c)` -/
def tailDoc : Doc := .dotted [.sym (asc "a")] (.list [.sym (asc "b"), .sym (asc "c")])

example : rtext tailDoc = asc "(a . (b c))" ∧ stext tailDoc = asc "(a b c)" ∧
    rnest tailDoc = 2 ∧ dnest tailDoc = 1 := by decide +kernel

example (env : Tok → Value) (cfg : Parse.Cfg) (ho : cfg.opts = Parse.Options.default) :
    ∃ s', Parse.fromTrait cfg (Parse.initSt .slice (rtext tailDoc)) =
        .ok (Value.list [.symbol (asc "a"), .symbol (asc "b"), .symbol (asc "c")]) s' ∧
      s'.rd.rest = [] ∧ s'.depth = 128 :=
  C09_text_literal env cfg ho tailDoc (by decide) (by decide)

example : RawOK textDoc ∧ rtext textDoc =
    asc "(define (f + <= ... ->) #:a #:b #:c-d -5 (1 2 . (3 . ())) (x . y) #(\"hi\" #\\z #t #nil))" := by
  refine ⟨by decide +kernel, .trans ?_ (asc_ofList _).symm⟩
  decide +kernel

example (env : Tok → Value) (cfg : Parse.Cfg) (ho : cfg.opts = Parse.Options.default) :
    expand env (toks textDoc) = some (valueOf env textDoc) ∧
      ∃ s', Parse.fromTrait cfg (Parse.initSt .slice (rtext textDoc)) = .ok (valueOf env textDoc) s' ∧
        s'.rd.rest = [] ∧ s'.depth = 128 :=
  C09_agree_literal env cfg ho textDoc textDoc_wf (by decide +kernel) (by decide) (by decide)

/-- `(-0 . (-0))`: read as `(0 0)` -/
example (env : Tok → Value) (cfg : Parse.Cfg) (ho : cfg.opts = Parse.Options.default) :
    ∃ s', Parse.fromTrait cfg (Parse.initSt .slice (asc "(-0 . (-0))")) =
        .ok (Value.list [.number (.pos 0), .number (.pos 0)]) s' ∧ s'.rd.rest = [] ∧ s'.depth = 128 :=
  C09_text_literal env cfg ho (.dotted [.negInt 0] (.list [.negInt 0])) (by decide) (by decide)

example : TextOK tailDoc ∧ RawOK tailDoc := RawOKStrict_TextOK tailDoc (by decide)

example : symOk (asc "list_of_2") = true ∧ kwOk (asc "_x") = true ∧ symOk (asc "<=>") = true ∧
    symOk (asc "+.") = true ∧ kwOk (asc "->") = true :=
  ⟨(C09_names.1 _ (by decide)).1, (C09_names.1 _ (by decide)).2,
    C09_names.2.1 _ (by decide) (by decide), C09_names.2.1 _ (by decide) (by decide),
    C09_names.2.2 _ (by decide) (by decide)⟩

#print axioms stext_eq_print
#print axioms C09_supported
#print axioms C09_nesting
#print axioms C09_text
#print axioms C09_agree
#print axioms C09_agree_small
#print axioms C09_text_literal
#print axioms C09_agree_literal
#print axioms RawOKStrict_TextOK
#print axioms C09_names
#print axioms stext_ne_print_witness
#print axioms empty_front_witness
#print axioms lone_dot_witness
#print axioms literal_depth_witness

end Macro
end Lexpr
