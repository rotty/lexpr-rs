/-
  C16 for datums: the span information of a datum nests no deeper than its value, so the call depth of
  clone / `==` / drop of a datum (value AND span tree) is bounded by the nesting of the VALUE alone.

  LexprModel/Proofs/ConsOpsDatum.lean bounds the depth of `SpanInfo::clone` / `eq` / drop by
  `loopedS info`; LexprModel/Proofs/DatumValue.lean proves that every datum the parser returns is
  `Shaped` (its span tree mirrors its value).  This file joins the two: for a shaped datum
  `loopedS info = Depth.looped value` (`shaped_looped`; `unshaped_deeper`: not without `Shaped`).  It
  also defines the derived `Clone` / `PartialEq` / drop glue of `Datum` with the call depth
  (`cloneDatumI`, `eqDatumI`, `dropDatumD`) and `ParserDatum`, the datums some entry point or
  history of the parser returns.
-/
import LexprModel.Proofs.DatumValue
import LexprModel.Proofs.ConsOpsDatum
import LexprModel.Proofs.ConsOpsDepth
namespace Lexpr
namespace ConsOps
open Parse Depth Spec

-- recursion on the span tree: `Shaped` forces the constructor of the value
mutual
theorem shaped_looped : ∀ (i : SpanInfo) (v : Value), Shaped v i →
    loopedS i = looped v ∧ loopedSTail i = loopedTail v
  | .prim _, v, h => by cases v <;> first | exact ⟨rfl, rfl⟩ | exact h.elim
  | .cons _ c d, v, h => by
    cases v with
    | cons a b =>
      have h1 := shaped_looped c a h.1
      have h2 := shaped_looped d b h.2
      simp only [loopedS, looped, loopedSTail, loopedTail, h1.1, h2.2, and_self]
    | _ => exact h.elim
  | .vec _ ms, v, h => by
    cases v with
    | vector xs =>
      simp only [loopedS, looped, loopedSTail, loopedTail, shaped_loopedList ms xs h, and_self]
    | _ => exact h.elim
theorem shaped_loopedList : ∀ (ms : List SpanInfo) (xs : List Value), ShapedList xs ms →
    loopedSList ms = loopedList xs
  | [], xs, h => by cases xs with | nil => rfl | cons _ _ => exact h.elim
  | m :: ms, xs, h => by
    cases xs with
    | nil => cases h
    | cons x xs =>
      simp only [loopedSList, loopedList, (shaped_looped m x h.1).1, shaped_loopedList ms xs h.2]
end

/-- for a span tree that mirrors the value, the depth measure of the loop-implemented operations
    on the span tree is exactly that of the value -/
theorem loopedS_eq_of_shaped : ∀ (v : Value) (i : SpanInfo), Shaped v i → loopedS i = looped v :=
  fun v i h => (shaped_looped i v h).1

/-- the weaker form of `loopedS_eq_of_shaped` -/
theorem loopedS_le_of_shaped (v : Value) (i : SpanInfo) (h : Shaped v i) : loopedS i ≤ looped v :=
  Nat.le_of_eq (loopedS_eq_of_shaped v i h)

theorem loopedSTail_le_of_shaped (v : Value) (i : SpanInfo) (h : Shaped v i) :
    loopedSTail i ≤ loopedTail v :=
  Nat.le_of_eq (shaped_looped i v h).2

theorem loopedSList_le_of_shaped (xs : List Value) (ms : List SpanInfo) (h : ShapedList xs ms) :
    loopedSList ms ≤ loopedList xs :=
  Nat.le_of_eq (shaped_loopedList ms xs h)

/-- the span tree of a shaped datum nests no deeper than the value. -/
theorem loopedS_le_nesting (v : Value) (i : SpanInfo) (h : Shaped v i) :
    loopedS i ≤ nesting v + 1 := by
  rw [loopedS_eq_of_shaped v i h]; exact C16_depth_looped v

/-- witness that `Shaped` is needed: a span tree that does not mirror the value (it cannot come from
    the parser, `C10_shaped`) may nest deeper than the value -/
theorem unshaped_deeper :
    loopedS (.vec Span.empty [.vec Span.empty [.prim Span.empty]]) = 3 ∧ looped .null = 1 ∧
    ¬ Shaped .null (.vec Span.empty [.vec Span.empty [.prim Span.empty]]) := by
  refine ⟨by decide, by decide, ?_⟩
  simp [Shaped, SpanInfo.isPrim]

/-- For a span tree `i` that mirrors the value `v` — cloning `i` reaches exactly
    `Depth.looped v` levels, hence at most `nesting v + 1`; one `SpanInfo::eq` with `i` on either side
    (its own frame included) at most `nesting v + 1`, whatever the other operand; dropping `i` at most
    `2 * nesting v + 2`. -/
theorem C16_shaped_depth (v : Value) (i : SpanInfo) (h : Shaped v i) :
    cloneSI i = (.ok i, looped v) ∧
    (cloneSI i).2 ≤ nesting v + 1 ∧
    (∀ b, (eqSI i b).2 + 1 ≤ nesting v + 1 ∧ (eqSI b i).2 + 1 ≤ nesting v + 1) ∧
    dropSD i ≤ 2 * nesting v + 2 := by
  have he := loopedS_eq_of_shaped v i h
  have hn := loopedS_le_nesting v i h
  exact ⟨by rw [cloneSI_eq, he], by rw [cloneSI_eq]; exact hn,
    fun b => ⟨Nat.le_trans (eqS_depth_le i b).1 hn, Nat.le_trans (eqS_depth_le b i).2 hn⟩,
    Nat.le_trans (dropSD_le i) (Nat.mul_le_mul_left 2 hn)⟩

/-! ### the derived operations of `Datum`, with the call depth

  `#[derive(Clone, PartialEq)] struct Datum { value: Value, info: SpanInfo }` and its drop glue: one
  level for the operation on the datum itself, below it the operation on `value` and then on `info`
  (`==` short-circuits).  `eqSI` counts the levels *below* the frame of `SpanInfo::eq`, whence the
  `+ 1`; `cloneVI`, `cloneSI`, `eqVI`, `dropD`, `dropSD` include their own level. -/

/-- `<Datum as Clone>::clone` (`cloneDatum`) with the depth reached. -/
def cloneDatumI (d : Datum) : Out Datum × Nat :=
  match cloneVI d.value with
  | (.panic s, k) => (.panic s, k + 1)
  | (.ok v, k) =>
    match cloneSI d.info with
    | (.panic s, k') => (.panic s, max k k' + 1)
    | (.ok i, k') => (.ok ⟨v, i⟩, max k k' + 1)

/-- `<Datum as PartialEq>::eq` (`eqDatum`) with the depth reached. -/
def eqDatumI (a b : Datum) : Bool × Nat :=
  match eqVI a.value b.value with
  | (false, k) => (false, k + 1)
  | (true, k) =>
    match eqSI a.info b.info with
    | (r, k') => (r, max k (k' + 1) + 1)

/-- Depth of dropping a `Datum` (its drop glue drops `value`, then `info`). -/
def dropDatumD (d : Datum) : Nat := 1 + max (dropD d.value) (dropSD d.info)

theorem cloneDatumI_eq (d : Datum) :
    cloneDatumI d = (.ok d, max (looped d.value) (loopedS d.info) + 1) := by
  simp only [cloneDatumI, cloneVI_eq, cloneSI_eq]

theorem cloneDatumI_fst (d : Datum) : (cloneDatumI d).1 = cloneDatum d := by
  rw [cloneDatumI_eq, cloneDatum_eq]

theorem eqDatumI_fst (a b : Datum) : (eqDatumI a b).1 = eqDatum a b := by
  rw [eqDatumI, eqDatum, ← eqVI_fst, ← eqSI_fst]
  split <;> rename_i k h <;> rw [h] <;> rfl

/-- `==` short-circuits: the span trees are compared only when the values are equal -/
theorem eqDatumI_snd_le (a b : Datum) :
    (eqDatumI a b).2 ≤ max (eqVI a.value b.value).2 ((eqSI a.info b.info).2 + 1) + 1 := by
  rw [eqDatumI]
  split <;> rename_i k h <;> rw [h]
  · exact Nat.succ_le_succ (Nat.le_max_left ..)
  · exact Nat.le_refl _

theorem eqDatumI_le (a b : Datum) :
    (eqDatumI a b).2 ≤ max (looped a.value) (loopedS a.info) + 1 ∧
    (eqDatumI a b).2 ≤ max (looped b.value) (loopedS b.info) + 1 := by
  obtain ⟨_, v1, v2⟩ := eqVI_spec a.value b.value
  obtain ⟨s1, s2⟩ := eqS_depth_le a.info b.info
  exact ⟨Nat.le_trans (eqDatumI_snd_le a b) (Nat.succ_le_succ (max_le_max v1 s1)),
    Nat.le_trans (eqDatumI_snd_le a b) (Nat.succ_le_succ (max_le_max v2 s2))⟩

theorem dropDatumD_le (d : Datum) :
    dropDatumD d ≤ 2 * max (looped d.value) (loopedS d.info) + 1 := by
  rw [dropDatumD, Nat.add_comm, ← Nat.mul_max_mul_left]
  exact Nat.succ_le_succ (max_le_max (dropD_le d.value) (dropSD_le d.info))

/-- For a datum whose span tree mirrors its value, in terms of the nesting
    of the value only — `clone` reaches exactly `Depth.looped d.value + 1` levels, at most
    `nesting d.value + 2`; `==` against any datum, on either side, at most `nesting d.value + 2`; drop
    at most `2 * nesting d.value + 3`.  (One level more than for the value alone: the frame of the
    operation on the `Datum` struct.)  Nothing depends on the number of elements. -/
theorem C16_shaped_datum_depth (d : Datum) (h : Shaped d.value d.info) :
    cloneDatumI d = (.ok d, looped d.value + 1) ∧
    (cloneDatumI d).2 ≤ nesting d.value + 2 ∧
    (∀ b, (eqDatumI d b).2 ≤ nesting d.value + 2 ∧ (eqDatumI b d).2 ≤ nesting d.value + 2) ∧
    dropDatumD d ≤ 2 * nesting d.value + 3 := by
  have he := loopedS_eq_of_shaped d.value d.info h
  have hn := C16_depth_looped d.value
  have hc : cloneDatumI d = (.ok d, looped d.value + 1) := by
    rw [cloneDatumI_eq, he, Nat.max_self]
  refine ⟨hc, by rw [hc]; exact Nat.succ_le_succ hn, fun b => ?_, ?_⟩
  · have h1 := (eqDatumI_le d b).1
    have h2 := (eqDatumI_le b d).2
    rw [he, Nat.max_self] at h1 h2
    exact ⟨Nat.le_trans h1 (Nat.succ_le_succ hn), Nat.le_trans h2 (Nat.succ_le_succ hn)⟩
  · have h1 := dropDatumD_le d
    rw [he, Nat.max_self] at h1
    exact Nat.le_trans h1 (Nat.succ_le_succ (Nat.mul_le_mul_left 2 hn))

/-- `d` was returned by the parser configured by `cfg`: by the model's `next_datum` (any fuel, any
    parser state), by `Parser::next_datum`, by `expect_datum`, by `datum::from_str` / `from_slice` /
    `from_reader`, or by some call of some history of calls on one parser. -/
def ParserDatum (cfg : Cfg) (d : Datum) : Prop :=
  (∃ fuel s s', nextDatum cfg fuel s = .ok (some d) s') ∨
  (∃ s s', nextDatumTop cfg s = .ok (some d) s') ∨
  (∃ s s', expectDatum cfg s = .ok d s') ∨
  (∃ s s', fromTraitDatum cfg s = .ok d s') ∨
  (∃ ops s, Item.datum d ∈ runHistory cfg ops s)

theorem ParserDatum.of_nextDatum {cfg : Cfg} {fuel : Nat} {s s' : St} {d : Datum}
    (h : nextDatum cfg fuel s = .ok (some d) s') : ParserDatum cfg d := .inl ⟨_, _, _, h⟩
theorem ParserDatum.of_nextDatumTop {cfg : Cfg} {s s' : St} {d : Datum}
    (h : nextDatumTop cfg s = .ok (some d) s') : ParserDatum cfg d := .inr (.inl ⟨_, _, h⟩)
theorem ParserDatum.of_expectDatum {cfg : Cfg} {s s' : St} {d : Datum}
    (h : expectDatum cfg s = .ok d s') : ParserDatum cfg d := .inr (.inr (.inl ⟨_, _, h⟩))
theorem ParserDatum.of_fromTraitDatum {cfg : Cfg} {s s' : St} {d : Datum}
    (h : fromTraitDatum cfg s = .ok d s') : ParserDatum cfg d :=
  .inr (.inr (.inr (.inl ⟨_, _, h⟩)))
theorem ParserDatum.of_history {cfg : Cfg} {ops : List Op} {s : St} {d : Datum}
    (h : Item.datum d ∈ runHistory cfg ops s) : ParserDatum cfg d :=
  .inr (.inr (.inr (.inr ⟨_, _, h⟩)))

/-- `C10_shaped` for `ParserDatum` -/
theorem ParserDatum.shaped {cfg : Cfg} {d : Datum} (h : ParserDatum cfg d) :
    Shaped d.value d.info := by
  obtain ⟨c1, c2, c3, c4, c5⟩ := C10_shaped cfg
  rcases h with ⟨f, s, s', h⟩ | ⟨s, s', h⟩ | ⟨s, s', h⟩ | ⟨s, s', h⟩ | ⟨ops, s, h⟩
  · exact c1 f s d s' h
  · exact c2 s d s' h
  · exact c3 s d s' h
  · exact c4 s d s' h
  · exact c5 ops s d h

/-- the span tree of a parsed datum nests exactly as deep as its value. -/
theorem C16_datum_info_depth (cfg : Cfg) (d : Datum) (h : ParserDatum cfg d) :
    loopedS d.info = looped d.value ∧ loopedS d.info ≤ nesting d.value + 1 :=
  ⟨loopedS_eq_of_shaped _ _ h.shaped, loopedS_le_nesting _ _ h.shaped⟩

/-- Cloning a parsed datum — the span tree alone reaches at most
    `nesting d.value + 1` levels (exactly `Depth.looped d.value`), the whole datum at most
    `nesting d.value + 2` (exactly `Depth.looped d.value + 1`); the clone is the datum itself. -/
theorem C16_datum_clone_depth (cfg : Cfg) (d : Datum) (h : ParserDatum cfg d) :
    cloneSI d.info = (.ok d.info, looped d.value) ∧
    (cloneSI d.info).2 ≤ nesting d.value + 1 ∧
    cloneDatumI d = (.ok d, looped d.value + 1) ∧
    (cloneDatumI d).2 ≤ nesting d.value + 2 :=
  have hs := C16_shaped_depth _ _ h.shaped
  have hd := C16_shaped_datum_depth d h.shaped
  ⟨hs.1, hs.2.1, hd.1, hd.2.1⟩

/-- Comparing a parsed datum with anything, on either side — one
    `SpanInfo::eq` on its span tree (own frame included) reaches at most `nesting d.value + 1` levels,
    `Datum::eq` at most `nesting d.value + 2`. -/
theorem C16_datum_eq_depth (cfg : Cfg) (d : Datum) (h : ParserDatum cfg d) :
    (∀ b : SpanInfo, (eqSI d.info b).2 + 1 ≤ nesting d.value + 1 ∧
      (eqSI b d.info).2 + 1 ≤ nesting d.value + 1) ∧
    (∀ b : Datum, (eqDatumI d b).2 ≤ nesting d.value + 2 ∧
      (eqDatumI b d).2 ≤ nesting d.value + 2) :=
  ⟨(C16_shaped_depth _ _ h.shaped).2.2.1, (C16_shaped_datum_depth d h.shaped).2.2.1⟩

/-- Dropping a parsed datum — the span tree alone reaches at most
    `2 * nesting d.value + 2` levels, the whole datum at most `2 * nesting d.value + 3`. -/
theorem C16_datum_drop_depth (cfg : Cfg) (d : Datum) (h : ParserDatum cfg d) :
    dropSD d.info ≤ 2 * nesting d.value + 2 ∧ dropDatumD d ≤ 2 * nesting d.value + 3 :=
  ⟨(C16_shaped_depth _ _ h.shaped).2.2.2, (C16_shaped_datum_depth d h.shaped).2.2.2⟩

/-- The three bounds in the explicit form, for `next_datum`, `datum::from_*` and histories. -/
theorem C16_datum_depth_api (cfg : Cfg) (d : Datum)
    (h : (∃ fuel s s', nextDatum cfg fuel s = .ok (some d) s') ∨
         (∃ s s', fromTraitDatum cfg s = .ok d s') ∨
         (∃ ops s, Item.datum d ∈ runHistory cfg ops s)) :
    (cloneSI d.info).2 ≤ nesting d.value + 1 ∧
    (∀ b, (eqSI d.info b).2 + 1 ≤ nesting d.value + 1) ∧
    dropSD d.info ≤ 2 * nesting d.value + 2 ∧
    (cloneDatumI d).2 ≤ nesting d.value + 2 ∧
    (∀ b, (eqDatumI d b).2 ≤ nesting d.value + 2) ∧
    dropDatumD d ≤ 2 * nesting d.value + 3 := by
  have hp : ParserDatum cfg d := by
    rcases h with ⟨_, _, _, h⟩ | ⟨_, _, h⟩ | ⟨_, _, h⟩
    · exact .of_nextDatum h
    · exact .of_fromTraitDatum h
    · exact .of_history h
  exact ⟨(C16_datum_clone_depth cfg d hp).2.1, fun b => ((C16_datum_eq_depth cfg d hp).1 b).1,
    (C16_datum_drop_depth cfg d hp).1, (C16_datum_clone_depth cfg d hp).2.2.2,
    fun b => ((C16_datum_eq_depth cfg d hp).2 b).1, (C16_datum_drop_depth cfg d hp).2⟩

/-! A decidable check "this run returned exactly the datum `e`", so that the concrete runs below are
    evaluated by the kernel (`decide +kernel`): syntactic equality of values (`sameV`; `Value` has no
    `DecidableEq`) and `eqS` on span trees. -/

mutual
/-- syntactic equality of values, as a `Bool` -/
def sameV : Value → Value → Bool
  | .nil, .nil => true
  | .null, .null => true
  | .bool a, .bool b => a == b
  | .number a, .number b => decide (a = b)
  | .char a, .char b => a == b
  | .string a, .string b => a == b
  | .symbol a, .symbol b => a == b
  | .keyword a, .keyword b => a == b
  | .bytes a, .bytes b => a == b
  | .cons a d, .cons a' d' => sameV a a' && sameV d d'
  | .vector xs, .vector ys => sameVList xs ys
  | _, _ => false
def sameVList : List Value → List Value → Bool
  | [], [] => true
  | x :: xs, y :: ys => sameV x y && sameVList xs ys
  | _, _ => false
end

theorem sameV_eq_both :
    (∀ a b : Value, sameV a b = true → a = b) ∧
    (∀ xs ys : List Value, sameVList xs ys = true → xs = ys) := by
  apply sameV.mutual_induct
  · exact fun _ => rfl
  · exact fun _ => rfl
  · intro a b h; rw [sameV] at h; rw [eq_of_beq h]
  · intro a b h; rw [sameV] at h; rw [of_decide_eq_true h]
  iterate 5 exact fun a b h => by rw [sameV] at h; rw [eq_of_beq h]
  · intro a d a' d' iha ihd h
    rw [sameV, Bool.and_eq_true] at h
    rw [iha h.1, ihd h.2]
  · intro xs ys ih h
    rw [sameV] at h; rw [ih h]
  · intro a b h1 h2 h3 h4 h5 h6 h7 h8 h9 h10 h11 h
    rw [sameV.eq_12 a b h1 h2 h3 h4 h5 h6 h7 h8 h9 h10 h11] at h; cases h
  · exact fun _ => rfl
  · intro x xs y ys ihx ihxs h
    rw [sameVList, Bool.and_eq_true] at h
    rw [ihx h.1, ihxs h.2]
  · intro xs ys h1 h2 h
    rw [sameVList.eq_3 xs ys h1 h2] at h; cases h

theorem sameV_eq : ∀ a b : Value, sameV a b = true → a = b := sameV_eq_both.1
theorem sameVList_eq : ∀ xs ys : List Value, sameVList xs ys = true → xs = ys := sameV_eq_both.2

def isDatum (e d : Datum) : Bool := sameV d.value e.value && eqS d.info e.info

theorem isDatum_eq {e d : Datum} (h : isDatum e d = true) : d = e := by
  simp only [isDatum, Bool.and_eq_true] at h
  obtain ⟨v, i⟩ := d
  obtain ⟨v', i'⟩ := e
  simp only at h
  rw [sameV_eq _ _ h.1, (eqS_iff _ _).mp h.2]

def okIs (e : Datum) : Res Datum → Bool
  | .ok d _ => isDatum e d
  | _ => false
def okSomeIs (e : Datum) : Res (Option Datum) → Bool
  | .ok (some d) _ => isDatum e d
  | _ => false
def histHas (e : Datum) (its : List Item) : Bool :=
  its.any fun it => match it with
    | .datum d => isDatum e d
    | _ => false

theorem okIs_elim {e : Datum} {r : Res Datum} (h : okIs e r = true) : ∃ s', r = .ok e s' := by
  rcases r with ⟨d, s'⟩ | _ | _ | _ <;> first | exact ⟨s', by rw [isDatum_eq h]⟩ | cases h
theorem okSomeIs_elim {e : Datum} {r : Res (Option Datum)} (h : okSomeIs e r = true) :
    ∃ s', r = .ok (some e) s' := by
  rcases r with ⟨_ | d, s'⟩ | _ | _ | _ <;> first | exact ⟨s', by rw [isDatum_eq h]⟩ | cases h
theorem histHas_elim {e : Datum} {its : List Item} (h : histHas e its = true) :
    Item.datum e ∈ its := by
  simp only [histHas, List.any_eq_true] at h
  obtain ⟨it, hm, hi⟩ := h
  cases it with
  | datum d => simp only at hi; rw [← isDatum_eq hi]; exact hm
  | _ => simp at hi

def exText : List UInt8 := asc "(a (b #(c d)) . e)"

/-- the datum the model returns for `(a (b #(c d)) . e)` (inner cells carry `Span::empty()`) -/
def exDatum : Datum :=
  { value := .cons (.symbol [97])
      (.cons (Value.list [.symbol [98], .vector [.symbol [99], .symbol [100]]]) (.symbol [101])),
    info := .cons ⟨⟨1, 0⟩, ⟨1, 18⟩⟩ (.prim ⟨⟨1, 1⟩, ⟨1, 2⟩⟩)
      (.cons Span.empty
        (.cons ⟨⟨1, 3⟩, ⟨1, 13⟩⟩ (.prim ⟨⟨1, 4⟩, ⟨1, 5⟩⟩)
          (.cons Span.empty
            (.vec ⟨⟨1, 6⟩, ⟨1, 12⟩⟩ [.prim ⟨⟨1, 8⟩, ⟨1, 9⟩⟩, .prim ⟨⟨1, 10⟩, ⟨1, 11⟩⟩])
            (.prim Span.empty)))
        (.prim ⟨⟨1, 16⟩, ⟨1, 17⟩⟩)) }

/-- `datum::from_str("(a (b #(c d)) . e)")` returns `exDatum` -/
theorem exDatum_parsed : ∃ s', fromTraitDatum exCfg (initSt .str exText) = .ok exDatum s' :=
  okIs_elim (by decide +kernel)

theorem exDatum_parser : ParserDatum exCfg exDatum :=
  let ⟨_, h⟩ := exDatum_parsed
  .of_fromTraitDatum h

/-- both sides computed on the parsed datum: the value has nesting 3 and `Depth.looped` 4, the span
    tree has `loopedS` 4 as well; the instrumented operations reach 4 (clone of the span tree), 5
    (clone of the datum), 4 and 5 (`==` with itself) levels; drop 6 and 7, within the bounds 8 and 9. -/
example :
    nesting exDatum.value = 3 ∧ looped exDatum.value = 4 ∧ loopedS exDatum.info = 4 ∧
    (cloneSI exDatum.info).2 = 4 ∧ (cloneDatumI exDatum).2 = 5 ∧
    (eqSI exDatum.info exDatum.info).2 + 1 = 4 ∧ (eqDatumI exDatum exDatum).2 = 5 ∧
    dropSD exDatum.info = 6 ∧ dropDatumD exDatum = 7 := by decide

/-- the general theorems applied to it -/
example :
    (cloneSI exDatum.info).2 ≤ 3 + 1 ∧ (∀ b, (eqSI exDatum.info b).2 + 1 ≤ 3 + 1) ∧
    dropSD exDatum.info ≤ 2 * 3 + 2 ∧ (cloneDatumI exDatum).2 ≤ 3 + 2 ∧
    (∀ b, (eqDatumI exDatum b).2 ≤ 3 + 2) ∧ dropDatumD exDatum ≤ 2 * 3 + 3 :=
  let ⟨_, h⟩ := exDatum_parsed
  C16_datum_depth_api exCfg exDatum (.inr (.inl ⟨_, _, h⟩))

/-- the other two ways into `C16_datum_depth_api`: `next_datum` with explicit fuel, and a history of
    calls (`next_datum` then `expect_datum` on `a (b)`: the second item is the datum of `(b)`) -/
example : (∃ s', nextDatum exCfg 40 (initSt .str exText) = .ok (some exDatum) s') ∧
    Item.datum ⟨Value.list [.symbol [98]],
        .cons ⟨⟨1, 2⟩, ⟨1, 5⟩⟩ (.prim ⟨⟨1, 3⟩, ⟨1, 4⟩⟩) (.prim Span.empty)⟩ ∈
      runHistory exCfg [.nextDatum, .expectDatum] (initSt .str (asc "a (b)")) :=
  ⟨okSomeIs_elim (by decide +kernel), histHas_elim (by decide +kernel)⟩

end ConsOps
end Lexpr

open Lexpr.ConsOps in
#print axioms loopedS_eq_of_shaped
open Lexpr.ConsOps in
#print axioms loopedS_le_of_shaped
open Lexpr.ConsOps in
#print axioms loopedS_le_nesting
open Lexpr.ConsOps in
#print axioms unshaped_deeper
open Lexpr.ConsOps in
#print axioms C16_shaped_depth
open Lexpr.ConsOps in
#print axioms cloneDatumI_fst
open Lexpr.ConsOps in
#print axioms eqDatumI_fst
open Lexpr.ConsOps in
#print axioms C16_shaped_datum_depth
open Lexpr.ConsOps in
#print axioms ParserDatum.shaped
open Lexpr.ConsOps in
#print axioms C16_datum_info_depth
open Lexpr.ConsOps in
#print axioms C16_datum_clone_depth
open Lexpr.ConsOps in
#print axioms C16_datum_eq_depth
open Lexpr.ConsOps in
#print axioms C16_datum_drop_depth
open Lexpr.ConsOps in
#print axioms C16_datum_depth_api
open Lexpr.ConsOps in
#print axioms exDatum_parsed
