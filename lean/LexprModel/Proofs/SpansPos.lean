/-
  Source positions as a function of the consumed input.

  `posOf bs` is the reader position after consuming `bs` from the start of an input; positions are
  ordered lexicographically (line, column).  Every consumed byte strictly advances the position, so
  `posOf` is strictly monotone (hence injective) on the prefixes of one input.  `Track base whole s`
  is the ghost invariant "`s` has consumed a prefix `pre` of `whole` and stands at
  `posFrom base pre`"; `At input` and `Reach s0` are its two instances.
-/
import LexprModel.Proofs.Consume
namespace Lexpr
namespace Parse

def Pos.le (a b : Pos) : Prop := a.line < b.line ∨ (a.line = b.line ∧ a.col ≤ b.col)
def Pos.lt (a b : Pos) : Prop := a.line < b.line ∨ (a.line = b.line ∧ a.col < b.col)

instance : LE Pos := ⟨Pos.le⟩
instance : LT Pos := ⟨Pos.lt⟩

theorem Pos.le_def (a b : Pos) : a ≤ b ↔ a.line < b.line ∨ (a.line = b.line ∧ a.col ≤ b.col) :=
  Iff.rfl
theorem Pos.lt_def (a b : Pos) : a < b ↔ a.line < b.line ∨ (a.line = b.line ∧ a.col < b.col) :=
  Iff.rfl

instance (a b : Pos) : Decidable (a ≤ b) := by rw [Pos.le_def]; infer_instance
instance (a b : Pos) : Decidable (a < b) := by rw [Pos.lt_def]; infer_instance

theorem Pos.ext' {a b : Pos} (h1 : a.line = b.line) (h2 : a.col = b.col) : a = b := by
  cases a; cases b; simp_all

theorem Pos.le_refl (a : Pos) : a ≤ a := Or.inr ⟨rfl, Nat.le_refl _⟩

theorem Pos.le_of_eq {a b : Pos} (h : a = b) : a ≤ b := h ▸ Pos.le_refl a

theorem Pos.le_trans {a b c : Pos} (h1 : a ≤ b) (h2 : b ≤ c) : a ≤ c := by
  rw [Pos.le_def] at *; omega

theorem Pos.lt_of_lt_of_le {a b c : Pos} (h1 : a < b) (h2 : b ≤ c) : a < c := by
  rw [Pos.le_def] at *; rw [Pos.lt_def] at *; omega

theorem Pos.lt_of_le_of_lt {a b c : Pos} (h1 : a ≤ b) (h2 : b < c) : a < c := by
  rw [Pos.le_def] at *; rw [Pos.lt_def] at *; omega

theorem Pos.lt_trans {a b c : Pos} (h1 : a < b) (h2 : b < c) : a < c := by
  rw [Pos.lt_def] at *; omega

theorem Pos.le_of_lt {a b : Pos} (h : a < b) : a ≤ b := by
  rw [Pos.le_def]; rw [Pos.lt_def] at h; omega

theorem Pos.lt_irrefl (a : Pos) : ¬ a < a := by
  rw [Pos.lt_def]; omega

theorem Pos.le_antisymm {a b : Pos} (h1 : a ≤ b) (h2 : b ≤ a) : a = b := by
  rw [Pos.le_def] at *; exact Pos.ext' (by omega) (by omega)

theorem Pos.not_le_of_lt {a b : Pos} (h : a < b) : ¬ b ≤ a := by
  rw [Pos.le_def]; rw [Pos.lt_def] at h; omega

theorem Pos.le_total (a b : Pos) : a ≤ b ∨ b ≤ a := by
  rw [Pos.le_def, Pos.le_def]; omega

theorem Pos.le_iff_lt_or_eq {a b : Pos} : a ≤ b ↔ a < b ∨ a = b := by
  constructor
  · intro h
    rw [Pos.le_def] at h
    by_cases hc : a.line = b.line ∧ a.col = b.col
    · exact Or.inr (Pos.ext' hc.1 hc.2)
    · left; rw [Pos.lt_def]; omega
  · rintro (h | h)
    · exact Pos.le_of_lt h
    · exact Pos.le_of_eq h

theorem advance_eq (l c : Nat) (b : UInt8) :
    advance l c b = if b = 10 then (l + 1, 0) else (l, c + 1) := by
  unfold advance; simp only [beq_iff_eq]

def Pos.adv (p : Pos) (b : UInt8) : Pos :=
  ⟨(advance p.line p.col b).1, (advance p.line p.col b).2⟩

namespace Spans

def posFrom (p : Pos) (bs : List UInt8) : Pos := bs.foldl Pos.adv p

/-- the position after consuming `bs` from the very start of an input: line 1, column 0 -/
def posOf (bs : List UInt8) : Pos := posFrom ⟨1, 0⟩ bs

@[simp] theorem posFrom_nil (p : Pos) : posFrom p [] = p := rfl
@[simp] theorem posFrom_cons (p : Pos) (b : UInt8) (bs : List UInt8) :
    posFrom p (b :: bs) = posFrom (p.adv b) bs := rfl

theorem posFrom_append (p : Pos) (xs ys : List UInt8) :
    posFrom p (xs ++ ys) = posFrom (posFrom p xs) ys := by
  simp [posFrom, List.foldl_append]

theorem posOf_append (xs ys : List UInt8) : posOf (xs ++ ys) = posFrom (posOf xs) ys :=
  posFrom_append _ _ _

theorem Pos.adv_eq (p : Pos) (b : UInt8) :
    p.adv b = if b = 10 then ⟨p.line + 1, 0⟩ else ⟨p.line, p.col + 1⟩ := by
  unfold Pos.adv
  rw [advance_eq]
  split <;> rfl

theorem Pos.lt_adv (p : Pos) (b : UInt8) : p < p.adv b := by
  rw [Pos.adv_eq, Pos.lt_def]
  by_cases h : b = 10 <;> simp [h]

theorem le_posFrom (p : Pos) (bs : List UInt8) : p ≤ posFrom p bs := by
  induction bs generalizing p with
  | nil => exact Pos.le_refl p
  | cons b bs ih => exact Pos.le_trans (Pos.le_of_lt (Pos.lt_adv p b)) (ih _)

theorem lt_posFrom (p : Pos) (bs : List UInt8) (h : bs ≠ []) : p < posFrom p bs := by
  cases bs with
  | nil => exact absurd rfl h
  | cons b bs => exact Pos.lt_of_lt_of_le (Pos.lt_adv p b) (le_posFrom _ _)

theorem posFrom_line (p : Pos) (bs : List UInt8) : p.line ≤ (posFrom p bs).line := by
  have := le_posFrom p bs
  rw [Pos.le_def] at this; omega

/-- real positions have a line number of at least 1 (so they differ from `Span.empty`) -/
theorem posOf_line (bs : List UInt8) : 1 ≤ (posOf bs).line := posFrom_line ⟨1, 0⟩ bs

theorem consume_position (n : Nat) : ∀ rd : Rd,
    (rd.consume n).position = posFrom rd.position (rd.rest.take n) := by
  induction n with
  | zero => intro rd; simp [Rd.consume, Rd.position]
  | succ n ih =>
    intro rd
    cases hr : rd.rest with
    | nil => simp [Rd.consume, hr, Rd.position]
    | cons b bs =>
      simp only [Rd.consume, hr, List.take_succ_cons, posFrom_cons]
      rw [ih]
      rfl

theorem consume_depth_irrelevant (s : St) (n : Nat) :
    ({ s with rd := s.rd.consume n } : St).depth = s.depth := rfl

/-- Ghost invariant: the reader has consumed a prefix `pre` of `whole` and stands at
    `posFrom base pre`. -/
def Track (base : Pos) (whole : List UInt8) (s : St) : Prop :=
  ∃ pre, pre ++ s.rd.rest = whole ∧ s.rd.position = posFrom base pre

/-- `At input s`: `s` has consumed a prefix `pre` of `input`, and its position is `posOf pre`. -/
def At (input : List UInt8) (s : St) : Prop :=
  ∃ pre, pre ++ s.rd.rest = input ∧ s.rd.position = posOf pre

/-- `Reach s0 s`: `s` is `s0` after consuming some bytes `mid`, position included. -/
def Reach (s0 s : St) : Prop :=
  ∃ mid, mid ++ s.rd.rest = s0.rd.rest ∧ s.rd.position = posFrom s0.rd.position mid

theorem at_iff_track (input : List UInt8) (s : St) : At input s ↔ Track ⟨1, 0⟩ input s := Iff.rfl
theorem reach_iff_track (s0 s : St) : Reach s0 s ↔ Track s0.rd.position s0.rd.rest s := Iff.rfl

theorem Reach.refl (s : St) : Reach s s := ⟨[], rfl, rfl⟩

theorem Track.reach {base : Pos} {whole : List UInt8} {s s' : St} (h : Track base whole s)
    (hr : Reach s s') : Track base whole s' := by
  obtain ⟨pre, e1, p1⟩ := h
  obtain ⟨mid, e2, p2⟩ := hr
  exact ⟨pre ++ mid, by rw [List.append_assoc, e2, e1], by rw [p2, p1, posFrom_append]⟩

theorem Reach.trans {s0 s1 s2 : St} (h1 : Reach s0 s1) (h2 : Reach s1 s2) : Reach s0 s2 :=
  Track.reach h1 h2

theorem At.reach {input : List UInt8} {s s' : St} (h : At input s) (hr : Reach s s') :
    At input s' := Track.reach h hr

theorem Reach.pos_le {s s' : St} (h : Reach s s') : s.rd.position ≤ s'.rd.position := by
  obtain ⟨mid, _, p⟩ := h
  rw [p]; exact le_posFrom _ _

theorem Reach.length_le {s s' : St} (h : Reach s s') : s'.rd.rest.length ≤ s.rd.rest.length := by
  obtain ⟨mid, e, _⟩ := h
  rw [← e]; simp

theorem Reach.pos_lt {s s' : St} (h : Reach s s') (hl : s'.rd.rest.length < s.rd.rest.length) :
    s.rd.position < s'.rd.position := by
  obtain ⟨mid, e, p⟩ := h
  rw [p]
  refine lt_posFrom _ _ ?_
  rintro rfl
  rw [← e] at hl
  simp at hl

/-- the consumed bytes are determined by the lengths -/
theorem Reach.mid_eq {s s' : St} (h : Reach s s') :
    s'.rd.rest = s.rd.rest.drop (s.rd.rest.length - s'.rd.rest.length) ∧
    s'.rd.position =
      posFrom s.rd.position (s.rd.rest.take (s.rd.rest.length - s'.rd.rest.length)) := by
  obtain ⟨mid, e, p⟩ := h
  have hl : s.rd.rest.length - s'.rd.rest.length = mid.length := by rw [← e]; simp
  rw [hl, ← e]
  simp [p]

theorem Reach.pos_of_drop {s s' : St} {n : Nat} (h : Reach s s') (hr : s'.rd.rest = s.rd.rest.drop n)
    (hn : n ≤ s.rd.rest.length) : s'.rd.position = posFrom s.rd.position (s.rd.rest.take n) := by
  have hl : s.rd.rest.length - s'.rd.rest.length = n := by
    rw [hr, List.length_drop]; exact Nat.sub_sub_self hn
  exact hl ▸ h.mid_eq.2

theorem posOf_mono {p q : List UInt8} (h : p <+: q) : posOf p ≤ posOf q := by
  obtain ⟨t, rfl⟩ := h
  rw [posOf_append]; exact le_posFrom _ _

theorem posOf_strict {p q : List UInt8} (h : p <+: q) (hne : p ≠ q) : posOf p < posOf q := by
  obtain ⟨t, rfl⟩ := h
  rw [posOf_append]
  refine lt_posFrom _ _ ?_
  rintro rfl
  simp at hne

theorem prefix_total {p q l : List UInt8} (hp : p <+: l) (hq : q <+: l) : p <+: q ∨ q <+: p := by
  by_cases h : p.length ≤ q.length
  · exact Or.inl (List.prefix_of_prefix_length_le hp hq h)
  · exact Or.inr (List.prefix_of_prefix_length_le hq hp (by omega))

/-- so a (line, column) pair reported by the parser converts back to a byte offset uniquely -/
theorem posOf_inj {p q input : List UInt8} (hp : p <+: input) (hq : q <+: input)
    (h : posOf p = posOf q) : p = q := by
  rcases prefix_total hp hq with hpq | hqp
  · by_cases hne : p = q
    · exact hne
    · exact absurd (h ▸ posOf_strict hpq hne) (Pos.lt_irrefl _)
  · by_cases hne : q = p
    · exact hne.symm
    · exact absurd (h ▸ posOf_strict hqp hne) (Pos.lt_irrefl _)

theorem posOf_le_iff {p q input : List UInt8} (hp : p <+: input) (hq : q <+: input) :
    posOf p ≤ posOf q ↔ p.length ≤ q.length := by
  constructor
  · intro h
    rcases prefix_total hp hq with hpq | hqp
    · exact hpq.length_le
    · by_cases hne : q = p
      · rw [hne]; exact Nat.le_refl _
      · exact absurd h (Pos.not_le_of_lt (posOf_strict hqp hne))
  · intro h
    exact posOf_mono (List.prefix_of_prefix_length_le hp hq h)

end Spans
end Parse
end Lexpr
