/-
  The parser monad: what `>>=` and `pure` do to a state, the monad laws as equations between
  programs, the inversion of a run that returned a result (`bind_ok`, `pure_ok`, `ite_ok`,
  `map_ok`), and the two post-conditions on a result, `Res.Tri` and `Progress.Sat`, with which
  the judgements about a single run are stated.  `Trunc.rbind` / `Trunc.bind_eq`, the bind of
  results, are here under the namespace of the truncation files, whose statements name it.  The
  reader primitives are in Primitives.lean.
-/
import LexprModel.Parse
namespace Lexpr
namespace Parse

@[simp] theorem bind_apply {α β} (m : P α) (f : α → P β) (s : St) :
    (m >>= f) s = match m s with
      | .ok a s' => f a s'
      | .err e s' => .err e s'
      | .panic p => .panic p
      | .fuel => .fuel := rfl

@[simp] theorem pure_apply {α} (a : α) (s : St) : (pure a : P α) s = .ok a s := rfl

theorem bind_ok_eq {α β : Type} {m : P α} {f : α → P β} {s s1 : St} {a : α}
    (h : m s = .ok a s1) : (m >>= f) s = f a s1 := by rw [bind_apply, h]

theorem bind_fuel {α β : Type} {m : P α} {f : α → P β} {s : St} (h : m s = .fuel) :
    (m >>= f) s = .fuel := by rw [bind_apply, h]

theorem attempt_ok_eq {α : Type} {m : P α} {s s1 : St} {a : α} (h : m s = .ok a s1) :
    attempt m s = .ok (.ok a) s1 := by
  unfold attempt; rw [h]

theorem attempt_fuel {α : Type} {m : P α} {s : St} (h : m s = .fuel) : attempt m s = .fuel := by
  unfold attempt; rw [h]

theorem bind_congr_ok {α β : Type} {m : P α} {f g : α → P β} {s : St}
    (h : ∀ a s', m s = .ok a s' → f a s' = g a s') : (m >>= f) s = (m >>= g) s := by
  simp only [bind_apply]
  cases hm : m s with
  | ok a s' => exact h a s' hm
  | _ => rfl

theorem pure_bind {α β : Type} (a : α) (f : α → P β) : (pure a : P α) >>= f = f a := rfl

theorem bind_pure {α : Type} (m : P α) : m >>= pure = m := by
  funext s; rw [bind_apply]; cases m s <;> rfl

theorem bind_assoc {α β γ : Type} (m : P α) (g : α → P β) (f : β → P γ) :
    (m >>= g) >>= f = m >>= fun a => g a >>= f := by
  funext s; simp only [bind_apply]; cases m s <;> rfl

theorem ite_bind {α β : Type} (c : Prop) [Decidable c] (A B : P α) (f : α → P β) :
    (if c then A else B) >>= f = if c then A >>= f else B >>= f := by
  split <;> rfl

theorem ite_rel {α : Sort u} {β : Sort v} {R : α → β → Prop} {c : Prop} [Decidable c] {x y : α}
    {x' y' : β} (hx : R x x') (hy : R y y') :
    R (if c then x else y) (if c then x' else y') := by
  split <;> assumption

theorem bind_ok {α β : Type} {m : P α} {f : α → P β} {s s' : St} {b : β}
    (h : (m >>= f) s = .ok b s') : ∃ a s1, m s = .ok a s1 ∧ f a s1 = .ok b s' := by
  rw [bind_apply] at h
  cases hm : m s with
  | ok a s1 => rw [hm] at h; exact ⟨a, s1, rfl, h⟩
  | err e s1 => rw [hm] at h; cases h
  | panic p => rw [hm] at h; cases h
  | fuel => rw [hm] at h; cases h

theorem pure_ok {α : Type} {a b : α} {s s' : St} (h : (pure a : P α) s = .ok b s') :
    a = b ∧ s = s' := by
  cases h; exact ⟨rfl, rfl⟩

theorem ite_ok {α : Type} {c : Prop} [Decidable c] {A B : P α} {s s' : St} {a : α}
    (h : (if c then A else B) s = .ok a s') : (c ∧ A s = .ok a s') ∨ (¬c ∧ B s = .ok a s') := by
  split at h
  · exact .inl ⟨‹_›, h⟩
  · exact .inr ⟨‹_›, h⟩

theorem map_ok {α β : Type} {m : P α} {g : α → β} {s s' : St} {b : β}
    (h : (m >>= fun a => pure (g a)) s = .ok b s') : ∃ a, m s = .ok a s' ∧ b = g a := by
  obtain ⟨a, s1, hm, h⟩ := bind_ok h
  obtain ⟨rfl, rfl⟩ := pure_ok h
  exact ⟨a, hm, rfl⟩

/-- what `P.bind` does with the result of its first argument: the rules that compare two runs
    through their results (truncation, faulty streams) speak of it -/
def Trunc.rbind {α β : Type} (r : Res α) (f : α → P β) : Res β :=
  match r with
  | .ok a s => f a s
  | .err e s => .err e s
  | .panic p => .panic p
  | .fuel => .fuel

theorem Trunc.bind_eq {α β : Type} (m : P α) (f : α → P β) (s : St) : (m >>= f) s = Trunc.rbind (m s) f := rfl

def Res.map (f : α → β) : Res α → Res β
  | .ok a s => .ok (f a) s
  | .err e s => .err e s
  | .panic p => .panic p
  | .fuel => .fuel

/-! ### post-conditions on a result

  `Res.Tri` says when a panic may occur (`Run` is stated with it); `Progress.Sat` lets every panic
  pass (`Lexes`, `Progress.Spec`, `Locations.LSpec`, `Spans.Inv`, `Spans.Tri`) and carries the
  name of Progress.lean, whose statements are written with it. -/

/-- post on `ok`, post on `err`, whether a panic may occur, whether `fuel` may occur -/
def Res.Tri {α : Type} (r : Res α) (Q : α → St → Prop) (E : Err → St → Prop) (N F : Prop) :
    Prop :=
  match r with
  | .ok a s' => Q a s'
  | .err e s' => E e s'
  | .panic _ => N
  | .fuel => F

theorem Res.Tri.imp {α : Type} {r : Res α} {Q Q' : α → St → Prop} {E E' : Err → St → Prop}
    {N N' F F' : Prop} (h : r.Tri Q E N F) (hq : ∀ a s, Q a s → Q' a s)
    (he : ∀ e s, E e s → E' e s) (hN : N → N') (hF : F → F') : r.Tri Q' E' N' F' := by
  cases r with
  | ok a s => exact hq a s h
  | err e s => exact he e s h
  | panic p => exact hN h
  | fuel => exact hF h

theorem Res.Tri.ok {α : Type} {r : Res α} {Q : α → St → Prop} {E : Err → St → Prop} {N F : Prop}
    {a : α} {s : St} (h : r.Tri Q E N F) (hr : r = .ok a s) : Q a s := by subst hr; exact h

theorem Res.Tri.err {α : Type} {r : Res α} {Q : α → St → Prop} {E : Err → St → Prop} {N F : Prop}
    {e : Err} {s : St} (h : r.Tri Q E N F) (hr : r = .err e s) : E e s := by subst hr; exact h

theorem Res.Tri.panic {α : Type} {r : Res α} {Q : α → St → Prop} {E : Err → St → Prop}
    {N F : Prop} {p : Site} (h : r.Tri Q E N F) (hr : r = .panic p) : N := by subst hr; exact h

theorem Res.Tri.fuel {α : Type} {r : Res α} {Q : α → St → Prop} {E : Err → St → Prop}
    {N F : Prop} (h : r.Tri Q E N F) (hr : r = .fuel) : F := by subst hr; exact h

theorem Res.Tri.bind {α β : Type} {m : P α} {f : α → P β} {s : St}
    {Q1 : α → St → Prop} {E1 : Err → St → Prop} {N1 F1 : Prop}
    {Q : β → St → Prop} {E : Err → St → Prop} {N F : Prop}
    (hm : (m s).Tri Q1 E1 N1 F1) (hf : ∀ a s', Q1 a s' → (f a s').Tri Q E N F)
    (he : ∀ e s', E1 e s' → E e s') (hN : N1 → N) (hF : F1 → F) :
    ((m >>= f) s).Tri Q E N F := by
  rw [bind_apply]
  cases hms : m s with
  | ok a s' => rw [hms] at hm; exact hf a s' hm
  | err e s' => rw [hms] at hm; exact he e s' hm
  | panic p => rw [hms] at hm; exact hN hm
  | fuel => rw [hms] at hm; exact hF hm

namespace Progress

/-- Post-condition on a result: `Q` for `ok`, `E` for `err`, `F` says whether `fuel` may occur. -/
def Sat {α : Type} (r : Res α) (Q : α → St → Prop) (E : Err → St → Prop) (F : Prop) : Prop :=
  match r with
  | .ok a s' => Q a s'
  | .err e s' => E e s'
  | .panic _ => True
  | .fuel => F

theorem Sat.iff_tri {α : Type} {r : Res α} {Q : α → St → Prop} {E : Err → St → Prop} {F : Prop} :
    Sat r Q E F ↔ r.Tri Q E True F := Iff.rfl

theorem Sat.imp {α : Type} {r : Res α} {Q Q' : α → St → Prop} {E E' : Err → St → Prop} {F F' : Prop}
    (h : Sat r Q E F) (hq : ∀ a s, Q a s → Q' a s) (he : ∀ e s, E e s → E' e s) (hf : F → F') :
    Sat r Q' E' F' :=
  (Sat.iff_tri.1 h).imp hq he id hf

theorem Sat.bind {α β : Type} {m : P α} {f : α → P β} {s : St}
    {Q1 : α → St → Prop} {E1 : Err → St → Prop} {F1 : Prop}
    {Q : β → St → Prop} {E : Err → St → Prop} {F : Prop}
    (hm : Sat (m s) Q1 E1 F1)
    (hf : ∀ a s', Q1 a s' → Sat (f a s') Q E F)
    (he : ∀ e s', E1 e s' → E e s')
    (hF : F1 → F) : Sat ((m >>= f) s) Q E F :=
  (Sat.iff_tri.1 hm).bind hf he id hF

theorem Sat.pure {α : Type} {a : α} {s : St} {Q : α → St → Prop} {E : Err → St → Prop} {F : Prop}
    (h : Q a s) : Sat ((pure a : P α) s) Q E F := h

end Progress

end Parse
end Lexpr
