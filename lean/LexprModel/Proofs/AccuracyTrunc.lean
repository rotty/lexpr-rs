/-
  Accuracy of decimal literals (property C05), part 4: literals with more significant digits than
  fit `u64`.  The scanners keep a prefix of the digits (`Decimals.C05_scan_any`, `DecLit.scanT`);
  this file bounds the truncation error of the significand (`scanT0_close`; the exponent part plays
  no role in it) and combines it with the rounding analysis (`accuracy_scanned`).
-/
import LexprModel.Proofs.AccuracyLit
namespace Lexpr
namespace Accuracy
open Parse F64 Numbers Decimals

theorem dv_lt : ∀ ds : List UInt8, AllDigits ds → dv 0 ds < 10 ^ ds.length
  | [], _ => by simp
  | c :: cs, h => by
    have ih := dv_lt cs h.tail
    have hc := (isDigit_val c h.head).1
    rw [dv_cons, dv_acc]
    simp only [List.length_cons, Nat.pow_succ, Nat.zero_mul, Nat.zero_add]
    generalize 10 ^ cs.length = p at *
    generalize c.toNat - 48 = d at *
    have : d * p ≤ 9 * p := Nat.mul_le_mul_right p (by omega)
    omega

/-- `fracScan ds sig exp z = (S, exp - j)`: `j` digit positions were shifted in, `k` were not
    (`j + k = z + |ds|`); in units of the last written digit, the true value
    `N = sig * 10^(j+k) + dv 0 ds` lies in `[S * 10^k, (S + 1) * 10^k)`, the kept value `S * 10^k`
    is at least the starting value, and either nothing was lost or `S` is within a factor ten of
    `u64::MAX`. -/
theorem fracScan_inv (ds : List UInt8) (sig : Nat) (exp : Int) (z : Nat) (hd : AllDigits ds) :
    ∃ j k : Nat, j + k = z + ds.length ∧ (fracScan ds sig exp z).2 = exp - (j : Int) ∧
      sig * 10 ^ (j + k) ≤ (fracScan ds sig exp z).1 * 10 ^ k ∧
      (fracScan ds sig exp z).1 * 10 ^ k ≤ sig * 10 ^ (j + k) + dv 0 ds ∧
      sig * 10 ^ (j + k) + dv 0 ds < ((fracScan ds sig exp z).1 + 1) * 10 ^ k ∧
      ((fracScan ds sig exp z).1 * 10 ^ k = sig * 10 ^ (j + k) + dv 0 ds ∨
        u64Max < (fracScan ds sig exp z).1 * 10 + 9) := by
  -- `keep_interval` on the digits without the `t` trailing zeros, then scaled by `10^t`
  have hall := allDigits_zeros_append (z := z) hd
  obtain ⟨t, ht⟩ := stripZ_spec (List.replicate z 48 ++ ds)
  have hX := stripZ_sublist_digits hall
  have hN : dv sig (List.replicate z 48 ++ ds) = sig * 10 ^ (z + ds.length) + dv 0 ds := by
    rw [dv_acc, dv_append, dv_replicate_zero, List.length_append, List.length_replicate]
  rw [fracScan_keep]
  generalize stripZ (List.replicate z 48 ++ ds) = X at ht hX ⊢
  have hlen : z + ds.length = X.length + t := by
    have := congrArg List.length ht
    simpa using this
  rw [ht, dv_append, dv_trailing_zeros, dv_eq_hv] at hN
  obtain ⟨a, b, c, d⟩ := keep_interval u64Max sig (dg X) (dg_lt hX)
  have hj := keep_le u64Max (dg X) sig
  rw [dg_length] at b c d hj
  generalize (keep u64Max (dg X) sig).1 = S at *
  generalize (keep u64Max (dg X) sig).2 = j at *
  have hjk : j + (X.length - j + t) = z + ds.length := by omega
  have hQ : 0 < 10 ^ t := Nat.pow_pos (by decide)
  refine ⟨j, X.length - j + t, hjk, rfl, ?_, ?_, ?_, ?_⟩
  · rw [Nat.pow_add, ← Nat.mul_assoc]
    exact Nat.mul_le_mul_right _ a
  · rw [hjk, ← hN, Nat.pow_add, ← Nat.mul_assoc]
    exact Nat.mul_le_mul_right _ b
  · rw [hjk, ← hN, Nat.pow_add, ← Nat.mul_assoc]
    exact Nat.mul_lt_mul_of_pos_right c hQ
  · refine d.imp (fun h => ?_) id
    rw [hjk, ← hN, h, Nat.sub_self, Nat.zero_add]
    simp only [h, Nat.sub_self, Nat.pow_zero, Nat.mul_one] at b c
    rw [show S = hv sig (dg X) by omega]

/-- `|Vn - Pn| * 2^60 ≤ Vn` (truncated subtraction, both orders) -/
def Close (Pn Vn : Nat) : Prop := (Vn - Pn) * 2 ^ 60 ≤ Vn ∧ (Pn - Vn) * 2 ^ 60 ≤ Vn

theorem close_refl (n : Nat) : Close n n := by
  unfold Close; simp

theorem close_of_interval {B W Pn Vn S0 : Nat} (hP1 : B ≤ Pn) (hP2 : Pn < B + W) (hV1 : B ≤ Vn)
    (hV2 : Vn < B + W) (hB : W * S0 = B) (hK : 2 ^ 60 ≤ S0) : Close Pn Vn := by
  have h1 : W * 2 ^ 60 ≤ W * S0 := Nat.mul_le_mul_left W hK
  unfold Close
  generalize 2 ^ 60 = T at *
  constructor
  · have : (Vn - Pn) * T ≤ W * T := Nat.mul_le_mul_right _ (by omega)
    omega
  · have : (Pn - Vn) * T ≤ W * T := Nat.mul_le_mul_right _ (by omega)
    omega

theorem two60_le_of_ovf {S d : Nat} (hd : d < 10) (h : u64Max < S * 10 + d) : 2 ^ 60 ≤ S := by
  unfold u64Max at h; omega

/-- interval arithmetic for the case "integer part overflowed, fraction follows" -/
theorem interval_B2 {S0 S pt pf pk dd F : Nat} (hpt : 0 < pt) (hdd : dd < pt) (hF : F < pf)
    (h2 : S0 * pf ≤ S * pk) (h3 : S * pk ≤ S0 * pf + F) :
    S0 * pt * pf ≤ S * pk * pt ∧ S * pk * pt < S0 * pt * pf + pt * pf ∧
    S0 * pt * pf ≤ (S0 * pt + dd) * pf + F ∧ (S0 * pt + dd) * pf + F < S0 * pt * pf + pt * pf := by
  have a1 := Nat.mul_le_mul_right pt h2
  have a2 : (S * pk + 1) * pt ≤ (S0 * pf + pf) * pt := Nat.mul_le_mul_right pt (by omega)
  have a3 : (S0 * pt + dd + 1) * pf ≤ (S0 * pt + pt) * pf := Nat.mul_le_mul_right pf (by omega)
  have e1 : S0 * pf * pt = S0 * pt * pf := by grind
  have e2 : (S * pk + 1) * pt = S * pk * pt + pt := by grind
  have e3 : (S0 * pf + pf) * pt = S0 * pt * pf + pt * pf := by grind
  have e4 : (S0 * pt + dd + 1) * pf = (S0 * pt + dd) * pf + pf := by grind
  have e5 : (S0 * pt + pt) * pf = S0 * pt * pf + pt * pf := by grind
  have e6 : (S0 * pt + dd) * pf = S0 * pt * pf + dd * pf := by grind
  refine ⟨by omega, by omega, by omega, by omega⟩

/-- What the scanners keep of the significand after the integer part (`scanTail` with no exponent
    part), against the exact value: integer part `I = S0 * 10^t + dd` of which `S0` was kept and
    `t` digits (value `dd`) were dropped; `t = 0` if nothing was dropped, else `S0 ≥ 2^60`. -/
theorem tail_close (fp : Option (List UInt8)) (S0 t dd : Nat)
    (hfp : ∀ g, fp = some g → AllDigits g) (hdd : dd < 10 ^ t) (hS : t = 0 ∨ 2 ^ 60 ≤ S0) :
    ∃ Pn Vn : Nat, ∃ q : Int,
      dec (scanTail fp none S0 (t : Int)).1 (scanTail fp none S0 (t : Int)).2 = dec Pn q ∧
      dec (dv (S0 * 10 ^ t + dd) (fp.getD [])) (-((fp.getD []).length : Int)) = dec Vn q ∧
      Close Pn Vn := by
  have hpt : 0 < 10 ^ t := Nat.pow_pos (by decide)
  cases fp with
  | none =>
    simp only [scanTail, finExp, Option.getD_none, List.length_nil, dv_nil, Int.natCast_zero,
      Int.neg_zero]
    refine ⟨S0 * 10 ^ t, S0 * 10 ^ t + dd, 0, ?_, rfl, ?_⟩
    · rw [dec_shift]; congr 1; omega
    · rcases hS with h0 | hK
      · subst h0
        have : dd = 0 := by simpa using hdd
        subst this
        exact close_refl _
      · exact close_of_interval (B := S0 * 10 ^ t) (W := 10 ^ t) (Nat.le_refl _) (by omega)
          (by omega) (by omega) (Nat.mul_comm _ _) hK
  | some f =>
    have hf := hfp f rfl
    simp only [scanTail, finExp, Option.getD_some]
    obtain ⟨j, k, h0, h1, h2, h3, h4, h5⟩ := fracScan_inv f S0 (t : Int) 0 hf
    have hjk : j + k = f.length := by omega
    have hF := dv_lt f hf
    rw [h1]
    generalize (fracScan f S0 (t : Int) 0).1 = S at *
    rw [dv_acc f (S0 * 10 ^ t + dd), ← hjk]
    rw [← hjk] at hF
    refine ⟨S * 10 ^ k * 10 ^ t, (S0 * 10 ^ t + dd) * 10 ^ (j + k) + dv 0 f,
      -((j + k : Nat) : Int), ?_, rfl, ?_⟩
    · rw [Nat.mul_assoc, ← Nat.pow_add, dec_shift]; congr 1; omega
    · rcases hS with h0 | hK
      · subst h0
        have : dd = 0 := by simpa using hdd
        subst this
        simp only [Nat.pow_zero, Nat.mul_one, Nat.add_zero]
        rcases h5 with heq | hov
        · rw [heq]; exact close_refl _
        · have hK : 2 ^ 60 ≤ S := two60_le_of_ovf (d := 9) (by decide) hov
          rw [Nat.succ_mul] at h4
          exact close_of_interval (B := S * 10 ^ k) (W := 10 ^ k) (Nat.le_refl _)
            (by have := Nat.pow_pos (a := 10) (n := k) (by decide); omega) h3 h4
            (Nat.mul_comm _ _) hK
      · obtain ⟨b1, b2, b3, b4⟩ := interval_B2 (S0 := S0) (S := S) (pt := 10 ^ t)
          (pf := 10 ^ (j + k)) (pk := 10 ^ k) (dd := dd) (F := dv 0 f) hpt hdd hF h2 h3
        exact close_of_interval (B := S0 * 10 ^ t * 10 ^ (j + k)) (W := 10 ^ t * 10 ^ (j + k))
          b1 b2 b3 b4 (by grind) hK

/-- the significand the scanners keep for an arbitrary literal, against all written digits -/
theorem scanT0_close (ip : List UInt8) (fp : Option (List UInt8)) (hipd : AllDigits ip)
    (hfp : ∀ g, fp = some g → AllDigits g) :
    ∃ Pn Vn : Nat, ∃ q : Int,
      dec (DecLit.scanT ⟨ip, fp, none⟩).1 (DecLit.scanT ⟨ip, fp, none⟩).2 = dec Pn q ∧
      litValue ⟨ip, fp, none⟩ = dec Vn q ∧ Close Pn Vn := by
  unfold litValue DecLit.scanT DecLit.rawSig DecLit.rawExp DecLit.expVal
  simp only [exVal, Int.zero_sub]
  rw [dv_append]
  obtain ⟨h1, h2, h3⟩ := intScan_interval ip 0 hipd
  have hI : dv 0 ip = (intScan ip 0).1 * 10 ^ (intScan ip 0).2 +
      (dv 0 ip - (intScan ip 0).1 * 10 ^ (intScan ip 0).2) := by omega
  rw [hI]
  exact tail_close fp _ _ _ hfp (by rw [Nat.succ_mul] at h2; omega)
    (h3.imp id (two60_le_of_ovf (d := 9) (by decide)))


/-- the same with the exponent part, as long as the exponent arithmetic does not saturate -/
theorem scanT_close (L : DecLit) (hipd : AllDigits L.ip)
    (hfp : ∀ g, L.fp = some g → AllDigits g)
    (hsm : L.ip.length + (L.fp.getD []).length + exAbs L.ex ≤ i32Max) :
    ∃ Pn Vn : Nat, ∃ q : Int,
      dec L.scanT.1 L.scanT.2 = dec Pn q ∧ litValue L = dec Vn q ∧ Close Pn Vn := by
  obtain ⟨ip, fp, ex⟩ := L
  obtain ⟨Pn, Vn, q, c1, c2, c3⟩ := scanT0_close ip fp hipd hfp
  obtain ⟨-, hlo, hhi⟩ := DecLit.scanT0_bounds ip fp hipd hfp
  obtain ⟨x1, x2⟩ := exVal_bounds ex
  simp only [] at hsm
  refine ⟨Pn, Vn, q + exVal ex, ?_, ?_, c3⟩
  · rw [DecLit.scanT_ex, finExp_exact _ ex (by omega) (by omega), dec_add, c1, ← dec_add]
  · rw [litValue_shift, c2, ← dec_add]

def d60 : Rat := 1 / 2 ^ 60

theorem le_mul_d60 {m V : Nat} (h : m * 2 ^ 60 ≤ V) : (m : Rat) ≤ (V : Rat) * d60 := by
  have c := Rat.mul_le_mul_of_nonneg_right (Rat.natCast_le_natCast.mpr h)
    (show (0 : Rat) ≤ d60 by decide +kernel)
  have hT : ((2 ^ 60 : Nat) : Rat) * d60 = 1 := by decide +kernel
  rwa [Rat.natCast_mul, Rat.mul_assoc, hT, Rat.mul_one] at c

theorem close_rat {Pn Vn : Nat} (q : Int) (h : Close Pn Vn) :
    dec Vn q * (1 - d60) ≤ dec Pn q ∧ dec Pn q ≤ dec Vn q * (1 + d60) := by
  obtain ⟨h1, h2⟩ := h
  have key : (Vn : Rat) * (1 - d60) ≤ (Pn : Rat) ∧ (Pn : Rat) ≤ (Vn : Rat) * (1 + d60) := by
    -- the larger of the two is the smaller plus `m`, and `m ≤ Vn * 2^-60`
    rcases Nat.le_total Pn Vn with hle | hle
    · obtain ⟨m, rfl⟩ := Nat.exists_eq_add_of_le hle
      rw [show Pn + m - Pn = m by omega] at h1
      have c := le_mul_d60 h1
      have hp : (0 : Rat) ≤ (Pn : Rat) := Rat.natCast_nonneg
      have hm : (0 : Rat) ≤ (m : Rat) := Rat.natCast_nonneg
      rw [Rat.natCast_add] at c ⊢
      constructor <;> grind
    · obtain ⟨m, rfl⟩ := Nat.exists_eq_add_of_le hle
      rw [show Vn + m - Vn = m by omega] at h2
      have c := le_mul_d60 h2
      have hm : (0 : Rat) ≤ (m : Rat) := Rat.natCast_nonneg
      rw [Rat.natCast_add]
      constructor <;> grind
  unfold dec
  have ht := ten_zpow_pos q
  have a := Rat.mul_le_mul_of_nonneg_right key.1 (Rat.le_of_lt ht)
  have b := Rat.mul_le_mul_of_nonneg_right key.2 (Rat.le_of_lt ht)
  constructor <;> grind
theorem comb_hi : (1 + d60) * (1 + cTight) ≤ 1 + c50 := by decide +kernel
theorem comb_lo : 1 - c50 ≤ (1 - d60) * (1 - cTight) := by decide +kernel
theorem one_sub_cTight_nonneg : 0 ≤ 1 - cTight := by decide +kernel
theorem one_add_cTight_nonneg : 0 ≤ 1 + cTight := by decide +kernel

/-- rounding bound relative to the kept value `P`, truncation bound of `P` relative to the exact
    value `V`: together within `2^-50` and `2^-1074` of `V` -/
theorem combine {P V v : Rat} (hV : 0 ≤ V) (hP1 : V * (1 - d60) ≤ P) (hP2 : P ≤ V * (1 + d60))
    (h1 : P * (1 - cTight) - aTight ≤ v) (h2 : v ≤ P * (1 + cTight) + aTight) :
    V * (1 - c50) - a1074 ≤ v ∧ v ≤ V * (1 + c50) + a1074 := by
  have a1 := Rat.mul_le_mul_of_nonneg_right hP1 one_sub_cTight_nonneg
  have a2 := Rat.mul_le_mul_of_nonneg_right hP2 one_add_cTight_nonneg
  have b1 := Rat.mul_le_mul_of_nonneg_left comb_lo hV
  have b2 := Rat.mul_le_mul_of_nonneg_left comb_hi hV
  have := aTight_le
  constructor <;> grind

theorem combine_close {Pn Vn : Nat} {q : Int} {v : Rat} (hc : Close Pn Vn)
    (h1 : dec Pn q * (1 - cTight) - aTight ≤ v) (h2 : v ≤ dec Pn q * (1 + cTight) + aTight) :
    dec Vn q * (1 - c50) - a1074 ≤ v ∧ v ≤ dec Vn q * (1 + c50) + a1074 :=
  combine (dec_nonneg _ _) (close_rat q hc).1 (close_rat q hc).2 h1 h2

/-- The scan of a literal whose exponent digits fit `i32`, with the rounding analysis of
    `f64_from_parts` and the truncation analysis attached.  `S`, `E` are the pair the scanners hand
    on; `E` may be saturated, and only where it is the plain sum (last conjunct) does the result
    speak of the exact value of the literal. -/
theorem accuracy_scanned (cfg : Cfg) (fuel : Nat) (pos : Bool) (ip : List UInt8)
    (fp : Option (List UInt8)) (ex : Option ExpPart) (rest : List UInt8) (s : St)
    (hipne : ip ≠ []) (hipd : AllDigits ip)
    (hfp : ∀ g, fp = some g → g ≠ [] ∧ AllDigits g) (hex : ∀ e, ex = some e → e.WF)
    (hfloat : fp.isSome = true ∨ ex.isSome = true ∨ u64Max < dv 0 ip)
    (hrest : s.rd.rest = DecLit.text ⟨ip, fp, ex⟩ ++ rest) (hstop : ScanStop rest)
    (hdot : fp = none → ex = none → (rest.head?.getD 0 == 46) = false)
    (hf : rest = [] → s.rd.faulty = false)
    (hip : ip.length ≤ i32Max) (hexa : exAbs ex ≤ i32Max)
    (hfuel : (DecLit.text ⟨ip, fp, ex⟩).length + 1 ≤ fuel)
    (hp : cfg.fast = true → ∀ k, k ≤ 308 → cfg.pow10 k = rn (10 ^ k) 1) :
    let S := (DecLit.scanT ⟨ip, fp, none⟩).1
    let E := finExp (DecLit.scanT ⟨ip, fp, none⟩).2 ex
    let u := adv s (DecLit.text ⟨ip, fp, ex⟩).length (endPeek s rest)
    (∃ g, parseNumLiteral cfg fuel 10 pos s = .ok (Number.flt (signed pos g)) u ∧ g < infBits ∧
        f64FromParts cfg pos S E u = .ok (signed pos g) u ∧
        dec S E * (1 - cTight) - aTight ≤ val g ∧ val g ≤ dec S E * (1 + cTight) + aTight ∧
        (E = (DecLit.scanT ⟨ip, fp, none⟩).2 + exVal ex →
          litValue ⟨ip, fp, ex⟩ * (1 - c50) - a1074 ≤ val g ∧
          val g ≤ litValue ⟨ip, fp, ex⟩ * (1 + c50) + a1074)) ∨
      parseNumLiteral cfg fuel 10 pos s = errAt .numberOutOfRange u := by
  dsimp only
  have hfp' : ∀ g, fp = some g → AllDigits g := fun g hg => (hfp g hg).2
  obtain ⟨hS, -, -⟩ := DecLit.scanT0_bounds ip fp hipd hfp'
  obtain ⟨Pn, Vn, q, c1, c2, c3⟩ := scanT0_close ip fp hipd hfp'
  rw [scan_any cfg fuel pos ⟨ip, fp, ex⟩ rest s hipne hipd hfp hex hfloat hrest hstop hdot hf
    (Nat.le_trans (intScan_bounds ip 0 hipd (by decide)).2 hip) hexa hfuel, DecLit.scanT_ex]
  generalize (DecLit.scanT ⟨ip, fp, none⟩).1 = S at *
  generalize (DecLit.scanT ⟨ip, fp, none⟩).2 = se at *
  rcases f64FromParts_cases cfg pos S (finExp se ex)
      (adv s (DecLit.text ⟨ip, fp, ex⟩).length (endPeek s rest)) with ⟨r, hr⟩ | he
  · obtain ⟨g, e1, _, e3, ⟨e4, e5⟩, _⟩ :=
      C05_accuracy_parts_tight cfg pos S (finExp se ex) _ _ r hS hp hr
    subst e1
    refine Or.inl ⟨g, by simp only [bind_apply, hr, pure_apply], e3, hr, e4, e5, fun hfin => ?_⟩
    rw [hfin, dec_add, c1, ← dec_add] at e4 e5
    rw [litValue_shift, c2, ← dec_add]
    exact combine_close c3 e4 e5
  · exact Or.inr (by simp only [bind_apply, he, errAt])

/-- Every decimal float literal, of any length (hypotheses of
    `Decimals.C05_scan_any`, with the exponent arithmetic inside `i32` including the fraction
    digits): consumed entirely, and either rejected with `NumberOutOfRange` or read as `±g`, `g` a
    finite double with

      `|g - value| ≤ 2^-50 * value + 2^-1074`,

    `value = litValue L` the exact value of all written digits.  This includes the truncation
    error of the scanners, which keep a `u64` prefix of the digits (relative error below
    `2^-60`: the kept significand is at least `(u64::MAX - 8) / 10`) — and, after an integer part
    that overflowed, shift fraction digits into the place of dropped integer digits. -/
theorem C05_accuracy_any_literal (cfg : Cfg) (fuel : Nat) (pos : Bool) (L : DecLit)
    (rest : List UInt8) (s : St)
    (hipne : L.ip ≠ []) (hipd : AllDigits L.ip)
    (hfp : ∀ g, L.fp = some g → g ≠ [] ∧ AllDigits g) (hex : ∀ e, L.ex = some e → e.WF)
    (hfloat : L.fp.isSome = true ∨ L.ex.isSome = true ∨ u64Max < dv 0 L.ip)
    (hrest : s.rd.rest = L.text ++ rest) (hstop : ScanStop rest)
    (hdot : L.fp = none → L.ex = none → (rest.head?.getD 0 == 46) = false)
    (hf : rest = [] → s.rd.faulty = false)
    (hsmall : L.ip.length + (L.fp.getD []).length + exAbs L.ex ≤ i32Max)
    (hfuel : L.text.length + 1 ≤ fuel)
    (hp : cfg.fast = true → ∀ k, k ≤ 308 → cfg.pow10 k = rn (10 ^ k) 1) :
    (∃ g, parseNumLiteral cfg fuel 10 pos s =
        .ok (Number.flt (signed pos g)) (adv s L.text.length (endPeek s rest)) ∧
      g < infBits ∧
      litValue L * (1 - c50) - a1074 ≤ val g ∧ val g ≤ litValue L * (1 + c50) + a1074) ∨
    parseNumLiteral cfg fuel 10 pos s =
      errAt .numberOutOfRange (adv s L.text.length (endPeek s rest)) := by
  obtain ⟨ip, fp, ex⟩ := L
  obtain ⟨-, hlo, hhi⟩ := DecLit.scanT0_bounds ip fp hipd (fun g hg => (hfp g hg).2)
  obtain ⟨x1, x2⟩ := exVal_bounds ex
  simp only [] at hsmall
  -- `hsmall`: the exponent arithmetic does not saturate
  refine (accuracy_scanned cfg fuel pos ip fp ex rest s hipne hipd hfp hex hfloat hrest hstop hdot hf
    (by omega) (by omega) hfuel hp).imp (fun ⟨g, a, b, _, _, _, c⟩ => ⟨g, a, b, c ?_⟩) id
  exact finExp_exact _ ex (by omega) (by omega)

#print axioms C05_accuracy_any_literal

end Accuracy
end Lexpr
