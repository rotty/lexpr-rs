/-
  ImageStruct — the structural round trip with the requirement on a leading dot confined to where
  it matters.

  `ListRT.AtomOKP` asks of every atom that its text is an `ElemHead`: not starting with `.`
  followed by NUL or a delimiter.  `parse_list` takes such a dot for the dotted-pair marker, but
  only `parse_list` does: a vector element, the tail after ` . `, and a top-level atom are handed
  to `next_value` whatever their second byte is.  Here atoms only need a `WeakHead` (first byte
  not trivia, `;`, `)` or `]`), and `ElemHead` is required of the text of each *car* (`AllOKW`).
  The round trip is the instance of `ListRT.reads_rel` for `AllOKW` and "read back as the folded
  value".
-/
import LexprModel.Proofs.ImageAtoms
namespace Lexpr
namespace Parse
namespace Image
open Utf8 Spec Print ListRT

/-- the first byte is one at which `parse_whitespace` stops and an element loop goes on -/
def WeakHead (t : List UInt8) : Prop :=
  ∃ c tl, t = c :: tl ∧ isTrivia c = false ∧ c ≠ 59 ∧ c ≠ 41 ∧ c ≠ 93

theorem ElemHead.weak {t : List UInt8} (h : ElemHead t) : WeakHead t := h.first

theorem WeakHead.append {t : List UInt8} (h : WeakHead t) (rest : List UInt8) :
    WeakHead (t ++ rest) := by
  obtain ⟨c, tl, ht, h1, h2, h3, h4⟩ := h
  exact ⟨c, tl ++ rest, by simp [ht], h1, h2, h3, h4⟩

theorem weakHead_of_nonterm (c : UInt8) (tl : List UInt8) (h : symTermSlice c = false) :
    WeakHead (c :: tl) :=
  ⟨c, tl, rfl, nonterm_weak h⟩

/-- one round of the vector loop on any element: `ListRT.vec_elem_stepT` at the printer's two
    separators -/
theorem vec_elem_stepW (cfg : Cfg) (t : UInt8) (F : Nat) (s : St)
    (acc : List Value) (a : Value) (w : List Value) (pre tx rest' rest'' : List UInt8)
    (h : Good s) (hpre : pre = [] ∨ pre = [32]) (hr : s.rd.rest = pre ++ (tx ++ rest'))
    (hhead : WeakHead tx)
    (hv : ∀ s1, Good s1 → s1.rd.rest = tx ++ rest' → s1.depth = s.depth →
      Runs (nextValue cfg F) s1 (some a) rest')
    (hk : ∀ s2, Good s2 → s2.rd.rest = rest' → s2.depth = s.depth →
      Runs (parseVector cfg F t (acc ++ [a])) s2 w rest'') :
    Runs (parseVector cfg (F + 1) t acc) s w rest'' :=
  vec_elem_stepT cfg t F s acc a w pre tx rest' rest'' h
    (hpre.elim (· ▸ .nil) (· ▸ triv_space)) hr hhead hv hk

/-- an atom whose printed text is read back in every follow context (no dot clause) -/
abbrev AtomOKW (p : Print.Options) (cfg : Cfg) (ryu : Nat → List UInt8) (v : Value) : Prop :=
  AtomOKH WeakHead p cfg ryu v

theorem AtomOKP.weak {p : Print.Options} {cfg : Cfg} {ryu : Nat → List UInt8} {v : Value}
    (h : AtomOKP p cfg ryu v) : AtomOKW p cfg ryu v :=
  AtomOKH.mono (fun _ ht => ElemHead.weak ht) ((atomOKH_elem p cfg ryu v).mpr h)

mutual
/-- every atom is `AtomOKW`, and the text of every car is an `ElemHead` -/
def AllOKW (p : Print.Options) (cfg : Cfg) (ryu : Nat → List UInt8) : Value → Prop
  | .cons a d => AllOKW p cfg ryu a ∧ ElemHead (text p ryu a) ∧ AllOKW p cfg ryu d
  | .vector xs => AllOKWSeq p cfg ryu xs
  | .null => True
  | .nil => AtomOKW p cfg ryu .nil
  | .bool b => AtomOKW p cfg ryu (.bool b)
  | .number n => AtomOKW p cfg ryu (.number n)
  | .char c => AtomOKW p cfg ryu (.char c)
  | .string x => AtomOKW p cfg ryu (.string x)
  | .symbol x => AtomOKW p cfg ryu (.symbol x)
  | .keyword x => AtomOKW p cfg ryu (.keyword x)
  | .bytes x => AtomOKW p cfg ryu (.bytes x)
def AllOKWSeq (p : Print.Options) (cfg : Cfg) (ryu : Nat → List UInt8) : List Value → Prop
  | [] => True
  | x :: xs => AllOKW p cfg ryu x ∧ AllOKWSeq p cfg ryu xs
end

theorem allOKW_leaf {p : Print.Options} {cfg : Cfg} {ryu : Nat → List UInt8} {v : Value}
    (h1 : v.isCons = false) (h2 : v.isVector = false) (h3 : v ≠ .null) (h : AllOKW p cfg ryu v) :
    AtomOKW p cfg ryu v := by
  cases v <;> simp_all [Value.isCons, Value.isVector, AllOKW]

theorem hyp_allOKW (p : Print.Options) (cfg : Cfg) (ryu : Nat → List UInt8) :
    Hyp p cfg ryu (fun v w => w = fold p cfg.opts v) (AllOKW p cfg ryu) (AllOKWSeq p cfg ryu) where
  cons := fun h => by simpa only [AllOKW] using h
  vector := fun h => by simpa only [AllOKW] using h
  seq := fun h => by simpa only [AllOKWSeq] using h
  leaf := fun h1 h2 h3 h =>
    have hA := allOKW_leaf h1 h2 h3 h
    ⟨_, rfl, hA.2.2.2.1, fun s rest fuel hf hg hr hfu hd =>
      hA.2.2.2.2 s rest fuel (follow_of_open hf) hg hr (by omega) hd⟩

theorem value_rtW (p : Print.Options) (cfg : Cfg) (ryu : Nat → List UInt8)
    (hb : p.vector = .brackets → cfg.opts.brackets = .vector) :
    ∀ v : Value, AllOKW p cfg ryu v → ValueRTP p cfg ryu v := by
  intro v h s rest fuel hf
  obtain ⟨w, rfl, A⟩ := (reads_rel p cfg ryu hb (structural_fold p cfg.opts) (hyp_allOKW p cfg ryu)).1 v h
  exact A.value.2 s rest fuel (.inr hf)

theorem tail_rtW (p : Print.Options) (cfg : Cfg) (ryu : Nat → List UInt8)
    (hb : p.vector = .brackets → cfg.opts.brackets = .vector) :
    ∀ d : Value, AllOKW p cfg ryu d → TailRTP p cfg ryu d := by
  intro d h
  obtain ⟨w, rfl, A⟩ := (reads_rel p cfg ryu hb (structural_fold p cfg.opts) (hyp_allOKW p cfg ryu)).1 d h
  exact A.tail.2

theorem seq_rtW (p : Print.Options) (cfg : Cfg) (ryu : Nat → List UInt8)
    (hb : p.vector = .brackets → cfg.opts.brackets = .vector) :
    ∀ (first : Bool) (xs : List Value), AllOKWSeq p cfg ryu xs → SeqRTP p cfg ryu first xs := by
  intro first xs h
  obtain ⟨ws, rfl, S⟩ := (reads_rel p cfg ryu hb (structural_fold p cfg.opts) (hyp_allOKW p cfg ryu)).2 xs h
  exact (S first).2

end Image
end Parse
end Lexpr
