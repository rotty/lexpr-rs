/-
  C04, second sentence: Rust data → S-expression *text* → Rust data is the identity (default printer and parser
  options).

  `serde_lexpr::to_string` is `lexpr::to_string ∘ to_value` and `serde_lexpr::from_str` is
  `from_value ∘ lexpr::from_str` (serde-lexpr/src/{ser,de}.rs), so the text path is the composition
  of `ser` (SerdeRT.lean: `C04_value`), the print → parse round trip with every leaf kind
  (FullRT.lean: `C01_roundtrip_full_sources`) and `de`.  The work is in `writes_ok`: what `ser` writes for a
  well-typed datum has only leaves the round trip supports, and nesting at most `depthOf t d`, provided struct
  field names and enum variant names are plain identifiers, strings are well-formed, characters are scalar values
  and floats satisfy `Decimals.FloatOK`.  Witnesses show that the hypotheses on depth, names and floats cannot be
  dropped.
  This file proves the exact clause: floats that read back exactly (`FloatOK`).  The "to the accuracy of C05"
  clause for the other floats is `C04_text_approx_all` in FloatApproxSerde32.lean.
-/
import LexprModel.Proofs.FullRT
import LexprModel.Proofs.SerdeRT
namespace Lexpr
namespace Serde
open Parse FullRT Decimals

/-- A plain-identifier name: exactly `ListRT.SupportedAtom (.symbol n)`, the predicate of the C01
    theorem for symbols (R7RS identifier shape with an ASCII initial or peculiar identifier, valid
    UTF-8, a leading `.` not followed by NUL, `|` or `"`). -/
def PlainName (n : List UInt8) : Prop := PlainIdent n ∧ ListRT.dotHeadOk n = true

instance (n : List UInt8) : Decidable (PlainName n) := by unfold PlainName; infer_instance

theorem plainName_iff (n : List UInt8) : PlainName n ↔ ListRT.SupportedAtom (.symbol n) := Iff.rfl

mutual
/-- every struct field name and every enum variant name in `t` satisfies `N` -/
def NamesOK (N : List UInt8 → Prop) : Ty → Prop
  | .option t => NamesOK N t
  | .seq t => NamesOK N t
  | .set t => NamesOK N t
  | .newtypeStruct t => NamesOK N t
  | .map k v => NamesOK N k ∧ NamesOK N v
  | .tuple ts => NamesOKTys N ts
  | .tupleStruct ts => NamesOKTys N ts
  | .struct fs => NamesOKFields N fs
  | .enum vs => NamesOKVariants N vs
  | _ => True
def NamesOKTys (N : List UInt8 → Prop) : TyList → Prop
  | .nil => True
  | .cons t ts => NamesOK N t ∧ NamesOKTys N ts
def NamesOKFields (N : List UInt8 → Prop) : FieldList → Prop
  | .nil => True
  | .cons n t fs => N n ∧ NamesOK N t ∧ NamesOKFields N fs
def NamesOKVariants (N : List UInt8 → Prop) : VariantList → Prop
  | .nil => True
  | .cons n var vs =>
    N n ∧
    (match var with
     | .unit => True
     | .newtype t => NamesOK N t
     | .tuple ts => NamesOKTys N ts
     | .struct fs => NamesOKFields N fs) ∧ NamesOKVariants N vs
end

def PlainNames (t : Ty) : Prop := NamesOK PlainName t

mutual
/-- the leaves of the datum `d : t`: every string is well-formed UTF-8, every character a scalar
    value, every float satisfies `F` -/
def LeavesOK (F : Nat → Prop) : Ty → Data → Prop
  | .f32, .float b => F b
  | .f64, .float b => F b
  | .char, .char c => isScalar c = true
  | .str, .str s => Utf8.valid s = true
  | .option t, .some d => LeavesOK F t d
  | .seq t, .seq ds => ∀ d ∈ ds, LeavesOK F t d
  | .set t, .seq ds => ∀ d ∈ ds, LeavesOK F t d
  | .tuple ts, .seq ds => LeavesOKTuple F ts ds
  | .tupleStruct ts, .seq ds => LeavesOKTuple F ts ds
  | .newtypeStruct t, d => LeavesOK F t d
  | .map k v, .map kvs => ∀ p ∈ kvs, LeavesOK F k p.1 ∧ LeavesOK F v p.2
  | .struct fs, .seq ds => LeavesOKFields F fs ds
  | .enum vs, .variant i p => LeavesOKVariant F vs i p
  | _, _ => True
def LeavesOKTuple (F : Nat → Prop) : TyList → List Data → Prop
  | .cons t ts, d :: ds => LeavesOK F t d ∧ LeavesOKTuple F ts ds
  | _, _ => True
def LeavesOKFields (F : Nat → Prop) : FieldList → List Data → Prop
  | .cons _ t fs, d :: ds => LeavesOK F t d ∧ LeavesOKFields F fs ds
  | _, _ => True
def LeavesOKVariant (F : Nat → Prop) : VariantList → Nat → Data → Prop
  | .nil, _, _ => True
  | .cons _ var _, 0, p =>
    match var, p with
    | .newtype t, p => LeavesOK F t p
    | .tuple ts, .seq ds => LeavesOKTuple F ts ds
    | .struct fs, .seq ds => LeavesOKFields F fs ds
    | _, _ => True
  | .cons _ _ vs, i + 1, p => LeavesOKVariant F vs i p
end

def maxNat : List Nat → Nat
  | [] => 0
  | x :: xs => max x (maxNat xs)

mutual
/-- An upper bound, computed from the datum, for the list / vector nesting of its serialization
    (`ListRT.nesting`, the number of recursion levels the parser needs): one level per option,
    sequence, tuple, unit; two per map and struct (the list and its entries); one more for a
    newtype / tuple variant and two more for a struct variant. -/
def depthOf : Ty → Data → Nat
  | .unit, _ => 1
  | .unitStruct, _ => 1
  | .option _, .none => 1
  | .option t, .some d => 1 + depthOf t d
  | .seq t, .seq ds => 1 + maxNat (ds.map (depthOf t))
  | .set t, .seq ds => 1 + maxNat (ds.map (depthOf t))
  | .tuple ts, .seq ds => 1 + depthTuple ts ds
  | .tupleStruct ts, .seq ds => 1 + depthTuple ts ds
  | .newtypeStruct t, d => depthOf t d
  | .map k v, .map kvs => 1 + maxNat (kvs.map fun p => 1 + max (depthOf k p.1) (depthOf v p.2))
  | .struct fs, .seq ds => 1 + depthFields fs ds
  | .enum vs, .variant i p => depthVariant vs i p
  | _, _ => 0
def depthTuple : TyList → List Data → Nat
  | .cons t ts, d :: ds => max (depthOf t d) (depthTuple ts ds)
  | _, _ => 0
/-- the entries `(name . value)` of a struct -/
def depthFields : FieldList → List Data → Nat
  | .cons _ t fs, d :: ds => max (1 + depthOf t d) (depthFields fs ds)
  | _, _ => 0
def depthVariant : VariantList → Nat → Data → Nat
  | .nil, _, _ => 0
  | .cons _ var _, 0, p =>
    match var, p with
    | .newtype t, p => 1 + depthOf t p
    | .tuple ts, .seq ds => 1 + depthTuple ts ds
    | .struct fs, .seq ds => 1 + depthFields fs ds
    | _, _ => 0
  | .cons _ _ vs, i + 1, p => depthVariant vs i p
end

/-- The leaves the serializer can produce, with the conditions under which they are round-trip
    leaves: booleans, integers in `u64` / negative `i64` normal form, floats satisfying `F`, scalar
    characters, well-formed strings, symbols (field and variant names) satisfying `N`, byte
    vectors.  (`#nil` and keywords are never produced; `()` is not a leaf.) -/
def SerLeaf (N : List UInt8 → Prop) (F : Nat → Prop) : Value → Prop
  | .bool _ => True
  | .number (.pos n) => n ≤ u64Max
  | .number (.neg i) => i64Min ≤ i ∧ i < 0
  | .number (.flt b) => F b
  | .char c => isScalar c = true
  | .string s => Utf8.valid s = true
  | .symbol n => N n
  | .bytes _ => True
  | _ => False

theorem nestingTail_le (v : Value) : ListRT.nestingTail v ≤ ListRT.nesting v := by
  cases v <;> simp [ListRT.nesting, ListRT.nestingTail]

theorem nestingTail_list : ∀ xs : List Value,
    ListRT.nestingTail (Value.list xs) = ListRT.nestingSeq xs
  | [] => by simp [Value.list, Value.append, ListRT.nestingTail, ListRT.nestingSeq]
  | x :: xs => by
    rw [list_cons]; simp only [ListRT.nestingTail, ListRT.nestingSeq]; rw [nestingTail_list xs]

theorem nesting_list : ∀ xs : List Value,
    ListRT.nesting (Value.list xs) = 1 + ListRT.nestingSeq xs
  | [] => by simp [Value.list, Value.append, ListRT.nesting, ListRT.nestingSeq]
  | x :: xs => by
    rw [list_cons]; simp only [ListRT.nesting, ListRT.nestingSeq]; rw [nestingTail_list xs]

theorem serInt_leaf (N : List UInt8 → Prop) (F : Nat → Prop) (w : IntTy) (n : Int)
    (h1 : w.lo ≤ n) (h2 : n ≤ w.hi) :
    AllLeaves (SerLeaf N F) (serInt w n) ∧ ListRT.nesting (serInt w n) = 0 := by
  -- at a number `SerLeaf` is `Number.WF`, with `Number.Normal` for a negative one
  obtain ⟨num, h, hnorm, hwf, hpos, hneg, -⟩ := serInt_shape w n h1 h2
  rw [h]; refine ⟨?_, rfl⟩
  by_cases hn : 0 ≤ n
  · obtain ⟨rfl, -⟩ := hpos hn; exact hwf
  · obtain ⟨rfl, -⟩ := hneg (by omega); exact ⟨hwf.1, hnorm⟩

section
variable (N : List UInt8 → Prop) (F : Nat → Prop)

/-- The leaves of what `ser` wrote are `SerLeaf`, and its nesting is at most `depthOf`: every list or vector
    adds one level to its items, and an entry `(n . v)` one more to `v` (`nestingTail_le`); `depthOf` counts
    the same way on the datum. -/
theorem writes_ok :
    (∀ {t d v}, Writes t d v → NamesOK N t → LeavesOK F t d →
      AllLeaves (SerLeaf N F) v ∧ ListRT.nesting v ≤ depthOf t d) ∧
    (∀ {ts ds xs}, WritesTuple ts ds xs → NamesOKTys N ts → LeavesOKTuple F ts ds →
      (∀ x ∈ xs, AllLeaves (SerLeaf N F) x) ∧ ListRT.nestingSeq xs ≤ depthTuple ts ds) ∧
    (∀ {fs ds xs}, WritesFields fs ds xs → NamesOKFields N fs → LeavesOKFields F fs ds →
      (∀ x ∈ xs, AllLeaves (SerLeaf N F) x) ∧ ListRT.nestingSeq xs ≤ depthFields fs ds) ∧
    (∀ {vs i p v}, WritesVariant vs i p v → NamesOKVariants N vs → LeavesOKVariant F vs i p →
      AllLeaves (SerLeaf N F) v ∧ ListRT.nesting v ≤ depthVariant vs i p) := by
  apply Writes.induct
    (PL := fun t ds xs => NamesOK N t → (∀ d ∈ ds, LeavesOK F t d) →
      (∀ x ∈ xs, AllLeaves (SerLeaf N F) x) ∧ ListRT.nestingSeq xs ≤ maxNat (ds.map (depthOf t)))
    (PP := fun k w kvs xs => NamesOK N k → NamesOK N w → (∀ p ∈ kvs, LeavesOK F k p.1 ∧ LeavesOK F w p.2) →
      (∀ x ∈ xs, AllLeaves (SerLeaf N F) x) ∧
        ListRT.nestingSeq xs ≤ maxNat (kvs.map fun p => 1 + max (depthOf k p.1) (depthOf w p.2)))
  case int =>
    refine fun h1 h2 _ _ => ?_
    obtain ⟨a, b⟩ := serInt_leaf N F _ _ h1 h2
    exact ⟨a, by rw [b]; exact Nat.zero_le _⟩
  -- the leaves with a condition: it is the hypothesis on the datum
  case f32 => exact fun _ _ hl => ⟨hl, Nat.le_refl _⟩
  case f64 | char | str => exact fun _ hl => ⟨hl, Nat.le_refl _⟩
  case bool | bytes | unit | unitStruct | none => exact fun _ _ => ⟨trivial, Nat.le_refl _⟩
  case vunit => exact fun hN _ => ⟨hN.1, Nat.le_refl _⟩
  case lnil | tnil | fnil => exact fun _ _ => ⟨nofun, Nat.le_refl _⟩
  case pnil => exact fun _ _ _ => ⟨nofun, Nat.le_refl _⟩
  case some =>
    refine fun _ ih hN hl => ?_
    obtain ⟨a, b⟩ := ih hN hl
    exact ⟨⟨a, trivial⟩, by simp only [ListRT.nesting, ListRT.nestingTail, depthOf]; omega⟩
  -- a proper list: one level above its items
  case seq | set | struct =>
    refine fun _ ih hN hl => ?_
    obtain ⟨a, b⟩ := ih hN hl
    exact ⟨(allLeaves_list _).mpr a, by rw [nesting_list]; exact Nat.add_le_add_left b 1⟩
  case map =>
    refine fun _ ih hN hl => ?_
    obtain ⟨a, b⟩ := ih hN.1 hN.2 hl
    exact ⟨(allLeaves_list _).mpr a, by rw [nesting_list]; exact Nat.add_le_add_left b 1⟩
  -- a vector: the same
  case tuple | tupleStruct =>
    refine fun _ ih hN hl => ?_
    obtain ⟨a, b⟩ := ih hN hl
    exact ⟨(allLeavesSeq_iff _).mpr a, Nat.add_le_add_left b 1⟩
  case newtypeStruct | enum => exact fun _ ih hN hl => ih hN hl
  case lcons =>
    refine fun _ _ ih ihs hN hl => ?_
    obtain ⟨a1, b1⟩ := ih hN (hl _ List.mem_cons_self)
    obtain ⟨a2, b2⟩ := ihs hN fun e he => hl e (List.mem_cons_of_mem _ he)
    exact ⟨List.forall_mem_cons.2 ⟨a1, a2⟩,
      by simp only [ListRT.nestingSeq, List.map_cons, maxNat]; omega⟩
  case pcons =>
    refine fun {_ _ _ _ _ y _ _} _ _ _ ihx ihy ihs hk hw hl => ?_
    obtain ⟨a1, b1⟩ := ihx hk (hl _ List.mem_cons_self).1
    obtain ⟨a2, b2⟩ := ihy hw (hl _ List.mem_cons_self).2
    obtain ⟨a3, b3⟩ := ihs hk hw fun p hp => hl p (List.mem_cons_of_mem _ hp)
    have := nestingTail_le y
    exact ⟨List.forall_mem_cons.2 ⟨⟨a1, a2⟩, a3⟩,
      by simp only [ListRT.nestingSeq, ListRT.nesting, List.map_cons, maxNat]; omega⟩
  case tcons =>
    refine fun _ _ ih ihs hN hl => ?_
    obtain ⟨a1, b1⟩ := ih hN.1 hl.1
    obtain ⟨a2, b2⟩ := ihs hN.2 hl.2
    exact ⟨List.forall_mem_cons.2 ⟨a1, a2⟩, by simp only [ListRT.nestingSeq, depthTuple]; omega⟩
  case fcons =>
    refine fun {_ _ _ _ v _ _} _ _ ih ihs hN hl => ?_
    obtain ⟨a1, b1⟩ := ih hN.2.1 hl.1
    obtain ⟨a2, b2⟩ := ihs hN.2.2 hl.2
    have := nestingTail_le v
    exact ⟨List.forall_mem_cons.2 ⟨⟨hN.1, a1⟩, a2⟩,
      by simp only [ListRT.nestingSeq, ListRT.nesting, depthFields]; omega⟩
  case vnewtype =>
    refine fun {_ _ _ _ v} _ ih hN hl => ?_
    obtain ⟨a, b⟩ := ih hN.2.1 hl
    have := nestingTail_le v
    exact ⟨⟨hN.1, a⟩, by simp only [ListRT.nesting, depthVariant]; omega⟩
  -- `(name . items)`, the items a proper list
  case vtuple | vstruct =>
    refine fun _ ih hN hl => ?_
    obtain ⟨a, b⟩ := ih hN.2.1 hl
    exact ⟨⟨hN.1, (allLeaves_list _).mpr a⟩,
      by simp only [ListRT.nesting, nestingTail_list, depthVariant]; omega⟩
  case vsucc =>
    refine fun _ ih hN hl => ?_
    rw [NamesOKVariants.eq_def] at hN
    exact ih hN.2.2 hl

theorem serTuple_ok : ∀ (ts : TyList) (ds : List Data) (xs : List Value), NamesOKTys N ts →
    HasTyTuple ts ds → LeavesOKTuple F ts ds → serTuple ts ds = some xs →
    (∀ x ∈ xs, AllLeaves (SerLeaf N F) x) ∧ ListRT.nestingSeq xs ≤ depthTuple ts ds :=
  fun _ _ _ hN h hl hs => (writes_ok N F).2.1 (of_total (serTuple_total _ _ h) hs) hN hl
theorem serFields_ok : ∀ (fs : FieldList) (ds : List Data) (xs : List Value), NamesOKFields N fs →
    HasTyFields fs ds → LeavesOKFields F fs ds → serFields fs ds = some xs →
    (∀ x ∈ xs, AllLeaves (SerLeaf N F) x) ∧ ListRT.nestingSeq xs ≤ depthFields fs ds :=
  fun _ _ _ hN h hl hs => (writes_ok N F).2.2.1 (of_total (serFields_total _ _ h) hs) hN hl
theorem serVariant_ok : ∀ (vs : VariantList) (i : Nat) (p : Data) (v : Value),
    NamesOKVariants N vs → HasTyVariant vs i p → LeavesOKVariant F vs i p →
    serVariant vs i p = some v →
    AllLeaves (SerLeaf N F) v ∧ ListRT.nesting v ≤ depthVariant vs i p :=
  fun _ _ _ _ hN h hl hs => (writes_ok N F).2.2.2 (of_total (serVariant_total _ _ _ h) hs) hN hl

end

theorem leafFull_of_serLeaf (cfg : Cfg) (ryu : Nat → List UInt8) (v : Value)
    (h : SerLeaf PlainName (FloatOK cfg ryu) v) : LeafFull cfg ryu v := by
  cases v with
  | number n => cases n <;> exact h
  | bool _ | bytes _ => trivial
  | char _ | string _ | symbol _ => exact h
  | nil | null | keyword _ | cons _ _ | vector _ => exact False.elim h

/-- The leaves of `ser t d` are booleans, integers in `Number` normal form, the floats, characters, strings and
    byte buffers of the datum, and the struct field / enum variant names of the type as symbols.  So with `N` on
    the names, `F` on the floats, well-formed strings and scalar characters, all leaves satisfy `SerLeaf N F`;
    and the nesting is at most `depthOf t d`. -/
theorem C04_ser_leaves (N : List UInt8 → Prop) (F : Nat → Prop) (t : Ty) (d : Data) (v : Value)
    (hN : NamesOK N t) (h : HasTy t d) (hl : LeavesOK F t d) (hs : ser t d = some v) :
    AllLeaves (SerLeaf N F) v ∧ ListRT.nesting v ≤ depthOf t d :=
  (writes_ok N F).1 (of_total (ser_total _ _ h) hs) hN hl

/-- with plain-identifier names (`PlainNames`, the predicate `SupportedAtom` of the C01 theorem) and floats
    `FloatOK` the serialized value satisfies the hypothesis `AllSupportedFull` of `C01_roundtrip_full`. -/
theorem C04_ser_supported (cfg : Cfg) (ryu : Nat → List UInt8) (t : Ty) (d : Data) (v : Value)
    (hN : PlainNames t) (h : HasTy t d) (hl : LeavesOK (FloatOK cfg ryu) t d)
    (hs : ser t d = some v) :
    AllSupportedFull cfg ryu v ∧ ListRT.nesting v ≤ depthOf t d := by
  obtain ⟨a, b⟩ := C04_ser_leaves PlainName (FloatOK cfg ryu) t d v hN h hl hs
  exact ⟨AllLeaves.mono (fun w _ hw => leafFull_of_serLeaf cfg ryu w hw) v a, b⟩

/-- Rust data → text → Rust data.  For a well-formed type with plain-identifier
    field and variant names and a datum of that type whose strings are well-formed, characters
    scalar, floats `FloatOK` (ryu meets `RyuSpec`; default build: the exactness window; build
    without `fast-float-parsing`: every finite double) and `depthOf t d ≤ 127`: the datum
    serializes to a value `v`, the default parser reads the text of the default printer back as
    exactly `v` — from a `&str`, a byte slice or a (fault-free) reader, consuming all input — and
    `v` deserializes to `d`. -/
theorem C04_text (cfg : Cfg) (ho : cfg.opts = Options.default) (ryu : Nat → List UInt8)
    (t : Ty) (d : Data) (wf : WellFormed t) (hN : PlainNames t) (h : HasTy t d)
    (hl : LeavesOK (FloatOK cfg ryu) t d) (hn : depthOf t d ≤ 127) (m : Mode) :
    ∃ v s', ser t d = some v ∧
      fromTrait cfg (initSt m (Print.text Print.Options.default ryu v)) = .ok v s' ∧
      s'.rd.rest = [] ∧ s'.depth = 128 ∧ de t v = .ok d := by
  obtain ⟨v, hs, hd⟩ := C04_value t d wf h
  obtain ⟨a, b⟩ := C04_ser_supported cfg ryu t d v hN h hl hs
  obtain ⟨s', e, r, dp⟩ := C01_roundtrip_full_sources cfg ho ryu v a (by omega) m
  exact ⟨v, s', hs, e, r, dp, hd⟩

/-- `serde_lexpr::to_string` (= `to_vec`, `to_writer` on a sink that accepts everything):
    `lexpr::to_string ∘ to_value` -/
def toText (ryu : Nat → List UInt8) (t : Ty) (d : Data) : Option (List UInt8) :=
  (ser t d).map (Print.text Print.Options.default ryu)

/-- `serde_lexpr::from_str` / `from_slice` / `from_reader`: `from_value ∘ lexpr::from_*`;
    `none` when the text does not parse -/
def fromText (cfg : Cfg) (m : Mode) (t : Ty) (bytes : List UInt8) : Option (DeRes Data) :=
  match fromTrait cfg (initSt m bytes) with
  | .ok v _ => some (de t v)
  | _ => none

theorem toText_of_ser {ryu : Nat → List UInt8} {t : Ty} {d : Data} {v : Value} (hs : ser t d = some v) :
    toText ryu t d = some (Print.text Print.Options.default ryu v) := by
  rw [toText, hs]; rfl

theorem fromText_of_ok {cfg : Cfg} {m : Mode} {t : Ty} {bytes : List UInt8} {v : Value} {s' : St}
    (e : fromTrait cfg (initSt m bytes) = .ok v s') : fromText cfg m t bytes = some (de t v) := by
  rw [fromText, e]

/-- `from_str(to_string(d)) = Ok(d)` (and the same for the other sources),
    under the hypotheses of `C04_text`. -/
theorem C04_text_identity (cfg : Cfg) (ho : cfg.opts = Options.default) (ryu : Nat → List UInt8)
    (t : Ty) (d : Data) (wf : WellFormed t) (hN : PlainNames t) (h : HasTy t d)
    (hl : LeavesOK (FloatOK cfg ryu) t d) (hn : depthOf t d ≤ 127) (m : Mode) :
    ∃ bytes, toText ryu t d = some bytes ∧ fromText cfg m t bytes = some (.ok d) := by
  obtain ⟨v, s', hs, e, -, -, hd⟩ := C04_text cfg ho ryu t d wf hN h hl hn m
  exact ⟨_, toText_of_ser hs, (fromText_of_ok e).trans (congrArg some hd)⟩

/-! ### names with a Unicode-alphabetic initial

Rust identifiers may start with a non-ASCII letter (`struct S { größe: u8 }`); such a name is not a
`SupportedAtom` but is plain for the default pair in the sense of `DialectRT.lean`
(`symbolPlainFor`, with `cfg.isAlphabetic` = `char::is_alphabetic`). -/

/-- a name that is plain for the parser options of `cfg` (`symbolPlainFor`), without a misleading
    leading dot -/
def PlainNameFor (cfg : Cfg) (n : List UInt8) : Prop :=
  symbolPlainFor cfg n = true ∧ ListRT.dotHeadOk n = true

instance (cfg : Cfg) (n : List UInt8) : Decidable (PlainNameFor cfg n) := by
  unfold PlainNameFor; infer_instance

theorem leafPlainForF_of_serLeaf (cfg : Cfg) (ryu : Nat → List UInt8) (v : Value)
    (h : SerLeaf (PlainNameFor cfg) (FloatOK cfg ryu) v) :
    LeafPlainForF Print.Options.default cfg ryu v := by
  cases v with
  | number n => cases n <;> first | exact h | exact ⟨h, rfl⟩
  | bool _ | bytes _ => exact ⟨trivial, rfl⟩
  | char _ | string _ => exact ⟨h, rfl⟩
  | symbol _ => exact h
  | nil | null | keyword _ | cons _ _ | vector _ => exact False.elim h

/-- `C04_text` with names that are plain for the default parser options in
    the sense of `symbolPlainFor` (ASCII or Unicode-alphabetic initial). -/
theorem C04_text_unicode (cfg : Cfg) (ho : cfg.opts = Options.default) (ryu : Nat → List UInt8)
    (t : Ty) (d : Data) (wf : WellFormed t) (hN : NamesOK (PlainNameFor cfg) t) (h : HasTy t d)
    (hl : LeavesOK (FloatOK cfg ryu) t d) (hn : depthOf t d ≤ 127) (m : Mode) :
    ∃ v s', ser t d = some v ∧
      fromTrait cfg (initSt m (Print.text Print.Options.default ryu v)) = .ok v s' ∧
      s'.rd.rest = [] ∧ s'.depth = 128 ∧ de t v = .ok d := by
  obtain ⟨v, hs, hd⟩ := C04_value t d wf h
  obtain ⟨a, b⟩ := C04_ser_leaves (PlainNameFor cfg) (FloatOK cfg ryu) t d v hN h hl hs
  have a' : AllPlainForF Print.Options.default cfg ryu v :=
    AllLeaves.mono (fun w _ hw => leafPlainForF_of_serLeaf cfg ryu w hw) v a
  obtain ⟨s', e, r, dp⟩ := C01_roundtrip_plain cfg ho ryu v a' (by omega) m
  exact ⟨v, s', hs, e, r, dp, hd⟩

/-- `Option<Option<…<()>…>>`, `n` options -/
def optN : Nat → Ty
  | 0 => .unit
  | n + 1 => .option (optN n)
/-- `Some(Some(…(())…))` -/
def someN : Nat → Data
  | 0 => .unit
  | n + 1 => .some (someN n)

theorem optN_facts (n : Nat) :
    WellFormed (optN n) ∧ PlainNames (optN n) ∧ HasTy (optN n) (someN n) ∧
    (∀ F, LeavesOK F (optN n) (someN n)) ∧ depthOf (optN n) (someN n) = n + 1 ∧
    ser (optN n) (someN n) = some (ListRT.deep n) := by
  induction n with
  | zero =>
    simp [optN, someN, WellFormed, PlainNames, NamesOK, HasTy, LeavesOK, depthOf, ser, ListRT.deep]
  | succ n ih =>
    obtain ⟨h1, h2, h3, h4, h5, h6⟩ := ih
    refine ⟨by simpa [optN, WellFormed] using h1, by simpa [optN, PlainNames, NamesOK] using h2,
      by simpa [optN, someN, HasTy] using h3, fun F => by simpa [optN, someN, LeavesOK] using h4 F,
      by simp [optN, someN, depthOf, h5]; omega, by simp [optN, someN, ser, h6, ListRT.deep]⟩

/-- The hypothesis `depthOf t d ≤ 127` of `C04_text` cannot be dropped:
    for `t = Option^127<()>` and `d = Some^127(())` every other hypothesis holds and
    `depthOf t d = 128`; the value path succeeds (`de t (ser t d) = ok d`), the text is 128 nested
    pairs of parentheses, and `from_slice` rejects it with `RecursionLimitExceeded` (the documented
    limit of C03).  Each nested `Option`, sequence or struct costs one or two levels, so a
    recursive Rust type (a linked list of 64 nodes) reaches the limit. -/
theorem C04_text_depth_needed (cfg : Cfg) (ryu : Nat → List UInt8) :
    WellFormed (optN 127) ∧ PlainNames (optN 127) ∧ HasTy (optN 127) (someN 127) ∧
    LeavesOK (FloatOK cfg ryu) (optN 127) (someN 127) ∧ depthOf (optN 127) (someN 127) = 128 ∧
    (∃ v, ser (optN 127) (someN 127) = some v ∧ de (optN 127) v = .ok (someN 127) ∧
      ∃ l c s', fromTrait cfg (initSt .slice (Print.text Print.Options.default ryu v)) =
        .err (.syntax .recursionLimitExceeded l c) s') := by
  obtain ⟨h1, h2, h3, h4, h5, h6⟩ := optN_facts 127
  refine ⟨h1, h2, h3, h4 _, h5, ?_⟩
  obtain ⟨v, hs, hd⟩ := C04_value _ _ h1 h3
  rw [h6] at hs
  cases hs
  exact ⟨_, h6, hd, ListRT.deep_fails_top cfg ryu⟩

/-- `struct S { opt: Option<f64>, e: E, m: Map<String, u64>, raw: ByteBuf, u: () }`,
    `enum E { idle, items(Vec<(i8, String)>), at { x: f64 } }` -/
def txTy : Ty :=
  .struct (.cons (asc "opt") (.option .f64)
    (.cons (asc "e") (.enum (.cons (asc "idle") .unit
      (.cons (asc "items") (.newtype (.seq (.tuple (.cons (.int .i8) (.cons .str .nil)))))
      (.cons (asc "at") (.struct (.cons (asc "x") .f64 .nil)) .nil))))
    (.cons (asc "m") (.map .str (.int .u64))
    (.cons (asc "raw") .bytes
    (.cons (asc "u") .unit .nil)))))

/-- `S { opt: Some(1.5), e: E::items(vec![(-128, "a b"), (127, "é")]),
        m: {"k": u64::MAX}, raw: [0, 255], u: () }` -/
def txData : Data :=
  .seq [.some (.float 0x3FF8000000000000),
        .variant 1 (.seq [.seq [.int (-128), .str (asc "a b")], .seq [.int 127, .str [0xC3, 0xA9]]]),
        .map [(.str (asc "k"), .int 18446744073709551615)],
        .bytes [0, 255],
        .unit]

theorem txTy_wf : WellFormed txTy := by
  simp only [txTy, WellFormed, WFFields, WFVariants, WFTys, FieldList.names, VariantList.names,
    and_true, true_and]
  decide +kernel

theorem txTy_names : PlainNames txTy := by
  simp only [txTy, PlainNames, NamesOK, NamesOKFields, NamesOKVariants, NamesOKTys, and_true,
    true_and]
  decide +kernel

theorem txData_ty : HasTy txTy txData := by
  simp only [txTy, txData, HasTy, HasTyFields, HasTyTuple, HasTyVariant, List.mem_cons,
    List.not_mem_nil, or_false, forall_eq_or_imp, forall_eq, and_true, true_and]
  decide +kernel

theorem txData_leaves : LeavesOK (FloatOK exCfgFast ryuEx) txTy txData := by
  simp only [txTy, txData, LeavesOK, LeavesOKFields, LeavesOKVariant, LeavesOKTuple,
    List.mem_cons, List.not_mem_nil, or_false, forall_eq_or_imp, forall_eq, and_true, true_and]
  exact ⟨floatOK_ex_15, by decide +kernel, by decide +kernel⟩

theorem txData_depth : depthOf txTy txData = 5 := by decide +kernel

/-- the struct goes through text and comes back, from all three sources (default build) -/
example (m : Mode) :
    ∃ bytes, toText ryuEx txTy txData = some bytes ∧
      fromText exCfgFast m txTy bytes = some (.ok txData) :=
  C04_text_identity exCfgFast rfl ryuEx txTy txData txTy_wf txTy_names txData_ty txData_leaves
    (by rw [txData_depth]; omega) m

/-- `E::at { x: -100.0 }` inside `Vec<Option<E>>`: a struct variant and an empty option -/
example (m : Mode) :
    let t : Ty := .seq (.option (.enum (.cons (asc "idle") .unit
      (.cons (asc "at") (.struct (.cons (asc "x") .f64 .nil)) .nil))))
    let d : Data := .seq [.some (.variant 1 (.seq [.float 0xC059000000000000])), .none,
      .some (.variant 0 .unit)]
    ∃ bytes, toText ryuEx t d = some bytes ∧ fromText exCfgFast m t bytes = some (.ok d) := by
  intro t d
  refine C04_text_identity exCfgFast rfl ryuEx t d ?_ ?_ ?_ ?_ ?_ m
  · simp only [t, WellFormed, WFFields, WFVariants, FieldList.names, VariantList.names, and_true,
      true_and]
    decide +kernel
  · simp only [t, PlainNames, NamesOK, NamesOKFields, NamesOKVariants, and_true, true_and]
    decide +kernel
  · simp [t, d, HasTy, HasTyFields, HasTyVariant]
  · simp only [t, d, LeavesOK, LeavesOKFields, LeavesOKVariant, List.mem_cons, List.not_mem_nil,
      or_false, forall_eq_or_imp, forall_eq, and_true]
    exact floatOK_ex_m100
  · decide +kernel


/-! ### the hypothesis on names is needed (witnesses, confirmed on the real crate) -/

/-- `struct Spacey { #[serde(rename = "my field")] f: u8 }` -/
def spaceTy : Ty := .struct (.cons (asc "my field") (.int .u8) .nil)
/-- `struct Weier { ℘: u8 }` — U+2118 is `XID_Start` (a legal first character of a Rust identifier,
    no `rename` needed) but not `char::is_alphabetic` -/
def weierTy : Ty := .struct (.cons [0xE2, 0x84, 0x98] (.int .u8) .nil)
/-- `struct Digit { #[serde(rename = "1st")] f: u8 }` -/
def digitTy : Ty := .struct (.cons (asc "1st") (.int .u8) .nil)

/-- `struct { n: u8 }` and the datum `{ n: 1 }`, whatever the name `n` -/
theorem oneField_facts (n : List UInt8) :
    WellFormed (.struct (.cons n (.int .u8) .nil)) ∧
    HasTy (.struct (.cons n (.int .u8) .nil)) (.seq [.int 1]) ∧
    depthOf (.struct (.cons n (.int .u8) .nil)) (.seq [.int 1]) ≤ 127 := by
  refine ⟨?_, ?_, ?_⟩
  · simp [WellFormed, WFFields, FieldList.names]
  · simp [HasTy, HasTyFields, IntTy.lo, IntTy.hi]
  · simp [depthOf, depthFields]

def firstKeyIsMy : Res Value → Bool
  | .ok (.cons (.cons (.symbol n) _) .null) _ => n == asc "my"
  | _ => false

theorem space_parse :
    firstKeyIsMy (fromTrait exCfgFast (initSt .slice (asc "((my field . 1))"))) = true := by
  decide +kernel

/- The parser's result holds its final state, so the kernel evaluates an observer of the result instead
   (`space_parse`); this gives the result back in the form `fromText` matches on. -/
theorem firstKeyIsMy_inv {r : Res Value} (h : firstKeyIsMy r = true) :
    ∃ x s, r = .ok (.cons (.cons (.symbol (asc "my")) x) .null) s := by
  unfold firstKeyIsMy at h
  split at h
  · exact ⟨_, _, by rw [eq_of_beq h]⟩
  · cases h

theorem space_text :
    fromText exCfgFast .slice spaceTy (asc "((my field . 1))") = some .dataErr := by
  obtain ⟨x, s, hr⟩ := firstKeyIsMy_inv space_parse
  have hne : (asc "my field" == asc "my") = false := by decide +kernel
  rw [fromText_of_ok hr]
  simp [spaceTy, de, deStructLike, deStructEntries, deField, lookupField, deStructFill,
    FieldList.optFlags, Ty.isOption, hne]

/-- `PlainNames` cannot be dropped from `C04_text`: the printer writes
    symbols verbatim, so a field name that is not a plain identifier does not come back.
    * `my field` (a `serde(rename)`): the text `((my field . 1))` parses, as a different value, and
      `from_str` fails with a data error (missing field);
    * `℘` (U+2118, accepted by rustc as an identifier): the text `((℘ . 1))` is rejected by the
      parser (`ExpectedSomeValue`: the initial is not `char::is_alphabetic`);
    * `1st`: the text `((1st . 1))` is rejected (`InvalidNumber`).
    In all three cases every other hypothesis of `C04_text` holds and the value path
    (`from_value(to_value(d))`, `C04_value`) succeeds. -/
theorem C04_text_names_needed :
    (WellFormed spaceTy ∧ HasTy spaceTy (.seq [.int 1]) ∧ depthOf spaceTy (.seq [.int 1]) ≤ 127 ∧
      ¬ PlainNames spaceTy ∧
      toText ryuEx spaceTy (.seq [.int 1]) = some (asc "((my field . 1))") ∧
      fromText exCfgFast .slice spaceTy (asc "((my field . 1))") = some .dataErr) ∧
    (WellFormed weierTy ∧ HasTy weierTy (.seq [.int 1]) ∧ depthOf weierTy (.seq [.int 1]) ≤ 127 ∧
      ¬ PlainNames weierTy ∧ ¬ NamesOK (PlainNameFor exCfgFast) weierTy ∧
      toText ryuEx weierTy (.seq [.int 1]) = some ([40, 40, 0xE2, 0x84, 0x98] ++ asc " . 1))") ∧
      (fromText exCfgFast .slice weierTy ([40, 40, 0xE2, 0x84, 0x98] ++ asc " . 1))")).isNone
        = true) ∧
    (WellFormed digitTy ∧ HasTy digitTy (.seq [.int 1]) ∧ depthOf digitTy (.seq [.int 1]) ≤ 127 ∧
      ¬ PlainNames digitTy ∧
      toText ryuEx digitTy (.seq [.int 1]) = some (asc "((1st . 1))") ∧
      (fromText exCfgFast .slice digitTy (asc "((1st . 1))")).isNone = true) := by
  obtain ⟨ws, hs, ds⟩ := oneField_facts (asc "my field")
  obtain ⟨ww, hw, dw⟩ := oneField_facts [0xE2, 0x84, 0x98]
  obtain ⟨wd, hd, dd⟩ := oneField_facts (asc "1st")
  refine ⟨⟨ws, hs, ds, ?_, ?_, space_text⟩, ⟨ww, hw, dw, ?_, ?_, ?_, ?_⟩, ⟨wd, hd, dd, ?_, ?_, ?_⟩⟩
  · simp only [spaceTy, PlainNames, NamesOK, NamesOKFields, and_true]; decide +kernel
  · decide +kernel
  · simp only [weierTy, PlainNames, NamesOK, NamesOKFields, and_true]; decide +kernel
  · simp only [weierTy, NamesOK, NamesOKFields, and_true]; decide +kernel
  · decide +kernel
  · decide +kernel
  · simp only [digitTy, PlainNames, NamesOK, NamesOKFields, and_true]; decide +kernel
  · decide +kernel
  · decide +kernel

/-- the text of `txData` -/
example : toText ryuEx txTy txData = some ([40] ++ asc "(opt 1.5) (e items #(-128 \"a b\") #(127 \"" ++
    [0xC3, 0xA9] ++ asc "\")) (m (\"k\" . 18446744073709551615)) (raw . #u8(0 255)) (u))") := by
  decide +kernel

/-- `struct Umlaut { größe: u8 }`: a Unicode-alphabetic initial is fine (`C04_text_unicode`);
    `exCfgLam` knows only U+03BB as alphabetic, so the example uses `λx` -/
example (m : Mode) :
    let t : Ty := .struct (.cons [0xCE, 0xBB, 120] (.option (.int .u8)) .nil)
    let d : Data := .seq [.some (.int 255)]
    ∃ v s', ser t d = some v ∧
      fromTrait exCfgLam (initSt m (Print.text Print.Options.default ryuEx v)) = .ok v s' ∧
      s'.rd.rest = [] ∧ s'.depth = 128 ∧ de t v = .ok d := by
  intro t d
  refine C04_text_unicode exCfgLam rfl ryuEx t d ?_ ?_ ?_ ?_ ?_ m
  · simp [t, WellFormed, WFFields, FieldList.names]
  · simp only [t, NamesOK, NamesOKFields, and_true]; decide +kernel
  · simp [t, d, HasTy, HasTyFields, IntTy.lo, IntTy.hi]
  · simp [t, d, LeavesOK, LeavesOKFields]
  · simp [t, d, depthOf, depthFields]

/-! ### floats outside the exactness window (default build)

`C04_text` asks for `FloatOK`.  In the build with `fast-float-parsing` a float whose shortest
decimal form lies outside the window (more than 15 digits or `|exponent| > 22`) may come back as a
neighbouring double — the property allows this ("to the accuracy of C05"); that clause is
`C04_text_approx_all` in FloatApproxSerde32.lean.  `C04_text` is the exact clause, restricted to
`FloatOK`, and the following witness shows the restriction is not vacuous. -/

def fltOf : Res Value → Option Nat
  | .ok (.number (.flt b)) _ => some b
  | _ => none

theorem em23_parse :
    fltOf (fromTrait exCfgFast (initSt .slice (asc "1e-23"))) = some 0x3B282DB34012B252 := by
  decide +kernel

theorem fltOf_inv {r : Res Value} {b : Nat} (h : fltOf r = some b) : ∃ s, r = .ok (.number (.flt b)) s := by
  unfold fltOf at h
  split at h
  · cases h; exact ⟨_, rfl⟩
  · cases h

/-- `f64` datum `1e-23` (bits `0x3B282DB34012B251`), default
    build: any ryu meeting `RyuSpec` prints `1e-23`, and `from_str::<f64>("1e-23")` is the next
    double up (`…252`): the text path is not the identity on this datum (the value path is). -/
theorem C04_text_float_window_needed (ryu : Nat → List UInt8)
    (hspec : RyuSpec ryu 0x3B282DB34012B251 ⟨false, 1, -23, .sci1⟩) :
    HasTy .f64 (.float 0x3B282DB34012B251) ∧
    toText ryu .f64 (.float 0x3B282DB34012B251) = some (asc "1e-23") ∧
    fromText exCfgFast .slice .f64 (asc "1e-23") = some (.ok (.float 0x3B282DB34012B252)) ∧
    de .f64 (.number (.flt 0x3B282DB34012B251)) = .ok (.float 0x3B282DB34012B251) := by
  have htext : ryu 0x3B282DB34012B251 = asc "1e-23" := by rw [hspec.text_eq]; decide +kernel
  refine ⟨by simp [HasTy], ?_, ?_, by simp [de, deNumber]⟩
  · simp [toText, ser, Print.text, Print.emits, Print.atomEmits, Print.numberText, Print.flatten,
      Print.Emit.bytes, htext]
  · obtain ⟨s, hr⟩ := fltOf_inv em23_parse
    rw [fromText_of_ok hr, de, deNumber]

#print axioms C04_ser_leaves
#print axioms C04_ser_supported
#print axioms C04_text
#print axioms C04_text_identity
#print axioms C04_text_unicode
#print axioms C04_text_depth_needed
#print axioms C04_text_names_needed
#print axioms C04_text_float_window_needed

end Serde
end Lexpr
