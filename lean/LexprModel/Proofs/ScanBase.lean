/-
  Support for `FrameScan.lean`: the flat token scan `Spec.scan`.  One step of it calls its
  continuation on strictly shorter inputs only and does not read the recursion budget of the state
  (`scanBody_rel`); hence with `length + 1` fuel the scan no longer depends on the fuel, and `scanAll`
  (the scan with that fuel) satisfies the unfolding equation (`scanAll_unfold`), ignores the recursion
  budget, and is not changed by skipping trivia first (`parse_whitespace` is idempotent).
-/
import LexprModel.Proofs.FrameTok
import LexprModel.Proofs.DepthInd
import LexprModel.Proofs.Progress
namespace Lexpr
namespace Parse
namespace C08
open Spec DepthInd

/-- the scan with enough fuel for the whole input -/
def scanAll (cfg : Cfg) (s : St) : List OptName := scan cfg (s.rd.rest.length + 1) s

theorem parseWhitespace_len {s s0 : St} {r : Option UInt8} (h : parseWhitespace s = .ok r s0) :
    s0.rd.rest.length ≤ s.rd.rest.length := by
  rw [(parseWhitespace_ok h).1]
  simp

theorem discard_len {s s1 : St} {u : Unit} (h : discard s = .ok u s1) :
    s1.rd.rest.length + 1 = s.rd.rest.length := by
  obtain ⟨b, tl, hr, rfl⟩ := discard_ok h
  simp [hr]

theorem parseToken_len {cfg : Cfg} {fuel : Nat} {pk : UInt8} {s s1 : St} {tok : Token}
    (hpk : s.rd.rest.head? = some pk) (h : parseToken cfg fuel pk s = .ok tok s1) :
    s1.rd.rest.length + 1 ≤ s.rd.rest.length :=
  ((Progress.parseToken_spec (cfg := cfg) (fuel := fuel) hpk).ok h).len

theorem parseByteList_len {cfg : Cfg} {fuel : Nat} {close : UInt8} {s s1 : St} {bs : List UInt8}
    (h : parseByteList cfg fuel close s = .ok bs s1) :
    s1.rd.rest.length ≤ s.rd.rest.length := by
  have := ((Progress.parseByteList_spec (cfg := cfg) (fuel := fuel) (close := close) (s := s)).ok h).len
  omega

theorem dotPeek_len {s s2 : St} {nxt : UInt8}
    (h : (discard >>= fun _ => peekOrNull) s = .ok nxt s2) :
    s2.rd.rest.length + 1 = s.rd.rest.length := by
  obtain ⟨u, s1, hd, hp⟩ := bind_ok h
  obtain ⟨_, hr, _⟩ := peekOrNull_frame hp
  rw [hr]
  exact discard_len hd

theorem rsetD_ok {α : Type} {d : Nat} {r : Res α} {a : α} {s' : St} (h : r = .ok a s') :
    rsetD d r = .ok a (setD d s') := by subst h; rfl

/-- One step of the scan calls its continuation on strictly shorter inputs only, and does not
    read the recursion budget of the state. -/
theorem scanBody_rel (cfg : Cfg) (k1 k2 : St → List OptName) (s : St) (d : Nat)
    (h : ∀ s1 : St, s1.rd.rest.length < s.rd.rest.length → k1 (setD d s1) = k2 s1) :
    scanBody cfg k1 (setD d s) = scanBody cfg k2 s := by
  unfold scanBody
  rw [DInd.parseWhitespace.eq s d]
  cases hw : parseWhitespace s with
  | ok r s0 =>
    cases r with
    | none => rfl
    | some pk =>
      have hl0 := parseWhitespace_len hw
      have hpk := parseWhitespace_some hw
      simp only [rsetD, setD_rd]
      by_cases hc : (pk == 41 || pk == 93) = true
      · simp only [hc, ↓reduceIte]
        rw [DInd.discard.eq s0 d]
        cases hd : discard s0 with
        | ok u s1 =>
          cases u
          have := discard_len hd
          exact h s1 (by omega)
        | _ => rfl
      · simp only [hc, Bool.false_eq_true, ↓reduceIte]
        congr 1
        · congr 1
          rw [(DInd.parseToken cfg (s0.rd.rest.length + 1) pk).eq s0 d]
          cases ht : parseToken cfg (s0.rd.rest.length + 1) pk s0 with
          | ok tok s1 =>
            have hl1 := parseToken_len hpk ht
            cases tok with
            | byteVecOpen close =>
              simp only [rsetD]
              rw [(DInd.parseByteList cfg (s0.rd.rest.length + 1) close).eq s1 d]
              cases hb : parseByteList cfg (s0.rd.rest.length + 1) close s1 with
              | ok bs s2 =>
                have := parseByteList_len hb
                exact h s2 (by omega)
              | _ => rfl
            | _ => exact h s1 (by omega)
          | _ => rfl
        · by_cases hdot : (pk == 46) = true
          · simp only [hdot, ↓reduceIte]
            rw [(DInd.bind DInd.discard (fun _ => DInd.peekOrNull)).eq s0 d]
            cases hd : (discard >>= fun _ => peekOrNull) s0 with
            | ok nxt s2 =>
              simp only [rsetD]
              have := dotPeek_len hd
              rw [h s2 (by omega)]
            | _ => rfl
          · simp only [hdot, Bool.false_eq_true, ↓reduceIte]
  | _ => rfl

theorem scan_setD (cfg : Cfg) : ∀ (F : Nat) (d : Nat) (s : St),
    scan cfg F (setD d s) = scan cfg F s := by
  intro F
  induction F with
  | zero => intro d s; rfl
  | succ F ih =>
    intro d s
    rw [scan, scan]
    exact scanBody_rel cfg _ _ s d (fun s1 _ => ih d s1)

theorem scanBody_congr (cfg : Cfg) (k1 k2 : St → List OptName) (s : St)
    (hk : ∀ d s1, k1 (setD d s1) = k1 s1)
    (h : ∀ s1 : St, s1.rd.rest.length < s.rd.rest.length → k1 s1 = k2 s1) :
    scanBody cfg k1 s = scanBody cfg k2 s :=
  scanBody_rel cfg _ _ s s.depth (fun s1 hlt => by rw [hk, h s1 hlt])

theorem scan_sat (cfg : Cfg) : ∀ (F : Nat) (s : St), s.rd.rest.length + 1 ≤ F →
    scan cfg F s = scanAll cfg s := by
  intro F
  induction F using Nat.strongRecOn with
  | ind F ih =>
    intro s hF
    cases F with
    | zero => omega
    | succ G =>
      unfold scanAll
      rw [scan, scan]
      refine scanBody_congr cfg _ _ s (scan_setD cfg G) fun s1 hlt => ?_
      rw [ih G (by omega) s1 (by omega), ih s.rd.rest.length (by omega) s1 (by omega)]

theorem scanAll_unfold (cfg : Cfg) (s : St) : scanAll cfg s = scanBody cfg (scanAll cfg) s := by
  show scan cfg (s.rd.rest.length + 1) s = _
  rw [scan]
  exact scanBody_congr cfg _ _ s (scan_setD cfg _) fun s1 hlt => scan_sat cfg _ s1 (by omega)

theorem scanAll_setD (cfg : Cfg) (d : Nat) (s : St) : scanAll cfg (setD d s) = scanAll cfg s :=
  scan_setD cfg _ d s

theorem scanAll_depth (cfg : Cfg) (s s' : St) (h : s'.rd = s.rd) : scanAll cfg s' = scanAll cfg s := by
  have : s' = setD s'.depth s := by
    cases s; cases s'; simp only at h; subst h; rfl
  rw [this, scanAll_setD]

theorem wsLen_drop_zero : ∀ l : List UInt8,
    wsLen (l.drop (wsLen l)) = 0 ∧ wsLen (l.drop (commentLen l)) = 0 := by
  have key : ∀ r : List UInt8, (∀ b t, r = b :: t → isTrivia b = false ∧ b ≠ 59) → wsLen r = 0 := by
    intro r h
    cases r with
    | nil => rfl
    | cons b t => exact wsLen_nontrivia b t (h b t rfl).1 (h b t rfl).2
  exact fun l => ⟨key _ (wsLen_drop_head l).1, key _ (wsLen_drop_head l).2⟩

/-- `peek` changes the peek flag only, and consuming forgets it -/
theorem adv_of_peek {s s' : St} {o : Option UInt8} (h : peek s = .ok o s') (n : Nat) :
    s'.adv n = s.adv n := by
  obtain ⟨-, p, rfl⟩ := peek_ok h
  exact congrArg (fun rd => ({ s with rd := rd } : St)) (Rd.consume_setPeeked n s.rd p)

theorem peek_adv0 {s s' : St} {o : Option UInt8} (h : peek s = .ok o s')
    (hp : s.rd.peeked = false) : s'.adv 0 = s := by
  rw [adv_of_peek h 0]
  obtain ⟨⟨mode, rest, line, col, peeked, faulty⟩, depth⟩ := s
  cases hp; rfl

theorem parseWhitespace_idem {s s0 : St} {r : Option UInt8} (h : parseWhitespace s = .ok r s0) :
    parseWhitespace s0 = .ok r s0 := by
  have hr := (parseWhitespace_ok h).1
  unfold parseWhitespace at h ⊢
  simp only [bind_apply, getRest_eq, consumeN_eq] at h ⊢
  rw [hr, (wsLen_drop_zero s.rd.rest).1, peek_adv0 h (by simp)]
  exact h

theorem scanAll_ws (cfg : Cfg) {s s0 : St} {r : Option UInt8} (h : parseWhitespace s = .ok r s0) :
    scanAll cfg s0 = scanAll cfg s := by
  rw [scanAll_unfold cfg s0, scanAll_unfold cfg s]
  unfold scanBody
  rw [parseWhitespace_idem h, h]

theorem scanAll_closer (cfg : Cfg) {s s0 s1 : St} {pk : UInt8} {u : Unit}
    (hw : parseWhitespace s = .ok (some pk) s0) (hc : (pk == 41 || pk == 93) = true)
    (hd : discard s0 = .ok u s1) : scanAll cfg s = scanAll cfg s1 := by
  rw [scanAll_unfold cfg s]
  unfold scanBody
  cases u
  simp only [hw, hc, ↓reduceIte, hd]

theorem scanAll_token (cfg : Cfg) {s s0 : St} {pk : UInt8}
    (hw : parseWhitespace s = .ok (some pk) s0) (hc : (pk == 41 || pk == 93) = false) :
    scanAll cfg s =
      tokenOpts cfg.opts s0.rd.mode s0.rd.rest ++
      (match parseToken cfg (s0.rd.rest.length + 1) pk s0 with
       | .ok (.byteVecOpen close) s1 =>
         (match parseByteList cfg (s0.rd.rest.length + 1) close s1 with
          | .ok _ s2 => scanAll cfg s2
          | _ => [])
       | .ok _ s1 => scanAll cfg s1
       | _ => []) ++
      (if pk == 46 then
         (match (discard >>= fun _ => peekOrNull) s0 with
          | .ok nxt s2 => if nxt == 0 || isDelimiter nxt then scanAll cfg s2 else []
          | _ => [])
       else []) := by
  rw [scanAll_unfold cfg s]
  unfold scanBody
  simp only [hw, hc, Bool.false_eq_true, ↓reduceIte]
  rfl

end C08
end Parse
end Lexpr
