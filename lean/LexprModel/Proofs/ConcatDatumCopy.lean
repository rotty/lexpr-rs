/-
  The statements `Lexpr.Parse.Concat.DV.*` about the lock-step simulation of the datum readers by
  the value readers, each read off `DatumSim.lean`, where the simulation is; `Res.map` and `Sim`
  here are the same as there (`sim_iff`).  They are kept under these names; no proof uses them
  (ConcatDatum.lean works with `DatumSim.lean` directly).
-/
import LexprModel.Proofs.DatumSim
namespace Lexpr
namespace Parse
namespace Concat
namespace DV

/-- Map the returned value of a parser result; errors (code and position), the residual state,
    panics and fuel exhaustion are kept as they are. -/
def Res.map (f : α → β) : Res α → Res β
  | .ok a s => .ok (f a) s
  | .err e s => .err e s
  | .panic p => .panic p
  | .fuel => .fuel

/-- `m` and `m'` run in lock step: from every state they end the same way, in the same state,
    and the value of `m'` is the `h`-image of the value of `m`. -/
def Sim (h : α → β) (m : P α) (m' : P β) : Prop := ∀ s, Res.map h (m s) = m' s

theorem pure_apply (a : α) (s : St) : (pure a : P α) s = .ok a s := rfl

theorem sim_iff {h : α → β} {m : P α} {m' : P β} : Sim h m m' ↔ MapSim h m m' :=
  forall_congr' fun s => by
    have : Res.map h (m s) = Parse.Res.map h (m s) := by cases m s <;> rfl
    rw [this]

theorem Sim.outOfFuel {h : α → β} : Sim h outOfFuel outOfFuel := fun _ => rfl

theorem Sim.attempt {h : α → β} {m : P α} {m' : P β} (hm : Sim h m m') :
    Sim (Except.map h) (attempt m) (attempt m') :=
  sim_iff.2 (MapSim.attempt (sim_iff.1 hm))

theorem sim_fromTrait (cfg : Cfg) : Sim Datum.value (fromTraitDatum cfg) (fromTrait cfg) :=
  sim_iff.2 (Parse.sim_fromTrait cfg)

end DV
end Concat
end Parse
end Lexpr
