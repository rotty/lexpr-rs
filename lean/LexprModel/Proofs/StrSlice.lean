/-
  `&str` source versus `&[u8]` source.  The two differ in `parseSymbolBytes` and `finishStr false`
  only, where the `&str` source skips the UTF-8 check; these agree where the bytes converted are
  well-formed, which depends on where in the input the parser stands.  So next to the relation
  `PStr` on all related states there is a triple `HR r0 .. post` for runs from remaining input
  `r0`, and the functions on the way to the two conversions are followed with it: the bytes the
  lexer dispatches on are ASCII, so it converts at character boundaries.
-/
import LexprModel.Proofs.Hist
import LexprModel.Proofs.Utf8Valid
import LexprModel.Proofs.SymTerm
import LexprModel.Proofs.Consume
import LexprModel.Proofs.Primitives
namespace Lexpr
namespace Parse

/-- `&str` source versus `&[u8]` source at the same point of the same input: the states are
    identical except for the mode tag. -/
structure StrSl (s t : St) : Prop where
  rd : s.rd = { t.rd with mode := .str }
  depth : s.depth = t.depth
  mode : t.rd.mode = .slice

/-- ... and what is left of the input is a suffix of well-formed UTF-8. -/
structure StrB (s t : St) : Prop extends StrSl s t where
  bnd : Utf8.Bnd t.rd.rest

theorem StrB.consume {s t : St} (h : StrB s t) (n : Nat) :
    StrB { s with rd := s.rd.consume n } { t with rd := t.rd.consume n } := by
  refine ⟨⟨?_, h.depth, (Rd.consume_mode n _).trans h.mode⟩, ?_⟩
  · show s.rd.consume n = { t.rd.consume n with mode := .str }
    rw [h.rd, Rd.consume_tags t.rd .str t.rd.peeked t.rd.faulty n, ← Rd.consume_faulty n t.rd]
  · show Utf8.Bnd (t.rd.consume n).rest
    rw [Rd.consume_rest]; exact h.bnd.drop n

theorem StrSl.rest {s t : St} (h : StrSl s t) : s.rd.rest = t.rd.rest := by rw [h.rd]
theorem StrSl.faulty {s t : St} (h : StrSl s t) : s.rd.faulty = t.rd.faulty := by rw [h.rd]
theorem StrSl.position {s t : St} (h : StrSl s t) : s.rd.position = t.rd.position := by
  rw [h.rd]; rfl
theorem StrSl.peekPosition {s t : St} (h : StrSl s t) : s.rd.peekPosition = t.rd.peekPosition := by
  rw [h.rd]; simp only [Rd.peekPosition, h.mode]; rfl
theorem StrSl.smode {s t : St} (h : StrSl s t) : s.rd.mode = .str := by rw [h.rd]

abbrev PStr {α : Type} (m₁ m₂ : P α) : Prop := PRel StrB Eq Eq m₁ m₂

theorem StrB.base : Prims.Base StrB Eq where
  rest h := h.rest
  faulty h := h.faulty
  depth h := h.depth
  position h := h.position
  refl _ := rfl
  peekPosE _ h := by rw [h.peekPosition]
  consume := StrB.consume
  peeked h := ⟨⟨by simp only [h.rd, h.mode]; rfl, h.depth, h.mode⟩, h.bnd⟩
  setDepth h _ := ⟨⟨h.rd, rfl, h.mode⟩, h.bnd⟩

instance : Prims StrB Eq := .of_base StrB.base

theorem PStr.discard : PStr discard discard := Prims.discard

def HRes {α : Type} (post : α → List UInt8 → Prop) : Res α → Res α → Prop
  | .ok a s, .ok b t => a = b ∧ StrB s t ∧ post a t.rd.rest
  | .err e s, .err e' t => e = e' ∧ StrB s t
  | .panic p, .panic q => p = q
  | .fuel, .fuel => True
  | _, _ => False

/-- `m₁` on a `&str` parser and `m₂` on a slice parser, from related states whose remaining input
    is `r0`: equal results, and `post` holds of the value and of what remains then. -/
structure HR {α : Type} (r0 : List UInt8) (m₁ m₂ : P α) (post : α → List UInt8 → Prop) : Prop where
  app : ∀ s t, StrB s t → t.rd.rest = r0 → HRes post (m₁ s) (m₂ t)

theorem HRes.iff {α : Type} {post : α → List UInt8 → Prop} {r₁ r₂ : Res α} :
    HRes post r₁ r₂ ↔ ResRel StrB Eq Eq r₁ r₂ ∧ ∀ b t, r₂ = .ok b t → post b t.rd.rest := by
  cases r₁ <;> cases r₂ <;>
    simp only [HRes, ResRel, reduceCtorEq, false_and, false_imp_iff, implies_true, and_true]
  constructor
  · rintro ⟨rfl, hs, hp⟩; exact ⟨⟨rfl, hs⟩, fun _ _ e => by cases e; exact hp⟩
  · rintro ⟨⟨rfl, hs⟩, hp⟩; exact ⟨rfl, hs, hp _ _ rfl⟩

section hr
variable {α β : Type} {r0 : List UInt8}

theorem HR.bind {m₁ m₂ : P α} {f₁ f₂ : α → P β} {Q : α → List UInt8 → Prop}
    {R : β → List UInt8 → Prop} (hm : HR r0 m₁ m₂ Q)
    (hf : ∀ a r, Q a r → Utf8.Bnd r → HR r (f₁ a) (f₂ a) R) :
    HR r0 (m₁ >>= f₁) (m₂ >>= f₂) R := by
  constructor; intro s t h hr
  have := hm.app s t h hr
  show HRes R (P.bind m₁ f₁ s) (P.bind m₂ f₂ t)
  unfold P.bind
  cases h1 : m₁ s <;> cases h2 : m₂ t <;> rw [h1, h2] at this <;> simp only [HRes] at this ⊢
  · obtain ⟨rfl, hb, hq⟩ := this
    exact (hf _ _ hq hb.bnd).app _ _ hb rfl
  · exact this
  · exact this

theorem HR.of_post {m₁ m₂ : P α} {Q : α → List UInt8 → Prop} (hm : PStr m₁ m₂)
    (hq : ∀ t b t', t.rd.rest = r0 → m₂ t = .ok b t' → Q b t'.rd.rest) : HR r0 m₁ m₂ Q :=
  ⟨fun s t h hr => HRes.iff.2 ⟨hm.app s t h, fun b t' e => hq t b t' hr e⟩⟩

theorem HR.weaken {m₁ m₂ : P α} {Q R : α → List UInt8 → Prop} (hm : HR r0 m₁ m₂ Q)
    (hq : ∀ a r, Q a r → R a r) : HR r0 m₁ m₂ R :=
  ⟨fun s t h hr => have h' := HRes.iff.1 (hm.app s t h hr)
    HRes.iff.2 ⟨h'.1, fun b t' e => hq _ _ (h'.2 b t' e)⟩⟩

theorem HR.of_PRel {m₁ m₂ : P α} (hm : PStr m₁ m₂) : HR r0 m₁ m₂ (fun _ _ => True) :=
  .of_post hm fun _ _ _ _ _ => trivial

theorem HR.to_PRel {m₁ m₂ : P α} {Q : α → List UInt8 → Prop}
    (hm : ∀ r0, Utf8.Bnd r0 → HR r0 m₁ m₂ Q) : PStr m₁ m₂ :=
  ⟨fun s t h => (HRes.iff.1 ((hm _ h.bnd).app s t h rfl)).1⟩

theorem HR.ite {c : Prop} [Decidable c] {a b a' b' : P α} {Q : α → List UInt8 → Prop}
    (ha : c → HR r0 a a' Q) (hb : ¬c → HR r0 b b' Q) :
    HR r0 (if c then a else b) (if c then a' else b') Q := by
  split
  · exact ha ‹_›
  · exact hb ‹_›

theorem HR.pure (a : α) {Q : α → List UInt8 → Prop} (h : Q a r0) :
    HR r0 (pure a : P α) (pure a) Q :=
  ⟨fun _ _ hs hr => ⟨rfl, hs, hr ▸ h⟩⟩

theorem HR.peek : HR r0 peek peek (fun a r => r = r0 ∧ a = r0.head?) :=
  .of_post Prims.peek fun t b t' hr e => by
    obtain ⟨-, h2, h3⟩ := peek_frame e
    exact ⟨h2.trans hr, hr ▸ h3⟩

theorem HR.next : HR r0 next next (fun a r => r0 = a.toList ++ r) :=
  .of_post Prims.next fun t b t' hr e => by
    rcases (next_frame e).2 with ⟨rfl, h⟩ | ⟨c, rfl, h⟩
    · exact (h.trans hr).symm
    · exact hr ▸ h

theorem HR.discard : HR r0 discard discard (fun _ r => ∃ b, r0 = b :: r) :=
  .of_post Prims.discard fun t b t' hr e => by
    obtain ⟨c, h⟩ := (discard_frame e).2
    exact ⟨c, hr ▸ h⟩

theorem HR.consumeN (n : Nat) : HR r0 (consumeN n) (consumeN n) (fun _ r => r = r0.drop n) :=
  .of_post (Prims.consumeN n) fun t _ _ hr e => by cases e; exact hr ▸ Rd.consume_rest n t.rd

theorem HR.getRest : HR r0 getRest getRest (fun a r => a = r0 ∧ r = r0) :=
  .of_post Prims.getRest fun _ _ _ hr e => by cases e; exact ⟨hr, hr⟩

theorem HR.getPos : HR r0 getPos getPos (fun _ r => r = r0) :=
  .of_post Prims.getPos fun _ _ _ hr e => by cases e; exact hr

theorem HR.tokenFuel : HR r0 tokenFuel tokenFuel (fun _ r => r = r0) :=
  .of_post Prims.tokenFuel fun _ _ _ hr e => by cases e; exact hr

end hr

open Utf8 (valid Bnd isCont)

theorem lit128 : (0x80 : UInt8).toNat = 128 := rfl

theorem isAsciiAlpha_ascii {b : UInt8} (h : isAsciiAlpha b = true) : b < 0x80 := by
  simp only [isAsciiAlpha, Bool.and_eq_true, Bool.or_eq_true, decide_eq_true_eq,
    UInt8.le_iff_toNat_le, UInt8.lt_iff_toNat_lt] at h ⊢
  simp at h ⊢; omega

theorem isSymbolExtended_ascii {b : UInt8} (h : isSymbolExtended b = true) : b < 0x80 := by
  simp only [isSymbolExtended, Bool.or_eq_true, beq_iff_eq] at h
  rcases h with (((((((((((((((rfl | rfl) | rfl) | rfl) | rfl) | rfl) | rfl) | rfl) | rfl) | rfl) | rfl) | rfl) | rfl) | rfl) | rfl) | rfl) <;> decide

theorem valid_single {b : UInt8} (h : b < 0x80) : valid [b] = true :=
  Utf8.valid_cons_ascii [] h

/-- `parse_symbol` on a `&str` and on the same bytes as a slice, at a character boundary and
    with a well-formed prefix in `scratch` -/
theorem HR.parseSymbolBytes {r0 scratch : List UInt8} (hs : valid scratch = true)
    (hr : valid r0 = true) :
    HR r0 (parseSymbolBytes scratch) (parseSymbolBytes scratch) (fun _ _ => True) := by
  constructor; intro s t h hr0
  unfold Parse.parseSymbolBytes
  simp only [bind_apply, Parse.getRest, Parse.getMode, Parse.consumeN]
  rw [h.rest, h.smode, h.mode, hr0, symLen_mode .str .slice]
  have h1 := h.consume (symLen .slice r0)
  have hp := (Prims.peek (E := Eq)).app _ _ h1
  revert hp
  generalize Parse.peek { rd := s.rd.consume (symLen Mode.slice r0), depth := s.depth } = p₁
  generalize Parse.peek { rd := t.rd.consume (symLen Mode.slice r0), depth := t.depth } = p₂
  intro hp
  have hv : valid (scratch ++ r0.take (symLen .slice r0)) = true :=
    Utf8.valid_append hs (U8.valid_cut_symLen _ hr).1
  cases p₁ <;> cases p₂ <;> simp only [ResRel] at hp <;> try (exact hp.elim)
  · obtain ⟨rfl, hp⟩ := hp
    simp only [hv, mode_slice_ne_str, show (Mode.str == Mode.str) = true from rfl, if_true,
      Bool.false_eq_true, if_false]
    split
    · exact HRes.iff.2 ⟨(Prims.errAt (α := List UInt8) (invalidDot _)).app _ _ hp, fun _ _ e => by cases e⟩
    · exact ⟨rfl, hp, trivial⟩
  all_goals first | exact hp | exact trivial


theorem HR.finishStr {r0 bytes : List UInt8} (checked : Bool) (hv : valid bytes = true) :
    HR r0 (finishStr checked bytes) (finishStr checked bytes) (fun _ _ => True) := by
  constructor; intro s t h hr0
  unfold Parse.finishStr
  simp only [bind_apply, Parse.getMode, hv, if_true, ite_self]
  exact ⟨rfl, h, trivial⟩

section hr2
variable {α : Type} {r0 : List UInt8}

theorem HR.errAt (c : Code) (Q : α → List UInt8 → Prop) : HR r0 (errAt c : P α) (errAt c) Q :=
  ⟨fun s t h _ => (Prims.errAt (α := α) c).app s t h⟩

theorem HR.peekErr (c : Code) (Q : α → List UInt8 → Prop) :
    HR r0 (peekErr c : P α) (peekErr c) Q :=
  ⟨fun s t h _ => (Prims.peekErr (α := α) c).app s t h⟩

theorem HR.outOfFuel (Q : α → List UInt8 → Prop) : HR r0 (outOfFuel : P α) outOfFuel Q :=
  ⟨fun _ _ _ _ => trivial⟩

theorem HR.panicAt (p : Site) (Q : α → List UInt8 → Prop) :
    HR r0 (panicAt p : P α) (Parse.panicAt p) Q :=
  ⟨fun _ _ _ _ => rfl⟩

end hr2

theorem HR.nextOrEof {r0 : List UInt8} : HR r0 nextOrEof nextOrEof (fun c r => r0 = c :: r) := by
  unfold Parse.nextOrEof
  refine HR.bind HR.next fun a r hq _ => ?_
  cases a with
  | none => exact HR.errAt _ _
  | some b => exact HR.pure b hq

theorem HR.peekOrNull {r0 : List UInt8} :
    HR r0 peekOrNull peekOrNull (fun c r => r = r0 ∧ c = r0.head?.getD 0) := by
  unfold Parse.peekOrNull
  refine HR.bind HR.peek ?_; rintro a r ⟨rfl, rfl⟩ _
  exact HR.pure _ ⟨rfl, rfl⟩

theorem HR.parseWhitespace {r0 : List UInt8} :
    HR r0 parseWhitespace parseWhitespace (fun a r => a = r.head?) := by
  unfold Parse.parseWhitespace
  refine HR.bind HR.getRest ?_; rintro a r ⟨rfl, rfl⟩ _
  refine HR.bind (HR.consumeN _) ?_; rintro _ r rfl _
  exact HR.peek.weaken (by rintro a r ⟨rfl, rfl⟩; rfl)


theorem valid_tail_ascii {b : UInt8} {l : List UInt8} (h : valid (b :: l) = true) (hb : b < 0x80) :
    valid l = true := (Bnd.of_valid h).valid_after_ascii hb

theorem ascii_of_beq {c k : UInt8} (h : (c == k) = true) (hk : k < 0x80) : c < 0x80 := by
  rw [beq_iff_eq] at h; subst h; exact hk

theorem HR.decodeR6rsHexEscape {r0 : List UInt8} (f n : Nat) (hr : valid r0 = true) :
    HR r0 (decodeR6rsHexEscape f n) (decodeR6rsHexEscape f n) (fun _ r => valid r = true) := by
  induction f generalizing n r0 with
  | zero => unfold Parse.decodeR6rsHexEscape; exact HR.outOfFuel _
  | succ f ih =>
    unfold Parse.decodeR6rsHexEscape
    refine HR.bind HR.nextOrEof ?_; intro b r hq _
    subst hq
    apply HR.ite <;> intro hc
    · exact HR.pure _ (valid_tail_ascii hr (ascii_of_beq hc (by decide)))
    · split
      · exact HR.errAt _ _
      · rename_i v hv
        apply HR.ite <;> intro _
        · exact HR.errAt _ _
        · exact ih _ (valid_tail_ascii hr (U8.hexVal_ascii hv))

theorem HR.parseR6rsEscape {r0 : List UInt8} (fuel : Nat) (acc : List UInt8)
    (ha : valid acc = true) (hr : valid r0 = true) :
    HR r0 (parseR6rsEscape fuel acc) (parseR6rsEscape fuel acc)
      (fun acc' r => valid acc' = true ∧ valid r = true) := by
  unfold Parse.parseR6rsEscape
  refine HR.bind HR.nextOrEof ?_; intro c r hq _
  subst hq
  repeat' (apply HR.ite <;> intro hc)
  any_goals
    exact HR.pure _ ⟨(Utf8.valid_snoc_ascii acc (by decide)).trans ha,
      valid_tail_ascii hr (ascii_of_beq hc (by decide))⟩
  · refine HR.bind (HR.decodeR6rsHexEscape _ _
      (valid_tail_ascii hr (ascii_of_beq hc (by decide)))) fun n r' hr' _ => ?_
    apply HR.ite <;> intro hs
    · exact HR.pure _ ⟨Utf8.valid_append ha (Utf8.valid_encode hs), hr'⟩
    · exact HR.errAt _ _
  · exact HR.errAt _ _

/-- the accumulated bytes and the remaining input together continue well-formed text -/
def Mid (acc r : List UInt8) : Prop :=
  ∃ st : Utf8.St, st.wf ∧ Utf8.run .idle acc = some st ∧ Utf8.run st r = some .idle

theorem Mid.of_valid {acc r : List UInt8} (ha : valid acc = true) (hr : valid r = true) :
    Mid acc r := ⟨.idle, trivial, Utf8.valid_iff.1 ha, Utf8.valid_iff.1 hr⟩

theorem Mid.ascii {acc r : List UInt8} {c : UInt8} (h : Mid acc (c :: r)) (hc : c < 0x80) :
    valid acc = true ∧ valid r = true := by
  obtain ⟨st, hw, ha, hr⟩ := h
  simp only [Utf8.run] at hr
  cases hs : Utf8.step st c with
  | none => simp [hs] at hr
  | some s1 =>
    have := Utf8.step_noncont hw (Utf8.ascii_noncont hc) hs
    subst this
    rw [Utf8.step_idle_ascii hc] at hr
    exact ⟨Utf8.valid_iff.2 ha, Utf8.valid_iff.2 hr⟩

theorem Mid.snoc {acc r : List UInt8} {c : UInt8} (h : Mid acc (c :: r)) : Mid (acc ++ [c]) r := by
  obtain ⟨st, hw, ha, hr⟩ := h
  simp only [Utf8.run] at hr
  cases hs : Utf8.step st c with
  | none => simp [hs] at hr
  | some s1 =>
    rw [hs] at hr
    refine ⟨s1, Utf8.step_wf hs, ?_, hr⟩
    rw [Utf8.run_append, ha]
    simp [Utf8.run, hs]

/-- `parse_r6rs_str` on a `&str` and on a slice: the unchecked conversion of the `&str` source
    is applied to bytes that pass the check of the slice source -/
theorem HR.parseR6rsStr {r0 : List UInt8} (f : Nat) (acc : List UInt8) (h : Mid acc r0) :
    HR r0 (parseR6rsStr f acc) (parseR6rsStr f acc) (fun _ _ => True) := by
  induction f generalizing acc r0 with
  | zero => unfold Parse.parseR6rsStr; exact HR.outOfFuel _
  | succ f ih =>
    unfold Parse.parseR6rsStr
    refine HR.bind HR.nextOrEof ?_; intro c r hq _
    subst hq
    apply HR.ite <;> intro hc
    · exact HR.finishStr _ (h.ascii (ascii_of_beq hc (by decide))).1
    · apply HR.ite <;> intro hc'
      · have hv := h.ascii (ascii_of_beq hc' (by decide))
        refine HR.bind (HR.parseR6rsEscape _ _ hv.1 hv.2) ?_
        intro acc' r' hv' _
        exact ih _ (Mid.of_valid hv'.1 hv'.2)
      · exact ih _ h.snoc


/-- the rest is a part of the lexer that does not read the mode of the source -/
macro "hlex" : tactic => `(tactic| (
  refine HR.of_PRel (Gen.lex (c := false) ?_)
  held [Held.badByte, Held.expectIdent _, Held.parseRadixToken _ _ (.refl _),
    Held.parseR6rsChar (.refl _), Held.parseNumToken _ _ (.refl _),
    Held.parseElispStr (.refl _) _ _ _ _, Held.parseElispChar (.refl _), Held.peekOrNull,
    Held.decodeUtf8Sequence _]
  done))

/-- `parse_symbol` where scratch buffer and remaining input are well-formed, followed by
    something that does not read the mode -/
macro "hsym" hs:term "," hv:term : tactic => `(tactic|
  (refine HR.bind (HR.parseSymbolBytes $hs $hv) fun _ _ _ _ => ?_; hlex))

theorem HR.readCont {r0 : List UInt8} (n : Nat) (acc : List UInt8) :
    HR r0 (readCont n acc) (readCont n acc)
      (fun bytes r => ∃ tl, bytes = acc ++ tl ∧ r0 = tl ++ r) := by
  induction n generalizing acc r0 with
  | zero => unfold Parse.readCont; exact HR.pure _ ⟨[], by simp, rfl⟩
  | succ n ih =>
    unfold Parse.readCont
    refine HR.bind HR.next fun a r hq _ => ?_
    cases a with
    | none => exact HR.errAt _ _
    | some b =>
      subst hq
      refine (ih (acc ++ [b])).weaken ?_
      rintro bytes r' ⟨tl, h1, h2⟩
      exact ⟨b :: tl, by simpa using h1, by simpa using h2⟩

theorem HR.decodeUtf8Sequence {r0 : List UInt8} (initial : UInt8) :
    HR r0 (decodeUtf8Sequence initial) (decodeUtf8Sequence initial)
      (fun p r => ∃ tl, p.2 = initial :: tl ∧ r0 = tl ++ r ∧ valid p.2 = true) := by
  unfold Parse.decodeUtf8Sequence
  dsimp only
  split
  · exact HR.errAt _ _
  · refine HR.bind (HR.readCont _ _) ?_
    rintro bytes r ⟨tl, h1, h2⟩ _
    apply HR.ite <;> intro hv
    · split
      · exact HR.pure _ ⟨tl, by simpa using h1, h2, hv⟩
      · exact HR.panicAt _ _
    · exact HR.errAt _ _

theorem valid_head_noncont {b : UInt8} {l : List UInt8} (h : valid (b :: l) = true) :
    isCont b = false := by
  cases hc : isCont b with
  | false => rfl
  | true =>
    have := Utf8.valid_iff.1 h
    simp [Utf8.run, Utf8.step_idle_cont hc] at this

theorem bnd_at_ascii {b : UInt8} {r0 : List UInt8} (hb : Bnd r0) (hh : r0.head? = some b)
    (h : b < 0x80) : valid r0 = true :=
  hb.valid_of_head fun b' hb' => by
    rw [hh] at hb'; cases hb'
    exact Utf8.ascii_noncont h

theorem HR.discardAscii {b : UInt8} {r0 : List UInt8} (hb : Bnd r0) (hh : r0.head? = some b)
    (h : b < 0x80) : HR r0 Parse.discard Parse.discard (fun _ r => valid r = true) := by
  refine HR.discard.weaken ?_
  rintro _ r ⟨c, rfl⟩
  cases hh
  exact valid_tail_ascii (bnd_at_ascii hb rfl h) h

theorem HR.parseSignDotSymbol {r0 : List UInt8} (cfg : Cfg) (pfx : List UInt8)
    (hb : Bnd r0) (hh : r0.head? = some 46) (hp : valid pfx = true) :
    HR r0 (parseSignDotSymbol cfg pfx) (parseSignDotSymbol cfg pfx) (fun _ _ => True) := by
  unfold Parse.parseSignDotSymbol
  refine HR.bind (HR.discardAscii hb hh (by decide)) fun _ r hv _ => ?_
  refine HR.bind HR.peekOrNull ?_; rintro c r' ⟨rfl, _⟩ _
  apply HR.ite <;> intro _
  · exact HR.peekErr _ _
  · hsym hp, hv

theorem HR.parseSignToken {r0 : List UInt8} (cfg : Cfg) (fuel : Nat) (sign : UInt8) (pos : Bool)
    (hb : Bnd r0) (hh : r0.head? = some sign) (hs : sign < 0x80) :
    HR r0 (parseSignToken cfg fuel sign pos) (parseSignToken cfg fuel sign pos)
      (fun _ _ => True) := by
  unfold Parse.parseSignToken
  refine HR.bind (HR.discardAscii hb hh hs) fun _ r hv hbr => ?_
  refine HR.bind HR.peekOrNull ?_; rintro nxt r' ⟨rfl, hn⟩ _
  apply HR.ite <;> intro _
  · hsym (valid_single hs), hv
  · apply HR.ite <;> intro h46
    · refine HR.parseSignDotSymbol cfg _ hbr ?_
        ((Utf8.valid_cons_ascii _ hs).trans (valid_single (by decide)))
      rw [beq_iff_eq] at h46
      subst hn
      cases hd : r'.head? with
      | none => simp [hd] at h46
      | some x => simp [hd] at h46; simp [h46]
    · hlex

theorem HR.parseToken {r0 : List UInt8} (cfg : Cfg) (fuel : Nat) (pk : UInt8)
    (hb : Bnd r0) (hh : r0.head? = some pk) :
    HR r0 (parseToken cfg fuel pk) (parseToken cfg fuel pk) (fun _ _ => True) := by
  unfold Parse.parseToken
  dsimp only
  repeat' (apply HR.ite <;> intro hc)
  · refine HR.bind (HR.discardAscii hb hh (ascii_of_beq hc (by decide))) fun _ r hv _ => ?_
    refine HR.bind HR.next fun a r' hq _ => ?_
    cases a with
    | none => exact HR.peekErr _ _
    | some c =>
      dsimp only
      subst hq
      repeat' (apply HR.ite <;> intro hc)
      any_goals hlex
      all_goals
        simp only [Bool.and_eq_true, beq_iff_eq] at hc
        hsym (by decide), (valid_tail_ascii hv (by rw [hc.1]; decide))
  any_goals hlex
  -- left are the arms that call `parseSymbolBytes` or `parseR6rsStr`, in the order of `parse_token`
  · exact HR.parseSignToken cfg fuel 45 false hb (by rw [hh, beq_iff_eq.1 hc]) (by decide)
  · exact HR.parseSignToken cfg fuel 43 true hb (by rw [hh, beq_iff_eq.1 hc]) (by decide)
  · hsym rfl, (bnd_at_ascii hb hh (U8.isDigit_ascii ‹_›))
  · refine HR.bind (HR.discardAscii hb hh (ascii_of_beq hc (by decide))) fun _ r hv _ => ?_
    split
    · refine HR.bind (HR.parseR6rsStr _ _ (Mid.of_valid rfl hv)) fun _ _ _ _ => ?_
      hlex
    · hlex
  · refine HR.bind (HR.discardAscii hb hh (ascii_of_beq ‹(pk == 58) = true› (by decide)))
      fun _ r hv _ => ?_
    hsym rfl, hv
  · hsym rfl, (bnd_at_ascii hb hh (ascii_of_beq ‹(pk == 58) = true› (by decide)))
  · hsym rfl, (bnd_at_ascii hb hh (isAsciiAlpha_ascii hc))
  · -- a non-ASCII character starts a symbol
    refine HR.bind HR.discard ?_; rintro _ r ⟨b, hq⟩ _
    refine HR.bind (HR.decodeUtf8Sequence _) ?_
    rintro ⟨c, bytes⟩ r' ⟨tl, hbytes, hcat, hvb⟩ _
    dsimp only at hbytes hcat hvb ⊢
    apply HR.ite <;> intro _
    · exact HR.peekErr _ _
    · have hv0 : valid r0 = true :=
        hb.valid_of_head fun x hx => by
          rw [hh] at hx; cases hx
          exact valid_head_noncont (hbytes ▸ hvb)
      have hb : b = pk := by subst hq; cases hh; rfl
      rw [hq, hcat, hb, ← List.cons_append, ← hbytes] at hv0
      hsym hvb, (Utf8.valid_of_append_left hvb hv0)
  · hsym rfl, (bnd_at_ascii hb hh (isSymbolExtended_ascii hc))


/-- `PStr` follows the parser proper wherever the mode of the source is not read -/
theorem PStr.plogic : Built.PLogic .blind (PRel StrB Eq Eq) := PRel.plogic fun h => h.elim

/-- both sides in lock step, where the source does not matter -/
macro "psim" : tactic => `(tactic| repeat' first
  | prog_step PStr.plogic [Gen.parseWhitespace, Gen.parseByteList ..]
  | dsimp only)

/-- what follows does not depend on the source -/
macro "hgen" : tactic => `(tactic| exact HR.of_PRel (by psim))

/-- Only `parse_token` and the symbol after the dot of a dotted tail reach the unchecked
    conversions; these two are followed with `HR` from the byte that `parse_whitespace` returned,
    everything else runs in lock step (`psim`). -/
theorem nextDatum_str (cfg : Cfg) : ∀ f,
    PStr (nextDatum cfg f) (nextDatum cfg f) ∧
    (∀ term acc ms, PStr (parseListMeta cfg f term acc ms) (parseListMeta cfg f term acc ms)) ∧
    (∀ term acc ms, PStr (parseVectorMeta cfg f term acc ms) (parseVectorMeta cfg f term acc ms)) := by
  intro f
  induction f with
  | zero =>
    refine ⟨?_, ?_, ?_⟩
    · unfold nextDatum; psim
    · intro term acc ms; unfold parseListMeta; psim
    · intro term acc ms; unfold parseVectorMeta; psim
  | succ f ih =>
    obtain ⟨ihV, ihL, ihVec⟩ := ih
    refine ⟨?_, ?_, ?_⟩
    · refine HR.to_PRel (Q := fun _ _ => True) fun r0 _ => ?_
      rw [nextDatum_succ]
      refine HR.bind HR.parseWhitespace fun a r ha hbr => ?_
      cases a with
      | none => hgen
      | some pk =>
        dsimp only
        refine HR.bind HR.getPos ?_; rintro start _ rfl _
        refine HR.bind HR.tokenFuel ?_; rintro tf _ rfl _
        refine HR.bind (HR.parseToken cfg tf pk hbr ha.symm) fun tok _ _ _ => ?_
        hgen
    · intro term acc ms
      refine HR.to_PRel (Q := fun _ _ => True) fun r0 _ => ?_
      unfold parseListMeta
      refine HR.bind HR.parseWhitespace fun a r ha hbr => ?_
      cases a with
      | none => exact HR.peekErr _ _
      | some c =>
        dsimp only
        apply HR.ite <;> intro _
        · hgen
        apply HR.ite <;> intro h46
        · refine HR.bind HR.getPos ?_; rintro start _ rfl _
          refine HR.bind (HR.discardAscii hbr ha.symm (ascii_of_beq h46 (by decide)))
            fun _ r1 hv _ => ?_
          refine HR.bind HR.peekOrNull ?_; rintro nxt _ ⟨rfl, _⟩ _
          apply HR.ite <;> intro _
          · hgen
          · refine HR.bind (HR.parseSymbolBytes (by decide) hv) fun _ _ _ _ => ?_
            hgen
        · hgen
    · intro term acc ms; unfold parseVectorMeta; psim

theorem nextValue_str (cfg : Cfg) : ∀ f,
    PStr (nextValue cfg f) (nextValue cfg f) ∧
    (∀ term acc, PStr (parseList cfg f term acc) (parseList cfg f term acc)) ∧
    (∀ term acc, PStr (parseVector cfg f term acc) (parseVector cfg f term acc)) := fun f =>
  have ⟨sd, sl, sv⟩ := sim_all cfg f
  have ⟨d, l, v⟩ := nextDatum_str cfg f
  ⟨.map sd sd d, fun t a => .map (sl t a []) (sl t a []) (l t a []),
    fun t a => .map (sv t a []) (sv t a []) (v t a [])⟩

instance : PrimsTop StrB Eq where
  nextValue := fun cfg f => (nextValue_str cfg f).1
  nextDatum := fun cfg f => (nextDatum_str cfg f).1

/-- Result equality between a `&str` parser and a slice parser: the same value, the same error
    (code *and* position), the same panic; the end states differ only in the mode tag. -/
def ResEq {α : Type} : Res α → Res α → Prop
  | .ok a s, .ok b t => a = b ∧ StrSl s t
  | .err e s, .err e' t => e = e' ∧ StrSl s t
  | .panic p, .panic q => p = q
  | .fuel, .fuel => True
  | _, _ => False

theorem resEq_iff {α : Type} (r₁ r₂ : Res α) : ResEq r₁ r₂ ↔ ResRel StrSl Eq Eq r₁ r₂ := by
  cases r₁ <;> cases r₂ <;> simp only [ResEq, ResRel]

theorem ResEq.of_rel {α : Type} {r₁ r₂ : Res α} (h : ResRel StrB Eq Eq r₁ r₂) : ResEq r₁ r₂ :=
  (resEq_iff _ _).2 (h.mono (fun _ _ h => h.toStrSl) (fun _ _ h => h) fun _ _ h => h)

theorem ResEq.of_HRes {α : Type} {post : α → List UInt8 → Prop} {r₁ r₂ : Res α}
    (h : HRes post r₁ r₂) : ResEq r₁ r₂ :=
  .of_rel (HRes.iff.1 h).1

theorem StrB.of_valid {s t : St} (h : StrSl s t) (hv : Utf8.valid s.rd.rest = true) : StrB s t :=
  ⟨h, Utf8.Bnd.of_valid (h.rest ▸ hv)⟩

theorem ItemRel.eq {i j : Item} (h : ItemRel Eq i j) : i = j := by
  cases i <;> cases j <;> simp only [ItemRel] at h <;> first | exact h.elim | (subst h; rfl) | rfl

theorem HistRel.eq {l₁ l₂ : List Item} (h : HistRel Eq l₁ l₂) : l₁ = l₂ := by
  induction h with
  | nil => rfl
  | cons hi _ ih => rw [hi.eq, ih]

end Parse
end Lexpr
