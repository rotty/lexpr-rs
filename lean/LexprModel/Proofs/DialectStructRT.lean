/-
  DialectStructRT — the structural round trip (lists, dotted lists, vectors in both spellings,
  `()`) for every compatible printer / parser option pair on a non-faulty slice: the text printed
  under `p` is read back as `Spec.fold p cfg.opts v`.  The induction over the value is `reads_rel`
  (`ReadsRel.lean`); `reads_textP` is its instance for "read back as the folded value" and atoms
  that are `AtomOKP`, which the atom theorems of `DialectRT.lean` provide.  The default pair (the
  statements of `ListRT.lean`) is the instance proved in `ListRTGlue.lean`.
-/
import LexprModel.Proofs.ReadsRel
import LexprModel.Proofs.DialectRT
namespace Lexpr
namespace Parse
namespace ListRT
open Print Spec

/-- `v` is an atom (not a pair, vector or the empty list) whose text under `p` is read back as
    `fold p cfg.opts v` in every follow context, from every non-faulty slice state. -/
def AtomOKP (p : Print.Options) (cfg : Cfg) (ryu : Nat → List UInt8) (v : Value) : Prop :=
  v.isCons = false ∧ v.isVector = false ∧ v ≠ .null ∧ ElemHead (atomTextP p ryu v) ∧
  ∀ (s : St) (rest : List UInt8) (fuel : Nat), Follow rest → Good s →
    s.rd.rest = atomTextP p ryu v ++ rest → fuel ≥ s.rd.rest.length + 2 →
    nestingP p v + 1 ≤ s.depth →
    Runs (nextValue cfg fuel) s (some (fold p cfg.opts v)) rest

mutual
def AllAtomsOKP (p : Print.Options) (cfg : Cfg) (ryu : Nat → List UInt8) : Value → Prop
  | .cons a d => AllAtomsOKP p cfg ryu a ∧ AllAtomsOKP p cfg ryu d
  | .vector xs => AllAtomsOKSeqP p cfg ryu xs
  | .null => True
  | .nil => AtomOKP p cfg ryu .nil
  | .bool b => AtomOKP p cfg ryu (.bool b)
  | .number n => AtomOKP p cfg ryu (.number n)
  | .char c => AtomOKP p cfg ryu (.char c)
  | .string x => AtomOKP p cfg ryu (.string x)
  | .symbol x => AtomOKP p cfg ryu (.symbol x)
  | .keyword x => AtomOKP p cfg ryu (.keyword x)
  | .bytes x => AtomOKP p cfg ryu (.bytes x)
def AllAtomsOKSeqP (p : Print.Options) (cfg : Cfg) (ryu : Nat → List UInt8) : List Value → Prop
  | [] => True
  | x :: xs => AllAtomsOKP p cfg ryu x ∧ AllAtomsOKSeqP p cfg ryu xs
end

def ValueRTP (p : Print.Options) (cfg : Cfg) (ryu : Nat → List UInt8) (v : Value) : Prop :=
  ∀ (s : St) (rest : List UInt8) (fuel : Nat), Follow rest → Good s →
    s.rd.rest = text p ryu v ++ rest → fuel ≥ 2 * s.rd.rest.length + 3 →
    nestingP p v + 1 ≤ s.depth → Runs (nextValue cfg fuel) s (some (fold p cfg.opts v)) rest

def TailRTP (p : Print.Options) (cfg : Cfg) (ryu : Nat → List UInt8) (d : Value) : Prop :=
  ∀ (s : St) (rest : List UInt8) (fuel : Nat) (acc : List Value), acc ≠ [] → Good s →
    s.rd.rest = flatten (emitsTail p ryu d) ++ 41 :: rest → fuel ≥ 2 * s.rd.rest.length + 3 →
    nestingTailP p d + 1 ≤ s.depth →
    Runs (parseList cfg fuel 41 acc) s (Value.append acc (fold p cfg.opts d)) (41 :: rest)

def SeqRTP (p : Print.Options) (cfg : Cfg) (ryu : Nat → List UInt8) (first : Bool)
    (xs : List Value) : Prop :=
  ∀ (s : St) (rest : List UInt8) (fuel : Nat) (acc : List Value), Good s →
    s.rd.rest = flatten (emitsSeq p ryu first xs) ++ vclose p :: rest →
    fuel ≥ 2 * s.rd.rest.length + (if first then 4 else 3) →
    nestingSeqP p xs + 1 ≤ s.depth →
    Runs (parseVector cfg fuel (vclose p) acc) s (acc ++ foldList p cfg.opts xs)
      (vclose p :: rest)

theorem fold_cons (p : Print.Options) (r : Options) (a d : Value) :
    fold p r (.cons a d) = .cons (fold p r a) (fold p r d) := by simp [fold]
theorem fold_vector (p : Print.Options) (r : Options) (xs : List Value) :
    fold p r (.vector xs) = .vector (foldList p r xs) := by simp [fold]
theorem fold_null (p : Print.Options) (r : Options) : fold p r .null = .null := by simp [fold]
theorem foldList_nil (p : Print.Options) (r : Options) : foldList p r [] = [] := by simp [foldList]
theorem foldList_cons (p : Print.Options) (r : Options) (x : Value) (xs : List Value) :
    foldList p r (x :: xs) = fold p r x :: foldList p r xs := by simp [foldList]

theorem _root_.Lexpr.Spec.fold_all_id (p : Print.Options) (r : Parse.Options) (hn : p.nil = .token)
    (hb : p.bool = .token) (hy : p.bytes ≠ .elisp) :
    (∀ v : Value, fold p r v = v) ∧ (∀ xs : List Value, foldList p r xs = xs) := by
  refine value_induction2 ?_ ?_ ?_ ?_ ?_ ?_
  · intro a d ha hd; simp only [fold, ha, hd]
  · intro xs hs; simp only [fold, hs]
  · simp only [fold]
  · intro v h1 h2 _
    cases v with
    | cons => cases h1
    | vector => cases h2
    | nil => simp [fold, hn]
    | bool b => simp [fold, hb]
    | bytes b => simp only [fold]; cases hpb : p.bytes <;> simp_all
    | _ => simp only [fold]
  · simp only [foldList]
  · intro x xs hx hs; simp only [foldList, hx, hs]

theorem _root_.Lexpr.Spec.fold_id (p : Print.Options) (r : Parse.Options) (hn : p.nil = .token)
    (hb : p.bool = .token) (hy : p.bytes ≠ .elisp) : ∀ v : Value, fold p r v = v :=
  (fold_all_id p r hn hb hy).1

theorem _root_.Lexpr.Spec.foldList_id (p : Print.Options) (r : Parse.Options) (hn : p.nil = .token)
    (hb : p.bool = .token) (hy : p.bytes ≠ .elisp) : ∀ xs : List Value, foldList p r xs = xs :=
  (fold_all_id p r hn hb hy).2

theorem allAtomsOKP_leaf (p : Print.Options) (cfg : Cfg) (ryu : Nat → List UInt8) (v : Value)
    (h1 : v.isCons = false) (h2 : v.isVector = false) (h3 : v ≠ .null) :
    AllAtomsOKP p cfg ryu v ↔ AtomOKP p cfg ryu v := by
  cases v <;> simp_all [Value.isCons, Value.isVector, AllAtomsOKP]

theorem allAtomsOKP_iff_leaves (p : Print.Options) (cfg : Cfg) (ryu : Nat → List UInt8) :
    (∀ v, AllAtomsOKP p cfg ryu v ↔ FullRT.AllLeaves (AtomOKP p cfg ryu) v) ∧
    (∀ xs, AllAtomsOKSeqP p cfg ryu xs ↔ FullRT.AllLeavesSeq (AtomOKP p cfg ryu) xs) :=
  FullRT.allLeaves_of_unfold (fun _ _ => by simp only [AllAtomsOKP])
    (fun _ => by simp only [AllAtomsOKP]) (by simp only [AllAtomsOKP])
    (by simp only [AllAtomsOKSeqP]) (fun _ _ => by simp only [AllAtomsOKSeqP])
    (allAtomsOKP_leaf p cfg ryu)

theorem AtomOKP.reads {p : Print.Options} {cfg : Cfg} {ryu : Nat → List UInt8} {v : Value}
    (h : AtomOKP p cfg ryu v) :
    Reads cfg false (atomTextP p ryu v) (fold p cfg.opts v) (nestingP p v) :=
  ⟨h.2.2.2.1, fun s rest fuel hf hg hr hfu hd =>
    h.2.2.2.2 s rest fuel (follow_of_open hf) hg hr (by omega) hd⟩

theorem structural_fold (p : Print.Options) (r : Options) :
    Structural (fun v w => w = fold p r v) (fun xs ws => ws = foldList p r xs) where
  cons := fun ha hd => by rw [ha, hd, fold_cons]
  vector := fun hs => by rw [hs, fold_vector]
  null := (fold_null p r).symm
  nil := (foldList_nil p r).symm
  seq := fun hx hs => by rw [hx, hs, foldList_cons]

theorem text_head_of_leaf (p : Print.Options) (ryu : Nat → List UInt8) (v : Value)
    (h : v.isCons = false → v.isVector = false → v ≠ .null → ElemHead (atomTextP p ryu v)) :
    ElemHead (text p ryu v) := by
  by_cases h1 : v.isCons = true
  · cases v <;> simp [Value.isCons] at h1
    rw [textP_cons]
    exact head_of_byte _ _ (by decide) (by decide) (by decide) (by decide) (by decide)
  · by_cases h2 : v.isVector = true
    · cases v <;> simp [Value.isVector] at h2
      rw [textP_vector]; exact vopen_head p _
    · by_cases h3 : v = .null
      · subst h3; rw [textP_null]
        exact head_of_byte _ _ (by decide) (by decide) (by decide) (by decide) (by decide)
      · rw [textP_atom p ryu v (by simpa using h1) (by simpa using h2)]
        exact h (by simpa using h1) (by simpa using h2) h3

theorem hyp_atomsOKP (p : Print.Options) (cfg : Cfg) (ryu : Nat → List UInt8) :
    Hyp p cfg ryu (fun v w => w = fold p cfg.opts v) (AllAtomsOKP p cfg ryu)
      (AllAtomsOKSeqP p cfg ryu) where
  cons := fun {a d} h => by
    simp only [AllAtomsOKP] at h
    exact ⟨h.1, text_head_of_leaf p ryu a fun h1 h2 h3 =>
      ((allAtomsOKP_leaf p cfg ryu a h1 h2 h3).1 h.1).2.2.2.1, h.2⟩
  vector := fun h => by simpa only [AllAtomsOKP] using h
  seq := fun h => by simpa only [AllAtomsOKSeqP] using h
  leaf := fun {v} h1 h2 h3 h =>
    ⟨_, rfl, ((allAtomsOKP_leaf p cfg ryu v h1 h2 h3).1 h).reads.weak⟩

theorem reads_textP (p : Print.Options) (cfg : Cfg) (ryu : Nat → List UInt8)
    (hb : p.vector = .brackets → cfg.opts.brackets = .vector) :
    (∀ v, AllAtomsOKP p cfg ryu v →
      Reads cfg (Concat.closes v) (text p ryu v) (fold p cfg.opts v) (nestingP p v)) ∧
    (∀ d, AllAtomsOKP p cfg ryu d →
      ReadsTail cfg (flatten (emitsTail p ryu d)) (fold p cfg.opts d) (nestingTailP p d)) ∧
    (∀ xs, AllAtomsOKSeqP p cfg ryu xs → ∀ first,
      ReadsSeq cfg (vclose p) first (flatten (emitsSeq p ryu first xs)) (foldList p cfg.opts xs)
        (nestingSeqP p xs)) := by
  have H := reads_rel p cfg ryu hb (structural_fold p cfg.opts) (hyp_atomsOKP p cfg ryu)
  refine ⟨fun v h => ?_, fun d h => ?_, fun xs h => ?_⟩
  · obtain ⟨w, rfl, A⟩ := H.1 v h
    exact A.value.strong (text_head_of_leaf p ryu v fun h1 h2 h3 =>
      ((allAtomsOKP_leaf p cfg ryu v h1 h2 h3).1 h).2.2.2.1)
  · obtain ⟨w, rfl, A⟩ := H.1 d h
    exact A.tail
  · obtain ⟨ws, rfl, S⟩ := H.2 xs h
    exact S

/-- a leading `.` of a symbol, or of a keyword written `name:`, must not be followed by NUL, `|`
    or `"` (else `parse_list` takes the dot for the dotted-pair marker) -/
def dotOkP (p : Print.Options) : Value → Bool
  | .symbol n => dotHeadOk n
  | .keyword n => match p.keyword with | .colonPostfix => dotHeadOk (n ++ [58]) | _ => true
  | _ => true

def LeafPlainFor (p : Print.Options) (cfg : Cfg) (v : Value) : Prop :=
  AtomPlainFor p cfg v ∧ dotOkP p v = true

theorem nameShape_dot (cfg : Cfg) : nameShape cfg [46] = false := by
  simp [nameShape, isAsciiAlpha, isSymbolExtended, symTermSlice]

theorem elemHead_name (cfg : Cfg) (b : UInt8) (tl : List UInt8)
    (hshape : nameShape cfg (b :: tl) = true) (hdot : dotHeadOk (b :: tl) = true) :
    ElemHead (b :: tl) := by
  have hnt : symTermSlice b = false := by
    simp only [nameShape, Bool.and_eq_true, List.all_eq_true, Bool.not_eq_true'] at hshape
    exact hshape.1 b (by simp)
  by_cases h46 : b = 46
  · subst h46
    cases tl with
    | nil => rw [nameShape_dot] at hshape; exact Bool.noConfusion hshape
    | cons b' tl' =>
      simp only [dotHeadOk, Bool.and_eq_true, bne_iff_ne, ne_eq, Bool.not_eq_true'] at hdot
      exact ⟨46, b' :: tl', rfl, by decide, by decide, by decide, by decide,
        fun _ => ⟨b', tl', rfl, hdot.1, hdot.2⟩⟩
  · exact head_of_nonterm b tl hnt h46

/-- By kind: the text of every atom starts with a fixed byte or a digit, except names, where
    `nameShape` excludes terminators and `dotHeadOk` the look of a dotted pair. -/
theorem atom_headP (p : Print.Options) (cfg : Cfg) (ryu : Nat → List UInt8) (v : Value)
    (hl : LeafPlainFor p cfg v) : ElemHead (atomTextP p ryu v) := by
  obtain ⟨hpl, hdot⟩ := hl
  obtain ⟨c1, c2, c3, c4, c5, c6, -⟩ := asc_consts
  have hb : ∀ (c : UInt8) (tl : List UInt8),
      (!isTrivia c && c != 59 && c != 41 && c != 93 && c != 46) = true → ElemHead (c :: tl) := by
    intro c tl h
    simp only [Bool.and_eq_true, Bool.not_eq_true', bne_iff_ne, ne_eq] at h
    exact head_of_byte c tl h.1.1.1.1 h.1.1.1.2 h.1.1.2 h.1.2 h.2
  cases v with
  | nil =>
    rw [atomTextP_nil]; unfold nilText boolText
    cases p.nil <;> cases p.bool <;> simp only [c1, c3, c5, c6, Bool.false_eq_true, if_false] <;>
      exact hb _ _ (by decide)
  | null => rw [atomTextP_null]; exact hb _ _ (by decide)
  | bool b =>
    rw [atomTextP_bool]; unfold boolText
    cases p.bool <;> cases b <;> simp only [c1, c2, c4, c5, Bool.false_eq_true, if_false, if_true] <;>
      exact hb _ _ (by decide)
  | number n =>
    cases n with
    | pos n =>
      rw [atomTextP_pos]
      obtain ⟨d, dtl, hd, he⟩ := natDigits_head n
      rw [he]; exact head_of_nonterm _ _ (digit_head d hd).1 (digit_head d hd).2
    | neg i =>
      rw [atomTextP_neg]
      have hi : intDigits i = 45 :: natDigits i.natAbs := by
        have h2 : i < 0 := hpl.2
        simp only [intDigits, h2, if_true]; rfl
      rw [hi]; exact hb _ _ (by decide)
    | flt b => exact absurd hpl id
  | char c =>
    rw [atomTextP_char]; unfold charText
    cases p.char
    · obtain ⟨tl, he⟩ := schemeChar_head c
      simp only [he]; exact hb _ _ (by decide)
    · obtain ⟨tl, he⟩ := elispChar_head c
      simp only [he]; exact hb _ _ (by decide)
  | string b => rw [atomTextP_string]; exact hb _ _ (by decide)
  | symbol n =>
    rw [atomTextP_symbol]
    have hpl' : symbolPlainFor cfg n = true := hpl
    simp only [symbolPlainFor, Bool.and_eq_true] at hpl'
    have hshape := hpl'.1.1.1.1.1
    cases n with
    | nil => simp [nameShape] at hshape
    | cons b tl => exact elemHead_name cfg b tl hshape hdot
  | keyword n =>
    rw [atomTextP_keyword]
    have hpl' : keywordPlainFor p cfg n = true := hpl
    simp only [keywordPlainFor, Bool.and_eq_true] at hpl'
    simp only [dotOkP] at hdot
    cases hk : p.keyword
    · simp only; exact hb _ _ (by decide)
    · simp only [hk] at hpl' hdot ⊢
      simp only [Bool.and_eq_true] at hpl'
      cases n with
      | nil => simp at hpl'
      | cons b tl =>
        show ElemHead (b :: (tl ++ [58]))
        exact elemHead_name cfg b (tl ++ [58]) (by simpa using hpl'.2.1.2) (by simpa using hdot)
    · simp only; exact hb _ _ (by decide)
  | bytes b =>
    rw [atomTextP_bytes]
    cases p.bytes <;> simp only <;> exact hb _ _ (by decide)
  | cons a d => exact absurd hpl id
  | vector xs => exact absurd hpl id

theorem atomOKP_of_leaf_for (p : Print.Options) (cfg : Cfg) (ryu : Nat → List UInt8) (v : Value)
    (hc : CompatibleFor p cfg.opts v) (h3 : v ≠ .null) (hl : LeafPlainFor p cfg v) :
    AtomOKP p cfg ryu v := by
  have h1 : v.isCons = false := by
    cases v <;> first | rfl | exact absurd hl.1 id
  have h2 : v.isVector = false := by
    cases v <;> first | rfl | exact absurd hl.1 id
  refine ⟨h1, h2, h3, atom_headP p cfg ryu v hl, ?_⟩
  intro s rest fuel hf hg hr hfu hd
  obtain ⟨F, rfl⟩ : ∃ F, fuel = F + 2 := ⟨fuel - 2, by omega⟩
  have hdep : v = .null ∨ (v = .nil ∧ p.nil = .emptyList) → 2 ≤ s.depth := by
    rintro (h | ⟨h, hp⟩)
    · exact absurd h h3
    · subst h; simp only [nestingP, hp, if_true] at hd; omega
  obtain ⟨q, hq⟩ := dialectRT_atom cfg p ryu F s rest v hc hl.1 hr hdep hf (fun _ => hg.2)
  exact runs_of_adv _ s _ _ q rest hg hq (by simp [hr])

theorem atomOKP_of_leaf (p : Print.Options) (cfg : Cfg) (ryu : Nat → List UInt8) (v : Value)
    (hc : Compatible p cfg.opts = true) (h3 : v ≠ .null) (hl : LeafPlainFor p cfg v) :
    AtomOKP p cfg ryu v :=
  atomOKP_of_leaf_for p cfg ryu v (compatible_for hc v) h3 hl

mutual
def AllPlainFor (p : Print.Options) (cfg : Cfg) : Value → Prop
  | .cons a d => AllPlainFor p cfg a ∧ AllPlainFor p cfg d
  | .vector xs => AllPlainForSeq p cfg xs
  | .null => True
  | .nil => True
  | .bool _ => True
  | .number n => LeafPlainFor p cfg (.number n)
  | .char c => LeafPlainFor p cfg (.char c)
  | .string x => LeafPlainFor p cfg (.string x)
  | .symbol x => LeafPlainFor p cfg (.symbol x)
  | .keyword x => LeafPlainFor p cfg (.keyword x)
  | .bytes _ => True
def AllPlainForSeq (p : Print.Options) (cfg : Cfg) : List Value → Prop
  | [] => True
  | x :: xs => AllPlainFor p cfg x ∧ AllPlainForSeq p cfg xs
end
/-- `LeafPlainFor` holds of `#nil`, booleans and byte vectors, where `AllPlainFor` says `True` -/
theorem allPlainFor_iff_leaves (p : Print.Options) (cfg : Cfg) :
    (∀ v, AllPlainFor p cfg v ↔ FullRT.AllLeaves (LeafPlainFor p cfg) v) ∧
    (∀ xs, AllPlainForSeq p cfg xs ↔ FullRT.AllLeavesSeq (LeafPlainFor p cfg) xs) :=
  FullRT.allLeaves_of_unfold (fun _ _ => by simp only [AllPlainFor])
    (fun _ => by simp only [AllPlainFor]) (by simp only [AllPlainFor])
    (by simp only [AllPlainForSeq]) (fun _ _ => by simp only [AllPlainForSeq])
    (fun v h1 h2 h3 => by
      cases v <;> simp_all [Value.isCons, Value.isVector, AllPlainFor, LeafPlainFor, AtomPlainFor,
        dotOkP])

theorem allAtomsOKP_of_plain (p : Print.Options) (cfg : Cfg) (ryu : Nat → List UInt8)
    (hc : Compatible p cfg.opts = true) : ∀ v : Value, AllPlainFor p cfg v → AllAtomsOKP p cfg ryu v :=
  (FullRT.allLeaves_imp (allPlainFor_iff_leaves p cfg) (allAtomsOKP_iff_leaves p cfg ryu)
    fun w hw => atomOKP_of_leaf p cfg ryu w hc hw.2.2).1

theorem allAtomsOKSeqP_of_plain (p : Print.Options) (cfg : Cfg) (ryu : Nat → List UInt8)
    (hc : Compatible p cfg.opts = true) :
    ∀ xs : List Value, AllPlainForSeq p cfg xs → AllAtomsOKSeqP p cfg ryu xs :=
  (FullRT.allLeaves_imp (allPlainFor_iff_leaves p cfg) (allAtomsOKP_iff_leaves p cfg ryu)
    fun w hw => atomOKP_of_leaf p cfg ryu w hc hw.2.2).2

theorem compatible_brackets (p : Print.Options) (r : Options) (hc : Compatible p r = true) :
    p.vector = .brackets → r.brackets = .vector := by
  intro hv
  simp only [Compatible, Bool.and_eq_true, Bool.or_eq_true, hv, bne_self_eq_false,
    Bool.false_eq_true, false_or, beq_iff_eq] at hc
  exact hc.1.1.1.2

theorem nestingP_leaf_le (p : Print.Options) (v : Value) (h1 : v.isCons = false)
    (h2 : v.isVector = false) (h3 : v ≠ .null) : nestingP p v ≤ 1 := by
  cases v <;> simp_all [Value.isCons, Value.isVector, nestingP]
  split <;> omega

theorem spec_nestingTail_dotted (d : Value) (h1 : d.isCons = false) :
    Spec.nestingTail d = Spec.nesting d := by
  cases d <;> simp_all [Value.isCons, Spec.nesting, Spec.nestingTail]

theorem nestingP_all_le (p : Print.Options) :
    (∀ v : Value, nestingP p v ≤ Spec.nesting v + 1) ∧
    (∀ v : Value, nestingTailP p v ≤ Spec.nestingTail v + 1) ∧
    (∀ xs : List Value, nestingSeqP p xs ≤ Spec.nestingList xs + 1) := by
  refine value_induction ?_ ?_ ?_ ?_ ?_ ?_ ?_ ?_ ?_
  · intro a d h1 h2; simp only [nestingP, Spec.nesting]; omega
  · intro xs h; simp only [nestingP, Spec.nesting]; omega
  · simp [nestingP]
  · intro v h1 h2 h3; have := nestingP_leaf_le p v h1 h2 h3; omega
  · intro a d h1 h2; simp only [nestingTailP, Spec.nestingTail]; omega
  · simp [nestingTailP]
  · intro d h1 h3 h; rw [nestingTailP_dotted p d h1 h3, spec_nestingTail_dotted d h1]; exact h
  · simp [nestingSeqP]
  · intro x xs h1 h2; simp only [nestingSeqP, Spec.nestingList]; omega

theorem nestingP_le (p : Print.Options) : ∀ v : Value, nestingP p v ≤ Spec.nesting v + 1 :=
  (nestingP_all_le p).1

theorem nestingTailP_le (p : Print.Options) : ∀ v : Value, nestingTailP p v ≤ Spec.nestingTail v + 1 :=
  (nestingP_all_le p).2.1

theorem nestingSeqP_le (p : Print.Options) : ∀ xs : List Value, nestingSeqP p xs ≤ Spec.nestingList xs + 1 :=
  (nestingP_all_le p).2.2

/-- Lists, dotted lists, `()`, vectors written `#(`…`)` or `[`…`]` (read as vectors because
    compatibility demands `brackets = vector`) and any mixture of them, from any non-faulty slice
    state and in any follow context; `AllPlainFor` admits every kind of atom but floats. -/
theorem dialectRT_structure (cfg : Cfg) (p : Print.Options) (ryu : Nat → List UInt8)
    (hc : Compatible p cfg.opts = true) (v : Value) (h : AllPlainFor p cfg v)
    (s : St) (rest : List UInt8) (fuel : Nat) (hf : Follow rest)
    (hm : s.rd.mode = .slice) (hfa : s.rd.faulty = false)
    (hr : s.rd.rest = text p ryu v ++ rest)
    (hfu : fuel ≥ 2 * s.rd.rest.length + 3) (hn : nestingP p v + 1 ≤ s.depth) :
    ∃ s', nextValue cfg fuel s = .ok (some (fold p cfg.opts v)) s' ∧ s'.rd.rest = rest ∧
      s'.rd.mode = .slice ∧ s'.rd.faulty = false ∧ s'.depth = s.depth :=
  ((reads_textP p cfg ryu (compatible_brackets p cfg.opts hc)).1 v
    (allAtomsOKP_of_plain p cfg ryu hc v h)).run [] .nil s rest fuel (.inr hf) hm hfa hr hfu hn

/-- C02: `from_slice_custom(to_string_custom(v, p), r) = Ok(fold p r v)` for every compatible
    pair, every value whose atoms are plain for the pair and whose nesting is at most 127. -/
theorem dialectRT_roundtrip (cfg : Cfg) (p : Print.Options) (ryu : Nat → List UInt8)
    (hc : Compatible p cfg.opts = true) (v : Value) (h : AllPlainFor p cfg v)
    (hn : nestingP p v ≤ 127) :
    ∃ s', fromTrait cfg (initSt .slice (text p ryu v)) = .ok (fold p cfg.opts v) s' ∧
      s'.rd.rest = [] ∧ s'.depth = 128 :=
  ((reads_textP p cfg ryu (compatible_brackets p cfg.opts hc)).1 v
    (allAtomsOKP_of_plain p cfg ryu hc v h)).fromTrait_plain hn

/-- **C02_roundtrip**: the statement announced in `Props/C02.lean`, with `AllPlainFor` as the
    `PlainFor P R` of the property and the nesting measure of `Spec/Dialect.lean` (`()` costs one
    level that `Spec.nesting` does not count, hence `< 127`). -/
theorem C02_roundtrip (cfg : Cfg) (p : Print.Options) (ryu : Nat → List UInt8)
    (hc : Compatible p cfg.opts = true) (v : Value) (h : AllPlainFor p cfg v)
    (hn : Spec.nesting v < 127) :
    ∃ s', fromTrait cfg (initSt .slice (text p ryu v)) = .ok (fold p cfg.opts v) s' ∧
      s'.rd.rest = [] ∧ s'.depth = 128 :=
  dialectRT_roundtrip cfg p ryu hc v h (by have := nestingP_le p v; omega)

/-- Emacs Lisp on both sides: `(setq x [1 "a\"b" ?x :k nil nil t] . "\001")` with `Nil`, `false`
    and `true` atoms and a byte vector; it reads back with `Nil` and `false` folded to the empty
    list and `true` to the symbol `t`. -/
example (ryu : Nat → List UInt8) :
    let v : Value := .cons (.symbol (asc "setq")) (.cons (.symbol (asc "x"))
      (.cons (.vector [.number (.pos 1), .string (asc "a\"b"), .char 120, .keyword (asc "k"),
        .nil, .bool false, .bool true]) (.bytes [1])))
    ∃ s', fromTrait elCfg (initSt .slice (text Print.Options.elisp ryu v)) =
        .ok (fold Print.Options.elisp Options.elisp v) s' ∧ s'.rd.rest = [] ∧ s'.depth = 128 := by
  intro v
  refine dialectRT_roundtrip elCfg Print.Options.elisp ryu (by decide) v ?_ ?_
  · simp only [v, AllPlainFor, AllPlainForSeq, LeafPlainFor, AtomPlainFor, dotOkP]
    decide +kernel
  · simp [v, nestingP, nestingTailP, nestingSeqP, Print.Options.elisp]

/-- A Scheme-like printer with bracket vectors, `name:` keywords, `nil` / `t` symbols and `#vu8`
    byte vectors against a reader with all keyword syntaxes, special `nil`, `t` = true and
    leading-digit symbols: `(a: [1 #vu8(1 2) "s" ?\x3bb] nil t . -5)` followed by `)`. -/
example (ryu : Nat → List UInt8) (s : St) (hm : s.rd.mode = .slice) (hfa : s.rd.faulty = false)
    (hd : 3 ≤ s.depth) :
    let v : Value := .cons (.keyword (asc "a")) (.cons (.vector [.number (.pos 1), .bytes [1, 2],
      .string (asc "s"), .char 955]) (.cons .nil (.cons (.bool true) (.number (.neg (-5))))))
    s.rd.rest = text mixP ryu v ++ asc ")" →
    ∃ s', nextValue mixCfg (2 * s.rd.rest.length + 3) s = .ok (some (fold mixP mixOpts v)) s' ∧
      s'.rd.rest = asc ")" ∧ s'.rd.mode = .slice ∧ s'.rd.faulty = false ∧ s'.depth = s.depth := by
  intro v hr
  refine dialectRT_structure mixCfg mixP ryu (by decide) v ?_ s (asc ")") _ (follow_cons _ _ (by decide))
    hm hfa hr (Nat.le_refl _) ?_
  · simp only [v, AllPlainFor, AllPlainForSeq, LeafPlainFor, AtomPlainFor, dotOkP]
    decide +kernel
  · have : nestingP mixP v = 2 := by
      simp [v, nestingP, nestingTailP, nestingSeqP, mixP]
    omega

#print axioms dialectRT_structure
#print axioms dialectRT_roundtrip
#print axioms C02_roundtrip

end ListRT
end Parse
end Lexpr

namespace Lexpr
namespace FullRT
open Parse Spec

theorem fold_default (r : Options) : ∀ v : Value, fold Print.Options.default r v = v :=
  fold_id _ r rfl rfl (by decide)

theorem foldList_default (r : Options) : ∀ xs : List Value, foldList Print.Options.default r xs = xs :=
  foldList_id _ r rfl rfl (by decide)

end FullRT
end Lexpr


