/-
  Reads — what `next_value`, `parse_list` and `parse_vector` do on a text of known shape, on a
  non-faulty slice source.

  `Reads cfg closed t w n`: `next_value` reads the text `t` as the value `w`, using `n` levels of
  the depth budget (`closed`: the text ends with its own closing delimiter, so anything may follow
  it); `ReadsTail`: the rest of a list up to its closing parenthesis; `ReadsSeq`: the elements of a
  vector up to its closing delimiter.  They speak of texts; the printer's options occur only to
  choose the vector brackets (`vopen`, `vclose`, `Reads.vector`).  The closure lemmas (`Reads.null`,
  `Reads.cons`, `Reads.vector`, `ReadsTail.null` / `cons` / `dotted`, `ReadsSeq.nil` / `cons`) build
  the text of a composite value from the texts of its parts, with an arbitrary trivia string
  (`Triv`: whitespace and complete line comments) at every token boundary; every round-trip theorem
  of the development is an induction over the value that applies them.  `ReadsW` is `Reads` without
  the clause of `ElemHead` on a leading dot, which only a list element needs.

  In the lemmas about single steps a name that ends in `T` (`parseList_closeT`, `list_elem_stepT`,
  `nextValue_skipT`, ...) has an arbitrary trivia string (`Triv`, at the end of the input `TrivEnd`)
  at each token boundary it crosses.  One that ends in `P` is not tied to the default pair of options:
  `endSeq_runsP` is for either closing delimiter, `nextValue_vecOpenP` for the vector brackets of
  any printer options `p`, `nextValue_dotP` and `parseList_dotsymP` for any reader options.

  The `isFollow` / `Follow` of this namespace (`Lexpr.Parse.ListRT`) repeat those of `TokenRT.lean`
  (`follow_iff`), and its `bind_apply` / `pure_apply` those of `Monad.lean`.
-/
import LexprModel.Proofs.TokenRT
import LexprModel.Proofs.Primitives
import LexprModel.Props.C15
namespace Lexpr
namespace Parse
namespace ListRT
open Print

@[simp] theorem bind_apply {α β : Type} (m : P α) (f : α → P β) (s : St) :
    (m >>= f) s = match m s with
      | .ok a s' => f a s'
      | .err e s' => .err e s'
      | .panic p => .panic p
      | .fuel => .fuel := rfl

@[simp] theorem pure_apply {α : Type} (a : α) (s : St) : (pure a : P α) s = .ok a s := rfl

def Good (s : St) : Prop := s.rd.mode = .slice ∧ s.rd.faulty = false

def Runs {α : Type} (m : P α) (s : St) (a : α) (rest : List UInt8) : Prop :=
  ∃ s', m s = .ok a s' ∧ s'.rd.rest = rest ∧ Good s' ∧ s'.depth = s.depth

theorem Good.consume {s : St} (h : Good s) (n : Nat) : Good { s with rd := s.rd.consume n } :=
  ⟨by simp [h.1], by simp [h.2]⟩

theorem runs_of_adv {α : Type} (m : P α) (s : St) (a : α) (n : Nat) (p : Bool) (rest : List UInt8)
    (hg : Good s) (h : m s = .ok a (adv s n p)) (hr : s.rd.rest.drop n = rest) : Runs m s a rest :=
  ⟨adv s n p, h, by simp [hr], ⟨by simp [hg.1], by simp [hg.2]⟩, by simp⟩

theorem peek_good (s : St) (h : Good s) :
    peek s = .ok s.rd.rest.head? s := by
  have he : endPeek s s.rd.rest = false := by
    rw [endPeek, h.1, show (Mode.slice == Mode.io) = false from rfl, Bool.and_false]
  rw [peek_at s _ rfl fun _ => h.2, he, Bool.or_false, adv_zero_self]

/-- Trivia: whitespace bytes (space, tab, CR, LF, form feed) and complete comments `; … LF`. -/
inductive Triv : List UInt8 → Prop where
  | nil : Triv []
  | ws (b : UInt8) (t : List UInt8) : isTrivia b = true → Triv t → Triv (b :: t)
  | comment (body t : List UInt8) : (∀ x ∈ body, x ≠ 10) → Triv t → Triv (59 :: (body ++ 10 :: t))

/-- Trivia at the very end of the input: the last comment may lack its line feed. -/
def TrivEnd (t : List UInt8) : Prop :=
  ∃ w c, Triv w ∧ (c = [] ∨ ∃ body, (∀ x ∈ body, x ≠ 10) ∧ c = 59 :: body) ∧ t = w ++ c

theorem Triv.toEnd {t : List UInt8} (h : Triv t) : TrivEnd t :=
  ⟨t, [], h, Or.inl rfl, by simp⟩

theorem triv_space : Triv [32] := .ws 32 [] (by decide) .nil

theorem Triv.append {a b : List UInt8} (ha : Triv a) (hb : Triv b) : Triv (a ++ b) := by
  induction ha with
  | nil => simpa using hb
  | ws c t hc _ ih => exact .ws c _ hc ih
  | comment body t hbody _ ih =>
    have : 59 :: (body ++ 10 :: t) ++ b = 59 :: (body ++ 10 :: (t ++ b)) := by simp
    rw [this]; exact .comment body _ hbody ih

theorem Triv.length_pos {w : List UInt8} (_ : Triv w) (hne : w ≠ []) : 1 ≤ w.length := by
  cases w with
  | nil => exact absurd rfl hne
  | cons b t => simp

theorem commentLen_open (body : List UInt8) (h : ∀ x ∈ body, x ≠ 10) :
    commentLen body = body.length := by
  induction body with
  | nil => rfl
  | cons b bs ih =>
    have hb : (b == 10) = false := by simpa using h b (by simp)
    simp [commentLen, hb, ih (fun x hx => h x (by simp [hx]))]

theorem commentLen_body (body rest : List UInt8) (h : ∀ x ∈ body, x ≠ 10) :
    commentLen (body ++ 10 :: rest) = body.length + 1 + wsLen rest := by
  induction body with
  | nil => simp [commentLen]; omega
  | cons b bs ih =>
    have hb : (b == 10) = false := by simpa using h b (by simp)
    simp only [List.cons_append, commentLen, hb, Bool.false_eq_true, ↓reduceIte, List.length_cons]
    rw [ih (fun x hx => h x (by simp [hx]))]
    omega

theorem trivia_not_semicolon (b : UInt8) (hb : isTrivia b = true) : (b == 59) = false := by
  cases hc : (b == 59)
  · rfl
  · have : b = 59 := by simpa using hc
    subst this; simp [isTrivia] at hb

theorem wsLen_triv (tr rest : List UInt8) (h : Triv tr) :
    wsLen (tr ++ rest) = tr.length + wsLen rest := by
  induction h with
  | nil => simp
  | ws b t hb _ ih =>
    have hne := trivia_not_semicolon b hb
    simp only [List.cons_append, wsLen, hne, Bool.false_eq_true, ↓reduceIte, hb, List.length_cons]
    omega
  | comment body t hbody _ ih =>
    simp only [List.cons_append, List.append_assoc, wsLen, beq_self_eq_true, ↓reduceIte,
      List.length_cons, List.length_append]
    rw [commentLen_body body (t ++ rest) hbody, ih]
    omega

theorem wsLen_final_comment (body : List UInt8) (h : ∀ x ∈ body, x ≠ 10) :
    wsLen (59 :: body) = body.length + 1 := by
  simp [wsLen, commentLen_open body h]

theorem wsLen_trivEnd (t : List UInt8) (h : TrivEnd t) : wsLen t = t.length := by
  obtain ⟨w, c, hw, hc, rfl⟩ := h
  rw [wsLen_triv w c hw]
  rcases hc with rfl | ⟨body, hb, rfl⟩
  · simp [wsLen]
  · rw [wsLen_final_comment body hb]; simp

theorem parseWhitespace_good (s : St) (h : Good s) :
    parseWhitespace s = .ok (s.rd.rest.drop (wsLen s.rd.rest)).head?
      { s with rd := s.rd.consume (wsLen s.rd.rest) } := by
  show peek { s with rd := s.rd.consume (wsLen s.rd.rest) } = _
  rw [peek_good _ (h.consume _)]
  simp

theorem ws_runs (s : St) (h : Good s) :
    Runs parseWhitespace s (s.rd.rest.drop (wsLen s.rd.rest)).head?
      (s.rd.rest.drop (wsLen s.rd.rest)) :=
  ⟨_, parseWhitespace_good s h, by simp, h.consume _, rfl⟩

theorem ws_triv (s : St) (h : Good s) (w : List UInt8) (hw : Triv w) (c : UInt8) (tl : List UInt8)
    (hr : s.rd.rest = w ++ c :: tl) (h1 : isTrivia c = false) (h2 : (c == 59) = false) :
    Runs parseWhitespace s (some c) (c :: tl) := by
  have := ws_runs s h
  rw [hr, wsLen_triv w (c :: tl) hw,
    wsLen_nontrivia c tl h1 (beq_eq_false_iff_ne.mp h2)] at this
  simpa using this

theorem ws_start (s : St) (h : Good s) (c : UInt8) (tl : List UInt8) (hr : s.rd.rest = c :: tl)
    (h1 : isTrivia c = false) (h2 : (c == 59) = false) :
    Runs parseWhitespace s (some c) (c :: tl) :=
  ws_triv s h [] .nil c tl hr h1 h2

theorem ws_trivEnd (s : St) (h : Good s) (hr : TrivEnd s.rd.rest) :
    Runs parseWhitespace s none [] := by
  have := ws_runs s h
  rw [wsLen_trivEnd _ hr] at this
  simpa using this

/-- bytes that end every token -/
def isFollow (b : UInt8) : Bool :=
  b == 32 || b == 10 || b == 9 || b == 13 || b == 12 || b == 40 || b == 41 || b == 91 || b == 93 ||
  b == 59

/-- what may come after a printed value: the end of the input or a byte that ends every token -/
def Follow (rest : List UInt8) : Prop := rest = [] ∨ ∃ b tl, rest = b :: tl ∧ isFollow b = true

theorem follow_iff (rest : List UInt8) : ListRT.Follow rest ↔ Parse.Follow rest := Iff.rfl

theorem follow_cons (b : UInt8) (tl : List UInt8) (h : isFollow b = true) : Follow (b :: tl) :=
  Or.inr ⟨b, tl, rfl, h⟩

theorem follow_of_open {rest : List UInt8} (h : false = true ∨ Follow rest) : Follow rest :=
  h.resolve_left Bool.false_ne_true

/-- The first byte of the text of a list element lets the loops of `parse_list` / `parse_vector`
    hand it to `next_value`: it is not trivia, not `;`, not a closing delimiter, and a leading `.`
    is followed (inside the text) by a byte that is not a delimiter (else `parse_list` reads a
    dotted tail).  -/
def ElemHead (t : List UInt8) : Prop :=
  ∃ c tl, t = c :: tl ∧ isTrivia c = false ∧ c ≠ 59 ∧ c ≠ 41 ∧ c ≠ 93 ∧
    (c = 46 → ∃ b tl', tl = b :: tl' ∧ b ≠ 0 ∧ isDelimiter b = false)

theorem ElemHead.append {t : List UInt8} (h : ElemHead t) (rest : List UInt8) :
    ElemHead (t ++ rest) := by
  obtain ⟨c, tl, ht, h1, h2, h3, h4, h5⟩ := h
  refine ⟨c, tl ++ rest, by simp [ht], h1, h2, h3, h4, ?_⟩
  intro hc
  obtain ⟨b, tl', htl, hb⟩ := h5 hc
  exact ⟨b, tl' ++ rest, by simp [htl], hb⟩

theorem ElemHead.first {t : List UInt8} (h : ElemHead t) :
    ∃ c tl, t = c :: tl ∧ isTrivia c = false ∧ c ≠ 59 ∧ c ≠ 41 ∧ c ≠ 93 := by
  obtain ⟨c, tl, ht, h1, h2, h3, h4, -⟩ := h
  exact ⟨c, tl, ht, h1, h2, h3, h4⟩

theorem head_of_byte (c : UInt8) (tl : List UInt8) (h1 : isTrivia c = false) (h2 : c ≠ 59)
    (h3 : c ≠ 41) (h4 : c ≠ 93) (h5 : c ≠ 46) : ElemHead (c :: tl) :=
  ⟨c, tl, rfl, h1, h2, h3, h4, fun h => absurd h h5⟩

theorem Triv.head {w : List UInt8} (h : Triv w) (hne : w ≠ []) :
    ∃ b tl, w = b :: tl ∧ (isTrivia b = true ∨ b = 59) := by
  cases h with
  | nil => exact absurd rfl hne
  | ws b t hb _ => exact ⟨b, t, rfl, Or.inl hb⟩
  | comment body t _ _ => exact ⟨59, _, rfl, Or.inr rfl⟩

theorem trivia_byte_facts (b : UInt8) (h : isTrivia b = true ∨ b = 59) :
    isFollow b = true ∧ isDelimiter b = true ∧ symTermSlice b = true ∧ symTermIo b = true := by
  rcases h with h | h
  · simp only [isTrivia, Bool.or_eq_true, beq_iff_eq] at h
    rcases h with (((h | h) | h) | h) | h <;> subst h <;> decide
  · subst h; decide

theorem Triv.follow {w : List UInt8} (h : Triv w) (hne : w ≠ []) (rest : List UInt8) :
    Follow (w ++ rest) := by
  obtain ⟨b, tl, rfl, hb⟩ := h.head hne
  exact follow_cons b (tl ++ rest) (trivia_byte_facts b hb).1

theorem Triv.follow' {w : List UInt8} (h : Triv w) (rest : List UInt8) (hf : Follow rest) :
    Follow (w ++ rest) := by
  by_cases hne : w = []
  · subst hne; simpa using hf
  · exact h.follow hne rest

theorem TrivEnd.follow {w : List UInt8} (h : TrivEnd w) : Follow w := by
  obtain ⟨w, c, hw, hc, rfl⟩ := h
  refine hw.follow' c ?_
  rcases hc with rfl | ⟨body, _, rfl⟩
  · exact Or.inl rfl
  · exact follow_cons 59 body (by decide)

def vclose (p : Print.Options) : UInt8 :=
  match p.vector with | .brackets => 93 | .octothorpe => 41

def vopen (p : Print.Options) : List UInt8 :=
  match p.vector with | .brackets => [91] | .octothorpe => [35, 40]

theorem vclose_cases (p : Print.Options) : vclose p = 41 ∨ vclose p = 93 := by
  unfold vclose; cases p.vector <;> simp

theorem close_facts (t : UInt8) (ht : t = 41 ∨ t = 93) :
    isTrivia t = false ∧ (t == 59) = false ∧ (t == 41 || t == 93) = true ∧ isFollow t = true := by
  rcases ht with rfl | rfl <;> decide

theorem vopen_head (p : Print.Options) (tl : List UInt8) : ElemHead (vopen p ++ tl) := by
  unfold vopen
  cases p.vector
  · exact head_of_byte _ _ (by decide) (by decide) (by decide) (by decide) (by decide)
  · exact head_of_byte _ _ (by decide) (by decide) (by decide) (by decide) (by decide)

theorem vopen_length (p : Print.Options) : 1 ≤ (vopen p).length := by
  unfold vopen; cases p.vector <;> simp

theorem discard_runs (s : St) (h : Good s) (b : UInt8) (tl : List UInt8) (hr : s.rd.rest = b :: tl) :
    Runs discard s () tl :=
  ⟨{ s with rd := s.rd.consume 1 }, by simp [discard, hr], by simp [hr], h.consume 1, rfl⟩

theorem next_runs (s : St) (h : Good s) (b : UInt8) (tl : List UInt8) (hr : s.rd.rest = b :: tl) :
    Runs next s (some b) tl :=
  ⟨{ s with rd := s.rd.consume 1 }, by simp [next, hr], by simp [hr], h.consume 1, rfl⟩

theorem peekOrNull_runs (s : St) (h : Good s) (b : UInt8) (tl : List UInt8) (hr : s.rd.rest = b :: tl) :
    Runs peekOrNull s b (b :: tl) :=
  ⟨s, by simp [peekOrNull, peek_good s h, hr], hr, h, rfl⟩

/-- a row of the table `fixedTok` (`fixedTok_reads`: `(`, `[`, `#(`, the quotation marks, `#t`, …)
    on a non-faulty slice -/
theorem fixedTok_runs (cfg : Cfg) (tf : Nat) (s : St) (h : Good s) (pre : List UInt8) {t : Token}
    (tl : List UInt8) (hm : (pre, t) ∈ fixedTok cfg.opts) (hne : pre ≠ [44])
    (hr : s.rd.rest = pre ++ tl) : Runs (parseToken cfg tf (pre.headD 0)) s t tl :=
  runs_of_adv _ s t pre.length false tl h (fixedTok_reads cfg tf s pre tl hm hne hr) (by simp [hr])

theorem parseToken_lparen (cfg : Cfg) (tf : Nat) (s : St) (h : Good s) (tl : List UInt8)
    (hr : s.rd.rest = 40 :: tl) : Runs (parseToken cfg tf 40) s (.listOpen 41) tl :=
  fixedTok_runs cfg tf s h [40] tl (fixedTok_mem 0 rfl) (by decide) hr

theorem endSeq_runsP (t : UInt8) (ht : t = 41 ∨ t = 93) (s : St) (h : Good s) (rest : List UInt8)
    (hr : s.rd.rest = t :: rest) : Runs (endSeq t) s () rest := by
  obtain ⟨c1, c2, -, -⟩ := close_facts t ht
  obtain ⟨s1, e1, r1, g1, d1⟩ := ws_start s h t rest hr c1 c2
  obtain ⟨s2, e2, r2, g2, d2⟩ := discard_runs s1 g1 t rest r1
  refine ⟨s2, ?_, r2, g2, d2.trans d1⟩
  simp [endSeq, e1, e2]

/-- `next_value` at a token that is a value by itself; `htok`: `parse_token` is called as
    `next_value` calls it, with the first byte of the text and fuel `unread length + 1` -/
theorem nextValue_of_parseToken (cfg : Cfg) (f : Nat) (s : St) (c : UInt8) (tl rest : List UInt8)
    (v : Value) (tok : Token) (hat : tok.atom = some v) (h : Good s)
    (hr : s.rd.rest = c :: tl ++ rest) (h1 : isTrivia c = false) (h2 : c ≠ 59)
    (htok : ∀ s1, Good s1 → s1.rd.rest = c :: tl ++ rest →
      Runs (parseToken cfg (s1.rd.rest.length + 1) c) s1 tok rest) :
    Runs (nextValue cfg (f + 1)) s (some v) rest := by
  obtain ⟨s1, e1, r1, g1, d1⟩ := ws_start s h c (tl ++ rest) hr h1 (by simp [h2])
  obtain ⟨s2, e2, r2, g2, d2⟩ := htok s1 g1 r1
  refine ⟨s2, ?_, r2, g2, by omega⟩
  rw [nextValue]
  simp only [bind_apply, e1, tokenFuel, e2]
  cases tok <;> simp only [Token.atom, reduceCtorEq, Option.some.injEq] at hat <;> (subst hat; rfl)

theorem nextValue_listOpen (cfg : Cfg) (f : Nat) (s : St) (tl rest : List UInt8) (v : Value)
    (h : Good s) (hr : s.rd.rest = 40 :: tl) (hd : 2 ≤ s.depth)
    (hin : ∀ s1, Good s1 → s1.rd.rest = tl → s1.depth + 1 = s.depth →
      Runs (parseList cfg f 41 []) s1 v (41 :: rest)) :
    Runs (nextValue cfg (f + 1)) s (some v) rest := by
  obtain ⟨s1, e1, r1, g1, d1⟩ := ws_start s h 40 tl hr (by decide) (by decide)
  obtain ⟨s2, e2, r2, g2, d2⟩ := parseToken_lparen cfg (s1.rd.rest.length + 1) s1 g1 tl r1
  have hd2 : 2 ≤ s2.depth := by omega
  obtain ⟨s4, e4, r4, g4, d4⟩ := hin { s2 with depth := s2.depth - 1 } g2 r2 (by simp; omega)
  have g5 : Good { s4 with depth := s4.depth + 1 } := g4
  obtain ⟨s6, e6, r6, g6, d6⟩ := endSeq_runsP 41 (.inl rfl) { s4 with depth := s4.depth + 1 } g5 rest r4
  refine ⟨s6, ?_, r6, g6, ?_⟩
  · simp [nextValue, e1, tokenFuel, e2, enter_of_le hd2, attempt, e4, leave, e6]
  · simp at d4 d6; omega

theorem nextValue_vecOpenTok (cfg : Cfg) (f : Nat) (s : St) (c close : UInt8)
    (tl0 tl rest : List UInt8) (xs : List Value) (hclose : close = 41 ∨ close = 93)
    (h : Good s) (hr : s.rd.rest = c :: tl0) (h1 : isTrivia c = false) (h2 : (c == 59) = false)
    (htok : ∀ s1, Good s1 → s1.rd.rest = c :: tl0 →
      Runs (parseToken cfg (s1.rd.rest.length + 1) c) s1 (.vecOpen close) tl)
    (hd : 2 ≤ s.depth)
    (hin : ∀ s1, Good s1 → s1.rd.rest = tl → s1.depth + 1 = s.depth →
      Runs (parseVector cfg f close []) s1 xs (close :: rest)) :
    Runs (nextValue cfg (f + 1)) s (some (.vector xs)) rest := by
  obtain ⟨s1, e1, r1, g1, d1⟩ := ws_start s h c tl0 hr h1 h2
  obtain ⟨s2, e2, r2, g2, d2⟩ := htok s1 g1 r1
  have hd2 : 2 ≤ s2.depth := by omega
  obtain ⟨s4, e4, r4, g4, d4⟩ := hin { s2 with depth := s2.depth - 1 } g2 r2 (by simp; omega)
  have g5 : Good { s4 with depth := s4.depth + 1 } := g4
  obtain ⟨s6, e6, r6, g6, d6⟩ := endSeq_runsP close hclose { s4 with depth := s4.depth + 1 } g5 rest r4
  refine ⟨s6, ?_, r6, g6, ?_⟩
  · simp [nextValue, e1, tokenFuel, e2, enter_of_le hd2, attempt, e4, leave, e6]
  · simp at d4 d6; omega

theorem nextValue_vecOpenP (cfg : Cfg) (p : Print.Options) (f : Nat) (s : St)
    (tl rest : List UInt8) (xs : List Value)
    (hb : p.vector = .brackets → cfg.opts.brackets = .vector)
    (h : Good s) (hr : s.rd.rest = vopen p ++ tl) (hd : 2 ≤ s.depth)
    (hin : ∀ s1, Good s1 → s1.rd.rest = tl → s1.depth + 1 = s.depth →
      Runs (parseVector cfg f (vclose p) []) s1 xs (vclose p :: rest)) :
    Runs (nextValue cfg (f + 1)) s (some (.vector xs)) rest := by
  unfold vopen at hr
  unfold vclose at hin
  cases hv : p.vector <;> simp only [hv] at hr hin
  · exact nextValue_vecOpenTok cfg f s 35 41 _ tl rest xs (.inl rfl) h hr (by decide) (by decide)
      (fun s1 g1 r1 => fixedTok_runs cfg _ s1 g1 [35, 40] tl (fixedTok_mem 8 rfl) (by decide) r1)
      hd hin
  · have hbr : bracketTok cfg.opts.brackets = .vecOpen 93 := by rw [hb hv]; rfl
    exact nextValue_vecOpenTok cfg f s 91 93 _ tl rest xs (.inr rfl) h hr (by decide) (by decide)
      (fun s1 g1 r1 => hbr ▸ fixedTok_runs cfg _ s1 g1 [91] tl (fixedTok_mem 1 rfl) (by decide) r1)
      hd hin

theorem parseList_closeT (cfg : Cfg) (f : Nat) (s : St) (acc : List Value) (w rest : List UInt8)
    (h : Good s) (hw : Triv w) (hr : s.rd.rest = w ++ 41 :: rest) :
    Runs (parseList cfg (f + 1) 41 acc) s (Value.list acc) (41 :: rest) := by
  obtain ⟨s1, e1, r1, g1, d1⟩ := ws_triv s h w hw 41 rest hr (by decide) (by decide)
  refine ⟨s1, ?_, r1, g1, d1⟩
  simp [parseList, e1]

theorem parseList_elem (cfg : Cfg) (f : Nat) (s : St) (acc : List Value) (c : UInt8)
    (tl rest' rest'' : List UInt8) (a w : Value)
    (hws : Runs parseWhitespace s (some c) (c :: tl))
    (hc1 : c ≠ 41) (hc2 : c ≠ 93) (hc3 : c ≠ 46)
    (hv : ∀ s1, Good s1 → s1.rd.rest = c :: tl → s1.depth = s.depth →
      Runs (nextValue cfg f) s1 (some a) rest')
    (hk : ∀ s2, Good s2 → s2.rd.rest = rest' → s2.depth = s.depth →
      Runs (parseList cfg f 41 (acc ++ [a])) s2 w rest'') :
    Runs (parseList cfg (f + 1) 41 acc) s w rest'' := by
  obtain ⟨s1, e1, r1, g1, d1⟩ := hws
  obtain ⟨s2, e2, r2, g2, d2⟩ := hv s1 g1 r1 d1
  obtain ⟨s3, e3, r3, g3, d3⟩ := hk s2 g2 r2 (d2.trans d1)
  refine ⟨s3, ?_, r3, g3, by omega⟩
  simp [parseList, e1, hc1, hc2, hc3, e2, e3]

/-- `next_value` on a name that starts with `.` (symbols such as `...` or `.foo`): the computation
    `parse_list` performs inline. -/
theorem nextValue_dotP (cfg : Cfg) (f : Nat) (s : St) (h : Good s)
    (tl : List UInt8) (hr : s.rd.rest = 46 :: tl) :
    nextValue cfg (f + 1) s =
      match parseSymbolBytes [46] { s with rd := s.rd.consume 1 } with
      | .ok name s' => .ok (some (symbolValue cfg.opts name)) s'
      | .err e s' => .err e s'
      | .panic p => .panic p
      | .fuel => .fuel := by
  have hw := parseWhitespace_good s h
  rw [hr, wsLen_nontrivia 46 tl (by decide) (by decide)] at hw
  simp only [List.drop_zero, List.head?_cons] at hw
  -- the symbol scanner started at the dot goes on as the one started behind it with `.` in hand
  have hdot : parseSymbolBytes [] { s with rd := s.rd.consume 0 } =
      parseSymbolBytes [46] { s with rd := s.rd.consume 1 } := by
    have hs : symTerm Mode.slice 46 = false := by decide
    simp [parseSymbolBytes, getRest, getMode, consumeN, hr, h.1, symLen, hs,
      Rd.consume_consume, Nat.zero_add, Nat.add_comm 1]
  rw [← hdot]
  simp only [nextValue, bind_apply, hw, tokenFuel]
  simp [parseToken, isDigit, isAsciiAlpha, isSymbolExtended]
  cases parseSymbolBytes [] { s with rd := s.rd.consume 0 } with
  | ok name s' =>
    rcases symbolToken_cases cfg.opts name with hc | hc <;> simp [symbolValue, hc, Token.atom]
  | err e s' => simp
  | panic p => simp
  | fuel => simp

/-- one round of the list loop on a symbol that starts with `.` followed by a non-delimiter: the
    inline code of `parse_list` does what `next_value` would do -/
theorem parseList_dotsymP (cfg : Cfg) (f : Nat) (s : St)
    (acc : List Value) (b : UInt8) (tl rest' rest'' : List UInt8) (a w : Value)
    (hws : Runs parseWhitespace s (some 46) (46 :: b :: tl))
    (hb0 : b ≠ 0) (hbd : isDelimiter b = false)
    (hv : ∀ s1, Good s1 → s1.rd.rest = 46 :: b :: tl → s1.depth = s.depth →
      Runs (nextValue cfg (f + 1)) s1 (some a) rest')
    (hk : ∀ s2, Good s2 → s2.rd.rest = rest' → s2.depth = s.depth →
      Runs (parseList cfg (f + 1) 41 (acc ++ [a])) s2 w rest'') :
    Runs (parseList cfg (f + 2) 41 acc) s w rest'' := by
  obtain ⟨s1, e1, r1, g1, d1⟩ := hws
  obtain ⟨s2, e2, r2, g2, d2⟩ := hv s1 g1 r1 d1
  obtain ⟨s3, e3, r3, g3, d3⟩ := hk s2 g2 r2 (d2.trans d1)
  refine ⟨s3, ?_, r3, g3, by omega⟩
  rw [nextValue_dotP cfg f s1 g1 _ r1] at e2
  have eD : discard s1 = .ok () { s1 with rd := s1.rd.consume 1 } := by simp [discard, r1]
  have eP : peekOrNull { s1 with rd := s1.rd.consume 1 } = .ok b { s1 with rd := s1.rd.consume 1 } := by
    simp [peekOrNull, peek_good _ (g1.consume 1), r1]
  cases hp : parseSymbolBytes [46] { s1 with rd := s1.rd.consume 1 } with
  | ok name s' =>
    rw [hp] at e2
    simp only [Res.ok.injEq, Option.some.injEq] at e2
    obtain ⟨ea, es⟩ := e2
    subst es
    rw [parseList]
    simp [e1, eD, eP, hb0, hbd, hp, ea, e3]
  | err e s' => rw [hp] at e2; simp at e2
  | panic p => rw [hp] at e2; simp at e2
  | fuel => rw [hp] at e2; simp at e2

theorem list_elem_stepT (cfg : Cfg) (F : Nat) (s : St)
    (acc : List Value) (a w : Value) (pre t rest' rest'' : List UInt8)
    (h : Good s) (hpre : Triv pre) (hr : s.rd.rest = pre ++ (t ++ rest'))
    (hhead : ElemHead t)
    (hv : ∀ s1, Good s1 → s1.rd.rest = t ++ rest' → s1.depth = s.depth →
      Runs (nextValue cfg (F + 1)) s1 (some a) rest')
    (hk : ∀ s2, Good s2 → s2.rd.rest = rest' → s2.depth = s.depth →
      Runs (parseList cfg (F + 1) 41 (acc ++ [a])) s2 w rest'') :
    Runs (parseList cfg (F + 2) 41 acc) s w rest'' := by
  obtain ⟨c, tl, ht, h1, h2, h3, h4, h5⟩ := hhead.append rest'
  rw [ht] at hr hv
  have hws : Runs parseWhitespace s (some c) (c :: tl) :=
    ws_triv s h pre hpre c tl hr h1 (by simp [h2])
  by_cases hc : c = 46
  · subst hc
    obtain ⟨b, tl', rfl, hb0, hbd⟩ := h5 rfl
    exact parseList_dotsymP cfg F s acc b tl' rest' rest'' a w hws hb0 hbd hv hk
  · exact parseList_elem cfg (F + 1) s acc c tl rest' rest'' a w hws h3 h4 hc hv hk

theorem parseList_dottedT (cfg : Cfg) (f : Nat) (s : St) (acc : List Value)
    (w1 w2 w3 tl rest : List UInt8) (d : Value) (h : Good s)
    (hw1 : Triv w1) (hw2 : Triv w2) (hne2 : w2 ≠ []) (hw3 : Triv w3)
    (hr : s.rd.rest = w1 ++ 46 :: (w2 ++ tl)) (hacc : acc ≠ [])
    (hv : ∀ s1, Good s1 → s1.rd.rest = w2 ++ tl → s1.depth = s.depth →
      Runs (nextValue cfg f) s1 (some d) (w3 ++ 41 :: rest)) :
    Runs (parseList cfg (f + 1) 41 acc) s (Value.append acc d) (41 :: rest) := by
  obtain ⟨b, w2', rfl, hb⟩ := hw2.head hne2
  obtain ⟨s1, e1, r1, g1, d1⟩ := ws_triv s h w1 hw1 46 _ hr (by decide) (by decide)
  obtain ⟨s2, e2, r2, g2, d2⟩ := discard_runs s1 g1 46 _ r1
  obtain ⟨s3, e3, r3, g3, d3⟩ := peekOrNull_runs s2 g2 b _ (by simpa using r2)
  obtain ⟨s4, e4, r4, g4, d4⟩ := hv s3 g3 (by simpa using r3) (by omega)
  obtain ⟨s5, e5, r5, g5, d5⟩ := ws_triv s4 g4 w3 hw3 41 rest r4 (by decide) (by decide)
  refine ⟨s5, ?_, r5, g5, by omega⟩
  have hacc' : acc.isEmpty = false := by cases acc <;> simp_all
  have hdel : isDelimiter b = true := (trivia_byte_facts b hb).2.1
  simp [parseList, e1, e2, e3, hdel, hacc', e4, e5]

theorem parseVector_closeT (cfg : Cfg) (t : UInt8) (ht : t = 41 ∨ t = 93) (f : Nat) (s : St)
    (acc : List Value) (w rest : List UInt8) (h : Good s) (hw : Triv w)
    (hr : s.rd.rest = w ++ t :: rest) :
    Runs (parseVector cfg (f + 1) t acc) s acc (t :: rest) := by
  obtain ⟨c1, c2, -, -⟩ := close_facts t ht
  obtain ⟨s1, e1, r1, g1, d1⟩ := ws_triv s h w hw t rest hr c1 c2
  refine ⟨s1, ?_, r1, g1, d1⟩
  simp [parseVector, e1, ht]

/-- only the first byte of the element matters: `parse_vector` knows no dotted tail -/
theorem vec_elem_stepT (cfg : Cfg) (t : UInt8) (F : Nat) (s : St)
    (acc : List Value) (a : Value) (w : List Value) (pre tx rest' rest'' : List UInt8)
    (h : Good s) (hpre : Triv pre) (hr : s.rd.rest = pre ++ (tx ++ rest'))
    (hhead : ∃ c tl, tx = c :: tl ∧ isTrivia c = false ∧ c ≠ 59 ∧ c ≠ 41 ∧ c ≠ 93)
    (hv : ∀ s1, Good s1 → s1.rd.rest = tx ++ rest' → s1.depth = s.depth →
      Runs (nextValue cfg F) s1 (some a) rest')
    (hk : ∀ s2, Good s2 → s2.rd.rest = rest' → s2.depth = s.depth →
      Runs (parseVector cfg F t (acc ++ [a])) s2 w rest'') :
    Runs (parseVector cfg (F + 1) t acc) s w rest'' := by
  obtain ⟨c, tl, rfl, h1, h2, h3, h4⟩ := hhead
  obtain ⟨s1, e1, r1, g1, d1⟩ := ws_triv s h pre hpre c (tl ++ rest') hr h1 (by simp [h2])
  obtain ⟨s2, e2, r2, g2, d2⟩ := hv s1 g1 r1 d1
  obtain ⟨s3, e3, r3, g3, d3⟩ := hk s2 g2 r2 (d2.trans d1)
  refine ⟨s3, ?_, r3, g3, by omega⟩
  simp [parseVector, e1, h3, h4, e2, e3]

theorem nextValue_skipT (cfg : Cfg) (s : St) (h : Good s) (w : List UInt8) (hw : Triv w)
    (c : UInt8) (tl : List UInt8)
    (hr : s.rd.rest = w ++ c :: tl) (h1 : isTrivia c = false) (h2 : (c == 59) = false) :
    ∃ s1, Good s1 ∧ s1.rd.rest = c :: tl ∧ s1.depth = s.depth ∧
      ∀ f, nextValue cfg f s = nextValue cfg f s1 := by
  refine ⟨{ s with rd := s.rd.consume w.length }, h.consume _, by simp [hr], rfl, ?_⟩
  intro f
  cases f with
  | zero => simp [nextValue, outOfFuel]
  | succ f =>
    have hw : parseWhitespace s = parseWhitespace { s with rd := s.rd.consume w.length } := by
      show peek { s with rd := s.rd.consume (wsLen s.rd.rest) } =
        peek { s with rd := (s.rd.consume w.length).consume (wsLen (s.rd.consume w.length).rest) }
      have h0 := wsLen_nontrivia c tl h1 (beq_eq_false_iff_ne.mp h2)
      rw [hr, wsLen_triv w (c :: tl) hw, h0]
      simp only [Rd.consume_rest, hr, List.drop_left', h0, Rd.consume_consume]
    simp only [nextValue, bind_apply, hw]

theorem expectEnd_runsT (s : St) (h : Good s) (hr : TrivEnd s.rd.rest) :
    Runs expectEnd s () [] := by
  obtain ⟨s1, e1, r1, g1, d1⟩ := ws_trivEnd s h hr
  exact ⟨s1, by simp [expectEnd, e1], r1, g1, d1⟩

/-- `from_trait`: `next_value` with the public fuel, then only final trivia -/
theorem fromTrait_of_nextValueT (cfg : Cfg) (s : St) (v : Value) (w : List UInt8) (hw : TrivEnd w)
    (hv : Runs (nextValue cfg (2 * s.rd.rest.length + 4)) s (some v) w) :
    Runs (fromTrait cfg) s v [] := by
  obtain ⟨s1, e1, r1, g1, d1⟩ := hv
  obtain ⟨s2, e2, r2, g2, d2⟩ := expectEnd_runsT s1 g1 (by rw [r1]; exact hw)
  refine ⟨s2, ?_, r2, g2, by omega⟩
  simp [fromTrait, expectValue, nextValueTop, apiFuel, e1, e2]

/-- `next_value` reads the text `t`, whatever admissible input follows it, as `w`, with `n` lists or
    vectors open at the deepest point.  What may follow: any `rest` if `closed` (the text ends with
    its own closing delimiter), else a follow context.  The first byte of `t` is one the element
    loops hand to `next_value`.  The fuel bound is the one the public entry points meet (`apiFuel`
    is `2 * length + 4`): an opening delimiter costs two units, one for `next_value` and one for
    the first round of the loop, every element one more round. -/
def Reads (cfg : Cfg) (closed : Bool) (t : List UInt8) (w : Value) (n : Nat) : Prop :=
  ElemHead t ∧
  ∀ (s : St) (rest : List UInt8) (fuel : Nat), closed = true ∨ Follow rest → Good s →
    s.rd.rest = t ++ rest → fuel ≥ 2 * s.rd.rest.length + 3 → n + 1 ≤ s.depth →
    Runs (nextValue cfg fuel) s (some w) rest

/-- `Reads` with only the first-byte part of `ElemHead`.  The vector loop, the dotted tail and the
    top level hand a text to `next_value` whatever its second byte is; only a list element must
    not look like the dot of a dotted pair (`Reads.cons`, `ReadsTail.cons`). -/
def ReadsW (cfg : Cfg) (closed : Bool) (t : List UInt8) (w : Value) (n : Nat) : Prop :=
  (∃ c tl, t = c :: tl ∧ isTrivia c = false ∧ c ≠ 59 ∧ c ≠ 41 ∧ c ≠ 93) ∧
  ∀ (s : St) (rest : List UInt8) (fuel : Nat), closed = true ∨ Follow rest → Good s →
    s.rd.rest = t ++ rest → fuel ≥ 2 * s.rd.rest.length + 3 → n + 1 ≤ s.depth →
    Runs (nextValue cfg fuel) s (some w) rest

theorem Reads.weak {cfg : Cfg} {c : Bool} {t : List UInt8} {w : Value} {n : Nat}
    (h : Reads cfg c t w n) : ReadsW cfg c t w n := ⟨h.1.first, h.2⟩

theorem ReadsW.strong {cfg : Cfg} {c : Bool} {t : List UInt8} {w : Value} {n : Nat}
    (h : ReadsW cfg c t w n) (hh : ElemHead t) : Reads cfg c t w n := ⟨hh, h.2⟩

/-- the list loop, after at least one element, reads `t` followed by `)` as the rest `d` of the
    cdr chain (stopping in front of the parenthesis); `t` in front of `)` is a follow context -/
def ReadsTail (cfg : Cfg) (t : List UInt8) (d : Value) (n : Nat) : Prop :=
  (∀ rest, Follow (t ++ 41 :: rest)) ∧
  ∀ (s : St) (rest : List UInt8) (fuel : Nat) (acc : List Value), acc ≠ [] → Good s →
    s.rd.rest = t ++ 41 :: rest → fuel ≥ 2 * s.rd.rest.length + 3 → n + 1 ≤ s.depth →
    Runs (parseList cfg fuel 41 acc) s (Value.append acc d) (41 :: rest)

/-- the vector loop reads `t` followed by the closing delimiter as the elements `xs` (stopping in
    front of the delimiter); `first`: no separator is required before the next element.  Behind
    an element, `t` in front of the delimiter is a follow context. -/
def ReadsSeq (cfg : Cfg) (close : UInt8) (first : Bool) (t : List UInt8) (xs : List Value)
    (n : Nat) : Prop :=
  (first = false → ∀ rest, Follow (t ++ close :: rest)) ∧
  ∀ (s : St) (rest : List UInt8) (fuel : Nat) (acc : List Value), Good s →
    s.rd.rest = t ++ close :: rest →
    fuel ≥ 2 * s.rd.rest.length + (if first then 4 else 3) → n + 1 ≤ s.depth →
    Runs (parseVector cfg fuel close acc) s (acc ++ xs) (close :: rest)

/-- ` . tx` with trivia: non-empty trivia, `.`, non-empty trivia, the text `tx` of the tail,
    trivia (possibly empty) before the closing parenthesis -/
def DotShape (tx t : List UInt8) : Prop :=
  ∃ w1 w2 w3, Triv w1 ∧ w1 ≠ [] ∧ Triv w2 ∧ w2 ≠ [] ∧ Triv w3 ∧ t = w1 ++ 46 :: (w2 ++ (tx ++ w3))

theorem Reads.toOpen {cfg : Cfg} {c : Bool} {t : List UInt8} {w : Value} {n : Nat}
    (h : Reads cfg c t w n) : Reads cfg false t w n :=
  ⟨h.1, fun s rest fuel hf => h.2 s rest fuel (.inr (follow_of_open hf))⟩

end ListRT
namespace Concat

/-- Does the text of `v` end with its own closing delimiter (so that anything may follow)?
    True for pairs, vectors and the empty list. -/
def closes : Value → Bool
  | .cons _ _ => true
  | .vector _ => true
  | .null => true
  | _ => false

end Concat
namespace ListRT

theorem closes_leaf (v : Value) (h1 : v.isCons = false) (h2 : v.isVector = false) (h3 : v ≠ .null) :
    Concat.closes v = false := by
  cases v <;> simp_all [Value.isCons, Value.isVector, Concat.closes]

theorem dotShape_plain (tx : List UInt8) : DotShape tx (32 :: 46 :: 32 :: tx) :=
  ⟨[32], [32], [], triv_space, by simp, triv_space, by simp, .nil, by simp⟩

theorem ReadsW.lead {cfg : Cfg} {closed : Bool} {t : List UInt8} {v : Value} {n : Nat}
    (h : ReadsW cfg closed t v n) (w : List UInt8) (hw : Triv w) (s : St) (rest : List UInt8)
    (fuel : Nat) (hf : closed = true ∨ Follow rest) (hg : Good s)
    (hr : s.rd.rest = w ++ (t ++ rest)) (hfu : fuel ≥ 2 * s.rd.rest.length + 3)
    (hd : n + 1 ≤ s.depth) : Runs (nextValue cfg fuel) s (some v) rest := by
  obtain ⟨c, tl, hct, hc1, hc2, -, -⟩ := h.1
  have hlen := congrArg List.length hr
  simp only [List.length_append] at hlen
  obtain ⟨s1, g1, r1, d1, heq⟩ := nextValue_skipT cfg s hg w hw c (tl ++ rest)
    (by rw [hr, hct]; simp) hc1 (by simp [hc2])
  have hr1 : s1.rd.rest = t ++ rest := by rw [r1, hct]; simp
  obtain ⟨s2, e2, r2, g2, d2⟩ := h.2 s1 rest fuel hf g1 hr1
    (by rw [hr1]; simp only [List.length_append]; omega) (by omega)
  exact ⟨s2, (heq fuel).trans e2, r2, g2, by omega⟩

/-- the same with the components of `Good` and `Runs` spelt out -/
theorem ReadsW.run {cfg : Cfg} {closed : Bool} {t : List UInt8} {v : Value} {n : Nat}
    (h : ReadsW cfg closed t v n) (w : List UInt8) (hw : Triv w) (s : St) (rest : List UInt8)
    (fuel : Nat) (hf : closed = true ∨ Follow rest) (hm : s.rd.mode = .slice)
    (hfa : s.rd.faulty = false) (hr : s.rd.rest = w ++ (t ++ rest))
    (hfu : fuel ≥ 2 * s.rd.rest.length + 3) (hd : n + 1 ≤ s.depth) :
    ∃ s', nextValue cfg fuel s = .ok (some v) s' ∧ s'.rd.rest = rest ∧ s'.rd.mode = .slice ∧
      s'.rd.faulty = false ∧ s'.depth = s.depth := by
  obtain ⟨s', e, r, ⟨gm, gf⟩, d⟩ := h.lead w hw s rest fuel hf ⟨hm, hfa⟩ hr hfu hd
  exact ⟨s', e, r, gm, gf, d⟩

/-- `from_slice` on leading trivia, the text, final trivia: the parser starts with a depth budget
    of 128 and passes `2 * length + 4` as fuel -/
theorem ReadsW.fromTrait {cfg : Cfg} {closed : Bool} {t : List UInt8} {v : Value} {n : Nat}
    (h : ReadsW cfg closed t v n) (hn : n ≤ 127) (w0 w1 : List UInt8) (hw0 : Triv w0)
    (hw1 : TrivEnd w1) :
    ∃ s', Parse.fromTrait cfg (initSt .slice (w0 ++ (t ++ w1))) = .ok v s' ∧
      s'.rd.rest = [] ∧ s'.depth = 128 := by
  have hv := h.lead w0 hw0 (initSt .slice (w0 ++ (t ++ w1))) w1
    (2 * (initSt .slice (w0 ++ (t ++ w1))).rd.rest.length + 4) (.inr hw1.follow) ⟨rfl, rfl⟩ rfl
    (by omega) (by show n + 1 ≤ 128; omega)
  obtain ⟨s', e, r, _, d⟩ := fromTrait_of_nextValueT cfg _ _ w1 hw1 hv
  exact ⟨s', e, r, d⟩

theorem ReadsW.fromTrait_plain {cfg : Cfg} {closed : Bool} {t : List UInt8} {v : Value} {n : Nat}
    (h : ReadsW cfg closed t v n) (hn : n ≤ 127) :
    ∃ s', Parse.fromTrait cfg (initSt .slice t) = .ok v s' ∧ s'.rd.rest = [] ∧ s'.depth = 128 := by
  simpa using h.fromTrait hn [] [] .nil Triv.nil.toEnd

namespace Reads

theorem null (cfg : Cfg) {w : List UInt8} (hw : Triv w) :
    Reads cfg true (40 :: (w ++ [41])) .null 1 := by
  refine ⟨head_of_byte _ _ (by decide) (by decide) (by decide) (by decide) (by decide), ?_⟩
  intro s rest fuel _ hg hr hfu hd
  have hr' : s.rd.rest = 40 :: (w ++ 41 :: rest) := by simpa using hr
  obtain ⟨F, rfl⟩ : ∃ F, fuel = F + 2 := ⟨fuel - 2, by omega⟩
  refine nextValue_listOpen cfg (F + 1) s _ rest .null hg hr' (by omega) ?_
  intro s1 g1 r1 _
  exact parseList_closeT cfg F s1 [] w rest g1 hw r1

theorem cons {cfg : Cfg} {ca : Bool} {w ta td : List UInt8} {a d : Value} {na nd : Nat}
    (hw : Triv w) (hA : Reads cfg ca ta a na) (hD : ReadsTail cfg td d nd) :
    Reads cfg true (40 :: (w ++ (ta ++ (td ++ [41])))) (.cons a d) (1 + max na nd) := by
  refine ⟨head_of_byte _ _ (by decide) (by decide) (by decide) (by decide) (by decide), ?_⟩
  intro s rest fuel _ hg hr hfu hd
  have hr' : s.rd.rest = 40 :: (w ++ (ta ++ (td ++ 41 :: rest))) := by simpa using hr
  have hlen := congrArg List.length hr'
  simp only [List.length_cons, List.length_append] at hlen
  obtain ⟨F, rfl⟩ : ∃ F, fuel = F + 3 := ⟨fuel - 3, by omega⟩
  refine nextValue_listOpen cfg (F + 2) s _ rest _ hg hr' (by omega) ?_
  intro s1 g1 r1 d1
  refine list_elem_stepT cfg F s1 [] a _ w ta (td ++ 41 :: rest) (41 :: rest) g1 hw r1 hA.1 ?_ ?_
  · intro s2 g2 r2 d2
    refine hA.2 s2 _ (F + 1) (.inr (hD.1 rest)) g2 r2 ?_ (by omega)
    rw [r2]; simp only [List.length_cons, List.length_append]; omega
  · intro s3 g3 r3 d3
    exact hD.2 s3 rest (F + 1) [a] (by simp) g3 r3
      (by rw [r3]; simp only [List.length_cons, List.length_append]; omega) (by omega)

theorem vector {cfg : Cfg} (p : Print.Options)
    (hb : p.vector = .brackets → cfg.opts.brackets = .vector) {ts : List UInt8}
    {xs : List Value} {n : Nat} (hS : ReadsSeq cfg (vclose p) true ts xs n) :
    Reads cfg true (vopen p ++ (ts ++ [vclose p])) (.vector xs) (1 + n) := by
  refine ⟨vopen_head p _, ?_⟩
  intro s rest fuel _ hg hr hfu hd
  have hr' : s.rd.rest = vopen p ++ (ts ++ vclose p :: rest) := by simpa using hr
  have hlen := congrArg List.length hr'
  simp only [List.length_cons, List.length_append] at hlen
  have hvo := vopen_length p
  obtain ⟨F, rfl⟩ : ∃ F, fuel = F + 1 := ⟨fuel - 1, by omega⟩
  refine nextValue_vecOpenP cfg p F s _ rest _ hb hg hr' (by omega) ?_
  intro s1 g1 r1 d1
  have := hS.2 s1 rest F [] g1 r1
    (by rw [r1]; simp only [List.length_cons, List.length_append, if_true]; omega) (by omega)
  simpa using this

theorem run {cfg : Cfg} {closed : Bool} {t : List UInt8} {v : Value} {n : Nat}
    (h : Reads cfg closed t v n) (w : List UInt8) (hw : Triv w) (s : St) (rest : List UInt8)
    (fuel : Nat) (hf : closed = true ∨ Follow rest) (hm : s.rd.mode = .slice)
    (hfa : s.rd.faulty = false) (hr : s.rd.rest = w ++ (t ++ rest))
    (hfu : fuel ≥ 2 * s.rd.rest.length + 3) (hd : n + 1 ≤ s.depth) :
    ∃ s', nextValue cfg fuel s = .ok (some v) s' ∧ s'.rd.rest = rest ∧ s'.rd.mode = .slice ∧
      s'.rd.faulty = false ∧ s'.depth = s.depth :=
  h.weak.run w hw s rest fuel hf hm hfa hr hfu hd

theorem fromTrait {cfg : Cfg} {closed : Bool} {t : List UInt8} {v : Value} {n : Nat}
    (h : Reads cfg closed t v n) (hn : n ≤ 127) (w0 w1 : List UInt8) (hw0 : Triv w0)
    (hw1 : TrivEnd w1) :
    ∃ s', Parse.fromTrait cfg (initSt .slice (w0 ++ (t ++ w1))) = .ok v s' ∧
      s'.rd.rest = [] ∧ s'.depth = 128 :=
  h.weak.fromTrait hn w0 w1 hw0 hw1

theorem fromTrait_plain {cfg : Cfg} {closed : Bool} {t : List UInt8} {v : Value} {n : Nat}
    (h : Reads cfg closed t v n) (hn : n ≤ 127) :
    ∃ s', Parse.fromTrait cfg (initSt .slice t) = .ok v s' ∧ s'.rd.rest = [] ∧ s'.depth = 128 :=
  h.weak.fromTrait_plain hn

end Reads

namespace ReadsTail

theorem null (cfg : Cfg) {t : List UInt8} (ht : Triv t) : ReadsTail cfg t .null 0 := by
  refine ⟨fun rest => ht.follow' _ (follow_cons _ _ (by decide)), ?_⟩
  intro s rest fuel acc _ hg hr hfu hd
  obtain ⟨F, rfl⟩ : ∃ F, fuel = F + 1 := ⟨fuel - 1, by omega⟩
  exact parseList_closeT cfg F s acc t rest hg ht hr

theorem cons {cfg : Cfg} {ca : Bool} {w ta td : List UInt8} {a d : Value} {na nd : Nat}
    (hw : Triv w) (hne : w ≠ []) (hA : Reads cfg ca ta a na) (hD : ReadsTail cfg td d nd) :
    ReadsTail cfg (w ++ (ta ++ td)) (.cons a d) (max na nd) := by
  refine ⟨fun rest => by simpa using hw.follow hne (ta ++ td ++ 41 :: rest), ?_⟩
  intro s rest fuel acc _ hg hr hfu hd
  have hr' : s.rd.rest = w ++ (ta ++ (td ++ 41 :: rest)) := by simpa using hr
  have hwl := hw.length_pos hne
  have hlen := congrArg List.length hr'
  simp only [List.length_cons, List.length_append] at hlen
  obtain ⟨F, rfl⟩ : ∃ F, fuel = F + 2 := ⟨fuel - 2, by omega⟩
  refine list_elem_stepT cfg F s acc a _ w ta (td ++ 41 :: rest) (41 :: rest) hg hw hr' hA.1 ?_ ?_
  · intro s2 g2 r2 d2
    refine hA.2 s2 _ (F + 1) (.inr (hD.1 rest)) g2 r2 ?_ (by omega)
    rw [r2]; simp only [List.length_cons, List.length_append]; omega
  · intro s3 g3 r3 d3
    have := hD.2 s3 rest (F + 1) (acc ++ [a]) (by simp) g3 r3
      (by rw [r3]; simp only [List.length_cons, List.length_append]; omega) (by omega)
    rwa [← Value.C15_append_merge acc [a] d] at this

theorem dottedW {cfg : Cfg} {c : Bool} {tx t : List UInt8} {d : Value} {n : Nat}
    (hs : DotShape tx t) (hD : ReadsW cfg c tx d n) : ReadsTail cfg t d n := by
  obtain ⟨w1, w2, w3, hw1, hne1, hw2, hne2, hw3, rfl⟩ := hs
  refine ⟨fun rest => by simpa using hw1.follow hne1 (46 :: (w2 ++ (tx ++ w3)) ++ 41 :: rest), ?_⟩
  intro s rest fuel acc hacc hg hr hfu hd
  obtain ⟨b, tl, hc, hc1, hc2, -, -⟩ := hD.1
  have hr' : s.rd.rest = w1 ++ 46 :: (w2 ++ (tx ++ (w3 ++ 41 :: rest))) := by simpa using hr
  have hl1 := hw1.length_pos hne1
  have hlen := congrArg List.length hr'
  simp only [List.length_cons, List.length_append] at hlen
  obtain ⟨F, rfl⟩ : ∃ F, fuel = F + 1 := ⟨fuel - 1, by omega⟩
  refine parseList_dottedT cfg F s acc w1 w2 w3 (tx ++ (w3 ++ 41 :: rest)) rest d hg hw1 hw2 hne2 hw3
    hr' hacc ?_
  intro s1 g1 r1 d1
  obtain ⟨s2, g2, r2, d2, heq⟩ := nextValue_skipT cfg s1 g1 w2 hw2 b (tl ++ (w3 ++ 41 :: rest))
    (by rw [r1, hc]; simp) hc1 (by simp [hc2])
  have r2' : s2.rd.rest = tx ++ (w3 ++ 41 :: rest) := by rw [r2, hc]; simp
  obtain ⟨s3, e3, r3, g3, d3⟩ := hD.2 s2 (w3 ++ 41 :: rest) F
    (.inr (hw3.follow' _ (follow_cons _ _ (by decide)))) g2 r2'
    (by rw [r2']; simp only [List.length_cons, List.length_append]; omega) (by omega)
  exact ⟨s3, (heq F).trans e3, r3, g3, by omega⟩

theorem dotted {cfg : Cfg} {c : Bool} {tx t : List UInt8} {d : Value} {n : Nat}
    (hs : DotShape tx t) (hD : Reads cfg c tx d n) : ReadsTail cfg t d n :=
  dottedW hs hD.weak

end ReadsTail

namespace ReadsSeq

theorem nil (cfg : Cfg) {close : UInt8} (hc : close = 41 ∨ close = 93) (first : Bool)
    {t : List UInt8} (ht : Triv t) : ReadsSeq cfg close first t [] 0 := by
  refine ⟨fun _ rest => ht.follow' _ (follow_cons _ _ (close_facts _ hc).2.2.2), ?_⟩
  intro s rest fuel acc hg hr hfu hd
  obtain ⟨F, rfl⟩ : ∃ F, fuel = F + 1 := ⟨fuel - 1, by cases first <;> simp at hfu <;> omega⟩
  simpa using parseVector_closeT cfg close hc F s acc t rest hg ht hr

theorem consW {cfg : Cfg} {close : UInt8} {cx : Bool} {first : Bool} {w tx ts : List UInt8}
    {x : Value} {xs : List Value} {nx n : Nat} (hw : Triv w) (hne : first = false → w ≠ [])
    (hX : ReadsW cfg cx tx x nx) (hS : ReadsSeq cfg close false ts xs n) :
    ReadsSeq cfg close first (w ++ (tx ++ ts)) (x :: xs) (max nx n) := by
  refine ⟨fun hf rest => by simpa using hw.follow (hne hf) (tx ++ ts ++ close :: rest), ?_⟩
  intro s rest fuel acc hg hr hfu hd
  have hr' : s.rd.rest = w ++ (tx ++ (ts ++ close :: rest)) := by simpa using hr
  have hlen := congrArg List.length hr'
  simp only [List.length_cons, List.length_append] at hlen
  have hwl : first = false → 1 ≤ w.length := fun hf => hw.length_pos (hne hf)
  -- with `first` the fuel is one more than elsewhere, without it the separator is not empty
  have hF : fuel - 1 ≥ 2 * (tx ++ (ts ++ close :: rest)).length + 3 := by
    simp only [List.length_cons, List.length_append]
    cases first
    · have := hwl rfl; simp at hfu; omega
    · simp only [if_true] at hfu; omega
  obtain ⟨F, rfl⟩ : ∃ F, fuel = F + 1 := ⟨fuel - 1, by cases first <;> simp at hfu <;> omega⟩
  simp only [Nat.add_sub_cancel] at hF
  refine vec_elem_stepT cfg close F s acc x _ w tx (ts ++ close :: rest) (close :: rest) hg hw hr'
    hX.1 ?_ ?_
  · intro s2 g2 r2 d2
    exact hX.2 s2 _ F (.inr (hS.1 rfl rest)) g2 r2 (by rw [r2]; exact hF) (by omega)
  · intro s3 g3 r3 d3
    have := hS.2 s3 rest F (acc ++ [x]) g3 r3
      (by
        rw [r3]
        simp only [List.length_cons, List.length_append] at hF ⊢
        simp; omega) (by omega)
    simpa using this

theorem cons {cfg : Cfg} {close : UInt8} {cx : Bool} {first : Bool} {w tx ts : List UInt8}
    {x : Value} {xs : List Value} {nx n : Nat} (hw : Triv w) (hne : first = false → w ≠ [])
    (hX : Reads cfg cx tx x nx) (hS : ReadsSeq cfg close false ts xs n) :
    ReadsSeq cfg close first (w ++ (tx ++ ts)) (x :: xs) (max nx n) :=
  consW hw hne hX.weak hS

end ReadsSeq

end ListRT
end Parse
end Lexpr
