/-
  C03 — safety of the parser model: no `Res.panic` site is reachable from the public entry points
  (`next_value`, `next_datum`, `expect_*`, `from_trait`, iterators, any call history), and the depth
  budget is restored after every call.

  `Safe prog s Q`: running `prog` from `s` does not panic, leaves `remaining_depth` unchanged, does
  not grow the input, and establishes `Q` on success.  For every function it is read off the
  function's statement in RunLexer.lean / RunParser.lean (`Run.safe`), which says under which
  condition the function can panic.  `Safe.outOfFuel`, the `get*_safe` lemmas and `Safe.bracket`
  say what `Safe` is on the primitives and on the `enter … leave` bracket.
-/
import LexprModel.Proofs.StepOp
import LexprModel.Proofs.RunParser
-- the post-conditions in the statements name their bound variables (`fun a s' => …`) also where
-- they do not use them
set_option linter.unusedVariables false

namespace Lexpr

namespace Parse

/-- Frame: what every parser action preserves. -/
def Fr (s s' : St) : Prop := s'.depth = s.depth ∧ s'.rd.rest.length ≤ s.rd.rest.length

theorem Fr.refl (s : St) : Fr s s := ⟨rfl, Nat.le_refl _⟩
theorem Fr.trans {a b c : St} (h1 : Fr a b) (h2 : Fr b c) : Fr a c :=
  ⟨h2.1.trans h1.1, Nat.le_trans h2.2 h1.2⟩

def Safe (m : P α) (s : St) (Q : α → St → Prop) : Prop :=
  match m s with
  | .ok a s' => Fr s s' ∧ Q a s'
  | .err _ s' => Fr s s'
  | .panic _ => False
  | .fuel => True

theorem Safe.iff_tri {m : P α} {s : St} {Q : α → St → Prop} :
    Safe m s Q ↔ (m s).Tri (fun a s' => Fr s s' ∧ Q a s') (fun _ s' => Fr s s') False True :=
  Iff.rfl

theorem Safe.mono {m : P α} {s : St} {Q1 Q2 : α → St → Prop}
    (h1 : Safe m s Q1) (h2 : ∀ a s', Fr s s' → Q1 a s' → Q2 a s') : Safe m s Q2 :=
  (Safe.iff_tri.1 h1).imp (fun a s' h => ⟨h.1, h2 a s' h.1 h.2⟩) (fun _ _ h => h) id id

theorem Safe.outOfFuel {s : St} {Q : α → St → Prop} : Safe (outOfFuel : P α) s Q := by
  simp [Safe, Parse.outOfFuel]
theorem outOfFuel_safe {s : St} {Q : α → St → Prop} : Safe (outOfFuel : P α) s Q := Safe.outOfFuel

theorem getRest_safe (s : St) : Safe getRest s (fun a s' => s' = s ∧ a = s.rd.rest) := by
  simp [Safe, getRest, Fr.refl]
theorem getMode_safe (s : St) : Safe getMode s (fun a s' => s' = s) := by
  simp [Safe, getMode, Fr.refl]
theorem getPos_safe (s : St) : Safe getPos s (fun a s' => s' = s) := by
  simp [Safe, getPos, Fr.refl]
theorem tokenFuel_safe (s : St) : Safe tokenFuel s (fun a s' => s' = s) := by
  simp [Safe, tokenFuel, Fr.refl]
theorem apiFuel_safe (s : St) : Safe apiFuel s (fun a s' => s' = s) := by
  simp [Safe, apiFuel, Fr.refl]

/-- The `enter; attempt m; leave; k` bracket of the recursive arms: `m` runs one level down, `k`
    in a state framed by `s` again. -/
theorem Safe.bracket {m : P α} {k : Except Err α → P β} {s : St} {Q : β → St → Prop}
    (hd : 1 ≤ s.depth)
    (hm : ∀ s1 : St, s1.rd = s.rd → s1.rd.rest.length = s.rd.rest.length → s1.depth + 1 = s.depth →
      1 ≤ s1.depth → Safe m s1 (fun _ _ => True))
    (hk : ∀ r s2, Fr s s2 → Safe (k r) s2 Q) :
    Safe (enter >>= fun _ => attempt m >>= fun r => leave >>= fun _ => k r) s Q := by
  show Safe (P.bind enter fun _ => P.bind (attempt m) fun r => P.bind leave fun _ => k r) s Q
  by_cases h1 : s.depth - 1 = 0
  · have : s.depth ≠ 0 := by omega
    simp [Safe, P.bind, enter, this, h1, Fr.refl]
  · have h0 : s.depth ≠ 0 := by omega
    have hm' := hm { s with depth := s.depth - 1 } rfl rfl (by simp; omega) (by simp; omega)
    unfold Safe at hm' ⊢
    simp only [P.bind, enter, h0, h1, beq_iff_eq, if_false, attempt, leave]
    have fin : ∀ (r : Except Err α) (s1 : St), Fr { s with depth := s.depth - 1 } s1 →
        match k r { s1 with depth := s1.depth + 1 } with
        | .ok a s' => Fr s s' ∧ Q a s'
        | .err _ s' => Fr s s'
        | .panic _ => False
        | .fuel => True := by
      intro r s1 hfr1
      have hfr : Fr s { s1 with depth := s1.depth + 1 } := by
        obtain ⟨h1, h2⟩ := hfr1
        constructor <;> simp at * <;> omega
      have := hk r _ hfr
      unfold Safe at this
      cases hk2 : k r { s1 with depth := s1.depth + 1 } with
      | ok b s' => rw [hk2] at this; exact ⟨hfr.trans this.1, this.2⟩
      | err e s' => rw [hk2] at this; exact hfr.trans this
      | panic p => rw [hk2] at this; exact this
      | fuel => trivial
    cases hr : m { s with depth := s.depth - 1 } with
    | ok a s1 => rw [hr] at hm'; exact fin (.ok a) s1 hm'.1
    | err e s1 => rw [hr] at hm'; exact fin (.error e) s1 hm'
    | panic p => rw [hr] at hm'; exact hm'
    | fuel => trivial

theorem Adv.fr {s s' : St} (h : Adv s s') : Fr s s' := ⟨h.depth, h.length_le⟩

/-- `Safe` forgets the byte counts and the errors, and wants the panic condition refuted. -/
theorem Run.safe {m : P α} {lv : Lv} {s : St} {ko : α → Nat} {ke : Err → Nat}
    {Q : α → St → Prop} {N F : Prop} (h : Run m lv s s ko ke Q N F) (hN : ¬N) : Safe m s Q :=
  Res.Tri.imp h (fun _ _ h => ⟨h.1.adv.fr, h.2⟩) (fun _ _ h => h.1.adv.fr) hN (fun _ => trivial)

theorem Run.safeT {m : P α} {lv : Lv} {s : St} {ko : α → Nat} {ke : Err → Nat}
    {Q : α → St → Prop} {N F : Prop} (h : Run m lv s s ko ke Q N F) (hN : ¬N) :
    Safe m s (fun _ _ => True) :=
  (h.safe hN).mono fun _ _ _ _ => trivial

theorem nextOrNull_safe (s : St) : Safe nextOrNull s (fun _ _ => True) := nextOrNull_run.safe id

/-- `parse_long_integer` counts the digits it skips in an `i32`, one per byte consumed, so the
    counter stays below `i32::MAX` while fewer than `i32::MAX - 1` bytes are left: that is the
    length hypothesis of the statements below, and its only use. -/
theorem short_of_lt {n : Nat} (h : n < 2147483646) : n + 1 < i32Max := Nat.succ_lt_succ h

open Value

theorem nextValue_shallow (cfg : Cfg) (f : Nat) (s : St) (hd : 1 ≤ s.depth)
    (hs : s.rd.rest.length + 1 < i32Max) :
    Safe (nextValue cfg f) s (fun r _ => ∀ v, r = some v → v.vdepth < s.depth) :=
  ((nextValue_run cfg f).safe (by omega)).mono fun _ _ _ h v hv =>
    Nat.max_eq_left hd ▸ h.2 v hv

theorem nextValue_safe (cfg : Cfg) (f : Nat) (s : St) (hd : 1 ≤ s.depth)
    (hs : s.rd.rest.length + 1 < i32Max) : Safe (nextValue cfg f) s (fun _ _ => True) :=
  (nextValue_shallow cfg f s hd hs).mono fun _ _ _ _ => trivial

theorem nextDatum_safe (cfg : Cfg) (f : Nat) (s : St) (hd : 1 ≤ s.depth)
    (hs : s.rd.rest.length + 1 < i32Max) : Safe (nextDatum cfg f) s (fun _ _ => True) :=
  (nextDatum_run cfg f).safeT (by omega)

theorem nextValueTop_safe (cfg : Cfg) (s : St) (hd : 1 ≤ s.depth)
    (hs : s.rd.rest.length + 1 < i32Max) : Safe (nextValueTop cfg) s (fun _ _ => True) :=
  nextValueTop_run.safeT (by omega)

theorem nextDatumTop_safe (cfg : Cfg) (s : St) (hd : 1 ≤ s.depth)
    (hs : s.rd.rest.length + 1 < i32Max) : Safe (nextDatumTop cfg) s (fun _ _ => True) :=
  nextDatumTop_run.safeT (by omega)

theorem expectValue_shallow (cfg : Cfg) (s : St) (hd : 1 ≤ s.depth)
    (hs : s.rd.rest.length + 1 < i32Max) :
    Safe (expectValue cfg) s (fun v _ => v.vdepth < s.depth) :=
  (expectValue_run.safe (by omega)).mono fun _ _ _ h => Nat.max_eq_left hd ▸ h

theorem expectValue_safe (cfg : Cfg) (s : St) (hd : 1 ≤ s.depth)
    (hs : s.rd.rest.length + 1 < i32Max) : Safe (expectValue cfg) s (fun _ _ => True) :=
  (expectValue_shallow cfg s hd hs).mono fun _ _ _ _ => trivial

theorem expectDatum_safe (cfg : Cfg) (s : St) (hd : 1 ≤ s.depth)
    (hs : s.rd.rest.length + 1 < i32Max) : Safe (expectDatum cfg) s (fun _ _ => True) :=
  expectDatum_run.safeT (by omega)

theorem expectEnd_safe (s : St) : Safe expectEnd s (fun _ _ => True) := expectEnd_run.safe id

theorem fromTrait_shallow (cfg : Cfg) (s : St) (hd : 1 ≤ s.depth)
    (hs : s.rd.rest.length + 1 < i32Max) :
    Safe (fromTrait cfg) s (fun v _ => v.vdepth < s.depth) :=
  (fromTrait_run.safe (by omega)).mono fun _ _ _ h => Nat.max_eq_left hd ▸ h

theorem fromTrait_safe (cfg : Cfg) (s : St) (hd : 1 ≤ s.depth)
    (hs : s.rd.rest.length + 1 < i32Max) : Safe (fromTrait cfg) s (fun _ _ => True) :=
  (fromTrait_shallow cfg s hd hs).mono fun _ _ _ _ => trivial

theorem fromTraitDatum_safe (cfg : Cfg) (s : St) (hd : 1 ≤ s.depth)
    (hs : s.rd.rest.length + 1 < i32Max) : Safe (fromTraitDatum cfg) s (fun _ _ => True) :=
  fromTraitDatum_run.safeT (by omega)

theorem Safe.no_panic {m : P α} {s : St} {Q : α → St → Prop} (h : Safe m s Q) (p : Site) :
    m s ≠ .panic p :=
  (Safe.iff_tri.1 h).panic

theorem Safe.frame_ok {m : P α} {s s' : St} {a : α} {Q : α → St → Prop} (h : Safe m s Q)
    (hr : m s = .ok a s') : Fr s s' :=
  ((Safe.iff_tri.1 h).ok hr).1

theorem Safe.frame_err {m : P α} {s s' : St} {e : Err} {Q : α → St → Prop} (h : Safe m s Q)
    (hr : m s = .err e s') : Fr s s' :=
  (Safe.iff_tri.1 h).err hr

theorem Safe.frame {m : P α} {s s' : St} {a : α} {e : Err} {Q : α → St → Prop} (h : Safe m s Q)
    (hr : m s = .ok a s' ∨ m s = .err e s') : Fr s s' :=
  hr.elim h.frame_ok h.frame_err

theorem Safe.post_ok {m : P α} {s s' : St} {a : α} {Q : α → St → Prop} (h : Safe m s Q)
    (hr : m s = .ok a s') : Q a s' :=
  ((Safe.iff_tri.1 h).ok hr).2

/-- `wholeNumber` (the sub-parser of the leading-digit path) maps every non-`ok` result of its
    inner run to `none`; that does not hide a panic: the inner run cannot panic. -/
theorem wholeNumber_inner_no_panic (cfg : Cfg) (sym : List UInt8) (h : sym.length < 2147483646) :
    ∀ p, parseNumLiteral cfg (sym.length + 1) 10 true { rd := { mode := .slice, rest := sym } } ≠
      .panic p :=
  parseNumLiteral_run.no_panic (by have := short_of_lt h; simp only [i32Max] at *; omega)

/-- the `match` with which `C03_no_panic_history` and `C03_no_panic_iterate` are stated, under a
    name -/
def Item.NoPanic : Item → Prop
  | .panic _ => False
  | _ => True

/-- Parser-state invariant between public calls: budget not exhausted, input short enough. -/
def Inv (s : St) : Prop := 1 ≤ s.depth ∧ s.rd.rest.length + 1 < i32Max

theorem Inv.of_frame {s s' : St} (h : Inv s) (hf : Fr s s') : Inv s' := by
  obtain ⟨h1, h2⟩ := h; obtain ⟨f1, f2⟩ := hf
  constructor <;> omega

theorem Safe.keeps {m : P α} {s : St} {Q : α → St → Prop} (hm : Safe m s Q) (h : Inv s) :
    (m s).Keeps Inv Item.NoPanic := by
  cases hr : m s with
  | ok a s' => exact h.of_frame (hm.frame_ok hr)
  | err e s' => exact ⟨h.of_frame (hm.frame_err hr), trivial⟩
  | panic p => exact absurd hr (hm.no_panic p)
  | fuel => trivial

theorem stepOp_safe (cfg : Cfg) : StepKeeps cfg Inv Item.NoPanic :=
  .of_run (fun _ => trivial) (fun _ => trivial) trivial trivial fun op =>
    Op.run_forall (C := fun m => ∀ s, Inv s → (m s).Keeps Inv Item.NoPanic)
      (fun s h => (nextValueTop_safe cfg s h.1 h.2).keeps h)
      (fun s h => (nextDatumTop_safe cfg s h.1 h.2).keeps h)
      (fun s h => (expectValue_safe cfg s h.1 h.2).keeps h)
      (fun s h => (expectDatum_safe cfg s h.1 h.2).keeps h)
      (fun s h => (expectEnd_safe s).keeps h) op

theorem runHistory_safe (cfg : Cfg) (ops : List Op) (s : St) (h : Inv s) :
    ∀ it ∈ runHistory cfg ops s, it.NoPanic :=
  runHistory_forall (stepOp_safe cfg) ops s h

theorem iterate_safe (cfg : Cfg) (op : Op) (cap : Nat) (s : St) (h : Inv s) :
    ∀ it ∈ iterate cfg op cap s, it.NoPanic :=
  fun it hit => runHistory_safe cfg _ s h it (iterate_subset cfg op cap s it hit)

/-- A configuration for the examples (the two tables are irrelevant for safety). -/
def exCfg : Cfg := { opts := Options.default, isAlphabetic := fun _ => false, pow10 := fun _ => 0 }

/-- `(a #(1) . "x")` -/
def exBytes : List UInt8 := [40, 97, 32, 35, 40, 49, 41, 32, 46, 32, 34, 120, 34, 41]

/-- outcome of a run, for the examples: `some (succeeded, remaining depth)` -/
def Res.outcome : Res α → Option (Bool × Nat)
  | .ok _ s => some (true, s.depth)
  | .err _ s => some (false, s.depth)
  | _ => none

/-- error code of a run, for the examples -/
def Res.errCode : Res α → Option Code
  | .err (.syntax c _ _) _ => some c
  | _ => none

/-- nesting depth of the value a run produced, for the examples -/
def Res.valueDepth : Res (Option Value) → Option Nat
  | .ok (some v) _ => some v.vdepth
  | _ => none

/-- `n` opening parentheses, `mid`, `n` closing parentheses -/
def nested (n : Nat) (mid : List UInt8) : List UInt8 :=
  List.replicate n 40 ++ mid ++ List.replicate n 41

/-- **C03 (value)**: `next_value` never reaches a panic site (depth underflow, `discard` at end of
    input, exponent overflow, `unreachable!`) when at least one level of depth budget is left and
    the input is shorter than `i32::MAX - 1` bytes; for every fuel and every configuration. -/
theorem C03_no_panic_value (cfg : Cfg) (fuel : Nat) (s : St) (hd : 1 ≤ s.depth)
    (hlen : s.rd.rest.length < 2147483646) : ∀ p, nextValue cfg fuel s ≠ .panic p :=
  (nextValue_safe cfg fuel s hd (short_of_lt hlen)).no_panic

example : ∀ p, nextValue exCfg 40 (initSt .io exBytes true) ≠ .panic p :=
  C03_no_panic_value _ _ _ (by decide) (by decide)

/-- The depth hypothesis of `C03_no_panic_value` is needed: with no budget left the `u8`
    decrement underflows. -/
example : nextValue exCfg 2 { initSt .str [40] with depth := 0 } = .panic .depthUnderflow := by
  rfl

/-- the example input is accepted, so the instance above is not vacuous -/
example : (nextValue exCfg 40 (initSt .io exBytes true)).outcome = some (true, 128) := by
  decide +kernel

/-- **C03 (datum)**: the same for `next_datum`. -/
theorem C03_no_panic_datum (cfg : Cfg) (fuel : Nat) (s : St) (hd : 1 ≤ s.depth)
    (hlen : s.rd.rest.length < 2147483646) : ∀ p, nextDatum cfg fuel s ≠ .panic p :=
  (nextDatum_safe cfg fuel s hd (short_of_lt hlen)).no_panic

example : ∀ p, nextDatum exCfg 40 (initSt .slice exBytes) ≠ .panic p :=
  C03_no_panic_datum _ _ _ (by decide) (by decide)

/-- **C03 (`expect_end`)**: no hypothesis at all is needed. -/
theorem C03_no_panic_expectEnd (s : St) : ∀ p, expectEnd s ≠ .panic p :=
  (expectEnd_safe s).no_panic

example : ∀ p, expectEnd (initSt .str [32, 59, 120, 10, 41]) ≠ .panic p := C03_no_panic_expectEnd _

/-- **C03 (`expect_value`)**, with the fuel the public API supplies. -/
theorem C03_no_panic_expectValue (cfg : Cfg) (s : St) (hd : 1 ≤ s.depth)
    (hlen : s.rd.rest.length < 2147483646) : ∀ p, expectValue cfg s ≠ .panic p :=
  (expectValue_safe cfg s hd (short_of_lt hlen)).no_panic

example : ∀ p, expectValue exCfg (initSt .str exBytes) ≠ .panic p :=
  C03_no_panic_expectValue _ _ (by decide) (by decide)

/-- **C03 (`expect_datum`)**. -/
theorem C03_no_panic_expectDatum (cfg : Cfg) (s : St) (hd : 1 ≤ s.depth)
    (hlen : s.rd.rest.length < 2147483646) : ∀ p, expectDatum cfg s ≠ .panic p :=
  (expectDatum_safe cfg s hd (short_of_lt hlen)).no_panic

example : ∀ p, expectDatum exCfg (initSt .str exBytes) ≠ .panic p :=
  C03_no_panic_expectDatum _ _ (by decide) (by decide)

/-- **C03 (`from_str` / `from_slice` / `from_reader`)**: `from_trait` on a fresh parser. -/
theorem C03_no_panic_fromTrait (cfg : Cfg) (s : St) (hd : 1 ≤ s.depth)
    (hlen : s.rd.rest.length < 2147483646) : ∀ p, fromTrait cfg s ≠ .panic p :=
  (fromTrait_safe cfg s hd (short_of_lt hlen)).no_panic

example : ∀ p, fromTrait exCfg (initSt .io exBytes true) ≠ .panic p :=
  C03_no_panic_fromTrait _ _ (by decide) (by decide)

/-- **C03 (`datum::from_str` ...)**: `datum::from_trait` on a fresh parser. -/
theorem C03_no_panic_fromTraitDatum (cfg : Cfg) (s : St) (hd : 1 ≤ s.depth)
    (hlen : s.rd.rest.length < 2147483646) : ∀ p, fromTraitDatum cfg s ≠ .panic p :=
  (fromTraitDatum_safe cfg s hd (short_of_lt hlen)).no_panic

example : ∀ p, fromTraitDatum exCfg (initSt .slice exBytes) ≠ .panic p :=
  C03_no_panic_fromTraitDatum _ _ (by decide) (by decide)

/-- **C03 (`Parser::next_value` as called by the API)**: `nextValueTop` / `nextDatumTop`. -/
theorem C03_no_panic_top (cfg : Cfg) (s : St) (hd : 1 ≤ s.depth)
    (hlen : s.rd.rest.length < 2147483646) :
    (∀ p, nextValueTop cfg s ≠ .panic p) ∧ (∀ p, nextDatumTop cfg s ≠ .panic p) :=
  ⟨(nextValueTop_safe cfg s hd (short_of_lt hlen)).no_panic, (nextDatumTop_safe cfg s hd (short_of_lt hlen)).no_panic⟩

example : (∀ p, nextValueTop exCfg (initSt .str exBytes) ≠ .panic p) ∧
    (∀ p, nextDatumTop exCfg (initSt .str exBytes) ≠ .panic p) :=
  C03_no_panic_top _ _ (by decide) (by decide)

/-- **Depth budget restored (value)**: whether `next_value` succeeds or fails, `remaining_depth`
    is what it was before the call. This is what makes repeated calls on one parser safe. -/
theorem depth_restored_value (cfg : Cfg) (fuel : Nat) (s s' : St) (r : Option Value) (e : Err)
    (hd : 1 ≤ s.depth) (hlen : s.rd.rest.length < 2147483646)
    (h : nextValue cfg fuel s = .ok r s' ∨ nextValue cfg fuel s = .err e s') :
    s'.depth = s.depth :=
  ((nextValue_safe cfg fuel s hd (short_of_lt hlen)).frame h).1

/-- an erroring call nested three levels deep (`(((` then end of input) restores the depth -/
example : (nextValue exCfg 40 (initSt .str [40, 40, 40])).outcome = some (false, 128) := by
  decide +kernel

/-- **Depth budget restored (datum)**. -/
theorem depth_restored_datum (cfg : Cfg) (fuel : Nat) (s s' : St) (r : Option Datum) (e : Err)
    (hd : 1 ≤ s.depth) (hlen : s.rd.rest.length < 2147483646)
    (h : nextDatum cfg fuel s = .ok r s' ∨ nextDatum cfg fuel s = .err e s') :
    s'.depth = s.depth :=
  ((nextDatum_safe cfg fuel s hd (short_of_lt hlen)).frame h).1

example : (nextDatum exCfg 40 (initSt .str [40, 40, 40])).outcome = some (false, 128) := by
  decide +kernel

/-- **Input never grows**: the same frame for the unread input, for both entry points (so the
    length hypothesis, like the depth hypothesis, survives every call). -/
theorem rest_monotone (cfg : Cfg) (fuel : Nat) (s s' : St) (hd : 1 ≤ s.depth)
    (hlen : s.rd.rest.length < 2147483646) :
    (∀ r e, nextValue cfg fuel s = .ok r s' ∨ nextValue cfg fuel s = .err e s' →
      s'.rd.rest.length ≤ s.rd.rest.length) ∧
    (∀ r e, nextDatum cfg fuel s = .ok r s' ∨ nextDatum cfg fuel s = .err e s' →
      s'.rd.rest.length ≤ s.rd.rest.length) :=
  ⟨fun _ _ h => ((nextValue_safe cfg fuel s hd (short_of_lt hlen)).frame h).2,
   fun _ _ h => ((nextDatum_safe cfg fuel s hd (short_of_lt hlen)).frame h).2⟩

example : ∀ s' r e, nextValue exCfg 40 (initSt .str exBytes) = .ok r s' ∨
    nextValue exCfg 40 (initSt .str exBytes) = .err e s' → s'.rd.rest.length ≤ 14 :=
  fun s' r e h => (rest_monotone exCfg 40 _ s' (by decide) (by decide)).1 r e h

/-- **C03 (call histories)**: any sequence of public calls on one parser over any input shorter
    than `i32::MAX - 1` bytes, from any of the three sources (failing reader included), never
    panics. -/
theorem C03_no_panic_history (cfg : Cfg) (ops : List Op) (mode : Mode) (bytes : List UInt8)
    (faulty : Bool) (hlen : bytes.length < 2147483646) :
    ∀ it ∈ runHistory cfg ops (initSt mode bytes faulty),
      match it with | .panic _ => False | _ => True :=
  runHistory_safe cfg ops (initSt mode bytes faulty) ⟨by simp [initSt], short_of_lt hlen⟩

example : ∀ it ∈ runHistory exCfg [.nextValue, .expectEnd, .datumIterNext, .expectDatum]
      (initSt .io exBytes true), match it with | .panic _ => False | _ => True :=
  C03_no_panic_history _ _ _ _ _ (by decide)

/-- **C03 (iterators)**: draining an iterator never panics either. -/
theorem C03_no_panic_iterate (cfg : Cfg) (op : Op) (cap : Nat) (mode : Mode) (bytes : List UInt8)
    (faulty : Bool) (hlen : bytes.length < 2147483646) :
    ∀ it ∈ iterate cfg op cap (initSt mode bytes faulty),
      match it with | .panic _ => False | _ => True :=
  iterate_safe cfg op cap (initSt mode bytes faulty) ⟨by simp [initSt], short_of_lt hlen⟩

example : ∀ it ∈ iterate exCfg .valueIterNext 5 (initSt .str exBytes),
    match it with | .panic _ => False | _ => True :=
  C03_no_panic_iterate _ _ _ _ _ _ (by decide)

/-- **UTF-8**: the `unreachable!()` of `decode_utf8_sequence` — a non-empty byte string accepted
    by the validity automaton has a decodable first scalar. -/
theorem C03_utf8_decodable (b0 : UInt8) (bs : List UInt8) (h : Utf8.valid (b0 :: bs) = true) :
    (Utf8.decodeFirst (b0 :: bs)).isSome = true :=
  Utf8.decodeFirst_of_valid b0 bs h

example : (Utf8.decodeFirst [0xE2, 0x82, 0xAC]).isSome = true := C03_utf8_decodable _ _ (by decide)

/-- **Recursion limit (`enter`)**: with exactly one level of budget left, `enter` fails with
    `RecursionLimitExceeded` and leaves the state alone; hence from `remaining_depth = 128` at
    most 127 nested `enter`s succeed. -/
theorem C03_enter_limit (s : St) (h : s.depth = 1) :
    enter s = .err (.syntax .recursionLimitExceeded s.rd.peekPosition.line
      s.rd.peekPosition.col) s := by
  simp [enter, h]

example : (enter { initSt .str [40] with depth := 1 }).errCode = some .recursionLimitExceeded := by
  decide

/-- **C03_accepted_shallow**: a value accepted by `next_value` with `d` levels of budget has
    nesting depth (`Value.vdepth`: lists, vectors and quotations entered on the way down; a cdr
    chain stays on one level) strictly below `d`. -/
theorem C03_accepted_shallow (cfg : Cfg) (fuel : Nat) (s s' : St) (v : Value) (hd : 1 ≤ s.depth)
    (hlen : s.rd.rest.length < 2147483646) (h : nextValue cfg fuel s = .ok (some v) s') :
    v.vdepth < s.depth :=
  (nextValue_shallow cfg fuel s hd (short_of_lt hlen)).post_ok h v rfl

/-- the bound is attained: 126 lists around `#()` need 127 `enter`s and are accepted ... -/
example : (nextValue exCfg 600 (initSt .str (nested 126 [35, 40, 41]))).valueDepth = some 127 := by
  decide +kernel

/-- ... and one more level is rejected with `RecursionLimitExceeded` (depth still restored). -/
example : (nextValue exCfg 600 (initSt .str (nested 127 [35, 40, 41]))).errCode =
      some .recursionLimitExceeded ∧
    (nextValue exCfg 600 (initSt .str (nested 127 [35, 40, 41]))).outcome = some (false, 128) := by
  decide +kernel

/-- **C03_accepted_shallow (fresh parser)**: whatever `from_str` / `from_slice` / `from_reader`
    return has nesting depth at most 127. -/
theorem C03_accepted_shallow_fresh (cfg : Cfg) (mode : Mode) (bytes : List UInt8) (faulty : Bool)
    (v : Value) (s' : St) (hlen : bytes.length < 2147483646)
    (h : fromTrait cfg (initSt mode bytes faulty) = .ok v s') : v.vdepth ≤ 127 := by
  have := (fromTrait_shallow cfg (initSt mode bytes faulty) (by simp [initSt]) (short_of_lt hlen)).post_ok h
  simp [initSt] at this
  omega

example : ∀ v s', fromTrait exCfg (initSt .str exBytes) = .ok v s' → v.vdepth ≤ 127 :=
  fun v s' h => C03_accepted_shallow_fresh _ _ _ _ v s' (by decide) h

end Parse
end Lexpr
