/-
  C17 — what the escape, character, symbol and string scanners of Lex.lean consume (the number
  scanners: `Utf8InputTokNum`).

  The scanners are described once, by the strongest relation between the state before and the
  state after that holds of them.  All are one relation, `Ate Q` of Consume.lean ("consumed a chunk
  `w` with `Q w`"): `Suf` (any chunk; every function, read off `Lexes`), `LastQ` (a chunk that ends
  with the closing quote: the Emacs Lisp string loop), `ASuf` (ASCII text), `InTok.VC` (valid
  UTF-8: the character scanners, which decode what they read), and `Eats` (a chunk that is
  well-formed if the input can be trusted: symbols and R6RS strings, for which the `&str` source
  stops at an ASCII byte and the other sources validate what they return).  `SV` ("the unread
  input is well-formed, if the source is a `&str`") is kept along all of them.
-/
import LexprModel.Proofs.Utf8Valid
import LexprModel.Proofs.Lexes
namespace Lexpr
open Utf8 Utf8.U8
namespace Parse.U8

def Suf (s s' : St) : Prop := s'.rd.mode = s.rd.mode ∧ ∃ pre, s.rd.rest = pre ++ s'.rd.rest

theorem suf_iff {s s' : St} : Suf s s' ↔ Ate (fun _ => True) s s' :=
  ⟨fun ⟨m, w, r⟩ => ⟨m, w, trivial, r⟩, fun ⟨m, w, _, r⟩ => ⟨m, w, r⟩⟩

theorem Suf.trans {a b c : St} (h1 : Suf a b) (h2 : Suf b c) : Suf a c :=
  suf_iff.2 ((suf_iff.1 h1).comp (suf_iff.1 h2) fun _ _ => trivial)

structure SufP {α : Type} (m : P α) : Prop where
  ok : ∀ s a s', m s = .ok a s' → Suf s s'

theorem _root_.Lexpr.Parse.Lexes.sufP {α : Type} {m : P α} (h : Lexes m) : SufP m := by
  constructor
  intro s a s' hr
  exact suf_iff.2 (h.ok hr).ate

/-- every function of the lexer only consumes input -/
theorem SufP.of_held {b c : Bool} {α : Type} {m m' : P α} (h : Held Kind.same b c m m') : SufP m :=
  (Lexes.logic.of_held h).sufP

theorem SufP.outOfFuel {α : Type} : SufP (outOfFuel : P α) := by constructor; intro s a s' h; cases h
theorem SufP.discard : SufP discard := Lexes.discard.sufP
theorem SufP.getPos : SufP getPos := (Lexes.get _).sufP
theorem SufP.nextOrNull : SufP nextOrNull := .of_held (b := true) .nextOrNull
theorem SufP.parseWhitespace : SufP parseWhitespace := .of_held (b := true) .parseWhitespace
theorem SufP.expectIdent : ∀ cs, SufP (expectIdent cs) := fun cs => .of_held (b := true) (.expectIdent cs)
theorem SufP.parseR6rsStr (f : Nat) : ∀ acc, SufP (parseR6rsStr f acc) :=
  fun acc => .of_held (b := true) (.parseR6rsStr trivial (.refl f) acc)
theorem SufP.parseElispEscape (f : Nat) (acc : List UInt8) : SufP (parseElispEscape f acc) :=
  .of_held (b := true) (.parseElispEscape acc (.refl f))
theorem SufP.parseElispStr (f : Nat) (acc : List UInt8) (ub mb na : Bool) :
    SufP (parseElispStr f acc ub mb na) := .of_held (b := true) (.parseElispStr (.refl f) acc ub mb na)
theorem SufP.parseElispChar (f : Nat) : SufP (parseElispChar f) :=
  .of_held (b := true) (.parseElispChar (.refl f))

theorem isDelimiter_ascii {b : UInt8} (h : isDelimiter b = true) : b < 0x80 :=
  Decidable.by_contra fun hb => by rw [(nonascii_stops b hb).2.2.1] at h; cases h

theorem isCharDelimiter_ascii {b : UInt8} (h : isCharDelimiter b = true) : b < 0x80 :=
  Decidable.by_contra fun hb => by rw [(nonascii_stops b hb).2.2.2.1] at h; cases h

/-- `s'` is reached from `s` by consuming input that ends with the closing quote. -/
def LastQ (s s' : St) : Prop := Ate (fun w => ∃ pre, w = pre ++ [34]) s s'

theorem LastQ.after {a b c : St} (h1 : Suf a b) (h2 : LastQ b c) : LastQ a c :=
  (suf_iff.1 h1).comp h2 fun {x _} _ ⟨p, e⟩ => ⟨x ++ p, by rw [e, List.append_assoc]⟩

theorem nextOrEof_suf1 {s s' : St} {c : UInt8} (h : nextOrEof s = .ok c s') : Suf s s' := by
  obtain ⟨hm, hr⟩ := nextOrEof_ok h
  exact ⟨hm, [c], hr⟩

theorem parseElispStr_lastQ (f : Nat) : ∀ {acc : List UInt8} {ub mb na : Bool} {s s' : St}
    {out : ElispStr}, parseElispStr f acc ub mb na s = .ok out s' → LastQ s s' := by
  induction f with
  | zero => intro acc ub mb na s s' out h; nomatch h
  | succ f ih =>
    intro acc ub mb na s s' out h
    simp only [parseElispStr] at h
    obtain ⟨c, s1, hn, h⟩ := bind_ok h
    obtain ⟨hm, hr⟩ := nextOrEof_ok hn
    rcases ite_ok h with ⟨h34, h⟩ | ⟨_, h⟩
    · have hs' : s' = s1 := by
        rcases ite_ok h with ⟨_, h⟩ | ⟨_, h⟩
        · exact (pure_ok h).2.symm
        · obtain ⟨o, s2, hf, h⟩ := bind_ok h
          rw [← (pure_ok h).2, (finishStr_ok hf).2.1]
      rw [hs']
      exact ⟨hm, [34], ⟨[], rfl⟩, by rw [hr, eq_of_beq h34]; rfl⟩
    rcases ite_ok h with ⟨_, h⟩ | ⟨_, h⟩
    · obtain ⟨⟨acc', k⟩, s2, he, h⟩ := bind_ok h
      refine LastQ.after ((nextOrEof_suf1 hn).trans ((SufP.parseElispEscape _ _).ok _ _ _ he)) ?_
      cases k <;> exact ih h
    · exact LastQ.after (nextOrEof_suf1 hn) (ih h)

theorem nextOrEofChar_ok {s s' : St} {c : UInt8} (h : nextOrEofChar s = .ok c s') :
    s'.rd.mode = s.rd.mode ∧ s.rd.rest = c :: s'.rd.rest := by
  unfold nextOrEofChar at h
  obtain ⟨a, s1, hn, h⟩ := bind_ok h
  cases a with
  | none => nomatch h
  | some b =>
    obtain ⟨rfl, rfl⟩ := pure_ok h
    exact next_some_frame hn

theorem octVal_ascii {b : UInt8} {v : Nat} (h : octVal b = some v) : b < 0x80 :=
  Decidable.by_contra fun hb => by rw [(nonascii_table b hb).2.2.1] at h; cases h

theorem lower_ascii {b : UInt8} (h : isAsciiLower (toAsciiLower b) = true) : b < 0x80 :=
  Decidable.by_contra fun hb => by rw [(nonascii_table b hb).2.2.2.1] at h; cases h

theorem peek_discard {s s1 s2 : St} {c : UInt8} {u : Unit} (hp : peek s = .ok (some c) s1)
    (hd : discard s1 = .ok u s2) (hc : c < 0x80) : ASuf s s2 := by
  obtain ⟨hm1, hr1, ha⟩ := peek_frame hp
  obtain ⟨hm2, b, hr2⟩ := discard_frame hd
  rw [hr1] at hr2
  rw [hr2] at ha
  cases ha
  exact ASuf.one (hm2.trans hm1) hr2 hc

theorem peek_same {s s1 : St} {a : Option UInt8} (hp : peek s = .ok a s1) : ASuf s s1 := by
  obtain ⟨hm1, hr1, _⟩ := peek_frame hp
  exact ASuf.same hm1 hr1

theorem _root_.Lexpr.Parse.DigitLoop.asuf {F : Nat → Nat → P Nat} {val : UInt8 → Option Nat}
    {base : Nat} (hF : DigitLoop F val base)
    (hval : ∀ {c : UInt8} {v : Nat}, val c = some v → c < 0x80) (f : Nat) : ∀ {n : Nat} {s s' : St} {r : Nat}, F f n s = .ok r s' → ASuf s s' := by
  induction f with
  | zero => intro n s s' r h; rw [hF.zero] at h; nomatch h
  | succ f ih =>
    intro n s s' r h
    rw [hF.succ] at h
    unfold digitStep at h
    obtain ⟨a, s1, hp, h⟩ := bind_ok h
    cases a with
    | none => rw [← (pure_ok h).2]; exact peek_same hp
    | some c =>
      dsimp only at h
      cases hv : val c with
      | none => rw [hv] at h; rw [← (pure_ok h).2]; exact peek_same hp
      | some v =>
        rw [hv] at h
        obtain ⟨_, s2, hd, h⟩ := bind_ok h
        rcases ite_ok h with ⟨_, h⟩ | ⟨_, h⟩
        · nomatch h
        · exact (peek_discard hp hd (hval hv)).trans (ih h)

theorem decodeElispHexEscape_asuf (f : Nat) : ∀ {n : Nat} {s s' : St} {r : Nat},
    decodeElispHexEscape f n s = .ok r s' → ASuf s s' :=
  decodeElispHexEscape_loop.asuf hexVal_ascii f

theorem decodeElispOctalEscape_asuf (f : Nat) : ∀ {n : Nat} {s s' : St} {r : Nat},
    decodeElispOctalEscape f n s = .ok r s' → ASuf s s' :=
  decodeElispOctalEscape_loop.asuf octVal_ascii f

theorem decodeElispUniEscape_asuf (k : Nat) : ∀ {n : Nat} {s s' : St} {r : Nat},
    decodeElispUniEscape k n s = .ok r s' → ASuf s s' := by
  induction k with
  | zero =>
    intro n s s' r h
    simp only [decodeElispUniEscape] at h
    rw [← (pure_ok h).2]; exact ASuf.refl _
  | succ k ih =>
    intro n s s' r h
    simp only [decodeElispUniEscape] at h
    obtain ⟨c, s1, hn, h⟩ := bind_ok h
    obtain ⟨hm, hr⟩ := nextOrEof_ok hn
    cases hv : hexVal c with
    | none => rw [hv] at h; nomatch h
    | some v =>
      rw [hv] at h
      rcases ite_ok h with ⟨_, h⟩ | ⟨_, h⟩
      · nomatch h
      · exact (ASuf.one hm hr (hexVal_ascii hv)).trans (ih h)

theorem asChar_ok {n c : Nat} {s s' : St} (h : asChar n s = .ok c s') :
    s' = s ∧ isScalar c = true := by
  unfold asChar at h
  rcases ite_ok h with ⟨hs, h⟩ | ⟨_, h⟩
  · obtain ⟨rfl, rfl⟩ := pure_ok h; exact ⟨rfl, hs⟩
  · nomatch h

theorem asEscapedChar_ok {n c : Nat} {s s' : St} (h : asEscapedChar n s = .ok c s') :
    ASuf s s' ∧ isScalar c = true := by
  unfold asEscapedChar at h
  rcases ite_ok h with ⟨_, h⟩ | ⟨_, h⟩
  · obtain ⟨o, s1, hp, h⟩ := bind_ok h
    cases o with
    | none => nomatch h
    | some b =>
      dsimp only at h
      obtain ⟨rfl, hc⟩ := asChar_ok h
      exact ⟨peek_same hp, hc⟩
  · obtain ⟨rfl, hc⟩ := asChar_ok h; exact ⟨ASuf.refl _, hc⟩

theorem not_gt_ascii {c : UInt8} (h : ¬ c > 0x7F) : c < 0x80 := by
  rw [UInt8.lt_iff_toNat_lt]
  have : ¬ (0x7F : UInt8).toNat < c.toNat := fun hh => h (UInt8.lt_iff_toNat_lt.mpr hh)
  simp at this ⊢
  omega

theorem octal_range_ascii {c : UInt8} (h : (decide (48 ≤ c) && decide (c ≤ 55)) = true) : c < 0x80 := by
  simp only [Bool.and_eq_true, decide_eq_true_eq, UInt8.le_iff_toNat_le] at h
  rw [UInt8.lt_iff_toNat_lt]
  have := h.2
  simp at this ⊢
  omega

theorem ne_false_eq {a b : UInt8} (h : ¬ (a != b) = true) : a = b := by
  simpa using h

end Parse.U8

namespace Parse.InTok
open Parse.U8

def VC (s s' : St) : Prop :=
  s'.rd.mode = s.rd.mode ∧ ∃ w, valid w = true ∧ s.rd.rest = w ++ s'.rd.rest

/-- `VC` is `Ate` for well-formed chunks (the two unfold to the same proposition) -/
theorem vc_iff {s s' : St} : VC s s' ↔ Ate (valid · = true) s s' := Iff.rfl

theorem VC.refl (s : St) : VC s s := Ate.refl valid_nil s

theorem VC.trans {a b c : St} (h1 : VC a b) (h2 : VC b c) : VC a c :=
  Ate.comp (vc_iff.1 h1) (vc_iff.1 h2) valid_append

theorem VC.of_asuf {s s' : St} (h : ASuf s s') : VC s s' := Ate.mono h valid_ascii

theorem VC.chunk {s s' : St} {w : List UInt8} (hm : s'.rd.mode = s.rd.mode)
    (hr : s.rd.rest = w ++ s'.rd.rest) (hv : valid w = true) : VC s s' := ⟨hm, w, hv, hr⟩

theorem VC.same {s s' : St} (hm : s'.rd.mode = s.rd.mode) (hr : s'.rd.rest = s.rd.rest) :
    VC s s' := VC.of_asuf (ASuf.same hm hr)

theorem VC.eq {s s' : St} (h : s' = s) : VC s s' := h ▸ VC.refl s

theorem VC.asuf {s0 s s1 : St} (h : VC s0 s) (ha : ASuf s s1) : VC s0 s1 := h.trans (VC.of_asuf ha)

theorem VC.tail {s0 s s1 : St} {b : UInt8} (h : VC s0 s) (hm : s1.rd.mode = s.rd.mode)
    (hr : s.rd.rest = b :: s1.rd.rest) (hb : b < 0x80) : VC s0 s1 := h.asuf (ASuf.one hm hr hb)

theorem VC.valid_of {s s' : St} {w : List UInt8} (h : VC s s') (hw : s.rd.rest = w ++ s'.rd.rest) :
    valid w = true := Ate.of_eq (vc_iff.1 h) hw

theorem VC.mode {s s' : St} (h : VC s s') : s'.rd.mode = s.rd.mode := h.1

theorem decodeR6rsCharHexEscape_asuf (f : Nat) : ∀ {n : Nat} {first : Bool} {s s' : St}
    {r : Option Nat}, decodeR6rsCharHexEscape f n first s = .ok r s' → ASuf s s' := by
  induction f with
  | zero => intro n first s s' r h; nomatch h
  | succ f ih =>
    intro n first s s' r h
    simp only [decodeR6rsCharHexEscape] at h
    obtain ⟨a, s1, hp, h⟩ := bind_ok h
    cases a with
    | none => rw [← (pure_ok h).2]; exact peek_same hp
    | some c =>
      rcases ite_ok h with ⟨_, h⟩ | ⟨_, h⟩
      · rw [← (pure_ok h).2]; exact peek_same hp
      · obtain ⟨_, s2, hd, h⟩ := bind_ok h
        cases hv : hexVal c with
        | none => rw [hv] at h; nomatch h
        | some v =>
          rw [hv] at h
          rcases ite_ok h with ⟨_, h⟩ | ⟨_, h⟩
          · nomatch h
          · exact (peek_discard hp hd (hexVal_ascii hv)).trans (ih h)

theorem ite_some {α : Type} {c : Prop} [Decidable c] {a r : α} {e : Option α}
    (h : (if c then some a else e) = some r) : (c ∧ a = r) ∨ e = some r := by
  by_cases hc : c
  · rw [if_pos hc] at h; exact Or.inl ⟨hc, Option.some.inj h⟩
  · rw [if_neg hc] at h; exact Or.inr h

theorem charName_ok {name : List UInt8} {c : Nat} (h : charName name = some c) :
    Ascii name ∧ isScalar c = true := by
  unfold charName at h
  iterate 12 (
    rcases ite_some h with ⟨hn, hc⟩ | h
    · rw [eq_of_beq hn, ← hc]; decide)
  cases h

/-! The character readers are inverted once for both things asked of them: the text consumed is a
    valid chunk (the input clause) and the value returned is a scalar value (what `char` holds). -/

/-- `parse_r6rs_char` (after `#\`) -/
theorem parseR6rsChar_ok {f : Nat} {s s' : St} {c : Nat}
    (h : parseR6rsChar f s = .ok c s') : VC s s' ∧ isScalar c = true := by
  unfold parseR6rsChar at h
  obtain ⟨initial, s1, hn, h⟩ := bind_ok h
  obtain ⟨hm1, hr1⟩ := nextOrEofChar_ok hn
  -- `#\x…`: hex digits, or the letter `x` itself
  rcases ite_ok h with ⟨hx, h⟩ | ⟨_, h⟩
  · have h0 : VC s s1 := .of_asuf (ASuf.one hm1 hr1 (by rw [eq_of_beq hx]; decide))
    obtain ⟨r, s2, hd, h⟩ := bind_ok h
    have h2 : VC s s2 := h0.asuf (decodeR6rsCharHexEscape_asuf _ hd)
    cases r with
    | none => obtain ⟨rfl, rfl⟩ := pure_ok h; exact ⟨h2, by decide⟩
    | some n =>
      rcases ite_ok h with ⟨hsc, h⟩ | ⟨_, h⟩
      · obtain ⟨rfl, rfl⟩ := pure_ok h; exact ⟨h2, hsc⟩
      rcases ite_ok h with ⟨_, h⟩ | ⟨_, h⟩
      · obtain ⟨a, s3, _, h⟩ := bind_ok h
        cases a <;> nomatch h
      · nomatch h
  -- a non-ASCII character: one well-formed sequence
  rcases ite_ok h with ⟨_, h⟩ | ⟨hna, h⟩
  · obtain ⟨⟨c', bytes⟩, s2, hseq, h⟩ := bind_ok h
    obtain ⟨rfl, rfl⟩ := pure_ok h
    obtain ⟨hv, hm2, hr2, _, hdec⟩ := Parse.U8.decodeUtf8Sequence_spec hseq
    exact ⟨VC.chunk (hm2.trans hm1) (by rw [hr1, hr2]) hv, decodeFirst_isScalar hdec⟩
  -- an ASCII character: alone, or the first letter of a character name
  · have hia : initial < 0x80 := not_gt_ascii hna
    have h0 : VC s s1 := .of_asuf (ASuf.one hm1 hr1 hia)
    obtain ⟨a, s2, hp, h⟩ := bind_ok h
    have h2 : VC s s2 := h0.asuf (peek_same hp)
    have alone : ∀ {s3 : St}, (pure initial.toNat : P Nat) s2 = .ok c s3 →
        VC s s3 ∧ isScalar c = true := fun h => by
      obtain ⟨rfl, rfl⟩ := pure_ok h
      exact ⟨h2, isScalar_of_lt_256 initial.toNat_lt⟩
    cases a with
    | none => exact alone h
    | some nxt =>
      rcases ite_ok h with ⟨_, h⟩ | ⟨_, h⟩
      · exact alone h
      · obtain ⟨rest, s3, h3, h⟩ := bind_ok h
        obtain ⟨rfl, rfl⟩ := getRest_ok h3
        simp only [] at h
        obtain ⟨_, s4, h4, h⟩ := bind_ok h
        obtain ⟨hm4, hr4⟩ := consumeN_ok h4
        obtain ⟨nxt', s5, h5, h⟩ := bind_ok h
        obtain ⟨hm5, hr5, _⟩ := peek_frame h5
        cases hcn : charName (initial :: List.take (charNameLen s3.rd.rest) s3.rd.rest) with
        | some c'' =>
          rw [hcn] at h
          obtain ⟨rfl, rfl⟩ := pure_ok h
          obtain ⟨hasc, hsc⟩ := charName_ok hcn
          refine ⟨h2.asuf ⟨hm5.trans hm4, _, hasc.tail, ?_⟩, hsc⟩
          rw [hr5, hr4, List.take_append_drop]
        | none =>
          rw [hcn] at h
          rcases ite_ok h with ⟨_, h⟩ | ⟨_, h⟩ <;> nomatch h

theorem parseR6rsChar_vc {f : Nat} {s s' : St} {c : Nat}
    (h : parseR6rsChar f s = .ok c s') : VC s s' := (parseR6rsChar_ok h).1

/-- an arm `if c == k then pure n` of `decode_elisp_char_escape`: an ASCII letter that denotes one
    character below 256; only the letter is consumed -/
theorem esc_letter {c k : UInt8} {n r : Nat} {s0 s s1 s' : St} (hs : VC s0 s)
    (hm1 : s1.rd.mode = s.rd.mode) (hr1 : s.rd.rest = c :: s1.rd.rest) (hc : (c == k) = true)
    (hk : k < 0x80) (hn : n < 256) (h : (pure n : P Nat) s1 = .ok r s') :
    VC s0 s' ∧ isScalar r = true := by
  obtain ⟨rfl, rfl⟩ := pure_ok h
  exact ⟨hs.tail hm1 hr1 (by rw [eq_of_beq hc]; exact hk), isScalar_of_lt_256 hn⟩

/-- `decode_elisp_char_escape` (after `?\`): every arm consumes ASCII text or one well-formed
    sequence.  `s0` is any state the caller started from. -/
theorem decodeElispCharEscape_ok {f : Nat} {s0 s s' : St} {r : Nat}
    (h : decodeElispCharEscape f s = .ok r s') (hs : VC s0 s) :
    VC s0 s' ∧ isScalar r = true := by
  unfold decodeElispCharEscape at h
  obtain ⟨c, s1, hn, h⟩ := bind_ok h
  obtain ⟨hm1, hr1⟩ := nextOrEofChar_ok hn
  -- the eleven letters `a b t n v f r e s \ d`
  iterate 11 (
    rcases ite_ok h with ⟨hc, h⟩ | ⟨_, h⟩
    · exact esc_letter hs hm1 hr1 hc (by decide) (by decide) h)
  -- `^`
  rcases ite_ok h with ⟨hc, h⟩ | ⟨_, h⟩
  · have hs1 : VC s0 s1 := hs.tail hm1 hr1 (by rw [eq_of_beq hc]; decide)
    obtain ⟨k, s2, hk, h⟩ := bind_ok h
    obtain ⟨hm2, hr2⟩ := nextOrEofChar_ok hk
    rcases ite_ok h with ⟨hl, h⟩ | ⟨_, h⟩
    · obtain ⟨rfl, rfl⟩ := pure_ok h
      exact ⟨hs1.tail hm2 hr2 (lower_ascii hl),
        isScalar_of_lt_256 (by have := UInt8.toNat_lt (toAsciiLower k); omega)⟩
    · nomatch h
  -- `N{U+...}`
  rcases ite_ok h with ⟨hc, h⟩ | ⟨_, h⟩
  · have hs1 : VC s0 s1 := hs.tail hm1 hr1 (by rw [eq_of_beq hc]; decide)
    obtain ⟨b1, s2, hk1, h⟩ := bind_ok h
    obtain ⟨hm2, hr2⟩ := nextOrEofChar_ok hk1
    rcases ite_ok h with ⟨_, h⟩ | ⟨hb1, h⟩
    · nomatch h
    have hs2 : VC s0 s2 := hs1.tail hm2 hr2 (by rw [ne_false_eq hb1]; decide)
    obtain ⟨b2, s3, hk2, h⟩ := bind_ok h
    obtain ⟨hm3, hr3⟩ := nextOrEofChar_ok hk2
    rcases ite_ok h with ⟨_, h⟩ | ⟨hb2, h⟩
    · nomatch h
    have hs3 : VC s0 s3 := hs2.tail hm3 hr3 (by rw [ne_false_eq hb2]; decide)
    obtain ⟨b3, s4, hk3, h⟩ := bind_ok h
    obtain ⟨hm4, hr4⟩ := nextOrEofChar_ok hk3
    rcases ite_ok h with ⟨_, h⟩ | ⟨hb3, h⟩
    · nomatch h
    have hs4 : VC s0 s4 := hs3.tail hm4 hr4 (by rw [ne_false_eq hb3]; decide)
    obtain ⟨n, s5, hx, h⟩ := bind_ok h
    have hs5 : VC s0 s5 := hs4.asuf (decodeElispHexEscape_asuf _ hx)
    obtain ⟨b4, s6, hk4, h⟩ := bind_ok h
    obtain ⟨hm6, hr6⟩ := nextOrEof_ok hk4
    rcases ite_ok h with ⟨_, h⟩ | ⟨hb4, h⟩
    · nomatch h
    have hs6 : VC s0 s6 := hs5.tail hm6 hr6 (by rw [ne_false_eq hb4]; decide)
    rcases ite_ok h with ⟨hsc, h⟩ | ⟨_, h⟩
    · obtain ⟨rfl, rfl⟩ := pure_ok h; exact ⟨hs6, hsc⟩
    · nomatch h
  -- `u`
  rcases ite_ok h with ⟨hc, h⟩ | ⟨_, h⟩
  · have hs1 : VC s0 s1 := hs.tail hm1 hr1 (by rw [eq_of_beq hc]; decide)
    obtain ⟨n, s2, hx, h⟩ := bind_ok h
    obtain ⟨rfl, hsc⟩ := asChar_ok h
    exact ⟨hs1.asuf (decodeElispUniEscape_asuf _ hx), hsc⟩
  -- `U`
  rcases ite_ok h with ⟨hc, h⟩ | ⟨_, h⟩
  · have hs1 : VC s0 s1 := hs.tail hm1 hr1 (by rw [eq_of_beq hc]; decide)
    obtain ⟨n, s2, hx, h⟩ := bind_ok h
    obtain ⟨rfl, hsc⟩ := asChar_ok h
    exact ⟨hs1.asuf (decodeElispUniEscape_asuf _ hx), hsc⟩
  -- `x`
  rcases ite_ok h with ⟨hc, h⟩ | ⟨_, h⟩
  · have hs1 : VC s0 s1 := hs.tail hm1 hr1 (by rw [eq_of_beq hc]; decide)
    obtain ⟨n, s2, hx, h⟩ := bind_ok h
    obtain ⟨ha, hsc⟩ := asEscapedChar_ok h
    exact ⟨(hs1.asuf (decodeElispHexEscape_asuf _ hx)).asuf ha, hsc⟩
  -- octal
  rcases ite_ok h with ⟨hc, h⟩ | ⟨_, h⟩
  · have hs1 : VC s0 s1 := hs.tail hm1 hr1 (octal_range_ascii hc)
    obtain ⟨n, s2, hx, h⟩ := bind_ok h
    obtain ⟨ha, hsc⟩ := asEscapedChar_ok h
    exact ⟨(hs1.asuf (decodeElispOctalEscape_asuf _ hx)).asuf ha, hsc⟩
  -- a non-ASCII character: one well-formed sequence
  rcases ite_ok h with ⟨hc, h⟩ | ⟨hc, h⟩
  · obtain ⟨⟨ch, bytes⟩, s2, hseq, h⟩ := bind_ok h
    obtain ⟨rfl, rfl⟩ := pure_ok h
    obtain ⟨hv, hm2, hr2, _, hdec⟩ := Parse.U8.decodeUtf8Sequence_spec hseq
    exact ⟨hs.trans (VC.chunk (hm2.trans hm1) (by rw [hr1, hr2]) hv), decodeFirst_isScalar hdec⟩
  · obtain ⟨rfl, rfl⟩ := pure_ok h
    exact ⟨hs.tail hm1 hr1 (not_gt_ascii hc), isScalar_of_lt_256 c.toNat_lt⟩

/-- `parse_elisp_char` (after `?`): the character text consumed is a valid chunk — no exception,
    unlike Emacs Lisp strings: a character escape denotes a code point, never a raw byte, and a
    raw non-ASCII character is decoded (and validated) on the spot. -/
theorem parseElispChar_ok {f : Nat} {s s' : St} {r : Nat}
    (h : parseElispChar f s = .ok r s') : VC s s' ∧ isScalar r = true := by
  unfold parseElispChar at h
  obtain ⟨a, s1, hn, h⟩ := bind_ok h
  cases a with
  | none => nomatch h
  | some initial =>
    obtain ⟨hm1, hr1⟩ := next_some_frame hn
    rcases ite_ok h with ⟨hc, h⟩ | ⟨hc, h⟩
    · obtain ⟨⟨ch, bytes⟩, s2, hseq, h⟩ := bind_ok h
      obtain ⟨rfl, rfl⟩ := pure_ok h
      obtain ⟨hv, hm2, hr2, _, hdec⟩ := Parse.U8.decodeUtf8Sequence_spec hseq
      exact ⟨VC.chunk (hm2.trans hm1) (by rw [hr1, hr2]) hv, decodeFirst_isScalar hdec⟩
    have hs1 : VC s s1 := .of_asuf (ASuf.one hm1 hr1 (not_gt_ascii hc))
    rcases ite_ok h with ⟨_, h⟩ | ⟨_, h⟩
    · nomatch h
    rcases ite_ok h with ⟨_, h⟩ | ⟨_, h⟩
    · exact decodeElispCharEscape_ok h hs1
    · obtain ⟨rfl, rfl⟩ := pure_ok h
      exact ⟨hs1, isScalar_of_lt_256 initial.toNat_lt⟩

theorem parseElispChar_vc {f : Nat} {s s' : St} {r : Nat}
    (h : parseElispChar f s = .ok r s') : VC s s' := (parseElispChar_ok h).1

end Parse.InTok

namespace Parse.U8
open Parse.InTok

/-! ### one relation for every source

  `Eats s s'`: `s'` is reached from `s` by consuming a chunk that is well-formed provided the
  input at `s` can be trusted (`SV s`: the unread input of the `&str` source is well-formed; for
  the sources that validate `SV` says nothing, and the chunk is well-formed because it was
  checked).  For the `&str` source it carries `SV` along (`Eats.sv`), for the others it is `VC`
  (`Eats.vc`). -/

def Eats (s s' : St) : Prop := Ate (fun w => SV s → valid w = true) s s'

theorem Eats.of_vc {s s' : St} (h : VC s s') : Eats s s' := Ate.mono (vc_iff.1 h) fun hv _ => hv

theorem Eats.of_asuf {s s' : St} (h : ASuf s s') : Eats s s' := .of_vc (VC.of_asuf h)

theorem Eats.sv {s s' : St} (h : Eats s s') (hs : SV s) : SV s' := by
  obtain ⟨hm, w, hv, hr⟩ := h
  intro hm'
  exact valid_of_append_left (hv hs) (hr ▸ hs (hm ▸ hm'))

theorem Eats.trans {a b c : St} (h1 : Eats a b) (h2 : Eats b c) : Eats a c :=
  h1.comp h2 fun v1 v2 hs => valid_append (v1 hs) (v2 (h1.sv hs))

theorem Eats.vc {s s' : St} (h : Eats s s') (hm : s.rd.mode ≠ .str) : VC s s' :=
  Ate.mono h fun hv => hv (fun h => absurd h hm)

theorem Eats.asuf {a b c : St} (h : Eats a b) (h2 : ASuf b c) : Eats a c := h.trans (.of_asuf h2)

/-- `parse_symbol_bytes` behind a well-formed scratch prefix: the `&str` source stops at an ASCII
    byte or at the end, the other sources validate the name -/
theorem parseSymbolBytes_eats {scratch : List UInt8} {s s' : St} {name : List UInt8}
    (h : parseSymbolBytes scratch s = .ok name s') (hsc : valid scratch = true) : Eats s s' := by
  obtain ⟨hname, hr, hmode, hv⟩ := parseSymbolBytes_spec h
  refine ⟨hmode, s.rd.rest.take (symLen s.rd.mode s.rd.rest), fun hs => ?_,
    by rw [hr, List.take_append_drop]⟩
  by_cases hm : s.rd.mode = .str
  · exact (valid_cut_symLen _ (hs hm)).1
  · rw [← valid_append_iff_of_valid_left _ hsc, ← hname]; exact hv hm

/-- `parse_r6rs_str` from a well-formed scratch buffer: the body consumed (closing quote
    included) drives the automaton as the bytes returned do (`parseR6rsStr_inv`), and those are
    well-formed when the input can be trusted -/
theorem parseR6rsStr_eats {f : Nat} {acc : List UInt8} {S S' : St} {out : List UInt8}
    (h : parseR6rsStr f acc S = .ok out S') (hacc : valid acc = true) : Eats S S' := by
  obtain ⟨hmode, w, hr, hsync, _⟩ := parseR6rsStr_inv f h
  refine ⟨hmode, w ++ [34], fun hs => ?_, by rw [hr, List.append_assoc]; rfl⟩
  have hw := valid_eq_of_run (hsync [] (by rw [valid_iff.mp hacc]; rfl))
  rw [List.nil_append] at hw
  rw [valid_snoc_ascii w (by decide), hw]
  exact r6rsStr_call_valid h hacc hs

/-- a body that ends with the closing quote, `&str` source: cut out of well-formed input at an
    ASCII byte -/
theorem Eats.of_lastQ {s s' : St} (h : LastQ s s') (hm : s.rd.mode = .str) : Eats s s' := by
  obtain ⟨hmode, _, ⟨pre, rfl⟩, hr⟩ := h
  refine ⟨hmode, pre ++ [34], fun hs => ?_, hr⟩
  have hv := hs hm
  rw [hr, List.append_assoc] at hv
  rw [valid_snoc_ascii pre (by decide)]
  exact (valid_split_ascii hv (by decide)).1

end Parse.U8
end Lexpr
