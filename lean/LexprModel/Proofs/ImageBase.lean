/-
  ImageBase — C13, the image of the parser: what the scanners below `parse_token` can return.

  Inversion lemmas ("if the call succeeded, then …"): `parse_symbol` (the name is the scratch
  prefix followed by the unread bytes up to the first terminator, never the lone dot, well-formed
  unless the source is a `&str`), the integer scanners (`PosInt ≤ u64::MAX`,
  `i64::MIN ≤ NegInt < 0`), the two character readers (a Unicode scalar value).  The functions
  that dispatch between the number scanners are walked once, for any postcondition (`NumLeaves`).
  `decode_utf8_sequence` is inverted in `Tokens.lean` (`dus_inv`, which C08 shares).
-/
import LexprModel.Proofs.Utf8Parse
import LexprModel.Proofs.Numbers
namespace Lexpr
namespace Parse
namespace Image
open Utf8

theorem symLen_take_nonterm (m : Mode) :
    ∀ rest : List UInt8, ∀ b ∈ rest.take (symLen m rest), symTermSlice b = false := by
  intro rest
  induction rest with
  | nil => intro b hb; simp [symLen] at hb
  | cons c cs ih =>
    intro b hb
    by_cases hc : symTerm m c = true
    · simp [symLen, hc] at hb
    · have hc' : symTerm m c = false := by simpa using hc
      simp only [symLen, hc', Bool.false_eq_true, if_false, List.take_succ_cons,
        List.mem_cons] at hb
      rcases hb with rfl | hb
      · rw [← Parse.symTerm_eq m b]; exact hc'
      · exact ih b hb

theorem psb_inv {scratch name : List UInt8} {s s' : St}
    (h : parseSymbolBytes scratch s = .ok name s') :
    ∃ body, name = scratch ++ body ∧ body = s.rd.rest.take (symLen s.rd.mode s.rd.rest) ∧
      (∀ b ∈ body, symTermSlice b = false) ∧ name ≠ [46] ∧
      (s.rd.mode ≠ .str → Utf8.valid name = true) ∧ s'.rd.mode = s.rd.mode := by
  obtain ⟨hn, -, hm, h46, hv, -⟩ := parseSymbolBytes_result h
  exact ⟨_, hn, rfl, symLen_take_nonterm _ _, (fun hdot => by rw [hdot] at h46; cases h46),
    hv.resolve_left, hm⟩

theorem psb_body_cases {s : St} {body : List UInt8}
    (h : body = s.rd.rest.take (symLen s.rd.mode s.rd.rest)) :
    body = [] ∨ ∃ tl, body = s.rd.rest.head?.getD 0 :: tl := by
  cases hr : s.rd.rest with
  | nil => exact Or.inl (by rw [h, hr]; rfl)
  | cons c tl =>
    rw [hr] at h
    by_cases hc : symTerm s.rd.mode c = true
    · exact Or.inl (by simpa [symLen, hc] using h)
    · exact Or.inr ⟨_, by simpa [symLen, hc] using h⟩

theorem psb_body_head {s : St} {c : UInt8} {tl : List UInt8}
    (h : s.rd.rest.take (symLen s.rd.mode s.rd.rest) = c :: tl) :
    s.rd.rest.head?.getD 0 = c := by
  rcases psb_body_cases h.symm with h0 | ⟨_, h1⟩
  · cases h0
  · exact (List.cons.inj h1).1.symm

theorem psb_take_head {s : St} {c : UInt8} {tl : List UInt8} (hr : s.rd.rest = c :: tl)
    (hc : symTermSlice c = false) :
    ∃ tl', s.rd.rest.take (symLen s.rd.mode s.rd.rest) = c :: tl' := by
  have : symTerm s.rd.mode c = false := by rw [Parse.symTerm_eq]; exact hc
  rw [hr]
  exact ⟨tl.take (symLen s.rd.mode tl), by simp [symLen, this]⟩

theorem psb_peeked {pk : UInt8} {tl0 name : List UInt8} {s s' : St}
    (h : parseSymbolBytes [] s = .ok name s') (hr : s.rd.rest = pk :: tl0)
    (hc : symTermSlice pk = false) :
    ∃ tl, name = pk :: tl ∧ (∀ b ∈ pk :: tl, symTermSlice b = false) ∧ pk :: tl ≠ [46] ∧
      (s.rd.mode ≠ .str → Utf8.valid (pk :: tl) = true) := by
  obtain ⟨body, rfl, hbody, hnt, hdot, hv, -⟩ := psb_inv h
  obtain ⟨tl, htl⟩ := psb_take_head hr hc
  rw [htl] at hbody
  subst hbody
  exact ⟨tl, rfl, hnt, hdot, hv⟩

theorem decodeFirst_append {bs r : List UInt8} {c : Nat} (x : List UInt8)
    (h : decodeFirst bs = some (c, r)) : decodeFirst (bs ++ x) = some (c, r ++ x) := by
  obtain ⟨-, b0, cont, rfl, -, -, happ⟩ := decodeFirst_inv h
  simpa using happ (r ++ x)

/-- the integers the scanners can return: a `PosInt` fits `u64`, a `NegInt` is a negative `i64`;
    nothing is claimed of floats here -/
def NumOK : Number → Prop
  | .pos n => n ≤ u64Max
  | .neg i => i64Min ≤ i ∧ i < 0
  | .flt _ => True

theorem ofSigned_wrappingNeg {sig : Nat} (hs : sig ≤ u64Max)
    (hneg : ¬ wrappingNeg (asI64 sig) > 0) : NumOK (Number.ofSigned (wrappingNeg (asI64 sig))) := by
  have hlo : i64Min ≤ wrappingNeg (asI64 sig) := by
    simp only [wrappingNeg, asI64, i64Min, u64Max, beq_iff_eq] at hs ⊢
    split <;> split <;> omega
  unfold Number.ofSigned
  split
  · show (wrappingNeg (asI64 sig)).toNat ≤ u64Max
    simp only [u64Max]; omega
  · exact ⟨hlo, by omega⟩

theorem digitVal_lt {radix : Nat} {c : UInt8} {d : Nat} (h : digitVal radix c = some d) : d < 16 :=
  Parse.digitVal_lt h

/-- What a postcondition `Q` of the number parsers rests on: a postcondition `R` of the three
    float scanners, and `Q` of each way a number is made of the significand.  The functions that
    dispatch between them (`parse_num_tail` … `parse_radix_token`, the leading-digit sub-parser)
    are then walked once, for every such `Q` (`*_leaf`). -/
structure NumLeaves (cfg : Cfg) (R : Nat → Prop) (Q : Number → Prop) : Prop where
  dec : ∀ {fuel : Nat} {pos : Bool} {sig : Nat} {e : Int} {s s' : St} {f : Nat},
    sig ≤ u64Max → parseDecimal cfg fuel pos sig e s = .ok f s' → R f
  exp : ∀ {fuel : Nat} {pos : Bool} {sig : Nat} {e : Int} {s s' : St} {f : Nat},
    sig ≤ u64Max → parseExponent cfg fuel pos sig e s = .ok f s' → R f
  long : ∀ {radix : Nat} {pos : Bool} {sig fuel e : Nat} {s s' : St} {f : Nat},
    sig ≤ u64Max → parseLongInteger cfg radix pos sig fuel e s = .ok f s' → R f
  flt : ∀ f, R f → Q (Number.ofF64 f)
  pos : ∀ sig, sig ≤ u64Max → Q (Number.ofUnsigned sig)
  negF : ∀ sig, sig ≤ u64Max → Q (Number.ofF64 (F64.neg (F64.ofNat sig)))
  negI : ∀ sig, sig ≤ u64Max → ¬ wrappingNeg (asI64 sig) > 0 →
    Q (Number.ofSigned (wrappingNeg (asI64 sig)))

section leaves
variable {cfg : Cfg} {R : Nat → Prop} {Q : Number → Prop} (L : NumLeaves cfg R Q)
include L

theorem parseNumTail_leaf {fuel radix : Nat} {pos : Bool} {sig : Nat} {s s' : St}
    {n : Number} (h : parseNumTail cfg fuel radix pos sig s = .ok n s') (hs : sig ≤ u64Max) :
    Q n := by
  unfold parseNumTail at h
  obtain ⟨c, s1, _, h⟩ := bind_ok h
  rcases ite_ok h with ⟨_, h⟩ | ⟨_, h⟩
  · rcases ite_ok h with ⟨_, h⟩ | ⟨_, h⟩
    · cases h
    · obtain ⟨f, hf, rfl⟩ := map_ok h; exact L.flt f (L.dec hs hf)
  rcases ite_ok h with ⟨_, h⟩ | ⟨_, h⟩
  · rcases ite_ok h with ⟨_, h⟩ | ⟨_, h⟩
    · cases h
    · obtain ⟨f, hf, rfl⟩ := map_ok h; exact L.flt f (L.exp hs hf)
  rcases ite_ok h with ⟨_, h⟩ | ⟨_, h⟩
  · obtain ⟨rfl, _⟩ := pure_ok h
    exact L.pos sig hs
  · rcases ite_ok h with ⟨_, h⟩ | ⟨hneg, h⟩ <;> obtain ⟨rfl, _⟩ := pure_ok h
    · exact L.negF sig hs
    · exact L.negI sig hs hneg

theorem numLoop_leaf {radix : Nat} {pos : Bool} (hr : 0 < radix) :
    ∀ (f res : Nat) {s s' : St} {n : Number}, numLoop cfg radix pos f res s = .ok n s' →
      res ≤ u64Max → Q n := by
  intro f
  induction f with
  | zero => intro res s s' n h; cases h
  | succ f ih =>
    intro res s s' n h hres
    unfold numLoop at h
    obtain ⟨c, s1, _, h⟩ := bind_ok h
    cases hd : digitVal radix c with
    | none => rw [hd] at h; exact parseNumTail_leaf L h hres
    | some d =>
      rw [hd] at h
      dsimp only at h
      rcases ite_ok h with ⟨_, h⟩ | ⟨hlt, h⟩
      · cases h
      · obtain ⟨_, s2, _, h⟩ := bind_ok h
        rcases ite_ok h with ⟨_, h⟩ | ⟨hov, h⟩
        · obtain ⟨g, hg, rfl⟩ := map_ok h; exact L.flt g (L.long hres hg)
        · exact ih _ h ((Numbers.overflow_false_iff hr (by omega)).mp (by simpa using hov))

theorem parseNumLiteral_leaf {fuel radix : Nat} {pos : Bool} (hr : 0 < radix)
    {s s' : St} {n : Number} (h : parseNumLiteral cfg fuel radix pos s = .ok n s') : Q n := by
  unfold parseNumLiteral at h
  obtain ⟨a, s1, _, h⟩ := bind_ok h
  cases a with
  | none => cases h
  | some c =>
    dsimp only at h
    cases hd : digitVal radix c with
    | none => rw [hd] at h; cases h
    | some d =>
      rw [hd] at h
      dsimp only at h
      rcases ite_ok h with ⟨_, h⟩ | ⟨hlt, h⟩
      · cases h
      · refine numLoop_leaf L hr _ _ h ?_
        have := digitVal_lt hd
        simp only [u64Max]; omega

theorem parseRadixLiteral_leaf {fuel radix : Nat} (hr : 0 < radix)
    {s s' : St} {n : Number} (h : parseRadixLiteral cfg fuel radix s = .ok n s') : Q n := by
  unfold parseRadixLiteral at h
  obtain ⟨c, s1, _, h⟩ := bind_ok h
  iterate 2
    rcases ite_ok h with ⟨_, h⟩ | ⟨_, h⟩
    · obtain ⟨_, s2, _, h⟩ := bind_ok h
      exact parseNumLiteral_leaf L hr h
  exact parseNumLiteral_leaf L hr h

theorem parseNumToken_leaf {fuel : Nat} {pos : Bool}
    {s s' : St} {n : Number} (h : parseNumToken cfg fuel pos s = .ok n s') : Q n := by
  unfold parseNumToken at h
  obtain ⟨m, s1, h1, h⟩ := bind_ok h
  rw [(expectNumberEnd_inv h).1]
  exact parseNumLiteral_leaf L (by decide) h1

theorem parseRadixToken_leaf {fuel radix : Nat} (hr : 0 < radix)
    {s s' : St} {n : Number} (h : parseRadixToken cfg fuel radix s = .ok n s') : Q n := by
  unfold parseRadixToken at h
  obtain ⟨m, s1, h1, h⟩ := bind_ok h
  rw [(expectNumberEnd_inv h).1]
  exact parseRadixLiteral_leaf L hr h1

theorem wholeNumber_leaf {sym : List UInt8} {n : Number}
    (h : wholeNumber cfg sym = some n) : Q n := by
  unfold wholeNumber at h
  dsimp only at h
  split at h
  · rename_i m s' hp
    rcases ite_eq_some h with ⟨_, h⟩ | ⟨_, h⟩
    · cases h; exact parseNumLiteral_leaf L (by decide) hp
    · cases h
  · cases h

end leaves

theorem numOK_leaves (cfg : Cfg) : NumLeaves cfg (fun _ => True) NumOK where
  dec _ _ := trivial
  exp _ _ := trivial
  long _ _ := trivial
  flt _ _ := trivial
  pos _ hs := hs
  negF _ _ := trivial
  negI _ hs hneg := ofSigned_wrappingNeg hs hneg

theorem parseNumToken_inv {cfg : Cfg} {fuel : Nat} {pos : Bool}
    {s s' : St} {n : Number} (h : parseNumToken cfg fuel pos s = .ok n s') : NumOK n :=
  parseNumToken_leaf (numOK_leaves cfg) h

theorem parseRadixToken_inv {cfg : Cfg} {fuel radix : Nat} (hr : 0 < radix)
    {s s' : St} {n : Number} (h : parseRadixToken cfg fuel radix s = .ok n s') : NumOK n :=
  parseRadixToken_leaf (numOK_leaves cfg) hr h

theorem wholeNumber_inv {cfg : Cfg} {sym : List UInt8} {n : Number}
    (h : wholeNumber cfg sym = some n) : NumOK n :=
  wholeNumber_leaf (numOK_leaves cfg) h

theorem parseR6rsChar_inv {fuel : Nat} {s s' : St} {c : Nat}
    (h : parseR6rsChar fuel s = .ok c s') : isScalar c = true := (InTok.parseR6rsChar_ok h).2

theorem parseElispChar_inv {fuel : Nat} {s s' : St} {c : Nat}
    (h : parseElispChar fuel s = .ok c s') : isScalar c = true := (InTok.parseElispChar_ok h).2

end Image
end Parse
end Lexpr
