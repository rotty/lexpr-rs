/-
  One statement per function, one calculus, one walk.

  `Run m lv s s0 ko ke Q N F`: `m` is run in state `s` of a call that started in `s0`.  A result
  `a` in `s'` has `Adv s0 s'`, has consumed at least `ko a` bytes since `s0` and satisfies `Q a s'`;
  an error `e` has consumed at least `ke e` bytes, says where it was raised (`Raised s0 s' e`) and,
  if it is a syntax error, its code meets the requirement `KOf lv` (which codes the lexer / the
  parser may raise at the end of the input, and where); a panic only if `N` (no byte to `discard`,
  no depth budget, an input of `i32::MAX` bytes); `fuel` only if `F`.  Progress.lean, Safety.lean
  and Locations.lean read their statements off this one (`Run.spec`, `Run.safe`, `Run.lspec`).

  The rules follow Hoare logic with a reference state: the fact `At0 k s0 s` about the current
  state is in the context and `k` is a numeral, so that the byte counts are closed by evaluation.
  `run_walk [lemmas]` (at the end of the file, with the tactics that close what it leaves) applies
  them along a `do` block.
-/
import Lean.Elab.Tactic
import LexprModel.Proofs.Consume
import LexprModel.Proofs.Monad
namespace Lexpr
namespace Parse

namespace Locations

/-- the EOF codes that are raised only when the input is exhausted -/
def strictEof : Code → Bool
  | .eofList | .eofVector | .eofValue => true
  | _ => false

/-- the codes the lexer (`parse_token` and below, `parse_number`) can raise -/
def lexCode : Code → Bool
  | .eofValue | .eofString | .eofChar | .expectedSomeIdent | .expectedSomeValue | .invalidEscape
  | .invalidNumber | .invalidSymbol | .numberOutOfRange | .invalidUnicodeCodePoint
  | .invalidCharacterConstant => true
  | _ => false

/-- lexer codes without a side condition -/
def plainCode : Code → Bool
  | .expectedSomeIdent | .expectedSomeValue | .invalidEscape | .invalidNumber | .numberOutOfRange
  | .invalidUnicodeCodePoint | .invalidCharacterConstant => true
  | _ => false

def eofLex : Code → Bool
  | .eofValue | .eofString | .eofChar => true
  | _ => false

end Locations
open Locations (strictEof lexCode plainCode eofLex)

/-- whose codes: the lexer's (`parse_token` and below, `parse_number`) or the parser's -/
inductive Lv where | lex | parse
  deriving DecidableEq

/-- a lemma about the lexer serves in the parser -/
def Lv.le : Lv → Lv → Bool
  | .parse, .lex => false
  | _, _ => true

/-- What is required of the code `c` of an error that surfaces in `s` from a call started in `s0`.
    Lexer: one of the eleven lexer codes; `eofValue` only with no input left, `invalidSymbol` only
    with input left; `eofString` / `eofChar` with no input left or right after a consumed byte that
    is not a hex digit (the two hex-escape scanners).  Parser: `eofList`, `eofVector`, `eofValue`
    only with no input left. -/
def KOf : Lv → Code → St → St → Prop
  | .lex, c, s0, s => lexCode c = true ∧ (c = .eofValue → s.rd.rest = []) ∧
      (c = .invalidSymbol → s.rd.rest ≠ []) ∧
      (c = .eofString ∨ c = .eofChar →
        s.rd.rest = [] ∨ ∃ pre b, pre ++ b :: s.rd.rest = s0.rd.rest ∧ hexVal b = none)
  | .parse, c, _, s => strictEof c = true → s.rd.rest = []

theorem KOf.plain {lv : Lv} {c : Code} {s0 s : St} (h : plainCode c = true) : KOf lv c s0 s := by
  cases lv <;> cases c <;> first
    | exact absurd h (by decide)
    | exact ⟨rfl, nofun, nofun, by rintro (h | h) <;> cases h⟩
    | exact nofun

theorem KOf.atEnd {lv : Lv} {c : Code} {s0 s : St} (h : eofLex c = true) (hr : s.rd.rest = []) :
    KOf lv c s0 s := by
  cases lv
  · cases c <;> first
      | exact absurd h (by decide)
      | exact ⟨rfl, fun _ => hr, nofun, fun _ => .inl hr⟩
  · exact fun _ => hr

theorem KOf.loose {c : Code} {s0 s : St} (h : strictEof c = false) : KOf .parse c s0 s :=
  fun h' => by rw [h] at h'; cases h'

theorem KOf.parseEnd {c : Code} {s0 s : St} (hr : s.rd.rest = []) : KOf .parse c s0 s := fun _ => hr

theorem KOf.shift {lv : Lv} {c : Code} {s0 s1 s : St} (h0 : Adv s0 s1) (h : KOf lv c s1 s) :
    KOf lv c s0 s := by
  cases lv
  · obtain ⟨j, -, hj⟩ := h0.take_drop
    refine ⟨h.1, h.2.1, h.2.2.1, fun hc => (h.2.2.2 hc).imp id ?_⟩
    rintro ⟨pre, b, hp, hb⟩
    exact ⟨_ ++ pre, b, by rw [List.append_assoc, hp]; exact hj.symm, hb⟩
  · exact h

theorem KOf.later {c : Code} {s0 s1 s2 : St} (hk : KOf .parse c s0 s1) (h : Adv s1 s2) :
    KOf .parse c s0 s2 := fun hc => h.nil (hk hc)

theorem KOf.mono {lv1 lv : Lv} {c : Code} {s0 s : St} (hl : lv1.le lv = true) (h : KOf lv1 c s0 s) :
    KOf lv c s0 s := by
  cases lv1 <;> cases lv <;> first | exact h | cases hl
  intro hs
  cases c <;> first | exact h.2.1 rfl | exact absurd hs (by decide) | exact absurd h.1 (by decide)

/-- `s` is reached from `s0`, at least `k` bytes further on.  (`Progress.Ext` is its projection to
    what the statements of Progress.lean mention; `Spans.Mv` is the like over `Reach`, which forgets
    the depth and knows the position.) -/
structure At0 (k : Nat) (s0 s : St) : Prop where
  adv : Adv s0 s
  len : s.rd.rest.length + k ≤ s0.rd.rest.length

theorem At0.refl (s : St) : At0 0 s s := ⟨.refl s, Nat.le_refl _⟩
theorem At0.trans {a b : Nat} {s0 s1 s2 : St} (h1 : At0 a s0 s1) (h2 : At0 b s1 s2) :
    At0 (a + b) s0 s2 := ⟨h1.adv.trans h2.adv, by have := h1.len; have := h2.len; omega⟩
theorem At0.mono {a b : Nat} {s0 s1 : St} (h : At0 a s0 s1) (hb : b ≤ a) : At0 b s0 s1 :=
  ⟨h.adv, by have := h.len; omega⟩

theorem At0.depth {k : Nat} {s0 s : St} (h : At0 k s0 s) : s.depth = s0.depth := h.adv.depth

theorem At0.consume (s : St) (n : Nat) :
    At0 (min n s.rd.rest.length) s { s with rd := s.rd.consume n } :=
  ⟨Adv.consume s n, by simp only [Rd.consume_length]; omega⟩

/-- the byte consumed last, seen from the start of the call -/
theorem At0.last {k : Nat} {s0 s1 s : St} {b : UInt8} (h : At0 k s0 s1)
    (hl : s1.rd.rest = b :: s.rd.rest) : ∃ pre, pre ++ b :: s.rd.rest = s0.rd.rest := by
  obtain ⟨j, -, hj⟩ := h.adv.take_drop
  exact ⟨_, by rw [← hl]; exact hj.symm⟩

theorem KOf.badHex {c : Code} {k : Nat} {s0 s1 s : St} {b : UInt8}
    (h : c = .eofString ∨ c = .eofChar) (hl : s1.rd.rest = b :: s.rd.rest) (hb : hexVal b = none)
    (h0 : At0 k s0 s1) : KOf .lex c s0 s := by
  obtain ⟨pre, hp⟩ := h0.last hl
  rcases h with rfl | rfl <;> exact ⟨rfl, nofun, nofun, fun _ => .inr ⟨pre, b, hp, hb⟩⟩

def Run {α : Type} (m : P α) (lv : Lv) (s s0 : St) (ko : α → Nat) (ke : Err → Nat)
    (Q : α → St → Prop) (N F : Prop) : Prop :=
  (m s).Tri (fun a s' => At0 (ko a) s0 s' ∧ Q a s')
    (fun e s' => At0 (ke e) s0 s' ∧ Raised s0 s' e ∧ ∀ c l k, e = .syntax c l k → KOf lv c s0 s')
    N F

/-- the error post-condition of `Run`, moved from a call started in `s` to its caller's `s0` -/
theorem Run.err_shift {lv1 lv : Lv} {k k1 k' : Nat} {s0 s s' : St} {e : Err} (h : At0 k s0 s)
    (hl : lv1.le lv = true) (hk : k' ≤ k + k1)
    (he : At0 k1 s s' ∧ Raised s s' e ∧ ∀ c l k, e = .syntax c l k → KOf lv1 c s s') :
    At0 k' s0 s' ∧ Raised s0 s' e ∧ ∀ c l k, e = .syntax c l k → KOf lv c s0 s' :=
  ⟨(h.trans he.1).mono hk, he.2.1.trans h.adv,
    fun c l k hc => ((he.2.2 c l k hc).mono hl).shift h.adv⟩

section rules
variable {α β : Type} {lv : Lv} {k : Nat} {s0 s : St} {ko : β → Nat} {ke : Err → Nat}
  {Q : β → St → Prop} {N F : Prop}

theorem Run.bind {lv1 : Lv} {m : P α} {f : α → P β} {ko1 : α → Nat} {ke1 : Err → Nat}
    {Q1 : α → St → Prop} {N1 F1 : Prop} (h : At0 k s0 s) (hm : Run m lv1 s s ko1 ke1 Q1 N1 F1)
    (hl : lv1.le lv = true) (hke : ∀ e, ke e ≤ k + ke1 e)
    (hN : s.rd.rest.length + k ≤ s0.rd.rest.length → s.depth = s0.depth → N1 → N)
    (hF : s.rd.rest.length + k ≤ s0.rd.rest.length → F1 → F)
    (hf : ∀ a s', At0 (k + ko1 a) s0 s' → Q1 a s' → Run (f a) lv s' s0 ko ke Q N F) :
    Run (m >>= f) lv s s0 ko ke Q N F :=
  Res.Tri.bind hm (fun a s' hq => hf a s' (h.trans hq.1) hq.2)
    (fun e _ he => Run.err_shift h hl (hke e) he) (hN h.len h.depth) (hF h.len)

theorem Run.tail {lv1 : Lv} {m : P β} {ko1 : β → Nat} {ke1 : Err → Nat} {Q1 : β → St → Prop}
    {N1 F1 : Prop} (h : At0 k s0 s) (hm : Run m lv1 s s ko1 ke1 Q1 N1 F1) (hl : lv1.le lv = true)
    (hko : ∀ a, ko a ≤ k + ko1 a) (hke : ∀ e, ke e ≤ k + ke1 e)
    (hN : s.rd.rest.length + k ≤ s0.rd.rest.length → s.depth = s0.depth → N1 → N)
    (hF : s.rd.rest.length + k ≤ s0.rd.rest.length → F1 → F)
    (hq : ∀ a s', At0 (k + ko1 a) s0 s' → Q1 a s' → Q a s') : Run m lv s s0 ko ke Q N F :=
  Res.Tri.imp hm (fun a s' hq1 => ⟨(h.trans hq1.1).mono (hko a), hq a s' (h.trans hq1.1) hq1.2⟩)
    (fun e _ he => Run.err_shift h hl (hke e) he) (hN h.len h.depth) (hF h.len)

theorem Run.pure {a : β} (h : At0 k s0 s) (hk : ko a ≤ k) (hq : Q a s) :
    Run (pure a : P β) lv s s0 ko ke Q N F := ⟨h.mono hk, hq⟩

/-- raising a syntax error whose position is that of a state `s1` passed on the way -/
theorem Run.rawErr {c : Code} {l col : Nat} {s1 : St} (h : At0 k s0 s) (h1 : Adv s0 s1)
    (h2 : Adv s1 s) (hp : s1.rd.position = ⟨l, col⟩ ∨ s1.rd.peekPosition = ⟨l, col⟩)
    (hk : ke (.syntax c l col) ≤ k) (hK : KOf lv c s0 s) :
    Run (fun s' => Res.err (.syntax c l col) s' : P β) lv s s0 ko ke Q N F :=
  ⟨h.mono hk, ⟨s1, h1, h2, hp⟩, fun _ _ _ hc => by cases hc; exact hK⟩

theorem Run.errAt {c : Code} (h : At0 k s0 s)
    (hk : ke (.syntax c s.rd.position.line s.rd.position.col) ≤ k) (hK : KOf lv c s0 s) :
    Run (errAt c : P β) lv s s0 ko ke Q N F :=
  Run.rawErr h h.adv (.refl s) (.inl rfl) hk hK

theorem Run.peekErr {c : Code} (h : At0 k s0 s)
    (hk : ke (.syntax c s.rd.peekPosition.line s.rd.peekPosition.col) ≤ k) (hK : KOf lv c s0 s) :
    Run (peekErr c : P β) lv s s0 ko ke Q N F :=
  Run.rawErr h h.adv (.refl s) (.inr rfl) hk hK

theorem Run.errAt_bind {c : Code} {f : α → P β} (h : At0 k s0 s)
    (hk : ke (.syntax c s.rd.position.line s.rd.position.col) ≤ k) (hK : KOf lv c s0 s) :
    Run ((Parse.errAt c : P α) >>= f) lv s s0 ko ke Q N F :=
  Run.errAt (β := β) h hk hK

theorem Run.peekErr_bind {c : Code} {f : α → P β} (h : At0 k s0 s)
    (hk : ke (.syntax c s.rd.peekPosition.line s.rd.peekPosition.col) ≤ k) (hK : KOf lv c s0 s) :
    Run ((Parse.peekErr c : P α) >>= f) lv s s0 ko ke Q N F :=
  Run.peekErr (β := β) h hk hK

theorem Run.panicAt {p : Site} (hN : N) : Run (panicAt p : P β) lv s s0 ko ke Q N F := hN

theorem Run.outOfFuel (hF : F) : Run (outOfFuel : P β) lv s s0 ko ke Q N F := hF

theorem Run.ite {c : Prop} [Decidable c] {A B : P β} (hA : c → Run A lv s s0 ko ke Q N F)
    (hB : ¬c → Run B lv s s0 ko ke Q N F) : Run (if c then A else B) lv s s0 ko ke Q N F := by
  split
  · exact hA ‹_›
  · exact hB ‹_›

theorem Run.start {m : P β} (h : At0 0 s s → Run m lv s s ko ke Q N F) : Run m lv s s ko ke Q N F :=
  h (.refl s)

/-- `getRest`, `getMode`, `getPos`, `tokenFuel`, `apiFuel`: the state is read, not changed -/
theorem Run.bind_read {g : St → α} {f : α → P β} (hf : Run (f (g s)) lv s s0 ko ke Q N F) :
    Run ((fun s => Res.ok (g s) s : P α) >>= f) lv s s0 ko ke Q N F := hf

theorem Run.bind_consumeN {n : Nat} {f : Unit → P β} (h : At0 k s0 s)
    (hf : ∀ s', At0 (k + min n s.rd.rest.length) s0 s' → s'.rd.rest = s.rd.rest.drop n →
      Run (f ()) lv s' s0 ko ke Q N F) :
    Run (consumeN n >>= f) lv s s0 ko ke Q N F :=
  hf _ (h.trans (.consume s n)) (Rd.consume_rest n s.rd)

theorem Run.bind_peek {f : Option UInt8 → P β} (h : At0 k s0 s)
    (hke : s.rd.rest.length = 0 → ke .io ≤ k)
    (hf : ∀ a s', At0 k s0 s' → s'.rd.rest = s.rd.rest → a = s'.rd.rest.head? →
      Run (f a) lv s' s0 ko ke Q N F) :
    Run (peek >>= f) lv s s0 ko ke Q N F := by
  show Res.Tri (P.bind peek f s) _ _ _ _
  unfold P.bind peek
  cases hr : s.rd.rest with
  | nil =>
    by_cases hfl : s.rd.faulty = true
    · simp only [hfl, if_true]
      exact ⟨h.mono (hke (by simp [hr])), ⟨h.adv.faulty ▸ hfl, hr⟩, nofun⟩
    · simp only [hfl]; exact hf none s h rfl (by rw [hr]; rfl)
  | cons b t =>
    exact hf (some b) { s with rd := { s.rd with peeked := s.rd.peeked || s.rd.mode == .io } }
      ⟨h.adv.trans (Adv.peeked s _), h.len⟩ rfl (by show _ = s.rd.rest.head?; rw [hr]; rfl)

theorem Run.bind_next {f : Option UInt8 → P β} (h : At0 k s0 s)
    (hke : s.rd.rest.length = 0 → ke .io ≤ k)
    (hnone : s.rd.rest = [] → s.rd.rest.length = 0 → Run (f none) lv s s0 ko ke Q N F)
    (hsome : ∀ b s', At0 (k + 1) s0 s' → s.rd.rest = b :: s'.rd.rest →
      Run (f (some b)) lv s' s0 ko ke Q N F) :
    Run (next >>= f) lv s s0 ko ke Q N F := by
  show Res.Tri (P.bind next f s) _ _ _ _
  unfold P.bind next
  cases hr : s.rd.rest with
  | nil =>
    by_cases hfl : s.rd.faulty = true
    · simp only [hfl, if_true]
      exact ⟨h.mono (hke (by simp [hr])), ⟨h.adv.faulty ▸ hfl, hr⟩, nofun⟩
    · simp only [hfl]; exact hnone hr (by rw [hr]; rfl)
  | cons b t =>
    exact hsome b { s with rd := s.rd.consume 1 }
      (h.trans ⟨Adv.consume s 1, by simp [Rd.consume_rest, hr]⟩) (by simp [Rd.consume_rest, hr])

/-- `discard` panics at the end of the input -/
theorem Run.bind_discard {f : Unit → P β} (h : At0 k s0 s) (hne : s.rd.rest = [] → N)
    (hf : ∀ s', At0 (k + 1) s0 s' → (∀ c, some c = s.rd.rest.head? → s.rd.rest = c :: s'.rd.rest) →
      Run (f ()) lv s' s0 ko ke Q N F) :
    Run (discard >>= f) lv s s0 ko ke Q N F := by
  show Res.Tri (P.bind discard f s) _ _ _ _
  unfold P.bind discard
  cases hr : s.rd.rest with
  | nil => exact hne hr
  | cons b t =>
    exact hf _ (h.trans ⟨Adv.consume s 1, by simp [Rd.consume_rest, hr]⟩)
      (fun c hc => by rw [hr] at hc; cases hc; simp [Rd.consume_rest, hr])

theorem Run.weaken {m : P β} {ko' : β → Nat} {ke' : Err → Nat} {Q' : β → St → Prop}
    {N' F' : Prop} (hm : Run m lv s s0 ko' ke' Q' N' F') (hko : ∀ a, ko a ≤ ko' a)
    (hke : ∀ e, ke e ≤ ke' e) (hq : ∀ a s', Q' a s' → Q a s') (hN : N' → N) (hF : F' → F) :
    Run m lv s s0 ko ke Q N F :=
  Res.Tri.imp hm (fun a s' h => ⟨h.1.mono (hko a), hq a s' h.2⟩)
    (fun e _ h => ⟨h.1.mono (hke e), h.2⟩) hN hF

theorem Run.post {m : P β} {Q' : β → St → Prop} (hm : Run m lv s s0 ko ke Q' N F)
    (hq : ∀ a s', Q' a s' → Q a s') : Run m lv s s0 ko ke Q N F :=
  hm.weaken (fun _ => Nat.le_refl _) (fun _ => Nat.le_refl _) hq id id

end rules

section read
variable {α : Type} {m : P α} {lv : Lv} {s : St} {ko : α → Nat} {ke : Err → Nat}
  {Q : α → St → Prop} {N F : Prop}

theorem Run.ok {a : α} {s' : St} (h : Run m lv s s ko ke Q N F) (hr : m s = .ok a s') :
    At0 (ko a) s s' ∧ Q a s' := Res.Tri.ok h hr

theorem Run.err {e : Err} {s' : St} (h : Run m lv s s ko ke Q N F) (hr : m s = .err e s') :
    At0 (ke e) s s' ∧ Raised s s' e ∧ ∀ c l k, e = .syntax c l k → KOf lv c s s' :=
  Res.Tri.err h hr

/-- The part that holds of every program over the reader primitives (`Lexes`, Lexes.lean) and, by
    this, of the functions above `attempt` too: no side condition, whatever `N` and `F` are. -/
theorem Run.lexes (h : Run m lv s s ko ke Q N F) :
    Progress.Sat (m s) (fun _ s' => Adv s s') (fun e s' => Adv s s' ∧ Raised s s' e) True :=
  Res.Tri.imp h (fun _ _ h => h.1.adv) (fun _ _ h => ⟨h.1.adv, h.2.1⟩) (fun _ => trivial)
    (fun _ => trivial)

theorem Run.no_panic (h : Run m lv s s ko ke Q N F) (hN : ¬N) (p : Site) : m s ≠ .panic p :=
  fun hr => hN (Res.Tri.panic h hr)

theorem Run.no_fuel (h : Run m lv s s ko ke Q N F) (hF : ¬F) : m s ≠ .fuel :=
  fun hr => hF (Res.Tri.fuel h hr)

end read

open Lean Elab Tactic Meta in
/-- `run_head t` succeeds iff the goal is `Run prog ..` and the head constant `c` of `prog` fits the
    head `h` of `t`: `h` is `c`, or `h` is a name `c_…` (the facts about `c` are called so:
    `c_run`, `c_ih`); an `h` that is not a name is not tested.  `run_head >>= t` wants `prog` to
    be `m >>= f` and tests the head constant of `m`.  No rule or lemma is elaborated before this
    test has passed: elaborating one that does not fit is what is slow. -/
elab "run_head " b:(">>= ")? t:term : tactic => do
  let g := (← instantiateMVars (← getMainTarget)).cleanupAnnotations
  unless g.getAppFn.isConstOf ``Run do throwError "not a Run goal"
  let mut r := g.getAppArgs[1]!
  if b.isSome then
    unless r.isAppOfArity ``Bind.bind 6 do throwError "not a bind"
    r := r.getAppArgs[4]!
  let h := if t.raw.isOfKind ``Lean.Parser.Term.app then t.raw[0] else t.raw
  if h.isIdent then
    let ok := match r.getAppFn, h.getId.eraseMacroScopes with
      | .const c@(.str _ cs) _, n@(.str _ ns) => c == n || (cs ++ "_").isPrefixOf ns
      | _, _ => false
    unless ok do throwError "head mismatch"

/-! One byte for a value and for a syntax error, none at the end of the input or for a failing
    read: the counts of `next_value` and of what only skips trivia.  They carry the name of
    Progress.lean because its statements are written with them; the walk needs them here. -/

namespace Progress

def optN {α : Type} : Option α → Nat
  | some _ => 1
  | none => 0

def synN : Err → Nat
  | .syntax _ _ _ => 1
  | .io => 0

theorem synN_le (e : Err) : synN e ≤ 1 := by cases e <;> simp [synN]
theorem optN_le {α : Type} (a : Option α) : optN a ≤ 1 := by cases a <;> simp [optN]

end Progress

/-- The byte counts `ko a ≤ k`, `∀ e, ke e ≤ k + ke1 e`: the left side is `0`, or both sides
    evaluate to numerals.  A fuel bound `len + k ≤ len0 → F1 → F`: the callee cannot run out of
    fuel (`F1` is `False`), or it is linear arithmetic, like whatever else mentions the lengths.
    `Lv.le`: by evaluation. -/
macro "run_arith" : tactic => `(tactic| first
  | with_reducible exact Nat.zero_le _
  | with_reducible exact rfl
  | (intro _; first
      | with_reducible exact Nat.zero_le _
      | with_reducible exact False.elim
      | (intros; exact Nat.le_of_ble_eq_true rfl))
  | exact Nat.le_of_ble_eq_true rfl
  | (intros; first
      | omega
      | (have := Progress.synN_le ‹Err›; omega)
      | (have := Progress.optN_le ‹Option _›; omega))
  | (simp only [Progress.optN, Progress.synN]; intros; omega))

theorem head_ne {l : List UInt8} {c : UInt8} (h : some c = l.head?) : l ≠ [] := by
  rintro rfl; cases h

theorem head_nil {l : List UInt8} (h : none = l.head?) : l = [] :=
  List.head?_eq_none_iff.mp h.symm

theorem head_nil_and_r {l : List UInt8} {a : Option UInt8} {x : Bool} (h : a = l.head?)
    (hx : (x && a.isNone) = true) : l = [] := by
  cases a with
  | none => exact head_nil h
  | some b => simp at hx

theorem head_nil_and_l {l : List UInt8} {a : Option UInt8} {x : Bool} (h : a = l.head?)
    (hx : (a.isNone && x) = true) : l = [] := by
  cases a with
  | none => exact head_nil h
  | some b => simp at hx

/-- no input is left: the last `peek` or `next` found nothing -/
macro "run_nil" : tactic => `(tactic| with_reducible first
  | assumption
  | exact head_nil (by assumption)
  | exact head_nil_and_r (by assumption) (by assumption)
  | exact head_nil_and_l (by assumption) (by assumption))

/-- the requirement on a concrete error code -/
macro "run_k" : tactic => `(tactic| first
  | exact KOf.plain rfl
  | exact KOf.atEnd rfl (by run_nil)
  | exact KOf.badHex (by decide) ‹_ = _ :: _› ‹hexVal _ = none› (by assumption)
  | exact KOf.badHex (by decide) (‹∀ c, some c = _ → _ = c :: _› _ (by assumption))
      ‹hexVal _ = none› (by assumption)
  | exact KOf.loose rfl
  | exact KOf.parseEnd (by run_nil))

/-- `rest = [] → N` in front of a `discard`: the last `peek` returned a byte, or the last
    `peekOrNull` a byte that the tests on the way show not to be 0, or the function may panic here -/
macro "run_ne" : tactic => `(tactic| first
  | (intro h0; exact absurd h0 (by assumption))
  | (intro h0; exact absurd h0 (head_ne (by assumption)))
  | (intro h0; refine absurd h0 (‹(_ : UInt8) ≠ 0 → _ ≠ []› ?_); rintro rfl;
      simp_all (config := { decide := true }))
  | exact id
  | (intro h0; exact Or.inl (congrArg List.length h0)))

/-- `len + k ≤ len0 → N1 → N`: the callee cannot panic, or its condition gives the caller's by
    arithmetic, or it needs a byte and the last `peek` / `peekOrNull` found one -/
macro "run_n" : tactic => `(tactic| first
  | (intro _ _; with_reducible exact False.elim)
  | (intros; omega)
  | (simp only [Progress.optN, Progress.synN]; intros; omega)
  | (intro _ _; run_ne))

/-- a post-condition at `pure` or after a tail call -/
macro "run_q" : tactic => `(tactic| first
  | with_reducible exact fun _ _ _ h => h
  | with_reducible exact True.intro
  | with_reducible assumption
  | (intros; first | with_reducible exact True.intro | with_reducible assumption)
  | (intro h; cases h; done)
  | (intro _; run_nil))

/-- at `m >>= f`, where `t` is the lemma about `m` -/
macro "run_bind " t:term : tactic => `(tactic|
  (run_head >>= $t; refine Run.bind (by assumption) $t rfl ?_ ?_ ?_ ?_; run_arith; run_n;
    run_arith))

/-- at a call in tail position, where `t` is the lemma about it -/
macro "run_tail " t:term : tactic => `(tactic|
  (run_head $t; refine Run.tail (by assumption) $t rfl ?_ ?_ ?_ ?_ ?_; run_arith; run_arith;
    run_n; run_arith; run_q))

/-- `run_walk [lemmas]` follows the `do` block of a goal `Run prog ..`: a primitive has its own
    rule, a call needs its lemma among `lemmas`, `if` and `match` are split.  The fact `At0 k s0 s`
    about the current state is found by `assumption`; byte counts and fuel bounds go to
    `run_arith`, error codes to `run_k`, post-conditions to `run_q`, `discard` to `run_ne`.
    A lemma is tried at a call of `f` only if its NAME is `f` or begins with `f_` (`run_head`):
    that is why an induction hypothesis is renamed before the walk (`have f_ih := @ih`), and why
    the weakenings of `f_run` that the walk uses are called `f_ne`, `f_head`.
    The closing tactics know the shapes in which Lex.lean reads (`match (← peek) with | some b => …`,
    a `peekOrNull` byte that the tests on the way show not to be 0): a `discard` behind another
    test of the peeked byte (`if o == some 40 then discard`) is left as a goal, for
    `Run.bind_discard` by hand. -/
syntax "run_walk" "[" term,* "]" : tactic
macro_rules
  | `(tactic| run_walk [$ts,*]) => `(tactic| repeat' (first
      | with_reducible intro _
      | (run_head ite; refine Run.ite ?_ ?_)
      | (run_head Bind.bind; first
          | (run_head >>= Bind.bind; rw [Lexpr.Parse.bind_assoc])
          | (run_head >>= ite; rw [Lexpr.Parse.ite_bind])
          | (run_head >>= Pure.pure; rw [Lexpr.Parse.pure_bind])
          | ((first
                | run_head >>= Lexpr.Parse.getRest | run_head >>= Lexpr.Parse.getMode
                | run_head >>= Lexpr.Parse.getPos | run_head >>= Lexpr.Parse.tokenFuel
                | run_head >>= Lexpr.Parse.apiFuel);
              refine Run.bind_read ?_)
          | (run_head >>= Lexpr.Parse.peek; refine Run.bind_peek (by assumption) ?_ ?_; run_arith)
          | (run_head >>= Lexpr.Parse.next;
              refine Run.bind_next (by assumption) ?_ ?_ ?_; run_arith)
          | (run_head >>= Lexpr.Parse.discard;
              refine Run.bind_discard (by assumption) ?_ ?_; run_ne)
          | (run_head >>= Lexpr.Parse.consumeN; refine Run.bind_consumeN (by assumption) ?_)
          | (run_head >>= Lexpr.Parse.errAt;
              refine Run.errAt_bind (by assumption) ?_ ?_; run_arith; run_k)
          | (run_head >>= Lexpr.Parse.peekErr;
              refine Run.peekErr_bind (by assumption) ?_ ?_; run_arith; run_k)
          $[| run_bind $ts]*)
      | (run_head Pure.pure; refine Run.pure (by assumption) ?_ ?_; run_arith; run_q)
      | (run_head Lexpr.Parse.errAt; refine Run.errAt (by assumption) ?_ ?_; run_arith; run_k)
      | (run_head Lexpr.Parse.peekErr; refine Run.peekErr (by assumption) ?_ ?_; run_arith; run_k)
      | (run_head Lexpr.Parse.outOfFuel; refine Run.outOfFuel ?_; run_arith)
      | (run_head Lexpr.Parse.panicAt; refine Run.panicAt ?_; omega)
      | (run_head Lexpr.Parse.peek; rw [← Lexpr.Parse.bind_pure Lexpr.Parse.peek])
      | (run_head Lexpr.Parse.discard; rw [← Lexpr.Parse.bind_pure Lexpr.Parse.discard])
      $[| run_tail $ts]*
      | dsimp only
      | split))

/-- Start a proof of `Run foo lv s s ..`: unfold `foo` first. -/
syntax "run_walk0" "[" term,* "]" : tactic
macro_rules
  | `(tactic| run_walk0 [$ts,*]) => `(tactic| (refine Run.start ?_; run_walk [$ts,*]))

end Parse
end Lexpr
