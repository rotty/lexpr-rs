/-
  What `parse_token` can return, by the class of the first byte (`parseToken_yields`): read off the
  inversion `parseToken_cases` (TokenCase.lean).
-/
import LexprModel.Proofs.TokenCase
namespace Lexpr
namespace Parse
open C08

/-- the tokens the arm of a class can produce -/
def TokClass.yields (c : TokClass) : Token → Bool
  | .symbol _ | .keyword _ => c.startsName || c == .hash
  | .number _ => c == .hash || c == .minus || c == .plus || c == .digit
  | .bool _ | .nil => c == .hash || c == .alpha
  | .null => c == .alpha
  | .char _ => c == .hash || c == .qmark
  | .string _ | .bytes _ => c == .dquote
  | .listOpen k => (c == .lparen && k == 41) || (c == .lbracket && k == 93)
  | .vecOpen k => (c == .hash && k == 41) || (c == .lbracket && k == 93)
  | .byteVecOpen k => c == .hash && k == 41
  | .quotation _ => c == .quote || c == .quasi || c == .comma

namespace C08
variable {cfg : Cfg} {fuel : Nat} {pk : UInt8} {s s' : St}

theorem yields_symbolToken (o : Options) (name : List UInt8) {c : TokClass}
    (h : (c.startsName || c == .hash) = true) : c.yields (symbolToken o name) = true := by
  rcases symbolToken_cases o name with e | e <;> rw [e] <;> exact h

theorem parseToken_yields {t : Token} (h : parseToken cfg fuel pk s = .ok t s') :
    (tokClass pk).yields t = true := by
  cases parseToken_cases h with
  | fixed hm hp _ =>
    -- each fixed word, under the class of its first byte
    simp only [fixedTok, List.mem_cons, List.not_mem_nil, or_false, Prod.mk.injEq] at hm
    rcases hm with ⟨rfl, rfl⟩ | ⟨rfl, rfl⟩ | ⟨rfl, rfl⟩ | ⟨rfl, rfl⟩ | ⟨rfl, rfl⟩ | ⟨rfl, rfl⟩ |
      ⟨rfl, rfl⟩ | ⟨rfl, rfl⟩ | ⟨rfl, rfl⟩ | ⟨rfl, rfl⟩ | ⟨rfl, rfl⟩ | ⟨rfl, rfl⟩ <;>
    · obtain rfl := Option.some.inj hp
      first | rfl | (cases cfg.opts.brackets <;> rfl)
  | name ha _ _ _ =>
    cases ha with
    | octothorpe hp _ | racket hp _ | colonKw hp _ => subst hp; rfl
    | sign hs | signDot hs => rcases hs with rfl | rfl <;> exact yields_symbolToken _ _ rfl
    | sym hs =>
      rcases hs with ⟨rfl, _⟩ | ⟨rfl, _⟩ | ⟨he, h58, h63⟩
      · exact yields_symbolToken _ _ rfl
      · exact yields_symbolToken _ _ rfl
      · rw [tokClass_ext he h58 h63]; exact yields_symbolToken _ _ rfl
    | letter hc =>
      rw [tokClass_alpha hc]; unfold letterTok
      split; · rfl
      split; · cases cfg.opts.nil <;> rfl
      split <;> rfl
    | whole hc _ =>
      rw [tokClass_digit hc]
      show TokClass.digit.yields (match wholeNumber cfg _ with
        | some n => Token.number n | none => symbolToken cfg.opts _) = true
      split
      · rfl
      · exact yields_symbolToken _ _ rfl
  | hi hhi _ _ _ _ => rw [tokClass_hi hhi]; exact yields_symbolToken _ _ rfl
  | radix hp _ _ _ | r6char hp _ _ | elchar _ hp _ _ | r6str _ hp _ _ => subst hp; rfl
  | num ha _ _ =>
    rcases ha with ⟨_, _, hc, _⟩ | ⟨_, _, rfl⟩ | ⟨_, _, rfl⟩
    · rw [tokClass_digit hc]; rfl
    · rfl
    · rfl
  | @elstr r _ _ _ hp _ _ => subst hp; cases r <;> rfl

end C08
end Parse
end Lexpr
