/-
  The lexer does not look at the recursion budget: running any function below `parse_token`
  (and `parse_token`, `parse_whitespace`, `parse_byte_list` themselves) from a state whose
  `remaining_depth` has been replaced by `d` gives the same result, with `d` in the final state.
  In particular (`d := s.depth`) it does not CHANGE the budget; `ImageDepth.lean` has that directly.
  Used by `ScanBase.lean` for `FrameScan.lean`: the flat token scan of C08 runs the tokenizer
  without tracking the nesting depth.  The judgement holds of the reader primitives and is closed
  under `>>=`, so it holds of every program `Held` describes.
-/
import LexprModel.Proofs.Held
namespace Lexpr
namespace Parse
namespace DepthInd

def setD (d : Nat) (s : St) : St := { s with depth := d }

def rsetD {α : Type} (d : Nat) : Res α → Res α
  | .ok a s => .ok a (setD d s)
  | .err e s => .err e (setD d s)
  | .panic p => .panic p
  | .fuel => .fuel

@[simp] theorem setD_rd (d : Nat) (s : St) : (setD d s).rd = s.rd := rfl
@[simp] theorem setD_depth (d : Nat) (s : St) : (setD d s).depth = d := rfl
@[simp] theorem setD_setD (d e : Nat) (s : St) : setD d (setD e s) = setD d s := rfl
theorem setD_self (s : St) : setD s.depth s = s := rfl

/-- `m` does not read the depth budget -/
structure DInd {α : Type} (m : P α) : Prop where
  eq : ∀ s d, m (setD d s) = rsetD d (m s)

theorem DInd.pure {α : Type} (a : α) : DInd (pure a : P α) := ⟨fun _ _ => rfl⟩
theorem DInd.bind {α β : Type} {m : P α} {f : α → P β} (hm : DInd m) (hf : ∀ a, DInd (f a)) :
    DInd (m >>= f) := by
  constructor
  intro s d
  show P.bind m f (setD d s) = rsetD d (P.bind m f s)
  unfold P.bind
  rw [hm.eq s d]
  cases m s with
  | ok a s' => exact (hf a).eq s' d
  | err e s' => rfl
  | panic p => rfl
  | fuel => rfl
theorem DInd.ite {α : Type} {c : Prop} [Decidable c] {f g : P α} (hf : DInd f) (hg : DInd g) :
    DInd (if c then f else g) := by
  split <;> assumption
theorem DInd.errAt {α : Type} (c : Code) : DInd (errAt c : P α) := ⟨fun _ _ => rfl⟩
theorem DInd.peekErr {α : Type} (c : Code) : DInd (peekErr c : P α) := ⟨fun _ _ => rfl⟩
theorem DInd.panicAt {α : Type} (p : Site) : DInd (panicAt p : P α) := ⟨fun _ _ => rfl⟩
theorem DInd.outOfFuel {α : Type} : DInd (outOfFuel : P α) := ⟨fun _ _ => rfl⟩
theorem DInd.peek : DInd peek := by
  constructor; intro s d
  unfold Parse.peek
  simp only [setD_rd]
  cases s.rd.rest with
  | nil => by_cases hf : s.rd.faulty = true <;> simp [hf, rsetD]
  | cons b bs => rfl
theorem DInd.next : DInd next := by
  constructor; intro s d
  unfold Parse.next
  simp only [setD_rd]
  cases s.rd.rest with
  | nil => by_cases hf : s.rd.faulty = true <;> simp [hf, rsetD]
  | cons b bs => rfl
theorem DInd.discard : DInd discard := by
  constructor; intro s d
  unfold Parse.discard
  simp only [setD_rd]
  cases s.rd.rest <;> rfl
theorem DInd.getMode : DInd getMode := ⟨fun _ _ => rfl⟩
theorem DInd.getPos : DInd getPos := ⟨fun _ _ => rfl⟩
theorem DInd.scan (g : List UInt8 → Nat) : DInd (PrefixDet.scan g) := ⟨fun _ _ => rfl⟩

theorem DInd.finishStr (c : Bool) (bs : List UInt8) : DInd (finishStr c bs) :=
  .bind .getMode fun _ => .ite (.pure _) (.ite (.pure _) (.errAt _))

theorem DInd.parseSymbolBytes (scratch : List UInt8) : DInd (parseSymbolBytes scratch) := by
  rw [PrefixDet.parseSymbolBytes_eq]
  exact .bind .getMode fun _ => .bind (.scan _) fun _ => .bind .peek fun _ =>
    .ite (.errAt _) (.ite (.pure _) (.ite (.pure _) (.ite (.errAt _) (.errAt _))))

/-- the last arm of `parse_token` reads the state as a value, and uses its reader only -/
theorem DInd.badByte : DInd PrefixDet.badByte := by
  constructor
  intro s d
  let pp := s.rd.peekPosition
  exact (DInd.bind .discard fun _ => (⟨fun _ _ => rfl⟩ :
    DInd (fun s' => Res.err (.syntax .expectedSomeValue pp.line pp.col) s' : P Token))).eq s d

theorem DInd.logic : Built.Logic Kind.same (fun m _ => DInd m) where
  prim h := by
    cases h with
    | pure a => exact .pure a
    | errAt c => exact .errAt c
    | peekErr c => exact .peekErr c
    | peek => exact .peek
    | next => exact .next
    | discard => exact .discard
    | panicAt p => exact .panicAt p
    | outOfFuel => exact .outOfFuel
    | skipWs => exact .scan _
    | skipDigits => exact .scan _
    | charName => exact .scan _
    | finishChecked bytes => exact .finishStr _ _
    | badByte => exact .badByte
    | parseSymbolBytes scratch _ => exact .parseSymbolBytes _
    | finishUnchecked bytes _ => exact .finishStr _ _
  bind := DInd.bind
  outL h := h.elim
  outR h := h.elim

theorem DInd.of_held {c : Bool} {α : Type} {m m' : P α} (h : Held Kind.same true c m m') : DInd m :=
  DInd.logic.of_held h

theorem DInd.peekOrNull : DInd peekOrNull := .of_held .peekOrNull
theorem DInd.nextOrNull : DInd nextOrNull := .of_held .nextOrNull
theorem DInd.parseWhitespace : DInd parseWhitespace := .of_held .parseWhitespace
theorem DInd.parseToken (cfg : Cfg) (f : Nat) (pk : UInt8) : DInd (parseToken cfg f pk) :=
  .of_held (.parseToken trivial cfg pk (.refl f))
theorem DInd.endSeq (close : UInt8) : DInd (endSeq close) := .of_held (.endSeq close)
theorem DInd.parseByteList (cfg : Cfg) (f : Nat) (close : UInt8) :
    DInd (parseByteList cfg f close) :=
  .of_held (.parseByteList cfg close (.refl f))

end DepthInd
end Parse
end Lexpr
