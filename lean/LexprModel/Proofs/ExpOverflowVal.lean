/-
  Property C05, written exponents beyond `i32`, part 2: the result `parse_exponent_overflow`
  gives (`ExpOverflow.scan_over`) is what the exact value of the literal demands.

    * all significand digits zero        → `±0.0`, the exact value;
    * negative exponent                  → `±0.0`, and `0 < value < 2^-1075` (half the smallest
                                           subnormal: zero IS the correctly rounded double);
    * positive exponent, a non-zero digit → `NumberOutOfRange`, and `value ≥ 2^1024`.

  The magnitude bounds need a bound on the length of the literal: a long significand can
  compensate the exponent (`100…0e-2147483648` with `2^31 - 100` digits is `10^-101`, yet reads as
  `0.0`: `length_bound_needed` below; `0.00…01e2147483648` with `2^31 - 100` fraction digits is
  `10^100`, yet is rejected: `length_bound_needed_pos`; both confirmed on the real crate).  The
  bound used is `L.text.length + 324 ≤ 2^31` (about 2 GiB); the exact conditions are
  `ip.length + 324 ≤` the written exponent for the negative case (`litValue_tiny`) and
  `fp.length + 309 ≤ 2^31` for the positive one (`litValue_huge`).
-/
import LexprModel.Proofs.ExpOverflow
namespace Lexpr
namespace ExpOverflow
open Parse F64 Numbers Decimals Accuracy

theorem dec_pos {s : Nat} (hs : 0 < s) (e : Int) : 0 < dec s e := by
  unfold dec
  exact Rat.mul_pos (natCast_pos' hs) (ten_zpow_pos e)

theorem dec_zero_left (e : Int) : dec 0 e = 0 := Accuracy.dec_zero_left e

theorem dec_eq_zero_iff (s : Nat) (e : Int) : dec s e = 0 ↔ s = 0 := by
  constructor
  · intro h
    by_cases h0 : s = 0
    · exact h0
    · have := dec_pos (Nat.pos_of_ne_zero h0) e
      rw [h] at this
      exact absurd this (Rat.lt_irrefl)
  · intro h; subst h; exact dec_zero_left e

theorem close_zero_iff {Pn Vn : Nat} (h : Close Pn Vn) : Pn = 0 ↔ Vn = 0 := by
  obtain ⟨h1, h2⟩ := h
  constructor
  · intro hp; subst hp
    simp only [Nat.sub_zero] at h1
    omega
  · intro hv; subst hv
    simp only [Nat.sub_zero] at h2
    omega

theorem allDigits_getD (fp : Option (List UInt8)) (hfp : ∀ g, fp = some g → AllDigits g) :
    AllDigits (fp.getD []) := by
  cases fp with
  | none => intro c hc; cases hc
  | some g => exact hfp g rfl

/-- the significand the scanners hand on is zero iff every written digit is `0` -/
theorem scanT_zero_iff (L : DecLit) (hipd : AllDigits L.ip)
    (hfp : ∀ g, L.fp = some g → AllDigits g) : L.scanT.1 = 0 ↔ L.rawSig = 0 := by
  obtain ⟨ip, fp, ex⟩ := L
  obtain ⟨Pn, Vn, q, c1, c2, c3⟩ := scanT0_close ip fp hipd hfp
  rw [scanT_fst_ex ip fp ex none, ← dec_eq_zero_iff _ (DecLit.scanT ⟨ip, fp, none⟩).2, c1,
    dec_eq_zero_iff, close_zero_iff c3, ← dec_eq_zero_iff Vn q, ← c2]
  exact dec_eq_zero_iff _ _

theorem rawSig_lt (L : DecLit) (hipd : AllDigits L.ip) (hfp : ∀ g, L.fp = some g → AllDigits g) :
    L.rawSig < 10 ^ (L.ip.length + (L.fp.getD []).length) := by
  have := dv_lt (L.ip ++ L.fp.getD []) (hipd.append (allDigits_getD L.fp hfp))
  simpa [DecLit.rawSig] using this

theorem two1024_le_ten309 : (2 : Rat) ^ 1024 ≤ (10 : Rat) ^ (309 : Int) := by decide +kernel

theorem dec_lt_eta {sig n : Nat} {e : Int} (hs : sig < 10 ^ n) (he : (n : Int) + e ≤ -324) :
    dec sig e < eta := Accuracy.dec_lt_eta hs he

theorem dec_ge_two1024 {sig : Nat} {e : Int} (hs : 0 < sig) (he : 309 ≤ e) :
    (2 : Rat) ^ 1024 ≤ dec sig e := by
  have h1 := natCast_one_le hs
  have h2 := Rat.mul_le_mul_of_nonneg_right h1 (Rat.le_of_lt (ten_zpow_pos e))
  rw [Rat.one_mul] at h2
  have h4 := ten_zpow_mono he
  have h5 := two1024_le_ten309
  unfold dec
  grind

theorem rawExp_some (L : DecLit) (e : ExpPart) (hex : L.ex = some e) :
    L.rawExp = (if expSignPos e.sign then (e.abs : Int) else -(e.abs : Int)) -
      ((L.fp.getD []).length : Int) := by
  simp [DecLit.rawExp, DecLit.expVal, hex, exVal, ExpPart.val]

/-- a negative exponent that exceeds the number of integer digits by 324: the value is below
    `2^-1075` (however many fraction digits) -/
theorem litValue_tiny (L : DecLit) (e : ExpPart) (hex : L.ex = some e)
    (hneg : expSignPos e.sign = false) (hipd : AllDigits L.ip)
    (hfp : ∀ g, L.fp = some g → AllDigits g) (hlen : (L.ip.length : Int) + 324 ≤ e.abs) :
    litValue L < eta := by
  unfold litValue
  apply dec_lt_eta (rawSig_lt L hipd hfp)
  rw [rawExp_some L e hex, hneg]
  simp only [Bool.false_eq_true, if_false]
  omega

/-- positive exponent beyond `i32`, a non-zero digit, at most `2^31 - 309` fraction digits: the
    value is at least `2^1024` -/
theorem litValue_huge (L : DecLit) (e : ExpPart) (hex : L.ex = some e)
    (hpos : expSignPos e.sign = true) (hov : i32Max < e.abs) (hnz : L.rawSig ≠ 0)
    (hlen : (L.fp.getD []).length + 309 ≤ 2 ^ 31) :
    (2 : Rat) ^ 1024 ≤ litValue L := by
  unfold litValue
  apply dec_ge_two1024 (Nat.pos_of_ne_zero hnz)
  rw [rawExp_some L e hex, hpos]
  simp only [if_true]
  unfold i32Max at hov
  omega

theorem litValue_zero (L : DecLit) (h : L.rawSig = 0) : litValue L = 0 := by
  unfold litValue; rw [h]; exact dec_zero_left _

theorem litValue_pos (L : DecLit) (h : L.rawSig ≠ 0) : 0 < litValue L :=
  dec_pos (Nat.pos_of_ne_zero h) _

theorem text_length (L : DecLit) (e : ExpPart) (hex : L.ex = some e) :
    L.text.length = L.ip.length + ((fracText L.fp).length + e.text.length) := by
  simp [DecLit.text, hex, expText]

theorem fracText_length (fp : Option (List UInt8)) :
    (fp.getD []).length ≤ (fracText fp).length := by
  cases fp <;> simp [fracText]

/-- where `NumberOutOfRange` is raised: after the exponent digit at which the accumulator leaves
    `i32` (byte offset from the start of the literal) -/
def errOffset (L : DecLit) (e : ExpPart) : Nat :=
  L.ip.length + ((fracText L.fp).length + (1 + e.sign.length + ovfAt 0 e.digits))

theorem errOffset_le (L : DecLit) (e : ExpPart) (hex : L.ex = some e) :
    errOffset L e ≤ L.text.length := by
  have := ovfAt_le e.digits 0
  rw [text_length L e hex]
  simp only [errOffset, ExpPart.text, List.length_cons, List.length_append]
  omega

/-- A decimal literal `digits [. digits] (e|E) [+|-] digits` whose written
    exponent does not fit `i32` (any number of exponent digits), at most `2^31 - 324` bytes long,
    followed by the end of the input or a byte that is neither a digit nor `e`/`E`; every option
    set, both builds, all source modes.  The reader's result is exactly what the exact value
    `litValue L` of the literal demands:

    * all significand digits zero: the whole literal is consumed, the result is the zero with the
      literal's sign, and the value is `0`;
    * a non-zero digit, negative exponent: likewise a signed zero, and `0 < value < 2^-1075`, so
      zero is the correctly rounded double;
    * a non-zero digit, positive exponent: `NumberOutOfRange`, raised `errOffset L e` bytes into
      the literal (right after the exponent digit that overflowed the accumulator), and
      `value ≥ 2^1024`, beyond the range of a double — never infinity or NaN. -/
theorem C05_exp_overflow (cfg : Cfg) (fuel : Nat) (pos : Bool) (L : DecLit) (e : ExpPart)
    (rest : List UInt8) (s : St)
    (hipne : L.ip ≠ []) (hipd : AllDigits L.ip)
    (hfp : ∀ g, L.fp = some g → g ≠ [] ∧ AllDigits g) (hex : L.ex = some e) (hwf : e.WF)
    (hov : i32Max < e.abs)
    (hrest : s.rd.rest = L.text ++ rest) (hstop : ScanStop rest)
    (hf : rest = [] → s.rd.faulty = false)
    (hlen : L.text.length + 324 ≤ 2 ^ 31) (hfuel : L.text.length + 1 ≤ fuel) :
    (L.rawSig = 0 →
      parseNumLiteral cfg fuel 10 pos s =
        .ok (Number.flt (signed pos 0)) (adv s L.text.length (endPeek s rest)) ∧
      litValue L = 0) ∧
    (L.rawSig ≠ 0 → expSignPos e.sign = false →
      parseNumLiteral cfg fuel 10 pos s =
        .ok (Number.flt (signed pos 0)) (adv s L.text.length (endPeek s rest)) ∧
      0 < litValue L ∧ litValue L < eta) ∧
    (L.rawSig ≠ 0 → expSignPos e.sign = true →
      parseNumLiteral cfg fuel 10 pos s = errAt .numberOutOfRange (adv s (errOffset L e) false) ∧
      (2 : Rat) ^ 1024 ≤ litValue L) := by
  have hl := text_length L e hex
  have hfl := fracText_length L.fp
  have hfp' : ∀ g, L.fp = some g → AllDigits g := fun g hg => (hfp g hg).2
  have hscan := scan_over cfg fuel pos L e rest s hipne hipd hfp hex hwf hov hrest hstop hf
    (by unfold i32Max; omega) hfuel
  have hz := scanT_zero_iff L hipd hfp'
  refine ⟨fun h0 => ?_, fun h0 hneg => ?_, fun h0 hp => ?_⟩
  · refine ⟨?_, litValue_zero L h0⟩
    rw [hscan, hz.mpr h0]
    rfl
  · refine ⟨?_, litValue_pos L h0, litValue_tiny L e hex hneg hipd hfp' (by unfold i32Max at hov; omega)⟩
    rw [hscan, hneg]
    simp only [overflowOut, Bool.and_false, Bool.false_eq_true, if_false]
  · refine ⟨?_, litValue_huge L e hex hp hov h0 (by omega)⟩
    have hS : (L.scanT.1 != 0) = true := by
      simp only [bne_iff_ne, ne_eq]
      exact fun h => h0 (hz.mp h)
    rw [hscan, hp]
    simp only [overflowOut, hS, Bool.and_self, if_true, errOffset]

#print axioms C05_exp_overflow

def okFltIs (bits : Nat) : Res Value → Bool
  | .ok (.number (.flt b)) s' => b == bits && s'.rd.rest == []
  | _ => false

def errAtIs {α : Type} (c : Code) (l k : Nat) (rest : List UInt8) : Res α → Bool
  | .err (.syntax c' l' k') s' => c' == c && l' == l && k' == k && s'.rd.rest == rest
  | _ => false

/-- Kernel-evaluated, whole inputs through `from_str` (`fromTrait`), both builds:
    `1e99999999999` is `NumberOutOfRange` at 1:12 (after the tenth exponent digit, one digit
    unread — as the real code reports it), `1e-99999999999` and `0e99999999999` are `+0.0`,
    `-0.0e-99999999999` is `-0.0` (`0x8000000000000000`), `-7.25E-0000000000002147483648` too
    (leading zeros do not overflow the accumulator, the value does), `0.000e+2147483648`
    is `+0.0`, not an error, and inside a list the error is at 1:35 (`end_seq` then eats the
    closing parenthesis, as in the real code). -/
example :
    errAtIs .numberOutOfRange 1 12 (asc "9") (fromTrait exCfgFast (initSt .str (asc "1e99999999999"))) = true ∧
    errAtIs .numberOutOfRange 1 12 (asc "9") (fromTrait exCfgSlow (initSt .str (asc "1e99999999999"))) = true ∧
    okFltIs 0 (fromTrait exCfgFast (initSt .str (asc "1e-99999999999"))) = true ∧
    okFltIs 0 (fromTrait exCfgSlow (initSt .io (asc "1e-99999999999"))) = true ∧
    okFltIs 0 (fromTrait exCfgFast (initSt .slice (asc "0e99999999999"))) = true ∧
    okFltIs 0x8000000000000000 (fromTrait exCfgFast (initSt .str (asc "-0.0e-99999999999"))) = true ∧
    okFltIs 0x8000000000000000
      (fromTrait exCfgFast (initSt .str (asc "-7.25E-0000000000002147483648"))) = true ∧
    okFltIs 0 (fromTrait exCfgSlow (initSt .str (asc "0.000e+2147483648"))) = true ∧
    errAtIs .numberOutOfRange 1 35 []
      (fromTrait exCfgFast (initSt .str (asc "(12345678901234567890.5e+2147483648)"))) = true := by
  decide +kernel

/-- the boundary: `2147483647` still goes through `f64_from_parts` (`Decimals.C05_scan_any`),
    `2147483648` is the first exponent on the overflow path -/
example : ovfAt 0 (asc "2147483647") = 10 ∧ dv 0 (asc "2147483647") = i32Max ∧
    ovfAt 0 (asc "2147483648") = 10 ∧ ovfAt 0 (asc "99999999999") = 10 ∧
    ovfAt 0 (asc "0000000000002147483648") = 22 := by decide +kernel

/-- `1.50e+99999999999`: a literal meeting all hypotheses of `C05_exp_overflow` -/
def exOver : DecLit := ⟨asc "1", some (asc "50"), some ⟨101, asc "+", asc "99999999999"⟩⟩

theorem exOver_wf : exOver.WF := exOver.wf_of_check (by decide)

example (cfg : Cfg) (pos : Bool) :=
  C05_exp_overflow cfg 30 pos exOver ⟨101, asc "+", asc "99999999999"⟩ (asc ")")
    (exSt (exOver.text ++ asc ")")) exOver_wf.1 exOver_wf.2.1 exOver_wf.2.2.1 rfl
    (exOver_wf.2.2.2.1 _ rfl) (by decide) rfl (by decide)
    (fun h => by cases h) (by decide) (by decide)

example : exOver.text = asc "1.50e+99999999999" ∧ exOver.rawSig = 150 ∧ errOffset exOver
    ⟨101, asc "+", asc "99999999999"⟩ = 16 := by decide +kernel

/-- `1` followed by `N` zeros and `e-2147483648` -/
def longOne (N : Nat) : DecLit :=
  ⟨49 :: List.replicate N 48, none, some ⟨101, [45], asc "2147483648"⟩⟩

theorem longOne_text_length (N : Nat) : (longOne N).text.length = N + 13 := by
  simp only [longOne, DecLit.text, fracText, expText, ExpPart.text, List.length_append,
    List.length_cons, List.length_replicate, List.length_nil]
  have : (asc "2147483648").length = 10 := by decide
  omega

theorem longOne_value (N : Nat) : litValue (longOne N) = (10 : Rat) ^ ((N : Int) - 2147483648) := by
  have h1 : (longOne N).rawSig = 10 ^ N := by
    simp only [longOne, DecLit.rawSig, Option.getD_none, List.append_nil]
    rw [dv_cons, dv_trailing_zeros]
    simp
  have h2 : (longOne N).rawExp = -2147483648 := rfl
  unfold litValue dec
  rw [h1, h2, ten_pow_cast, ← Rat.zpow_natCast, ← Rat.zpow_add ten_ne]
  congr 1

/-- Without a bound on the length of the literal the magnitude claim
    is false, also below `2^31` bytes: the literal `100…0e-2147483648` with `N + 1` integer
    digits (`N + 1 ≤ i32::MAX`) is read as `±0.0` by every build, while its value is
    `10^(N - 2^31)`.  With `N = 2^31 - 101` the literal has `2^31 - 88` bytes and the value
    `10^-101`: zero is then far outside the accuracy bound of the property.  (A 2 GiB literal;
    `parse_exponent_overflow` ignores the exponent accumulated by `parse_long_integer`.) -/
theorem length_bound_needed (cfg : Cfg) (fuel : Nat) (pos : Bool) (N : Nat) (rest : List UInt8)
    (s : St) (hN : N + 1 ≤ i32Max) (hrest : s.rd.rest = (longOne N).text ++ rest)
    (hstop : ScanStop rest) (hf : rest = [] → s.rd.faulty = false)
    (hfuel : (longOne N).text.length + 1 ≤ fuel) :
    parseNumLiteral cfg fuel 10 pos s =
      .ok (Number.flt (signed pos 0)) (adv s (longOne N).text.length (endPeek s rest)) ∧
    litValue (longOne N) = (10 : Rat) ^ ((N : Int) - 2147483648) := by
  refine ⟨?_, longOne_value N⟩
  have hd : AllDigits (longOne N).ip :=
    AllDigits.append (a := [49]) (by decide) (allDigits_replicate N)
  rw [scan_over cfg fuel pos (longOne N) ⟨101, [45], asc "2147483648"⟩ rest s (by simp [longOne])
    hd (fun g hg => by cases hg) rfl ⟨Or.inl rfl, Or.inr (Or.inr rfl), by decide, by decide⟩
    (by decide) hrest hstop hf (by simpa [longOne] using hN) hfuel]
  have : expSignPos [45] = false := by decide
  simp only [overflowOut, this, Bool.and_false, Bool.false_eq_true, if_false]

/-- the instance: fewer than `2^31` bytes, value `10^-101`, result `±0.0` -/
example (cfg : Cfg) (pos : Bool) (s : St) (hrest : s.rd.rest = (longOne 2147483547).text)
    (hfl : s.rd.faulty = false) :
    (longOne 2147483547).text.length < 2 ^ 31 ∧
    parseNumLiteral cfg 2147483561 10 pos s =
      .ok (Number.flt (signed pos 0)) (adv s (longOne 2147483547).text.length (endPeek s [])) ∧
    litValue (longOne 2147483547) = (10 : Rat) ^ (-101 : Int) ∧
    eta < (10 : Rat) ^ (-101 : Int) := by
  have h := length_bound_needed cfg 2147483561 pos 2147483547 [] s (by decide)
    (by simpa using hrest) (by decide) (fun _ => hfl) (by rw [longOne_text_length]; decide)
  exact ⟨by rw [longOne_text_length]; decide, h.1, by rw [h.2]; congr 1, by decide +kernel⟩

/-- `0.` followed by `N` zeros, a `1`, and `e2147483648` -/
def longFrac (N : Nat) : DecLit :=
  ⟨[48], some (List.replicate N 48 ++ [49]), some ⟨101, [], asc "2147483648"⟩⟩

theorem longFrac_rawSig (N : Nat) : (longFrac N).rawSig = 1 := by
  simp only [longFrac, DecLit.rawSig, Option.getD_some, List.singleton_append, dv_cons]
  rw [dv_append, dv_trailing_zeros]
  have : (0 * 10 + (UInt8.toNat 48 - 48)) = 0 := by decide
  rw [this, Nat.zero_mul]
  decide

theorem longFrac_value (N : Nat) :
    litValue (longFrac N) = (10 : Rat) ^ ((2147483648 : Int) - ((N + 1 : Nat) : Int)) := by
  have h2 : (longFrac N).rawExp = (2147483648 : Int) - ((N + 1 : Nat) : Int) := by
    have : (longFrac N).rawExp =
        (2147483648 : Int) - (((List.replicate N 48 ++ [49] : List UInt8).length : Nat) : Int) := rfl
    rw [this]
    simp
  unfold litValue dec
  rw [longFrac_rawSig, h2]
  exact Rat.one_mul _

/-- The positive counterpart of `length_bound_needed`: `0.00…01e2147483648` with `N`
    zeros after the point (`N + 2 ≤ i32::MAX`) is rejected as `NumberOutOfRange` by every build,
    while its value is `10^(2^31 - N - 1)`; with `N = 2^31 - 101` that is `10^100`, an ordinary
    double.  (Again a literal of about 2 GiB.) -/
theorem length_bound_needed_pos (cfg : Cfg) (fuel : Nat) (pos : Bool) (N : Nat)
    (rest : List UInt8) (s : St) (hN : N + 2 ≤ i32Max)
    (hrest : s.rd.rest = (longFrac N).text ++ rest)
    (hstop : ScanStop rest) (hf : rest = [] → s.rd.faulty = false)
    (hfuel : (longFrac N).text.length + 1 ≤ fuel) :
    parseNumLiteral cfg fuel 10 pos s =
      errAt .numberOutOfRange
        (adv s (errOffset (longFrac N) ⟨101, [], asc "2147483648"⟩) false) ∧
    litValue (longFrac N) = (10 : Rat) ^ ((2147483648 : Int) - ((N + 1 : Nat) : Int)) := by
  refine ⟨?_, longFrac_value N⟩
  have hd : AllDigits (List.replicate N 48 ++ [49]) :=
    AllDigits.append (allDigits_replicate N) (by decide)
  have hip : AllDigits (longFrac N).ip := by
    show AllDigits [48]
    decide
  have hz := scanT_zero_iff (longFrac N) hip (fun g hg => by cases hg; exact hd)
  have hS : ((longFrac N).scanT.1 != 0) = true := by
    simp only [bne_iff_ne, ne_eq]
    intro h
    have := hz.mp h
    rw [longFrac_rawSig] at this
    cases this
  rw [scan_over cfg fuel pos (longFrac N) ⟨101, [], asc "2147483648"⟩ rest s (by simp [longFrac])
    hip (fun g hg => by cases hg; exact ⟨by simp, hd⟩) rfl
    ⟨Or.inl rfl, Or.inl rfl, by decide, by decide⟩ (by decide) hrest hstop hf
    (show [48].length ≤ i32Max by decide) hfuel]
  have : expSignPos [] = true := by decide
  simp only [overflowOut, hS, this, Bool.and_self, if_true, errOffset]

#print axioms length_bound_needed
#print axioms length_bound_needed_pos

end ExpOverflow
end Lexpr
