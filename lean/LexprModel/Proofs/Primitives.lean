/-
  The reader primitives `peek`, `next`, `discard`, `peekOrNull`, `nextOrNull`, the token-end test
  `expect_number_end`, and the parser's own three steps `enter`, `leave`, `attempt`.  Forward: what
  each returns on `b :: t` and on `[]`, the state written as the model writes it (`pk s`, `adv1 s`
  abbreviate the two states that occur).  Backward: what a call that returned a result says of the
  states before and after, as exact inversions (`peek_ok` …: the new state in full) and, for the
  proofs that follow only source kind and unread input, as their projections (`peek_frame` …).
  `expect_number_end`, `parse_symbol_bytes` (`parseSymbolBytes_result`) and `parse_whitespace`
  (`parseWhitespace_frame`) have the backward form only; `attempt`'s forward equations stand in
  Monad.lean.  Last, two facts on `digitVal`, and the one shape of the two Emacs digit loops
  (`DigitLoop`), for the lemma each calculus has of it.
-/
import LexprModel.Proofs.Monad
import LexprModel.Proofs.Consume
namespace Lexpr
namespace Parse

theorem Rd.consume_one_rest {rd : Rd} {b : UInt8} {t : List UInt8} (h : rd.rest = b :: t) :
    (rd.consume 1).rest = t := by rw [Rd.consume_rest, h]; rfl

theorem Rd.consume_nil {rd : Rd} (h : rd.rest = []) (n : Nat) :
    rd.consume n = { rd with peeked := false } := by
  cases n <;> simp [Rd.consume, h]

/-- the state after a successful `peek` at a byte -/
abbrev pk (s : St) : St := { s with rd := { s.rd with peeked := s.rd.peeked || s.rd.mode == .io } }

abbrev adv1 (s : St) : St := { s with rd := s.rd.consume 1 }

variable {s s' : St} {b : UInt8} {t : List UInt8}

theorem peek_cons (h : s.rd.rest = b :: t) : peek s = .ok (some b) (pk s) := by
  simp [peek, h]

theorem peek_nil (h : s.rd.rest = []) :
    peek s = if s.rd.faulty then .err .io s else .ok none s := by
  simp [peek, h]

theorem peek_end (h : s.rd.rest = []) (hf : s.rd.faulty = false) : peek s = .ok none s := by
  rw [peek_nil h, hf]; rfl

theorem next_cons (h : s.rd.rest = b :: t) : next s = .ok (some b) (adv1 s) := by
  simp [next, h]

theorem next_nil (h : s.rd.rest = []) :
    next s = if s.rd.faulty then .err .io s else .ok none s := by
  simp [next, h]

theorem next_end (h : s.rd.rest = []) (hf : s.rd.faulty = false) : next s = .ok none s := by
  rw [next_nil h, hf]; rfl

theorem discard_cons (h : s.rd.rest = b :: t) : discard s = .ok () (adv1 s) := by
  simp [discard, h]

theorem discard_nil (h : s.rd.rest = []) : discard s = .panic .discardAtEof := by
  simp [discard, h]

theorem peekOrNull_cons (h : s.rd.rest = b :: t) : peekOrNull s = .ok b (pk s) := by
  rw [peekOrNull, bind_ok_eq (peek_cons h)]; rfl

theorem peekOrNull_nil (h : s.rd.rest = []) (hf : s.rd.faulty = false) :
    peekOrNull s = .ok 0 s := by
  rw [peekOrNull, bind_ok_eq (peek_end h hf)]; rfl

theorem nextOrNull_cons (h : s.rd.rest = b :: t) : nextOrNull s = .ok b (adv1 s) := by
  rw [nextOrNull, bind_ok_eq (next_cons h)]; rfl

/-- `peek_or_null` puts `0` for the end of the input, which is no digit in any radix -/
theorem digitVal_zero (radix : Nat) : digitVal radix 0 = none := by
  simp [digitVal]

theorem digitVal_lt {radix : Nat} {c : UInt8} {d : Nat} (h : digitVal radix c = some d) : d < 16 := by
  unfold digitVal at h
  iterate 3
    split at h
    · rename_i hc
      simp only [Bool.and_eq_true, decide_eq_true_eq, UInt8.le_iff_toNat_le, UInt8.reduceToNat] at hc
      cases h; omega
  cases h

theorem peek_ok {o : Option UInt8} (h : peek s = .ok o s') :
    o = s.rd.rest.head? ∧ ∃ p, s' = { s with rd := { s.rd with peeked := p } } := by
  cases hr : s.rd.rest with
  | nil =>
    rw [peek_nil hr] at h
    split at h <;> cases h
    exact ⟨rfl, s.rd.peeked, rfl⟩
  | cons b t => rw [peek_cons hr] at h; cases h; exact ⟨rfl, _, rfl⟩

theorem peekOrNull_ok {c : UInt8} (h : peekOrNull s = .ok c s') :
    c = s.rd.rest.head?.getD 0 ∧ ∃ p, s' = { s with rd := { s.rd with peeked := p } } := by
  obtain ⟨o, hp, e⟩ := map_ok h
  obtain ⟨rfl, hs⟩ := peek_ok hp
  exact ⟨e, hs⟩

theorem next_ok {o : Option UInt8} (h : next s = .ok o s') :
    (o = none ∧ s.rd.rest = [] ∧ s' = s) ∨
      ∃ b t, o = some b ∧ s.rd.rest = b :: t ∧ s' = adv1 s := by
  cases hr : s.rd.rest with
  | nil =>
    rw [next_nil hr] at h
    split at h <;> cases h
    exact .inl ⟨rfl, rfl, rfl⟩
  | cons b t => rw [next_cons hr] at h; cases h; exact .inr ⟨b, t, rfl, rfl, rfl⟩

theorem next_some_ok (h : next s = .ok (some b) s') :
    ∃ t, s.rd.rest = b :: t ∧ s' = adv1 s := by
  rcases next_ok h with ⟨e, -, -⟩ | ⟨b', t, e, hr, hs⟩
  · cases e
  · cases e; exact ⟨t, hr, hs⟩

theorem discard_ok {u : Unit} (h : discard s = .ok u s') :
    ∃ b t, s.rd.rest = b :: t ∧ s' = adv1 s := by
  cases hr : s.rd.rest with
  | nil => rw [discard_nil hr] at h; cases h
  | cons b t => rw [discard_cons hr] at h; cases h; exact ⟨b, t, rfl, rfl⟩

theorem peek_frame {o : Option UInt8} (h : peek s = .ok o s') :
    s'.rd.mode = s.rd.mode ∧ s'.rd.rest = s.rd.rest ∧ o = s.rd.rest.head? := by
  obtain ⟨rfl, p, rfl⟩ := peek_ok h
  exact ⟨rfl, rfl, rfl⟩

theorem peekOrNull_frame {c : UInt8} (h : peekOrNull s = .ok c s') :
    s'.rd.mode = s.rd.mode ∧ s'.rd.rest = s.rd.rest ∧ c = s.rd.rest.head?.getD 0 := by
  obtain ⟨rfl, p, rfl⟩ := peekOrNull_ok h
  exact ⟨rfl, rfl, rfl⟩

/-- `parse_whitespace` is `peek` after the `wsLen` bytes of trivia -/
theorem parseWhitespace_frame {a : Option UInt8} (h : parseWhitespace s = .ok a s') :
    s'.rd.mode = s.rd.mode ∧ s'.rd.rest = s.rd.rest.drop (wsLen s.rd.rest) ∧
      a = s'.rd.rest.head? := by
  have h : peek ({ s with rd := s.rd.consume (wsLen s.rd.rest) } : St) = .ok a s' := h
  obtain ⟨hm, hr, ha⟩ := peek_frame h
  exact ⟨hm.trans (Rd.consume_mode _ _), hr.trans (Rd.consume_rest _ _), hr ▸ ha⟩

theorem next_frame {o : Option UInt8} (h : next s = .ok o s') :
    s'.rd.mode = s.rd.mode ∧
      ((o = none ∧ s'.rd.rest = s.rd.rest) ∨ ∃ b, o = some b ∧ s.rd.rest = b :: s'.rd.rest) := by
  rcases next_ok h with ⟨rfl, -, rfl⟩ | ⟨b, t, rfl, hr, rfl⟩
  · exact ⟨rfl, .inl ⟨rfl, rfl⟩⟩
  · exact ⟨Rd.consume_mode 1 s.rd, .inr ⟨b, rfl, hr.trans (by rw [Rd.consume_one_rest hr])⟩⟩

theorem discard_frame {u : Unit} (h : discard s = .ok u s') :
    s'.rd.mode = s.rd.mode ∧ ∃ b, s.rd.rest = b :: s'.rd.rest := by
  obtain ⟨b, t, hr, rfl⟩ := discard_ok h
  exact ⟨Rd.consume_mode 1 s.rd, b, hr.trans (by rw [Rd.consume_one_rest hr])⟩

theorem expectNumberEnd_inv {n m : Number} (h : expectNumberEnd n s = .ok m s') :
    m = n ∧ (∃ p, s' = { s with rd := { s.rd with peeked := p } }) ∧
      (s.rd.rest = [] ∨ ∃ b t, s.rd.rest = b :: t ∧ isDelimiter b = true) := by
  obtain ⟨o, s1, hp, hk⟩ := bind_ok h
  obtain ⟨rfl, hs⟩ := peek_ok hp
  cases hr : s.rd.rest with
  | nil =>
    rw [hr] at hk
    obtain ⟨rfl, rfl⟩ := pure_ok hk
    exact ⟨rfl, hs, .inl rfl⟩
  | cons b t =>
    rw [hr] at hk
    rcases ite_ok hk with ⟨_, hk⟩ | ⟨hd, hk⟩
    · cases hk
    · obtain ⟨rfl, rfl⟩ := pure_ok hk
      exact ⟨rfl, hs, .inr ⟨b, t, rfl, by simpa using hd⟩⟩

theorem enter_of_le (h : 2 ≤ s.depth) : enter s = .ok () { s with depth := s.depth - 1 } := by
  have hd1 : (s.depth == 0) = false := by simp; omega
  have hd2 : (s.depth - 1 == 0) = false := by simp; omega
  simp [enter, hd1, hd2]

theorem enter_limit (hd : s.depth = 1) :
    enter s = .err (.syntax .recursionLimitExceeded s.rd.peekPosition.line s.rd.peekPosition.col) s := by
  simp [enter, hd]

/-- `enter` succeeds only above the last level of the budget, and takes one level -/
theorem enter_inv {u : Unit} (h : enter s = .ok u s') :
    2 ≤ s.depth ∧ s' = { s with depth := s.depth - 1 } := by
  unfold enter at h
  split at h
  · cases h
  · split at h
    · cases h
    · cases h
      rename_i h0 h1
      refine ⟨?_, rfl⟩
      simp at h0 h1
      omega

theorem leave_eq (s : St) : leave s = .ok () { s with depth := s.depth + 1 } := rfl

theorem leave_inv {u : Unit} (h : leave s = .ok u s') : s' = { s with depth := s.depth + 1 } := by
  cases h; rfl

theorem attempt_ok {α : Type} {m : P α} {r : Except Err α} (h : attempt m s = .ok r s') :
    (∃ a, r = .ok a ∧ m s = .ok a s') ∨ (∃ e, r = .error e ∧ m s = .err e s') := by
  unfold attempt at h
  cases hm : m s with
  | ok a s1 => rw [hm] at h; cases h; exact .inl ⟨a, rfl, rfl⟩
  | err e s1 => rw [hm] at h; cases h; exact .inr ⟨e, rfl, rfl⟩
  | panic p => rw [hm] at h; cases h
  | fuel => rw [hm] at h; cases h

/-- The last two clauses: a source other than `str` has validated the name; and the `peek` behind
    the name has succeeded, so a source that is at its end does not fail. -/
theorem parseSymbolBytes_result {scratch name : List UInt8} {s s' : St}
    (h : parseSymbolBytes scratch s = .ok name s') :
    name = scratch ++ s.rd.rest.take (symLen s.rd.mode s.rd.rest) ∧
      s'.rd.rest = s.rd.rest.drop (symLen s.rd.mode s.rd.rest) ∧ s'.rd.mode = s.rd.mode ∧
      (name == [46]) = false ∧ (s.rd.mode = .str ∨ Utf8.valid name = true) ∧
      (s'.rd.rest = [] → s.rd.faulty = false) := by
  unfold parseSymbolBytes at h
  rw [bind_ok_eq (rfl : getRest s = .ok s.rd.rest s),
    bind_ok_eq (rfl : getMode s = .ok s.rd.mode s)] at h
  dsimp only at h
  rw [bind_ok_eq (rfl : consumeN (symLen s.rd.mode s.rd.rest) s = .ok () _)] at h
  obtain ⟨nxt, s1, hp, h⟩ := bind_ok h
  obtain ⟨hm1, hr1, _⟩ := peek_frame hp
  have hf : s1.rd.rest = [] → s.rd.faulty = false := fun h0 => by
    rw [peek_nil (hr1 ▸ h0)] at hp
    split at hp
    · cases hp
    · rename_i hnf
      rw [Rd.consume_faulty] at hnf
      simpa using hnf
  rcases ite_ok h with ⟨_, h⟩ | ⟨h46, h⟩
  · cases h
  have key : name = scratch ++ s.rd.rest.take (symLen s.rd.mode s.rd.rest) ∧ s1 = s' ∧
      (s.rd.mode = .str ∨ Utf8.valid name = true) := by
    rcases ite_ok h with ⟨hm, h⟩ | ⟨_, h⟩
    · obtain ⟨rfl, rfl⟩ := pure_ok h
      exact ⟨rfl, rfl, .inl (eq_of_beq hm)⟩
    rcases ite_ok h with ⟨hv, h⟩ | ⟨_, h⟩
    · obtain ⟨rfl, rfl⟩ := pure_ok h
      exact ⟨rfl, rfl, .inr hv⟩
    rcases ite_ok h with ⟨_, h⟩ | ⟨_, h⟩ <;> cases h
  obtain ⟨hn, rfl, hv⟩ := key
  exact ⟨hn, by rw [hr1]; exact Rd.consume_rest _ _, by rw [hm1]; exact Rd.consume_mode _ _,
    by rw [hn]; simpa using h46, hv, hf⟩

/-- the body of the two Emacs digit loops, `decode_elisp_hex_escape` and
    `decode_elisp_octal_escape`, which differ in the digit test `val` and in the base; `loop` is
    the function itself with one unit of fuel less -/
def digitStep (val : UInt8 → Option Nat) (base : Nat) (loop : Nat → P Nat) (n : Nat) : P Nat := do
  match (← peek) with
  | none => pure n
  | some c => match val c with
    | none => pure n
    | some v => do
      discard
      if n ≥ maxCp then errAt .invalidUnicodeCodePoint
      else loop (n * base + v)

structure DigitLoop (F : Nat → Nat → P Nat) (val : UInt8 → Option Nat) (base : Nat) : Prop where
  zero : ∀ n, F 0 n = outOfFuel
  succ : ∀ f n, F (f + 1) n = digitStep val base (F f) n
  base_pos : 0 < base

theorem decodeElispHexEscape_loop : DigitLoop decodeElispHexEscape hexVal 16 :=
  ⟨fun _ => rfl, fun _ _ => rfl, by decide⟩

theorem decodeElispOctalEscape_loop : DigitLoop decodeElispOctalEscape octVal 8 :=
  ⟨fun _ => rfl, fun _ _ => rfl, by decide⟩

end Parse
end Lexpr
