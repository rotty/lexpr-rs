/-
  ConcatSources — C12, concatenation part, on the other two input sources.  Whenever a history of
  calls on the slice source returns values and end marks only, the same history on the stream
  source (`from_reader`; by `C06_slice_io_history`) and on the `&str` source (by `C06_str_slice`,
  for well-formed UTF-8, which is what a `&str` holds) returns exactly the same items, and so
  does `iterate`; hence `C12_concat_io` / `C12_concat_str`, the statement of `C12_concat` there.
-/
import LexprModel.Proofs.Concat
import LexprModel.Proofs.Sources
namespace Lexpr
namespace Parse
namespace Concat
open Print Spec ListRT

theorem histRel_values (E : Err → Err → Prop) : ∀ (vs : List Value) (k : Nat) (l : List Item),
    HistRel E (vs.map Item.value ++ List.replicate k .none_) l →
    l = vs.map Item.value ++ List.replicate k .none_
  | [], 0, l, h => by cases h; rfl
  | [], k + 1, l, h => by
    simp only [List.map_nil, List.nil_append, List.replicate_succ] at h ⊢
    cases h with
    | cons hi ht =>
      rename_i j js
      have := histRel_values E [] k js (by simpa using ht)
      simp only [List.map_nil, List.nil_append] at this
      cases j <;> simp [ItemRel] at hi
      rw [this]
  | v :: vs, k, l, h => by
    simp only [List.map_cons, List.cons_append] at h ⊢
    cases h with
    | cons hi ht =>
      rename_i j js
      have := histRel_values E vs k js ht
      cases j <;> simp [ItemRel] at hi
      rw [this, hi]

/-- **C12_concat_io_history**: a history that returns only values and end marks on the slice
    source returns the same items on a (non-failing) stream over the same bytes. -/
theorem C12_concat_io_history (cfg : Cfg) (ops : List Op) (bytes : List UInt8) (vs : List Value)
    (k : Nat)
    (h : runHistory cfg ops (initSt .slice bytes) = vs.map Item.value ++ List.replicate k .none_) :
    runHistory cfg ops (initSt .io bytes) = vs.map Item.value ++ List.replicate k .none_ := by
  have hrel := C06_slice_io_history cfg ops (Sim.init bytes)
  rw [h] at hrel
  exact histRel_values _ _ _ _ hrel

/-- **C12_concat_str_history**: the same for the `&str` source, on well-formed UTF-8. -/
theorem C12_concat_str_history (cfg : Cfg) (ops : List Op) (bytes : List UInt8)
    (hu : Utf8.valid bytes = true) (its : List Item)
    (h : runHistory cfg ops (initSt .slice bytes) = its) :
    runHistory cfg ops (initSt .str bytes) = its := by
  rw [← h]; exact C06_str_slice cfg ops bytes hu

/-- **C12_concat_io_iterate**: if `vs.length + 1` calls on the slice source return the values
    `vs` and then end of input, iterating the call on the stream source returns the values and
    the end mark. -/
theorem C12_concat_io_iterate (cfg : Cfg) (op : Op) (bytes : List UInt8) (vs : List Value)
    (h : runHistory cfg (List.replicate (vs.length + 1) op) (initSt .slice bytes) =
      vs.map Item.value ++ [.none_]) (cap : Nat) (hcap : vs.length + 1 ≤ cap) :
    iterate cfg op cap (initSt .io bytes) = vs.map Item.value ++ [.none_] :=
  iterate_of_values cfg op vs _ cap (C12_concat_io_history cfg _ bytes vs 1 h) hcap

/-- **C12_concat_str_iterate**: the same for the `&str` source. -/
theorem C12_concat_str_iterate (cfg : Cfg) (op : Op) (bytes : List UInt8)
    (hu : Utf8.valid bytes = true) (vs : List Value)
    (h : runHistory cfg (List.replicate (vs.length + 1) op) (initSt .slice bytes) =
      vs.map Item.value ++ [.none_]) (cap : Nat) (hcap : vs.length + 1 ≤ cap) :
    iterate cfg op cap (initSt .str bytes) = vs.map Item.value ++ [.none_] :=
  iterate_of_values cfg op vs _ cap (C12_concat_str_history cfg _ bytes hu _ h) hcap

def exBytes : List UInt8 := asc "a ;c\n(b)\x0c\"s\" ;end"

def exVals : List Value :=
  [.symbol (asc "a"), .cons (.symbol (asc "b")) .null, .string (asc "s")]

/-- non-vacuity: `a ;c⏎(b)␌"s" ;end` read by three calls and the call that finds the end, on the
    slice source (by evaluation) -/
theorem exBytes_slice :
    runHistory witnessCfg (List.replicate (exVals.length + 1) .nextValue) (initSt .slice exBytes) =
      exVals.map Item.value ++ [.none_] :=
  (itemsAre_sound (runHistory witnessCfg (List.replicate (exVals.length + 1) .nextValue)
      (initSt .slice exBytes))
    [some (.symbol (asc "a")), some (.cons (.symbol (asc "b")) .null), some (.string (asc "s")), none]
    (by decide +kernel)).trans rfl

/-- hence on the stream and on the `&str` source -/
example :
    iterate witnessCfg .nextValue 9 (initSt .io exBytes) = exVals.map Item.value ++ [.none_] :=
  C12_concat_io_iterate witnessCfg .nextValue exBytes exVals exBytes_slice 9 (by decide)

example :
    iterate witnessCfg .nextValue 9 (initSt .str exBytes) = exVals.map Item.value ++ [.none_] :=
  C12_concat_str_iterate witnessCfg .nextValue exBytes (by decide) exVals exBytes_slice 9 (by decide)

/-- what the slice source returns for every number of calls, every source returns -/
theorem concat_sources (cfg : Cfg) (op : Op) (bytes : List UInt8) (vs : List Value) (m : Mode)
    (hu : m = .str → Utf8.valid bytes = true)
    (h : ∀ k, runHistory cfg (List.replicate (vs.length + (k + 1)) op) (initSt .slice bytes) =
      vs.map Item.value ++ List.replicate (k + 1) .none_) :
    (∀ cap, vs.length + 1 ≤ cap →
      iterate cfg op cap (initSt m bytes) = vs.map Item.value ++ [.none_]) ∧
    (∀ k, runHistory cfg (List.replicate (vs.length + (k + 1)) op) (initSt m bytes) =
      vs.map Item.value ++ List.replicate (k + 1) .none_) := by
  have hh : ∀ k, runHistory cfg (List.replicate (vs.length + (k + 1)) op) (initSt m bytes) =
      vs.map Item.value ++ List.replicate (k + 1) .none_ := by
    intro k
    cases m with
    | slice => exact h k
    | io => exact C12_concat_io_history cfg _ _ vs (k + 1) (h k)
    | str => exact C12_concat_str_history cfg _ _ (hu rfl) _ (h k)
  exact ⟨fun cap hcap => iterate_of_values cfg op vs _ cap (hh 0) hcap, hh⟩

/-- **C12_concat_io**: the statement of `C12_concat` for a parser on a (non-failing) stream. -/
theorem C12_concat_io (p : Print.Options) (cfg : Cfg) (ryu : Nat → List UInt8)
    (hc : Compatible p cfg.opts = true) (op : Op) (hop : ValueOp op)
    (items : List (List UInt8 × Value)) (tEnd : List UInt8)
    (hall : ∀ it ∈ items, AllPlainFor p cfg it.2 ∧ nestingP p it.2 ≤ 127)
    (hs : SepsOK p ryu true items) (hE : TriviaEnd tEnd) :
    let s0 := initSt .io (concatText p ryu items ++ tEnd)
    (∀ cap, items.length + 1 ≤ cap →
        iterate cfg op cap s0 = valueItems p cfg.opts items ++ [.none_]) ∧
    (∀ k, runHistory cfg (List.replicate (items.length + (k + 1)) op) s0 =
        valueItems p cfg.opts items ++ List.replicate (k + 1) .none_) := by
  intro s0
  have h := (C12_concat p cfg ryu hc op hop items tEnd hall hs hE).2.1
  simp only [valueItems_eq_map] at h ⊢
  simpa using concat_sources cfg op _ (items.map fun it => fold p cfg.opts it.2) .io
    (fun h => nomatch h) (by simpa using h)

/-- **C12_concat_str**: the statement of `C12_concat` for a parser on a `&str`; the text must be
    well-formed UTF-8 (a `&str` always is; the printed texts of plain values are, comment bodies
    are arbitrary bytes in `Trivia`, hence the explicit, decidable hypothesis). -/
theorem C12_concat_str (p : Print.Options) (cfg : Cfg) (ryu : Nat → List UInt8)
    (hc : Compatible p cfg.opts = true) (op : Op) (hop : ValueOp op)
    (items : List (List UInt8 × Value)) (tEnd : List UInt8)
    (hall : ∀ it ∈ items, AllPlainFor p cfg it.2 ∧ nestingP p it.2 ≤ 127)
    (hs : SepsOK p ryu true items) (hE : TriviaEnd tEnd)
    (hu : Utf8.valid (concatText p ryu items ++ tEnd) = true) :
    let s0 := initSt .str (concatText p ryu items ++ tEnd)
    (∀ cap, items.length + 1 ≤ cap →
        iterate cfg op cap s0 = valueItems p cfg.opts items ++ [.none_]) ∧
    (∀ k, runHistory cfg (List.replicate (items.length + (k + 1)) op) s0 =
        valueItems p cfg.opts items ++ List.replicate (k + 1) .none_) := by
  intro s0
  have h := (C12_concat p cfg ryu hc op hop items tEnd hall hs hE).2.1
  simp only [valueItems_eq_map] at h ⊢
  simpa using concat_sources cfg op _ (items.map fun it => fold p cfg.opts it.2) .str
    (fun _ => hu) (by simpa using h)

/-- the instance of `Concat.lean` (` ;first⏎(a 1)␌"s;x";c⏎⇥foo ; end`) on the stream, through
    `Iterator::next`, and on the `&str` source -/
example (ryu : Nat → List UInt8) :
    iterate cfg0 .parserNext 4
        (initSt .io (concatText Print.Options.default ryu exItems ++ asc " ; end")) =
      valueItems Print.Options.default cfg0.opts exItems ++ [.none_] :=
  (C12_concat_io Print.Options.default cfg0 ryu (by decide) .parserNext (.inr (.inr rfl)) exItems
    (asc " ; end") exItems_plain (exItems_seps ryu) (triviaEnd_of_triviaEndB _ (by decide))).1 4
    (by decide)

example :
    iterate cfg0 .nextValue 4
        (initSt .str (concatText Print.Options.default ryu0 exItems ++ asc " ; end")) =
      valueItems Print.Options.default cfg0.opts exItems ++ [.none_] :=
  (C12_concat_str Print.Options.default cfg0 ryu0 (by decide) .nextValue (.inl rfl) exItems
    (asc " ; end") exItems_plain (exItems_seps ryu0) (triviaEnd_of_triviaEndB _ (by decide))
    (by decide)).1 4 (by decide)

#print axioms C12_concat_io
#print axioms C12_concat_str
#print axioms C12_concat_io_history
#print axioms C12_concat_str_history
#print axioms C12_concat_io_iterate
#print axioms C12_concat_str_iterate

end Concat
end Parse
end Lexpr
