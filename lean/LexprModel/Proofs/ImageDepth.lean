/-
  ImageDepth — the lexer never touches the recursion budget.

  `DepP m`: every successful run of `m` leaves `remaining_depth` unchanged.  The lexer only
  advances the reader (`Lexes`), so this holds for every function below `parse_token` and for
  `parse_token` itself.  (`Safety.lean` has the same fact inside its `Safe` judgement, but
  only for inputs shorter than `i32::MAX - 1`, because that judgement also excludes the
  exponent-overflow panic; here no bound on the input is needed.)  `enter` and `leave` do change
  the budget: `enter_inv`, `leave_inv` say how.
-/
import LexprModel.Proofs.Lexes
import LexprModel.Proofs.Primitives
namespace Lexpr
namespace Parse
namespace Image

structure DepP {α : Type} (m : P α) : Prop where
  ok : ∀ s a s', m s = .ok a s' → s'.depth = s.depth

theorem _root_.Lexpr.Parse.Lexes.depP {α : Type} {m : P α} (h : Lexes m) : DepP m :=
  ⟨fun _ _ _ hr => (h.ok hr).depth⟩

theorem DepP.outOfFuel {α : Type} : DepP (outOfFuel : P α) := ⟨fun _ _ _ h => nomatch h⟩
theorem DepP.discard : DepP discard := Lexes.discard.depP
theorem DepP.getPos : DepP getPos := ⟨fun _ _ _ h => by cases h; rfl⟩
theorem DepP.peekOrNull : DepP peekOrNull := (Lexes.of_held .peekOrNull).depP
theorem DepP.nextOrNull : DepP nextOrNull := (Lexes.of_held .nextOrNull).depP
theorem DepP.parseWhitespace : DepP parseWhitespace := (Lexes.of_held .parseWhitespace).depP
theorem DepP.parseSymbolBytes (scratch : List UInt8) : DepP (parseSymbolBytes scratch) :=
  (Lexes.parseSymbolBytes scratch).depP
theorem DepP.parseToken (cfg : Cfg) (f : Nat) (pk : UInt8) : DepP (parseToken cfg f pk) :=
  (Lexes.of_held (.parseToken trivial cfg pk (.refl f))).depP
theorem DepP.endSeq (close : UInt8) : DepP (endSeq close) := (Lexes.of_held (.endSeq close)).depP
theorem DepP.parseByteList (cfg : Cfg) (f : Nat) (close : UInt8) :
    DepP (parseByteList cfg f close) :=
  (Lexes.of_held (.parseByteList cfg close (.refl f))).depP

theorem enter_inv {s s' : St} {u : Unit} (h : enter s = .ok u s') :
    s'.rd = s.rd ∧ s'.depth + 1 = s.depth ∧ 1 ≤ s'.depth := by
  obtain ⟨h2, rfl⟩ := Parse.enter_inv h
  exact ⟨rfl, by show s.depth - 1 + 1 = s.depth; omega, by show 1 ≤ s.depth - 1; omega⟩

theorem leave_inv {s s' : St} {u : Unit} (h : leave s = .ok u s') :
    s'.rd = s.rd ∧ s'.depth = s.depth + 1 := by
  rw [Parse.leave_inv h]; exact ⟨rfl, rfl⟩

end Image
end Parse
end Lexpr
