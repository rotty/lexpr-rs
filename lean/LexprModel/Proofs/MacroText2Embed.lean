/-
  C09 (text half, second part) — the sub-language `TextOK2` contains `TextOK`: every `TextOK`
  tree of MacroText is a `TextOK2` tree (in every build) with the same text, the same nesting and
  the same documented tree, so `C09_agree_full` subsumes `C09_agree` (`C09_agree_full_extends`).
-/
import LexprModel.Proofs.MacroText2
namespace Lexpr
namespace Macro
open Print
open Parse.ListRT
open Decimals

mutual
/-- a documented tree without floats as an `Sx` tree -/
def embed : Doc → Sx
  | .list xs => .list (embedL xs)
  | .dotted xs t => .dotted (embedL xs) (embed t)
  | .vec xs => .vec (embedL xs)
  | .int n => .leaf (.int n)
  | .negInt n => .leaf (.negInt n)
  | .float s e => .leaf (.float s e)
  | .negFloat s e => .leaf (.negFloat s e)
  | .str src val => .leaf (.str src val)
  | .chr c => .leaf (.chr c)
  | .tru => .leaf .tru
  | .fls => .leaf .fls
  | .nil => .leaf .nil
  | .sym name => .leaf (.sym name)
  | .psym cs => .leaf (.psym cs)
  | .qsym src val => .leaf (.qsym src val)
  | .kw name => .leaf (.kw name)
  | .ckw name => .leaf (.ckw name)
  | .qkw src val => .leaf (.qkw src val)
  | .cqkw src val => .leaf (.cqkw src val)
  | .pkw cs => .leaf (.pkw cs)
  | .unq t => .leaf (.unq t)
def embedL : List Doc → List Sx
  | [] => []
  | x :: xs => embed x :: embedL xs
end

mutual
theorem erase_embed : ∀ d : Doc, erase (embed d) = d
  | .list xs => by simp only [embed, erase, eraseL_embedL xs]
  | .dotted xs t => by simp only [embed, erase, eraseL_embedL xs, erase_embed t]
  | .vec xs => by simp only [embed, erase, eraseL_embedL xs]
  | .int _ | .negInt _ | .float _ _ | .negFloat _ _ | .str _ _ | .chr _ | .tru | .fls | .nil
  | .sym _ | .psym _ | .qsym _ _ | .kw _ | .ckw _ | .qkw _ _ | .cqkw _ _ | .pkw _ | .unq _ => rfl
theorem eraseL_embedL : ∀ xs : List Doc, eraseL (embedL xs) = xs
  | [] => by simp only [embedL, eraseL]
  | x :: xs => by simp only [embedL, eraseL, erase_embed x, eraseL_embedL xs]
end

theorem atom_embed (d : Doc) (h : atomOk d = true) :
    atomOk2 d = true ∧ stextAtom2 d = stextAtom d := by
  cases d with
  | str src val =>
    simp only [atomOk, Bool.and_eq_true, beq_iff_eq] at h
    obtain ⟨⟨rfl, h2⟩, h3⟩ := h
    exact ⟨h3, by simp only [stextAtom2, strText, stextAtom, escapeStr_noEscape _ _ h2]⟩
  | negInt n =>
    simp only [atomOk, decide_eq_true_eq] at h
    exact ⟨by simp only [atomOk2, decide_eq_true_eq]; exact h.2, rfl⟩
  | int _ | float _ _ | negFloat _ _ | chr _ | tru | fls | nil | sym _ | psym _ | qsym _ _
  | kw _ | ckw _ | qkw _ _ | cqkw _ _ | pkw _ | unq _ | list _ | dotted _ _ | vec _ =>
    exact ⟨by simpa only [atomOk2] using h, rfl⟩

mutual
theorem textOk2_embed (cfg : Parse.Cfg) : ∀ d : Doc, textOk d = true → textOk2 cfg (embed d)
  | .list xs, h => textOkL2_embed cfg xs h
  | .dotted [] t, h => by simp [textOk] at h
  | .dotted (x :: xs) t, h => by
    simp only [textOk, Bool.and_eq_true] at h
    simp only [embed, embedL, textOk2]
    exact ⟨textOk2_embed cfg x h.1.1, textOkL2_embed cfg xs h.1.2, textOkTail2_embed cfg t h.2⟩
  | .vec xs, h => textOkL2_embed cfg xs h
  | .int _, h | .negInt _, h | .float _ _, h | .negFloat _ _, h | .str _ _, h | .chr _, h
  | .tru, h | .fls, h | .nil, h | .sym _, h | .psym _, h | .qsym _ _, h | .kw _, h | .ckw _, h
  | .qkw _ _, h | .cqkw _ _, h | .pkw _, h | .unq _, h =>
    leafOK_of_atomOk2 cfg _ (atom_embed _ h).1
theorem textOkL2_embed (cfg : Parse.Cfg) : ∀ xs : List Doc, textOkL xs = true →
    textOkL2 cfg (embedL xs)
  | [], _ => by simp only [embedL, textOkL2]
  | x :: xs, h => by
    simp only [textOkL, Bool.and_eq_true] at h
    simp only [embedL, textOkL2]
    exact ⟨textOk2_embed cfg x h.1, textOkL2_embed cfg xs h.2⟩
theorem textOkTail2_embed (cfg : Parse.Cfg) : ∀ t : Doc, textOkTail t = true →
    textOkTail2 cfg (embed t)
  | .list ys, h => textOkL2_embed cfg ys h
  | .dotted ys t, h => by
    simp only [textOkTail, Bool.and_eq_true] at h
    simp only [embed, textOkTail2]
    exact ⟨textOkL2_embed cfg ys h.1, textOkTail2_embed cfg t h.2⟩
  | .vec xs, h => textOkL2_embed cfg xs h
  | .int _, h | .negInt _, h | .float _ _, h | .negFloat _ _, h | .str _ _, h | .chr _, h
  | .tru, h | .fls, h | .nil, h | .sym _, h | .psym _, h | .qsym _ _, h | .kw _, h | .ckw _, h
  | .qkw _ _, h | .cqkw _ _, h | .pkw _, h | .unq _, h =>
    leafOK_of_atomOk2 cfg _ (atom_embed _ h).1
end

mutual
theorem stext2_embed : ∀ d : Doc, textOk d = true → stext2 (embed d) = stext d
  | .list [], _ => by simp only [embed, embedL, stext2, stext]
  | .list (x :: xs), h => by
    simp only [textOk, textOkL, Bool.and_eq_true] at h
    simp only [embed, embedL, stext2, stext, stext2_embed x h.1, stextRest2_embed xs h.2]
  | .dotted [] t, h => by simp [textOk] at h
  | .dotted (x :: xs) t, h => by
    simp only [textOk, Bool.and_eq_true] at h
    simp only [embed, embedL, stext2, stext, stext2_embed x h.1.1, stextRest2_embed xs h.1.2,
      stextTail2_embed t h.2, List.append_assoc]
  | .vec [], _ => by simp only [embed, embedL, stext2, stext]
  | .vec (x :: xs), h => by
    simp only [textOk, textOkL, Bool.and_eq_true] at h
    simp only [embed, embedL, stext2, stext, stext2_embed x h.1, stextRest2_embed xs h.2,
      List.append_assoc]
  | .int _, h | .negInt _, h | .float _ _, h | .negFloat _ _, h | .str _ _, h | .chr _, h
  | .tru, h | .fls, h | .nil, h | .sym _, h | .psym _, h | .qsym _ _, h | .kw _, h | .ckw _, h
  | .qkw _ _, h | .cqkw _ _, h | .pkw _, h | .unq _, h => (atom_embed _ h).2
theorem stextRest2_embed : ∀ xs : List Doc, textOkL xs = true →
    stextRest2 (embedL xs) = stextRest xs
  | [], _ => by simp only [embedL, stextRest2, stextRest]
  | x :: xs, h => by
    simp only [textOkL, Bool.and_eq_true] at h
    simp only [embedL, stextRest2, stextRest, stext2_embed x h.1, stextRest2_embed xs h.2]
theorem stextTail2_embed : ∀ t : Doc, textOkTail t = true → stextTail2 (embed t) = stextTail t
  | .list ys, h => by
    simp only [textOkTail] at h
    simp only [embed, stextTail2, stextTail, stextRest2_embed ys h]
  | .dotted ys t, h => by
    simp only [textOkTail, Bool.and_eq_true] at h
    simp only [embed, stextTail2, stextTail, stextRest2_embed ys h.1, stextTail2_embed t h.2]
  | .vec [], _ => by simp only [embed, embedL, stextTail2, stextTail]
  | .vec (x :: xs), h => by
    simp only [textOkTail, textOkL, Bool.and_eq_true] at h
    simp only [embed, embedL, stextTail2, stextTail, stext2_embed x h.1, stextRest2_embed xs h.2,
      List.append_assoc]
  | .int _, h | .negInt _, h | .float _ _, h | .negFloat _ _, h | .str _ _, h | .chr _, h
  | .tru, h | .fls, h | .nil, h | .sym _, h | .psym _, h | .qsym _ _, h | .kw _, h | .ckw _, h
  | .qkw _ _, h | .cqkw _ _, h | .pkw _, h | .unq _, h =>
    congrArg (32 :: 46 :: 32 :: ·) (atom_embed _ h).2
end

mutual
theorem dnest2_embed : ∀ d : Doc, dnest2 (embed d) = dnest d
  | .list xs => by simp only [embed, dnest2, dnest, dnestL2_embed xs]
  | .dotted [] t => by simp only [embed, embedL, dnest2, dnest, dnest2_embed t]
  | .dotted (x :: xs) t => by
    simp only [embed, embedL, dnest2, dnest, dnest2_embed x, dnestL2_embed xs, dnestTail2_embed t]
  | .vec xs => by simp only [embed, dnest2, dnest, dnestL2_embed xs]
  | .int _ | .negInt _ | .float _ _ | .negFloat _ _ | .str _ _ | .chr _ | .tru | .fls | .nil
  | .sym _ | .psym _ | .qsym _ _ | .kw _ | .ckw _ | .qkw _ _ | .cqkw _ _ | .pkw _ | .unq _ => rfl
theorem dnestL2_embed : ∀ xs : List Doc, dnestL2 (embedL xs) = dnestL xs
  | [] => by simp only [embedL, dnestL2, dnestL]
  | x :: xs => by simp only [embedL, dnestL2, dnestL, dnest2_embed x, dnestL2_embed xs]
theorem dnestTail2_embed : ∀ t : Doc, dnestTail2 (embed t) = dnestTail t
  | .list ys => by simp only [embed, dnestTail2, dnestTail, dnestL2_embed ys]
  | .dotted ys t => by
    simp only [embed, dnestTail2, dnestTail, dnestL2_embed ys, dnestTail2_embed t]
  | .vec xs => by simp only [embed, dnestTail2, dnestTail, dnestL2_embed xs]
  | .int _ | .negInt _ | .float _ _ | .negFloat _ _ | .str _ _ | .chr _ | .tru | .fls | .nil
  | .sym _ | .psym _ | .qsym _ _ | .kw _ | .ckw _ | .qkw _ _ | .cqkw _ _ | .pkw _ | .unq _ => rfl
end

/-- Every `TextOK` tree is a `TextOK2` tree, in every build, with the same documented tree, text
    and nesting: `C09_agree_full` applied to `embed d` is `C09_agree` for `d`. -/
theorem C09_agree_full_extends (cfg : Parse.Cfg) (d : Doc) (h : TextOK d) :
    erase (embed d) = d ∧ TextOK2 cfg (embed d) ∧ stext2 (embed d) = stext d ∧
      dnest2 (embed d) = dnest d :=
  ⟨erase_embed d, textOk2_embed cfg d h, stext2_embed d h, dnest2_embed d⟩

/-- `C09_agree`, re-derived from `C09_agree_full` -/
example (env : Tok → Value) (cfg : Parse.Cfg) (ho : cfg.opts = Parse.Options.default)
    (d : Doc) (hwf : WF d) (hok : TextOK d) (hn : dnest d ≤ 127)
    (hfuel : need d ≤ 2 * (toks d).length + 1000) :
    expand env (toks d) = some (valueOf env d) ∧
      ∃ s', Parse.fromTrait cfg (Parse.initSt .slice (stext d)) = .ok (valueOf env d) s' ∧
        s'.rd.rest = [] ∧ s'.depth = 128 := by
  obtain ⟨h1, h2, h3, h4⟩ := C09_agree_full_extends cfg d hok
  have := C09_agree_full env cfg ho (embed d) (by rw [h1]; exact hwf) h2 (by rw [h4]; exact hn)
    (by rw [h1]; exact hfuel)
  rw [h1, h3] at this
  exact this

#print axioms C09_agree_full_extends

end Macro
end Lexpr
