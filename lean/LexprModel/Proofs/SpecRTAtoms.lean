/-
  SpecRTAtoms — the Scheme reader of `Spec/Reader.lean` on what the default printer writes for atoms:
  `#nil`, booleans, symbols, keywords, characters, strings, byte vectors (numbers: `lexemes_default`
  and SpecRTNum.lean), and on the brackets (`Brackets` of SpecRTBase.lean).
-/
import LexprModel.Proofs.SpecRTNum
namespace Lexpr
namespace SpecRT
open Spec Print

theorem asc_hp : asc "#(" = [35, 40] := by decide
theorem asc_u8 : asc "#u8(" = [35, 117, 56, 40] := by decide
theorem asc_vu8 : asc "#vu8(" = [35, 118, 117, 56, 40] := by decide
theorem asc_hb : asc "#\\" = [35, 92] := by decide

/-- a run of non-delimiter bytes that does not start like another lexeme is one atom lexeme -/
theorem atom_lexeme (x : UInt8) (xs rest : List UInt8) (hnd : ∀ b ∈ x :: xs, isDelim b = false)
    (hq : x ≠ 39 ∧ x ≠ 96 ∧ x ≠ 44)
    (hh : x = 35 → ∃ c t, xs = c :: t ∧ c ≠ 92 ∧ c ≠ 117 ∧ c ≠ 118)
    (hf : Follow rest) :
    lexeme (x :: xs ++ rest) = some (some (.atom (x :: xs)), xs.length + 1) := by
  obtain ⟨f1, f2, f3, f4, f5, f6, f7⟩ := nondelim_facts x (hnd x (by simp))
  have hlen := atomLen_append (x :: xs) rest hnd hf
  have hq1 : (x == 39) = false := by simpa using hq.1
  have hq2 : (x == 96) = false := by simpa using hq.2.1
  have hq3 : (x == 44) = false := by simpa using hq.2.2
  by_cases h35 : x = 35
  · obtain ⟨c, t, rfl, c1, c2, c3⟩ := hh h35
    subst h35
    have c0 : (c == 40) = false := (nondelim_facts c (hnd c (by simp))).2.2.1
    simp only [List.cons_append] at hlen ⊢
    simp [lexeme, f1, hlen, asc_hp, asc_u8, asc_vu8, asc_hb, c0, c1, c2, c3]
  · simp only [List.cons_append] at hlen ⊢
    simp [lexeme, f1, f2, f3, f4, f5, f6, f7, hq1, hq2, hq3, hlen, asc_hp, asc_u8, asc_vu8, asc_hb, h35]

theorem lexeme_lpar (r : List UInt8) : lexeme (40 :: r) = some (some .lpar, 1) := by
  simp [lexeme, isWhite]
theorem lexeme_rpar (r : List UInt8) : lexeme (41 :: r) = some (some .rpar, 1) := by
  simp [lexeme, isWhite]
theorem lexeme_space (r : List UInt8) : lexeme (32 :: r) = some (none, 1) := by
  simp [lexeme, isWhite]
theorem lexeme_dot (r : List UInt8) : lexeme (46 :: 32 :: r) = some (some (.atom [46]), 1) :=
  atom_lexeme 46 [] (32 :: r) (by simp; decide) (by decide) (fun h => absurd h (by decide)) (follow_cons 32 r (by decide))
theorem lexeme_vec (r : List UInt8) : lexeme (35 :: [40] ++ r) = some (some .vec, 2) := by
  simp [lexeme, isWhite, asc_hp]

theorem lexeme_string (body rest : List UInt8) (h : strLen (body ++ 34 :: rest) = some body.length) :
    lexeme (34 :: (body ++ [34]) ++ rest) = some (some (.str body), (body ++ [34]).length + 1) := by
  have e : body ++ [34] ++ rest = body ++ 34 :: rest := by simp
  simp [lexeme, isWhite, e, h]

theorem brackets_default (alpha : Nat → Bool) :
    Brackets lexeme (classify alpha) Print.Options.default where
  lpar := lexeme_lpar
  rpar := lexeme_rpar
  space := lexeme_space
  dot := lexeme_dot
  cl_lpar := rfl
  cl_rpar := rfl
  cl_dot := rfl
  vec := ⟨35, [40], 41, .vec, .rpar, .rpar, .vector .rpar, by decide, by decide, by decide, lexeme_vec,
    rfl, lexeme_rpar, rfl, fun _ => rfl⟩

abbrev po : Print.Options := Print.Options.default

/-- an atom by the Scheme reader's own rule (`atom_lexeme`), which is wider than `Lexemes.atom`, the part
    it shares with Emacs Lisp (`Lexemes.readsAs_atom`): `?` may start an atom, and so may `#` before
    anything but `\`, `u`, `v`, `(` — `#nil`, `#t`, `#f`, `#:name` -/
theorem readsAs_atom (alpha : Nat → Bool) (x : UInt8) (xs : List UInt8) (w : Value)
    (hnd : ∀ b ∈ x :: xs, isDelim b = false) (hq : x ≠ 39 ∧ x ≠ 96 ∧ x ≠ 44)
    (hh : x = 35 → ∃ c t, xs = c :: t ∧ c ≠ 92 ∧ c ≠ 117 ∧ c ≠ 118)
    (hc : classify alpha (.atom (x :: xs)) = some (.datum w)) :
    ReadsAs lexeme (classify alpha) (x :: xs) w :=
  readsAs_datum lexeme (classify alpha) x xs (.atom (x :: xs)) w
    (fun rest hf => atom_lexeme x xs rest hnd hq hh hf) hc

/-- an atom that starts with `#` and goes on with none of `\`, `u`, `v`, `(` -/
theorem readsAs_hash (alpha : Nat → Bool) (c : UInt8) (t : List UInt8) (w : Value)
    (hnd : ∀ b ∈ c :: t, isDelim b = false) (hc : c ≠ 92 ∧ c ≠ 117 ∧ c ≠ 118)
    (hcl : classify alpha (.atom (35 :: c :: t)) = some (.datum w)) :
    ReadsAs lexeme (classify alpha) (35 :: c :: t) w :=
  readsAs_atom alpha 35 (c :: t) w (List.forall_mem_cons.mpr ⟨by decide, hnd⟩) (by decide)
    (fun _ => ⟨c, t, rfl, hc⟩) hcl

theorem reads_nil (alpha : Nat → Bool) (ryu : Nat → List UInt8) :
    ReadsAs lexeme (classify alpha) (text po ryu .nil) .nil := by
  rw [text_nil, show nilText po = [35, 110, 105, 108] by decide]
  exact readsAs_hash alpha 110 _ .nil (by decide) (by decide) rfl

theorem reads_bool (alpha : Nat → Bool) (ryu : Nat → List UInt8) (b : Bool) :
    ReadsAs lexeme (classify alpha) (text po ryu (.bool b)) (.bool b) := by
  rw [text_bool]
  cases b
  · rw [show boolText po false = [35, 102] by decide]
    exact readsAs_hash alpha 102 _ (.bool false) (by decide) (by decide) rfl
  · rw [show boolText po true = [35, 116] by decide]
    exact readsAs_hash alpha 116 _ (.bool true) (by decide) (by decide) rfl

theorem subsequent_atomByte {b : UInt8} (h : isSubsequent b = true) : AtomByte b :=
  atomByte_of_class (by decide +kernel) h

theorem initial_dotSubsequent {b : UInt8} (h : isInitial b = true) : isDotSubsequent b = true := by
  simp [isDotSubsequent, isSignSubsequent, h]

theorem signSubsequent_dotSubsequent {b : UInt8} (h : isSignSubsequent b = true) :
    isDotSubsequent b = true := by
  simp [isDotSubsequent, h]

theorem dotSubsequent_subsequent {b : UInt8} (h : isDotSubsequent b = true) :
    isSubsequent b = true := by
  simp only [isDotSubsequent, isSignSubsequent, Bool.or_eq_true, beq_iff_eq] at h
  rcases h with (((h | rfl) | rfl) | rfl) | rfl
  · simp [isSubsequent, h]
  all_goals decide +kernel

theorem digit_not_dotSubsequent : ∀ b : UInt8, isDigit b = true → isDotSubsequent b = false := by
  apply Parse.byte_forall; decide +kernel

/-- the widest of the three classes of bytes that may follow the head of an identifier -/
theorem dotSubsequent_facts (b : UInt8) (h : isDotSubsequent b = true) :
    isSubsequent b = true ∧ isDigit b = false :=
  ⟨dotSubsequent_subsequent h, Bool.eq_false_iff.mpr fun hd => by
    rw [digit_not_dotSubsequent b hd] at h; cases h⟩

theorem udecimal_nil : udecimal [] = none := by decide

theorem udecimal_nondigit (c : UInt8) (tl : List UInt8) (h1 : isDigit c = false) (h2 : c ≠ 46) :
    udecimal (c :: tl) = none := by
  simp [udecimal, List.takeWhile, List.dropWhile, h1, h2]

theorem udecimal_dot_nondigit (tl : List UInt8) (h : ∀ d r, tl = d :: r → isDigit d = false) :
    udecimal (46 :: tl) = none := by
  have h0 : isDigit 46 = false := by decide
  cases tl with
  | nil => decide
  | cons d r =>
    have := h d r rfl
    simp [udecimal, List.takeWhile, List.dropWhile, h0, this]

/-- what follows a dot in an identifier: a dot subsequent, then subsequents; so no digit comes first -/
theorem dotTail_facts (tl : List UInt8)
    (h : (match tl with
          | d :: r => isDotSubsequent d && r.all isSubsequent
          | [] => false) = true) :
    (∀ y ∈ tl, isSubsequent y = true) ∧ udecimal (46 :: tl) = none := by
  cases tl with
  | nil => cases h
  | cons d r =>
    simp only [Bool.and_eq_true, List.all_eq_true] at h
    obtain ⟨hs, hd⟩ := dotSubsequent_facts d h.1
    exact ⟨List.forall_mem_cons.mpr ⟨hs, h.2⟩,
      udecimal_dot_nondigit _ (fun d' r' e => by cases e; exact hd)⟩

theorem number_unsigned (b : UInt8) (tl : List UInt8) (h35 : b ≠ 35) (h43 : b ≠ 43) (h45 : b ≠ 45)
    (h : udecimal (b :: tl) = none) : number (b :: tl) = none := by
  simp [number, h35, h43, h45, h]

theorem number_signed (b : UInt8) (tl : List UInt8) (hb : b = 43 ∨ b = 45)
    (h : udecimal tl = none) : number (b :: tl) = none := by
  rcases hb with rfl | rfl <;> simp [number, h]

/-- The two facts about the shape of an identifier that matter here: every byte is a subsequent
    (so: no delimiter, no `#`, no quote character), and it is not a numeric literal.  By the head:
    an initial; a sign, alone or before a sign subsequent or before a dot; a dot. -/
theorem identShape_facts (name : List UInt8) (h : identShape name = true) :
    (∀ b ∈ name, isSubsequent b = true) ∧ number name = none := by
  cases name with
  | nil => cases h
  | cons b tl =>
    simp only [identShape, Bool.or_eq_true, Bool.and_eq_true, List.all_eq_true, beq_iff_eq] at h
    rcases h with (⟨hb, htl⟩ | ⟨hb, h⟩) | ⟨rfl, h⟩
    · obtain ⟨hs, hd⟩ := dotSubsequent_facts b (initial_dotSubsequent hb)
      exact ⟨List.forall_mem_cons.mpr ⟨hs, htl⟩,
        number_unsigned b tl (ne_of_class hb 35) (ne_of_class hb 43) (ne_of_class hb 45)
          (udecimal_nondigit b tl hd (ne_of_class hb 46))⟩
    · have hs : isSubsequent b = true := by rcases hb with rfl | rfl <;> decide
      suffices (∀ y ∈ tl, isSubsequent y = true) ∧ udecimal tl = none from
        ⟨List.forall_mem_cons.mpr ⟨hs, this.1⟩, number_signed b tl hb this.2⟩
      cases tl with
      | nil => exact ⟨by simp, udecimal_nil⟩
      | cons c r =>
        simp only [Bool.or_eq_true, Bool.and_eq_true, List.all_eq_true, beq_iff_eq] at h
        rcases h with ⟨hc, hr⟩ | ⟨rfl, h⟩
        · obtain ⟨hs', hd⟩ := dotSubsequent_facts c (signSubsequent_dotSubsequent hc)
          exact ⟨List.forall_mem_cons.mpr ⟨hs', hr⟩, udecimal_nondigit c r hd (ne_of_class hc 46)⟩
        · obtain ⟨h1, h2⟩ := dotTail_facts r h
          exact ⟨List.forall_mem_cons.mpr ⟨by decide, h1⟩, h2⟩
    · obtain ⟨h1, h2⟩ := dotTail_facts tl h
      exact ⟨List.forall_mem_cons.mpr ⟨by decide, h1⟩,
        number_unsigned 46 tl (by decide) (by decide) (by decide) h2⟩

theorem asc_t : asc "#t" = [35, 116] := by decide
theorem asc_true : asc "#true" = [35, 116, 114, 117, 101] := by decide
theorem asc_f : asc "#f" = [35, 102] := by decide
theorem asc_false : asc "#false" = [35, 102, 97, 108, 115, 101] := by decide
theorem asc_hnil : asc "#nil" = [35, 110, 105, 108] := by decide
theorem asc_hcolon : asc "#:" = [35, 58] := by decide

theorem atomValue_nohash (alpha : Nat → Bool) (x : UInt8) (xs : List UInt8) (h : x ≠ 35) :
    atomValue alpha (x :: xs) =
      match number (x :: xs) with
      | some n => some (.number n)
      | none => if isIdentifier alpha (x :: xs) then some (.symbol (x :: xs)) else none := by
  simp [atomValue, asc_t, asc_true, asc_f, asc_false, asc_hnil, asc_hcolon, h]
  rfl

theorem identifier_shape {alpha : Nat → Bool} {n : List UInt8} (h : isIdentifier alpha n = true) :
    identShape n = true := by
  simp only [isIdentifier, Bool.and_eq_true] at h
  exact h.1.1

theorem reads_symbol (alpha : Nat → Bool) (ryu : Nat → List UInt8) (n : List UInt8)
    (h : isIdentifier alpha n = true) :
    ReadsAs lexeme (classify alpha) (text po ryu (.symbol n)) (.symbol n) := by
  rw [text_symbol]
  have hs := identifier_shape h
  obtain ⟨hall, hnum⟩ := identShape_facts n hs
  cases n with
  | nil => cases hs
  | cons x xs =>
    obtain ⟨-, q1, q2, q3, q4⟩ := subsequent_atomByte (hall x (by simp))
    refine readsAs_atom alpha x xs _ (fun b hb => (subsequent_atomByte (hall b hb)).1) ⟨q1, q2, q3⟩
      (fun e => absurd e q4) ?_
    have h46 : (x :: xs == [46]) = false := by
      cases xs with
      | nil =>
        have : x ≠ 46 := by
          rintro rfl
          exact absurd hs (by decide)
        simpa using this
      | cons => simp
    simp only [classify, h46, Bool.false_eq_true, if_false, atomValue_nohash alpha x xs q4,
      hnum, h, if_true]
    rfl

theorem reads_keyword (alpha : Nat → Bool) (ryu : Nat → List UInt8) (n : List UInt8)
    (h : isIdentifier alpha n = true) :
    ReadsAs lexeme (classify alpha) (text po ryu (.keyword n)) (.keyword n) := by
  rw [text_keyword]
  show ReadsAs _ _ (35 :: 58 :: n) _
  have hall := (identShape_facts n (identifier_shape h)).1
  refine readsAs_hash alpha 58 n _ ?_ (by decide) ?_
  · simp only [List.forall_mem_cons]
    exact ⟨by decide, fun b hb => (subsequent_atomByte (hall b hb)).1⟩
  · simp [classify, atomValue, asc_t, asc_true, asc_f, asc_false, asc_hnil, asc_hcolon, h]

theorem lexemes_default (alpha : Nat → Bool) : Lexemes lexeme (classify alpha) where
  atom x xs rest hb _ hf :=
    have ⟨_, q1, q2, q3, q4⟩ := hb x (by simp)
    atom_lexeme x xs rest (fun b h => (hb b h).1) ⟨q1, q2, q3⟩ (fun e => absurd e q4) hf
  str := lexeme_string
  num x xs n hb hlast hn := by
    have h35 : x ≠ 35 := (litByte_atomByte (hb x (by simp))).2.2.2.2
    simp only [classify, ne_dot_of_last x xs hlast, Bool.false_eq_true, if_false,
      atomValue_nohash alpha x xs h35, hn]
    rfl

theorem lexeme_char_printable (c : Nat) (hp : 32 ≤ c ∧ c < 127) (rest : List UInt8)
    (hf : Follow rest) :
    lexeme (35 :: [92, UInt8.ofNat c] ++ rest) = some (some (.chr c []), 3) := by
  obtain ⟨p1, p2, p3⟩ := ascii_facts c (by omega)
  simp [lexeme, isWhite, asc_hp, asc_u8, asc_vu8, asc_hb, Utf8.decodeFirst, p1, p2, p3,
    atomLen_follow rest hf]

theorem lexeme_char_hex (c : Nat) (rest : List UInt8) (hf : Follow rest) :
    lexeme (35 :: (92 :: 120 :: natHexLower c) ++ rest) =
      some (some (.chr 120 (natHexLower c)), (92 :: 120 :: natHexLower c).length + 1) := by
  obtain ⟨-, h2, -⟩ := natHexLower_facts c
  have hl := atomLen_append (natHexLower c) rest (fun b hb => (h2 b hb).2) hf
  have e : Utf8.encode 120 = [120] := by decide
  simp [lexeme, isWhite, asc_hp, asc_u8, asc_vu8, asc_hb, Utf8.decodeFirst, hl, e]
  omega

theorem asc_hbx : asc "#\\x" = [35, 92, 120] := by decide

theorem reads_char (alpha : Nat → Bool) (ryu : Nat → List UInt8) (c : Nat)
    (h : isScalar c = true) :
    ReadsAs lexeme (classify alpha) (text po ryu (.char c)) (.char c) := by
  rw [text_char]
  show ReadsAs _ _ (schemeChar c) _
  unfold schemeChar
  split
  · rename_i hp
    exact readsAs_datum lexeme (classify alpha) 35 [92, UInt8.ofNat c] (.chr c []) _
      (fun rest hf => lexeme_char_printable c hp rest hf) rfl
  · rw [asc_hbx]
    refine readsAs_datum lexeme (classify alpha) 35 (92 :: 120 :: natHexLower c)
      (.chr 120 (natHexLower c)) _ (fun rest hf => lexeme_char_hex c rest hf) ?_
    simp [classify, charValue, natHexLower_isEmpty, digitsVal_hex, h]

theorem strElement_letter (e v : UInt8) (rest : List UInt8) (he : (e == 120) = false)
    (hl : strEscapes.lookup e = some v) : strElement (92 :: e :: rest) = some ([v], 2) := by
  simp [strElement, he, hl]

theorem piece_r6rs (b : UInt8) : Piece strElement [b] (escapeText .r6rs b (escClass b)) := by
  refine piece_escape strElement (fun b => [b]) .r6rs ?_ ?_ ?_ b
  · intro b rest h
    have h2 : b ≠ 92 := by simpa using (plain_facts b h).2
    simp [strElement, h2]
  · intro k p hk rest
    have ⟨h1, h2⟩ : (p.2 == 120) = false ∧ strEscapes.lookup p.2 = some p.1 := by
      cases k <;> cases hk <;> decide
    exact strElement_letter p.2 p.1 rest h1 h2
  · intro b h
    obtain ⟨g1, g2, g3⟩ := control_facts b h
    have hb : b.toNat < 256 := UInt8.toNat_lt b
    obtain ⟨-, p1, s1⟩ := hexUpper_facts (b.toNat / 16) (by omega)
    obtain ⟨-, p2, s2⟩ := hexUpper_facts (b.toNat % 16) (by omega)
    refine piece_backslash strElement _ 120
      [hexDigitUpper (b.toNat / 16), hexDigitUpper (b.toNat % 16), 59] ?_ fun rest => ?_
    · simp only [List.forall_mem_cons]
      exact ⟨p1, p2, by decide, by simp⟩
    · have ht : (hexDigitUpper (b.toNat / 16) :: hexDigitUpper (b.toNat % 16) :: 59 :: rest).takeWhile
          (· != 59) = [hexDigitUpper (b.toNat / 16), hexDigitUpper (b.toNat % 16)] := by
        simp [s1, s2]
      simp [strElement, ht, g1, g2, g3]

theorem reads_string (alpha : Nat → Bool) (ryu : Nat → List UInt8) (s : List UInt8)
    (h : Utf8.valid s = true) :
    ReadsAs lexeme (classify alpha) (text po ryu (.string s)) (.string s) := by
  rw [text_string]
  refine (lexemes_default alpha).readsAs_pieces strElement _ _ piece_r6rs s _ ?_
  have hch := (flatMap_pieces strElement _ _ piece_r6rs s).2
  simp [classify, strValue, hch, ← List.flatMap_def, h]

/-- an octet as the printer's element -/
def octNum (b : UInt8) : Value := .number (.pos b.toNat)

theorem octetsText_seq (ryu : Nat → List UInt8) : ∀ bs : List UInt8,
    octetsText bs = seqT po ryu true (bs.map octNum)
  | [] => by simp [octetsText, seqT_nil]
  | [b] => by
    simp only [octetsText, List.map_cons, List.map_nil, seqT_true, seqT_nil, List.append_nil]
    rw [octNum, text_number]; rfl
  | b :: b' :: bs => by
    have ih := octetsText_seq ryu (b' :: bs)
    simp only [List.map_cons] at ih
    simp only [octetsText, List.map_cons, seqT_true (x := octNum b), seqT_false_eq, ← ih]
    rw [octNum, text_number]
    have h1 : ch ' ' = 32 := by decide
    simp [numberText, h1]

theorem octet_octNum (b : UInt8) : octet (octNum b) = some b := by
  have : b.toNat < 256 := UInt8.toNat_lt b
  simp [octet, octNum, this]

theorem mapM_octet (bs : List UInt8) : (bs.map octNum).mapM octet = some bs := by
  induction bs with
  | nil => rfl
  | cons b bs ih => simp [List.mapM_cons, octet_octNum, ih]

theorem foldList_octs (o : Print.Options) (r : Parse.Options) (bs : List UInt8) :
    foldList o r (bs.map octNum) = bs.map octNum := by
  induction bs with
  | nil => rfl
  | cons b bs ih => simp [foldList, fold, octNum, ih]

theorem leaves_octs (bs : List UInt8) :
    LeavesSeq (fun v => ∃ n, n ≤ u64Max ∧ v = .number (.pos n)) (bs.map octNum) := by
  refine ((leaves_iff _).2 _).mpr ((FullRT.allLeavesSeq_iff _).mpr fun x hx => ?_)
  obtain ⟨b, -, rfl⟩ := List.mem_map.mp hx
  have := UInt8.toNat_lt b
  exact ⟨b.toNat, by unfold u64Max; omega, rfl⟩

theorem lexeme_u8 (r : List UInt8) : lexeme (35 :: [117, 56, 40] ++ r) = some (some .u8, 4) := by
  simp [lexeme, isWhite, asc_hp, asc_u8]

theorem reads_bytes (alpha : Nat → Bool) (ryu : Nat → List UInt8) (bs : List UInt8) :
    ReadsAs lexeme (classify alpha) (text po ryu (.bytes bs)) (.bytes bs) := by
  rw [text_bytes, octetsText_seq ryu]
  have hs := seq_reads lexeme (classify alpha) po (brackets_default alpha) ryu Parse.Options.default
    (fun v => ∃ n, n ≤ u64Max ∧ v = .number (.pos n))
    (fun v _ _ _ ⟨n, hn, hv⟩ => by
      subst hv
      simpa [fold] using reads_posint (lexemes_default alpha) po ryu n hn)
    true (bs.map octNum) (leaves_octs bs)
  rw [foldList_octs] at hs
  exact readsAs_bracketed lexeme (classify alpha) 35 [117, 56, 40] 41 .u8 .rpar .rpar .bytes _
    (bs.map octNum) _ (by decide) lexeme_u8 rfl lexeme_rpar rfl
    (by simp only [finish, List.append_nil, List.reverse_reverse, mapM_octet]; rfl) hs

end SpecRT
end Lexpr
