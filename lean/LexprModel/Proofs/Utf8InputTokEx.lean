/-
  Utf8InputTokEx — C17, input clause at the token scanner: the witnesses, evaluated by the kernel.
  The hypotheses of the theorems of `Utf8InputTok` are satisfiable and the theorems apply; the
  ill-formed spellings are rejected.
-/
import LexprModel.Proofs.ImageExamples
import LexprModel.Proofs.Utf8InputTok
namespace Lexpr
namespace Parse
namespace InTok
open Utf8 Utf8.U8 Parse.U8 InLoop Image

/-- run `parse_token` on a text (slice or stream source) and test the result -/
def runTok (cfg : Cfg) (mode : Mode) (text : List UInt8) (p : Token → List UInt8 → Bool) : Bool :=
  match text with
  | [] => false
  | pk :: _ =>
    match parseToken cfg (text.length + 1) pk (initSt mode text) with
    | .ok tok S' => p tok S'.rd.rest
    | _ => false

theorem runTok_spec {cfg : Cfg} {mode : Mode} {text : List UInt8} {p : Token → List UInt8 → Bool}
    (h : runTok cfg mode text p = true) :
    ∃ pk tl tok S', text = pk :: tl ∧
      parseToken cfg (text.length + 1) pk (initSt mode text) = .ok tok S' ∧ p tok S'.rd.rest = true := by
  unfold runTok at h
  split at h
  · cases h
  · rename_i pk tl
    split at h
    · rename_i tok S' heq
      exact ⟨pk, tl, tok, S', rfl, heq, h⟩
    · cases h

def isString (out : List UInt8) : Token → List UInt8 → Bool
  | .string s, rest => s == out && rest == []
  | _, _ => false

/-- `"λ\n\x3bb;z"` (raw two-byte sequence, simple escape, hex escape) is accepted … -/
theorem ex_r6rs_string :
    runTok cfgD .slice ([0x22, 0xCE, 0xBB] ++ asc "\\n\\x3bb;z\"")
      (isString [0xCE, 0xBB, 0x0A, 0xCE, 0xBB, 0x7A]) = true := by decide +kernel

/-- … and `C17_r6rs_token_input_valid` applies to it -/
example : Utf8.valid ([0x22, 0xCE, 0xBB] ++ asc "\\n\\x3bb;z\"") = true := by
  obtain ⟨pk, tl, tok, S', htext, h, hp⟩ := runTok_spec ex_r6rs_string
  have hpk : pk = 34 := by cases htext; rfl
  subst hpk
  cases tok with
  | string s =>
    simp only [isString, Bool.and_eq_true, beq_iff_eq] at hp
    exact C17_r6rs_token_input_valid h rfl ⟨tl, htext⟩ (by decide) (by rw [hp.2]; simp [initSt])
  | _ => simp [isString] at hp

/-- the stream source too -/
example : runTok cfgD .io ([0x22, 0xCE, 0xBB] ++ asc "\\n\\x3bb;z\"")
    (isString [0xCE, 0xBB, 0x0A, 0xCE, 0xBB, 0x7A]) = true := by decide +kernel

/-- R6RS: the Emacs counterexamples are REJECTED — `"` C3 `\xa9;"` (an escape cannot complete a
    sequence) and `"` C3 `\` 20 A9 `"` (there is no escaped blank) -/
example : rejectsWith cfgD [0x22, 0xC3, 0x5C, 0x78, 0x61, 0x39, 0x3B, 0x22] .invalidUnicodeCodePoint = true ∧
    rejectsWith cfgD [0x22, 0xC3, 0x5C, 0x20, 0xA9, 0x22] .invalidEscape = true := by
  decide +kernel

def isSymOrKw (out : List UInt8) : Token → List UInt8 → Bool
  | .symbol s, rest => s == out && rest == []
  | .keyword s, rest => s == out && rest == []
  | _, _ => false

/-- symbol spellings that meet the hypotheses: `λx`, `#:é`, `+aé`, `-.é`, `aé:` (postfix keyword),
    `#%é` (Racket) -/
theorem ex_symbols :
    runTok cfgD .slice [0xCE, 0xBB, 0x78] (isSymOrKw [0xCE, 0xBB, 0x78]) = true ∧
    runTok cfgD .io [0x23, 0x3A, 0xC3, 0xA9] (isSymOrKw [0xC3, 0xA9]) = true ∧
    runTok cfgD .slice [0x2B, 0x61, 0xC3, 0xA9] (isSymOrKw [0x2B, 0x61, 0xC3, 0xA9]) = true ∧
    runTok cfgD .slice [0x2D, 0x2E, 0xC3, 0xA9] (isSymOrKw [0x2D, 0x2E, 0xC3, 0xA9]) = true ∧
    runTok cfgRk .slice [0x61, 0xC3, 0xA9, 0x3A] (isSymOrKw [0x61, 0xC3, 0xA9]) = true ∧
    runTok cfgRk .slice [0x23, 0x25, 0xC3, 0xA9] (isSymOrKw [0x23, 0x25, 0xC3, 0xA9]) = true := by
  decide +kernel

example : Utf8.valid [0x23, 0x3A, 0xC3, 0xA9] = true := by
  obtain ⟨pk, tl, tok, S', htext, h, hp⟩ := runTok_spec ex_symbols.2.1
  have hpk : pk = 35 := by cases htext; rfl
  subst hpk
  have hrest : S'.rd.rest = [] := by
    cases tok <;> simp [isSymOrKw] at hp <;> exact hp.2
  exact C17_token_input_valid h (by simp [initSt]) (by decide) rfl (by rw [hrest]; simp [initSt])

/-- ill-formed symbols are rejected: a truncated sequence at the end (`a` C3), a stray
    continuation byte inside (`a` A9 `b`), an overlong form after `#:` -/
example : rejectsWith cfgD [0x61, 0xC3] .eofValue = true ∧
    rejectsWith cfgD [0x61, 0xA9, 0x62] .invalidUnicodeCodePoint = true ∧
    rejectsWith cfgD [0x23, 0x3A, 0xC0, 0x80] .invalidUnicodeCodePoint = true := by
  decide +kernel

def isChar (out : Nat) : Token → List UInt8 → Bool
  | .char c, rest => c == out && rest == []
  | _, _ => false

/-- characters that meet the hypotheses: `#\λ`, `#\x3bb`, `#\space`, `?λ`, `?\λ` (escaped raw
    character), `?\x3bb`, `?\N{U+3bb}`, `?\^a` -/
theorem ex_chars :
    runTok cfgD .slice [0x23, 0x5C, 0xCE, 0xBB] (isChar 955) = true ∧
    runTok cfgD .io (asc "#\\x3bb") (isChar 955) = true ∧
    runTok cfgD .slice (asc "#\\space") (isChar 32) = true ∧
    runTok cfgEl .slice [0x3F, 0xCE, 0xBB] (isChar 955) = true ∧
    runTok cfgEl .slice [0x3F, 0x5C, 0xCE, 0xBB] (isChar 955) = true ∧
    runTok cfgEl .io (asc "?\\x3bb") (isChar 955) = true ∧
    runTok cfgEl .slice (asc "?\\N{U+3bb}") (isChar 955) = true ∧
    runTok cfgEl .slice (asc "?\\^a") (isChar 0) = true := by
  decide +kernel

/-- ill-formed characters are rejected: `#\` C3, `#\` C3 28, `?` ED A0 80 (a surrogate),
    `?\` C3 (Emacs syntax) -/
example : rejectsWith cfgD [0x23, 0x5C, 0xC3] .eofValue = true ∧
    rejectsWith cfgD [0x23, 0x5C, 0xC3, 0x28] .invalidUnicodeCodePoint = true ∧
    rejectsWith cfgEl [0x3F, 0xED, 0xA0, 0x80] .invalidUnicodeCodePoint = true ∧
    rejectsWith cfgEl [0x3F, 0x5C, 0xC3] .eofValue = true := by
  decide +kernel

end InTok
end Parse
end Lexpr
