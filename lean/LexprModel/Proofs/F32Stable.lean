/-
  F32Stable — `f64 as f32` (the model's `roundToF32`) undoes a perturbation within `floatClose`.

  An `f32` value is serialized as the double `x` it widens to (`roundToF32 x = x`).  The default
  build reads the printed text back as a double `g` with `floatClose x g` (`2^-50` relative plus
  `2^-1073` absolute).  Neighbouring binary32 values are `2^-24` relative (or `2^-149` absolute)
  apart, so `g` is far from every binary32 rounding boundary:

  * `roundToF32_stable : x < 2^64 → roundToF32 x = x → floatClose x g → roundToF32 g = x`.

  * `ofF32Bits_fixed`: the widening of every finite binary32 bit pattern is such an `x`
    (a fixed point of `roundToF32`, below `2^64`); `roundToF32_stable_widen` combines the two.

  The proof works on magnitudes scaled by `2^1074` (every finite double is a natural multiple of
  `2^-1074`): `a = |x|·2^1074 = r·2^s` with `r < 2^24`, `925 ≤ s`, `b = |g|·2^1074`, and
  `floatClose` reads `2^50·|b - a| ≤ a + 2^51`.  The last place `2^t` of the binary32 rounding of
  `b` satisfies `t ≤ s` and `2·|b - a| < 2^t` (`near_core`), so the rounded mantissa is
  `r·2^(s-t)`.  No case split on normal / subnormal / binade boundary / `f32::MAX` is needed.
-/
import LexprModel.Proofs.F32Idem
import LexprModel.Proofs.FloatApprox
namespace Lexpr
namespace Serde
open F64 FloatApprox

/-- a quotient less than one half away from an integer rounds to it -/
theorem rne_near {n d A : Nat} (hd : 0 < d) (h1 : 2 * n < 2 * (A * d) + d)
    (h2 : 2 * (A * d) < 2 * n + d) : rne n d = A := by
  obtain ⟨e1, e2⟩ := Accuracy.rne_err (n := n) hd
  generalize rne n d = K at *
  by_cases hlt : K < A
  · have := Nat.mul_le_mul_left d (show K + 1 ≤ A by omega)
    rw [Nat.mul_add, Nat.mul_one, Nat.mul_comm d A] at this
    omega
  · by_cases hgt : A < K
    · have := Nat.mul_le_mul_left d (show A + 1 ≤ K by omega)
      rw [Nat.mul_add, Nat.mul_one, Nat.mul_comm d A] at this
      omega
    · omega

/-- `a = R·2^s` a binary32 magnitude (scaled by `2^1074`: `925 ≤ s`), `b` within
    `2^-50·a + 2`.  Then `b ≠ 0`, and for the last place `2^t` of the binary32 rounding of `b`
    (`t + 23 = max (log2 b) 948`): `t ≤ s` and `b / 2^t` rounds to `R·2^(s-t)`. -/
theorem near_core (R s b : Nat) (hR0 : 0 < R) (hR : R < 2 ^ 24) (hs : 925 ≤ s)
    (h1 : R * 2 ^ s * 2 ^ 50 ≤ b * 2 ^ 50 + R * 2 ^ s + 2 ^ 51)
    (h2 : b * 2 ^ 50 ≤ R * 2 ^ s * 2 ^ 50 + R * 2 ^ s + 2 ^ 51) :
    b ≠ 0 ∧ ∀ t, t + 23 = max b.log2 948 → t ≤ s ∧ rne b (2 ^ t) = R * 2 ^ (s - t) := by
  have hS : 2 ^ 100 ≤ 2 ^ s := Nat.pow_le_pow_right (by omega) (by omega)
  have ha_lo : 1 * 2 ^ s ≤ R * 2 ^ s := Nat.mul_le_mul_right _ hR0
  have ha_hi : R * 2 ^ s ≤ (2 ^ 24 - 1) * 2 ^ s := Nat.mul_le_mul_right _ (by omega)
  have hb0 : b ≠ 0 := by omega
  refine ⟨hb0, fun t ht => ?_⟩
  have hb_hi : b < 2 ^ (24 + s) := by
    rw [Nat.pow_add]; omega
  have hL : b.log2 < 24 + s := (Nat.log2_lt hb0).mpr hb_hi
  have hts : t ≤ s := by omega
  refine ⟨hts, ?_⟩
  have hT : 2 ^ 100 ≤ 2 ^ t := Nat.pow_le_pow_right (by omega) (by omega)
  have hbT : b < 2 ^ 24 * 2 ^ t := by
    rw [← Nat.pow_add]
    exact Nat.lt_of_lt_of_le Nat.lt_log2_self (Nat.pow_le_pow_right (by omega) (by omega))
  have hAT : R * 2 ^ (s - t) * 2 ^ t = R * 2 ^ s := by
    rw [Nat.mul_assoc, ← Nat.pow_add]; congr 2; omega
  apply rne_near (Nat.two_pow_pos _)
  · rw [hAT]; omega
  · rw [hAT]; omega

theorem decode_fst_zero {b : Nat} (h : (decode b).1 = 0) : b % signBit = 0 := by
  unfold decode at h
  simp only [] at h
  have := Nat.div_add_mod (b % signBit) two52
  split at h
  · next h0 => simp only [] at h; rw [h0, h] at this; omega
  · simp only [two52] at h; omega

theorem finite_flags {b : Nat} (h : isFinite b = true) : isNaN b = false ∧ isInf b = false := by
  have := finite_mod h
  unfold isNaN isInf
  constructor
  · exact decide_eq_false (by omega)
  · simp only [beq_eq_false_iff_ne, ne_eq]; omega

/-- the sign field `roundToF32` computes, through `isNeg` -/
theorem sign_isNeg (b : Nat) :
    (if b ≥ signBit then signBit else 0) = if isNeg b = true then signBit else 0 := by
  simp only [isNeg, decide_eq_true_eq]

/-- a zero of either sign, as a 64-bit pattern -/
theorem zero_bits {b : Nat} (hb : b < 2 ^ 64) (h : b % signBit = 0) :
    b = if b ≥ signBit then signBit else 0 := by
  by_cases hge : b ≥ signBit
  · rw [if_pos hge]; simp only [signBit] at *; omega
  · rw [if_neg hge]; simp only [signBit] at *; omega

/-- A finite non-zero fixed point of `roundToF32` is `± r·2^q` with `r < 2^24`,
    `-149 ≤ q`, below `2^128`; its magnitude scaled by `2^1074` is `r·2^(q+1074)`. -/
theorem f32_repr (x m : Nat) (p : Int) (hfix : roundToF32 x = x) (hnan : isNaN x = false)
    (hinf : isInf x = false) (hdec : decode x = (m, p)) (hm : m ≠ 0) :
    ∃ r q, r ≠ 0 ∧ r < 2 ^ 24 ∧ -149 ≤ q ∧ (q ≥ 0 → r * 2 ^ q.toNat < 2 ^ 128) ∧
      x = (if x ≥ signBit then signBit else 0) + rnScaled r q ∧
      m * 2 ^ (p + 1074).toNat = r * 2 ^ (q + 1074).toNat := by
  rw [roundToF32_finite x m p hnan hinf hdec hm] at hfix
  have hs := sign_cases (x ≥ signBit)
  obtain ⟨hr, hq⟩ := coreR_le m p (decode_snd_ge hdec)
  generalize (if x ≥ signBit then signBit else 0) = sign at hs hfix ⊢
  rcases coreOut_cases sign hr hq with h | h | ⟨r, q, hr0, hr24, hq, hov, h⟩
  · -- an infinity is excluded by `hinf`
    rw [h] at hfix
    exfalso
    have : isInf x = true := by
      rw [← hfix]; unfold isInf
      rcases hs with rfl | rfl <;> decide
    rw [this] at hinf; exact Bool.noConfusion hinf
  · -- a zero by `hm`
    rw [h] at hfix
    exfalso
    have : decode x = (0, -1074) := by
      rw [← hfix]; rcases hs with rfl | rfl <;> decide
    rw [this] at hdec
    exact hm (congrArg Prod.fst hdec).symm
  · rw [h] at hfix
    refine ⟨r, q, hr0, hr24, hq, hov, hfix.symm, ?_⟩
    have hL := log2_le_23 hr0 hr24
    obtain ⟨hd, -, -, -⟩ := f32_decode sign r q hs hr0 hr24 hq hov
    rw [hfix, hdec] at hd
    injection hd with e1 e2
    subst e1 e2
    rw [Nat.mul_assoc, ← Nat.pow_add]; congr 2; omega

theorem mag_rat (m : Nat) (p : Int) (hp : -1074 ≤ p) :
    (m : Rat) * (2 : Rat) ^ p =
      ((m * 2 ^ (p + 1074).toNat : Nat) : Rat) * (2 : Rat) ^ (-1074 : Int) := by
  have h2c : ((2 : Nat) : Rat) = 2 := rfl
  rw [Rat.natCast_mul, Rat.natCast_pow, h2c, ← Rat.zpow_natCast, Int.toNat_of_nonneg (by omega),
    Rat.mul_assoc, ← Rat.zpow_add Accuracy.two_ne]
  congr 2; omega

theorem closeMag_nat (a b : Nat)
    (h : closeMag ((a : Rat) * (2 : Rat) ^ (-1074 : Int)) ((b : Rat) * (2 : Rat) ^ (-1074 : Int))) :
    a * 2 ^ 50 ≤ b * 2 ^ 50 + a + 2 ^ 51 ∧ b * 2 ^ 50 ≤ a * 2 ^ 50 + a + 2 ^ 51 := by
  obtain ⟨h1, h2⟩ := h
  have hu := Accuracy.two_zpow_pos (-1074)
  have hc : cAbs = 2 * (2 : Rat) ^ (-1074 : Int) := by
    unfold cAbs
    rw [show (-1073 : Int) = -1074 + 1 by decide, Rat.zpow_add_one Accuracy.two_ne, Rat.mul_comm]
  have hr : cRel = 1 / 2 ^ 50 := rfl
  rw [hc, hr] at h1 h2
  have h2c : ((2 : Nat) : Rat) = 2 := rfl
  generalize (2 : Rat) ^ (-1074 : Int) = u at *
  constructor
  · apply Rat.natCast_le_natCast.mp
    apply Rat.le_of_mul_le_mul_right _ hu
    simp only [Rat.natCast_add, Rat.natCast_mul, Rat.natCast_pow, h2c]
    grind
  · apply Rat.natCast_le_natCast.mp
    apply Rat.le_of_mul_le_mul_right _ hu
    simp only [Rat.natCast_add, Rat.natCast_mul, Rat.natCast_pow, h2c]
    grind

/-- `roundToF32` on a finite non-zero double, through the scaled magnitude `b = m·2^(p+1074)` -/
theorem roundToF32_scaled (g m : Nat) (p : Int) (h1 : isNaN g = false) (h2 : isInf g = false)
    (hdec : decode g = (m, p)) (hm : m ≠ 0) :
    -1074 ≤ p ∧ -149 ≤ qOf m p ∧
    (((qOf m p + 1074).toNat + 23 = max (m * 2 ^ (p + 1074).toNat).log2 948)) ∧
    roundToF32 g = coreOut (if g ≥ signBit then signBit else 0)
      (rne (m * 2 ^ (p + 1074).toNat) (2 ^ (qOf m p + 1074).toNat)) (qOf m p) := by
  have hp : -1074 ≤ p := decode_snd_ge hdec
  have hq := (coreR_le m p hp).2
  refine ⟨hp, hq, ?_, ?_⟩
  · rw [Numbers.log2_mul_pow m _ hm]
    unfold qOf
    split <;> omega
  · rw [roundToF32_finite g m p h1 h2 hdec hm, coreR_common m p _ hp (by omega)]

/-- A binary32 value `x` (a 64-bit pattern fixed by `roundToF32`) and a
    double `g` with `floatClose x g` (both finite, same sign, magnitudes within
    `2^-50·|x| + 2^-1073`): narrowing `g` to `f32` gives `x` back exactly.  Covers `±0`,
    binary32 subnormals, binade boundaries and `f32::MAX`. -/
theorem roundToF32_stable (x g : Nat) (hx : x < 2 ^ 64) (hfix : roundToF32 x = x)
    (hc : floatClose x g) : roundToF32 g = x := by
  obtain ⟨hfx, hfg, hneg, hg64, hcm⟩ := hc
  obtain ⟨hnx, hix⟩ := finite_flags hfx
  obtain ⟨hng, hig⟩ := finite_flags hfg
  have hsign : (if g ≥ signBit then signBit else 0) = (if x ≥ signBit then signBit else 0) := by
    rw [sign_isNeg g, sign_isNeg x, hneg]
  cases hdx : decode x with
  | mk mx px =>
  cases hdg : decode g with
  | mk mg pg =>
  have hpx : -1074 ≤ px := decode_snd_ge hdx
  have hpg : -1074 ≤ pg := decode_snd_ge hdg
  unfold Accuracy.val at hcm
  rw [hdx, hdg] at hcm
  simp only [] at hcm
  rw [mag_rat mx px hpx, mag_rat mg pg hpg] at hcm
  obtain ⟨N1, N2⟩ := closeMag_nat _ _ hcm
  by_cases hmx : mx = 0
  · -- `x = ±0`
    subst hmx
    have hx0 : x = if x ≥ signBit then signBit else 0 :=
      zero_bits hx (decode_fst_zero (by rw [hdx]))
    rw [Nat.zero_mul] at N2
    by_cases hmg : mg = 0
    · subst hmg
      have hg0 : g = if g ≥ signBit then signBit else 0 :=
        zero_bits hg64 (decode_fst_zero (by rw [hdg]))
      rw [roundToF32_zero hdg, hg0, hsign, ← hx0]
    · obtain ⟨-, hq, ht, hround⟩ := roundToF32_scaled g mg pg hng hig hdg hmg
      rw [hround, hsign]
      have hT : 2 ^ 3 ≤ 2 ^ (qOf mg pg + 1074).toNat := Nat.pow_le_pow_right (by omega) (by omega)
      rw [Numbers.rne_zero (by omega), coreOut_zero]
      exact hx0.symm
  · obtain ⟨r, q, hr0, hr24, hq, hov, hxeq, hmag⟩ := f32_repr x mx px hfix hnx hix hdx hmx
    rw [hmag] at N1 N2
    obtain ⟨hb0, hcore⟩ := near_core r (q + 1074).toNat _ (by omega) hr24 (by omega) N1 N2
    have hmg : mg ≠ 0 := by intro h0; subst h0; exact hb0 (Nat.zero_mul _)
    obtain ⟨-, hqg, ht, hround⟩ := roundToF32_scaled g mg pg hng hig hdg hmg
    obtain ⟨hts, hr⟩ := hcore _ ht
    rw [hround, hr, hsign]
    generalize qOf mg pg = qg at *
    have hk : qg + (((q + 1074).toNat - (qg + 1074).toNat : Nat) : Int) = q := by
      have h1 := Int.toNat_of_nonneg (show 0 ≤ q + 1074 by omega)
      have h2 := Int.toNat_of_nonneg (show 0 ≤ qg + 1074 by omega)
      generalize (q + 1074).toNat = A at *
      generalize (qg + 1074).toNat = B at *
      omega
    rw [coreOut_shift _ r _ qg (by rw [hk]; exact hov), hk]
    exact hxeq.symm

/-- the bound `x < 2^64` cannot be dropped: `2·signBit` is a "zero" for `decode` but not a 64-bit
    pattern; `roundToF32` fixes it, `signBit` (`-0.0`) is `floatClose` to it, and narrowing
    `-0.0` gives `-0.0`.  (An artefact of bit patterns being `Nat`; no Rust value is involved.) -/
example : roundToF32 (2 * signBit) = 2 * signBit ∧ floatClose (2 * signBit) signBit ∧
    roundToF32 signBit ≠ 2 * signBit := by
  refine ⟨by decide +kernel, ⟨by decide, by decide, by decide, by decide, ?_⟩, by decide +kernel⟩
  have e1 : Accuracy.val (2 * signBit) = 0 := by decide +kernel
  have e2 : Accuracy.val signBit = 0 := by decide +kernel
  rw [e1, e2]
  exact closeMag_refl Rat.le_refl

theorem rnScaled_lt (r : Nat) (q : Int) (hr : r < 2 ^ 24) (hq1 : -149 ≤ q) (hq2 : q ≤ 104) :
    rnScaled r q < 2 ^ 63 := by
  by_cases hr0 : r = 0
  · subst hr0; rw [rnScaled_zero]; decide
  have hL := log2_le_23 hr0 hr
  obtain ⟨-, hM2⟩ := Numbers.mant_bounds r hr0 (by omega)
  rw [Numbers.rnScaled_exact r q hr0 (by omega) (by omega) (by omega)]
  have hE : ((r.log2 : Int) + q + 1022).toNat ≤ 1149 := by omega
  have := Nat.mul_le_mul_right two52 hE
  simp only [two52] at *
  omega

/-- The widening of every finite binary32 bit pattern is a fixed point of
    `roundToF32` and a 64-bit pattern: the hypotheses of `roundToF32_stable` on `x` hold of every
    finite `f32`. -/
theorem ofF32Bits_fixed (b : Nat) (hfin : b % 2147483648 / 8388608 ≠ 255) :
    roundToF32 (ofF32Bits b) = ofF32Bits b ∧ ofF32Bits b < 2 ^ 64 := by
  have hmag : b % 2147483648 / 8388608 ≤ 254 := by omega
  have hfrac : b % 2147483648 % 8388608 < 2 ^ 23 := Nat.mod_lt _ (by decide)
  have hs := sign_cases (b ≥ 2147483648)
  unfold ofF32Bits
  simp only [hfin, if_false]
  generalize (if b ≥ 2147483648 then signBit else 0) = sign at hs
  generalize b % 2147483648 / 8388608 = biased at *
  generalize b % 2147483648 % 8388608 = frac at *
  have hsb : sign ≤ 2 ^ 63 := by rcases hs with rfl | rfl <;> decide
  by_cases hb0 : biased = 0
  · simp only [hb0, if_true]
    refine ⟨?_, by have := rnScaled_lt frac (-149) (by omega) (by omega) (by omega); omega⟩
    by_cases hf0 : frac = 0
    · subst hf0
      rw [rnScaled_zero, Nat.add_zero]
      rcases hs with rfl | rfl
      · exact fixed_zero_pos
      · exact fixed_zero_neg
    · exact fixed_repr sign frac (-149) hs hf0 (by omega) (by omega) (fun h => by omega)
  · simp only [hb0, if_false]
    refine ⟨?_, by
      have := rnScaled_lt (frac + 8388608) ((biased : Int) - 150) (by omega) (by omega) (by omega)
      omega⟩
    apply fixed_repr sign (frac + 8388608) ((biased : Int) - 150) hs (by omega) (by omega) (by omega)
    intro _
    calc (frac + 8388608) * 2 ^ ((biased : Int) - 150).toNat
        < 2 ^ 24 * 2 ^ ((biased : Int) - 150).toNat :=
          Nat.mul_lt_mul_of_pos_right (by omega) (Nat.two_pow_pos _)
      _ = 2 ^ (24 + ((biased : Int) - 150).toNat) := (Nat.pow_add 2 24 _).symm
      _ ≤ 2 ^ 128 := Nat.pow_le_pow_right (by omega) (by omega)

/-- `(widen x as f64 ≈ g) as f32 = x` for every finite `f32` bit
    pattern `b`. -/
theorem roundToF32_stable_widen (b g : Nat) (hfin : b % 2147483648 / 8388608 ≠ 255)
    (hc : floatClose (ofF32Bits b) g) : roundToF32 g = ofF32Bits b :=
  roundToF32_stable _ g (ofF32Bits_fixed b hfin).2 (ofF32Bits_fixed b hfin).1 hc

/-- `f32::MAX` (`0x7F7FFFFF`) and the double one ulp above its widening -/
example : roundToF32 0x47EFFFFFE0000001 = ofF32Bits 0x7F7FFFFF :=
  roundToF32_stable_widen _ _ (by decide)
    ⟨by decide, by decide, by decide, by decide, by unfold closeMag; decide +kernel⟩

/-- `0.1f32` widened (`0x3FB99999A0000000`) and the double four ulps above it -/
example : roundToF32 0x3FB99999A0000004 = 0x3FB99999A0000000 :=
  roundToF32_stable _ _ (by decide) (by decide +kernel)
    ⟨by decide, by decide, by decide, by decide, by unfold closeMag; decide +kernel⟩

/-- `f32::MAX` widened (`0x47EFFFFFE0000000`): a double slightly above it still narrows to
    `f32::MAX`, not to infinity -/
example : roundToF32 0x47EFFFFFE0000004 = 0x47EFFFFFE0000000 :=
  roundToF32_stable _ _ (by decide) (by decide +kernel)
    ⟨by decide, by decide, by decide, by decide, by unfold closeMag; decide +kernel⟩

/-- the smallest binary32 subnormal `2^-149` (`0x36A0000000000000`), perturbed downwards -/
example : roundToF32 0x369FFFFFFFFFFFFD = 0x36A0000000000000 :=
  roundToF32_stable _ _ (by decide) (by decide +kernel)
    ⟨by decide, by decide, by decide, by decide, by unfold closeMag; decide +kernel⟩

/-- `-0.0` and the negative double `-2^-1073` -/
example : roundToF32 (signBit + 2) = signBit :=
  roundToF32_stable _ _ (by decide) (by decide +kernel)
    ⟨by decide, by decide, by decide, by decide, by unfold closeMag; decide +kernel⟩

#print axioms near_core
#print axioms f32_repr
#print axioms roundToF32_stable
#print axioms ofF32Bits_fixed

end Serde
end Lexpr
