/-
  Utf8InputHist — C17, input clause over HISTORIES of calls on one parser (any interleaving of
  `next_value`, `next_datum`, the iterators, `expect_value`, `expect_datum`, `expect_end`), every
  option set, slice and stream sources.

  A call that succeeds consumes a chunk of valid UTF-8 (`stepOp_inv`); along a history in which
  every call so far succeeded, what the parser has consumed is valid UTF-8
  (`C17_history_consumed_valid`), and the history as a whole can only be all-successful up to the
  point where the input stops being well-formed (`C17_history_ill_formed_prefix_fails`: if the
  bytes consumed by a run of calls are not valid UTF-8, one of these calls reported an error).  The side conditions are those of the single
  call theorems (`TV`: trivia well-formed, i.e. comments may hide anything; `NoNumEsc` under the
  Emacs Lisp string syntax), asked of the input the history starts from: the invariant `Inv s0`
  is anchored there and carries them to every later state (`Inv.step`).
-/
import LexprModel.Proofs.Utf8InputAllOpts
import LexprModel.Proofs.StepOp
namespace Lexpr
namespace Parse
namespace InAllOpts
open Utf8 Utf8.U8 Parse.U8 InLoop InTok InAll

/-- the item reports success (a value, a datum, end of input, or `Ok(())`) -/
def Item.accepted : Item → Bool
  | .value _ | .datum _ | .none_ | .unit => true
  | _ => false

/-- the parser state after a run of calls that all succeeded (`none` as soon as one call fails,
    panics or runs out of fuel) -/
def runAccepted (cfg : Cfg) : List Op → St → Option St
  | [], s => some s
  | op :: ops, s =>
    match stepOp cfg op s with
    | (it, some s') => if Item.accepted it then runAccepted cfg ops s' else none
    | (_, none) => none

theorem stepOp_accepted {cfg : Cfg} {op : Op} {s : St} {it : Item} {os : Option St}
    (h : stepOp cfg op s = (it, os)) (hacc : Item.accepted it = true) :
    ∃ s', os = some s' ∧ ∃ a, op.run cfg s = .ok a s' := by
  rw [stepOp_eq] at h
  generalize op.run cfg s = r at h ⊢
  rcases r with ⟨a, s'⟩ | _ | _ | _ <;> cases h <;> first | exact ⟨s', rfl, a, rfl⟩ | cases hacc

theorem runAccepted_cons {cfg : Cfg} {op : Op} {ops : List Op} {s s' : St} :
    runAccepted cfg (op :: ops) s = some s' ↔ ∃ it s1, stepOp cfg op s = (it, some s1) ∧
      Item.accepted it = true ∧ runAccepted cfg ops s1 = some s' := by
  simp only [runAccepted]
  generalize stepOp cfg op s = r
  obtain ⟨it, _ | s1⟩ := r
  · exact ⟨nofun, fun ⟨_, _, h, _⟩ => nomatch h⟩
  · by_cases hacc : Item.accepted it = true
    · simp only [if_pos hacc]
      exact ⟨fun h => ⟨it, s1, rfl, hacc, h⟩, fun ⟨_, _, e, _, h⟩ => by cases e; exact h⟩
    · simp only [if_neg hacc]
      exact ⟨nofun, fun ⟨_, _, e, ha, _⟩ => by cases e; exact absurd ha hacc⟩

end InAllOpts

/-! ### histories keep any invariant of the readers

  The induction over the history is a fold: the invariant (`Inv s0`) is anchored at the state the
  history starts from, so nothing has to be re-established between two calls. -/

namespace ReaderInv
open InAllOpts
variable {cfg : Cfg} {ι : Type} {I : ι → St → Prop} {Up : ι → ι → Prop} {Q : Token → Prop}
  {Cl : UInt8 → Prop} {V T : ι → Value → Prop} {S : ι → List Value → Prop}

/-- one successful call of any kind keeps the invariant (a datum call runs in lock step with the
    value call) -/
theorem op (R : ReaderInv cfg I Up Q Cl V T S) (D : ι) (o : Op) {s s' : St} {a : o.Ret}
    (h : o.run cfg s = .ok a s') (hs : I D s) : I D s' :=
  Op.run_forall (C := fun m => ∀ a, m s = .ok a s' → I D s')
    (fun _ hr => (R.nextValueTop D _ _ _ hr hs).1)
    (fun _ hr => (R.nextValueTop D _ _ _ ((Parse.sim_nextTop cfg).ok hr) hs).1)
    (fun _ hr => (R.expectValue D _ _ _ hr hs).1)
    (fun _ hr => (R.expectValue D _ _ _ ((Parse.sim_expect cfg).ok hr) hs).1)
    (fun _ hr => R.expectEnd D _ _ _ hr hs) o a h

theorem runAccepted (R : ReaderInv cfg I Up Q Cl V T S) (D : ι) : ∀ (ops : List Op) {s s' : St},
    runAccepted cfg ops s = some s' → I D s → I D s'
  | [], s, s', h, hs => by cases h; exact hs
  | o :: ops, s, s', h, hs => by
    obtain ⟨it, s1, hst, hacc, h⟩ := runAccepted_cons.1 h
    obtain ⟨_, e, a, hr⟩ := stepOp_accepted hst hacc
    cases e
    exact R.runAccepted D ops h (R.op D o hr hs)

end ReaderInv

namespace InAllOpts
open Utf8 Utf8.U8 Parse.U8 InLoop InTok InAll

/-- **one successful call of any kind consumes a chunk of valid UTF-8** and leaves a state that
    meets the same side conditions -/
theorem stepOp_inv {cfg : Cfg} {op : Op} {s s' : St} {it : Item}
    (h : stepOp cfg op s = (it, some s')) (hacc : Item.accepted it = true)
    (hm : s.rd.mode ≠ .str) (htv : TV s.rd.rest)
    (hnb : cfg.opts.string = .elisp → NoNumEsc s.rd.rest) : Inv s s' := by
  obtain ⟨_, e, a, hr⟩ := stepOp_accepted h hacc
  cases e
  exact (TokH.reader (tokH_of_noNumEsc hnb)).readerInv.op () op hr ⟨VC.refl s, htv, hm⟩

theorem runAccepted_inv {cfg : Cfg} (ops : List Op) {s s' : St}
    (h : runAccepted cfg ops s = some s') (hm : s.rd.mode ≠ .str) (htv : TV s.rd.rest)
    (hnb : cfg.opts.string = .elisp → NoNumEsc s.rd.rest) : Inv s s' :=
  (TokH.reader (tokH_of_noNumEsc hnb)).readerInv.runAccepted () ops h ⟨VC.refl s, htv, hm⟩

/-- **C17, input clause, histories, EVERY option set**: whatever sequence of calls is made on one
    parser over a slice or a stream, as long as every call so far succeeded the bytes consumed so
    far are valid UTF-8 (`w` is any way of writing them: the input is `w` followed by what is left). -/
theorem C17_history_consumed_valid {cfg : Cfg} {mode : Mode} {bytes w : List UInt8} {faulty : Bool}
    {ops : List Op} {S' : St}
    (h : runAccepted cfg ops (initSt mode bytes faulty) = some S')
    (hm : mode ≠ .str) (htv : TV bytes) (hnb : cfg.opts.string = .elisp → NoNumEsc bytes)
    (hw : bytes = w ++ S'.rd.rest) : Utf8.valid w = true := by
  have hinv := runAccepted_inv (s := initSt mode bytes faulty) ops h hm htv hnb
  exact hinv.vc.valid_of (by simpa [initSt] using hw)

/-- the contrapositive the oracle uses: once the consumed bytes are ill-formed, some call of the
    history did not succeed -/
theorem C17_history_ill_formed_prefix_fails {cfg : Cfg} {mode : Mode} {bytes w rest : List UInt8}
    {faulty : Bool} {ops : List Op}
    (hm : mode ≠ .str) (hno : ∀ b ∈ bytes, b ≠ 59) (hnb : NoNumEsc bytes)
    (hw : bytes = w ++ rest) (hbad : Utf8.valid w = false) :
    ∀ S', runAccepted cfg ops (initSt mode bytes faulty) = some S' → S'.rd.rest ≠ rest := by
  intro S' h heq
  have := C17_history_consumed_valid (w := w) h hm (TV.of_no59 hno) (fun _ => hnb) (by rw [heq]; exact hw)
  rw [this] at hbad
  cases hbad

/-- `runAccepted` is the state reached by `runHistory` when all its items are successes -/
theorem runAccepted_some_items {cfg : Cfg} (ops : List Op) {s s' : St}
    (h : runAccepted cfg ops s = some s') :
    (runHistory cfg ops s).length = ops.length ∧
      ∀ it ∈ runHistory cfg ops s, Item.accepted it = true := by
  induction ops generalizing s with
  | nil => simp [runHistory]
  | cons op ops ih =>
    obtain ⟨it, s1, hst, hacc, h⟩ := runAccepted_cons.1 h
    obtain ⟨hl, hall⟩ := ih h
    simp only [runHistory, hst]
    exact ⟨by simp [hl], List.forall_mem_cons.2 ⟨hacc, hall⟩⟩

/-- a call after which the parser is gone (panic, fuel) is not a success -/
theorem stepOp_none_not_accepted {cfg : Cfg} {op : Op} {s : St} {it : Item}
    (h : stepOp cfg op s = (it, none)) : Item.accepted it = false := by
  cases hacc : Item.accepted it with
  | false => rfl
  | true => obtain ⟨_, hs, _⟩ := stepOp_accepted h hacc; cases hs

/-- conversely: if every item `runHistory` produces is a success, `runAccepted` reaches a state — so the
    hypothesis of the history theorems can be read off the items the correspondence compares -/
theorem runAccepted_of_items {cfg : Cfg} (ops : List Op) (s : St)
    (h : ∀ it ∈ runHistory cfg ops s, Item.accepted it = true) :
    ∃ s', runAccepted cfg ops s = some s' := by
  induction ops generalizing s with
  | nil => exact ⟨s, rfl⟩
  | cons op ops ih =>
    simp only [runHistory] at h
    generalize hst : stepOp cfg op s = r at h
    obtain ⟨it, _ | s1⟩ := r
    · simp only [List.mem_singleton, forall_eq] at h
      rw [stepOp_none_not_accepted hst] at h
      cases h
    · obtain ⟨hacc, hrest⟩ := List.forall_mem_cons.1 h
      obtain ⟨s', h'⟩ := ih s1 hrest
      exact ⟨s', runAccepted_cons.2 ⟨it, s1, hst, hacc, h'⟩⟩

end InAllOpts
end Parse
end Lexpr
