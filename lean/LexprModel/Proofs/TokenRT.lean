/-
  What `parse_token` reads, forwards, for every parser option set and all three sources: a text of
  a given shape in a `Follow` context (the end of the input, or a byte that ends every token) is
  consumed in full and yields the token stated, in the exact state `adv s n p` (Consume.lean: `s`
  after `n` bytes with peek flag `p`).  Here: the fixed words (`fixedTok_reads`) and the arms that
  end in `parse_symbol` (`name_token`); numbers, characters, strings and byte vectors are in
  `TokenRTLit.lean`.
-/
import LexprModel.Print
import LexprModel.Proofs.Monad
import LexprModel.Proofs.Primitives
import LexprModel.Proofs.Utf8Lemmas
import LexprModel.Proofs.TokClass
namespace Lexpr
namespace Parse

attribute [simp] Rd.consume_rest Rd.consume_mode Rd.consume_faulty Rd.consume_peeked

/-- the three primitives as one equation each (Primitives.lean gives the two cases) -/
theorem peek_eq (s : St) : peek s =
    match s.rd.rest with
    | b :: _ => .ok (some b) (adv s 0 (s.rd.peeked || s.rd.mode == .io))
    | [] => if s.rd.faulty then .err .io s else .ok none s := by
  cases h : s.rd.rest with
  | nil => exact peek_nil h
  | cons b t => exact peek_cons h

theorem next_eq (s : St) : next s =
    match s.rd.rest with
    | b :: _ => .ok (some b) (adv s 1 false)
    | [] => if s.rd.faulty then .err .io s else .ok none s := by
  cases h : s.rd.rest with
  | nil => exact next_nil h
  | cons b t => rw [adv_false]; exact next_cons h

theorem discard_eq (s : St) : discard s =
    match s.rd.rest with
    | _ :: _ => .ok () (adv s 1 false)
    | [] => .panic .discardAtEof := by
  cases h : s.rd.rest with
  | nil => exact discard_nil h
  | cons b t => rw [adv_false]; exact discard_cons h

theorem consumeN_eq_adv (n : Nat) (s : St) : consumeN n s = .ok () (adv s n false) := by
  rw [adv_false]; simp [consumeN]

@[simp] theorem getRest_eq (s : St) : getRest s = .ok s.rd.rest s := rfl
@[simp] theorem getMode_eq (s : St) : getMode s = .ok s.rd.mode s := rfl

theorem drop_add_left {xs l r : List UInt8} {n : Nat} (h : xs.drop n = l ++ r) :
    xs.drop (n + l.length) = r := by
  rw [← List.drop_drop, h, List.drop_left]

/-- A byte that ends every token: whitespace, parentheses, brackets, `;`. -/
def isFollow (b : UInt8) : Bool :=
  b == 32 || b == 10 || b == 9 || b == 13 || b == 12 || b == 40 || b == 41 || b == 91 ||
  b == 93 || b == 59

/-- What may come after an atom: end of input or a byte that terminates every token. -/
def Follow (rest : List UInt8) : Prop := rest = [] ∨ ∃ b tl, rest = b :: tl ∧ isFollow b = true

theorem Follow.nil : Follow [] := Or.inl rfl
theorem Follow.cons {b : UInt8} {tl : List UInt8} (h : isFollow b = true) : Follow (b :: tl) :=
  Or.inr ⟨b, tl, rfl, h⟩

/-- A fact about the bytes of a small class is checked on the list of its members. -/
theorem forall_of_mem {c : UInt8 → Bool} {l : List UInt8} (hc : ∀ b, c b = true → b ∈ l)
    {P : UInt8 → Prop} (h : ∀ b ∈ l, P b) : ∀ b, c b = true → P b :=
  fun b hb => h b (hc b hb)

def followBytes : List UInt8 := [32, 10, 9, 13, 12, 40, 41, 91, 93, 59]

theorem isFollow_mem (b : UInt8) (h : isFollow b = true) : b ∈ followBytes := by
  simpa [isFollow, followBytes, or_assoc] using h

theorem isFollow_eq_symTermSlice : ∀ b, isFollow b = symTermSlice b := by
  intro b
  simp only [isFollow, symTermSlice]
  ac_rfl

theorem symTerm_eq (m : Mode) (b : UInt8) : symTerm m b = symTermSlice b := by cases m <;> rfl
theorem isFollow_symTerm (m : Mode) (b : UInt8) (h : isFollow b = true) : symTerm m b = true := by
  rw [symTerm_eq, ← isFollow_eq_symTermSlice]; exact h
theorem isFollow_isDelimiter : ∀ b, isFollow b = true → isDelimiter b = true :=
  forall_of_mem isFollow_mem (by decide)
theorem isFollow_isCharDelimiter : ∀ b, isFollow b = true → isCharDelimiter b = true :=
  forall_of_mem isFollow_mem (by decide)
theorem follow_not_hex : ∀ b : UInt8, isFollow b = true → hexVal b = none ∧ octVal b = none :=
  forall_of_mem isFollow_mem (by decide)

/-- a byte that is not a terminator is one at which `parse_whitespace` stops and an element loop
    goes on -/
theorem nonterm_weak {c : UInt8} (h : symTermSlice c = false) :
    isTrivia c = false ∧ c ≠ 59 ∧ c ≠ 41 ∧ c ≠ 93 := by
  simp only [symTermSlice, Bool.or_eq_false_iff, beq_eq_false_iff_ne] at h
  simp only [isTrivia, Bool.or_eq_false_iff, beq_eq_false_iff_ne]
  simp_all

/-- The peek flag after looking at what follows a token. -/
def endPeek (s : St) (rest : List UInt8) : Bool := !rest.isEmpty && s.rd.mode == .io

@[simp] theorem endPeek_adv (s : St) (n p) (rest : List UInt8) :
    endPeek (adv s n p) rest = endPeek s rest := by simp [endPeek]

theorem Follow.head {rest : List UInt8} (h : Follow rest) :
    ∀ b, rest.head? = some b → isFollow b = true := by
  intro b hb
  rcases h with rfl | ⟨b', tl, rfl, hb'⟩
  · simp at hb
  · simp at hb; subst hb; exact hb'

theorem peek_at (s : St) (rest : List UInt8) (h : s.rd.rest = rest)
    (hf : rest = [] → s.rd.faulty = false) :
    peek s = .ok rest.head? (adv s 0 (s.rd.peeked || endPeek s rest)) := by
  rw [peek_eq, h]
  cases rest with
  | nil => simp [hf rfl, endPeek, adv_zero_self]
  | cons b tl => simp [endPeek]

/-- A loop that looks at the next byte and stops, with the result `a`, at the end of the input
    and at every `Follow` byte, stops in front of a `Follow` context. -/
theorem peek_bind_follow {α} (k : Option UInt8 → P α) (a : α) (s : St) (rest : List UInt8)
    (h : s.rd.rest = rest) (hF : Follow rest) (hf : rest = [] → s.rd.faulty = false)
    (hnone : k none = pure a) (hsome : ∀ c, isFollow c = true → k (some c) = pure a) :
    (peek >>= k) s = .ok a (adv s 0 (s.rd.peeked || endPeek s rest)) := by
  simp only [bind_apply, peek_at s rest h hf]
  cases hh : rest.head? with
  | none => rw [hnone]; rfl
  | some c => rw [hsome c (hF.head c hh)]; rfl

theorem peekOrNull_at (s : St) (rest : List UInt8) (h : s.rd.rest = rest)
    (hf : rest = [] → s.rd.faulty = false) :
    peekOrNull s = .ok (rest.head?.getD 0) (adv s 0 (s.rd.peeked || endPeek s rest)) := by
  unfold peekOrNull
  simp only [bind_apply, peek_at s rest h hf, pure_apply]

/-- What `peekOrNull` shows in front of a `Follow` context: NUL for the end of the input, or a
    `Follow` byte. -/
theorem Follow.headD {rest : List UInt8} (h : Follow rest) :
    rest.head?.getD 0 ∈ 0 :: followBytes := by
  rcases h with rfl | ⟨b, tl, rfl, hb⟩
  · exact List.mem_cons_self
  · exact List.mem_cons_of_mem _ (isFollow_mem b hb)

/-- None of them continues a number or a peculiar identifier. -/
theorem follow_facts : ∀ c ∈ 0 :: followBytes,
    (c == 0 || isDelimiter c) = true ∧ isDigit c = false ∧ digitVal 10 c = none ∧
    (c == 46) = false ∧ (c == 101) = false ∧ (c == 69) = false := by
  decide +kernel

theorem parseWhitespace_eq (s : St) :
    parseWhitespace s = peek (adv s (wsLen s.rd.rest) false) := by
  simp [parseWhitespace, consumeN_eq_adv]

theorem wsLen_nontrivia (c : UInt8) (xs : List UInt8) (h1 : isTrivia c = false) (h2 : c ≠ 59) :
    wsLen (c :: xs) = 0 := by
  simp [wsLen, h1, h2]

/-- what `wsLen` (and, inside a comment, `commentLen`) stops at is neither trivia nor a `;` -/
theorem wsLen_drop_head : ∀ l : List UInt8,
    (∀ b t, l.drop (wsLen l) = b :: t → isTrivia b = false ∧ b ≠ 59) ∧
    (∀ b t, l.drop (commentLen l) = b :: t → isTrivia b = false ∧ b ≠ 59) := by
  intro l
  induction l with
  | nil => simp [wsLen, commentLen]
  | cons c cs ih =>
    constructor
    · intro b t h
      by_cases h59 : c = 59
      · simp only [wsLen, h59, beq_self_eq_true, if_true, List.drop_succ_cons] at h
        exact ih.2 b t h
      · by_cases ht : isTrivia c = true
        · simp only [wsLen, beq_iff_eq, h59, if_false, ht, if_true, List.drop_succ_cons] at h
          exact ih.1 b t h
        · simp only [wsLen, beq_iff_eq, h59, if_false, ht] at h
          obtain ⟨rfl, _⟩ := h
          exact ⟨by simpa using ht, h59⟩
    · intro b t h
      by_cases h10 : c = 10
      · simp only [commentLen, h10, beq_self_eq_true, if_true, List.drop_succ_cons] at h
        exact ih.1 b t h
      · simp only [commentLen, beq_iff_eq, h10, if_false, List.drop_succ_cons] at h
        exact ih.2 b t h

theorem wsLen_space (xs : List UInt8) : wsLen (32 :: xs) = wsLen xs + 1 := by
  simp [wsLen, isTrivia]

theorem parseWhitespace_token (s : St) (pk : UInt8) (tl : List UInt8)
    (hrest : s.rd.rest = pk :: tl) (h1 : isTrivia pk = false) (h2 : pk ≠ 59) :
    parseWhitespace s = .ok (some pk) (adv s 0 (s.rd.mode == .io)) := by
  rw [parseWhitespace_eq, hrest, wsLen_nontrivia pk tl h1 h2, peek_eq]
  simp [hrest]

theorem parseWhitespace_skip (s : St) (ws : List UInt8) (pk : UInt8) (tl : List UInt8)
    (hrest : s.rd.rest = ws ++ pk :: tl) (hws : wsLen (ws ++ pk :: tl) = ws.length) :
    parseWhitespace s = .ok (some pk) (adv s ws.length (s.rd.mode == .io)) := by
  rw [parseWhitespace_eq, hrest, hws, peek_eq]
  simp [hrest]

theorem symLen_append (m : Mode) (name rest : List UInt8)
    (hn : ∀ b ∈ name, symTermSlice b = false) (hF : Follow rest) :
    symLen m (name ++ rest) = name.length := by
  induction name with
  | nil =>
    rcases hF with rfl | ⟨b, tl, rfl, hb⟩
    · simp [symLen]
    · simp [symLen, isFollow_symTerm m b hb]
  | cons a tl ih =>
    have ha : symTerm m a = false := by rw [symTerm_eq]; exact hn a (by simp)
    simp [symLen, ha, ih (fun b hb => hn b (by simp [hb]))]

theorem parseSymbolBytes_reads (scratch name rest : List UInt8) (s : St)
    (hrest : s.rd.rest = name ++ rest) (hF : Follow rest)
    (hf : rest = [] → s.rd.faulty = false)
    (hn : ∀ b ∈ name, symTermSlice b = false)
    (hdot : scratch ++ name ≠ [46])
    (hv : s.rd.mode = .str ∨ Utf8.valid (scratch ++ name) = true) :
    parseSymbolBytes scratch s = .ok (scratch ++ name) (adv s name.length (endPeek s rest)) := by
  unfold parseSymbolBytes
  simp only [bind_apply, getRest_eq, getMode_eq, consumeN_eq_adv, hrest, symLen_append _ _ _ hn hF]
  rw [peek_at _ rest (by simp [hrest]) (by simpa using hf)]
  simp only [List.take_left', adv_adv, adv_peeked, Bool.false_or, Nat.add_zero, endPeek_adv]
  simp only [beq_iff_eq, hdot, if_false]
  rcases hv with hm | hv
  · simp [hm]
  · simp [hv]

/-! ## The arms of `parse_token`

One equation per class of the first byte, read off the dispatch `parseToken_eq` (TokClass). -/

theorem parseToken_hash (cfg : Cfg) (fuel : Nat) (c : UInt8) (r : List UInt8) (s : St)
    (h : s.rd.rest = 35 :: c :: r) :
    parseToken cfg fuel 35 s = hashTail cfg fuel c (adv s 2 false) := by
  show (discard >>= fun _ => next >>= fun o => _) s = _
  simp only [bind_apply, discard_eq, next_eq, h, adv_rest, List.drop_succ_cons, List.drop_zero,
    adv_adv]
  rfl

theorem parseToken_minus (cfg : Cfg) (fuel : Nat) :
    parseToken cfg fuel 45 = parseSignToken cfg fuel 45 false := rfl

theorem parseToken_plus (cfg : Cfg) (fuel : Nat) :
    parseToken cfg fuel 43 = parseSignToken cfg fuel 43 true := rfl

def digitBytes : List UInt8 := [48, 49, 50, 51, 52, 53, 54, 55, 56, 57]

theorem isDigit_mem : ∀ b : UInt8, isDigit b = true → b ∈ digitBytes := by
  apply byte_forall; decide +kernel

theorem isDigit_facts : ∀ b : UInt8, isDigit b = true →
    (b == 35) = false ∧ (b == 45) = false ∧ (b == 43) = false :=
  forall_of_mem isDigit_mem (by decide)

theorem parseToken_isDigit (cfg : Cfg) (fuel : Nat) (pk : UInt8) (h : isDigit pk = true) :
    parseToken cfg fuel pk =
      (if cfg.opts.leadingDigit then wholeArm cfg else numArm cfg fuel true) := by
  rw [parseToken_eq, tokClass_digit h]; rfl

theorem parseToken_dquote (cfg : Cfg) (fuel : Nat) :
    parseToken cfg fuel 34 = stringArm cfg.opts.string fuel := rfl

theorem parseToken_colon (cfg : Cfg) (fuel : Nat) : parseToken cfg fuel 58 = colonArm cfg.opts := rfl

theorem parseToken_alpha (cfg : Cfg) (fuel : Nat) (pk : UInt8) (h : isAsciiAlpha pk = true) :
    parseToken cfg fuel pk = (do
      let name ← parseSymbolBytes []
      pure (letterTok cfg.opts name)) := by
  rw [parseToken_eq, tokClass_alpha h]
  exact congrArg (parseSymbolBytes [] >>= ·) (funext fun name => letterTail_pure cfg.opts name)

theorem parseToken_qmark (cfg : Cfg) (fuel : Nat) (h : cfg.opts.char = .elisp) :
    parseToken cfg fuel 63 = charArm fuel := by
  rw [parseToken_eq]
  show (if (cfg.opts.char == CharSyntax.elisp) = true then _ else _) = _
  rw [h]; rfl

theorem hi_not_ascii (b : UInt8) (h : b > 127) : ¬ b < 0x80 ∧ b ≠ 46 := by
  refine ⟨?_, by rintro rfl; exact absurd h (by decide)⟩
  simp only [gt_iff_lt, UInt8.lt_iff_toNat_lt, UInt8.toNat_ofNat] at *
  omega

theorem parseToken_hi (cfg : Cfg) (fuel : Nat) (pk : UInt8) (h : pk > 127) :
    parseToken cfg fuel pk = hiArm cfg pk := by
  rw [parseToken_eq, tokClass_hi h]; rfl

/-- `!$%&*./:<=>?@^_~` -/
theorem parseToken_ext (cfg : Cfg) (fuel : Nat) (pk : UInt8) (he : isSymbolExtended pk = true)
    (h58 : pk ≠ 58) (hq : pk = 63 → cfg.opts.char ≠ .elisp) :
    parseToken cfg fuel pk = symArm cfg.opts [] := by
  rw [parseToken_eq]
  by_cases h63 : pk = 63
  · subst h63
    have : (cfg.opts.char == CharSyntax.elisp) = false := by
      cases hc : cfg.opts.char <;> simp_all
    show (if (cfg.opts.char == CharSyntax.elisp) = true then _ else _) = _
    rw [this]; rfl
  · rw [tokClass_ext he h58 h63]; rfl

theorem readCont_ok : ∀ (k : Nat) (acc : List UInt8) (s : St) (cont r : List UInt8),
    cont.length = k → s.rd.rest = cont ++ r → s.rd.peeked = false →
    readCont k acc s = .ok (acc ++ cont) (adv s k false) := by
  intro k
  induction k with
  | zero =>
    intro acc s cont r hl _ hp
    have : cont = [] := by simpa using hl
    subst this
    rw [← hp, adv_zero_self]; simp [readCont]
  | succ k ih =>
    intro acc s cont r hl hrest hp
    cases cont with
    | nil => simp at hl
    | cons b cont =>
      rw [readCont]
      simp only [bind_apply, next_eq, hrest, List.cons_append]
      rw [ih (acc ++ [b]) (adv s 1 false) cont r (by simpa using hl) (by simp [hrest]) (by simp)]
      simp [Nat.add_comm]

theorem ite_eq_some {α : Type} {c : Prop} [Decidable c] {a b : Option α} {x : α}
    (h : (if c then a else b) = some x) : (c ∧ a = some x) ∨ (¬ c ∧ b = some x) := by
  by_cases hc : c
  · rw [if_pos hc] at h; exact Or.inl ⟨hc, h⟩
  · rw [if_neg hc] at h; exact Or.inr ⟨hc, h⟩

theorem decodeFirst_inv {bs r : List UInt8} {c : Nat} (h : Utf8.decodeFirst bs = some (c, r)) :
    isScalar c = true ∧ ∃ b0 cont, bs = b0 :: (cont ++ r) ∧
      (∀ x ∈ cont, Utf8.isCont x = true) ∧ (¬ b0 < 0x80 → seqLen b0 = some cont.length) ∧
      ∀ x, Utf8.decodeFirst (b0 :: (cont ++ x)) = some (c, x) := by
  obtain ⟨sq, rfl, hs⟩ := Utf8.Seq.of_decode h
  cases sq with
  | nil => exact absurd rfl hs.ne_nil
  | cons b0 cont =>
    refine ⟨hs.scalar, b0, cont, rfl, hs.tail_cont, fun hb => ?_, fun x => hs.decode x⟩
    -- the ranges of the first byte (table 3-7) against the arithmetic of `decode_utf8_sequence`
    simp only [seqLen, Bool.and_eq_true, decide_eq_true_eq, UInt8.le_iff_toNat_le,
      UInt8.reduceToNat]
    rcases hs.length with ⟨h0, _⟩ | ⟨hr, hl⟩ | ⟨hr, hl⟩ | ⟨hr, hl⟩
    · exact absurd (UInt8.lt_iff_toNat_lt.mpr h0) hb
    · rw [if_pos (by omega), hl]
    · rw [if_neg (by omega), if_pos (by omega), hl]; congr 1; omega
    · rw [if_neg (by omega), if_pos (by omega), hl]; congr 1; omega

theorem decodeFirst_split (pk : UInt8) (tl : List UInt8) (c : Nat) (tl' : List UInt8)
    (hpk : ¬ (pk < 0x80)) (h : Utf8.decodeFirst (pk :: tl) = some (c, tl')) :
    ∃ cont, tl = cont ++ tl' ∧ seqLen pk = some cont.length ∧
      Utf8.decodeFirst (pk :: cont) = some (c, []) := by
  obtain ⟨-, b0, cont, hbs, -, hlen, happ⟩ := decodeFirst_inv h
  obtain ⟨rfl, rfl⟩ := List.cons.inj hbs
  exact ⟨cont, rfl, hlen hpk, by simpa using happ []⟩

theorem decodeUtf8Sequence_ok (pk : UInt8) (cont r : List UInt8) (c : Nat) (s : St)
    (hlen : seqLen pk = some cont.length)
    (hrest : s.rd.rest = cont ++ r) (hp : s.rd.peeked = false)
    (hd : Utf8.decodeFirst (pk :: cont) = some (c, [])) :
    decodeUtf8Sequence pk s = .ok (c, pk :: cont) (adv s cont.length false) := by
  have hv : Utf8.valid (pk :: cont) = true := by
    obtain ⟨sq, e, hs⟩ := Utf8.Seq.of_decode hd
    rw [e, List.append_nil]
    exact Utf8.valid_iff.mpr hs.run
  unfold decodeUtf8Sequence
  have hl : (if (0xC0 ≤ pk && pk ≤ 0xDF) = true then some 1
      else if (0xE0 ≤ pk && pk ≤ 0xF7) = true then some ((pk.toNat - 0xC0) / 16) else none)
      = some cont.length := hlen
  simp only [hl, bind_apply]
  rw [readCont_ok cont.length [pk] s cont r rfl hrest hp]
  simp [hv, hd]

theorem parseSymbol_ok (name rest : List UInt8) (s : St)
    (hrest : s.rd.rest = name ++ rest) (hF : Follow rest)
    (hf : rest = [] → s.rd.faulty = false)
    (hn : ∀ b ∈ name, symTermSlice b = false) (hdot : name ≠ [46])
    (hv : s.rd.mode = .str ∨ Utf8.valid name = true) :
    parseSymbolBytes [] s = .ok name (adv s name.length (endPeek s rest)) :=
  parseSymbolBytes_reads [] name rest s hrest hF hf hn hdot hv

/-- Under leading-digit symbols the whole token is read as a symbol and re-read as a number;
    otherwise the number parser runs. -/
theorem digit_rows (cfg : Cfg) (fuel : Nat) (d : UInt8) (tl rest : List UInt8) (s : St)
    (hd : isDigit d = true) (hn : ∀ b ∈ d :: tl, symTermSlice b = false)
    (hv : s.rd.mode = .str ∨ Utf8.valid (d :: tl) = true)
    (hrest : s.rd.rest = (d :: tl) ++ rest) (hF : Follow rest)
    (hf : rest = [] → s.rd.faulty = false) :
    parseToken cfg fuel d s =
      if cfg.opts.leadingDigit = true then
        .ok (match wholeNumber cfg (d :: tl) with
             | some n => .number n
             | none => symbolToken cfg.opts (d :: tl))
          (adv s (tl.length + 1) (endPeek s rest))
      else (parseNumToken cfg fuel true >>= fun n => pure (.number n)) s := by
  rw [parseToken_isDigit cfg fuel d hd]
  cases cfg.opts.leadingDigit
  · rfl
  · have hdot : d :: tl ≠ [46] := fun h =>
      ne_of_tokClass (by rw [tokClass_digit hd]; decide) (List.cons.inj h).1
    simp only [if_true, wholeArm, bind_apply, parseSymbol_ok (d :: tl) rest s hrest hF hf hn hdot hv]
    cases wholeNumber cfg (d :: tl) <;> rfl

theorem expectIdent_ok (c : UInt8) (cs r : List UInt8) (s : St)
    (h : s.rd.rest = c :: (cs ++ r)) :
    expectIdent (c :: cs) s = .ok () (adv s (cs.length + 1) false) := by
  induction cs generalizing c s with
  | nil => simp [expectIdent, next_eq, h]
  | cons c' cs ih =>
    rw [expectIdent]
    simp only [bind_apply, next_eq, h, beq_self_eq_true, if_true]
    rw [ih c' (adv s 1 false) (by simp [h])]
    rw [adv_adv, List.length_cons, Nat.add_comm]

theorem hash_word (cfg : Cfg) (fuel : Nat) (s : St) (c : UInt8) (w x : List UInt8) (t : Token)
    (hs : s.rd.rest = 35 :: c :: (w ++ x))
    (hc : hashTail cfg fuel c = (do expectIdent w; pure t)) :
    parseToken cfg fuel 35 s = .ok t (adv s (w.length + 2) false) := by
  rw [parseToken_hash cfg fuel c _ s hs, hc]
  cases w with
  | nil => rfl
  | cons a w =>
    simp only [bind_apply, expectIdent_ok a w x (adv s 2 false) (by simp [hs]), pure_apply, adv_adv,
      List.length_cons]
    rw [show 2 + (w.length + 1) = w.length + 1 + 2 by omega]

/-- Every fixed word but the lone `,` (which looks at the byte behind it) is read whatever follows,
    on every source.  (`TokenCase.fixed` is the converse.) -/
theorem fixedTok_reads (cfg : Cfg) (fuel : Nat) (s : St) (pre : List UInt8) {t : Token}
    (x : List UInt8) (hm : (pre, t) ∈ fixedTok cfg.opts) (hne : pre ≠ [44])
    (hs : s.rd.rest = pre ++ x) :
    parseToken cfg fuel (pre.headD 0) s = .ok t (adv s pre.length false) := by
  have one : ∀ (b : UInt8) (t : Token), s.rd.rest = b :: x → punct t s = .ok t (adv s 1 false) := by
    intro b t h
    simp only [punct, bind_apply, discard_eq, h, pure_apply]
  simp only [fixedTok, List.mem_cons, List.not_mem_nil, or_false, Prod.mk.injEq] at hm
  rcases hm with ⟨rfl, rfl⟩ | ⟨rfl, rfl⟩ | ⟨rfl, rfl⟩ | ⟨rfl, rfl⟩ | ⟨rfl, rfl⟩ | ⟨rfl, rfl⟩ |
    ⟨rfl, rfl⟩ | ⟨rfl, rfl⟩ | ⟨rfl, rfl⟩ | ⟨rfl, rfl⟩ | ⟨rfl, rfl⟩ | ⟨rfl, rfl⟩
  · rw [parseToken_eq]; exact one 40 _ hs
  · rw [parseToken_eq]; exact one 91 _ hs
  · rw [parseToken_eq]; exact one 39 _ hs
  · rw [parseToken_eq]; exact one 96 _ hs
  · exact absurd rfl hne
  · rw [parseToken_eq]
    show commaArm s = _
    simp only [commaArm, bind_apply, discard_eq, hs, List.cons_append, List.nil_append,
      peekOrNull_at (adv s 1 false) (64 :: x) (by simp [hs]) (by simp), adv_adv]
    simp [discard_eq, hs]
  · exact hash_word cfg fuel s 116 [] x _ hs rfl
  · exact hash_word cfg fuel s 102 [] x _ hs rfl
  · exact hash_word cfg fuel s 40 [] x _ hs rfl
  · exact hash_word cfg fuel s 110 (asc "il") x _ hs rfl
  · exact hash_word cfg fuel s 118 (asc "u8") x _ hs rfl
  · exact hash_word cfg fuel s 117 (asc "8") x _ hs rfl

theorem lparen_arm (cfg : Cfg) (fuel : Nat) (s : St) (x : List UInt8) (hs : s.rd.rest = 40 :: x) :
    parseToken cfg fuel 40 s = .ok (.listOpen 41) (adv s 1 false) :=
  fixedTok_reads cfg fuel s [40] x (fixedTok_mem 0 rfl) (by decide) hs

/-- a name reader behind an option: `#:name` and `#%name` -/
def optName (on : Bool) (scratch : List UInt8) (mk : List UInt8 → Token) : P Token :=
  if on then parseSymbolBytes scratch >>= fun n => pure (mk n) else peekErr .expectedSomeIdent

theorem hashTail_colon (cfg : Cfg) (fuel : Nat) :
    hashTail cfg fuel 58 = optName cfg.opts.kwOctothorpe [] .keyword := by
  unfold hashTail optName
  cases cfg.opts.kwOctothorpe <;> rfl

theorem hashTail_percent (cfg : Cfg) (fuel : Nat) :
    hashTail cfg fuel 37 = optName cfg.opts.racket (asc "#%") .symbol := by
  unfold hashTail optName
  cases cfg.opts.racket <;> rfl

/-- `#:name` and `#%name` (`hc` is `hashTail_colon` or `hashTail_percent`): with the option off,
    `ExpectedSomeIdent` behind the two bytes. -/
theorem hash_name_rows (cfg : Cfg) (fuel : Nat) (c : UInt8) (on : Bool) (sc : List UInt8)
    (mk : List UInt8 → Token) (hc : hashTail cfg fuel c = optName on sc mk)
    (name rest : List UInt8) (s : St)
    (hrest : s.rd.rest = 35 :: c :: (name ++ rest)) (hF : Follow rest)
    (hf : rest = [] → s.rd.faulty = false)
    (hn : ∀ b ∈ name, symTermSlice b = false) (hdot : sc ++ name ≠ [46])
    (hv : s.rd.mode = .str ∨ Utf8.valid (sc ++ name) = true) :
    parseToken cfg fuel 35 s =
      if on = true then .ok (mk (sc ++ name)) (adv s (name.length + 2) (endPeek s rest))
      else peekErr .expectedSomeIdent (adv s 2 false) := by
  rw [parseToken_hash cfg fuel c _ s hrest, hc]
  cases on
  · rfl
  · simp only [optName, if_true, bind_apply, parseSymbolBytes_reads sc name rest (adv s 2 false)
      (by simp [hrest]) hF (by simpa using hf) hn hdot (by simpa using hv), pure_apply, adv_adv,
      endPeek_adv, Nat.add_comm]

theorem letter_arm (cfg : Cfg) (fuel : Nat) (pk : UInt8) (tl rest : List UInt8) (s : St)
    (hrest : s.rd.rest = (pk :: tl) ++ rest) (hF : Follow rest)
    (hf : rest = [] → s.rd.faulty = false)
    (hn : ∀ b ∈ pk :: tl, symTermSlice b = false)
    (hv : s.rd.mode = .str ∨ Utf8.valid (pk :: tl) = true)
    (hl : isAsciiAlpha pk = true) :
    parseToken cfg fuel pk s =
      .ok (letterTok cfg.opts (pk :: tl)) (adv s (tl.length + 1) (endPeek s rest)) := by
  have h46 : pk ≠ 46 := ne_of_tokClass (by rw [tokClass_alpha hl]; decide)
  rw [parseToken_alpha cfg fuel pk hl]
  simp only [bind_apply,
    parseSymbol_ok (pk :: tl) rest s hrest hF hf hn (fun h => h46 (List.cons.inj h).1) hv]
  rfl

theorem colon_prefix_arm (cfg : Cfg) (fuel : Nat) (tl rest : List UInt8) (s : St)
    (hk : cfg.opts.kwPrefix = true)
    (hrest : s.rd.rest = 58 :: (tl ++ rest)) (hF : Follow rest)
    (hf : rest = [] → s.rd.faulty = false)
    (hn : ∀ b ∈ tl, symTermSlice b = false) (hdot : tl ≠ [46])
    (hv : s.rd.mode = .str ∨ Utf8.valid tl = true) :
    parseToken cfg fuel 58 s = .ok (.keyword tl) (adv s (tl.length + 1) (endPeek s rest)) := by
  rw [parseToken_colon, colonArm, if_pos hk]
  simp only [bind_apply, discard_eq, hrest]
  rw [parseSymbol_ok tl rest (adv s 1 false) (by simp [hrest]) hF (by simpa using hf) hn hdot
    (by simpa using hv)]
  simp only [pure_apply, adv_adv, endPeek_adv, Nat.add_comm]

theorem colon_noprefix_arm (cfg : Cfg) (fuel : Nat) (tl rest : List UInt8) (s : St)
    (hk : cfg.opts.kwPrefix = false)
    (hrest : s.rd.rest = (58 :: tl) ++ rest) (hF : Follow rest)
    (hf : rest = [] → s.rd.faulty = false)
    (hn : ∀ b ∈ tl, symTermSlice b = false)
    (hv : s.rd.mode = .str ∨ Utf8.valid (58 :: tl) = true) :
    parseToken cfg fuel 58 s =
      .ok (symbolToken cfg.opts (58 :: tl)) (adv s (tl.length + 1) (endPeek s rest)) := by
  have hn' : ∀ b ∈ 58 :: tl, symTermSlice b = false := by
    intro b hb
    rcases List.mem_cons.mp hb with rfl | hb
    · decide
    · exact hn b hb
  rw [parseToken_colon, colonArm, if_neg (by simp [hk]), symArm]
  simp only [bind_apply, parseSymbol_ok (58 :: tl) rest s hrest hF hf hn' (by simp) hv]
  rfl

theorem extended_arm (cfg : Cfg) (fuel : Nat) (pk : UInt8) (tl rest : List UInt8) (s : St)
    (he : isSymbolExtended pk = true) (h58 : pk ≠ 58)
    (hq : pk = 63 → cfg.opts.char ≠ .elisp)
    (hrest : s.rd.rest = (pk :: tl) ++ rest) (hF : Follow rest)
    (hf : rest = [] → s.rd.faulty = false)
    (hn : ∀ b ∈ pk :: tl, symTermSlice b = false) (hdot : pk :: tl ≠ [46])
    (hv : s.rd.mode = .str ∨ Utf8.valid (pk :: tl) = true) :
    parseToken cfg fuel pk s =
      .ok (symbolToken cfg.opts (pk :: tl)) (adv s (tl.length + 1) (endPeek s rest)) := by
  rw [parseToken_ext cfg fuel pk he h58 hq, symArm]
  simp only [bind_apply, parseSymbol_ok (pk :: tl) rest s hrest hF hf hn hdot hv]
  rfl

/-- after `+.` / `-.`: anything but a digit -/
def dotTailOk : List UInt8 → Bool
  | [] => true
  | d :: _ => !isDigit d

/-- What may follow a leading `+`/`-` in a peculiar identifier (all bytes of the tail are
    additionally required not to be symbol terminators). -/
def signTailOk : List UInt8 → Bool
  | [] => true
  | c :: tl => (c == 0 || isDelimiter c || isSignSubsequent c) || (c == 46 && dotTailOk tl)

theorem discard_peekOrNull {α} (k : UInt8 → P α) (s : St) (c : UInt8) (r : List UInt8)
    (hrest : s.rd.rest = c :: r) (hf : r = [] → s.rd.faulty = false) :
    (discard >>= fun _ => peekOrNull >>= k) s = k (r.head?.getD 0) (adv s 1 (endPeek s r)) := by
  simp only [bind_apply, discard_eq, hrest,
    peekOrNull_at (adv s 1 false) r (by simp [hrest]) (by simpa using hf), adv_adv, adv_peeked,
    endPeek_adv, Bool.false_or]

/-- A whole token `sign tl` in a `Follow` context.  The byte behind the sign decides: the symbol
    reader takes the token; or (a dot) it does unless a digit follows the dot, which is
    `InvalidNumber`; or the number parser runs behind the sign. -/
theorem sign_rows (cfg : Cfg) (fuel : Nat) (sign : UInt8) (pos : Bool)
    (tl rest : List UInt8) (s : St) (hsign : sign ≠ 46)
    (hrest : s.rd.rest = sign :: (tl ++ rest)) (hF : Follow rest)
    (hf : rest = [] → s.rd.faulty = false)
    (hn : ∀ b ∈ tl, symTermSlice b = false)
    (hv : s.rd.mode = .str ∨ Utf8.valid (sign :: tl) = true) :
    parseSignToken cfg fuel sign pos s =
      if ((tl ++ rest).head?.getD 0 == 0 || isDelimiter ((tl ++ rest).head?.getD 0) ||
          isSignSubsequent ((tl ++ rest).head?.getD 0)) = true then
        .ok (symbolToken cfg.opts (sign :: tl)) (adv s (tl.length + 1) (endPeek s rest))
      else if ((tl ++ rest).head?.getD 0 == 46) = true then
        if isDigit (((tl ++ rest).drop 1).head?.getD 0) = true then
          peekErr .invalidNumber (adv s 2 (endPeek s ((tl ++ rest).drop 1)))
        else .ok (symbolToken cfg.opts (sign :: tl)) (adv s (tl.length + 1) (endPeek s rest))
      else (parseNumToken cfg fuel pos >>= fun n => pure (.number n))
        (adv s 1 (endPeek s (tl ++ rest))) := by
  have hf' : ∀ x : List UInt8, x ++ rest = [] → s.rd.faulty = false :=
    fun x h => hf (List.append_eq_nil_iff.mp h).2
  unfold parseSignToken
  rw [discard_peekOrNull _ s sign (tl ++ rest) hrest (hf' tl)]
  by_cases h1 : ((tl ++ rest).head?.getD 0 == 0 || isDelimiter ((tl ++ rest).head?.getD 0) ||
      isSignSubsequent ((tl ++ rest).head?.getD 0)) = true
  · -- the rest of the name follows the sign directly
    rw [if_pos h1, if_pos h1, bind_apply, parseSymbolBytes_reads [sign] tl rest _ (by simp [hrest]) hF
      (by simpa using hf) hn (by cases tl <;> simp [hsign]) (by simpa using hv)]
    simp only [pure_apply, adv_adv, endPeek_adv, List.singleton_append, Nat.add_comm]
  rw [if_neg h1, if_neg h1]
  by_cases h2 : ((tl ++ rest).head?.getD 0 == 46) = true
  · rw [if_pos h2, if_pos h2]
    -- the dot belongs to the token: a `Follow` byte is not a dot
    cases tl with
    | nil =>
      rw [List.nil_append, (follow_facts _ hF.headD).2.2.2.1] at h2; cases h2
    | cons c tl' =>
      obtain rfl : c = 46 := by simpa using h2
      unfold parseSignDotSymbol
      rw [discard_peekOrNull _ _ 46 (tl' ++ rest) (by simp [hrest]) (by simpa using hf' tl')]
      simp only [List.cons_append, List.drop_succ_cons, List.drop_zero, adv_adv, endPeek_adv]
      by_cases h3 : isDigit ((tl' ++ rest).head?.getD 0) = true
      · rw [if_pos h3, if_pos h3]
      · rw [if_neg h3, if_neg h3, bind_apply, parseSymbolBytes_reads [sign, 46] tl' rest _
          (by simp [hrest]) hF (by simpa using hf) (fun b hb => hn b (by simp [hb])) (by simp)
          (by simpa using hv)]
        simp only [pure_apply, adv_adv, endPeek_adv, List.cons_append, List.nil_append,
          List.length_cons]
        rw [show 1 + 1 + tl'.length = tl'.length + 1 + 1 by omega]
  · rw [if_neg h2, if_neg h2]

/-- the rows of `sign_rows` in which the symbol reader takes the token -/
theorem sign_arm (cfg : Cfg) (fuel : Nat) (sign : UInt8) (pos : Bool)
    (tl rest : List UInt8) (s : St) (hsign : sign ≠ 46)
    (hrest : s.rd.rest = sign :: (tl ++ rest)) (hF : Follow rest)
    (hf : rest = [] → s.rd.faulty = false)
    (hn : ∀ b ∈ tl, symTermSlice b = false)
    (hs : signTailOk tl = true)
    (hv : s.rd.mode = .str ∨ Utf8.valid (sign :: tl) = true) :
    parseSignToken cfg fuel sign pos s =
      .ok (symbolToken cfg.opts (sign :: tl)) (adv s (tl.length + 1) (endPeek s rest)) := by
  rw [sign_rows cfg fuel sign pos tl rest s hsign hrest hF hf hn hv]
  cases tl with
  | nil => rw [if_pos (by rw [List.nil_append, (follow_facts _ hF.headD).1, Bool.true_or])]
  | cons c tl' =>
    simp only [List.cons_append, List.head?_cons, Option.getD_some, List.drop_succ_cons,
      List.drop_zero]
    by_cases h1 : (c == 0 || isDelimiter c || isSignSubsequent c) = true
    · rw [if_pos h1]
    · obtain ⟨hc, hd⟩ := Bool.and_eq_true_iff.mp ((Bool.or_eq_true_iff.mp hs).resolve_left h1)
      have hnd : isDigit ((tl' ++ rest).head?.getD 0) = false := by
        cases tl' with
        | nil => exact (follow_facts _ hF.headD).2.1
        | cons d tl'' => simpa [dotTailOk] using hd
      rw [if_neg h1, if_pos hc, if_neg (by rw [hnd]; decide)]

/-- A whole token whose first scalar is `c`: an alphabetic `c` makes it a name; otherwise
    `ExpectedSomeValue` is reported behind that scalar. -/
theorem unicode_rows (cfg : Cfg) (fuel : Nat) (pk : UInt8) (tl rest : List UInt8) (s : St)
    (c : Nat) (tl' : List UInt8) (hpk : pk > 127)
    (hdec : Utf8.decodeFirst (pk :: tl) = some (c, tl'))
    (hn : ∀ b ∈ tl', symTermSlice b = false)
    (hv : Utf8.valid (pk :: tl) = true)
    (hrest : s.rd.rest = (pk :: tl) ++ rest) (hF : Follow rest)
    (hf : rest = [] → s.rd.faulty = false) :
    parseToken cfg fuel pk s =
      if cfg.isAlphabetic c = true then
        .ok (symbolToken cfg.opts (pk :: tl)) (adv s (tl.length + 1) (endPeek s rest))
      else peekErr .expectedSomeValue (adv s (tl.length + 1 - tl'.length) false) := by
  obtain ⟨g14, g15⟩ := hi_not_ascii pk hpk
  obtain ⟨cont, rfl, hlen, hd⟩ := decodeFirst_split pk tl c tl' g14 hdec
  rw [parseToken_hi cfg fuel pk hpk, hiArm]
  simp only [bind_apply, discard_eq, hrest, List.cons_append]
  rw [decodeUtf8Sequence_ok pk cont (tl' ++ rest) c (adv s 1 false) hlen (by simp [hrest]) (by simp)
    hd]
  by_cases halpha : cfg.isAlphabetic c = true
  · simp only [halpha, Bool.not_true, Bool.false_eq_true, if_false, if_true, symArm, bind_apply,
      adv_adv]
    rw [parseSymbolBytes_reads (pk :: cont) tl' rest _
      (by rw [adv_rest]; exact drop_add_left (by simp [hrest])) hF (by simpa using hf) hn
      (by intro h; simp at h; exact g15 h.1) (Or.inr (by simpa using hv))]
    simp only [pure_apply, adv_adv, endPeek_adv, List.cons_append, List.length_append]
    rw [show 1 + cont.length + tl'.length = cont.length + tl'.length + 1 by omega]
  · simp only [halpha, Bool.not_false, if_true, Bool.false_eq_true, if_false, adv_adv,
      List.length_append]
    rw [show cont.length + tl'.length + 1 - tl'.length = 1 + cont.length by omega]

theorem unicode_arm (cfg : Cfg) (fuel : Nat) (pk : UInt8) (tl rest : List UInt8) (s : St)
    (c : Nat) (tl' : List UInt8) (hpk : pk > 127)
    (hdec : Utf8.decodeFirst (pk :: tl) = some (c, tl'))
    (halpha : cfg.isAlphabetic c = true)
    (hn : ∀ b ∈ tl', symTermSlice b = false)
    (hv : Utf8.valid (pk :: tl) = true)
    (hrest : s.rd.rest = (pk :: tl) ++ rest) (hF : Follow rest)
    (hf : rest = [] → s.rd.faulty = false) :
    parseToken cfg fuel pk s =
      .ok (symbolToken cfg.opts (pk :: tl)) (adv s (tl.length + 1) (endPeek s rest)) := by
  rw [unicode_rows cfg fuel pk tl rest s c tl' hpk hdec hn hv hrest hF hf, if_pos halpha]

/-- The texts that one of the name arms of `parse_token` reads in full: no byte is a symbol
    terminator, and the first byte is an ASCII letter; or `:` (with prefix keywords the rest must
    not be the lone dot); or one of `!$%&*./<=>?@^_~` (`?` only without Emacs Lisp characters; not
    the lone dot); or `+` / `-` starting a peculiar identifier; or a non-ASCII scalar that the
    reader classifies as alphabetic. -/
def nameShape (cfg : Cfg) : List UInt8 → Bool
  | [] => false
  | b :: tl =>
    (b :: tl).all (fun x => !symTermSlice x) &&
    (isAsciiAlpha b
      || (b == 58 && (!cfg.opts.kwPrefix || tl != [46]))
      || (isSymbolExtended b && b != 58 && !(b == 63 && cfg.opts.char == .elisp) &&
            (b :: tl) != [46])
      || ((b == 43 || b == 45) && signTailOk tl)
      || (decide (b > 127) &&
            match Utf8.decodeFirst (b :: tl) with
            | some (c, _) => cfg.isAlphabetic c
            | none => false))

/-- Closed form of the token a name-shaped text reads as. -/
def nameTok (o : Options) : List UInt8 → Token
  | [] => .symbol []
  | b :: tl =>
    if isAsciiAlpha b = true then letterTok o (b :: tl)
    else if b = 58 ∧ o.kwPrefix = true then .keyword tl
    else symbolToken o (b :: tl)

theorem valid_tail58 (tl : List UInt8) (h : Utf8.valid (58 :: tl) = true) : Utf8.valid tl = true := by
  rwa [Utf8.valid_cons_ascii tl (by decide)] at h

theorem hi_not_misc : ∀ b : UInt8, b > 127 → isAsciiAlpha b = false ∧ b ≠ 58 := by
  intro b h
  have hc := tokClass_hi h
  refine ⟨?_, ne_of_tokClass (by rw [hc]; decide)⟩
  cases ha : isAsciiAlpha b
  · rfl
  · rw [tokClass_alpha ha] at hc; cases hc

/-- `name_token` with validity required only where the reader checks it: everywhere but on the `str`
    source after an ASCII initial. -/
theorem name_token_of (cfg : Cfg) (fuel : Nat) (pk : UInt8) (tl rest : List UInt8) (s : St)
    (hshape : nameShape cfg (pk :: tl) = true)
    (hv : Utf8.valid (pk :: tl) = true ∨ (s.rd.mode = .str ∧ ¬ pk > 127))
    (hrest : s.rd.rest = (pk :: tl) ++ rest) (hF : Follow rest)
    (hf : rest = [] → s.rd.faulty = false) :
    parseToken cfg fuel pk s =
      .ok (nameTok cfg.opts (pk :: tl)) (adv s (tl.length + 1) (endPeek s rest)) := by
  simp only [nameShape, Bool.and_eq_true, Bool.or_eq_true, List.all_eq_true,
    Bool.not_eq_true', bne_iff_ne, ne_eq, beq_iff_eq, decide_eq_true_eq,
    Bool.and_eq_false_iff] at hshape
  obtain ⟨hn, hcls⟩ := hshape
  have hn' : ∀ b ∈ tl, symTermSlice b = false := fun b hb => hn b (by simp [hb])
  have hv' : s.rd.mode = .str ∨ Utf8.valid (pk :: tl) = true := hv.elim Or.inr (fun h => Or.inl h.1)
  rcases hcls with (((ha | ⟨h58, hd⟩) | ⟨⟨⟨he, h58⟩, hq⟩, hdot⟩) | ⟨hsign, hs⟩) | ⟨hhi, hal⟩
  · rw [letter_arm cfg fuel pk tl rest s hrest hF hf hn hv' ha]
    simp only [nameTok, ha, if_true]
  · subst h58
    have hna : isAsciiAlpha 58 = false := by decide
    cases hk : cfg.opts.kwPrefix
    · rw [colon_noprefix_arm cfg fuel tl rest s hk hrest hF hf hn' hv']
      simp [nameTok, hna, hk]
    · have hd' : tl ≠ [46] := by
        rcases hd with hd | hd
        · rw [hk] at hd; simp at hd
        · exact hd
      rw [colon_prefix_arm cfg fuel tl rest s hk hrest hF hf hn' hd' (hv'.imp id (valid_tail58 tl))]
      simp [nameTok, hna, hk]
  · have hna := not_alpha_of_ext he
    have hq' : pk = 63 → cfg.opts.char ≠ .elisp := by
      intro h63 hc
      rcases hq with hq | hq
      · simp [h63] at hq
      · rw [hc] at hq; simp at hq
    rw [extended_arm cfg fuel pk tl rest s he h58 hq' hrest hF hf hn hdot hv']
    simp [nameTok, hna, h58]
  · rcases hsign with h | h
    · subst h
      rw [parseToken_plus]
      exact sign_arm cfg fuel 43 true tl rest s (by decide) hrest hF hf hn' hs hv'
    · subst h
      rw [parseToken_minus]
      exact sign_arm cfg fuel 45 false tl rest s (by decide) hrest hF hf hn' hs hv'
  · obtain ⟨hna, h58⟩ := hi_not_misc pk hhi
    have hval : Utf8.valid (pk :: tl) = true := hv.elim id (fun h => absurd hhi h.2)
    have htok : nameTok cfg.opts (pk :: tl) = symbolToken cfg.opts (pk :: tl) := by
      simp [nameTok, hna, h58]
    rw [htok]
    cases hdec : Utf8.decodeFirst (pk :: tl) with
    | none => rw [hdec] at hal; simp at hal
    | some ct =>
      obtain ⟨c, tl'⟩ := ct
      rw [hdec] at hal
      obtain ⟨cont, hsplit, -, -⟩ := decodeFirst_split pk tl c tl' (hi_not_ascii pk hhi).1 hdec
      exact unicode_arm cfg fuel pk tl rest s c tl' hhi hdec hal
        (fun b hb => hn' b (by rw [hsplit]; simp [hb])) hval hrest hF hf

/-- Every name-shaped, valid UTF-8 text in a `Follow` context is consumed in full by `parse_token`
    and yields `nameTok` (all option sets, all sources). -/
theorem name_token (cfg : Cfg) (fuel : Nat) (pk : UInt8) (tl rest : List UInt8) (s : St)
    (hshape : nameShape cfg (pk :: tl) = true) (hv : Utf8.valid (pk :: tl) = true)
    (hrest : s.rd.rest = (pk :: tl) ++ rest) (hF : Follow rest)
    (hf : rest = [] → s.rd.faulty = false) :
    parseToken cfg fuel pk s =
      .ok (nameTok cfg.opts (pk :: tl)) (adv s (tl.length + 1) (endPeek s rest)) :=
  name_token_of cfg fuel pk tl rest s hshape (Or.inl hv) hrest hF hf

theorem nameShape_start (cfg : Cfg) (b : UInt8) (tl : List UInt8)
    (h : nameShape cfg (b :: tl) = true) : isTrivia b = false ∧ b ≠ 59 := by
  simp only [nameShape, Bool.and_eq_true, List.all_eq_true, Bool.not_eq_true'] at h
  obtain ⟨h1, h2, -⟩ := nonterm_weak (h.1 b (by simp))
  exact ⟨h1, h2⟩

theorem alpha_last (b : UInt8) (tl : List UInt8) (ha : isAsciiAlpha b = true)
    (h : (b :: tl).getLast? = some 58) : (b :: tl).length > 1 := by
  cases tl with
  | nil =>
    simp at h; subst h; simp [isAsciiAlpha] at ha
  | cons c tl => simp

theorem nameTok_symbol (o : Options) (name : List UInt8)
    (h1 : ¬ (o.kwPostfix = true ∧ name.length > 1 ∧ name.getLast? = some 58))
    (h2 : ¬ (o.kwPrefix = true ∧ name.head? = some 58))
    (h3 : ¬ (o.nil ≠ .default ∧ name = asc "nil"))
    (h4 : ¬ (o.t ≠ .default ∧ name = asc "t")) :
    nameTok o name = .symbol name := by
  cases name with
  | nil => rfl
  | cons b tl =>
    unfold nameTok
    by_cases ha : isAsciiAlpha b = true
    · have h1' : ¬ (o.kwPostfix = true ∧ (b :: tl).getLast? = some 58) :=
        fun ⟨x, y⟩ => h1 ⟨x, alpha_last b tl ha y, y⟩
      simp only [ha, if_true, letterTok, h1', h3, h4, if_false]
    · have h2' : ¬ (b = 58 ∧ o.kwPrefix = true) := fun ⟨x, y⟩ => h2 ⟨y, by simp [x]⟩
      have h1' : (o.kwPostfix && decide ((b :: tl).length > 1) &&
          ((b :: tl).getLast? == some 58)) = false := by
        apply Bool.eq_false_iff.mpr
        intro h
        simp only [Bool.and_eq_true, decide_eq_true_eq, beq_iff_eq] at h
        exact h1 ⟨h.1.1, h.1.2, h.2⟩
      simp only [ha, Bool.false_eq_true, if_false, h2', symbolToken, h1']

theorem nameTok_postfix (o : Options) (name : List UInt8) (hk : o.kwPostfix = true)
    (hne : name ≠ []) (h2 : ¬ (o.kwPrefix = true ∧ name.head? = some 58)) :
    nameTok o (name ++ [58]) = .keyword name := by
  cases name with
  | nil => exact absurd rfl hne
  | cons b tl =>
    rw [List.cons_append]
    unfold nameTok
    have hl : (b :: (tl ++ [58])).getLast? = some 58 := List.getLast?_concat (l := b :: tl)
    have hd : (b :: (tl ++ [58])).dropLast = b :: tl := List.dropLast_concat (l₁ := b :: tl)
    by_cases ha : isAsciiAlpha b = true
    · simp only [ha, if_true, letterTok, hk, hl, and_self, hd]
    · have h2' : ¬ (b = 58 ∧ o.kwPrefix = true) := fun ⟨x, y⟩ => h2 ⟨y, by simp [x]⟩
      have h1' : (o.kwPostfix && decide ((b :: (tl ++ [58])).length > 1) &&
          ((b :: (tl ++ [58])).getLast? == some 58)) = true := by
        simp [hk, hl]
      simp only [ha, Bool.false_eq_true, if_false, h2', symbolToken, h1', if_true, hd]

theorem valid_snoc58 (name : List UInt8) (h : Utf8.valid name = true) :
    Utf8.valid (name ++ [58]) = true := by
  rwa [Utf8.valid_snoc_ascii name (by decide)]

end Parse
end Lexpr
