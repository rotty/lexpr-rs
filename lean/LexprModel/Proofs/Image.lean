/-
  Image — C13: whatever the parser accepts can be printed (with the corresponding printer options
  `pof`) and read back unchanged.

  Full statement of the property (FALSE of the model and of the code: witnesses in
  `ImageExamples.lean`):
      fromTrait cfg (initSt .slice bytes) = .ok v _  →
      fromTrait cfg (initSt .slice (Print.text (pof cfg.opts) ryu v)) = .ok v _
  Proved here:
    * `C13_image_shape` — the characterisation of the image (`AtomImg`, all atom kinds);
    * `C13_image`  — every atom of a value returned by `next_value` (source that validates text)
      satisfies `AtomOKP (pof cfg.opts) cfg ryu` — its printed text is read back as the same atom
      in every follow context — provided the atom satisfies `AtomSide` (decidable but for the
      float part):
        (a) a float leaf has `Decimals.FloatOK` (ryu's text in the exact window of the build);
        (b) `dotOkP`: no symbol (or keyword printed `name:`) starting `.|`, `."` or `.NUL`;
        (d1) `kwDotOk`: not the keyword named `.` when `pof` prints `#:.` / `:.`.
      (c), that `pof` is compatible, is proved, not assumed: a keyword in the image shows a
      keyword syntax is enabled (`kwImg_enabled`), and `atomOKP_keyword` needs no compatibility
      hypothesis.
    * `C13_reparse_partial` — parse → print → parse gives the same value.  Condition (b) is only
      required of atoms that are the *car* of a pair (`carDotOk`; vector elements, dotted tails
      and a top-level atom are exempt: `ImageStruct.lean`), (a) and (d1) of every atom
      (`AtomSideW`); the depth hypothesis is discharged from acceptance except in one case:
        (d2) if the reader turns the symbol `nil` into `()` (`NilSymbol::EmptyList`), the nesting
             of the printed text (`()` costs a level, `nil` did not) must be assumed ≤ 127.
    * `C13_fixpoint` — … and printing the re-read value gives the same text.
    * `C13_reparse_next` — the same in the middle of an input (any follow context).
    Both are `reparse_rel` / `reparse_next_rel` — stated for any relation between the value
    printed and the value read that the constructions respect — at "read back as the same
    value"; the approximate statements of `FloatApproxImage.lean` are the same theorems at
    `approxEq`.
  Each of (a), (b), (d1), (d2) is shown necessary by a witness (`C13_witness_*` in
  `ImageExamples.lean`, where the theorems are also applied to accepted texts in alternative
  spellings).  (b), (d1) and (d2) are behaviours of the crate (known findings).
-/
import LexprModel.Proofs.ImageFloat
import LexprModel.Proofs.ImageStruct
namespace Lexpr
namespace Parse
namespace Image
open Utf8 Spec

/-- (a) the float leaves: ryu's text is read back exactly by this build -/
def floatSide (cfg : Cfg) (ryu : Nat → List UInt8) : Value → Prop
  | .number (.flt b) => Decimals.FloatOK cfg ryu b
  | _ => True

def AtomSide (cfg : Cfg) (ryu : Nat → List UInt8) (a : Value) : Prop :=
  ListRT.dotOkP (pof cfg.opts) a = true ∧ kwDotOk cfg.opts a = true ∧ floatSide cfg ryu a

theorem atomOKP_of_img (cfg : Cfg) (ryu : Nat → List UInt8) (a : Value) (hat : IsAtom a)
    (himg : AtomImg cfg a) (hs : AtomSide cfg ryu a) :
    ListRT.AtomOKP (pof cfg.opts) cfg ryu a := by
  cases a with
  | nil => exact atomOKP_nil cfg ryu
  | null => exact absurd rfl hat.2.2
  | bool b => exact atomOKP_bool cfg ryu b
  | number n =>
    cases n with
    | pos n => exact atomOKP_pos cfg ryu n himg
    | neg i => exact atomOKP_neg cfg ryu i himg.1 himg.2
    | flt b => exact atomOKP_float cfg ryu b hs.2.2
  | char c => exact atomOKP_char cfg ryu c himg
  | string s => exact atomOKP_string cfg ryu s himg
  | symbol n => exact atomOKP_symbol cfg ryu n himg hs.1
  | keyword n => exact atomOKP_keyword cfg ryu n himg hs.1 hs.2.1
  | bytes b => exact atomOKP_bytes cfg ryu b
  | cons a d => exact absurd hat.1 (by simp [Value.isCons])
  | vector xs => exact absurd hat.2.1 (by simp [Value.isVector])

/-- **The image of the parser**: every atom of a value returned by
    `next_value`, from a source that validates text, is in `AtomImg cfg` — a symbol is the text of
    a name-shaped token that reads as a symbol, or a digit-initial name that is not a number
    (`leadingDigit`), or a `#%` name (`racket`); a keyword was read through an enabled keyword
    syntax; integers are in range, characters are scalar values, strings are well-formed. -/
theorem C13_image_shape (cfg : Cfg) (fuel : Nat) (s s' : St) (v : Value)
    (hm : s.rd.mode ≠ .str) (h : nextValue cfg fuel s = .ok (some v) s') :
    AllAtoms (AtomImg cfg) v := nextValue_img_atoms h hm

/-- **C13_image.**  For every configuration, fuel and parser state whose source validates text
    (slice or stream): every atom of a value returned by `next_value` that satisfies the side
    conditions `AtomSide` has `AtomOKP (pof cfg.opts) cfg ryu` — the text `pof cfg.opts` prints
    for it is read back, by the same parser options, as the same atom, in every follow context and
    from every non-faulty slice state. -/
theorem C13_image (cfg : Cfg) (ryu : Nat → List UInt8) (fuel : Nat) (s s' : St) (v : Value)
    (hm : s.rd.mode ≠ .str) (h : nextValue cfg fuel s = .ok (some v) s') :
    AllAtoms (fun a => AtomSide cfg ryu a → ListRT.AtomOKP (pof cfg.opts) cfg ryu a) v :=
  AllAtoms.impAtom (fun a hat himg hs => atomOKP_of_img cfg ryu a hat himg hs) v
    (nextValue_img_atoms h hm)

/-- (c) a keyword in an accepted value proves that the parser has a keyword syntax enabled, so
    `pof` is compatible (`Spec.C13_pof_compatible`). -/
theorem C13_keyword_enabled (cfg : Cfg) (fuel : Nat) (s s' : St) (v : Value)
    (hm : s.rd.mode ≠ .str) (h : nextValue cfg fuel s = .ok (some v) s') :
    AllAtoms (fun a => ∀ n, a = .keyword n →
      (cfg.opts.kwPrefix || cfg.opts.kwPostfix || cfg.opts.kwOctothorpe) = true) v :=
  AllAtoms.impAtom (fun a _ himg n hn => by subst hn; exact kwImg_enabled cfg n himg) v
    (nextValue_img_atoms h hm)

/-- The side conditions on an atom that do not depend on its position: (a) and (d1). -/
def AtomSideW (cfg : Cfg) (ryu : Nat → List UInt8) (a : Value) : Prop :=
  kwDotOk cfg.opts a = true ∧ floatSide cfg ryu a

theorem symbol_weakHead (cfg : Cfg) (n : List UInt8) (himg : SymImg cfg n) : WeakHead n := by
  obtain ⟨-, hnt, hsrc⟩ := himg
  cases n with
  | nil =>
    rcases hsrc with ⟨hshape, -⟩ | ⟨-, ⟨d, tl, hd, -⟩, -, -⟩ | ⟨-, body, hb⟩
    · simp [nameShape] at hshape
    · cases hd
    · cases hb
  | cons b tl => exact weakHead_of_nonterm b tl (hnt b (by simp))

theorem keyword_weakHead (cfg : Cfg) (ryu : Nat → List UInt8) (n : List UInt8)
    (himg : KwImg cfg n) : WeakHead (atomTextP (pof cfg.opts) ryu (.keyword n)) := by
  obtain ⟨-, hnt, hsrc⟩ := himg
  rw [atomTextP_keyword]
  cases (pof cfg.opts).keyword
  · exact weakHead_of_nonterm 58 n (by decide)
  · simp only
    cases n with
    | nil => exact weakHead_of_nonterm 58 [] (by decide)
    | cons b tl => exact weakHead_of_nonterm b (tl ++ [58]) (hnt b (by simp))
  · exact weakHead_of_nonterm 35 _ (by decide)

/-- an atom of the image is read back from its printed text wherever `next_value` is called on it
    (top level, vector element, dotted tail) -/
theorem atomOKW_of_img (cfg : Cfg) (ryu : Nat → List UInt8) (a : Value) (hat : IsAtom a)
    (himg : AtomImg cfg a) (hs : AtomSideW cfg ryu a) :
    AtomOKW (pof cfg.opts) cfg ryu a := by
  cases a with
  | symbol n => exact atomOKH_symbol WeakHead cfg ryu n himg (symbol_weakHead cfg n himg)
  | keyword n =>
    exact atomOKH_keyword WeakHead cfg ryu n himg hs.1 (keyword_weakHead cfg ryu n himg)
  | _ => exact AtomOKP.weak (atomOKP_of_img cfg ryu _ hat himg ⟨rfl, hs.1, hs.2⟩)

/-- **C13_image, position-independent part.**  Without condition (b): every atom of an accepted
    value that satisfies (a) and (d1) is read back from its printed text by `next_value`. -/
theorem C13_image_weak (cfg : Cfg) (ryu : Nat → List UInt8) (fuel : Nat) (s s' : St) (v : Value)
    (hm : s.rd.mode ≠ .str) (h : nextValue cfg fuel s = .ok (some v) s') :
    AllAtoms (fun a => AtomSideW cfg ryu a → AtomOKW (pof cfg.opts) cfg ryu a) v :=
  AllAtoms.impAtom (fun a hat himg hs => atomOKW_of_img cfg ryu a hat himg hs) v
    (nextValue_img_atoms h hm)

mutual
/-- (b) where it is needed: the car of every pair passes `dotOkP` -/
def carDotOk (p : Print.Options) : Value → Bool
  | .cons a d => ListRT.dotOkP p a && carDotOk p a && carDotOk p d
  | .vector xs => carDotOkSeq p xs
  | _ => true
def carDotOkSeq (p : Print.Options) : List Value → Bool
  | [] => true
  | x :: xs => carDotOk p x && carDotOkSeq p xs
end

theorem car_head (cfg : Cfg) (ryu : Nat → List UInt8) (a : Value)
    (himg : AllAtoms (AtomImg cfg) a) (hs : AllAtoms (AtomSideW cfg ryu) a)
    (hdot : ListRT.dotOkP (pof cfg.opts) a = true) :
    ListRT.ElemHead (Print.text (pof cfg.opts) ryu a) :=
  ListRT.text_head_of_leaf _ ryu a fun h1 h2 h3 =>
    have hsw := AllAtoms.atom ⟨h1, h2, h3⟩ hs
    (atomOKP_of_img cfg ryu a ⟨h1, h2, h3⟩ (AllAtoms.atom ⟨h1, h2, h3⟩ himg)
      ⟨hdot, hsw.1, hsw.2⟩).2.2.2.1

mutual
theorem allOKW_of (cfg : Cfg) (ryu : Nat → List UInt8) :
    ∀ v : Value, AllAtoms (AtomImg cfg) v → AllAtoms (AtomSideW cfg ryu) v →
      carDotOk (pof cfg.opts) v = true → AllOKW (pof cfg.opts) cfg ryu v := by
  intro v hi hs hc
  cases v with
  | cons a d =>
    simp only [carDotOk, Bool.and_eq_true] at hc
    exact ⟨allOKW_of cfg ryu a hi.1 hs.1 hc.1.2, car_head cfg ryu a hi.1 hs.1 hc.1.1,
      allOKW_of cfg ryu d hi.2 hs.2 hc.2⟩
  | vector xs => exact allOKWSeq_of cfg ryu xs hi hs (by simpa only [carDotOk] using hc)
  | null => trivial
  | _ => exact atomOKW_of_img cfg ryu _ ⟨rfl, rfl, nofun⟩ hi hs
theorem allOKWSeq_of (cfg : Cfg) (ryu : Nat → List UInt8) :
    ∀ xs : List Value, AllAtomsSeq (AtomImg cfg) xs → AllAtomsSeq (AtomSideW cfg ryu) xs →
      carDotOkSeq (pof cfg.opts) xs = true → AllOKWSeq (pof cfg.opts) cfg ryu xs := by
  intro xs hi hs hc
  cases xs with
  | nil => trivial
  | cons x xs =>
    simp only [carDotOkSeq, Bool.and_eq_true] at hc
    exact ⟨allOKW_of cfg ryu x hi.1 hs.1 hc.1, allOKWSeq_of cfg ryu xs hi.2 hs.2 hc.2⟩
end

mutual
theorem allAtomsOKP_of (p : Print.Options) (cfg : Cfg) (ryu : Nat → List UInt8) :
    ∀ v : Value, AllAtoms (ListRT.AtomOKP p cfg ryu) v → ListRT.AllAtomsOKP p cfg ryu v := by
  intro v h
  cases v with
  | cons a d => exact ⟨allAtomsOKP_of p cfg ryu a h.1, allAtomsOKP_of p cfg ryu d h.2⟩
  | vector xs => exact allAtomsOKSeqP_of p cfg ryu xs h
  | _ => exact h
theorem allAtomsOKSeqP_of (p : Print.Options) (cfg : Cfg) (ryu : Nat → List UInt8) :
    ∀ xs : List Value, AllAtomsSeq (ListRT.AtomOKP p cfg ryu) xs →
      ListRT.AllAtomsOKSeqP p cfg ryu xs := by
  intro xs h
  cases xs with
  | nil => trivial
  | cons x xs => exact ⟨allAtomsOKP_of p cfg ryu x h.1, allAtomsOKSeqP_of p cfg ryu xs h.2⟩
end

mutual
theorem nq_eq_nestingP (p : Print.Options) (hp : p.nil ≠ .emptyList) :
    ∀ v : Value, nq 1 v = ListRT.nestingP p v := by
  intro v
  cases v with
  | cons a d =>
    simp only [nq, ListRT.nestingP, nq_eq_nestingP p hp a, nqTail_eq_nestingTailP p hp d]
  | vector xs => simp only [nq, ListRT.nestingP, nqSeq_eq_nestingSeqP p hp xs]
  | nil => exact (if_neg hp).symm
  | _ => rfl
theorem nqTail_eq_nestingTailP (p : Print.Options) (hp : p.nil ≠ .emptyList) :
    ∀ v : Value, nqTail 1 v = ListRT.nestingTailP p v := by
  intro v
  cases v with
  | cons a d =>
    simp only [nqTail, ListRT.nestingTailP, nq_eq_nestingP p hp a, nqTail_eq_nestingTailP p hp d]
  | vector xs => simp only [nqTail, ListRT.nestingTailP, nqSeq_eq_nestingSeqP p hp xs]
  | nil => exact (if_neg hp).symm
  | _ => rfl
theorem nqSeq_eq_nestingSeqP (p : Print.Options) (hp : p.nil ≠ .emptyList) :
    ∀ xs : List Value, nqSeq 1 xs = ListRT.nestingSeqP p xs := by
  intro xs
  cases xs with
  | nil => rfl
  | cons x xs =>
    simp only [nqSeq, ListRT.nestingSeqP, nq_eq_nestingP p hp x, nqSeq_eq_nestingSeqP p hp xs]
end

theorem nextValue_nestingP {cfg : Cfg} {fuel : Nat} {s s' : St} {v : Value}
    (h : nextValue cfg fuel s = .ok (some v) s') (hm : s.rd.mode ≠ .str) (hd : 1 ≤ s.depth)
    (hnil : cfg.opts.nil ≠ .emptyList) : ListRT.nestingP (pof cfg.opts) v < s.depth := by
  have hnq := (nextValue_img h hm hd).2
  have hc : nullCost cfg.opts = 1 := by simp [nullCost, hnil]
  rwa [hc, nq_eq_nestingP (pof cfg.opts) (by simp [pof]) v] at hnq

theorem fromTrait_inv {cfg : Cfg} {s s' : St} {v : Value} (h : fromTrait cfg s = .ok v s') :
    ∃ f s1, nextValue cfg f s = .ok (some v) s1 := by
  unfold fromTrait at h
  obtain ⟨v0, s1, hev, h⟩ := bind_ok h
  obtain ⟨_, s2, _, h⟩ := bind_ok h
  obtain ⟨rfl, _⟩ := pure_ok h
  unfold expectValue at hev
  obtain ⟨ov, s3, hnt, hev⟩ := bind_ok hev
  unfold nextValueTop at hnt
  obtain ⟨f, s4, haf, hnt⟩ := bind_ok hnt
  rw [U8.apiFuel_ok haf] at hnt
  cases ov with
  | none => simp [peekErr] at hev
  | some w =>
    obtain ⟨rfl, _⟩ := pure_ok hev
    exact ⟨f, s3, hnt⟩

/-- `C13_image_shape` for the public entry points -/
theorem fromTrait_img {cfg : Cfg} {s s' : St} {v : Value} (h : fromTrait cfg s = .ok v s')
    (hm : s.rd.mode ≠ .str) : AllAtoms (AtomImg cfg) v :=
  let ⟨_, _, hnv⟩ := fromTrait_inv h
  nextValue_img_atoms hnv hm

/-- acceptance gives the atoms of the image and — unless `nil` is read as `()`, when it is a
    hypothesis — the nesting bound of the printed text -/
theorem accepted_img (cfg : Cfg) (bytes : List UInt8) (v : Value)
    (s1 : St) (h : fromTrait cfg (initSt .slice bytes) = .ok v s1)
    (hnest : cfg.opts.nil = .emptyList → ListRT.nestingP (pof cfg.opts) v ≤ 127) :
    AllAtoms (AtomImg cfg) v ∧ ListRT.nestingP (pof cfg.opts) v ≤ 127 := by
  obtain ⟨f, s2, hnv⟩ := fromTrait_inv h
  refine ⟨nextValue_img_atoms hnv (by simp [initSt]), ?_⟩
  by_cases hnil : cfg.opts.nil = .emptyList
  · exact hnest hnil
  · have hnq := nextValue_nestingP hnv (by simp [initSt]) (by simp [initSt]) hnil
    simp only [initSt] at hnq
    omega

theorem pof_brackets (cfg : Cfg) :
    (pof cfg.opts).vector = .brackets → cfg.opts.brackets = .vector := by
  intro hv
  cases hbr : cfg.opts.brackets
  · simp [pof, hbr] at hv
  · rfl

/-! The round trip of an accepted value, for any relation `R` between the value printed and the
    value read that the constructions respect and any hypothesis `P` of the structural round trip
    that accepted values with a side condition `S` on their atoms meet (`hof`).  The exact
    statements below (`AtomSideW`: floats with `FloatOK`; read back as the same value) and the
    approximate ones of `FloatApproxImage.lean` (`RyuSpecOnly`; read back up to `approxEq`) are
    its two instances. -/

/-- parse → print → parse on a whole input: the text `pof R` prints for an accepted value is
    read, to the end, as a value related to it -/
theorem reparse_rel {cfg : Cfg} {ryu : Nat → List UInt8} {R : Value → Value → Prop}
    {RS : List Value → List Value → Prop} {P : Value → Prop} {PS : List Value → Prop}
    {S : Value → Prop} (hR : ListRT.Structural R RS)
    (hP : ListRT.Hyp (pof cfg.opts) cfg ryu R P PS)
    (hof : ∀ v, AllAtoms (AtomImg cfg) v → AllAtoms S v → carDotOk (pof cfg.opts) v = true → P v)
    (bytes : List UInt8) (v : Value)
    (s1 : St) (h : fromTrait cfg (initSt .slice bytes) = .ok v s1)
    (hside : AllAtoms S v) (hdot : carDotOk (pof cfg.opts) v = true)
    (hnest : cfg.opts.nil = .emptyList → ListRT.nestingP (pof cfg.opts) v ≤ 127) :
    ∃ w s', R v w ∧
      fromTrait cfg (initSt .slice (Print.text (pof cfg.opts) ryu v)) = .ok w s' ∧
      s'.rd.rest = [] ∧ s'.depth = 128 := by
  obtain ⟨himg, hn⟩ := accepted_img cfg bytes v s1 h hnest
  obtain ⟨w, r, A⟩ := (ListRT.reads_rel _ cfg ryu (pof_brackets cfg) hR hP).1 v
    (hof v himg hside hdot)
  obtain ⟨s', e⟩ := A.value.fromTrait_plain hn
  exact ⟨w, s', r, e⟩

/-- the same for a value read by `next_value` in the middle of an input -/
theorem reparse_next_rel {cfg : Cfg} {ryu : Nat → List UInt8} {R : Value → Value → Prop}
    {RS : List Value → List Value → Prop} {P : Value → Prop} {PS : List Value → Prop}
    {S : Value → Prop} (hR : ListRT.Structural R RS)
    (hP : ListRT.Hyp (pof cfg.opts) cfg ryu R P PS)
    (hof : ∀ v, AllAtoms (AtomImg cfg) v → AllAtoms S v → carDotOk (pof cfg.opts) v = true → P v)
    (fuel : Nat) (s0 s1 : St) (v : Value)
    (hm : s0.rd.mode ≠ .str) (hd : 1 ≤ s0.depth)
    (h : nextValue cfg fuel s0 = .ok (some v) s1)
    (hside : AllAtoms S v) (hdot : carDotOk (pof cfg.opts) v = true)
    (hnil : cfg.opts.nil ≠ .emptyList) :
    ∃ w, R v w ∧
      ∀ (s : St) (rest : List UInt8) (fuel' : Nat), Follow rest →
        s.rd.mode = .slice ∧ s.rd.faulty = false →
        s.rd.rest = Print.text (pof cfg.opts) ryu v ++ rest →
        fuel' ≥ 2 * s.rd.rest.length + 3 → s0.depth ≤ s.depth →
        ∃ s', nextValue cfg fuel' s = .ok (some w) s' ∧ s'.rd.rest = rest ∧
          s'.depth = s.depth := by
  have hnq := nextValue_nestingP h hm hd hnil
  obtain ⟨w, r, A⟩ := (ListRT.reads_rel _ cfg ryu (pof_brackets cfg) hR hP).1 v
    (hof v (nextValue_img_atoms h hm) hside hdot)
  refine ⟨w, r, fun s rest fuel' hF hg hr hfu hdep => ?_⟩
  obtain ⟨s', e, r', _, d⟩ := A.value.2 s rest fuel' (.inr hF) hg hr hfu (by omega)
  exact ⟨s', e, r', d⟩

/-- **C13_reparse_partial.**  `from_slice_custom(bytes, R) = Ok(v)` implies
    `from_slice_custom(to_string_custom(v, pof R), R) = Ok(v)` — the same value, no folding — for
    every parser option set `R` (with or without a keyword syntax), provided
      * every atom of `v` satisfies `AtomSideW` — a float leaf has `Decimals.FloatOK` (a), a
        keyword is not named `.` unless `pof R` prints `name:` (d1);
      * `carDotOk`: no car of a pair in `v` is a symbol (or `name:`-printed keyword) whose text
        starts with `.` followed by NUL, `|` or `"` (b, the known finding);
      * only when `R` reads `nil` as `()`: the nesting of the printed text is at most 127 (d2).
    In all other dialects the depth bound follows from acceptance. -/
theorem C13_reparse_partial (cfg : Cfg) (ryu : Nat → List UInt8) (bytes : List UInt8) (v : Value)
    (s1 : St) (h : fromTrait cfg (initSt .slice bytes) = .ok v s1)
    (hside : AllAtoms (AtomSideW cfg ryu) v)
    (hdot : carDotOk (pof cfg.opts) v = true)
    (hnest : cfg.opts.nil = .emptyList → ListRT.nestingP (pof cfg.opts) v ≤ 127) :
    ∃ s', fromTrait cfg (initSt .slice (Print.text (pof cfg.opts) ryu v)) = .ok v s' ∧
      s'.rd.rest = [] ∧ s'.depth = 128 := by
  obtain ⟨w, s', rfl, e⟩ := reparse_rel (ListRT.structural_fold _ _) (hyp_allOKW _ cfg ryu)
    (allOKW_of cfg ryu) bytes v s1 h hside hdot hnest
  rw [fold_pof] at e
  exact ⟨s', e⟩

/-- **C13_fixpoint.**  Under the same hypotheses, parse → print → parse reaches a fixed point
    after one step: the re-read value is `v`, so printing it gives the same text, and reading
    that text gives the same value again. -/
theorem C13_fixpoint (cfg : Cfg) (ryu : Nat → List UInt8) (bytes : List UInt8) (v : Value)
    (s1 : St) (h : fromTrait cfg (initSt .slice bytes) = .ok v s1)
    (hside : AllAtoms (AtomSideW cfg ryu) v)
    (hdot : carDotOk (pof cfg.opts) v = true)
    (hnest : cfg.opts.nil = .emptyList → ListRT.nestingP (pof cfg.opts) v ≤ 127) :
    ∃ v' s', fromTrait cfg (initSt .slice (Print.text (pof cfg.opts) ryu v)) = .ok v' s' ∧
      Print.text (pof cfg.opts) ryu v' = Print.text (pof cfg.opts) ryu v ∧
      ∃ s'', fromTrait cfg (initSt .slice (Print.text (pof cfg.opts) ryu v')) = .ok v' s'' := by
  obtain ⟨s', e, _, _⟩ := C13_reparse_partial cfg ryu bytes v s1 h hside hdot hnest
  exact ⟨v, s', e, rfl, s', e⟩

/-- The same for a value read by `next_value` in the middle of an input: in any non-faulty slice
    state whose unread input is the printed text followed by a token-ending context, with the
    recursion budget the value was read with, `next_value` returns the value again. -/
theorem C13_reparse_next (cfg : Cfg) (ryu : Nat → List UInt8) (fuel : Nat) (s0 s1 : St) (v : Value)
    (hm : s0.rd.mode ≠ .str) (hd : 1 ≤ s0.depth)
    (h : nextValue cfg fuel s0 = .ok (some v) s1)
    (hside : AllAtoms (AtomSideW cfg ryu) v)
    (hdot : carDotOk (pof cfg.opts) v = true)
    (hnil : cfg.opts.nil ≠ .emptyList)
    (s : St) (rest : List UInt8) (fuel' : Nat) (hF : Follow rest)
    (hg : s.rd.mode = .slice ∧ s.rd.faulty = false)
    (hr : s.rd.rest = Print.text (pof cfg.opts) ryu v ++ rest)
    (hfu : fuel' ≥ 2 * s.rd.rest.length + 3) (hdep : s0.depth ≤ s.depth) :
    ∃ s', nextValue cfg fuel' s = .ok (some v) s' ∧ s'.rd.rest = rest ∧ s'.depth = s.depth := by
  obtain ⟨w, rfl, hrun⟩ := reparse_next_rel (ListRT.structural_fold _ _)
    (hyp_allOKW _ cfg ryu) (allOKW_of cfg ryu) fuel s0 s1 v hm hd h hside hdot hnil
  rw [fold_pof] at hrun
  exact hrun s rest fuel' hF hg hr hfu hdep

#print axioms C13_image_shape
#print axioms C13_image
#print axioms C13_image_weak
#print axioms C13_keyword_enabled
#print axioms C13_reparse_partial
#print axioms C13_reparse_next
#print axioms C13_fixpoint

end Image
end Parse
end Lexpr
