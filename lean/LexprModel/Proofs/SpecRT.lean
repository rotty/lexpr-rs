/-
  SpecRT — C01, last clause: "the printed text is also readable as the same datum by an independent
  reader of the documented R6RS/R7RS-style grammar".  The reader is `Spec.readSchemeWith`
  (Spec/Reader.lean), written from the grammar and sharing nothing with the model of the crate's
  parser; it has no depth limit and uses no fuel, so `C01_independent_leaves` and `C01_independent`
  hold at EVERY nesting depth, for every `alpha`.
  * Floats: only `Decimals.RyuSpec` is used (ryu's text denotes a decimal that rounds to the
    double); the exactness window of the crate's fast path (`FloatOK`) plays no role, because the
    specification reader assigns a literal its correctly rounded value.
  * Names: symbols and keywords must be identifiers of the grammar (`Spec.isIdentifier`).  This is
    NOT implied by the hypothesis of the crate-parser round trip (`PlainIdent`): the printer writes
    names verbatim, and the crate's parser accepts as a symbol whatever contains no terminator.
    Kernel-checked witnesses below (`witness_*`): the symbols `a"b`, `a#b`, `.5`, `+i` satisfy
    `AllSupportedFull` (so the crate reads its own text back) but their text is not that symbol for
    a reader of the documented grammar (`.5` IS the number 0.5 in R6RS and R7RS).
-/
import LexprModel.Proofs.SpecRTAtoms
namespace Lexpr
namespace SpecRT
open Spec Print

/-- The leaves of the independent-reader theorem: `#nil`, booleans, `u64` / negative `i64`
    integers, doubles for which ryu meets its specification (any finite double: no window), scalar
    characters, valid UTF-8 strings, symbols and keywords whose names are identifiers of the
    grammar, byte vectors with any content. -/
def SpecLeaf (alpha : Nat → Bool) (ryu : Nat → List UInt8) : Value → Prop
  | .nil => True
  | .bool _ => True
  | .number (.pos n) => n ≤ u64Max
  | .number (.neg i) => i64Min ≤ i ∧ i < 0
  | .number (.flt b) => b < 2 ^ 64 ∧ ∃ d : Decimals.RyuDec, Decimals.RyuSpec ryu b d
  | .char c => isScalar c = true
  | .string x => Utf8.valid x = true
  | .symbol x => isIdentifier alpha x = true
  | .keyword x => isIdentifier alpha x = true
  | .bytes _ => True
  | _ => False

theorem reads_leaf (alpha : Nat → Bool) (ryu : Nat → List UInt8) (v : Value)
    (h : SpecLeaf alpha ryu v) : ReadsAs lexeme (classify alpha) (text po ryu v) v := by
  cases v with
  | nil => exact reads_nil alpha ryu
  | bool b => exact reads_bool alpha ryu b
  | number n =>
    cases n with
    | pos n => exact reads_posint (lexemes_default alpha) po ryu n h
    | neg i => exact reads_negint (lexemes_default alpha) po ryu i h.1 h.2
    | flt b => obtain ⟨hb, d, hd⟩ := h; exact reads_float (lexemes_default alpha) po ryu b hb d hd
  | char c => exact reads_char alpha ryu c h
  | string x => exact reads_string alpha ryu x h
  | symbol x => exact reads_symbol alpha ryu x h
  | keyword x => exact reads_keyword alpha ryu x h
  | bytes x => exact reads_bytes alpha ryu x
  | null => exact absurd h id
  | cons a d => exact absurd h id
  | vector xs => exact absurd h id

theorem readScheme_eq (alpha : Nat → Bool) (bs : List UInt8) :
    readSchemeWith alpha bs = (lexItems lexeme (classify alpha) bs).bind build := by
  unfold readSchemeWith lexItems tokens
  cases chunks lexeme 0 bs <;> rfl

/-- The text the default printer writes for `v` is read by the independent reader as exactly `v`:
    one datum, nothing left over.  Any nesting depth. -/
theorem C01_independent_leaves (alpha : Nat → Bool) (ryu : Nat → List UInt8) (v : Value)
    (h : Leaves (SpecLeaf alpha ryu) v) :
    readSchemeWith alpha (Print.text Print.Options.default ryu v) = some v := by
  have := read_text lexeme (classify alpha) po (brackets_default alpha) ryu Parse.Options.default
    (SpecLeaf alpha ryu) (fun v _ _ _ hv => by rw [FullRT.fold_default]; exact reads_leaf alpha ryu v hv) v h
  rwa [FullRT.fold_default, ← readScheme_eq] at this

/-- symbol and keyword names are identifiers of the documented grammar -/
def IdentNames (alpha : Nat → Bool) : Value → Prop
  | .symbol x => isIdentifier alpha x = true
  | .keyword x => isIdentifier alpha x = true
  | _ => True

/-- a leaf of the crate-parser round trip whose name (if any) is an identifier is a leaf here;
    of `FloatOK` only the `RyuSpec` half is used -/
theorem specLeaf_of_full (alpha : Nat → Bool) (cfg : Parse.Cfg) (ryu : Nat → List UInt8) (v : Value)
    (h : FullRT.LeafFull cfg ryu v) (hid : IdentNames alpha v) : SpecLeaf alpha ryu v := by
  cases v with
  | number n =>
    cases n with
    | pos n => exact h
    | neg i => exact h
    | flt b => obtain ⟨hb, d, hd, -⟩ := h; exact ⟨hb, d, hd⟩
  | symbol x => exact hid
  | keyword x => exact hid
  | nil => trivial
  | bool b => trivial
  | char c => exact h
  | string x => exact h
  | bytes x => trivial
  | null => exact h
  | cons a d => exact h
  | vector xs => exact h

/-- Under the hypotheses of `C01_roundtrip_all_sources` (default options; `AllSupportedFull`) WITHOUT
    the nesting bound, plus: names are identifiers of the grammar. -/
theorem C01_independent (alpha : Nat → Bool) (cfg : Parse.Cfg) (ryu : Nat → List UInt8) (v : Value)
    (h : FullRT.AllSupportedFull cfg ryu v) (hid : FullRT.AllLeaves (IdentNames alpha) v) :
    readSchemeWith alpha (Print.text Print.Options.default ryu v) = some v :=
  C01_independent_leaves alpha ryu v
    (leaves_of_allLeaves (fun v _ => specLeaf_of_full alpha cfg ryu v) v h hid)

/-! ## Witnesses: why the names must be identifiers of the grammar

Each value below satisfies the hypothesis of the crate-parser round trip (`AllSupportedFull`: the
crate reads its own text back as the same symbol, `C01_roundtrip_all_sources`), yet the text means
something else, or nothing, to a reader of the documented grammar — for every `alpha`.  Checked
against the real crate: `to_string(Value::symbol(".5")) == ".5"`, `from_str(".5") == Symbol(".5")`. -/

theorem supported_symbol (cfg : Parse.Cfg) (ryu : Nat → List UInt8) (x : List UInt8)
    (h : Parse.PlainIdent x ∧ Parse.ListRT.dotHeadOk x = true) :
    FullRT.AllSupportedFull cfg ryu (.symbol x) := by
  simpa only [FullRT.AllSupportedFull, FullRT.AllLeaves, FullRT.LeafFull, Parse.ListRT.SupportedAtom]
    using h

/-- the symbol `.5` is printed as `.5`, which the grammar reads as the NUMBER 0.5
    (R7RS `<decimal 10> → . <digit 10>+ <suffix>`); the crate's parser reads it as a symbol -/
theorem witness_dot5 (alpha : Nat → Bool) (cfg : Parse.Cfg) (ryu : Nat → List UInt8) :
    FullRT.AllSupportedFull cfg ryu (.symbol (asc ".5")) ∧
    readSchemeWith alpha (Print.text Print.Options.default ryu (.symbol (asc ".5"))) =
      some (.number (.flt 0x3FE0000000000000)) :=
  ⟨supported_symbol cfg ryu _ (by decide), by rw [text_symbol]; rfl⟩

/-- the symbol `a"b` is printed as `a"b`: an identifier followed by an unterminated string -/
theorem witness_quote (alpha : Nat → Bool) (cfg : Parse.Cfg) (ryu : Nat → List UInt8) :
    FullRT.AllSupportedFull cfg ryu (.symbol (asc "a\"b")) ∧
    readSchemeWith alpha (Print.text Print.Options.default ryu (.symbol (asc "a\"b"))) = none :=
  ⟨supported_symbol cfg ryu _ (by decide), by rw [text_symbol]; rfl⟩

/-- the symbol `a#b` is printed as `a#b`; `#` is not a `<subsequent>` -/
theorem witness_hash (alpha : Nat → Bool) (cfg : Parse.Cfg) (ryu : Nat → List UInt8) :
    FullRT.AllSupportedFull cfg ryu (.symbol (asc "a#b")) ∧
    readSchemeWith alpha (Print.text Print.Options.default ryu (.symbol (asc "a#b"))) = none :=
  ⟨supported_symbol cfg ryu _ (by decide), by rw [text_symbol]; rfl⟩

/-- the symbol `+i` is printed as `+i`, the imaginary unit of the grammar (7.1.1: "`+i`, `-i` and
    `<infnan>` are exceptions to the `<peculiar identifier>` rule") -/
theorem witness_plus_i (alpha : Nat → Bool) (cfg : Parse.Cfg) (ryu : Nat → List UInt8) :
    FullRT.AllSupportedFull cfg ryu (.symbol (asc "+i")) ∧
    readSchemeWith alpha (Print.text Print.Options.default ryu (.symbol (asc "+i"))) = none :=
  ⟨supported_symbol cfg ryu _ (by decide), by rw [text_symbol]; rfl⟩

/-- a keyword named `1` is printed as `#:1`, and `1` is not an identifier -/
theorem witness_keyword_digit (alpha : Nat → Bool) (cfg : Parse.Cfg) (ryu : Nat → List UInt8) :
    FullRT.AllSupportedFull cfg ryu (.keyword (asc "1")) ∧
    readSchemeWith alpha (Print.text Print.Options.default ryu (.keyword (asc "1"))) = none := by
  refine ⟨?_, by rw [text_keyword]; rfl⟩
  simp only [FullRT.AllSupportedFull, FullRT.AllLeaves, FullRT.LeafFull, Parse.ListRT.SupportedAtom]
  decide

open Decimals in
/-- `#((a #u8(1 2 255) 1.5 . -100.0) "s" #:k () #\x3bb 1.2345678901234568e17)`: every leaf kind; the
    last float has 17 significant digits, outside the window of `FloatOK` in the default build -/
def exValue : Value :=
  .vector [.cons (.symbol (asc "a")) (.cons (.bytes [1, 2, 255])
    (.cons (.number (.flt 0x3FF8000000000000)) (.number (.flt 0xC059000000000000)))),
    .string (asc "s"), .keyword (asc "k"), .null, .char 955, .number (.flt 0x437B69B4BA630F35)]

open Decimals in
theorem exValue_leaves (alpha : Nat → Bool) : Leaves (SpecLeaf alpha ryuEx) exValue := by
  simp only [exValue, Leaves, LeavesSeq, SpecLeaf, and_true, true_and]
  refine ⟨⟨rfl, ⟨by decide, ⟨false, 15, -1, .mid⟩, ?_⟩, ⟨by decide, ⟨true, 1, 2, .intDot0⟩, ?_⟩⟩,
    by decide, rfl, by decide, ⟨by decide, ⟨false, 12345678901234568, 1, .sci⟩, ?_⟩⟩
  all_goals exact ⟨by decide +kernel, by decide +kernel, by decide +kernel, by decide +kernel⟩

example (alpha : Nat → Bool) :
    readSchemeWith alpha (Print.text Print.Options.default Decimals.ryuEx exValue) = some exValue :=
  C01_independent_leaves alpha _ _ (exValue_leaves alpha)

example : Print.text Print.Options.default Decimals.ryuEx exValue =
    asc "#((a #u8(1 2 255) 1.5 . -100.0) \"s\" #:k () #\\x3bb 1.2345678901234568e17)" := by
  decide +kernel

/-- the reader itself, run by the kernel on that text (compared with `Value.beq`) -/
example : (readSchemeWith (fun _ => false)
    (asc "#((a #u8(1 2 255) 1.5 . -100.0) \"s\" #:k () #\\x3bb 1.2345678901234568e17)")).map
      (Value.beq · exValue) = some true := by decide +kernel

/-- the hypotheses of `C01_independent` are satisfiable together -/
example : FullRT.AllSupportedFull Decimals.exCfgFast Decimals.ryuEx
      (.cons (.symbol (asc "set!")) (.cons (.keyword (asc "k")) (.number (.flt 0x3FF8000000000000)))) ∧
    FullRT.AllLeaves (IdentNames (fun _ => false))
      (.cons (.symbol (asc "set!")) (.cons (.keyword (asc "k")) (.number (.flt 0x3FF8000000000000)))) := by
  simp only [FullRT.AllSupportedFull, FullRT.AllLeaves, FullRT.LeafFull, Parse.ListRT.SupportedAtom,
    IdentNames]
  exact ⟨⟨by decide, by decide, Decimals.floatOK_ex_15⟩, by decide +kernel, by decide +kernel, trivial⟩

/-- no depth limit: `((((…a…))))` nested `n` deep is read back for every `n` (the crate's own parser
    refuses 128 levels, `C01_depth_exact`) -/
def deep : Nat → Value
  | 0 => .symbol (asc "a")
  | n + 1 => .cons (deep n) .null

theorem deep_independent (alpha : Nat → Bool) (ryu : Nat → List UInt8) (n : Nat) :
    readSchemeWith alpha (Print.text Print.Options.default ryu (deep n)) = some (deep n) := by
  apply C01_independent_leaves
  induction n with
  | zero => simp only [deep, Leaves, SpecLeaf]; rfl
  | succ n ih => simp only [deep, Leaves, and_true]; exact ih

#print axioms C01_independent_leaves
#print axioms C01_independent
#print axioms witness_dot5
#print axioms witness_quote
#print axioms witness_hash
#print axioms witness_plus_i
#print axioms witness_keyword_digit
#print axioms deep_independent

end SpecRT
end Lexpr
