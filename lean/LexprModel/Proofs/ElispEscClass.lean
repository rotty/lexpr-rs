/-
  The byte after the backslash decides which arm of `parse_elisp_escape` runs.  `escArmClass` names
  the arms, `escArm` is the program of each, `parseElispEscape_eq` the dispatch and
  `escArmClass_table` what a class says about the byte.
-/
import LexprModel.Proofs.TokClass
namespace Lexpr
namespace Parse

/-- the arms of `parse_elisp_escape`; the twelve arms that stand for one fixed byte (`\"`, `\\` and
    ten letters) are one class, `lit` -/
inductive EscArm where
  | lit (b : UInt8) | blank | ctrl | named | u4 | u8 | hex | octal | cont | self
  deriving DecidableEq

def escArmClass (c : UInt8) : EscArm :=
  if c == 34 then .lit 34 else if c == 92 then .lit 92 else if c == 32 then .blank
  else if c == 97 then .lit 7 else if c == 98 then .lit 8 else if c == 116 then .lit 9
  else if c == 110 then .lit 10 else if c == 118 then .lit 11 else if c == 102 then .lit 12
  else if c == 114 then .lit 13 else if c == 101 then .lit 27 else if c == 115 then .lit 32
  else if c == 100 then .lit 127 else if c == 94 then .ctrl else if c == 78 then .named
  else if c == 117 then .u4 else if c == 85 then .u8 else if c == 120 then .hex
  else if 48 ≤ c && c ≤ 55 then .octal else if 128 ≤ c && c ≤ 191 then .cont else .self

/-- `\ `: ignored, unless a continuation byte follows -/
def blankArm (acc : List UInt8) : P (List UInt8 × ElispEscape) := do
  match (← peek) with
  | some b => if 128 ≤ b && b ≤ 191 then errAt .invalidUnicodeCodePoint else pure (acc, .indeterminate)
  | none => pure (acc, .indeterminate)

/-- `\^k` -/
def ctrlArm (acc : List UInt8) : P (List UInt8 × ElispEscape) := do
  let k := toAsciiLower (← nextOrEof)
  if isAsciiLower k then pure (acc ++ [k - 97], .indeterminate) else errAt .invalidEscape

/-- the end of `\N{U+…}` once the digits are read -/
def namedClose (acc : List UInt8) (n : Nat) : P (List UInt8 × ElispEscape) := do
  let r ← elispUniCharEscape acc n
  let b4 ← nextOrEof
  if b4 != 125 then errAt .invalidEscape else pure r

/-- `\N{U+…}` -/
def namedArm (fuel : Nat) (acc : List UInt8) : P (List UInt8 × ElispEscape) := do
  let b1 ← nextOrEof
  if b1 != 123 then errAt .invalidEscape
  else do
    let b2 ← nextOrEof
    if b2 != 85 then errAt .invalidEscape
    else do
      let b3 ← nextOrEof
      if b3 != 43 then errAt .invalidEscape
      else do
        let n ← decodeElispHexEscape fuel 0
        if Utf8.isSurrogate n then do
          match (← peek) with
          | none => errAt .eofString
          | some _ => namedClose acc n
        else namedClose acc n

/-- `c` is the byte after the backslash -/
def escArm (fuel : Nat) (acc : List UInt8) (c : UInt8) : EscArm → P (List UInt8 × ElispEscape)
  | .lit b => pure (acc ++ [b], .indeterminate)
  | .blank => blankArm acc
  | .ctrl => ctrlArm acc
  | .named => namedArm fuel acc
  | .u4 => decodeElispUniEscape 4 0 >>= elispUniCharEscape acc
  | .u8 => decodeElispUniEscape 8 0 >>= elispUniCharEscape acc
  | .hex => decodeElispHexEscape fuel 0 >>= elispCharEscape acc
  | .octal => decodeElispOctalEscape fuel (c.toNat - 48) >>= elispCharEscape acc
  | .cont => errAt .invalidUnicodeCodePoint
  | .self => pure (acc ++ [c], .indeterminate)

theorem parseElispEscape_eq (fuel : Nat) (acc : List UInt8) :
    parseElispEscape fuel acc = nextOrEof >>= fun c => escArm fuel acc c (escArmClass c) := by
  unfold parseElispEscape
  refine congrArg _ (funext fun c => ?_)
  unfold escArmClass
  exact ite_arm rfl fun _ => ite_arm rfl fun _ => ite_arm rfl fun _ => ite_arm rfl fun _ =>
    ite_arm rfl fun _ => ite_arm rfl fun _ => ite_arm rfl fun _ => ite_arm rfl fun _ =>
    ite_arm rfl fun _ => ite_arm rfl fun _ => ite_arm rfl fun _ => ite_arm rfl fun _ =>
    ite_arm rfl fun _ => ite_arm rfl fun _ => ite_arm rfl fun _ => ite_arm rfl fun _ =>
    ite_arm rfl fun _ => ite_arm rfl fun _ => ite_arm rfl fun _ => ite_arm rfl fun _ => rfl

/-- what a class says about the byte -/
def EscArm.Byte (c : UInt8) : EscArm → Prop
  | .lit b => c < 0x80 ∧ b < 0x80
  | .blank => c = 32
  | .ctrl => c = 94
  | .named => c = 78
  | .u4 => c = 117
  | .u8 => c = 85
  | .hex => c = 120
  | .octal => 48 ≤ c ∧ c ≤ 55
  | .cont => Utf8.isCont c = true
  | .self => Utf8.isCont c = false

instance (c : UInt8) (k : EscArm) : Decidable (k.Byte c) := by
  cases k <;> unfold EscArm.Byte <;> infer_instance

theorem escArmClass_table : ∀ c : UInt8, (escArmClass c).Byte c ∧
    ((48 ≤ c && c ≤ 55) = true → escArmClass c = .octal) ∧
    ((128 ≤ c && c ≤ 191) = true → escArmClass c = .cont) := by
  apply byte_forall; decide +kernel

theorem escArmClass_byte (c : UInt8) : (escArmClass c).Byte c := (escArmClass_table c).1
theorem escArmClass_octal (c : UInt8) (h : (48 ≤ c && c ≤ 55) = true) : escArmClass c = .octal :=
  (escArmClass_table c).2.1 h
theorem escArmClass_cont (c : UInt8) (h : (128 ≤ c && c ≤ 191) = true) : escArmClass c = .cont :=
  (escArmClass_table c).2.2 h

end Parse
end Lexpr
