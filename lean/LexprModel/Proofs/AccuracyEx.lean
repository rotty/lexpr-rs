/-
  Accuracy of decimal literals (property C05), part 5: the regenerated `POW10` table satisfies the
  premise of the analysis, and concrete literals: the model's result is the one the real code
  returns (bits obtained from `lexpr::from_str(..).as_f64().to_bits()`, default features), it
  satisfies the proved bound, and the bound cannot be replaced by half an ulp.
-/
import LexprModel.Proofs.AccuracyTrunc
import LexprModel.TablesCheck
namespace Lexpr
namespace Accuracy
open Parse F64 Numbers Decimals

/-- the premise `hp` of `C05_accuracy_fast` for the regenerated table
    (`TablesCheck.pow10_rounded`) -/
theorem tab_rounded : ∀ k, k ≤ 308 → pow10Tab k = rn (10 ^ k) 1 := by
  intro k hk
  have h := TablesCheck.pow10_rounded.2
  rw [List.all_eq_true] at h
  have := h k (List.mem_range.mpr (by omega))
  simpa [pow10Tab] using this

/-- the loop of `f64_from_parts` on the real table -/
def fastReal (sig : Nat) (e : Int) : Option Nat :=
  fastParts pow10Tab (e.natAbs / 308 + 2) (F64.ofNat sig) e

theorem C05_accuracy_fast_real {sig : Nat} {e : Int} {f : Nat} (hs0 : sig ≠ 0) (hs64 : sig < 2 ^ 64)
    (h : fastReal sig e = some f) :
    f < infBits ∧
    dec sig e * (1 - c50) - a1074 ≤ val f ∧ val f ≤ dec sig e * (1 + c50) + a1074 :=
  C05_accuracy_fast tab_rounded hs0 hs64 h

/-! ### the model returns the bits of the real code; after each, the theorem's instance -/

/-- `1e-23`: real bits `0x3B282DB34012B252`, one ulp above the correctly rounded value -/
theorem ex_1em23 : fastReal 1 (-23) = some 0x3B282DB34012B252 := fast_1em23.1
example := C05_accuracy_fast_real (by decide) (by decide) ex_1em23

/-- `123456789012345678e-300` (18 digits: `significand as f64` already rounds) -/
theorem ex_18digits : fastReal 123456789012345678 (-300) = some 0x05325BB52CFEE668 := by
  decide +kernel
example := C05_accuracy_fast_real (by decide) (by decide) ex_18digits

/-- `5e-324`: the smallest subnormal -/
theorem ex_5em324 : fastReal 5 (-324) = some 0x0000000000000001 := by decide +kernel
example := C05_accuracy_fast_real (by decide) (by decide) ex_5em324

theorem ex_1em320 : fastReal 1 (-320) = some 0x00000000000007E8 := by decide +kernel
example := C05_accuracy_fast_real (by decide) (by decide) ex_1em320

/-- `18446744073709551615e-340` (largest significand, two divisions, subnormal result),
    `12345678901234567e-330`, `99e-325`, `1e-308` (first quotient already subnormal) -/
theorem ex_more :
    fastReal 18446744073709551615 (-340) = some 0x0000000000000175 ∧
    fastReal 12345678901234567 (-330) = some 0x0000000094F08F0C ∧
    fastReal 99 (-325) = some 0x0000000000000002 ∧
    fastReal 1 (-308) = some 0x000730D67819E8D2 ∧
    fastReal 1797693134862315 293 = some 0x7FEFFFFFFFFFFFFB := by decide +kernel
example := C05_accuracy_fast_real (by decide) (by decide) ex_more.1

/-- three rounds of the loop: `18446744073709551615e-635` is `+0.0` (as on the real code) -/
theorem ex_zero : fastReal 18446744073709551615 (-635) = some 0 ∧ fastReal 7 (-617) = some 0 := by
  decide +kernel
example := C05_accuracy_fast_real (by decide) (by decide) ex_zero.1

/-! ### the inequalities evaluated directly (independent of the proof) -/

set_option exponentiation.threshold 2048 in
example :
    dec 1 (-23) * (1 - c50) - a1074 ≤ val 0x3B282DB34012B252 ∧
    val 0x3B282DB34012B252 ≤ dec 1 (-23) * (1 + c50) + a1074 ∧
    dec 5 (-324) * (1 - c50) - a1074 ≤ val 1 ∧ val 1 ≤ dec 5 (-324) * (1 + c50) + a1074 ∧
    dec 1 (-320) * (1 - c50) - a1074 ≤ val 0x7E8 ∧ val 0x7E8 ≤ dec 1 (-320) * (1 + c50) + a1074 ∧
    dec 123456789012345678 (-300) * (1 - c50) - a1074 ≤ val 0x05325BB52CFEE668 ∧
    val 0x05325BB52CFEE668 ≤ dec 123456789012345678 (-300) * (1 + c50) + a1074 := by
  decide +kernel

set_option exponentiation.threshold 2048 in
/-- The bound cannot be replaced by half an ulp (`2^-53` relative): `35e-165` is read (by the
    model and by the real code) as `0x1E001FC57A9C7823`, which is more than `1.5 * 2^-53` above,
    and `5213750638614607227e-311` as `0x0340A638A63FFAEA`, more than `2.5 * 2^-53` below the
    exact value.  `1e-23` is one ulp off the correctly rounded double, yet within `2^-53`.
    And no purely relative bound holds in the subnormal range: `5e-324` reads as
    `2^-1074 = 4.94e-324`, relative error above `2^-7`. -/
example :
    fastReal 35 (-165) = some 0x1E001FC57A9C7823 ∧
    dec 35 (-165) * (1 + u * (3 / 2)) < val 0x1E001FC57A9C7823 ∧
    fastReal 5213750638614607227 (-311) = some 0x0340A638A63FFAEA ∧
    val 0x0340A638A63FFAEA < dec 5213750638614607227 (-311) * (1 - u * (5 / 2)) ∧
    rnDec 1 (-23) = 0x3B282DB34012B251 ∧ val 0x3B282DB34012B252 ≤ dec 1 (-23) * (1 + u) ∧
    val 1 < dec 5 (-324) * (1 - 1 / 128) := by
  decide +kernel

/-! ### non-vacuity of the `rn` lemmas -/

set_option exponentiation.threshold 2048 in
example := rn_relerr (n := 1) (d := 10) (by decide) (by decide +kernel) (by decide +kernel)
set_option exponentiation.threshold 2048 in
example := rn_abserr (n := 1) (d := 10 ^ 320) (by decide) (by decide +kernel)
example := C05_accuracy_nofast (sig := 1) (e := -23) (by decide) (by decide +kernel)

/-- `1.25e-23` -/
def exLit2 : DecLit := ⟨asc "1", some (asc "25"), some ⟨101, asc "-", asc "23"⟩⟩

theorem exLit2_wf : exLit2.WF := exLit2.wf_of_check (by decide)

example : exLit2.text = asc "1.25e-23" ∧ exLit2.sig = 125 ∧ exLit2.exp10 = -25 ∧
    litValue exLit2 = dec 125 (-25) := by
  refine ⟨by decide, by decide, by decide, ?_⟩
  rw [← litValue_eq]; rfl

example (pos : Bool) :=
  C05_accuracy_literal exCfgFast 11 pos exLit2 (asc ")") (exSt (exLit2.text ++ asc ")"))
    exLit2_wf rfl (by decide) (fun _ => rfl) (by decide) (by decide)
    (by decide) (fun _ => tab_rounded)
example (pos : Bool) :=
  C05_accuracy_literal exCfgSlow 11 pos exLit2 (asc ")") (exSt (exLit2.text ++ asc ")"))
    exLit2_wf rfl (by decide) (fun _ => rfl) (by decide) (by decide)
    (by decide) (fun h => by cases h)

/-- thirty integer digits and a fraction; `18446744073709551616.5` (2^64 + 0.5): the integer part
    overflows at its last digit, which is dropped, and the fraction digit `5` is then shifted
    into its place — the kept pair is `18446744073709551615 * 10^0` -/
example :
    DecLit.scanT ⟨asc "123456789012345678901234567890", some (asc "5"), none⟩ =
      (12345678901234567890, 10) ∧
    DecLit.scanT ⟨asc "18446744073709551616", some (asc "5"), none⟩ = (18446744073709551615, 0) := by
  decide +kernel

/-- the kept pairs give the bits the real code returns for these literals (and for
    `0.00000000000000000000123456789012345678901234567890e5`, kept as `12345678901234567890e-35`) -/
theorem ex_long :
    fastReal 12345678901234567890 10 = some 0x45F8EE90FF6C373E ∧
    fastReal 18446744073709551615 0 = some 0x43F0000000000000 ∧
    fastReal 12345678901234567890 (-35) = some 0x3CA1CAC067AFFEBC := by decide +kernel

example (pos : Bool) :=
  C05_accuracy_any_literal exCfgFast 40 pos
    ⟨asc "123456789012345678901234567890", some (asc "5"), none⟩ (asc ")")
    (exSt (asc "123456789012345678901234567890.5)")) (by decide +kernel) (by decide +kernel)
    (fun g hg => by cases hg; exact ⟨by decide +kernel, by decide +kernel⟩) (fun e he => by cases he)
    (Or.inl rfl) (by decide +kernel) (by decide +kernel) (fun h => by cases h) (fun _ => rfl)
    (by decide +kernel) (by decide +kernel)
    (fun _ => tab_rounded)

#print axioms tab_rounded
#print axioms C05_accuracy_fast_real

end Accuracy
end Lexpr
