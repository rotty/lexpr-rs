/-
  The part of every statement about the lexer that does not depend on the function.

  `Lexes m`: from any state `s`, `m` ends in a state `s'` with `Adv s s'`; a syntax error it raises
  carries `position` or `peekPosition` of a state between the two; an `io` error comes from a
  faulty source that is used up.  This holds of the reader primitives and is kept by `>>=`, so it
  holds of every function of the lexer (`Lexes.of_held`).  That only a suffix is left, that
  mode, `faulty` and depth are untouched, that a predicate kept by `consume` and by `peeked := b`
  is kept, that an error points into the input: all are read off `Adv` and `Raised`.  What a
  function consumes at least, which codes it raises where, whether it can panic or run out of
  fuel is said function by function (`Run`, RunLexer.lean); what is left of such a statement when
  all that is forgotten is again this (`Run.lexes`), which is how the parser proper and the entry
  points, which capture errors and so are no programs over the primitives alone, come to be
  `Lexes` too (RunParser.lean).
-/
import LexprModel.Proofs.Held
import LexprModel.Proofs.Consume
import LexprModel.Proofs.Monad
namespace Lexpr
namespace Parse
open Progress (Sat)
open PrefixDet (scan)

def Lexes {α : Type} (m : P α) : Prop :=
  ∀ s, Sat (m s) (fun _ s' => Adv s s') (fun e s' => Adv s s' ∧ Raised s s' e) True

namespace Lexes
variable {α β : Type}

theorem ok {m : P α} (h : Lexes m) {s s' : St} {a : α} (hr : m s = .ok a s') : Adv s s' :=
  (Sat.iff_tri.1 (h s)).ok hr

theorem err {m : P α} (h : Lexes m) {s s' : St} {e : Err} (hr : m s = .err e s') :
    Adv s s' ∧ Raised s s' e :=
  (Sat.iff_tri.1 (h s)).err hr

theorem bind {m : P α} {f : α → P β} (hm : Lexes m) (hf : ∀ a, Lexes (f a)) :
    Lexes (m >>= f) := fun s =>
  Sat.bind (hm s)
    (fun a s' h => Sat.imp (hf a s') (fun _ _ h' => h.trans h')
      (fun _ _ h' => ⟨h.trans h'.1, h'.2.trans h⟩) id)
    (fun _ _ h => h) id

theorem pure (a : α) : Lexes (Pure.pure a : P α) := fun s => Adv.refl s
theorem errAt (c : Code) : Lexes (errAt c : P α) := fun s =>
  ⟨.refl s, s, .refl s, .refl s, .inl rfl⟩
theorem peekErr (c : Code) : Lexes (peekErr c : P α) := fun s =>
  ⟨.refl s, s, .refl s, .refl s, .inr rfl⟩
theorem get (g : St → α) : Lexes (fun s => .ok (g s) s : P α) := fun s => Adv.refl s
theorem getMode : Lexes getMode := get _
theorem scan (g : List UInt8 → Nat) : Lexes (scan g) := fun s => Adv.consume s _

theorem peek : Lexes peek := by
  intro s; unfold Parse.peek
  split
  · exact Adv.peeked s _
  · split
    · exact ⟨.refl s, ‹_›, ‹_›⟩
    · exact .refl s

theorem next : Lexes next := by
  intro s; unfold Parse.next
  split
  · exact Adv.consume s 1
  · split
    · exact ⟨.refl s, ‹_›, ‹_›⟩
    · exact .refl s

theorem discard : Lexes discard := by
  intro s; unfold Parse.discard
  split
  · exact Adv.consume s 1
  · trivial

theorem ite {c : Prop} [Decidable c] {A B : P α} (hA : Lexes A) (hB : Lexes B) :
    Lexes (if c then A else B) := by split <;> assumption

/-- the error of `badByte` is located in the state before its `discard` -/
theorem badByte : Lexes PrefixDet.badByte := by
  intro s
  show Sat (P.bind Parse.discard _ s) _ _ _
  unfold P.bind Parse.discard
  cases hr : s.rd.rest with
  | nil => trivial
  | cons b t => exact ⟨Adv.consume s 1, s, .refl s, Adv.consume s 1, .inr rfl⟩

theorem finishStr (c : Bool) (bs : List UInt8) : Lexes (finishStr c bs) :=
  .bind .getMode fun _ => .ite (.pure _) (.ite (.pure _) (.errAt _))

theorem parseSymbolBytes (scratch : List UInt8) : Lexes (parseSymbolBytes scratch) := by
  rw [PrefixDet.parseSymbolBytes_eq]
  exact .bind .getMode fun _ => .bind (.scan _) fun _ => .bind .peek fun _ =>
    .ite (.errAt _) (.ite (.pure _) (.ite (.pure _) (.ite (.errAt _) (.errAt _))))

theorem logic : Built.Logic .same (fun {α} (m _ : P α) => Lexes m) where
  prim h := by
    cases h with
    | pure a => exact .pure a
    | errAt c => exact .errAt c
    | peekErr c => exact .peekErr c
    | peek => exact .peek
    | next => exact .next
    | discard => exact .discard
    | panicAt p => exact fun _ => trivial
    | outOfFuel => exact fun _ => trivial
    | skipWs => exact .scan _
    | skipDigits => exact .scan _
    | charName => exact .scan _
    | finishChecked bytes => exact .finishStr _ _
    | badByte => exact .badByte
    | parseSymbolBytes scratch _ => exact .parseSymbolBytes _
    | finishUnchecked bytes _ => exact .finishStr _ _
  bind := Lexes.bind
  outL h := h.elim
  outR h := h.elim

theorem of_held {c : Bool} {m m' : P α} (h : Held .same true c m m') : Lexes m := logic.of_held h

end Lexes
end Parse
end Lexpr
