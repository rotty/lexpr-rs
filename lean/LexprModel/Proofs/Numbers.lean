/-
  Numeric literals (property C05): the `overflow!` macro, exactness of integer → double
  conversion, `mulPos` / `divPos` as one correctly rounded operation, the fast path of
  `f64_from_parts`, integer literals, "never infinity / NaN", and `f64_from_parts` as a function
  of its arguments (`partsMag`).
-/
import LexprModel.Proofs.Primitives
import LexprModel.Generated.Tables
namespace Lexpr
namespace Numbers
open Parse F64

/-! ## 1. The `overflow!` macro -/

/-- Without `b < r` the macro is still sound (never a false alarm), but not complete:
    `overflow 0 10 100 50 = false` although `0 * 10 + 100 > 50`. -/
theorem overflow_sound {a r b c : Nat} (hr : 0 < r) (h : overflow a r b c = true) :
    a * r + b > c := by
  have hc := Nat.div_add_mod c r
  have hm := Nat.mod_lt c hr
  simp only [overflow, Bool.and_eq_true, Bool.or_eq_true, decide_eq_true_eq] at h
  obtain ⟨h1, h2⟩ := h
  rcases h2 with h2 | h2
  · have : (c / r + 1) * r ≤ a * r := Nat.mul_le_mul_right r h2
    have e : (c / r + 1) * r = r * (c / r) + r := by grind
    omega
  · have : (c / r) * r ≤ a * r := Nat.mul_le_mul_right r h1
    have e : (c / r) * r = r * (c / r) := Nat.mul_comm _ _
    omega

/-- The `overflow!` macro is exact: for a digit `b` of the radix, it answers `true` exactly
    when `a * r + b` exceeds `c`. -/
theorem overflow_iff {a r b c : Nat} (hr : 0 < r) (hb : b < r) :
    overflow a r b c = true ↔ a * r + b > c := by
  refine ⟨overflow_sound hr, fun h => ?_⟩
  have hc := Nat.div_add_mod c r
  have hm := Nat.mod_lt c hr
  simp only [overflow, Bool.and_eq_true, Bool.or_eq_true, decide_eq_true_eq]
  rcases Nat.lt_trichotomy a (c / r) with h1 | h1 | h1
  · exfalso
    have : (a + 1) * r ≤ (c / r) * r := Nat.mul_le_mul_right r h1
    have e : (a + 1) * r = a * r + r := by grind
    have e2 : (c / r) * r = r * (c / r) := Nat.mul_comm _ _
    omega
  · subst h1
    have e2 : (c / r) * r = r * (c / r) := Nat.mul_comm _ _
    omega
  · omega

example : overflow 0 10 100 50 = false ∧ 0 * 10 + 100 > 50 := by decide

theorem overflow_false_iff {a r b c : Nat} (hr : 0 < r) (hb : b < r) :
    overflow a r b c = false ↔ a * r + b ≤ c := by
  have := overflow_iff (a := a) (c := c) hr hb
  cases h : overflow a r b c <;> simp [h] at this ⊢ <;> omega

/-! ## 2. `ilog2`, `rne`, `rn`: specification and scale invariance -/

/-- `2^e ≤ n/d < 2^(e+1)`, cross-multiplied so that it lives in `Nat`. -/
def Bracket (n d : Nat) (e : Int) : Prop :=
  d * 2 ^ e.toNat ≤ n * 2 ^ (-e).toNat ∧ n * 2 ^ (-e).toNat < 2 * (d * 2 ^ e.toNat)

/-- `n * 2^q` and `d * 2^p` in the same binade (`log2 n + q = log2 d + p`) are within a factor two
    of each other -/
theorem same_binade {n d a b p q : Nat} (hn1 : 2 ^ a ≤ n) (hn2 : n < 2 ^ (a + 1)) (hd1 : 2 ^ b ≤ d)
    (hd2 : d < 2 ^ (b + 1)) (e : a + q = b + p) :
    n * 2 ^ q < 2 * (d * 2 ^ p) ∧ d * 2 ^ p < 2 * (n * 2 ^ q) := by
  have n1 := Nat.mul_le_mul_right (2 ^ q) hn1
  have n2 := Nat.mul_lt_mul_of_pos_right hn2 (Nat.two_pow_pos q)
  have d1 := Nat.mul_le_mul_right (2 ^ p) hd1
  have d2 := Nat.mul_lt_mul_of_pos_right hd2 (Nat.two_pow_pos p)
  rw [← Nat.pow_add] at n1 n2 d1 d2
  rw [Nat.add_right_comm, Nat.pow_succ] at n2 d2
  rw [← e] at d1 d2
  omega

/-- Exponents are integers, powers of two are taken of their positive and negative parts.  Stated
    with the parts as atoms (`Int.toNat_sub_toNat_neg`), the balance is linear; left to `omega`,
    every `toNat` costs a case split. -/
theorem toNat_bal {a b c : Int} (h : a + b = c) :
    a.toNat + b.toNat + (-c).toNat = (-a).toNat + (-b).toNat + c.toNat := by
  have h1 := Int.toNat_sub_toNat_neg a
  have h2 := Int.toNat_sub_toNat_neg b
  have h3 := Int.toNat_sub_toNat_neg c
  generalize a.toNat = A at *
  generalize b.toNat = B at *
  generalize c.toNat = C at *
  generalize (-a).toNat = A' at *
  generalize (-b).toNat = B' at *
  generalize (-c).toNat = C' at *
  omega

/-- `2^a ≤ n/d < 2^(b+1)` forces `a ≤ b` -/
theorem exp_le {n d : Nat} {a b : Int} (hlo : d * 2 ^ a.toNat ≤ n * 2 ^ (-a).toNat)
    (hhi : n * 2 ^ (-b).toNat < 2 * (d * 2 ^ b.toNat)) : a ≤ b := by
  apply Int.not_lt.mp
  intro hlt
  have h1 := Int.toNat_sub_toNat_neg a
  have h2 := Int.toNat_sub_toNat_neg b
  generalize b.toNat = A at *
  generalize (-b).toNat = B at *
  generalize a.toNat = A' at *
  generalize (-a).toNat = B' at *
  have hA : A' + B ≥ A + B' + 1 := by omega
  have s1 := Nat.mul_le_mul_right (2 ^ B) hlo
  have s2 := Nat.mul_lt_mul_of_pos_right hhi (Nat.two_pow_pos B')
  have e1 : d * 2 ^ A' * 2 ^ B = d * 2 ^ (A' + B) := by rw [Nat.pow_add]; grind
  have e2 : 2 * (d * 2 ^ A) * 2 ^ B' = d * 2 ^ (A + B' + 1) := by
    rw [Nat.pow_succ, Nat.pow_add]; grind
  have e3 : n * 2 ^ B' * 2 ^ B = n * 2 ^ B * 2 ^ B' := by grind
  have s3 : d * 2 ^ (A' + B) < d * 2 ^ (A + B' + 1) := by omega
  have s4 := Nat.lt_of_mul_lt_mul_left s3
  have s5 := (Nat.pow_lt_pow_iff_right (by omega : 1 < 2)).mp s4
  omega

theorem Bracket.unique {n d : Nat} {e e' : Int} (h : Bracket n d e) (h' : Bracket n d e') :
    e = e' :=
  Int.le_antisymm (exp_le h.1 h'.2) (exp_le h'.1 h.2)

theorem Bracket.scale {n d : Nat} {e : Int} (c : Nat) (h : Bracket n d e) (hc : 0 < c) :
    Bracket (n * c) (d * c) e := by
  obtain ⟨h1, h2⟩ := h
  unfold Bracket
  generalize e.toNat = A at *
  generalize (-e).toNat = B at *
  have s1 := Nat.mul_le_mul_right c h1
  have s2 := Nat.mul_lt_mul_of_pos_right h2 hc
  have e1 : d * c * 2 ^ A = d * 2 ^ A * c := by grind
  have e2 : n * c * 2 ^ B = n * 2 ^ B * c := by grind
  have e3 : 2 * (d * 2 ^ A) * c = 2 * (d * 2 ^ A * c) := by grind
  omega

/-- the binade moves with the quotient: `(n / d) / 2^q` lies in the binade of `2^(e - q)` -/
theorem Bracket.shift {n d : Nat} {e : Int} (h : Bracket n d e) (q : Int) :
    Bracket (n * 2 ^ (-q).toNat) (d * 2 ^ q.toNat) (e - q) := by
  obtain ⟨h1, h2⟩ := h
  have hE := toNat_bal (a := e - q) (b := q) (c := e) (by omega)
  unfold Bracket
  generalize e.toNat = A at *
  generalize (-e).toNat = B at *
  generalize q.toNat = Q at *
  generalize (-q).toNat = Q' at *
  generalize (e - q).toNat = A' at *
  generalize (-(e - q)).toNat = B' at *
  have s1 := Nat.mul_le_mul_right (2 ^ (Q' + B')) h1
  have s2 := Nat.mul_lt_mul_of_pos_right h2 (Nat.two_pow_pos (Q' + B'))
  have e1 : d * 2 ^ A * 2 ^ (Q' + B') = d * 2 ^ Q * 2 ^ A' * 2 ^ B := by
    rw [Nat.mul_assoc, Nat.mul_assoc, Nat.mul_assoc, ← Nat.pow_add, ← Nat.pow_add, ← Nat.pow_add]
    congr 2; omega
  have e2 : n * 2 ^ B * 2 ^ (Q' + B') = n * 2 ^ Q' * 2 ^ B' * 2 ^ B := by rw [Nat.pow_add]; grind
  rw [Nat.mul_assoc 2, e1, e2, ← Nat.mul_assoc 2] at s2
  rw [e1, e2] at s1
  exact ⟨Nat.le_of_mul_le_mul_right s1 (Nat.two_pow_pos B), Nat.lt_of_mul_lt_mul_right s2⟩

theorem Bracket.of_scale {n d c : Nat} {e : Int} (h : Bracket (n * c) (d * c) e) (hc : 0 < c) :
    Bracket n d e := by
  obtain ⟨h1, h2⟩ := h
  unfold Bracket
  rw [Nat.mul_right_comm d, Nat.mul_right_comm n] at h1 h2
  rw [← Nat.mul_assoc 2] at h2
  exact ⟨Nat.le_of_mul_le_mul_right h1 hc, Nat.lt_of_mul_lt_mul_right h2⟩

theorem ilog2_spec {n d : Nat} (hn : 0 < n) (hd : 0 < d) : Bracket n d (ilog2 n d) := by
  -- `ilog2` compares `n / d` with `2^e0`, `e0 = log2 n - log2 d`.  The two are within a factor two
  -- of each other (`same_binade`), so `n / d` lies in the binade of `2^e0`, or, doubled, it does and
  -- `Bracket.shift` moves it one binade down.
  have hn1 := Nat.log2_self_le (Nat.pos_iff_ne_zero.mp hn)
  have hn2 := @Nat.lt_log2_self n
  have hd1 := Nat.log2_self_le (Nat.pos_iff_ne_zero.mp hd)
  have hd2 := @Nat.lt_log2_self d
  unfold ilog2
  generalize he : ((Nat.log2 n : Nat) : Int) - ((Nat.log2 d : Nat) : Int) = e0
  have hb := same_binade hn1 hn2 hd1 hd2 (p := e0.toNat) (q := (-e0).toNat) (by omega)
  -- the two arms of the test are one comparison, of `n * 2^q` with `d * 2^p`
  have hlt : (if e0 ≥ 0 then decide (n < d * 2 ^ e0.toNat) else decide (n * 2 ^ (-e0).toNat < d)) =
      decide (n * 2 ^ (-e0).toNat < d * 2 ^ e0.toNat) := by
    by_cases h0 : e0 ≥ 0
    · rw [if_pos h0, show (-e0).toNat = 0 by omega, Nat.pow_zero, Nat.mul_one]
    · rw [if_neg h0, show e0.toNat = 0 by omega, Nat.pow_zero, Nat.mul_one]
  simp only [hlt]
  by_cases h : n * 2 ^ (-e0).toNat < d * 2 ^ e0.toNat
  · rw [decide_eq_true h, if_pos rfl]
    have h2 : Bracket (n * 2) d e0 := by
      unfold Bracket
      rw [Nat.mul_right_comm]
      omega
    have h3 := h2.shift 1
    rw [show (-(1 : Int)).toNat = 0 from rfl, show (1 : Int).toNat = 1 from rfl, Nat.pow_zero,
      Nat.mul_one, Nat.pow_one] at h3
    exact h3.of_scale (by decide)
  · rw [decide_eq_false h, if_neg (by decide)]
    exact ⟨Nat.le_of_not_lt h, hb.1⟩

theorem ilog2_eq {n d : Nat} {e : Int} (hn : 0 < n) (hd : 0 < d) (h : Bracket n d e) :
    ilog2 n d = e := (ilog2_spec hn hd).unique h

theorem rne_scale {n d c : Nat} (hc : 0 < c) : rne (n * c) (d * c) = rne n d := by
  unfold rne
  simp only [Nat.mul_div_mul_right _ _ hc, Nat.mul_mod_mul_right]
  have e1 : 2 * (n % d * c) = (2 * (n % d)) * c := by grind
  have h1 : (2 * (n % d * c) > d * c) ↔ (2 * (n % d) > d) := by
    rw [e1]; exact Nat.mul_lt_mul_right hc
  have h2 : (2 * (n % d * c) = d * c) ↔ (2 * (n % d) = d) := by
    rw [e1]; exact Nat.mul_left_inj (by omega)
  simp only [h1, h2]

theorem rne_cross {n d n' d' : Nat} (hd : 0 < d) (hd' : 0 < d') (h : n * d' = n' * d) :
    rne n d = rne n' d' := by
  rw [← rne_scale (n := n) (d := d) hd', ← rne_scale (n := n') (d := d') hd, h, Nat.mul_comm d d']

theorem rne_exact (M d : Nat) (hd : 0 < d) : rne (M * d) d = M := by
  unfold rne
  simp only [Nat.mul_div_cancel _ hd, Nat.mul_mod_left]
  have : ¬ (2 * 0 > d) := by omega
  have h2 : ¬ (2 * 0 = d) := by omega
  simp [this, h2]

theorem rne_bounds (a D : Nat) : a / D ≤ rne a D ∧ rne a D ≤ a / D + 1 := by
  unfold rne; simp only []
  generalize a / D = q
  generalize a % D = r
  repeat' split
  all_goals omega

theorem rne_mono_num {a b D : Nat} (h : a ≤ b) : rne a D ≤ rne b D := by
  have hq : a / D ≤ b / D := Nat.div_le_div_right h
  rcases Nat.lt_or_ge (a / D) (b / D) with hlt | hge
  · have h1 := (rne_bounds a D).2
    have h2 := (rne_bounds b D).1
    omega
  · -- same quotient: the rounding decision is monotone in the remainder
    have he : a / D = b / D := by omega
    have hr : a % D ≤ b % D := by
      have ha := Nat.div_add_mod a D
      have hb := Nat.div_add_mod b D
      rw [he] at ha
      omega
    unfold rne
    simp only [he]
    generalize b / D = q
    generalize q % 2 = p
    by_cases h1 : 2 * (a % D) > D
    · rw [if_pos h1, if_pos (Nat.lt_of_lt_of_le h1 (Nat.mul_le_mul_left 2 hr))]; exact Nat.le_refl _
    rw [if_neg h1]
    by_cases h2 : 2 * (b % D) > D
    · rw [if_pos h2]; repeat' split
      all_goals omega
    rw [if_neg h2]
    by_cases h3 : 2 * (a % D) = D
    · have : 2 * (b % D) = D := by omega
      rw [if_pos h3, if_pos this]; exact Nat.le_refl _
    · rw [if_neg h3]; repeat' split
      all_goals omega

theorem rne_mono {n d n' d' : Nat} (hd : 0 < d) (hd' : 0 < d') (h : n * d' ≤ n' * d) :
    rne n d ≤ rne n' d' := by
  rw [← rne_scale (n := n) (d := d) hd', ← rne_scale (n := n') (d := d') hd, Nat.mul_comm d' d]
  exact rne_mono_num h

theorem rne_le {n d K : Nat} (hd : 0 < d) (h : n ≤ K * d) : rne n d ≤ K :=
  rne_exact K d hd ▸ rne_mono_num h

theorem rne_ge {n d K : Nat} (hd : 0 < d) (h : K * d ≤ n) : K ≤ rne n d :=
  rne_exact K d hd ▸ rne_mono_num h

/-! ## 3. Exact conversions; `mulPos` / `divPos` are one rounding -/

theorem decode_bits {E m : Nat} (hE : E ≤ 2045) (hm : m < 2 * two52) (h : E = 0 ∨ two52 ≤ m) :
    decode (E * two52 + m) = (m, (E : Int) - 1074) := by
  unfold decode
  simp only [signBit, two52] at *
  have h1 : (E * 4503599627370496 + m) % 9223372036854775808 = E * 4503599627370496 + m := by omega
  simp only [h1]
  split
  · next h0 => 
    have : E = 0 := by omega
    subst this
    simp; omega
  · next h0 =>
    simp only [Prod.mk.injEq]
    omega

theorem decode_mod (b : Nat) : decode b = decode (b % signBit) := by
  unfold decode; rw [Nat.mod_mod]

theorem log2_mul_pow (r k : Nat) (hr : r ≠ 0) : Nat.log2 (r * 2 ^ k) = Nat.log2 r + k := by
  have hpos : 0 < 2 ^ k := Nat.two_pow_pos k
  have hne : r * 2 ^ k ≠ 0 := Nat.mul_ne_zero hr (by omega)
  rw [Nat.log2_eq_iff hne]
  constructor
  · rw [Nat.pow_add]; exact Nat.mul_le_mul_right _ (Nat.log2_self_le hr)
  · rw [show r.log2 + k + 1 = (r.log2 + 1) + k by omega, Nat.pow_add]
    exact Nat.mul_lt_mul_of_pos_right Nat.lt_log2_self hpos

theorem mant_bounds (r : Nat) (hr : r ≠ 0) (hL : r.log2 ≤ 52) :
    2 ^ 52 ≤ r * 2 ^ (52 - r.log2) ∧ r * 2 ^ (52 - r.log2) < 2 ^ 53 := by
  constructor
  · calc 2 ^ 52 = 2 ^ r.log2 * 2 ^ (52 - r.log2) := by rw [← Nat.pow_add]; congr 1; omega
      _ ≤ r * 2 ^ (52 - r.log2) := Nat.mul_le_mul_right _ (Nat.log2_self_le hr)
  · calc r * 2 ^ (52 - r.log2) < 2 ^ (r.log2 + 1) * 2 ^ (52 - r.log2) :=
          Nat.mul_lt_mul_of_pos_right Nat.lt_log2_self (Nat.two_pow_pos _)
      _ = 2 ^ 53 := by rw [← Nat.pow_add]; congr 1; omega

/-- the mantissa computed by `rn` is at most `2^53` -/
theorem mant_le {n d : Nat} {e ee : Int} (he : Bracket n d e) (hee : e ≤ ee) :
    n * 2 ^ (-(ee - 52)).toNat ≤ 2 ^ 53 * (d * 2 ^ (ee - 52).toNat) := by
  have h := (he.shift (ee - 52)).2
  have hk : (e - (ee - 52)).toNat ≤ 52 := by omega
  have h1 := Nat.le_mul_of_pos_right (n * 2 ^ (-(ee - 52)).toNat)
    (Nat.two_pow_pos (-(e - (ee - 52))).toNat)
  have h2 := Nat.mul_le_mul_left (d * 2 ^ (ee - 52).toNat)
    (Nat.pow_le_pow_right (by decide : 0 < 2) hk)
  generalize n * 2 ^ (-(ee - 52)).toNat = N at *
  generalize d * 2 ^ (ee - 52).toNat = D at *
  omega

/-- lower counterpart of `mant_le`: in the normal range the scaled quotient is at least
    `2^52` -/
theorem mant_ge {n d : Nat} {e : Int} (he : Bracket n d e) :
    2 ^ 52 * (d * 2 ^ (e - 52).toNat) ≤ n * 2 ^ (-(e - 52)).toNat := by
  have h := (he.shift (e - 52)).1
  rw [show e - (e - 52) = 52 by omega, show (52 : Int).toNat = 52 from rfl,
    show (-(52 : Int)).toNat = 0 from rfl, Nat.pow_zero, Nat.mul_one] at h
  rw [Nat.mul_comm]
  exact h

/-- What `rn` computes, for `n / d` in the binade of `2^e`: the saturated bit pattern
    `(ee + 1022) * 2^52 + m` with `ee = max e (-1022)` and `m` the integer nearest (ties to even) to
    `n / (d * 2^(ee - 52))`; `m ≤ 2^53`, and `2^52 ≤ m` unless the result is subnormal. -/
theorem rn_spec {n d : Nat} (hn : 0 < n) (hd : 0 < d) {e ee : Int} (he : Bracket n d e)
    (hee : ee = if e < -1022 then -1022 else e) :
    rne (n * 2 ^ (-(ee - 52)).toNat) (d * 2 ^ (ee - 52).toNat) ≤ 2 ^ 53 ∧
    (-1022 ≤ e → 2 ^ 52 ≤ rne (n * 2 ^ (-(ee - 52)).toNat) (d * 2 ^ (ee - 52).toNat)) ∧
    rn n d =
      (if (ee + 1022).toNat * two52 + rne (n * 2 ^ (-(ee - 52)).toNat) (d * 2 ^ (ee - 52).toNat)
          ≥ infBits then infBits
       else (ee + 1022).toNat * two52 +
          rne (n * 2 ^ (-(ee - 52)).toNat) (d * 2 ^ (ee - 52).toNat)) := by
  have hpos := Nat.mul_pos hd (Nat.two_pow_pos (ee - 52).toNat)
  refine ⟨rne_le hpos (mant_le he (by rw [hee]; split <;> omega)), fun hge => ?_, ?_⟩
  · rw [hee, if_neg (by omega)] at hpos ⊢
    exact rne_ge hpos (mant_ge he)
  · unfold rn
    simp only [show ¬ (n = 0 ∨ d = 0) by omega, if_false, ilog2_eq hn hd he, ← hee]
    by_cases hp : ee - 52 ≥ 0
    · rw [if_pos hp, show (-(ee - 52)).toNat = 0 by omega, Nat.pow_zero, Nat.mul_one]
    · rw [if_neg hp, show (ee - 52).toNat = 0 by omega, Nat.pow_zero, Nat.mul_one]

theorem sat_mono {x y : Nat} (h : x ≤ y) :
    (if x ≥ infBits then infBits else x) ≤ (if y ≥ infBits then infBits else y) := by
  split <;> split <;> omega

theorem rn_zero_left (d : Nat) : rn 0 d = 0 := by simp [rn]

/-- `rn` is monotone in the rational `n / d` (as bit patterns, hence as values). -/
theorem rn_mono {n d n' d' : Nat} (hd : 0 < d) (hd' : 0 < d') (h : n * d' ≤ n' * d) :
    rn n d ≤ rn n' d' := by
  rcases Nat.eq_zero_or_pos n with h0 | hn
  · subst h0; rw [rn_zero_left]; exact Nat.zero_le _
  have hn' : 0 < n' := by
    rcases Nat.eq_zero_or_pos n' with h0 | h0
    · subst h0; have := Nat.mul_pos hn hd'; omega
    · exact h0
  have he := ilog2_spec hn hd
  have he' := ilog2_spec hn' hd'
  generalize ilog2 n d = e at he
  generalize ilog2 n' d' = e' at he'
  obtain ⟨hm53, -, hrn⟩ := rn_spec hn hd he rfl
  obtain ⟨-, hm52', hrn'⟩ := rn_spec hn' hd' he' rfl
  rw [hrn, hrn']
  apply sat_mono
  have hee : e ≤ e' := by
    refine exp_le (n := n' * d) (d := d' * d) ?_ (he'.scale d hd).2
    rw [Nat.mul_comm d' d]
    exact Nat.le_trans (he.scale d' hd').1 (Nat.mul_le_mul_right (2 ^ (-e).toNat) h)
  generalize hq : (if e < -1022 then (-1022 : Int) else e) = q at *
  generalize hq' : (if e' < -1022 then (-1022 : Int) else e') = q' at *
  have hqq : q ≤ q' ∧ -1022 ≤ q := by rw [← hq, ← hq']; split <;> split <;> omega
  rcases Int.lt_or_eq_of_le hqq.1 with hlt | heq
  · -- a higher binade: its mantissa is at least `2^52`, the lower one's at most `2^53`
    have hn52 := hm52' (by rw [← hq, ← hq'] at hlt; split at hlt <;> split at hlt <;> omega)
    have hE : (q + 1022).toNat + 1 ≤ (q' + 1022).toNat := by omega
    generalize (q + 1022).toNat = E at *
    generalize (q' + 1022).toNat = E' at *
    have := Nat.mul_le_mul_right two52 hE
    simp only [two52] at *
    omega
  · subst heq
    have : rne (n * 2 ^ (-(q - 52)).toNat) (d * 2 ^ (q - 52).toNat) ≤
        rne (n' * 2 ^ (-(q - 52)).toNat) (d' * 2 ^ (q - 52).toNat) := by
      apply rne_mono (Nat.mul_pos hd (Nat.two_pow_pos _)) (Nat.mul_pos hd' (Nat.two_pow_pos _))
      have := Nat.mul_le_mul_right (2 ^ (-(q - 52)).toNat * 2 ^ (q - 52).toNat) h
      generalize 2 ^ (-(q - 52)).toNat = A at *
      generalize 2 ^ (q - 52).toNat = B at *
      calc n * A * (d' * B) = n * d' * (A * B) := by grind
        _ ≤ n' * d * (A * B) := this
        _ = n' * A * (d * B) := by grind
    omega

/-- `rn` depends only on the quotient: `n / d = n' / d'` gives the same double. -/
theorem rn_quotient {n d n' d' : Nat} (hd : 0 < d) (hd' : 0 < d') (h : n * d' = n' * d) :
    rn n d = rn n' d' :=
  Nat.le_antisymm (rn_mono hd hd' (Nat.le_of_eq h)) (rn_mono hd' hd (Nat.le_of_eq h.symm))

theorem rnScaled_eq (m : Nat) (p : Int) :
    rnScaled m p = rn (m * 2 ^ p.toNat) (2 ^ (-p).toNat) := by
  unfold rnScaled
  by_cases hp : p ≥ 0
  · have : (-p).toNat = 0 := by omega
    simp [hp, this]
  · have : p.toNat = 0 := by omega
    simp [hp, this]

/-- `r·2^q` lies in the binade of `2^(log2 r + q)` -/
theorem bracket_scaled {r : Nat} (hr : r ≠ 0) (q : Int) :
    Bracket (r * 2 ^ q.toNat) (2 ^ (-q).toNat) ((r.log2 : Int) + q) := by
  have h0 : Bracket r 1 (r.log2 : Int) := by
    unfold Bracket
    rw [Int.toNat_natCast, Int.toNat_neg_natCast, Nat.pow_zero, Nat.mul_one, Nat.one_mul,
      ← Nat.pow_succ']
    exact ⟨Nat.log2_self_le hr, Nat.lt_log2_self⟩
  have h := h0.shift (-q)
  rwa [Int.neg_neg, Nat.one_mul, Int.sub_neg] at h

theorem rnScaled_exact (r : Nat) (q : Int) (hr : r ≠ 0) (hL : r.log2 ≤ 52)
    (hlo : -1022 ≤ (r.log2 : Int) + q) (hhi : (r.log2 : Int) + q ≤ 1022) :
    rnScaled r q = ((r.log2 : Int) + q + 1022).toNat * two52 + r * 2 ^ (52 - r.log2) := by
  obtain ⟨hM1, hM2⟩ := mant_bounds r hr hL
  rw [rnScaled_eq, (rn_spec (Nat.mul_pos (Nat.pos_of_ne_zero hr) (Nat.two_pow_pos _))
    (Nat.two_pow_pos _) (bracket_scaled hr q) (if_neg (by omega)).symm).2.2]
  -- the scaled quotient is the integer `r * 2^(52 - log2 r)`: `rne` is exact
  have key : q.toNat + (-((r.log2 : Int) + q - 52)).toNat =
      (52 - r.log2) + ((-q).toNat + ((r.log2 : Int) + q - 52).toNat) := by
    have t1 := Int.toNat_sub_toNat_neg q
    have t2 := Int.toNat_sub_toNat_neg ((r.log2 : Int) + q - 52)
    generalize q.toNat = A at *
    generalize (-q).toNat = B at *
    generalize ((r.log2 : Int) + q - 52).toNat = C at *
    generalize (-((r.log2 : Int) + q - 52)).toNat = D at *
    omega
  have hm : r * 2 ^ q.toNat * 2 ^ (-((r.log2 : Int) + q - 52)).toNat =
      r * 2 ^ (52 - r.log2) * (2 ^ (-q).toNat * 2 ^ ((r.log2 : Int) + q - 52).toNat) := by
    rw [Nat.mul_assoc, Nat.mul_assoc, ← Nat.pow_add, ← Nat.pow_add, ← Nat.pow_add, key]
  rw [hm, rne_exact _ _ (Nat.mul_pos (Nat.two_pow_pos _) (Nat.two_pow_pos _))]
  have : ¬ ((r.log2 : Int) + q + 1022).toNat * two52 + r * 2 ^ (52 - r.log2) ≥ infBits := by
    have : ((r.log2 : Int) + q + 1022).toNat ≤ 2044 := by omega
    have := Nat.mul_le_mul_right two52 this
    simp only [two52, infBits] at *
    omega
  rw [if_neg this]
theorem rn_small {n : Nat} (hn : 0 < n) (h53 : n < 2 ^ 53) :
    Nat.log2 n ≤ 52 ∧ two52 ≤ n * 2 ^ (52 - Nat.log2 n) ∧ n * 2 ^ (52 - Nat.log2 n) < 2 * two52 ∧
    rn n 1 = (Nat.log2 n + 1022) * two52 + n * 2 ^ (52 - Nat.log2 n) := by
  have hn0 : n ≠ 0 := by omega
  have hL : n.log2 ≤ 52 := by have := (Nat.log2_lt (k := 53) hn0).mpr h53; omega
  obtain ⟨b1, b2⟩ := mant_bounds n hn0 hL
  have h := rnScaled_exact n 0 hn0 hL (by omega) (by omega)
  rw [show rnScaled n 0 = rn n 1 by simp [rnScaled]] at h
  refine ⟨hL, b1, b2, ?_⟩
  rw [h]; congr 2

/-- `bits` is a finite double whose value is exactly the natural number `x`:
    with `(m, p) = decode bits`, `m * 2^p = x`. -/
def Exact (bits x : Nat) : Prop :=
  (decode bits).1 * 2 ^ (decode bits).2.toNat = x * 2 ^ (-(decode bits).2).toNat

theorem exact_iff (bits x : Nat) :
    Exact bits x ↔
      (((decode bits).2 ≥ 0 → (decode bits).1 * 2 ^ (decode bits).2.toNat = x) ∧
       ((decode bits).2 < 0 → (decode bits).1 = x * 2 ^ (-(decode bits).2).toNat)) := by
  unfold Exact
  generalize (decode bits).1 = m
  generalize (decode bits).2 = p
  by_cases hp : p ≥ 0
  · have : (-p).toNat = 0 := by omega
    simp [hp, this]; omega
  · have : p.toNat = 0 := by omega
    simp [hp, this]; omega

/-- The decoded pair explicitly: mantissa `n * 2^(52 - log2 n)`, exponent `log2 n - 52` -/
theorem rn_exact_decode {n : Nat} (h0 : 0 < n) (h53 : n < 2 ^ 53) :
    decode (rn n 1) = (n * 2 ^ (52 - Nat.log2 n), (Nat.log2 n : Int) - 52) := by
  obtain ⟨hL, h1, h2, h3⟩ := rn_small h0 h53
  rw [h3, decode_bits (by omega) h2 (Or.inr h1)]
  simp only [Prod.mk.injEq, true_and]
  omega

theorem exact_ofNat {n : Nat} (h53 : n < 2 ^ 53) : Exact (rn n 1) n := by
  by_cases hn : n = 0
  · subst hn
    have : decode (rn 0 1) = (0, -1074) := by decide
    simp only [Exact, this, Nat.zero_mul]
  · have hn : 0 < n := by omega
    obtain ⟨hL, _⟩ := rn_small hn h53
    unfold Exact
    rw [rn_exact_decode hn h53]
    have e1 : ((Nat.log2 n : Int) - 52).toNat = 0 := by omega
    have e2 : (-((Nat.log2 n : Int) - 52)).toNat = 52 - Nat.log2 n := by omega
    simp [e1, e2]

/-- `mulPos` is `rnScaled` of the product of the decoded operands (definitional). -/
theorem mulPos_rn (a b : Nat) :
    mulPos a b = rnScaled ((decode a).1 * (decode b).1) ((decode a).2 + (decode b).2) := rfl

theorem divPos_def (a b : Nat) :
    divPos a b =
      if (decode a).2 - (decode b).2 ≥ 0 then
        rn ((decode a).1 * 2 ^ ((decode a).2 - (decode b).2).toNat) (decode b).1
      else rn (decode a).1 ((decode b).1 * 2 ^ (-((decode a).2 - (decode b).2)).toNat) := rfl

theorem divPos_eq (a b : Nat) :
    divPos a b = rn ((decode a).1 * 2 ^ ((decode a).2 - (decode b).2).toNat)
      ((decode b).1 * 2 ^ (-((decode a).2 - (decode b).2)).toNat) := by
  rw [divPos_def]
  by_cases hp : (decode a).2 - (decode b).2 ≥ 0
  · have : (-((decode a).2 - (decode b).2)).toNat = 0 := by omega
    rw [if_pos hp, this, Nat.pow_zero, Nat.mul_one]
  · have : ((decode a).2 - (decode b).2).toNat = 0 := by omega
    rw [if_neg hp, this, Nat.pow_zero, Nat.mul_one]

/-- For operands that represent the naturals `x` and `y` exactly, `mulPos` is the single
    correctly rounded operation `rn (x * y) 1`. -/
theorem mulPos_correct {a b x y : Nat} (ha : Exact a x) (hb : Exact b y) :
    mulPos a b = rn (x * y) 1 := by
  rw [mulPos_rn, rnScaled_eq]
  unfold Exact at ha hb
  generalize (decode a).1 = ma at *
  generalize (decode a).2 = pa at *
  generalize (decode b).1 = mb at *
  generalize (decode b).2 = pb at *
  apply rn_quotient (Nat.two_pow_pos _) (by omega)
  have hE2 : 2 ^ pa.toNat * 2 ^ pb.toNat * 2 ^ (-(pa + pb)).toNat =
      2 ^ (-pa).toNat * 2 ^ (-pb).toNat * 2 ^ (pa + pb).toNat := by
    rw [← Nat.pow_add, ← Nat.pow_add, ← Nat.pow_add, ← Nat.pow_add, toNat_bal rfl]
  have hv : 0 < 2 ^ (-pa).toNat * 2 ^ (-pb).toNat := Nat.mul_pos (Nat.two_pow_pos _) (Nat.two_pow_pos _)
  generalize 2 ^ pa.toNat = u at *
  generalize 2 ^ pb.toNat = u' at *
  generalize 2 ^ (-pa).toNat = v at *
  generalize 2 ^ (-pb).toNat = v' at *
  generalize 2 ^ (pa + pb).toNat = pp at *
  generalize 2 ^ (-(pa + pb)).toNat = pm at *
  apply Nat.eq_of_mul_eq_mul_right hv
  grind

/-- Likewise `divPos a b = rn x y`: one correctly rounded division. -/
theorem divPos_correct {a b x y : Nat} (ha : Exact a x) (hb : Exact b y) (hy : 0 < y) :
    divPos a b = rn x y := by
  rw [divPos_eq]
  unfold Exact at ha hb
  generalize (decode a).1 = ma at *
  generalize (decode a).2 = pa at *
  generalize (decode b).1 = mb at *
  generalize (decode b).2 = pb at *
  have hmb : 0 < mb := by
    rcases Nat.eq_zero_or_pos mb with h | h
    · subst h
      have := Nat.mul_pos hy (Nat.two_pow_pos (-pb).toNat)
      omega
    · exact h
  apply rn_quotient (Nat.mul_pos hmb (Nat.two_pow_pos _)) hy
  have hE2 : 2 ^ (pa - pb).toNat * 2 ^ (-pa).toNat * 2 ^ pb.toNat =
      2 ^ (-(pa - pb)).toNat * 2 ^ pa.toNat * 2 ^ (-pb).toNat := by
    rw [← Nat.pow_add, ← Nat.pow_add, ← Nat.pow_add, ← Nat.pow_add, Nat.add_right_comm,
      toNat_bal (a := pa - pb) (b := pb) (c := pa) (by omega), Nat.add_right_comm]
  have hv : 0 < 2 ^ (-pa).toNat * 2 ^ pb.toNat := Nat.mul_pos (Nat.two_pow_pos _) (Nat.two_pow_pos _)
  generalize 2 ^ pa.toNat = u at *
  generalize 2 ^ pb.toNat = u' at *
  generalize 2 ^ (-pa).toNat = v at *
  generalize 2 ^ (-pb).toNat = v' at *
  generalize 2 ^ (pa - pb).toNat = pp at *
  generalize 2 ^ (-(pa - pb)).toNat = pm at *
  apply Nat.eq_of_mul_eq_mul_right hv
  grind

/-! ## 4. Finiteness of `rn` -/

theorem two_pow_mono {a b : Nat} (h : a ≤ b) : 2 ^ a ≤ 2 ^ b :=
  Nat.pow_le_pow_right (by decide) h

theorem rn_le_inf (n d : Nat) : rn n d ≤ infBits := by
  unfold rn
  have key : ∀ x : Nat, (if x ≥ infBits then infBits else x) ≤ infBits := by
    intro x; split <;> omega
  by_cases h0 : n = 0 ∨ d = 0
  · simp [h0]
  · simp only [h0, if_false]; exact key _

/-- the largest finite double, `(2^53 - 1) * 2^971` -/
def maxFin : Nat := (2 ^ 53 - 1) * 2 ^ 971

theorem rne_zero {n d : Nat} (h : 2 * n < d) : rne n d = 0 := by
  have hq : n / d = 0 := Nat.div_eq_of_lt (by omega)
  have hr : n % d = n := Nat.mod_eq_of_lt (by omega)
  unfold rne
  simp only [hq, hr]
  have h1 : ¬ (2 * n > d) := by omega
  have h2 : ¬ (2 * n = d) := by omega
  simp [h1, h2]

set_option exponentiation.threshold 2048 in
theorem rn_maxFin : rn maxFin 1 < infBits := by decide +kernel

theorem rn_finite {n d : Nat} (hd : 0 < d) (h : n ≤ maxFin * d) : rn n d < infBits :=
  Nat.lt_of_le_of_lt (rn_mono (n' := maxFin) (d' := 1) hd (by decide)
    (by rw [Nat.mul_one]; exact h)) rn_maxFin

set_option exponentiation.threshold 2048 in
theorem rn_two1024 : rn (2 ^ 1024) 1 = infBits := by decide +kernel
set_option exponentiation.threshold 2048 in
theorem rn_two_m1075 : rn 1 (2 ^ 1075) = 0 := by decide +kernel

set_option exponentiation.threshold 2048 in
theorem rn_overflow {n d : Nat} (hd : 0 < d) (h : 2 ^ 1024 * d ≤ n) : rn n d = infBits :=
  Nat.le_antisymm (rn_le_inf n d)
    (rn_two1024 ▸ rn_mono (n := 2 ^ 1024) (d := 1) (by decide) hd (by rw [Nat.mul_one]; exact h))

set_option exponentiation.threshold 2048 in
/-- A quotient below `2^-1075` (half the smallest subnormal) rounds to zero. -/
theorem rn_underflow {n d : Nat} (hd : 0 < d) (h : n * 2 ^ 1075 < d) : rn n d = 0 :=
  Nat.le_zero.mp (rn_two_m1075 ▸ rn_mono (n' := 1) (d' := 2 ^ 1075) hd (Nat.two_pow_pos _)
    (by rw [Nat.one_mul]; exact Nat.le_of_lt h))

/-- up to `infBits` the sign bit is clear: the magnitude bits are the pattern itself -/
theorem mag_of_le_inf {b : Nat} (h : b ≤ infBits) : b % signBit = b :=
  Nat.mod_eq_of_lt (Nat.lt_of_le_of_lt h (by decide))

theorem isInf_false_of_lt {b : Nat} (h : b < infBits) : isInf b = false := by
  unfold isInf; rw [mag_of_le_inf (Nat.le_of_lt h)]
  exact beq_false_of_ne (Nat.ne_of_lt h)

set_option exponentiation.threshold 2048 in
theorem two1023_le_maxFin : 2 ^ 1023 ≤ maxFin := by
  unfold maxFin
  have : (2 : Nat) ^ 1023 = 2 ^ 52 * 2 ^ 971 := Nat.pow_add 2 52 971
  rw [this]
  have h : (2 : Nat) ^ 52 ≤ 2 ^ 53 - 1 := by decide
  exact Nat.mul_le_mul_right (2 ^ 971) h

set_option exponentiation.threshold 2048 in
theorem rn_finite_of_lt_pow {n d k : Nat} (hd : 0 < d) (hk : k ≤ 1023) (h : n < 2 ^ k * d) :
    rn n d < infBits := by
  apply rn_finite hd
  have h1 : 2 ^ k ≤ 2 ^ 1023 := two_pow_mono hk
  have h2 := Nat.mul_le_mul_right d (Nat.le_trans h1 two1023_le_maxFin)
  omega

/-! ## 5. The fast path of `f64_from_parts` -/

theorem fast_pos {pow10 : Nat → Nat} {sig fuel : Nat} {e : Int}
    (hp : ∀ k, k ≤ 22 → Exact (pow10 k) (10 ^ k)) (hs : sig < 2 ^ 53)
    (he0 : 0 ≤ e) (he : e ≤ 22) (hf : 1 ≤ fuel) :
    fastParts pow10 fuel (ofNat sig) e = some (rn (sig * 10 ^ e.toNat) 1) ∧
    rn (sig * 10 ^ e.toNat) 1 < infBits := by
  obtain ⟨f, rfl⟩ : ∃ f, fuel = f + 1 := ⟨fuel - 1, by omega⟩
  have hk : e.natAbs = e.toNat := by omega
  have hk22 : e.toNat ≤ 22 := by omega
  have hmul : mulPos (ofNat sig) (pow10 e.toNat) = rn (sig * 10 ^ e.toNat) 1 :=
    mulPos_correct (exact_ofNat hs) (hp _ hk22)
  have hfin : rn (sig * 10 ^ e.toNat) 1 < infBits := by
    apply rn_finite_of_lt_pow (k := 127) (by decide) (by decide)
    have h1 : 10 ^ e.toNat ≤ 2 ^ 74 :=
      Nat.le_trans (Nat.pow_le_pow_right (by decide) hk22) (by decide : 10 ^ 22 ≤ 2 ^ 74)
    have h2 : sig * 10 ^ e.toNat < 2 ^ 53 * 2 ^ 74 :=
      Nat.mul_lt_mul_of_lt_of_le hs h1 (Nat.two_pow_pos _)
    have : (2 : Nat) ^ 127 * 1 = 2 ^ 53 * 2 ^ 74 := by decide
    omega
  refine ⟨?_, hfin⟩
  unfold fastParts
  have h308 : e.natAbs ≤ 308 := by omega
  rw [if_pos h308, if_pos (show e ≥ 0 from he0)]
  simp only [hk, hmul, isInf_false_of_lt hfin]
  rfl

theorem fast_neg {pow10 : Nat → Nat} {sig fuel : Nat} {e : Int}
    (hp : ∀ k, k ≤ 22 → Exact (pow10 k) (10 ^ k)) (hs : sig < 2 ^ 53)
    (he0 : e < 0) (he : -22 ≤ e) (hf : 1 ≤ fuel) :
    fastParts pow10 fuel (ofNat sig) e = some (rn sig (10 ^ (-e).toNat)) := by
  obtain ⟨f, rfl⟩ : ∃ f, fuel = f + 1 := ⟨fuel - 1, by omega⟩
  have hk : e.natAbs = (-e).toNat := by omega
  have hk22 : (-e).toNat ≤ 22 := by omega
  have hdiv : divPos (ofNat sig) (pow10 (-e).toNat) = rn sig (10 ^ (-e).toNat) :=
    divPos_correct (exact_ofNat hs) (hp _ hk22) (Nat.pow_pos (by decide))
  unfold fastParts
  have h308 : e.natAbs ≤ 308 := by omega
  have hneg : ¬ (e ≥ 0) := by omega
  rw [if_pos h308, if_neg hneg, hk, hdiv]

/-! ## 6. Integer literals -/

/-- what the number scanners leave untouched -/
def Same (s s' : St) : Prop :=
  s'.rd.faulty = s.rd.faulty ∧ s'.rd.mode = s.rd.mode ∧ s'.depth = s.depth

theorem Same.refl (s : St) : Same s s := ⟨rfl, rfl, rfl⟩
theorem Same.trans {a b c : St} (h1 : Same a b) (h2 : Same b c) : Same a c := by
  obtain ⟨a1, a2, a3⟩ := h1
  obtain ⟨b1, b2, b3⟩ := h2
  exact ⟨b1.trans a1, b2.trans a2, b3.trans a3⟩

/-! the primitives on `b :: bs` (Primitives.lean), as far as the scanners follow the state -/

theorem Same.adv1 (s : St) : Same s (adv1 s) :=
  ⟨Rd.consume_faulty 1 s.rd, Rd.consume_mode 1 s.rd, rfl⟩

theorem peekOrNull_cons {s : St} {b : UInt8} {bs : List UInt8} (h : s.rd.rest = b :: bs) :
    ∃ s1, peekOrNull s = .ok b s1 ∧ s1.rd.rest = b :: bs ∧ Same s s1 :=
  ⟨_, Parse.peekOrNull_cons h, h, rfl, rfl, rfl⟩

theorem discard_cons {s : St} {b : UInt8} {bs : List UInt8} (h : s.rd.rest = b :: bs) :
    ∃ s1, Parse.discard s = .ok () s1 ∧ s1.rd.rest = bs ∧ Same s s1 :=
  ⟨_, Parse.discard_cons h, Rd.consume_one_rest h, .adv1 s⟩

theorem next_cons {s : St} {b : UInt8} {bs : List UInt8} (h : s.rd.rest = b :: bs) :
    ∃ s1, next s = .ok (some b) s1 ∧ s1.rd.rest = bs ∧ Same s s1 :=
  ⟨_, Parse.next_cons h, Rd.consume_one_rest h, .adv1 s⟩

def DigitsOK (radix : Nat) (ds : List UInt8) : Prop :=
  ∀ c ∈ ds, ∃ d, digitVal radix c = some d ∧ d < radix

def hornerFrom (radix acc : Nat) (ds : List UInt8) : Nat :=
  ds.foldl (fun a c => a * radix + (digitVal radix c).getD 0) acc

def horner (radix : Nat) (ds : List UInt8) : Nat := hornerFrom radix 0 ds

/-- What follows the digits ends the integer: end of input (not a failing read), or a byte that
    is neither a digit of the radix nor `.`, `e`, `E`. -/
def Terminates (radix : Nat) (rest : List UInt8) (faulty : Bool) : Prop :=
  match rest with
  | [] => faulty = false
  | c :: _ => digitVal radix c = none ∧ c ≠ 46 ∧ c ≠ 101 ∧ c ≠ 69

/-- the value `parse_num_tail` builds from sign and significand -/
def tailResult (pos : Bool) (sig : Nat) : Number :=
  if pos then Number.pos sig
  else
    let neg := wrappingNeg (asI64 sig)
    if neg > 0 then Number.flt (F64.neg (F64.ofNat sig)) else Number.ofSigned neg

theorem hornerFrom_ge (radix : Nat) (hr : 0 < radix) (ds : List UInt8) :
    ∀ acc, acc ≤ hornerFrom radix acc ds := by
  induction ds with
  | nil => intro acc; exact Nat.le_refl _
  | cons c ds ih =>
    intro acc
    have := ih (acc * radix + (digitVal radix c).getD 0)
    have h2 : acc ≤ acc * radix := Nat.le_mul_of_pos_right acc hr
    show acc ≤ hornerFrom radix (acc * radix + (digitVal radix c).getD 0) ds
    omega

/-- In front of what ends an integer, `peek_or_null` returns a byte that is no digit of the radix
    and none of `.`, `e`, `E` (the `0` it puts for the end of the input is such a byte), and the
    input stays where it is. -/
theorem peekOrNull_terminates {radix : Nat} {s : St}
    (ht : Terminates radix s.rd.rest s.rd.faulty) :
    ∃ c s1, peekOrNull s = .ok c s1 ∧ digitVal radix c = none ∧ c ≠ 46 ∧ c ≠ 101 ∧ c ≠ 69 ∧
      s1.rd.rest = s.rd.rest ∧ Same s s1 := by
  cases hrest : s.rd.rest with
  | nil =>
    rw [hrest] at ht
    exact ⟨0, s, Parse.peekOrNull_nil hrest ht, by simp [digitVal], by decide, by decide, by decide,
      hrest, Same.refl s⟩
  | cons c bs =>
    rw [hrest] at ht
    obtain ⟨s1, hpk, hr1, hs1⟩ := peekOrNull_cons hrest
    exact ⟨c, s1, hpk, ht.1, ht.2.1, ht.2.2.1, ht.2.2.2, hr1, hs1⟩

theorem numTail_ok (cfg : Cfg) (fuel radix : Nat) (pos : Bool) (sig : Nat) {s : St}
    (ht : Terminates radix s.rd.rest s.rd.faulty) :
    ∃ s', parseNumTail cfg fuel radix pos sig s = .ok (tailResult pos sig) s' ∧
      s'.rd.rest = s.rd.rest ∧ Same s s' := by
  obtain ⟨c, s1, hpk, -, h1, h2, h3, hr1, hs1⟩ := peekOrNull_terminates ht
  refine ⟨s1, ?_, hr1, hs1⟩
  unfold parseNumTail
  rw [bind_apply, hpk]
  have e1 : (c == 46) = false := by simpa using h1
  have e2 : (c == 101 || c == 69) = false := by simp [h2, h3]
  simp only [e1, e2, Bool.false_eq_true, if_false]
  unfold tailResult
  cases pos <;> simp only [Bool.false_eq_true, if_false, if_true] <;> first | rfl | skip
  split <;> rfl

theorem numLoop_digits (cfg : Cfg) (radix : Nat) (pos : Bool) (hr : 0 < radix) (rest : List UInt8) :
    ∀ (ds : List UInt8) (acc fuel : Nat) (s : St), DigitsOK radix ds → s.rd.rest = ds ++ rest →
      Terminates radix rest s.rd.faulty → hornerFrom radix acc ds ≤ u64Max →
      ds.length + 1 ≤ fuel →
      ∃ s', numLoop cfg radix pos fuel acc s = .ok (tailResult pos (hornerFrom radix acc ds)) s' ∧
        s'.rd.rest = rest ∧ Same s s' := by
  -- Induction on the digits.  A digit is peeked at, discarded and folded in; `overflow!` stays quiet
  -- because the accumulator never exceeds the final Horner value.  Behind the digits the peeked byte
  -- is no digit (`peekOrNull_terminates`) and `parse_num_tail` returns (`numTail_ok`).
  intro ds
  induction ds with
  | nil =>
    intro acc fuel s _ hrest ht _ hf
    obtain ⟨f, rfl⟩ : ∃ f, fuel = f + 1 := ⟨fuel - 1, by omega⟩
    simp only [List.nil_append] at hrest
    rw [← hrest] at ht
    obtain ⟨c, s1, hpk, hd, -, -, -, hr1, hs1⟩ := peekOrNull_terminates ht
    obtain ⟨s', h1, h2, h3⟩ := numTail_ok cfg (f + 1) radix pos acc (s := s1)
      (by rw [hr1, hs1.1]; exact ht)
    refine ⟨s', ?_, by rw [h2, hr1, hrest], hs1.trans h3⟩
    rw [numLoop, bind_apply, hpk]
    simp only [hd]
    exact h1
  | cons c ds ih =>
    intro acc fuel s hok hrest ht hle hf
    obtain ⟨f, rfl⟩ : ∃ f, fuel = f + 1 := ⟨fuel - 1, by omega⟩
    simp only [List.length_cons] at hf
    obtain ⟨d, hd, hdr⟩ := hok c (List.mem_cons_self)
    have hok' : DigitsOK radix ds := fun x hx => hok x (List.mem_cons_of_mem _ hx)
    simp only [List.cons_append] at hrest
    obtain ⟨s1, hpk, hr1, hs1⟩ := peekOrNull_cons hrest
    obtain ⟨s2, hdc, hr2, hs2⟩ := discard_cons hr1
    have hstep : hornerFrom radix acc (c :: ds) = hornerFrom radix (acc * radix + d) ds := by
      show hornerFrom radix (acc * radix + (digitVal radix c).getD 0) ds = _
      rw [hd]; rfl
    rw [hstep] at hle ⊢
    have hov : overflow acc radix d u64Max = false := by
      rw [overflow_false_iff hr hdr]
      exact Nat.le_trans (hornerFrom_ge radix hr ds _) hle
    have hs12 := hs1.trans hs2
    obtain ⟨s', h1, h2, h3⟩ := ih (acc * radix + d) f s2 hok' hr2
      (by rw [hs12.1]; exact ht) hle (by omega)
    refine ⟨s', ?_, h2, hs12.trans h3⟩
    rw [← h1, numLoop, bind_apply, hpk]
    simp only [hd]
    rw [if_neg (by omega : ¬ d ≥ radix), bind_apply, hdc]
    simp only [hov, Bool.false_eq_true, if_false]

/-! ## 6b. Radix 10 and the sign -/

/-- value of a string of ASCII decimal digits -/
def decVal (ds : List UInt8) : Nat := ds.foldl (fun a c => a * 10 + (c.toNat - 48)) 0

theorem digitVal10_digit {c : UInt8} (h : 48 ≤ c ∧ c ≤ 57) :
    digitVal 10 c = some (c.toNat - 48) ∧ c.toNat - 48 < 10 := by
  have h2 : c.toNat ≤ 57 := UInt8.le_iff_toNat_le.mp h.2
  refine ⟨by simp [digitVal, h.1, h.2], by omega⟩

theorem digitVal10_none {c : UInt8} (h : ¬ (48 ≤ c ∧ c ≤ 57)) : digitVal 10 c = none := by
  unfold digitVal
  have : (decide (48 ≤ c) && decide (c ≤ 57)) = false := by simpa using h
  simp [this]

theorem hornerFrom10 (ds : List UInt8) (hd : ∀ c ∈ ds, 48 ≤ c ∧ c ≤ 57) :
    ∀ acc, hornerFrom 10 acc ds = ds.foldl (fun a c => a * 10 + (c.toNat - 48)) acc := by
  induction ds with
  | nil => intro acc; rfl
  | cons c ds ih =>
    intro acc
    have h1 := (digitVal10_digit (hd c List.mem_cons_self)).1
    show hornerFrom 10 (acc * 10 + (digitVal 10 c).getD 0) ds = _
    rw [h1, ih (fun x hx => hd x (List.mem_cons_of_mem _ hx))]
    rfl

theorem tailResult_pos (V : Nat) : tailResult true V = Number.pos V := rfl

theorem tailResult_neg_small {V : Nat} (h : V ≤ 2 ^ 63) :
    tailResult false V = if V = 0 then Number.pos 0 else Number.neg (-(V : Int)) := by
  unfold tailResult
  simp only [Bool.false_eq_true, if_false]
  by_cases h63 : V = 2 ^ 63
  · subst h63; decide
  · have hlt : V < 9223372036854775808 := by omega
    have e1 : asI64 V = (V : Int) := by unfold asI64; rw [if_pos hlt]
    have e2 : wrappingNeg (V : Int) = -(V : Int) := by
      unfold wrappingNeg i64Min
      have : ((V : Int) == -9223372036854775808) = false := by
        simp only [beq_eq_false_iff_ne, ne_eq]; omega
      rw [this]; rfl
    rw [e1, e2]
    have : ¬ (-(V : Int) > 0) := by omega
    simp only [this, if_false]
    unfold Number.ofSigned
    by_cases h0 : V = 0
    · subst h0; rfl
    · have : ¬ (-(V : Int) ≥ 0) := by omega
      simp only [this, if_false, h0]

theorem tailResult_neg_big {V : Nat} (h : 2 ^ 63 < V) (h2 : V ≤ u64Max) :
    tailResult false V = Number.flt (F64.neg (F64.ofNat V)) := by
  unfold tailResult
  simp only [Bool.false_eq_true, if_false]
  unfold u64Max at h2
  have hlt : ¬ V < 9223372036854775808 := by omega
  have e1 : asI64 V = (V : Int) - 18446744073709551616 := by unfold asI64; rw [if_neg hlt]
  have e2 : wrappingNeg ((V : Int) - 18446744073709551616) = 18446744073709551616 - (V : Int) := by
    unfold wrappingNeg i64Min
    have : ((V : Int) - 18446744073709551616 == -9223372036854775808) = false := by
      simp only [beq_eq_false_iff_ne, ne_eq]; omega
    rw [this]; simp only [Bool.false_eq_true, if_false]; omega
  rw [e1, e2]
  have : (18446744073709551616 - (V : Int) > 0) := by omega
  simp only [this, if_true]

/-! ## 7. Never infinity or NaN -/

/-- bits of `1.0` -/
def oneBits : Nat := 0x3FF0000000000000

theorem rn_one : rn 1 1 = oneBits := by decide +kernel

theorem rn_ge_one {n : Nat} (hn : 0 < n) : oneBits ≤ rn n 1 :=
  rn_one ▸ rn_mono (n := 1) (d := 1) (by decide) (by decide) (by omega)

theorem decode_fin {f : Nat} (h : f < infBits) :
    (decode f).1 ≤ 2 ^ 53 - 1 ∧ (decode f).2 ≤ 971 := by
  unfold decode
  simp only [infBits, signBit, two52] at *
  have h1 : f % 9223372036854775808 = f := by omega
  simp only [h1]
  split <;> (constructor <;> simp only [] <;> omega)

theorem decode_ge_one {b : Nat} (h1 : oneBits ≤ b) (h : b < infBits) :
    two52 ≤ (decode b).1 ∧ -52 ≤ (decode b).2 := by
  unfold decode
  simp only [infBits, signBit, two52, oneBits] at *
  have h1 : b % 9223372036854775808 = b := by omega
  simp only [h1]
  split
  · omega
  · constructor <;> simp only [] <;> omega

theorem lt_inf_of_not_isInf {g : Nat} (hle : g ≤ infBits) (h : isInf g = false) : g < infBits := by
  unfold isInf at h
  rw [mag_of_le_inf hle] at h
  exact Nat.lt_of_le_of_ne hle (by simpa using h)

theorem mulPos_le_inf (a b : Nat) : mulPos a b ≤ infBits := by
  rw [mulPos_rn, rnScaled_eq]; exact rn_le_inf _ _

set_option exponentiation.threshold 2048 in
/-- dividing a finite double by a finite double `≥ 1.0` cannot overflow -/
theorem divPos_finite {f b : Nat} (hf : f < infBits) (hb1 : oneBits ≤ b) (hb : b < infBits) :
    divPos f b < infBits := by
  rw [divPos_eq]
  obtain ⟨hma, hpa⟩ := decode_fin hf
  obtain ⟨hmb, hpb⟩ := decode_ge_one hb1 hb
  generalize (decode f).1 = ma at *
  generalize (decode f).2 = pa at *
  generalize (decode b).1 = mb at *
  generalize (decode b).2 = pb at *
  have hmb0 : 0 < mb := by unfold two52 at hmb; omega
  apply rn_finite (Nat.mul_pos hmb0 (Nat.two_pow_pos _))
  have hP : (pa - pb).toNat ≤ 1023 := by omega
  have s1 : 2 ^ (pa - pb).toNat ≤ 2 ^ 1023 := two_pow_mono hP
  have s2 : ma * 2 ^ (pa - pb).toNat ≤ (2 ^ 53 - 1) * 2 ^ 1023 := Nat.mul_le_mul hma s1
  have e1 : (2 ^ 53 - 1) * 2 ^ 1023 = maxFin * two52 := by
    unfold maxFin two52
    have : (2 : Nat) ^ 1023 = 2 ^ 971 * 2 ^ 52 := Nat.pow_add 2 971 52
    rw [this, ← Nat.mul_assoc]
  have s3 : maxFin * two52 ≤ maxFin * mb := Nat.mul_le_mul_left _ hmb
  have s4 : maxFin * mb ≤ maxFin * (mb * 2 ^ (-(pa - pb)).toNat) :=
    Nat.mul_le_mul_left _ (Nat.le_mul_of_pos_right _ (Nat.two_pow_pos _))
  omega

theorem fastParts_finite {pow10 : Nat → Nat}
    (hp : ∀ k, k ≤ 308 → oneBits ≤ pow10 k ∧ pow10 k < infBits) :
    ∀ (fuel f : Nat) (e : Int) (r : Nat), f < infBits → fastParts pow10 fuel f e = some r →
      r < infBits := by
  intro fuel
  induction fuel with
  | zero =>
    intro f e r hf h
    simp only [fastParts, Option.some.injEq] at h
    omega
  | succ n ih =>
    intro f e r hf h
    rw [fastParts] at h
    by_cases h308 : e.natAbs ≤ 308
    · rw [if_pos h308] at h
      by_cases he : e ≥ 0
      · rw [if_pos he] at h
        simp only [] at h
        split at h
        · cases h
        · next hinf =>
          simp only [Option.some.injEq] at h
          subst h
          exact lt_inf_of_not_isInf (mulPos_le_inf _ _) (by simpa using hinf)
      · rw [if_neg he] at h
        simp only [Option.some.injEq] at h
        subst h
        exact divPos_finite hf (hp _ h308).1 (hp _ h308).2
    · rw [if_neg h308] at h
      split at h
      · simp only [Option.some.injEq] at h; omega
      · split at h
        · cases h
        · exact ih _ _ _ (divPos_finite hf (hp 308 (Nat.le_refl _)).1 (hp 308 (Nat.le_refl _)).2) h

theorem ofNat_finite {sig : Nat} (h : sig ≤ u64Max) : F64.ofNat sig < infBits := by
  unfold F64.ofNat
  apply rn_finite_of_lt_pow (k := 64) (by decide) (by decide)
  unfold u64Max at h
  have : (2 : Nat) ^ 64 * 1 = 18446744073709551616 := by decide
  omega

theorem signed_finite {f : Nat} (pos : Bool) (hf : f < infBits) :
    isFinite (if pos then f else F64.neg f) = true ∧ isInf (if pos then f else F64.neg f) = false ∧
    isNaN (if pos then f else F64.neg f) = false := by
  have hm := mag_of_le_inf (Nat.le_of_lt hf)
  have hlt : ¬ f ≥ signBit := Nat.not_le.mpr (Nat.lt_trans hf (by decide))
  have key : (if pos then f else F64.neg f) % signBit = f := by
    cases pos
    · show (if f ≥ signBit then f - signBit else f + signBit) % signBit = f
      rw [if_neg hlt, Nat.add_mod_right, hm]
    · exact hm
  unfold isFinite isInf isNaN
  rw [key]
  exact ⟨decide_eq_true hf, beq_false_of_ne (Nat.ne_of_lt hf), decide_eq_false (Nat.lt_asymm hf)⟩

/-! ## 8. The regenerated `POW10` table satisfies the hypotheses on the table -/

instance (b x : Nat) : Decidable (Exact b x) := by unfold Exact; exact inferInstance

/-- `POW10[k]` as regenerated from the build -/
def pow10Tab (k : Nat) : Nat := Gen.pow10Bits.getD k 0

theorem pow10Tab_exact : ∀ k, k < 23 → Exact (pow10Tab k) (10 ^ k) := by decide +kernel

theorem pow10Tab_ge_one : ∀ k, k < 309 → oneBits ≤ pow10Tab k ∧ pow10Tab k < infBits := by
  -- one pass over the list; looking every `k` up with `getD` is quadratic in the kernel
  have h : Gen.pow10Bits.length = 309 ∧
      Gen.pow10Bits.all (fun b => decide (oneBits ≤ b ∧ b < infBits)) = true := by decide +kernel
  intro k hk
  have hk' : k < Gen.pow10Bits.length := by rw [h.1]; exact hk
  unfold pow10Tab
  rw [List.getD_eq_getElem?_getD, List.getElem?_eq_getElem hk', Option.getD_some]
  exact of_decide_eq_true (List.all_eq_true.mp h.2 _ (List.getElem_mem hk'))

theorem rnDec_le_inf (s : Nat) (e : Int) : rnDec s e ≤ infBits := by
  unfold rnDec
  split
  · simp [infBits]
  · split
    · exact Nat.le_refl _
    · split
      · simp [infBits]
      · split <;> exact rn_le_inf _ _

/-! ## 9. `f64_from_parts` as a function of its arguments -/

/-- The magnitude `f64_from_parts` returns, `none` for `NumberOutOfRange`; the reader state plays
    no part. -/
def partsMag (cfg : Cfg) (sig : Nat) (e : Int) : Option Nat :=
  if cfg.fast then fastParts cfg.pow10 (e.natAbs / 308 + 2) (F64.ofNat sig) e
  else if isInf (rnDec sig e) then none else some (rnDec sig e)

theorem f64FromParts_eq (cfg : Cfg) (pos : Bool) (sig : Nat) (e : Int) (s : St) :
    f64FromParts cfg pos sig e s =
      match partsMag cfg sig e with
      | some g => .ok (if pos then g else F64.neg g) s
      | none => errAt .numberOutOfRange s := by
  unfold f64FromParts partsMag
  cases cfg.fast
  · simp only [Bool.false_eq_true, if_false]; split <;> rfl
  · simp only [if_true]
    cases fastParts cfg.pow10 (e.natAbs / 308 + 2) (F64.ofNat sig) e <;> rfl

theorem partsMag_fast {cfg : Cfg} (h : cfg.fast = true) (sig : Nat) (e : Int) :
    partsMag cfg sig e = fastParts cfg.pow10 (e.natAbs / 308 + 2) (F64.ofNat sig) e := by
  unfold partsMag; rw [if_pos h]

theorem partsMag_slow {cfg : Cfg} (h : cfg.fast = false) (sig : Nat) (e : Int) :
    partsMag cfg sig e = if isInf (rnDec sig e) then none else some (rnDec sig e) := by
  unfold partsMag; rw [h]; rfl

theorem f64FromParts_some {cfg : Cfg} {sig : Nat} {e : Int} {g : Nat} (h : partsMag cfg sig e = some g)
    (pos : Bool) (s : St) :
    f64FromParts cfg pos sig e s = .ok (if pos then g else F64.neg g) s := by
  rw [f64FromParts_eq, h]

theorem f64FromParts_none {cfg : Cfg} {sig : Nat} {e : Int} (h : partsMag cfg sig e = none)
    (pos : Bool) (s : St) : f64FromParts cfg pos sig e s = errAt .numberOutOfRange s := by
  rw [f64FromParts_eq, h]

theorem f64FromParts_ok {cfg : Cfg} {pos : Bool} {sig : Nat} {e : Int} {s s' : St} {r : Nat}
    (h : f64FromParts cfg pos sig e s = .ok r s') :
    ∃ g, partsMag cfg sig e = some g ∧ r = (if pos then g else F64.neg g) ∧ s' = s := by
  rw [f64FromParts_eq] at h
  cases hg : partsMag cfg sig e with
  | none => rw [hg] at h; cases h
  | some g => rw [hg] at h; injection h with h1 h2; exact ⟨g, rfl, h1.symm, h2.symm⟩

theorem partsMag_finite {cfg : Cfg} {sig : Nat} {e : Int} {g : Nat} (hsig : sig ≤ u64Max)
    (hp : cfg.fast = true → ∀ k, k ≤ 308 → oneBits ≤ cfg.pow10 k ∧ cfg.pow10 k < infBits)
    (h : partsMag cfg sig e = some g) : g < infBits := by
  cases hfast : cfg.fast with
  | true =>
    rw [partsMag_fast hfast] at h
    exact fastParts_finite (hp hfast) _ _ _ _ (ofNat_finite hsig) h
  | false =>
    rw [partsMag_slow hfast] at h
    split at h
    · cases h
    · next hinf =>
      injection h with h; subst h
      exact lt_inf_of_not_isInf (rnDec_le_inf sig e) (by simpa using hinf)

/-! ## 10. Property C05: exact conversions, the fast path, integer literals, never infinity -/

example : overflow 1844674407370955161 10 6 u64Max = true ∧
    1844674407370955161 * 10 + 6 > u64Max ∧ overflow 1844674407370955161 10 5 u64Max = false := by
  decide

/-- An integer below `2^53` converts exactly: the double `rn n 1` decodes to `(m, p)` with
    `m * 2^p = n`. -/
theorem rn_exact {n : Nat} (_h0 : 0 < n) (h53 : n < 2 ^ 53) :
    let (m, p) := decode (rn n 1)
    (p ≥ 0 → m * 2 ^ p.toNat = n) ∧ (p < 0 → m = n * 2 ^ (-p).toNat) := by
  have := (exact_iff (rn n 1) n).mp (exact_ofNat h53)
  exact this

example : decode (rn 12345 1) = (12345 * 2 ^ 39, -39) := by decide

/-- In particular for converted integers below `2^53` -/
theorem mulPos_divPos_ofNat {x y : Nat} (hx : x < 2 ^ 53) (hy : y < 2 ^ 53) :
    mulPos (rn x 1) (rn y 1) = rn (x * y) 1 ∧ (0 < y → divPos (rn x 1) (rn y 1) = rn x y) :=
  ⟨mulPos_correct (exact_ofNat hx) (exact_ofNat hy),
   fun h => divPos_correct (exact_ofNat hx) (exact_ofNat hy) h⟩

example : mulPos (rn 3 1) (rn 7 1) = rn 21 1 ∧ divPos (rn 1 1) (rn 10 1) = rn 1 10 :=
  ⟨(mulPos_divPos_ofNat (by decide) (by decide)).1,
   (mulPos_divPos_ofNat (by decide) (by decide)).2 (by decide)⟩

/-- C05, fast path: with a `POW10` table whose first 23 entries are exact, for a significand
    below `2^53` and `0 ≤ e ≤ 22` the loop returns the correctly rounded `sig * 10^e` (which is
    finite, so the `isInf` check never fires), and for `-22 ≤ e < 0` the correctly rounded
    `sig / 10^(-e)`. -/
theorem C05_fast_exact {pow10 : Nat → Nat} {sig fuel : Nat} {e : Int}
    (hp : ∀ k, k ≤ 22 → Exact (pow10 k) (10 ^ k)) (hs : sig < 2 ^ 53) (hf : 1 ≤ fuel) :
    (0 ≤ e → e ≤ 22 →
      fastParts pow10 fuel (ofNat sig) e = some (rn (sig * 10 ^ e.toNat) 1) ∧
      rn (sig * 10 ^ e.toNat) 1 < infBits) ∧
    (-22 ≤ e → e < 0 →
      fastParts pow10 fuel (ofNat sig) e = some (rn sig (10 ^ (-e).toNat))) :=
  ⟨fun h0 h22 => fast_pos hp hs h0 h22 hf, fun h22 h0 => fast_neg hp hs h0 h22 hf⟩

/-- The same at the level of `f64_from_parts` (feature `fast-float-parsing`) -/
theorem C05_f64FromParts_fast (cfg : Cfg) (pos : Bool) {sig : Nat} {e : Int} (s : St)
    (hfast : cfg.fast = true) (hp : ∀ k, k ≤ 22 → Exact (cfg.pow10 k) (10 ^ k))
    (hs : sig < 2 ^ 53) (hlo : -22 ≤ e) (hhi : e ≤ 22) :
    f64FromParts cfg pos sig e s =
      .ok (let f := if e ≥ 0 then rn (sig * 10 ^ e.toNat) 1 else rn sig (10 ^ (-e).toNat)
           if pos then f else F64.neg f) s := by
  obtain ⟨h1, h2⟩ := C05_fast_exact (fuel := e.natAbs / 308 + 2) (e := e) hp hs (by omega)
  rw [f64FromParts_eq, partsMag_fast hfast]
  by_cases he : e ≥ 0
  · rw [(h1 he hhi).1, if_pos he]
  · rw [h2 hlo (by omega), if_neg he]

example : fastParts pow10Tab 1 (ofNat 123) 2 = some (rn 12300 1) :=
  ((C05_fast_exact (e := 2) (fun k hk => pow10Tab_exact k (by omega)) (by decide)
    (Nat.le_refl 1)).1 (by decide) (by decide)).1

/-- C05, integer literals in any radix: a non-empty run of digits of the radix whose Horner
    value fits `u64`, followed by end of input or a byte that is not a digit, `.`, `e`, `E`,
    is consumed entirely and yields `tailResult pos V`. -/
theorem C05_int_digits_radix (cfg : Cfg) (radix : Nat) (pos : Bool) (hr : 0 < radix)
    (ds rest : List UInt8) (fuel : Nat) (s : St)
    (hne : ds ≠ []) (hok : DigitsOK radix ds) (hrest : s.rd.rest = ds ++ rest)
    (ht : Terminates radix rest s.rd.faulty) (hle : horner radix ds ≤ u64Max)
    (hf : ds.length ≤ fuel) :
    ∃ s', parseNumLiteral cfg fuel radix pos s = .ok (tailResult pos (horner radix ds)) s' ∧
      s'.rd.rest = rest ∧ Same s s' := by
  cases ds with
  | nil => exact absurd rfl hne
  | cons c ds =>
    obtain ⟨d, hd, hdr⟩ := hok c (List.mem_cons_self)
    have hok' : DigitsOK radix ds := fun x hx => hok x (List.mem_cons_of_mem _ hx)
    simp only [List.cons_append] at hrest
    obtain ⟨s1, hnx, hr1, hs1⟩ := next_cons hrest
    have hstep : horner radix (c :: ds) = hornerFrom radix d ds := by
      show hornerFrom radix (0 * radix + (digitVal radix c).getD 0) ds = _
      rw [hd]; simp
    rw [hstep] at hle ⊢
    simp only [List.length_cons] at hf
    obtain ⟨s', h1, h2, h3⟩ := numLoop_digits cfg radix pos hr rest ds d fuel s1 hok' hr1
      (by rw [hs1.1]; exact ht) hle (by omega)
    refine ⟨s', ?_, h2, hs1.trans h3⟩
    rw [← h1]
    unfold parseNumLiteral
    rw [bind_apply, hnx]
    simp only [hd]
    rw [if_neg (by omega : ¬ d ≥ radix)]

/-- the terminator condition of (5b), on ASCII decimal input -/
def DecTerminates (rest : List UInt8) (faulty : Bool) : Prop :=
  match rest with
  | [] => faulty = false
  | c :: _ => ¬ (48 ≤ c ∧ c ≤ 57) ∧ c ≠ 46 ∧ c ≠ 101 ∧ c ≠ 69

/-- C05, decimal integer literals: ASCII digits `ds` (leading zeros allowed) with value
    `V = decVal ds ≤ u64::MAX`.  Unsigned: `Number.pos V`.  After a minus sign: `Number.pos 0`
    for `V = 0`, `Number.neg (-V)` for `0 < V ≤ 2^63`, and the double `-(V as f64)` above. -/
theorem C05_int_digits (cfg : Cfg) (fuel : Nat) (pos : Bool) (ds rest : List UInt8) (s : St)
    (hne : ds ≠ []) (hdig : ∀ c ∈ ds, 48 ≤ c ∧ c ≤ 57) (hrest : s.rd.rest = ds ++ rest)
    (ht : DecTerminates rest s.rd.faulty) (hV : decVal ds ≤ u64Max) (hf : ds.length ≤ fuel) :
    ∃ s', parseNumLiteral cfg fuel 10 pos s =
        .ok (if pos then Number.pos (decVal ds)
             else if decVal ds = 0 then Number.pos 0
             else if decVal ds ≤ 2 ^ 63 then Number.neg (-(decVal ds : Int))
             else Number.flt (F64.neg (F64.ofNat (decVal ds)))) s' ∧
      s'.rd.rest = rest ∧ Same s s' := by
  have hV' : horner 10 ds = decVal ds := hornerFrom10 ds hdig 0
  have hok : DigitsOK 10 ds := fun c hc => ⟨_, digitVal10_digit (hdig c hc)⟩
  have ht' : Terminates 10 rest s.rd.faulty := by
    unfold DecTerminates at ht; unfold Terminates
    cases rest with
    | nil => exact ht
    | cons c bs => exact ⟨digitVal10_none ht.1, ht.2⟩
  obtain ⟨s', h1, h2, h3⟩ := C05_int_digits_radix cfg 10 pos (by decide) ds rest fuel s hne hok
    hrest ht' (by rw [hV']; exact hV) hf
  refine ⟨s', ?_, h2, h3⟩
  rw [h1, hV']
  congr 1
  cases pos
  · simp only [Bool.false_eq_true, if_false]
    by_cases h63 : decVal ds ≤ 2 ^ 63
    · rw [tailResult_neg_small h63]
      by_cases h0 : decVal ds = 0 <;> simp [h0, h63]
    · rw [tailResult_neg_big (by omega) hV]
      have h0 : decVal ds ≠ 0 := by omega
      simp [h0, h63]
  · rfl

/-- "0042)" read unsigned and after a minus sign -/
example (cfg : Cfg) :
    (∃ s', parseNumLiteral cfg 4 10 true { rd := { mode := .slice, rest := [48, 48, 52, 50, 41] } }
        = .ok (Number.pos 42) s' ∧ s'.rd.rest = [41]) ∧
    (∃ s', parseNumLiteral cfg 4 10 false { rd := { mode := .slice, rest := [48, 48, 52, 50, 41] } }
        = .ok (Number.neg (-42)) s' ∧ s'.rd.rest = [41]) := by
  constructor
  · obtain ⟨s', h1, h2, _⟩ := C05_int_digits cfg 4 true [48, 48, 52, 50] [41]
      { rd := { mode := .slice, rest := [48, 48, 52, 50, 41] } } (by decide) (by decide) rfl
      ⟨by decide, by decide, by decide, by decide⟩ (by decide) (by decide)
    exact ⟨s', h1, h2⟩
  · obtain ⟨s', h1, h2, _⟩ := C05_int_digits cfg 4 false [48, 48, 52, 50] [41]
      { rd := { mode := .slice, rest := [48, 48, 52, 50, 41] } } (by decide) (by decide) rfl
      ⟨by decide, by decide, by decide, by decide⟩ (by decide) (by decide)
    exact ⟨s', h1, h2⟩

/-- "fF" in radix 16 at end of input -/
example (cfg : Cfg) :
    ∃ s', parseNumLiteral cfg 2 16 true { rd := { mode := .slice, rest := [102, 70] } }
        = .ok (Number.pos 255) s' ∧ s'.rd.rest = [] := by
  obtain ⟨s', h1, h2, _⟩ := C05_int_digits_radix cfg 16 true (by decide) [102, 70] [] 2
    { rd := { mode := .slice, rest := [102, 70] } } (by decide)
    (by
      intro c hc
      simp only [List.mem_cons, List.mem_nil_iff, or_false] at hc
      rcases hc with rfl | rfl
      · exact ⟨15, by decide, by decide⟩
      · exact ⟨15, by decide, by decide⟩)
    rfl rfl (by decide) (by decide)
  exact ⟨s', h1, h2⟩

/-- C05, never infinity or NaN: whenever `f64_from_parts` succeeds on a `u64` significand,
    the result is a finite double and the reader state is untouched; every overflow is reported
    as an error instead.  In the fast configuration this needs every `POW10` entry to be a
    finite double `≥ 1.0` (true for the regenerated table: `pow10Tab_ge_one`). -/
theorem C05_never_inf (cfg : Cfg) (pos : Bool) (sig : Nat) (e : Int) (s s' : St) (r : Nat)
    (hsig : sig ≤ u64Max)
    (hp : cfg.fast = true → ∀ k, k ≤ 308 → oneBits ≤ cfg.pow10 k ∧ cfg.pow10 k < infBits)
    (h : f64FromParts cfg pos sig e s = .ok r s') :
    isFinite r = true ∧ isInf r = false ∧ isNaN r = false ∧ s' = s := by
  obtain ⟨g, hg, rfl, rfl⟩ := f64FromParts_ok h
  obtain ⟨a, b, c⟩ := signed_finite pos (partsMag_finite hsig hp hg)
  exact ⟨a, b, c, rfl⟩

/-- And when it fails, it fails with `NumberOutOfRange` at the current position -/
theorem C05_out_of_range (cfg : Cfg) (pos : Bool) (sig : Nat) (e : Int) (s s' : St) (er : Err)
    (h : f64FromParts cfg pos sig e s = .err er s') :
    er = .syntax .numberOutOfRange s.rd.position.line s.rd.position.col ∧ s' = s := by
  rw [f64FromParts_eq] at h
  cases hg : partsMag cfg sig e with
  | some g => rw [hg] at h; cases h
  | none => rw [hg] at h; injection h with h1 h2; exact ⟨h1.symm, h2.symm⟩

/-- with the real table: `1e400` is rejected, `1e-400` is `+0.0` (finite) -/
example : fastParts pow10Tab 3 (ofNat 1) 400 = none ∧
    fastParts pow10Tab 3 (ofNat 1) (-400) = some 0 := by decide +kernel

/-- the hypotheses of (4') and (6) hold for a configuration that uses the regenerated table;
    e.g. "1.5" = 15e-1 is the correctly rounded 15/10, and it is finite -/
example (cfg : Cfg) (hfast : cfg.fast = true) (htab : cfg.pow10 = pow10Tab) (s : St) :
    f64FromParts cfg true 15 (-1) s = .ok (rn 15 10) s ∧ isFinite (rn 15 10) = true := by
  have h1 : f64FromParts cfg true 15 (-1) s = .ok (rn 15 10) s :=
    C05_f64FromParts_fast cfg true s hfast
      (fun k hk => by rw [htab]; exact pow10Tab_exact k (by omega)) (by decide) (by decide)
      (by decide)
  exact ⟨h1, (C05_never_inf cfg true 15 (-1) s s _ (by decide)
    (fun _ k hk => by rw [htab]; exact pow10Tab_ge_one k (by omega)) h1).1⟩

#print axioms overflow_iff
#print axioms overflow_sound
#print axioms rn_exact
#print axioms rn_exact_decode
#print axioms mulPos_rn
#print axioms mulPos_correct
#print axioms divPos_correct
#print axioms mulPos_divPos_ofNat
#print axioms rn_quotient
#print axioms C05_fast_exact
#print axioms C05_f64FromParts_fast
#print axioms C05_int_digits_radix
#print axioms C05_int_digits
#print axioms C05_never_inf
#print axioms C05_out_of_range
#print axioms pow10Tab_exact
#print axioms pow10Tab_ge_one

end Numbers
end Lexpr
