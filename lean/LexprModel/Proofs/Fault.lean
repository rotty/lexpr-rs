/-
  Read faults on the stream source.  A fault-free stream parser and one whose reader fails after
  the bytes it still holds (`FSim`) run the same program.  `Loc` says what the two runs have in
  common: they are in step (`InStep`: same value, same error at the same position, same panic,
  `FSim` again), or the faulty run has hit the fault: it stops with `Err.io`, nothing left, and the
  fault-free run reads beyond the cut.  `Loc` is closed under the constructors of `Held`
  (`Loc.logic`; `Held`, its leaves `Held.Leaf` and the scanner property `Scans` are Held.lean's),
  so every function of the lexer has it by `Held.sound`; the relations `FRel` (end of this file:
  same fuel on both sides) and `GRel` (FaultParse.lean: the whole parser) are what is read off it.
-/
import LexprModel.Parse
import LexprModel.Proofs.SymTerm
import LexprModel.Proofs.Held
import LexprModel.Proofs.PrefixDet
import LexprModel.Proofs.Progress
import LexprModel.Proofs.Lexes
import LexprModel.Proofs.Primitives
namespace Lexpr
namespace Parse

open PrefixDet (scan)

/-- The fault-free stream parser `s` and a stream parser `t` whose reader fails after the bytes
    it still holds; `tail` is what `t` will never see. -/
structure FSim (tail : List UInt8) (s t : St) : Prop where
  rest : s.rd.rest = t.rd.rest ++ tail
  line : s.rd.line = t.rd.line
  col : s.rd.col = t.rd.col
  peeked : s.rd.peeked = t.rd.peeked
  depth : s.depth = t.depth
  faulty₁ : s.rd.faulty = false
  faulty₂ : t.rd.faulty = true
  mode₁ : s.rd.mode = .io
  mode₂ : t.rd.mode = .io
  /-- a byte in the lookahead slot is a byte that was read -/
  inv : t.rd.peeked = true → t.rd.rest ≠ []

section
variable {tail : List UInt8} {α β : Type}

theorem FSim.position {s t : St} (h : FSim tail s t) : s.rd.position = t.rd.position := by
  simp [Rd.position, h.line, h.col]

theorem FSim.peekPosition {s t : St} (h : FSim tail s t) :
    s.rd.peekPosition = t.rd.peekPosition := by
  unfold Rd.peekPosition
  rw [h.rest, h.mode₁, h.mode₂, h.peeked, h.line, h.col]
  cases hr : t.rd.rest with
  | nil =>
    have : t.rd.peeked = false := by
      cases hp : t.rd.peeked with
      | false => rfl
      | true => exact absurd hr (h.inv hp)
    cases tail <;> simp [this]
  | cons b bs => simp

theorem FSim.setDepth {s t : St} (h : FSim tail s t) (d : Nat) :
    FSim tail { s with depth := d } { t with depth := d } :=
  ⟨h.rest, h.line, h.col, h.peeked, rfl, h.faulty₁, h.faulty₂, h.mode₁, h.mode₂, h.inv⟩

theorem FSim.peek {s t : St} (h : FSim tail s t) {b : UInt8} {bs : List UInt8}
    (hr : t.rd.rest = b :: bs) :
    ∃ s' t', Parse.peek s = .ok (some b) s' ∧ Parse.peek t = .ok (some b) t' ∧ FSim tail s' t' := by
  unfold Parse.peek
  rw [h.rest, hr]
  refine ⟨_, _, rfl, rfl, ?_, h.line, h.col, ?_, h.depth, h.faulty₁, h.faulty₂, h.mode₁, h.mode₂, ?_⟩
  · simp [h.rest, hr]
  · simp [h.peeked, h.mode₁, h.mode₂]
  · intro _; simp [hr]

theorem peek_dead {t : St} (hr : t.rd.rest = []) (hf : t.rd.faulty = true) :
    peek t = .err .io t := by
  rw [peek_nil hr, hf]; rfl

/-- the fault-free reader is the faulty one with `tail` appended and other tags, and `consume`
    passes the tags through -/
theorem consume_fault {r₁ r₂ : Rd} (n : Nat) (hr : r₁.rest = r₂.rest ++ tail)
    (hl : r₁.line = r₂.line) (hc : r₁.col = r₂.col) (hn : n ≤ r₂.rest.length) :
    (r₁.consume n).rest = (r₂.consume n).rest ++ tail ∧ (r₁.consume n).line = (r₂.consume n).line ∧
    (r₁.consume n).col = (r₂.consume n).col ∧ (r₁.consume n).peeked = false ∧
    (r₂.consume n).peeked = false ∧ (r₁.consume n).faulty = r₁.faulty ∧
    (r₂.consume n).faulty = r₂.faulty ∧ (r₁.consume n).mode = r₁.mode ∧
    (r₂.consume n).mode = r₂.mode ∧ (r₂.consume n).rest = r₂.rest.drop n := by
  obtain ⟨m, pk, fl, rfl⟩ :
      ∃ m pk fl, r₁ = { r₂.ext tail with mode := m, peeked := pk, faulty := fl } :=
    ⟨r₁.mode, r₁.peeked, r₁.faulty, by cases r₁; cases r₂; simp_all [Rd.ext]⟩
  rw [Rd.consume_tags, PrefixDet.consume_ext tail n r₂ hn]
  exact ⟨rfl, rfl, rfl, Rd.consume_peeked n r₂, Rd.consume_peeked n r₂, rfl,
    Rd.consume_faulty n r₂, rfl, Rd.consume_mode n r₂, Rd.consume_rest n r₂⟩

theorem FSim.consume {s t : St} (h : FSim tail s t) (n : Nat) (hn : n ≤ t.rd.rest.length) :
    FSim tail { s with rd := s.rd.consume n } { t with rd := t.rd.consume n } := by
  obtain ⟨h1, h2, h3, h4, h5, h6, h7, h8, h9, _⟩ := consume_fault n h.rest h.line h.col hn
  exact ⟨h1, h2, h3, by simp [h4, h5], h.depth, by simp [h6, h.faulty₁], by simp [h7, h.faulty₂],
    by simp [h8, h.mode₁], by simp [h9, h.mode₂], by simp [h5]⟩

theorem FSim.discard_ok {s t : St} (h : FSim tail s t) (hne : t.rd.rest ≠ []) :
    ∃ s' t', Parse.discard s = .ok () s' ∧ Parse.discard t = .ok () t' ∧ FSim tail s' t' := by
  unfold Parse.discard
  rw [h.rest]
  cases hr : t.rd.rest with
  | nil => exact absurd hr hne
  | cons b bs => exact ⟨_, _, rfl, rfl, h.consume 1 (by simp [hr])⟩

theorem peek_ok_faulty {t t' : St} {o : Option UInt8} (hf : t.rd.faulty = true)
    (e : peek t = .ok o t') : (∃ c, o = some c) ∧ t'.rd.rest ≠ [] := by
  unfold Parse.peek at e
  cases hr : t.rd.rest with
  | nil => simp [hr, hf] at e
  | cons b bs =>
    simp only [hr] at e
    cases e
    exact ⟨⟨b, rfl⟩, by simp⟩

/-- A scanner on the two readers: both stop at the same place; or the faulty reader is left with
    nothing, and the fault-free one within `tail`. -/
theorem FSim.scan {s t : St} (h : FSim tail s t) {g : List UInt8 → Nat} (hg : Scans g) :
    ∃ tk s' tk' t', scan g s = .ok tk s' ∧ scan g t = .ok tk' t' ∧
      (tk = tk' ∧ FSim tail s' t' ∨
       t'.rd.rest = [] ∧ t'.rd.faulty = true ∧ s'.rd.rest.length ≤ tail.length) := by
  obtain ⟨hle, hstop, hfull⟩ := hg t.rd.rest tail
  refine ⟨_, _, _, _, rfl, rfl, ?_⟩
  rw [h.rest]
  by_cases hlt : g t.rd.rest < t.rd.rest.length
  · rw [hstop hlt, List.take_append_of_le_length hle]
    exact .inl ⟨rfl, h.consume _ hle⟩
  · obtain ⟨_, _, _, _, _, _, hf, _⟩ := consume_fault (g t.rd.rest) h.rest h.line h.col hle
    refine .inr ⟨?_, hf.trans h.faulty₂, ?_⟩
    · show (t.rd.consume _).rest = []
      rw [Rd.consume_rest]; exact List.drop_eq_nil_of_le (by omega)
    · show (s.rd.consume _).rest.length ≤ _
      have := hfull (by omega)
      rw [Rd.consume_rest, h.rest, List.length_drop, List.length_append]; omega

end

def RestNonInc {α : Type} (m : P α) : Prop :=
  ∀ s s', (m s).endsIn s' → s'.rd.rest.length ≤ s.rd.rest.length

theorem RestNonInc.of_sim {α : Type} {m m' : P α} (h : PrefixDet.Sim m m') : RestNonInc m := by
  intro s s' he
  have := h s []
  rcases he with ⟨a, hr⟩ | ⟨e, hr⟩ <;> rw [hr] at this <;> exact this.1.length_le

theorem Lexes.restNonInc {α : Type} {m : P α} (h : Lexes m) : RestNonInc m := by
  intro s s' he
  rcases he with ⟨a, hr⟩ | ⟨e, hr⟩
  · exact (h.ok hr).length_le
  · exact (h.err hr).1.length_le

section
variable {α β : Type}

theorem RestNonInc.peek : RestNonInc peek := Lexes.peek.restNonInc
theorem RestNonInc.next : RestNonInc next := Lexes.next.restNonInc

theorem RestNonInc.bind {m : P α} {f : α → P β} (hm : RestNonInc m) (hf : ∀ a, RestNonInc (f a)) :
    RestNonInc (m >>= f) := by
  intro s s' he
  change (P.bind m f s).endsIn s' at he
  unfold P.bind at he
  cases hms : m s with
  | ok a s1 =>
    rw [hms] at he
    exact Nat.le_trans (hf a s1 s' he) (hm s s1 (.inl ⟨a, hms⟩))
  | err e s1 =>
    rw [hms] at he
    rcases he with ⟨a, h⟩ | ⟨e', h⟩
    · cases h
    · cases h; exact hm s _ (.inr ⟨_, hms⟩)
  | panic p => rw [hms] at he; rcases he with ⟨a, h⟩ | ⟨e', h⟩ <;> cases h
  | fuel => rw [hms] at he; rcases he with ⟨a, h⟩ | ⟨e', h⟩ <;> cases h

theorem RestNonInc.scan (g : List UInt8 → Nat) : RestNonInc (scan g) := (Lexes.scan g).restNonInc

end

theorem RestNonInc.of_held {c : Bool} {α : Type} {m : P α} (h : Held Kind.same true c m m) :
    RestNonInc m :=
  (Lexes.of_held h).restNonInc

/-- The faulty parser has run into the fault: nothing is left and the reader fails. -/
def FDead (t : St) : Prop := t.rd.rest = [] ∧ t.rd.faulty = true

/-- The fault-free run has read beyond the cut: if it stops, at most `|tail|` bytes are unread. -/
def FBeyond (tail : List UInt8) {α : Type} (r : Res α) : Prop :=
  ∀ s', r.endsIn s' → s'.rd.rest.length ≤ tail.length

section
variable {tail : List UInt8} {α β : Type}

theorem FBeyond.of_nonInc {m : P α} (hm : RestNonInc m) {s : St} (h : s.rd.rest.length ≤ tail.length) :
    FBeyond tail (m s) :=
  fun s' he => Nat.le_trans (hm s s' he) h

theorem FBeyond.bind {r₁ : Res α} {f₁ : α → P β} (h : FBeyond tail r₁) (hf : ∀ a, RestNonInc (f₁ a)) :
    FBeyond tail
      (Trunc.rbind r₁ f₁) := by
  intro s' he
  cases r₁ with
  | ok a s1 => exact Nat.le_trans (hf a s1 s' he) (h s1 (.inl ⟨a, rfl⟩))
  | err e s1 =>
    rcases he with ⟨a, h'⟩ | ⟨e', h'⟩
    · cases h'
    · cases h'; exact h _ (.inr ⟨_, rfl⟩)
  | panic p => rcases he with ⟨a, h'⟩ | ⟨e', h'⟩ <;> cases h'
  | fuel => rcases he with ⟨a, h'⟩ | ⟨e', h'⟩ <;> cases h'

theorem FSim.len {s t : St} (h : FSim tail s t) :
    s.rd.rest.length = t.rd.rest.length + tail.length := by rw [h.rest]; simp

end

/-- The two runs are in step: the same value and `FSim` again, the same error, the same panic.
    `less` is false inside the lexer and true above it: there the two runs may fail with the same
    error while the faulty reader is already dead (`next_value` drops the read error that `end_seq`
    hit in favour of an earlier error).  `c`: on return the faulty reader still holds a byte (as
    after `peek`). -/
inductive InStep (less : Prop) (tail : List UInt8) (c : Bool) {α : Type} : Res α → Res α → Prop where
  | ok {a : α} {s t : St} :
      FSim tail s t → (c = true → t.rd.rest ≠ []) → InStep less tail c (.ok a s) (.ok a t)
  | err {e : Err} {s t : St} :
      FSim tail s t ∨ (less ∧ FDead t ∧ s.rd.rest.length ≤ tail.length) →
      InStep less tail c (.err e s) (.err e t)
  | panic {p : Site} : InStep less tail c (.panic p) (.panic p)

/-- Outcome of the faulty run (right) against the fault-free run (left).  The faulty run is out
    of fuel (alone only if `less`: above the lexer it computes a smaller fuel, `token_fuel` of a
    shorter rest); or it stopped with `Err.io` at the fault, nothing left, and the fault-free run
    reads beyond the cut; or the two are in step. -/
def LocRes (less : Prop) (tail : List UInt8) (c : Bool) {α : Type} (r₁ r₂ : Res α) : Prop :=
  (r₂ = .fuel ∧ (less ∨ r₁ = .fuel)) ∨ (∃ t', r₂ = .err .io t' ∧ FDead t' ∧ FBeyond tail r₁) ∨
  InStep less tail c r₁ r₂

/-- `m₁` on the fault-free reader against `m₂` on the faulty one.  `b` and `c` are the indices of
    `Held` (Held.lean), read for the faulty reader: it holds a byte at the start (`b`, so that
    `discard` is valid) and at the end (`c`, see `LocRes`). -/
def Loc (less : Prop) (tail : List UInt8) (b c : Bool) {α : Type} (m₁ m₂ : P α) : Prop :=
  (∀ s t, FSim tail s t → (b = true → t.rd.rest ≠ []) → LocRes less tail c (m₁ s) (m₂ t)) ∧
  RestNonInc m₁

section
variable {less : Prop} {tail : List UInt8} {α β : Type}

/-- The rule for `>>=` on results; the continuations are compared on what the first parts
    returned (`hf` may use that the faulty one returned). -/
theorem LocRes.bind {c d : Bool} {r₁ r₂ : Res α} {f₁ f₂ : α → P β} (h : LocRes less tail c r₁ r₂)
    (hm : ∀ a, RestNonInc (f₁ a))
    (hf : ∀ a s t, r₂ = .ok a t → FSim tail s t → (c = true → t.rd.rest ≠ []) →
      LocRes less tail d (f₁ a s) (f₂ a t)) :
    LocRes less tail d
      (Trunc.rbind r₁ f₁)
      (Trunc.rbind r₂ f₂) := by
  rcases h with ⟨rfl, hl | rfl⟩ | ⟨t', rfl, hd, hb⟩ | hc
  · exact .inl ⟨rfl, .inl hl⟩
  · exact .inl ⟨rfl, .inr rfl⟩
  · exact .inr (.inl ⟨t', rfl, hd, hb.bind hm⟩)
  · cases hc with
    | ok hs hh => exact hf _ _ _ rfl hs hh
    | err hd => exact .inr (.inr (.err hd))
    | panic => exact .inr (.inr .panic)

theorem Loc.bind {b c d : Bool} {m₁ m₂ : P α} {f₁ f₂ : α → P β} (hm : Loc less tail b c m₁ m₂)
    (hf : ∀ a, Loc less tail c d (f₁ a) (f₂ a)) : Loc less tail b d (m₁ >>= f₁) (m₂ >>= f₂) :=
  ⟨fun s t h hb => (hm.1 s t h hb).bind (fun a => (hf a).2) fun a s' t' _ hs hh =>
      (hf a).1 s' t' hs hh,
    hm.2.bind fun a => (hf a).2⟩

theorem LocRes.ok {c : Bool} {a : α} {s t : St} (hs : FSim tail s t)
    (hc : c = true → t.rd.rest ≠ []) : LocRes less tail c (.ok a s) (.ok a t) :=
  .inr (.inr (.ok hs hc))

theorem LocRes.err {c : Bool} {e e' : Err} {s t : St} (he : e = e') (hs : FSim tail s t) :
    LocRes less tail c (.err e s : Res α) (.err e' t) :=
  he ▸ .inr (.inr (.err (.inl hs)))

theorem Loc.leaf {b c : Bool} {m : P α} (h : Held.Leaf b c m) : Loc less tail b c m m := by
  refine ⟨fun s t hs hb => ?_, (Lexes.logic.prim h.prim).restNonInc⟩
  cases h with
  | pure a => exact .ok hs nofun
  | pureHeld a => exact .ok hs fun _ => hb rfl
  | errAt code => exact .err (by show Err.syntax _ _ _ = Err.syntax _ _ _; rw [hs.position]) hs
  | peekErr code =>
    exact .err (by show Err.syntax _ _ _ = Err.syntax _ _ _; rw [hs.peekPosition]) hs
  | panicAt p => exact .inr (.inr .panic)
  | outOfFuel => exact .inl ⟨rfl, .inr rfl⟩
  | peek =>
    cases hr : t.rd.rest with
    | nil =>
      exact .inr (.inl ⟨t, peek_dead hr hs.faulty₂, ⟨hr, hs.faulty₂⟩,
        .of_nonInc .peek (by rw [hs.len, hr]; simp)⟩)
    | cons x xs =>
      obtain ⟨s', t', e₁, e₂, hs'⟩ := hs.peek hr
      rw [e₁, e₂]
      exact .ok hs' fun _ => (peek_ok_faulty hs.faulty₂ e₂).2
  | next =>
    cases hr : t.rd.rest with
    | nil =>
      refine .inr (.inl ⟨t, ?_, ⟨hr, hs.faulty₂⟩, .of_nonInc .next (by rw [hs.len, hr]; simp)⟩)
      simp [Parse.next, hr, hs.faulty₂]
    | cons x xs =>
      unfold Parse.next
      rw [hs.rest, hr]
      exact .ok (hs.consume 1 (by simp [hr])) nofun
  | discard =>
    obtain ⟨s', t', e₁, e₂, hs'⟩ := hs.discard_ok (hb rfl)
    rw [e₁, e₂]; exact .ok hs' nofun
  | badByte =>
    obtain ⟨s', t', e₁, e₂, hs'⟩ := hs.discard_ok (hb rfl)
    show LocRes less tail c (P.bind Parse.discard _ s) (P.bind Parse.discard _ t)
    unfold P.bind
    rw [e₁, e₂]
    exact .err (by rw [hs.peekPosition]) hs'

theorem Loc.getMode {b : Bool} : Loc less tail b false getMode getMode :=
  ⟨fun s t hs _ => by
      show LocRes less tail false (.ok s.rd.mode s) (.ok t.rd.mode t)
      rw [hs.mode₁, hs.mode₂]; exact .ok hs nofun,
    Lexes.getMode.restNonInc⟩

/-- reading the position keeps a held byte held -/
theorem Loc.getPos {b : Bool} : Loc less tail b b getPos getPos :=
  ⟨fun s t hs hb => by
      show LocRes less tail b (.ok s.rd.position s) (.ok t.rd.position t)
      rw [hs.position]; exact .ok hs hb,
    (Lexes.get _).restNonInc⟩

theorem Loc.enter {b : Bool} : Loc less tail b false enter enter := by
  refine ⟨fun s t h _ => ?_, .of_sim PrefixDet.enter_s⟩
  unfold Parse.enter
  rw [h.depth, h.peekPosition]
  split
  · exact .inr (.inr .panic)
  · split
    · exact .err rfl h
    · exact .ok (h.setDepth _) nofun

theorem Loc.leave {b : Bool} : Loc less tail b false leave leave :=
  ⟨fun s t h _ => .ok (by rw [h.depth]; exact h.setDepth (t.depth + 1)) nofun,
    .of_sim PrefixDet.leave_s⟩

/-- A scanner and the `peek` behind it: the scanner stops inside what the faulty reader holds
    and both go on in step, or it takes all of it and the `peek` hits the fault. -/
theorem Loc.scanPeek {b d : Bool} {g : List UInt8 → Nat} {k k' : List UInt8 → Option UInt8 → P β}
    (hg : Scans g) (hk : ∀ tk o, Loc less tail true d (k tk o) (k' tk o)) :
    Loc less tail b d (scan g >>= fun tk => peek >>= k tk) (scan g >>= fun tk => peek >>= k' tk) := by
  have hm : ∀ tk, RestNonInc (peek >>= k tk) := fun tk => RestNonInc.peek.bind fun o => (hk tk o).2
  refine ⟨fun s t h _ => ?_, (RestNonInc.scan g).bind hm⟩
  obtain ⟨tk, s', tk', t', e₁, e₂, hc⟩ := h.scan hg
  simp only [bind_apply, e₁, e₂]
  rcases hc with ⟨rfl, hs'⟩ | ⟨hr, hf, hl⟩
  · exact (Loc.bind (b := false) (Loc.leaf .peek) (hk tk)).1 s' t' hs' nofun
  · rw [peek_dead hr hf]
    exact .inr (.inl ⟨t', rfl, ⟨hr, hf⟩, .of_nonInc (hm tk) hl⟩)

theorem Loc.logic : Held.Logic (.shorter less) (Loc less tail) where
  leaf := Loc.leaf
  getMode := Loc.getMode
  bind := Loc.bind
  scanPeek := Loc.scanPeek
  outL h := h.elim
  outR hl := fun hm => ⟨fun _ _ _ _ => .inl ⟨rfl, .inl hl⟩, (Lexes.logic.of_held hm).restNonInc⟩

theorem Loc.of_held {b c : Bool} {m₁ m₂ : P α} (h : Held (.shorter less) b c m₁ m₂) :
    Loc less tail b c m₁ m₂ :=
  h.sound Loc.logic

theorem LocRes.held {r₁ r₂ : Res α} (h : LocRes less tail true r₁ r₂) {a : α} {t : St}
    (e : r₂ = .ok a t) : t.rd.rest ≠ [] := by
  subst e
  rcases h with ⟨h, _⟩ | ⟨_, h, _⟩ | hc
  · cases h
  · cases h
  · cases hc with
    | ok _ hh => exact hh rfl

end

/-- Outcome of the faulty run against the fault-free run: it stops with `Err.io`, or it is the
    same outcome (same value, same error with the same position, same panic). -/
def FRes (tail : List UInt8) {α : Type} (r₁ r₂ : Res α) : Prop :=
  (∃ t', r₂ = .err .io t') ∨
  match r₁, r₂ with
  | .ok a s, .ok b t => a = b ∧ FSim tail s t
  | .err e s, .err e' t => e = e' ∧ FSim tail s t
  | .panic p, .panic q => p = q
  | .fuel, .fuel => True
  | _, _ => False

structure FRel (tail : List UInt8) {α : Type} (m₁ m₂ : P α) : Prop where
  app : ∀ s t, FSim tail s t → FRes tail (m₁ s) (m₂ t)

section
variable {tail : List UInt8} {α β : Type}

/-- with the same fuel on both sides and below `next_value`, `FRes` is what is left -/
theorem LocRes.fres {c : Bool} {r₁ r₂ : Res α} (h : LocRes False tail c r₁ r₂) : FRes tail r₁ r₂ := by
  rcases h with ⟨rfl, hl | rfl⟩ | ⟨t', e, _⟩ | hc
  · exact hl.elim
  · exact .inr trivial
  · exact .inl ⟨t', e⟩
  · refine .inr ?_
    cases hc with
    | ok hs _ => exact ⟨rfl, hs⟩
    | err hd => exact ⟨rfl, hd.resolve_right fun h => h.1⟩
    | panic => exact rfl

theorem FRes.bind {r₁ r₂ : Res α} {f₁ f₂ : α → P β} (h : FRes tail r₁ r₂)
    (hf : ∀ a s t, r₂ = .ok a t → FSim tail s t → FRes tail (f₁ a s) (f₂ a t)) :
    FRes tail
      (Trunc.rbind r₁ f₁)
      (Trunc.rbind r₂ f₂) := by
  rcases h with ⟨t', rfl⟩ | hc
  · exact .inl ⟨t', rfl⟩
  · revert hc
    cases r₁ <;> cases r₂ <;> intro hc <;> simp only at hc
    all_goals first | exact hc.elim | exact .inr hc | skip
    obtain ⟨rfl, hs⟩ := hc
    exact hf _ _ _ rfl hs

theorem FSim.discard {s t : St} (h : FSim tail s t) (hne : t.rd.rest ≠ []) :
    FRes tail (discard s) (discard t) := by
  obtain ⟨s', t', e₁, e₂, hs⟩ := h.discard_ok hne
  rw [e₁, e₂]; exact .inr ⟨rfl, hs⟩

theorem FSim.consumeN {s t : St} (h : FSim tail s t) (n : Nat) (hn : n ≤ t.rd.rest.length) :
    FRes tail (consumeN n s) (consumeN n t) :=
  .inr ⟨rfl, h.consume n hn⟩

/-- related on states where the faulty reader still holds a byte (e.g. right after a
    successful `peek`) -/
structure FRelNE (tail : List UInt8) {α : Type} (m₁ m₂ : P α) : Prop where
  app : ∀ s t, FSim tail s t → t.rd.rest ≠ [] → FRes tail (m₁ s) (m₂ t)

/-- the faulty run never returns `Ok` of something the fault-free run does not return -/
theorem FRes.ok_inv {r₁ : Res α} {b : α} {t : St}
    (h : FRes tail r₁ (.ok b t)) : ∃ s, r₁ = .ok b s ∧ FSim tail s t := by
  rcases h with ⟨t', ht⟩ | hc
  · cases ht
  · cases r₁ <;> simp only at hc
    exact ⟨_, by rw [hc.1], hc.2⟩

theorem Loc.frel {c : Bool} {m₁ m₂ : P α} (h : Loc False tail false c m₁ m₂) : FRel tail m₁ m₂ :=
  ⟨fun s t hs => (h.1 s t hs nofun).fres⟩

theorem Loc.frelNE {c : Bool} {m₁ m₂ : P α} (h : Loc False tail true c m₁ m₂) :
    FRelNE tail m₁ m₂ :=
  ⟨fun s t hs hne => (h.1 s t hs fun _ => hne).fres⟩

theorem FRel.outOfFuel : FRel tail (outOfFuel : P α) Parse.outOfFuel :=
  (Loc.leaf (c := false) .outOfFuel).frel

theorem FRel.getPos : FRel tail getPos getPos := Loc.getPos.frel

theorem FRel.enter : FRel tail enter enter := Loc.enter.frel

theorem FRel.leave : FRel tail leave leave := Loc.leave.frel

/-- `peek`: at the cut the faulty reader reports `Err.io` (never end of input). -/
theorem FRel.peek : FRel tail peek peek := (Loc.leaf .peek).frel

/-- `next`: a byte the faulty reader still holds is consumed by both; at the cut the faulty
    reader reports `Err.io`. -/
theorem FRel.next : FRel tail next next := (Loc.leaf .next).frel

theorem FRelNE.of_FRel {m₁ m₂ : P α} (h : FRel tail m₁ m₂) : FRelNE tail m₁ m₂ :=
  ⟨fun s t hs _ => h.app s t hs⟩

theorem FRelNE.discard : FRelNE tail discard discard :=
  ⟨fun _ _ h hne => h.discard hne⟩

/-- a step that leaves the reader alone keeps the byte -/
theorem FRelNE.bind_getPos {f₁ f₂ : Pos → P β} (hf : ∀ a, FRelNE tail (f₁ a) (f₂ a)) :
    FRelNE tail (Parse.getPos >>= f₁) (Parse.getPos >>= f₂) := by
  constructor; intro s t h hne
  show FRes tail (f₁ _ s) (f₂ _ t)
  rw [h.position]
  exact (hf _).app s t h hne

/-- after `Parse.peek` returned a byte the faulty reader holds one; `Parse.peek` never reports end of
    input on the faulty reader -/
theorem FRel.peek_bind {f₁ f₂ : Option UInt8 → P β}
    (hf : ∀ c, FRelNE tail (f₁ (some c)) (f₂ (some c))) :
    FRel tail (Parse.peek >>= f₁) (Parse.peek >>= f₂) :=
  ⟨fun s t h => (FRel.peek.app s t h).bind fun o s' t' e hs => by
    obtain ⟨⟨c, rfl⟩, hne⟩ := peek_ok_faulty h.faulty₂ e
    exact (hf c).app s' t' hs hne⟩

theorem FRel.peekOrNull_bind {f₁ f₂ : UInt8 → P β} (hf : ∀ c, FRelNE tail (f₁ c) (f₂ c)) :
    FRel tail (Parse.peekOrNull >>= f₁) (Parse.peekOrNull >>= f₂) :=
  ⟨fun s t h =>
    have o := (Loc.of_held (less := False) (b := false) Held.peekOrNull).1 s t h nofun
    o.fres.bind fun c s' t' e hs => (hf c).app s' t' hs (o.held e)⟩

theorem FRel.parseWhitespace_bind {f₁ f₂ : Option UInt8 → P β}
    (hf : ∀ c, FRelNE tail (f₁ (some c)) (f₂ (some c))) :
    FRel tail (Parse.parseWhitespace >>= f₁) (Parse.parseWhitespace >>= f₂) := by
  constructor; intro s t h
  obtain ⟨tk, s', tk', t', e₁, e₂, hc⟩ := h.scan Scans.wsLen
  rw [PrefixDet.parseWhitespace_eq]
  simp only [bind_apply, e₁, e₂]
  rcases hc with ⟨_, hs'⟩ | ⟨hr, hd, _⟩
  · exact (FRel.peek_bind hf).app s' t' hs'
  · rw [peek_dead hr hd]; exact .inl ⟨t', rfl⟩

theorem FRelNE.peek_bind {f₁ f₂ : Option UInt8 → P β}
    (hf : ∀ c, FRelNE tail (f₁ (some c)) (f₂ (some c))) :
    FRelNE tail (Parse.peek >>= f₁) (Parse.peek >>= f₂) := .of_FRel (FRel.peek_bind hf)
theorem FRelNE.peekOrNull_bind {f₁ f₂ : UInt8 → P β} (hf : ∀ c, FRelNE tail (f₁ c) (f₂ c)) :
    FRelNE tail (Parse.peekOrNull >>= f₁) (Parse.peekOrNull >>= f₂) := .of_FRel (FRel.peekOrNull_bind hf)
theorem FRelNE.parseWhitespace_bind {f₁ f₂ : Option UInt8 → P β}
    (hf : ∀ c, FRelNE tail (f₁ (some c)) (f₂ (some c))) :
    FRelNE tail (Parse.parseWhitespace >>= f₁) (Parse.parseWhitespace >>= f₂) :=
  .of_FRel (FRel.parseWhitespace_bind hf)

theorem FRel.peekOrNull : FRel tail peekOrNull peekOrNull := (Loc.of_held .peekOrNull).frel
theorem FRel.nextOrNull : FRel tail nextOrNull nextOrNull := (Loc.of_held .nextOrNull).frel
theorem FRel.parseWhitespace : FRel tail parseWhitespace parseWhitespace :=
  (Loc.of_held .parseWhitespace).frel
theorem FRel.parseSymbolBytes (scratch : List UInt8) :
    FRel tail (parseSymbolBytes scratch) (parseSymbolBytes scratch) :=
  (Loc.of_held (.parseSymbolBytes scratch trivial)).frel
theorem FRel.skipDigits : FRel tail skipDigits skipDigits := (Loc.of_held .skipDigits).frel
theorem FRel.endSeq (close : UInt8) : FRel tail (endSeq close) (endSeq close) :=
  (Loc.of_held (.endSeq close)).frel
theorem FRel.expectEnd : FRel tail expectEnd expectEnd := (Loc.of_held .expectEnd).frel
theorem FRel.parseByteList (cfg : Cfg) (fuel : Nat) (close : UInt8) :
    FRel tail (parseByteList cfg fuel close) (parseByteList cfg fuel close) :=
  (Loc.of_held (.parseByteList cfg close (.refl fuel))).frel

/-- `parse_token` after `parse_whitespace` returned `pk` (so the faulty reader holds a byte);
    both sides with the same fuel. -/
theorem FRelNE.parseToken (cfg : Cfg) (fuel : Nat) (pk : UInt8) :
    FRelNE tail (parseToken cfg fuel pk) (parseToken cfg fuel pk) :=
  (Loc.of_held (.parseToken trivial cfg pk (.refl fuel))).frelNE

end


/-- a syntax error of the faulty run (in particular an `Eof*` error) is the fault-free run's
    error, at the same position: the fault itself only ever surfaces as `Err.io` -/
theorem FRes.syntax_inv {tail : List UInt8} {α : Type} {r₁ : Res α} {c : Code} {l k : Nat} {t : St}
    (h : FRes tail r₁ (.err (.syntax c l k) t)) :
    ∃ s, r₁ = .err (.syntax c l k) s ∧ FSim tail s t := by
  rcases h with ⟨t', ht⟩ | hc
  · cases ht
  · cases r₁ <;> simp only at hc
    exact ⟨_, by rw [hc.1], hc.2⟩

/-- a fresh fault-free reader and a reader that fails after `k` bytes -/
theorem FSim.init (bytes : List UInt8) (k : Nat) :
    FSim (bytes.drop k) (initSt .io bytes) (initSt .io (bytes.take k) true) :=
  ⟨by simp [initSt], rfl, rfl, rfl, rfl, rfl, rfl, rfl, rfl, by simp [initSt]⟩

end Parse
end Lexpr
