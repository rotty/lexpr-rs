/-
  ImageAtoms — C13: every atom in the image of the parser is printed, under the corresponding
  printer options `pof cfg.opts`, as a text that is read back as the same atom (`AtomOKP`).

  Forward token lemmas that `DialectRT.lean` does not have (digit-initial names under
  `leadingDigit`, `#%` names under `racket`), then one lemma per atom kind.  No compatibility
  hypothesis is needed: `pof` keeps the string and character syntax, writes `#u8(…)`, and a keyword
  can only be in the image if one of the keyword syntaxes is enabled.

  Side conditions (each shown necessary by a witness in `ImageExamples.lean`):
    * `dotOkP`: a symbol, or a keyword printed `name:`, that starts with `.` followed by NUL, `|`
      or `"` (known finding, needed in list-element position);
    * `kwDotOk`: the keyword named `.` (read from `.:`) when `pof` prints `#:.` or `:.`.
-/
import LexprModel.Proofs.DialectStructRT
import LexprModel.Proofs.ImageLift
namespace Lexpr
namespace Parse
namespace Image
open Utf8 Spec

theorem digit_disp : ∀ b : UInt8, isDigit b = true →
    (b == 35) = false ∧ (b == 45) = false ∧ (b == 43) = false ∧ isTrivia b = false ∧ b ≠ 59 ∧
    b ≠ 46 := by
  intro b h
  have ne : ∀ k : UInt8, isDigit k = false → b ≠ k := fun k hk e => by rw [e, hk] at h; cases h
  obtain ⟨t1, t2, -⟩ := nonterm_weak (digit_nonterm b h)
  exact ⟨beq_eq_false_iff_ne.mpr (ne 35 (by decide)), beq_eq_false_iff_ne.mpr (ne 45 (by decide)),
    beq_eq_false_iff_ne.mpr (ne 43 (by decide)), t1, t2, ne 46 (by decide)⟩

/-- `parse_token` on a digit-initial token with the `leadingDigit` option: the whole token is read
    as a symbol, then classified. -/
theorem digit_token (cfg : Cfg) (fuel : Nat) (d : UInt8) (tl rest : List UInt8) (s : St)
    (hld : cfg.opts.leadingDigit = true) (hd : isDigit d = true) (hnt : NonTerm (d :: tl))
    (hv : Utf8.valid (d :: tl) = true)
    (hrest : s.rd.rest = (d :: tl) ++ rest) (hF : Follow rest)
    (hf : rest = [] → s.rd.faulty = false) :
    parseToken cfg fuel d s =
      .ok (match wholeNumber cfg (d :: tl) with
           | some n => .number n
           | none => symbolToken cfg.opts (d :: tl))
        (adv s (tl.length + 1) (endPeek s rest)) := by
  rw [digit_rows cfg fuel d tl rest s hd hnt (.inr hv) hrest hF hf, if_pos hld]; rfl

theorem racket_token (cfg : Cfg) (fuel : Nat) (body rest : List UInt8) (s : St)
    (hra : cfg.opts.racket = true) (hnt : NonTerm body)
    (hv : Utf8.valid (35 :: 37 :: body) = true)
    (hrest : s.rd.rest = (35 :: 37 :: body) ++ rest) (hF : Follow rest)
    (hf : rest = [] → s.rd.faulty = false) :
    parseToken cfg fuel 35 s =
      .ok (.symbol (35 :: 37 :: body)) (adv s (body.length + 2) (endPeek s rest)) := by
  rw [hash_name_rows cfg fuel 37 _ _ _ (hashTail_percent cfg fuel) body rest s hrest hF hf hnt
    (by simp [asc, ch]) (.inr hv), hra]
  rfl

/-- `AtomOKP` with the requirement on the first bytes of the text as a parameter:
    `AtomOKH ListRT.ElemHead` is `ListRT.AtomOKP`. -/
def AtomOKH (H : List UInt8 → Prop) (p : Print.Options) (cfg : Cfg) (ryu : Nat → List UInt8)
    (v : Value) : Prop :=
  v.isCons = false ∧ v.isVector = false ∧ v ≠ .null ∧ H (atomTextP p ryu v) ∧
  ∀ (s : St) (rest : List UInt8) (fuel : Nat), ListRT.Follow rest → ListRT.Good s →
    s.rd.rest = atomTextP p ryu v ++ rest → fuel ≥ s.rd.rest.length + 2 →
    ListRT.nestingP p v + 1 ≤ s.depth →
    ListRT.Runs (nextValue cfg fuel) s (some (fold p cfg.opts v)) rest

theorem atomOKH_elem (p : Print.Options) (cfg : Cfg) (ryu : Nat → List UInt8) (v : Value) :
    AtomOKH ListRT.ElemHead p cfg ryu v ↔ ListRT.AtomOKP p cfg ryu v := Iff.rfl

theorem AtomOKH.mono {H H' : List UInt8 → Prop} (hh : ∀ t, H t → H' t) {p : Print.Options}
    {cfg : Cfg} {ryu : Nat → List UInt8} {v : Value} (h : AtomOKH H p cfg ryu v) :
    AtomOKH H' p cfg ryu v :=
  ⟨h.1, h.2.1, h.2.2.1, hh _ h.2.2.2.1, h.2.2.2.2⟩

theorem atomOKH_of_next (H : List UInt8 → Prop) (p : Print.Options) (cfg : Cfg)
    (ryu : Nat → List UInt8) (v : Value)
    (h1 : v.isCons = false) (h2 : v.isVector = false) (h3 : v ≠ .null)
    (hhead : H (atomTextP p ryu v))
    (hrun : ∀ (F : Nat) (s : St) (rest : List UInt8), Follow rest →
      (rest = [] → s.rd.faulty = false) → s.rd.rest = atomTextP p ryu v ++ rest →
      ∃ q, nextValue cfg (F + 2) s =
        .ok (some (fold p cfg.opts v)) (adv s (atomTextP p ryu v).length q)) :
    AtomOKH H p cfg ryu v := by
  refine ⟨h1, h2, h3, hhead, ?_⟩
  intro s rest fuel hf hg hr hfu hd
  obtain ⟨F, rfl⟩ : ∃ F, fuel = F + 2 := ⟨fuel - 2, by omega⟩
  obtain ⟨q, hq⟩ := hrun F s rest hf (fun _ => hg.2) hr
  exact ListRT.runs_of_adv _ s _ _ q rest hg hq (by simp [hr])

theorem atomOKP_of_next (p : Print.Options) (cfg : Cfg) (ryu : Nat → List UInt8) (v : Value)
    (h1 : v.isCons = false) (h2 : v.isVector = false) (h3 : v ≠ .null)
    (hhead : ListRT.ElemHead (atomTextP p ryu v))
    (hrun : ∀ (F : Nat) (s : St) (rest : List UInt8), Follow rest →
      (rest = [] → s.rd.faulty = false) → s.rd.rest = atomTextP p ryu v ++ rest →
      ∃ q, nextValue cfg (F + 2) s =
        .ok (some (fold p cfg.opts v)) (adv s (atomTextP p ryu v).length q)) :
    ListRT.AtomOKP p cfg ryu v :=
  atomOKH_of_next ListRT.ElemHead p cfg ryu v h1 h2 h3 hhead hrun

theorem run_of_lexes (cfg : Cfg) (text : List UInt8) (w : Value)
    (hlex : ∀ (fuel : Nat) (s : St) (rest : List UInt8), Follow rest →
      (rest = [] → s.rd.faulty = false) → s.rd.rest = text ++ rest → text.length + 1 ≤ fuel →
      ∃ tok, LexesAs cfg fuel s text tok ∧ tok.atom = some w) :
    ∀ (F : Nat) (s : St) (rest : List UInt8), Follow rest →
      (rest = [] → s.rd.faulty = false) → s.rd.rest = text ++ rest →
      ∃ q, nextValue cfg (F + 2) s = .ok (some w) (adv s text.length q) := by
  intro F s rest hF hf hrest
  obtain ⟨tok, hl, ha⟩ := hlex ((text ++ rest).length + 1) (adv s 0 (s.rd.mode == .io)) rest hF
    (by simpa using hf) (by simp [hrest]) (by simp)
  exact nextValue_of_lexes cfg (F + 1) s text rest tok w hrest hl ha

/-- the printer options of C13 fold nothing (as `Spec.C13_pof_fold` in `Props/C02.lean`) -/
theorem fold_pof (r : Options) : ∀ v : Value, fold (pof r) r v = v :=
  fold_id (pof r) r rfl rfl (by simp [pof])
theorem foldList_pof (r : Options) : ∀ xs : List Value, foldList (pof r) r xs = xs :=
  foldList_id (pof r) r rfl rfl (by simp [pof])

theorem atomOKH_of_token (H : List UInt8 → Prop) (cfg : Cfg) (ryu : Nat → List UInt8) (v : Value)
    (hat : IsAtom v) (hH : H (atomTextP (pof cfg.opts) ryu v)) {b : UInt8} {tl : List UInt8}
    (htext : atomTextP (pof cfg.opts) ryu v = b :: tl) (hb : symTermSlice b = false)
    {tok : Token} (hatom : tok.atom = some v)
    (hlex : ∀ (fuel : Nat) (s : St) (rest : List UInt8), Follow rest →
      (rest = [] → s.rd.faulty = false) → s.rd.rest = (b :: tl) ++ rest → tl.length + 2 ≤ fuel →
      parseToken cfg fuel b s = .ok tok (adv s (tl.length + 1) (endPeek s rest))) :
    AtomOKH H (pof cfg.opts) cfg ryu v := by
  refine atomOKH_of_next H _ cfg ryu v hat.1 hat.2.1 hat.2.2 hH ?_
  rw [fold_pof, htext]
  refine run_of_lexes cfg _ _ fun fuel s rest hF hf hrest hfu => ?_
  obtain ⟨t1, t2, -⟩ := nonterm_weak hb
  exact ⟨tok, ⟨b, endPeek s rest, rfl, t1, t2, hlex fuel s rest hF hf hrest hfu⟩, hatom⟩

/-! ### the atoms whose reading does not depend on the keyword syntax

  `ListRT.atomOKP_of_leaf_for` at `pof cfg.opts`: `Compatible (pof r) r` fails when `r` has no
  keyword syntax, `CompatibleFor (pof r) r v` holds for every `v` that is not a keyword. -/

theorem atomOKP_plain (cfg : Cfg) (ryu : Nat → List UInt8) (v : Value) (h3 : v ≠ .null)
    (hk : ∀ n, v ≠ .keyword n) (hl : ListRT.LeafPlainFor (pof cfg.opts) cfg v) :
    ListRT.AtomOKP (pof cfg.opts) cfg ryu v :=
  ListRT.atomOKP_of_leaf_for _ cfg ryu v (compatibleFor_pof cfg.opts v hk) h3 hl

theorem atomOKP_nil (cfg : Cfg) (ryu : Nat → List UInt8) :
    ListRT.AtomOKP (pof cfg.opts) cfg ryu .nil :=
  atomOKP_plain cfg ryu .nil nofun nofun ⟨trivial, rfl⟩

theorem atomOKP_bool (cfg : Cfg) (ryu : Nat → List UInt8) (b : Bool) :
    ListRT.AtomOKP (pof cfg.opts) cfg ryu (.bool b) :=
  atomOKP_plain cfg ryu _ nofun nofun ⟨trivial, rfl⟩

theorem atomOKP_pos (cfg : Cfg) (ryu : Nat → List UInt8) (n : Nat) (hn : n ≤ u64Max) :
    ListRT.AtomOKP (pof cfg.opts) cfg ryu (.number (.pos n)) :=
  atomOKP_plain cfg ryu _ nofun nofun ⟨hn, rfl⟩

theorem atomOKP_neg (cfg : Cfg) (ryu : Nat → List UInt8) (i : Int) (h1 : i64Min ≤ i)
    (h2 : i < 0) : ListRT.AtomOKP (pof cfg.opts) cfg ryu (.number (.neg i)) :=
  atomOKP_plain cfg ryu _ nofun nofun ⟨⟨h1, h2⟩, rfl⟩

theorem atomOKP_char (cfg : Cfg) (ryu : Nat → List UInt8) (c : Nat) (hsc : isScalar c = true) :
    ListRT.AtomOKP (pof cfg.opts) cfg ryu (.char c) :=
  atomOKP_plain cfg ryu _ nofun nofun ⟨hsc, rfl⟩

theorem atomOKP_string (cfg : Cfg) (ryu : Nat → List UInt8) (b : List UInt8)
    (hv : Utf8.valid b = true) : ListRT.AtomOKP (pof cfg.opts) cfg ryu (.string b) :=
  atomOKP_plain cfg ryu _ nofun nofun ⟨hv, rfl⟩

theorem atomOKP_bytes (cfg : Cfg) (ryu : Nat → List UInt8) (bs : List UInt8) :
    ListRT.AtomOKP (pof cfg.opts) cfg ryu (.bytes bs) :=
  atomOKP_plain cfg ryu _ nofun nofun ⟨trivial, rfl⟩

theorem head_of_digit (d : UInt8) (tl : List UInt8) (hd : isDigit d = true) :
    ListRT.ElemHead (d :: tl) :=
  ListRT.head_of_nonterm d tl (digit_nonterm d hd) (digit_disp d hd).2.2.2.2.2

theorem atomOKH_symbol (H : List UInt8 → Prop) (cfg : Cfg) (ryu : Nat → List UInt8)
    (n : List UInt8) (himg : SymImg cfg n) (hH : H n) :
    AtomOKH H (pof cfg.opts) cfg ryu (.symbol n) := by
  obtain ⟨hv, hnt, hsrc⟩ := himg
  have htext : atomTextP (pof cfg.opts) ryu (.symbol n) = n := atomTextP_symbol _ _ _
  have hat : IsAtom (.symbol n) := ⟨rfl, rfl, nofun⟩
  rcases hsrc with ⟨hshape, htok⟩ | ⟨hld, ⟨d, tl, rfl, hd⟩, hw, htok⟩ | ⟨hra, body, rfl⟩
  · cases n with
    | nil => simp [nameShape] at hshape
    | cons b tl =>
      refine atomOKH_of_token H cfg ryu _ hat (by rw [htext]; exact hH) htext (hnt b (by simp))
        (tok := .symbol (b :: tl)) rfl ?_
      intro fuel s rest hF hf hrest _
      rw [name_token cfg fuel b tl rest s hshape hv hrest hF hf, htok]
  · refine atomOKH_of_token H cfg ryu _ hat (by rw [htext]; exact hH) htext (hnt d (by simp))
      (tok := .symbol (d :: tl)) rfl ?_
    intro fuel s rest hF hf hrest _
    rw [digit_token cfg fuel d tl rest s hld hd hnt hv hrest hF hf, hw, htok]
  · refine atomOKH_of_token H cfg ryu _ hat (by rw [htext]; exact hH) htext (by decide)
      (tok := .symbol (35 :: 37 :: body)) rfl ?_
    intro fuel s rest hF hf hrest _
    exact racket_token cfg fuel body rest s hra (fun x hx => hnt x (by simp [hx])) hv hrest hF hf

theorem symbol_elemHead (cfg : Cfg) (n : List UInt8) (himg : SymImg cfg n)
    (hdot : ListRT.dotHeadOk n = true) : ListRT.ElemHead n := by
  obtain ⟨-, -, hsrc⟩ := himg
  rcases hsrc with ⟨hshape, -⟩ | ⟨-, ⟨d, tl, rfl, hd⟩, -, -⟩ | ⟨-, body, rfl⟩
  · cases n with
    | nil => simp [nameShape] at hshape
    | cons b tl => exact ListRT.elemHead_name cfg b tl hshape hdot
  · exact head_of_digit d tl hd
  · exact ListRT.head_of_byte 35 _ (by decide) (by decide) (by decide) (by decide) (by decide)

theorem atomOKP_symbol (cfg : Cfg) (ryu : Nat → List UInt8) (n : List UInt8)
    (himg : SymImg cfg n) (hdot : ListRT.dotHeadOk n = true) :
    ListRT.AtomOKP (pof cfg.opts) cfg ryu (.symbol n) :=
  atomOKH_symbol ListRT.ElemHead cfg ryu n himg (symbol_elemHead cfg n himg hdot)

/-- the keyword named `.` can be read (from `.:`) but `#:.` and `:.` are rejected -/
def kwDotOk (r : Options) : Value → Bool
  | .keyword n => (pof r).keyword == .colonPostfix || n != [46]
  | _ => true

theorem pof_keyword_cases (r : Options) :
    (r.kwOctothorpe = true ∧ (pof r).keyword = .octothorpe) ∨
    (r.kwOctothorpe = false ∧ r.kwPrefix = true ∧ (pof r).keyword = .colonPrefix) ∨
    (r.kwOctothorpe = false ∧ r.kwPrefix = false ∧ r.kwPostfix = true ∧
      (pof r).keyword = .colonPostfix) ∨
    (r.kwOctothorpe = false ∧ r.kwPrefix = false ∧ r.kwPostfix = false ∧
      (pof r).keyword = .octothorpe) := by
  cases h1 : r.kwOctothorpe <;> cases h2 : r.kwPrefix <;> cases h3 : r.kwPostfix <;>
    simp [pof, h1, h2, h3]

theorem atomOKH_keyword (H : List UInt8 → Prop) (cfg : Cfg) (ryu : Nat → List UInt8)
    (n : List UInt8) (himg : KwImg cfg n) (hkd : kwDotOk cfg.opts (.keyword n) = true)
    (hH : H (atomTextP (pof cfg.opts) ryu (.keyword n))) :
    AtomOKH H (pof cfg.opts) cfg ryu (.keyword n) := by
  obtain ⟨hv, hnt, hsrc⟩ := himg
  have htext := atomTextP_keyword (pof cfg.opts) ryu n
  have hat : IsAtom (.keyword n) := ⟨rfl, rfl, nofun⟩
  rcases pof_keyword_cases cfg.opts with ⟨ho, hk⟩ | ⟨ho, hp, hk⟩ | ⟨ho, hp, hpo, hk⟩ |
      ⟨ho, hp, hpo, hk⟩
  · -- `#:name`
    rw [hk] at htext
    simp only at htext
    have hn46 : n ≠ [46] := by simpa [kwDotOk, hk] using hkd
    refine atomOKH_of_token H cfg ryu _ hat hH htext (by decide) (tok := .keyword n) rfl ?_
    intro fuel s rest hF hf hrest _
    rw [kw_octothorpe_aux cfg fuel n rest s ho hrest hF hf hnt hn46 (Or.inr hv)]
    rfl
  · -- `:name`
    rw [hk] at htext
    simp only at htext
    have hn46 : n ≠ [46] := by simpa [kwDotOk, hk] using hkd
    refine atomOKH_of_token H cfg ryu _ hat hH htext (by decide) (tok := .keyword n) rfl ?_
    intro fuel s rest hF hf hrest _
    exact colon_prefix_arm cfg fuel n rest s hp hrest hF hf hnt hn46 (Or.inr hv)
  · -- `name:`: read by the arm of the first byte of the name, then classified by the last
    rw [hk] at htext
    simp only at htext
    rcases hsrc with ⟨h, _⟩ | ⟨_, hne, hsrc⟩
    · rcases h with h | h
      · rw [ho] at h; exact Bool.noConfusion h
      · rw [hp] at h; exact Bool.noConfusion h
    have hv' : Utf8.valid (n ++ [58]) = true := valid_snoc58 n hv
    cases n with
    | nil => exact absurd rfl hne
    | cons b tl =>
      simp only [List.cons_append] at htext hv' hsrc
      refine atomOKH_of_token H cfg ryu _ hat hH (tl := tl ++ [58]) htext (hnt b (by simp))
        (tok := .keyword (b :: tl)) rfl ?_
      intro fuel s rest hF hf hrest _
      rcases hsrc with ⟨hshape, htok⟩ | ⟨hld, ⟨d, tl', hdd, hd⟩, hw⟩
      · rw [name_token cfg fuel b (tl ++ [58]) rest s hshape hv' hrest hF hf]
        exact congrArg (Res.ok · _) htok
      · cases hdd
        have hnt' : NonTerm (b :: (tl ++ [58])) := by
          intro x hx
          rcases List.mem_append.mp (show x ∈ (b :: tl) ++ [58] from hx) with hx | hx
          · exact hnt x hx
          · rw [List.mem_singleton.mp hx]; decide
        rw [digit_token cfg fuel b (tl ++ [58]) rest s hld hd hnt' hv' hrest hF hf, hw]
        have hl : (b :: (tl ++ [58])).getLast? = some 58 := List.getLast?_concat (l := b :: tl)
        have hdl : (b :: (tl ++ [58])).dropLast = b :: tl := List.dropLast_concat (l₁ := b :: tl)
        simp [symbolToken, hpo, hl, hdl]
  · -- no keyword syntax at all: no keyword can have been read
    exfalso
    rcases hsrc with ⟨h, _⟩ | ⟨h, _⟩
    · rcases h with h | h
      · rw [ho] at h; exact Bool.noConfusion h
      · rw [hp] at h; exact Bool.noConfusion h
    · rw [hpo] at h; exact Bool.noConfusion h

theorem keyword_elemHead (cfg : Cfg) (ryu : Nat → List UInt8) (n : List UInt8)
    (himg : KwImg cfg n) (hdot : ListRT.dotOkP (pof cfg.opts) (.keyword n) = true) :
    ListRT.ElemHead (atomTextP (pof cfg.opts) ryu (.keyword n)) := by
  obtain ⟨-, -, hsrc⟩ := himg
  have htext := atomTextP_keyword (pof cfg.opts) ryu n
  have hb : ∀ (c : UInt8) (tl : List UInt8),
      (!isTrivia c && c != 59 && c != 41 && c != 93 && c != 46) = true →
      ListRT.ElemHead (c :: tl) := by
    intro c tl h
    simp only [Bool.and_eq_true, Bool.not_eq_true', bne_iff_ne, ne_eq] at h
    exact ListRT.head_of_byte c tl h.1.1.1.1 h.1.1.1.2 h.1.1.2 h.1.2 h.2
  rcases pof_keyword_cases cfg.opts with ⟨ho, hk⟩ | ⟨ho, hp, hk⟩ | ⟨ho, hp, hpo, hk⟩ |
      ⟨ho, hp, hpo, hk⟩
  · rw [hk] at htext; simp only at htext; rw [htext]; exact hb _ _ (by decide)
  · rw [hk] at htext; simp only at htext; rw [htext]; exact hb _ _ (by decide)
  · rw [hk] at htext
    simp only at htext
    have hdot' : ListRT.dotHeadOk (n ++ [58]) = true := by simpa [ListRT.dotOkP, hk] using hdot
    rcases hsrc with ⟨h, _⟩ | ⟨_, hne, hsrc⟩
    · rcases h with h | h
      · rw [ho] at h; exact Bool.noConfusion h
      · rw [hp] at h; exact Bool.noConfusion h
    cases n with
    | nil => exact absurd rfl hne
    | cons b tl =>
      rw [htext]
      rcases hsrc with ⟨hshape, -⟩ | ⟨-, ⟨d, tl', hdd, hd⟩, -⟩
      · exact ListRT.elemHead_name cfg b (tl ++ [58]) (by simpa using hshape)
          (by simpa using hdot')
      · simp only [List.cons.injEq] at hdd
        obtain ⟨rfl, rfl⟩ := hdd
        exact head_of_digit b (tl ++ [58]) hd
  · rw [hk] at htext; simp only at htext; rw [htext]; exact hb _ _ (by decide)

theorem atomOKP_keyword (cfg : Cfg) (ryu : Nat → List UInt8) (n : List UInt8)
    (himg : KwImg cfg n) (hdot : ListRT.dotOkP (pof cfg.opts) (.keyword n) = true)
    (hkd : kwDotOk cfg.opts (.keyword n) = true) :
    ListRT.AtomOKP (pof cfg.opts) cfg ryu (.keyword n) :=
  atomOKH_keyword ListRT.ElemHead cfg ryu n himg hkd (keyword_elemHead cfg ryu n himg hdot)

/-- a keyword in the image proves that a keyword syntax is enabled: that the printer options `pof`
    are compatible with the reader's is proved, not assumed -/
theorem kwImg_enabled (cfg : Cfg) (n : List UInt8) (h : KwImg cfg n) :
    (cfg.opts.kwPrefix || cfg.opts.kwPostfix || cfg.opts.kwOctothorpe) = true := by
  obtain ⟨-, -, hsrc⟩ := h
  rcases hsrc with ⟨h | h, _⟩ | ⟨h, _⟩ <;> simp [h]

end Image
end Parse
end Lexpr
