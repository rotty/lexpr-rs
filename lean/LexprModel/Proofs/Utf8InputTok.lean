/-
  C17, input clause, at the token scanner (`parse_token`), for the sources that validate (slice
  and stream: `S.rd.mode ≠ .str`; the input of the `&str` source is valid UTF-8 by its type): if a
  token is accepted, the bytes it consumed are valid UTF-8.

  Under the R6RS string syntax (namespace `InTok`) this holds without condition: an R6RS escape is
  ASCII text and always appends a non-empty well-formed text (`parseR6rsEscape_shape`), so the
  automaton run over the input and the run over the scratch buffer never part
  (`parseR6rsStr_inv`), and the buffer is validated at the closing quote.  The model has one path
  for the slice and the stream reader (the borrowed fast path of `SliceRead::parse_r6rs_str`
  returns the same bytes and is validated by the same `as_str`) and, like the Rust code, no `|…|`
  symbols.  Characters have no corner case under either syntax: an Emacs character escape denotes
  a code point, never a raw byte, and is ASCII text.

  Under the Emacs Lisp string syntax (namespace `InAllOpts`: every option set) a string whose text
  is not valid UTF-8 can be accepted, in the ways recorded in `Utf8InputLoop`.  Each of them needs
  a backslash directly followed by `x` or an octal digit (a byte string exists only after a
  numeric escape), or by a blank.  `NoNumEsc l` excludes the first two and is enough, because
  `parse_elisp_escape` rejects a continuation byte behind `\ `; `NoByteEsc l` excludes the blank
  as well, and its statements are corollaries (`NoByteEsc.toNum`).  Both are syntactic conditions
  on the input, closed under taking infixes.
-/
import LexprModel.Proofs.Utf8InputLoop
namespace Lexpr
namespace Parse
namespace InAllOpts
open Utf8 Utf8.U8 Parse.U8 InLoop InTok

/-- every byte of `l` that directly follows a backslash satisfies `P`.  `NoByteEsc` and `NoNumEsc`
    are this condition for two choices of `P` (they unfold to it), and what they are closed under is
    shown here once. -/
def EscTo (P : UInt8 → Prop) (l : List UInt8) : Prop :=
  ∀ pre c post, l = pre ++ 92 :: c :: post → P c

theorem EscTo.suffix {P : UInt8 → Prop} {p l : List UInt8} (h : EscTo P (p ++ l)) : EscTo P l := by
  intro pre c post hl
  exact h (p ++ pre) c post (by rw [hl, List.append_assoc])

theorem EscTo.prefix {P : UInt8 → Prop} {l q : List UInt8} (h : EscTo P (l ++ q)) : EscTo P l := by
  intro pre c post hl
  exact h pre c (post ++ q) (by rw [hl]; simp)

theorem EscTo.nil {P : UInt8 → Prop} : EscTo P [] := by
  intro pre c post h
  cases pre <;> cases h

/-- byte by byte: a backslash at the head asks `P` of the byte behind it -/
theorem EscTo.cons {P : UInt8 → Prop} {b : UInt8} {t : List UInt8}
    (hb : b = 92 → ∀ c r, t = c :: r → P c) (ht : EscTo P t) : EscTo P (b :: t) := by
  intro pre c post hl
  cases pre with
  | nil =>
    simp only [List.nil_append, List.cons.injEq] at hl
    exact hb hl.1 c post hl.2
  | cons x pre' =>
    simp only [List.cons_append, List.cons.injEq] at hl
    exact ht pre' c post hl.2

/-- no backslash of `l` is directly followed by a blank, by `x`, or by an octal digit -/
def NoByteEsc (l : List UInt8) : Prop :=
  ∀ pre c post, l = pre ++ 92 :: c :: post → c ≠ 32 ∧ c ≠ 120 ∧ ¬ (48 ≤ c ∧ c ≤ 55)

theorem NoByteEsc.suffix {p l : List UInt8} (h : NoByteEsc (p ++ l)) : NoByteEsc l :=
  EscTo.suffix h

theorem NoByteEsc.prefix {l q : List UInt8} (h : NoByteEsc (l ++ q)) : NoByteEsc l :=
  EscTo.prefix h

theorem NoByteEsc.infix {p l q : List UInt8} (h : NoByteEsc (p ++ l ++ q)) : NoByteEsc l :=
  (NoByteEsc.prefix h).suffix

theorem NoByteEsc.of_suffix {l l' : List UInt8} (h : NoByteEsc l) (hs : l' <:+ l) :
    NoByteEsc l' := by
  obtain ⟨p, rfl⟩ := hs
  exact h.suffix

theorem NoByteEsc.nil : NoByteEsc [] := EscTo.nil

/-- the byte allowed after a backslash -/
def okAfter (c : UInt8) : Bool := c != 32 && c != 120 && !(decide (48 ≤ c) && decide (c ≤ 55))

/-- the condition, as a program -/
def noByteEscB : List UInt8 → Bool
  | [] => true
  | b :: t => (b != 92 || (match t with | [] => true | c :: _ => okAfter c)) && noByteEscB t

theorem okAfter_spec {c : UInt8} (h : okAfter c = true) :
    c ≠ 32 ∧ c ≠ 120 ∧ ¬ (48 ≤ c ∧ c ≤ 55) := by
  simp only [okAfter, Bool.and_eq_true, bne_iff_ne, ne_eq, Bool.not_eq_true',
    Bool.and_eq_false_iff, decide_eq_false_iff_not] at h
  refine ⟨h.1.1, h.1.2, fun hc => ?_⟩
  rcases h.2 with h2 | h2
  · exact h2 hc.1
  · exact h2 hc.2

theorem noByteEscB_spec : ∀ {l : List UInt8}, noByteEscB l = true → NoByteEsc l
  | [], _ => NoByteEsc.nil
  | b :: t, h => by
    simp only [noByteEscB, Bool.and_eq_true, Bool.or_eq_true, bne_iff_ne, ne_eq] at h
    refine EscTo.cons (fun hb c r ht => ?_) (noByteEscB_spec h.2)
    subst ht
    exact okAfter_spec (h.1.resolve_left fun hn => hn hb)

theorem NoByteEsc.of_no92 {l : List UInt8} (h : ∀ b ∈ l, b ≠ 92) : NoByteEsc l := by
  intro pre c post hl
  exact absurd rfl (h 92 (by rw [hl]; simp))

/-! ### the condition without the blank

  Because of the check behind an escaped blank (`parse_elisp_escape`, the arm `b' '`) the blank does
  not join a sequence, and the condition only has to exclude the NUMERIC escapes. -/

/-- no backslash of `l` is directly followed by `x` or by an octal digit -/
def NoNumEsc (l : List UInt8) : Prop :=
  ∀ pre c post, l = pre ++ 92 :: c :: post → c ≠ 120 ∧ ¬ (48 ≤ c ∧ c ≤ 55)

theorem NoByteEsc.toNum {l : List UInt8} (h : NoByteEsc l) : NoNumEsc l :=
  fun pre c post hl => (h pre c post hl).2

theorem NoNumEsc.suffix {p l : List UInt8} (h : NoNumEsc (p ++ l)) : NoNumEsc l :=
  EscTo.suffix h

theorem NoNumEsc.prefix {l q : List UInt8} (h : NoNumEsc (l ++ q)) : NoNumEsc l :=
  EscTo.prefix h

theorem NoNumEsc.nil : NoNumEsc [] := EscTo.nil

/-- the byte allowed after a backslash -/
def okAfterNum (c : UInt8) : Bool := c != 120 && !(decide (48 ≤ c) && decide (c ≤ 55))

/-- the condition, as a program -/
def noNumEscB : List UInt8 → Bool
  | [] => true
  | b :: t => (b != 92 || (match t with | [] => true | c :: _ => okAfterNum c)) && noNumEscB t

theorem okAfterNum_spec {c : UInt8} (h : okAfterNum c = true) :
    c ≠ 120 ∧ ¬ (48 ≤ c ∧ c ≤ 55) := by
  simp only [okAfterNum, Bool.and_eq_true, bne_iff_ne, ne_eq, Bool.not_eq_true',
    Bool.and_eq_false_iff, decide_eq_false_iff_not] at h
  refine ⟨h.1, fun hc => ?_⟩
  rcases h.2 with h2 | h2
  · exact h2 hc.1
  · exact h2 hc.2

theorem noNumEscB_spec : ∀ {l : List UInt8}, noNumEscB l = true → NoNumEsc l
  | [], _ => NoNumEsc.nil
  | b :: t, h => by
    simp only [noNumEscB, Bool.and_eq_true, Bool.or_eq_true, bne_iff_ne, ne_eq] at h
    refine EscTo.cons (fun hb c r ht => ?_) (noNumEscB_spec h.2)
    subst ht
    exact okAfterNum_spec (h.1.resolve_left fun hn => hn hb)

/-- **Over a body without numeric escapes the loop never leaves the clean case** (the
    escaped blank may occur): entered with `ub = false` and `hi` down, it
    ends with a string — never a byte string — and with `hi` down. -/
theorem parseElispStrT_clean_num (f : Nat) : ∀ {acc : List UInt8} {ub mb na : Bool}
    {fl0 fl : Flags} {S S' : St} {r : ElispStr},
    parseElispStrT f acc ub mb na fl0 S = .ok (r, fl) S' →
    ∃ w, S.rd.rest = w ++ 34 :: S'.rd.rest ∧
      (NoNumEsc w → ub = false → fl0.hi = false → fl.hi = false ∧ ∃ s, r = .multibyte s) := by
  induction f with
  | zero => intro acc ub mb na fl0 fl S S' r h; nomatch h
  | succ f ih =>
    intro acc ub mb na fl0 fl S S' r h
    rcases parseElispStrT_step h with ⟨hr, rfl, hq⟩ |
      ⟨c', t, out, k, s2, ub', mb', hr, hsh, hun, _, hub', hrec⟩ | ⟨c, s1, hr, hrec⟩
    · -- the closing quote: a byte string needs `ub`
      refine ⟨[], hr, fun _ hub hhi => ⟨hhi, ?_⟩⟩
      rcases hq with ⟨_, hub', _⟩ | ⟨rfl, _⟩
      · rw [hub] at hub'; cases hub'
      · exact ⟨_, rfl⟩
    · -- an escape
      obtain ⟨w2, hr2, himp⟩ := ih hrec
      refine ⟨92 :: c' :: t ++ w2, by rw [hr, hr2]; simp, fun hnb hub hhi => ?_⟩
      obtain ⟨hc120, hcoct⟩ := hnb [] c' (t ++ w2) (by simp)
      have hk : k ≠ .unibyte := fun hk => (hun hk).elim hc120 hcoct
      have hhi' : (fl0.or (escFlags acc (c' :: (t ++ s2.rd.rest)) (acc ++ out) k)).hi = false := by
        cases k
        · exact absurd rfl hk
        · simp only [Flags.or, escFlags, hhi, Bool.false_or]
        · simp only [Flags.or, escFlags, hhi, Bool.false_or]
      exact himp (NoNumEsc.suffix (p := 92 :: c' :: t) hnb) ((hub' hk).trans hub) hhi'
    · -- a raw byte
      obtain ⟨w2, hr2, himp⟩ := ih hrec
      exact ⟨c :: w2, by rw [hr, hr2]; rfl,
        fun hnb hub hhi => himp (NoNumEsc.suffix (p := [c]) hnb) hub hhi⟩

/-- **Emacs Lisp strings over a body without numeric escapes**: the result is a string and the
    body consumed — up to and including the closing quote — is valid UTF-8
    (`C17_elisp_input_valid_noblank`). -/
theorem parseElispStr_vc_num {fuel : Nat} {S S' : St} {r : ElispStr}
    (h : parseElispStr fuel [] false false false S = .ok r S')
    (hnb : ∀ w, S.rd.rest = w ++ S'.rd.rest → NoNumEsc w) :
    VC S S' ∧ ∃ s, r = .multibyte s := by
  obtain ⟨fl, ht⟩ := parseElispStrT_of_ok {} h
  obtain ⟨w0, hr0, himp⟩ := parseElispStrT_clean_num fuel ht
  have hw : S.rd.rest = (w0 ++ [34]) ++ S'.rd.rest := by rw [hr0]; simp
  have hnb0 : NoNumEsc w0 := (hnb _ hw).prefix
  obtain ⟨hhi, s, rfl⟩ := himp hnb0 rfl rfl
  have hm := ((SufP.parseElispStr fuel [] false false false).ok _ _ _ h).1
  exact ⟨⟨hm, w0 ++ [34], C17_elisp_input_valid_noblank ht valid_nil hw hhi, hw⟩, s, rfl⟩

theorem parseElispStr_vc {fuel : Nat} {S S' : St} {r : ElispStr}
    (h : parseElispStr fuel [] false false false S = .ok r S')
    (hnb : ∀ w, S.rd.rest = w ++ S'.rd.rest → NoByteEsc w) :
    VC S S' ∧ ∃ s, r = .multibyte s :=
  parseElispStr_vc_num h (fun w hw => (hnb w hw).toNum)

/-- **Every token consumes a valid chunk, for every option set** (slice and stream sources).
    Under the Emacs Lisp string syntax the text of the token must satisfy `NoNumEsc`. -/
theorem parseToken_vc_all_num {cfg : Cfg} {fuel : Nat} {pk : UInt8} {s s' : St} {tok : Token}
    (h : parseToken cfg fuel pk s = .ok tok s') (hpk : s.rd.rest.head? = some pk)
    (hm : s.rd.mode ≠ .str)
    (hnb : cfg.opts.string = .elisp → ∀ w, s.rd.rest = w ++ s'.rd.rest → NoNumEsc w) :
    VC s s' := by
  refine ((parseToken_eats h hpk).2 (fun hel s1 r he hp => ?_)).vc hm
  obtain ⟨_, w1, _, hr1⟩ := he
  refine .of_vc (parseElispStr_vc_num hp (fun w hw => ?_)).1
  exact NoNumEsc.suffix (p := w1) (hnb hel (w1 ++ w) (by rw [hr1, hw, List.append_assoc]))

theorem parseToken_vc_all {cfg : Cfg} {fuel : Nat} {pk : UInt8} {s s' : St} {tok : Token}
    (h : parseToken cfg fuel pk s = .ok tok s') (hpk : s.rd.rest.head? = some pk)
    (hm : s.rd.mode ≠ .str)
    (hnb : cfg.opts.string = .elisp → ∀ w, s.rd.rest = w ++ s'.rd.rest → NoByteEsc w) :
    VC s s' :=
  parseToken_vc_all_num h hpk hm (fun hel w hw => (hnb hel w hw).toNum)

/-- **C17, input clause, every token, EVERY option set** (slice and stream sources): if
    `parse_token` accepts and — only needed under the Emacs Lisp string syntax — the text `w` of
    the token has no backslash directly followed by `x` or an octal digit, then `w` is
    valid UTF-8. -/
theorem C17_token_input_valid_all_num {cfg : Cfg} {fuel : Nat} {pk : UInt8} {S S' : St} {tok : Token}
    {w : List UInt8} (h : parseToken cfg fuel pk S = .ok tok S')
    (hpk : S.rd.rest.head? = some pk) (hm : S.rd.mode ≠ .str)
    (hw : S.rd.rest = w ++ S'.rd.rest) (hnb : cfg.opts.string = .elisp → NoNumEsc w) :
    Utf8.valid w = true := by
  refine (parseToken_vc_all_num h hpk hm (fun hel w' hw' => ?_)).valid_of hw
  have : w' = w := List.append_cancel_right (hw'.symm.trans hw)
  rw [this]
  exact hnb hel

theorem C17_token_input_valid_all {cfg : Cfg} {fuel : Nat} {pk : UInt8} {S S' : St} {tok : Token}
    {w : List UInt8} (h : parseToken cfg fuel pk S = .ok tok S')
    (hpk : S.rd.rest.head? = some pk) (hm : S.rd.mode ≠ .str)
    (hw : S.rd.rest = w ++ S'.rd.rest) (hnb : cfg.opts.string = .elisp → NoByteEsc w) :
    Utf8.valid w = true :=
  C17_token_input_valid_all_num h hpk hm hw (fun hel => (hnb hel).toNum)

/-- under the condition, the Emacs Lisp string syntax never yields a byte string -/
theorem elisp_token_not_bytes_num {cfg : Cfg} {fuel : Nat} {S S' : St} {tok : Token}
    {w : List UInt8} (h : parseToken cfg fuel 34 S = .ok tok S')
    (hel : cfg.opts.string = .elisp) (hpk : ∃ tl, S.rd.rest = 34 :: tl)
    (hw : S.rd.rest = w ++ S'.rd.rest) (hnb : NoNumEsc w) : ∃ s, tok = .string s := by
  obtain ⟨S1, r, fl, hr1, ht, htok, _, _⟩ := C17_elisp_token_input_valid h hel hpk hw
  have hp := parseElispStrT_ok ht
  obtain ⟨_, s, rfl⟩ := parseElispStr_vc_num hp (fun w' hw' => by
    have : w = 34 :: w' := by
      have : w ++ S'.rd.rest = (34 :: w') ++ S'.rd.rest := by rw [← hw, hr1, hw']; rfl
      exact List.append_cancel_right this
    rw [this] at hnb
    exact NoNumEsc.suffix (p := [34]) hnb)
  exact ⟨s, htok⟩

theorem elisp_token_not_bytes {cfg : Cfg} {fuel : Nat} {S S' : St} {tok : Token}
    {w : List UInt8} (h : parseToken cfg fuel 34 S = .ok tok S')
    (hel : cfg.opts.string = .elisp) (hpk : ∃ tl, S.rd.rest = 34 :: tl)
    (hw : S.rd.rest = w ++ S'.rd.rest) (hnb : NoByteEsc w) : ∃ s, tok = .string s :=
  elisp_token_not_bytes_num h hel hpk hw hnb.toNum

end InAllOpts
end Parse
end Lexpr

namespace Lexpr
namespace Parse
namespace InTok
open Utf8 Utf8.U8 Parse.U8 InLoop

theorem VC.ne_str {s s' : St} (h : VC s s') (hm : s.rd.mode ≠ .str) : s'.rd.mode ≠ .str := by
  rw [h.1]; exact hm

theorem VC.same' {s0 s s1 : St} (h : VC s0 s) (hm : s1.rd.mode = s.rd.mode)
    (hr : s1.rd.rest = s.rd.rest) : VC s0 s1 := h.trans (VC.same hm hr)

theorem parseR6rsStr_vc {f : Nat} {acc : List UInt8} {S S' : St} {out : List UInt8}
    (h : parseR6rsStr f acc S = .ok out S') (hm : S.rd.mode ≠ .str) (hacc : valid acc = true) :
    VC S S' := (parseR6rsStr_eats h hacc).vc hm

theorem parseSymbolBytes_vc {scratch : List UInt8} {s s' : St} {name : List UInt8}
    (h : parseSymbolBytes scratch s = .ok name s') (hm : s.rd.mode ≠ .str)
    (hsc : valid scratch = true) : VC s s' := (parseSymbolBytes_eats h hsc).vc hm

theorem parseSignToken_vc {cfg : Cfg} {fuel : Nat} {sign : UInt8} {pos : Bool} {s0 s s' : St}
    {tok : Token} (h : parseSignToken cfg fuel sign pos s = .ok tok s') (hsign : sign < 0x80)
    (hs : VC s0 s) (hm : s0.rd.mode ≠ .str) (hhead : HeadA s) : VC s0 s' :=
  hs.trans ((parseSignToken_eats h hsign hhead).2.vc (hs.ne_str hm))

/-- **Every token consumes a valid chunk** (slice and stream sources, R6RS string syntax; the
    character syntax and all other options are arbitrary): the case of
    `InAllOpts.parseToken_vc_all_num` in which the condition on Emacs Lisp strings is void. -/
theorem parseToken_vc {cfg : Cfg} {fuel : Nat} {pk : UInt8} {s s' : St} {tok : Token}
    (h : parseToken cfg fuel pk s = .ok tok s') (hpk : s.rd.rest.head? = some pk)
    (hm : s.rd.mode ≠ .str) (hstr6 : cfg.opts.string = .r6rs) : VC s s' :=
  InAllOpts.parseToken_vc_all_num h hpk hm (fun hel => by rw [hstr6] at hel; cases hel)

/-- **C17, input clause, R6RS strings** (slice and stream sources; `acc` is the scratch buffer at
    entry: empty, or any well-formed text): if `parse_r6rs_str` accepts, the body it consumed — the
    bytes after the opening quote up to and including the closing quote — is valid UTF-8.
    Unconditional: no escape of the R6RS syntax can join an ill-formed sequence. -/
theorem C17_r6rs_str_input_valid {fuel : Nat} {acc : List UInt8} {S S' : St} {out w : List UInt8}
    (h : parseR6rsStr fuel acc S = .ok out S') (hm : S.rd.mode ≠ .str)
    (hacc : Utf8.valid acc = true) (hw : S.rd.rest = w ++ S'.rd.rest) : Utf8.valid w = true :=
  ((parseR6rsStr_eats h hacc).vc hm).valid_of hw

/-- the body is well-formed exactly when the bytes returned are, for EVERY source (for the &str
    source this is the `from_utf8_unchecked` site: the result is not validated, and the theorem
    says it is well-formed iff the input was) -/
theorem C17_r6rs_str_input_valid_iff {fuel : Nat} {S S' : St} {out w : List UInt8}
    (h : parseR6rsStr fuel [] S = .ok out S') (hw : S.rd.rest = w ++ S'.rd.rest) :
    Utf8.valid w = Utf8.valid out := by
  obtain ⟨_, w0, hr, hsync, _⟩ := parseR6rsStr_inv fuel h
  have hw0 : w = w0 ++ [34] := body_eq hw hr
  have hrun := hsync [] rfl
  simp only [List.nil_append] at hrun
  rw [hw0, valid_snoc_ascii w0 (by decide)]
  simp only [Utf8.valid, hrun]

/-- **C17, input clause, every token** (slice and stream sources, R6RS string syntax; the
    character syntax, keyword syntaxes and all other options are arbitrary): if `parse_token`
    accepts, the text `w` of the token is valid UTF-8. -/
theorem C17_token_input_valid {cfg : Cfg} {fuel : Nat} {pk : UInt8} {S S' : St} {tok : Token}
    {w : List UInt8} (h : parseToken cfg fuel pk S = .ok tok S')
    (hpk : S.rd.rest.head? = some pk) (hm : S.rd.mode ≠ .str) (hr6 : cfg.opts.string = .r6rs)
    (hw : S.rd.rest = w ++ S'.rd.rest) : Utf8.valid w = true :=
  (parseToken_vc h hpk hm hr6).valid_of hw

/-- **C17, input clause, R6RS strings at `parse_token`** (the peeked byte is `"`): the text of the
    whole token, opening quote to closing quote, is valid UTF-8 — no exception. -/
theorem C17_r6rs_token_input_valid {cfg : Cfg} {fuel : Nat} {S S' : St} {tok : Token}
    {w : List UInt8} (h : parseToken cfg fuel 34 S = .ok tok S')
    (hr6 : cfg.opts.string = .r6rs) (hpk : ∃ tl, S.rd.rest = 34 :: tl) (hm : S.rd.mode ≠ .str)
    (hw : S.rd.rest = w ++ S'.rd.rest) : Utf8.valid w = true := by
  obtain ⟨tl, hpk⟩ := hpk
  exact C17_token_input_valid h (by rw [hpk]; rfl) hm hr6 hw

/-- **C17, input clause, symbols and keywords** at the one scanner all spellings share
    (`parse_symbol_bytes`; `scratch` is what the caller has consumed already: a sign, `.`, `#%`,
    the first — decoded — character): the bytes scanned are valid UTF-8.  For the &str source
    (`mode = .str`) the scanner does not validate and nothing is claimed: the input is a `&str`. -/
theorem C17_symbol_input_valid {scratch : List UInt8} {S S' : St} {name w : List UInt8}
    (h : parseSymbolBytes scratch S = .ok name S') (hm : S.rd.mode ≠ .str)
    (hsc : Utf8.valid scratch = true) (hw : S.rd.rest = w ++ S'.rd.rest) :
    Utf8.valid w = true ∧ name = scratch ++ w := by
  obtain ⟨hname, hr, _, _⟩ := parseSymbolBytes_spec h
  refine ⟨((parseSymbolBytes_eats h hsc).vc hm).valid_of hw, ?_⟩
  rw [hname, List.append_cancel_right (hw.symm.trans (by rw [hr, List.take_append_drop]))]

/-- **C17, input clause, symbol and keyword tokens**: whatever the spelling (`name`, `#:name`,
    `:name`, `name:`, `#%name`, `+name`, `-.name`, `1+`, `λx` …), an accepted symbol or keyword
    token consumed valid UTF-8.  (An instance of `C17_token_input_valid`; stated separately
    because it is the clause of the property.) -/
theorem C17_symbol_token_input_valid {cfg : Cfg} {fuel : Nat} {pk : UInt8} {S S' : St}
    {tok : Token} {w : List UInt8} (h : parseToken cfg fuel pk S = .ok tok S')
    (_htok : (∃ n, tok = .symbol n) ∨ (∃ n, tok = .keyword n))
    (hpk : S.rd.rest.head? = some pk) (hm : S.rd.mode ≠ .str) (hr6 : cfg.opts.string = .r6rs)
    (hw : S.rd.rest = w ++ S'.rd.rest) : Utf8.valid w = true :=
  C17_token_input_valid h hpk hm hr6 hw

/-- **C17, input clause, R6RS characters** (`parse_r6rs_char`, after `#\`; every source): the
    character text consumed — one raw character, `x<hex>`, or a name — is valid UTF-8. -/
theorem C17_char_input_valid_r6rs {fuel : Nat} {S S' : St} {c : Nat} {w : List UInt8}
    (h : parseR6rsChar fuel S = .ok c S') (hw : S.rd.rest = w ++ S'.rd.rest) :
    Utf8.valid w = true := (parseR6rsChar_vc h).valid_of hw

/-- **C17, input clause, Emacs Lisp characters** (`parse_elisp_char`, after `?`; every source):
    the character text consumed — one raw character or `\<escape>` — is valid UTF-8.  No
    exception: the corner cases of Emacs Lisp STRINGS (byte escapes, the escaped blank) do not
    exist for characters. -/
theorem C17_char_input_valid_elisp {fuel : Nat} {S S' : St} {c : Nat} {w : List UInt8}
    (h : parseElispChar fuel S = .ok c S') (hw : S.rd.rest = w ++ S'.rd.rest) :
    Utf8.valid w = true := (parseElispChar_vc h).valid_of hw

/-- **C17, input clause, character tokens** (`#\…` and, under the Emacs character syntax, `?…`) -/
theorem C17_char_token_input_valid {cfg : Cfg} {fuel : Nat} {pk : UInt8} {S S' : St} {c : Nat}
    {w : List UInt8} (h : parseToken cfg fuel pk S = .ok (.char c) S')
    (hpk : S.rd.rest.head? = some pk) (hm : S.rd.mode ≠ .str) (hr6 : cfg.opts.string = .r6rs)
    (hw : S.rd.rest = w ++ S'.rd.rest) : Utf8.valid w = true :=
  C17_token_input_valid h hpk hm hr6 hw

end InTok
end Parse
end Lexpr
