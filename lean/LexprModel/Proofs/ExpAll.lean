/-
  Property C05, accuracy clause for decimal literals with ANY written exponent
  (`C05_accuracy_all_exponents`).

  `Accuracy.C05_accuracy_any_literal` needs `|ip| + |fp| + |exponent| ≤ i32::MAX` (no
  saturation of the `i32` exponent arithmetic); `ExpOverflow.C05_exp_overflow` covers exponent
  digit strings whose value leaves `i32`.  This file closes the band in between — the written
  exponent fits `i32`, but `starting_exp.saturating_add(exp)` / `saturating_sub` may saturate —
  and states the three together: for every literal of at most `2^31 - 324` bytes the result is a
  finite double within `2^-50` relative (`+ 2^-1074`) of the exact value, or `NumberOutOfRange`.
  Where the exponent digits fit `i32` both this theorem and `C05_accuracy_any_literal` are read off
  `Accuracy.accuracy_scanned`, which leaves open whether the exponent arithmetic saturates.

  Saturation is harmless below that length: a saturated positive exponent is `i32::MAX` with a
  non-zero significand (out of range, and so is the exact value), a saturated negative one is
  `i32::MIN` (the result is below `2^-1074`, and so is the exact value).
-/
import LexprModel.Proofs.ExpOverflowVal
import LexprModel.Proofs.AccuracyEx
namespace Lexpr
namespace ExpOverflow
open Parse F64 Numbers Decimals Accuracy

/-- the three shapes of the exponent arithmetic: the sum, or one of the two saturations -/
theorem finExp_cases (se : Int) (ex : Option ExpPart) :
    finExp se ex = se + exVal ex ∨
    (∃ e, ex = some e ∧ expSignPos e.sign = true ∧ (i32Max : Int) < se + (e.abs : Int) ∧
      finExp se ex = (i32Max : Int)) ∨
    (∃ e, ex = some e ∧ expSignPos e.sign = false ∧ se - (e.abs : Int) < -(i32Max : Int) - 1 ∧
      finExp se ex = -(i32Max : Int) - 1) := by
  cases ex with
  | none => exact Or.inl (by simp [finExp, exVal])
  | some e =>
    simp only [finExp, expFin, exVal, ExpPart.val]
    cases hsg : expSignPos e.sign with
    | true =>
      simp only [if_true]
      by_cases h : se + (e.abs : Int) ≤ (i32Max : Int)
      · exact Or.inl (by omega)
      · exact Or.inr (Or.inl ⟨e, rfl, hsg, by omega, by omega⟩)
    | false =>
      simp only [Bool.false_eq_true, if_false]
      by_cases h : -(i32Max : Int) - 1 ≤ se - (e.abs : Int)
      · exact Or.inl (by omega)
      · exact Or.inr (Or.inr ⟨e, rfl, hsg, by omega, by omega⟩)

theorem tiny_sat : (2 : Rat) ^ 64 * (10 : Rat) ^ (-700 : Int) * (1 + cTight) + aTight ≤ a1074 := by
  decide +kernel

/-- a `u64` significand with a decimal exponent below `-700`: whatever `f64_from_parts`
    returns within its error bound is below `2^-1074` -/
theorem dec_sat_small {sig : Nat} {e : Int} (hs : sig ≤ u64Max) (he : e ≤ -700) :
    dec sig e * (1 + cTight) + aTight ≤ a1074 := by
  unfold dec
  have hsig : (sig : Rat) ≤ (2 : Rat) ^ 64 :=
    natCast_le_two_pow (by unfold u64Max at hs; omega)
  have h0 : (0 : Rat) ≤ (sig : Rat) := Rat.natCast_nonneg
  have h1 := ten_zpow_mono he
  have h2 := mul_le_mul_nn hsig h1 h0 (Rat.le_of_lt (ten_zpow_pos e))
  have h3 := Rat.mul_le_mul_of_nonneg_right h2 one_add_cTight_nonneg
  have := tiny_sat
  grind

set_option exponentiation.threshold 2048 in
/-- a non-zero significand with the decimal exponent `i32::MAX` is out of range (the power of
    ten is never evaluated) -/
theorem big_sat {S : Nat} (hS0 : S ≠ 0) :
    2 ^ 1024 * 10 ^ (-((i32Max : Nat) : Int)).toNat ≤ S * 10 ^ ((i32Max : Nat) : Int).toNat := by
  have e1 : (-((i32Max : Nat) : Int)).toNat = 0 := by omega
  have e2 : ((i32Max : Nat) : Int).toNat = i32Max := by omega
  rw [e1, e2, Nat.pow_zero, Nat.mul_one]
  have h1 : (10 : Nat) ^ 401 ≤ 10 ^ i32Max :=
    Nat.pow_le_pow_right (by decide) (by unfold i32Max; omega)
  have h3 : 10 ^ i32Max ≤ S * 10 ^ i32Max :=
    Nat.le_mul_of_pos_left _ (Nat.pos_of_ne_zero hS0)
  exact Nat.le_trans two1024_le_ten401 (Nat.le_trans h1 h3)

/-- with the decimal exponent `i32::MAX` every non-zero `u64` significand is `NumberOutOfRange`, in
    both builds -/
theorem parts_sat_max (cfg : Cfg) (pos : Bool) {S : Nat} (hS : S ≤ u64Max) (hS0 : S ≠ 0) (u : St) :
    f64FromParts cfg pos S (i32Max : Int) u = errAt .numberOutOfRange u := by
  cases hfast : cfg.fast with
  | true =>
    exact out_of_range_fast cfg pos S _ hfast (Nat.pos_of_ne_zero hS0) (by unfold i32Max; omega) u
  | false => exact out_of_range_slow cfg pos S _ hfast hS (big_sat hS0) u

theorem c50_facts : (0 : Rat) ≤ 1 - c50 ∧ (0 : Rat) ≤ 1 + c50 ∧ (1 : Rat) - c50 ≤ 1 ∧
    (0 : Rat) ≤ a1074 ∧ eta ≤ a1074 := by decide +kernel

theorem bounds_tiny {V v : Rat} (hV0 : 0 ≤ V) (hV : V < eta) (hv0 : 0 ≤ v) (hv : v ≤ a1074) :
    V * (1 - c50) - a1074 ≤ v ∧ v ≤ V * (1 + c50) + a1074 := by
  obtain ⟨f1, f2, f3, f4, f5⟩ := c50_facts
  have h1 := Rat.mul_le_mul_of_nonneg_left f3 hV0
  have h2 := Rat.mul_nonneg hV0 f2
  constructor <;> grind

set_option exponentiation.threshold 2048 in
/-- Every decimal float literal
    `digits [. digits] [(e|E) [+|-] digits]` — any number of significand digits, ANY exponent
    digit string — of at most `2^31 - 324` bytes, followed by the end of the input or a byte that
    is neither a digit nor `e`/`E` (nor `.` after a bare over-long integer); every option set,
    both builds (fast build: `POW10` correctly rounded, discharged for the regenerated table by
    `Accuracy.tab_rounded`), all source modes.  One of:

    * the whole literal is consumed and the result is `±g`, `g` a finite double with
      `|g - value| ≤ 2^-50 * value + 2^-1074`, `value = litValue L` the exact value of the
      written literal (never infinity or NaN);
    * `NumberOutOfRange` at the end of the literal (from `f64_from_parts`);
    * the written exponent is positive and does not fit `i32`, some significand digit is not
      zero: `NumberOutOfRange`, raised right after the exponent digit that overflowed the
      accumulator, and `value ≥ 2^1024`.

    The second case is left open here as in `C05_accuracy_any_literal` (it happens only for
    values above `1.7976931348623157e308`, resp. the known finding near `f64::MAX`).  The length
    bound is needed: `ExpOverflow.length_bound_needed`. -/
theorem C05_accuracy_all_exponents (cfg : Cfg) (fuel : Nat) (pos : Bool) (L : DecLit)
    (rest : List UInt8) (s : St)
    (hipne : L.ip ≠ []) (hipd : AllDigits L.ip)
    (hfp : ∀ g, L.fp = some g → g ≠ [] ∧ AllDigits g) (hex : ∀ e, L.ex = some e → e.WF)
    (hfloat : L.fp.isSome = true ∨ L.ex.isSome = true ∨ u64Max < dv 0 L.ip)
    (hrest : s.rd.rest = L.text ++ rest) (hstop : ScanStop rest)
    (hdot : L.fp = none → L.ex = none → (rest.head?.getD 0 == 46) = false)
    (hf : rest = [] → s.rd.faulty = false)
    (hlen : L.text.length + 324 ≤ 2 ^ 31) (hfuel : L.text.length + 1 ≤ fuel)
    (hp : cfg.fast = true → ∀ k, k ≤ 308 → cfg.pow10 k = rn (10 ^ k) 1) :
    (∃ g, parseNumLiteral cfg fuel 10 pos s =
        .ok (Number.flt (signed pos g)) (adv s L.text.length (endPeek s rest)) ∧
      g < infBits ∧
      litValue L * (1 - c50) - a1074 ≤ val g ∧ val g ≤ litValue L * (1 + c50) + a1074) ∨
    parseNumLiteral cfg fuel 10 pos s =
      errAt .numberOutOfRange (adv s L.text.length (endPeek s rest)) ∨
    (∃ e, L.ex = some e ∧ i32Max < e.abs ∧ expSignPos e.sign = true ∧ L.rawSig ≠ 0 ∧
      parseNumLiteral cfg fuel 10 pos s = errAt .numberOutOfRange (adv s (errOffset L e) false) ∧
      (2 : Rat) ^ 1024 ≤ litValue L) := by
  have hfp' : ∀ g, L.fp = some g → AllDigits g := fun g hg => (hfp g hg).2
  have hfl := fracText_length L.fp
  have hV0 : 0 ≤ litValue L := dec_nonneg _ _
  have htl : L.ip.length + (fracText L.fp).length ≤ L.text.length := by
    simp only [DecLit.text, List.length_append]; omega
  have hz := scanT_zero_iff L hipd hfp'
  by_cases hov : ∃ e, L.ex = some e ∧ i32Max < e.abs
  · -- the exponent digits leave `i32`
    obtain ⟨e, hexe, hov⟩ := hov
    obtain ⟨r0, rneg, rpos⟩ := C05_exp_overflow cfg fuel pos L e rest s hipne hipd hfp hexe
      (hex e hexe) hov hrest hstop hf hlen hfuel
    have hzero : ∀ V : Rat, 0 ≤ V → V < eta →
        V * (1 - c50) - a1074 ≤ val 0 ∧ val 0 ≤ V * (1 + c50) + a1074 := by
      intro V h1 h2
      rw [val_zero]
      exact bounds_tiny h1 h2 (Rat.le_refl) c50_facts.2.2.2.1
    by_cases h0 : L.rawSig = 0
    · obtain ⟨a, b⟩ := r0 h0
      refine Or.inl ⟨0, a, by decide, ?_⟩
      rw [b]
      exact hzero 0 Rat.le_refl eta_pos
    · cases hsg : expSignPos e.sign with
      | false =>
        obtain ⟨a, b, c⟩ := rneg h0 hsg
        exact Or.inl ⟨0, a, by decide, hzero _ (Rat.le_of_lt b) c⟩
      | true =>
        obtain ⟨a, b⟩ := rpos h0 hsg
        exact Or.inr (Or.inr ⟨e, hexe, hov, hsg, h0, a, b⟩)
  · -- the exponent fits `i32`
    have hexa : exAbs L.ex ≤ i32Max := by
      cases hx : L.ex with
      | none => simp [exAbs]
      | some e =>
        simp only [exAbs]
        exact Nat.le_of_not_lt (fun h => hov ⟨e, hx, h⟩)
    obtain ⟨ip, fp, ex⟩ := L
    simp only [] at hipd hfp' hfl htl hexa hV0 hz
    rw [scanT_fst_ex ip fp ex none] at hz
    obtain ⟨hS, hlo, hhi⟩ := DecLit.scanT0_bounds ip fp hipd hfp'
    rcases accuracy_scanned cfg fuel pos ip fp ex rest s hipne hipd hfp hex hfloat hrest hstop hdot
      hf (by unfold i32Max; omega) hexa hfuel hp with ⟨g, hok, e3, hr, e4, e5, hexact⟩ | he
    · refine Or.inl ⟨g, hok, e3, ?_⟩
      generalize (DecLit.scanT ⟨ip, fp, none⟩).1 = S at *
      generalize (DecLit.scanT ⟨ip, fp, none⟩).2 = se at *
      rcases finExp_cases se ex with hsum | ⟨e, rfl, hsg, hsat, hfin⟩ | ⟨e, rfl, hsg, hsat, hfin⟩
      · exact hexact hsum
      · -- saturated at `i32::MAX`: only a zero significand gets here
        rw [hfin] at hr e4 e5
        by_cases hS0 : S = 0
        · subst hS0
          rw [litValue_zero _ (hz.mp rfl)]
          rw [dec_zero_left] at e4 e5
          have := aTight_le
          constructor <;> grind
        · rw [parts_sat_max cfg pos hS hS0] at hr
          cases hr
      · -- saturated at `i32::MIN`: result and exact value are both below `2^-1074`
        rw [hfin] at e5
        have hsmall := dec_sat_small (sig := S) (e := -(i32Max : Int) - 1) hS
          (by unfold i32Max; omega)
        have hlit : litValue ⟨ip, fp, some e⟩ < eta :=
          litValue_tiny ⟨ip, fp, some e⟩ e rfl hsg hipd hfp' (by
            simp only [DecLit.text, List.length_append] at hlen ⊢
            unfold i32Max at hsat
            omega)
        exact bounds_tiny hV0 hlit (val_nonneg g) (Rat.le_trans e5 hsmall)
    · exact Or.inr (Or.inl he)

/-! ## 4. The hypotheses are satisfiable -/

/-- `1.50e+99999999999` (exponent beyond `i32`), default build with the regenerated table -/
example (pos : Bool) :=
  C05_accuracy_all_exponents exCfgFast 30 pos exOver (asc ")") (exSt (exOver.text ++ asc ")"))
    exOver_wf.1 exOver_wf.2.1 exOver_wf.2.2.1 exOver_wf.2.2.2.1
    (Or.inl rfl) rfl (by decide) (fun h => by cases h) (fun h => by cases h) (by decide)
    (by decide) (fun _ => tab_rounded)

/-- `1.25e-23` (an ordinary exponent), both builds -/
example (pos : Bool) :=
  C05_accuracy_all_exponents exCfgFast 11 pos exLit2 (asc ")") (exSt (exLit2.text ++ asc ")"))
    exLit2_wf.1 exLit2_wf.2.1 exLit2_wf.2.2.1 exLit2_wf.2.2.2.1
    (Or.inl rfl) rfl (by decide) (fun h => by cases h) (fun h => by cases h) (by decide)
    (by decide) (fun _ => tab_rounded)
example (pos : Bool) :=
  C05_accuracy_all_exponents exCfgSlow 11 pos exLit2 (asc ")") (exSt (exLit2.text ++ asc ")"))
    exLit2_wf.1 exLit2_wf.2.1 exLit2_wf.2.2.1 exLit2_wf.2.2.2.1
    (Or.inl rfl) rfl (by decide) (fun h => by cases h) (fun h => by cases h) (by decide)
    (by decide) (fun h => by cases h)

/-- the exponent arithmetic of the band in between, on small numbers: `saturating_add` /
    `saturating_sub` as modelled by `finExp` -/
example : finExp 5 (some ⟨101, [], asc "2147483647"⟩) = 2147483647 ∧
    finExp (-5) (some ⟨101, [], asc "2147483647"⟩) = 2147483642 ∧
    finExp (-5) (some ⟨101, [45], asc "2147483647"⟩) = -2147483648 ∧
    finExp 5 (some ⟨101, [45], asc "2147483647"⟩) = -2147483642 := by decide

#print axioms C05_accuracy_all_exponents

end ExpOverflow
end Lexpr
