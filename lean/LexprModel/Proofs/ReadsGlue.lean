/-
  ReadsGlue — what the first byte of an atom's text has to be for the element loops (`ElemHead`),
  kind by kind: a byte that ends no symbol, a digit, the `#` of a Scheme character, the `?` of an
  Emacs Lisp one; `dotHeadOk` is the condition on a name that starts with `.`.
-/
import LexprModel.Proofs.Reads
import LexprModel.Proofs.AtomRT
namespace Lexpr
namespace Parse
namespace ListRT
open Print

theorem head_of_nonterm (c : UInt8) (tl : List UInt8) (h : symTermSlice c = false) (h46 : c ≠ 46) :
    ElemHead (c :: tl) := by
  obtain ⟨h1, h2, h3, h4⟩ := nonterm_weak h
  exact head_of_byte c tl h1 h2 h3 h4 h46

/-- a leading `.` must be followed by a byte that is neither NUL nor a delimiter (`|`, `"` are
    the two delimiters a plain identifier may contain) -/
def dotHeadOk : List UInt8 → Bool
  | 46 :: b :: _ => b != 0 && !isDelimiter b
  | _ => true

theorem digit_head : ∀ d, d < 10 → symTermSlice (UInt8.ofNat (48 + d)) = false ∧
    UInt8.ofNat (48 + d) ≠ 46 := by decide

theorem schemeChar_head (c : Nat) : ∃ tl, schemeChar c = 35 :: tl := by
  unfold schemeChar
  split
  · exact ⟨_, rfl⟩
  · exact ⟨92 :: 120 :: natHexLower c, by
      have : asc "#\\x" = [35, 92, 120] := by decide
      simp [this]⟩

theorem elispChar_head (c : Nat) : ∃ tl, elispChar c = 63 :: tl := by
  unfold elispChar
  split
  · split <;> exact ⟨_, rfl⟩
  · exact ⟨92 :: 120 :: natHexLower c, by
      have : asc "?\\x" = [63, 92, 120] := by decide
      simp [this]⟩

end ListRT
end Parse
end Lexpr
