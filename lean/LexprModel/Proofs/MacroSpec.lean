/-
  C09 (macro half) — the `sexp!` token parser inverts the tokenisation of the documented macro
  syntax, and the generated code evaluates to the value the text denotes.
-/
import LexprModel.Macro
import LexprModel.Props.C15
namespace Lexpr
namespace Macro

/-! ## The documented syntax -/

/-- The documented `sexp!` syntax as a tree. Byte lists are UTF-8 / ASCII. -/
inductive Doc where
  | int (n : Nat)                          -- `5`
  | negInt (n : Nat)                       -- `-5`
  | float (sig : Nat) (exp : Int)          -- `1.5`
  | negFloat (sig : Nat) (exp : Int)       -- `-1.5`
  | str (src val : List UInt8)             -- `"text"` (source text, denoted string)
  | chr (c : Nat)                          -- `'c'`
  | tru | fls | nil                        -- `#t` `#f` `#nil`
  | sym (name : List UInt8)                -- a Rust identifier
  | psym (cs : List UInt8)                 -- punctuation-only symbol `!$%&*+-./:<=>?@^~`
  | qsym (src val : List UInt8)            -- `#"name"`
  | kw (name : List UInt8)                 -- `#:name`
  | ckw (name : List UInt8)                -- `:name`
  | qkw (src val : List UInt8)             -- `#:"name"`
  | cqkw (src val : List UInt8)            -- `:"name"`
  | pkw (cs : List UInt8)                  -- `#:` followed by punctuation, e.g. `#:+`
  | unq (t : Tok)                          -- `,expr` (one token tree)
  | list (xs : List Doc)                   -- `(a b c)`
  | dotted (xs : List Doc) (tail : Doc)    -- `(a b . c)`
  | vec (xs : List Doc)                    -- `#(a b c)`

/-- A run of punctuation characters written without spaces: all `joint` except the last. -/
def punctRun : List UInt8 → List Tok
  | [] => []
  | [c] => [.punct c .alone]
  | c :: d :: cs => .punct c .joint :: punctRun (d :: cs)

mutual
/-- How rustc tokenises the rendering of a `Doc`. -/
def toks : Doc → List Tok
  | .int n => [.lit (.int n)]
  | .negInt n => [.punct 45 .alone, .lit (.int n)]
  | .float s e => [.lit (.float s e)]
  | .negFloat s e => [.punct 45 .alone, .lit (.float s e)]
  | .str src val => [.lit (.str src val)]
  | .chr c => [.lit (.char c)]
  | .tru => [.punct 35 .alone, .ident (asc "t")]
  | .fls => [.punct 35 .alone, .ident (asc "f")]
  | .nil => [.punct 35 .alone, .ident (asc "nil")]
  | .sym name => [.ident name]
  | .psym cs => punctRun cs
  | .qsym src val => [.punct 35 .alone, .lit (.str src val)]
  | .kw name => [.punct 35 .joint, .punct 58 .alone, .ident name]
  | .ckw name => [.punct 58 .alone, .ident name]
  | .qkw src val => [.punct 35 .joint, .punct 58 .alone, .lit (.str src val)]
  | .cqkw src val => [.punct 58 .alone, .lit (.str src val)]
  | .pkw cs => .punct 35 .joint :: .punct 58 .joint :: punctRun cs
  | .unq t => [.punct 44 .alone, t]
  | .list xs => [.group true (toksL xs)]
  | .dotted xs t => [.group true (toksL xs ++ .punct 46 .alone :: toks t)]
  | .vec xs => [.punct 35 .alone, .group true (toksL xs)]
def toksL : List Doc → List Tok
  | [] => []
  | x :: xs => toks x ++ toksL xs
end

/-- `parse_list`'s treatment of the parsed tail. -/
def flattenTail (elements : List MV) : MV → MV
  | .list rl => .list (elements ++ rl)
  | .improper rl r => .improper (elements ++ rl) r
  | rest => .improper elements rest

mutual
/-- The macro value a `Doc` is meant to produce. -/
def mv : Doc → MV
  | .int n => .literal (.int n)
  | .negInt n => .negated (.int n)
  | .float s e => .literal (.float s e)
  | .negFloat s e => .negated (.float s e)
  | .str src val => .literal (.str src val)
  | .chr c => .literal (.char c)
  | .tru => .bool true
  | .fls => .bool false
  | .nil => .nil
  | .sym name => .symbol name
  | .psym cs => .symbol cs
  | .qsym src _ => .symbol src
  | .kw name => .keyword name
  | .ckw name => .keyword name
  | .qkw src _ => .keyword src
  | .cqkw src _ => .keyword src
  | .pkw cs => .keyword cs
  | .unq t => .unquoted t
  | .list xs => .list (mvL xs)
  | .dotted xs t => flattenTail (mvL xs) (mv t)
  | .vec xs => .vector (mvL xs)
def mvL : List Doc → List MV
  | [] => []
  | x :: xs => mv x :: mvL xs
end

mutual
/-- The S-expression value the text of a `Doc` denotes (`env` interprets unquoted token trees). -/
def valueOf (env : Tok → Value) : Doc → Value
  | .int n => .number (Number.ofSigned n)
  | .negInt n => .number (Number.ofSigned (-(n : Int)))
  | .float s e => .number (.flt (F64.rnDec s e))
  | .negFloat s e => .number (.flt (F64.neg (F64.rnDec s e)))
  | .str _ val => .string val
  | .chr c => .char c
  | .tru => .bool true
  | .fls => .bool false
  | .nil => .nil
  | .sym name => .symbol name
  | .psym cs => .symbol cs
  | .qsym src _ => .symbol src
  | .kw name => .keyword name
  | .ckw name => .keyword name
  | .qkw src _ => .keyword src
  | .cqkw src _ => .keyword src
  | .pkw cs => .keyword cs
  | .unq t => env t
  | .list xs => Value.list (valueOfL env xs)
  | .dotted xs t => Value.append (valueOfL env xs) (valueOf env t)
  | .vec xs => .vector (valueOfL env xs)
def valueOfL (env : Tok → Value) : List Doc → List Value
  | [] => []
  | x :: xs => valueOf env x :: valueOfL env xs
end

/-! ## Side conditions -/

def startsLit : List Tok → Bool
  | .lit _ :: _ => true
  | _ => false
def startsIdent : List Tok → Bool
  | .ident _ :: _ => true
  | _ => false
/-- the first token is an integer or float literal: the literals a free-standing `-` is the sign of
    (`is_numeric_literal` in parser.rs, `Lit.isNumeric` in the model) -/
def startsNum : List Tok → Bool
  | .lit l :: _ => l.isNumeric
  | _ => false

/-- `d` directly followed by the tokens `rest` is not glued to them: the symbol `-` is not followed
    by a NUMERIC literal (integer or float; before a string or character literal it is the symbol
    `-`), the symbol `:` not by a literal or an identifier. -/
def sepOk : Doc → List Tok → Bool
  | .psym [c], rest =>
    if c == 45 then !startsNum rest
    else if c == 58 then !startsLit rest && !startsIdent rest
    else true
  | _, _ => true

/-- the symbol `.` standing alone (in a list it is the dot) -/
def isDotSym : Doc → Bool
  | .psym [c] => c == 46
  | _ => false

mutual
def wf : Doc → Bool
  | .psym [] => false
  | .psym (c :: cs) => isSymPunct c && cs.all isIdPunct
  | .pkw [] => false
  | .pkw (c :: cs) => isIdPunct c && cs.all isIdPunct
  | .list xs => wfSeq true xs
  | .dotted xs t => wfSeq true xs && wf t
  | .vec xs => wfSeq false xs
  | _ => true
/-- the elements of a list (`inList`) or of a vector; the conditions are spelled out at `WF` -/
def wfSeq (inList : Bool) : List Doc → Bool
  | [] => true
  | x :: xs => wf x && !(inList && isDotSym x) && sepOk x (toksL xs) && wfSeq inList xs
end

/-- Well-formedness of a documented tree (`wf` is the executable check):
    * a punctuation symbol `psym cs` is non-empty, its first character is in `isSymPunct` and the
      others in `isIdPunct`; a punctuation keyword `pkw cs` is non-empty with all characters in
      `isIdPunct`;
    * in a list or vector, an element that is the lone symbol `-` is not directly followed by an
      element whose first token is a numeric literal (integer or float: the macro parser takes the
      `-` for its sign; a string or character literal may follow, `(- "s")` is the symbol `-` and a
      string), and the lone symbol `:` is not directly followed by an element whose first token is
      a literal or an identifier (`sepOk`);
    * no element of a list (vectors are exempt) is the lone symbol `.`: `parse_list` takes it
      for the dot;
    * the last element (before `)` or before the dot) has nothing glued to it, so `sepOk` asks
      nothing of it; the dotted tail only has to be well formed itself. -/
def WF (d : Doc) : Prop := wf d = true

instance (d : Doc) : Decidable (WF d) := inferInstanceAs (Decidable (wf d = true))

mutual
/-- fuel `parse` needs on `toks d` -/
def need : Doc → Nat
  | .list xs => 1 + needSeq xs 0
  | .dotted xs t => 1 + needSeq xs (1 + need t)
  | .vec xs => 1 + needSeq xs 0
  | _ => 1
def needSeq : List Doc → Nat → Nat
  | [], k => k
  | x :: xs, k => 1 + max (need x) (needSeq xs k)
end

/-! ## Unfolding lemmas for the parser -/

def Doc.isAtom : Doc → Bool
  | .list _ | .dotted _ _ | .vec _ => false
  | _ => true

/-- the free-standing dot -/
def isDot : Tok → Bool
  | .punct c .alone => c == 46
  | _ => false

theorem parseList_nil (f : Nat) (el : List MV) (tail : Option MV) :
    parseList f [] el tail = some (match tail with | none => .list el | some t => flattenTail el t) := by
  rw [parseList.eq_def]
  cases tail with
  | none => rfl
  | some t => cases t <;> rfl

theorem parseList_cons_notDot (f : Nat) (tok : Tok) (rest : List Tok) (el : List MV)
    (tail : Option MV) (h : isDot tok = false) :
    parseList (f + 1) (tok :: rest) el tail =
      match parse f (tok :: rest) with
      | some (v, rest') => parseList f rest' (el ++ [v]) tail
      | none => none := by
  rw [parseList.eq_def]
  simp only []
  split
  · simp [isDot] at h
  · rfl

theorem parseList_dot (f : Nat) (rest : List Tok) (el : List MV) :
    parseList (f + 1) (.punct 46 .alone :: rest) el none =
      match parse f rest with
      | some (t, rest') => parseList f rest' el (some t)
      | none => none := by
  rw [parseList.eq_def]
  simp only [Option.isSome_none, Bool.false_eq_true, if_false]
  rfl

theorem parseVector_cons (f : Nat) (tok : Tok) (rest : List Tok) (el : List MV) :
    parseVector (f + 1) (tok :: rest) el =
      match parse f (tok :: rest) with
      | some (v, rest') => parseVector f rest' (el ++ [v])
      | none => none := by
  rw [parseVector.eq_def]
  rfl

theorem parse_group (f : Nat) (ts rest : List Tok) :
    parse (f + 1) (.group true ts :: rest) = (parseList f ts [] none).map fun v => (v, rest) := by
  rw [parse.eq_def]

theorem parse_hash (f : Nat) (sp : Spacing) (rest : List Tok) :
    parse (f + 1) (.punct 35 sp :: rest) = parseOctothorpe f rest := by
  rw [parse.eq_def]; rfl

theorem parseOctothorpe_group (f : Nat) (ts rest : List Tok) :
    parseOctothorpe f (.group true ts :: rest) = (parseVector f ts []).map fun v => (v, rest) := by
  rw [parseOctothorpe.eq_def]

theorem punctRun_cons (c : UInt8) (cs : List UInt8) :
    punctRun (c :: cs) = .punct c (if cs = [] then .alone else .joint) :: punctRun cs := by
  cases cs <;> simp [punctRun]

theorem isSymPunct_ne (c : UInt8) (h : isSymPunct c = true) : (c == 35) = false ∧ (c == 44) = false := by
  constructor
  · cases hc : (c == 35) with
    | false => rfl
    | true => have := eq_of_beq hc; subst this; exact absurd h (by decide)
  · cases hc : (c == 44) with
    | false => rfl
    | true => have := eq_of_beq hc; subst this; exact absurd h (by decide)

theorem parseIdentifier_run (cs : List UInt8) (hne : cs ≠ []) (h : cs.all isIdPunct = true)
    (acc : List UInt8) (rest : List Tok) :
    parseIdentifier acc (punctRun cs ++ rest) = (acc ++ cs, rest) := by
  induction cs generalizing acc with
  | nil => exact absurd rfl hne
  | cons c cs ih =>
    simp only [List.all_cons, Bool.and_eq_true] at h
    cases cs with
    | nil => simp [punctRun, parseIdentifier, h.1]
    | cons d cs =>
      simp only [punctRun, List.cons_append, parseIdentifier, h.1, if_true]
      rw [ih (by simp) h.2]
      simp

/-- A single punctuation character is read as a symbol unless `parse` takes it for a sign (`-`
    before a numeric literal) or for the colon of a keyword (`:` before a literal or an identifier);
    `sepOk` excludes both.  Two or more characters are joint and collected by `parseIdentifier`. -/
theorem parse_psym (f : Nat) (cs : List UInt8) (rest : List Tok) (hwf : wf (.psym cs) = true)
    (hsep : sepOk (.psym cs) rest = true) :
    parse (f + 1) (punctRun cs ++ rest) = some (.symbol cs, rest) := by
  match cs, hwf, hsep with
  | [], hwf, _ => simp [wf] at hwf
  | [c], hwf, hsep =>
    simp only [wf, List.all_nil, Bool.and_true] at hwf
    obtain ⟨h35, h44⟩ := isSymPunct_ne c hwf
    rw [parse.eq_def]
    simp only [punctRun, List.cons_append, List.nil_append, h35, h44, hwf, if_true,
      Bool.false_eq_true, if_false]
    simp only [sepOk] at hsep
    by_cases h45 : (c == 45) = true
    · simp only [h45, ↓reduceIte] at hsep ⊢
      match rest, hsep with
      | [], _ => rfl
      | .lit l :: _, hsep =>
        have hl : l.isNumeric = false := by simpa [startsNum] using hsep
        simp only [hl, Bool.false_eq_true, ↓reduceIte]
      | .punct _ _ :: _, _ => rfl
      | .ident _ :: _, _ => rfl
      | .group _ _ :: _, _ => rfl
    · simp only [h45, Bool.false_eq_true, ↓reduceIte] at hsep ⊢
      by_cases h58 : (c == 58) = true
      · simp only [h58, ↓reduceIte] at hsep ⊢
        match rest, hsep with
        | [], _ => rfl
        | .lit _ :: _, hsep => simp [startsLit] at hsep
        | .ident _ :: _, hsep => simp [startsLit, startsIdent] at hsep
        | .punct _ _ :: _, _ => rfl
        | .group _ _ :: _, _ => rfl
      · simp only [h58, Bool.false_eq_true, ↓reduceIte]
  | c :: d :: cs, hwf, _ =>
    simp only [wf, Bool.and_eq_true] at hwf
    obtain ⟨h35, h44⟩ := isSymPunct_ne c hwf.1
    rw [parse.eq_def]
    simp only [punctRun, List.cons_append, h35, h44, hwf.1, if_true, Bool.false_eq_true, if_false]
    have := parseIdentifier_run (d :: cs) (by simp) hwf.2 [c] rest
    simp only [List.cons_append] at this
    rw [this]
    rfl

theorem parse_pkw (f : Nat) (cs : List UInt8) (rest : List Tok) (hwf : wf (.pkw cs) = true) :
    parse (f + 1) (.punct 35 .joint :: .punct 58 .joint :: punctRun cs ++ rest) =
      some (.keyword cs, rest) := by
  match cs, hwf with
  | [], hwf => simp [wf] at hwf
  | c :: cs, hwf =>
    have hall : (c :: cs).all isIdPunct = true := by simpa [wf] using hwf
    have hrun := parseIdentifier_run (c :: cs) (by simp) hall [] rest
    rw [List.cons_append, parse_hash, parseOctothorpe.eq_def]
    simp only [beq_self_eq_true, if_true, punctRun_cons, List.cons_append]
    simp only [punctRun_cons, List.cons_append, List.nil_append] at hrun
    rw [hrun]

/-! ## Lemmas on the side conditions -/

theorem startsNum_of_startsLit {ts : List Tok} (h : startsLit ts = false) : startsNum ts = false := by
  match ts, h with
  | [], _ => rfl
  | .lit _ :: _, h => simp [startsLit] at h
  | .punct _ _ :: _, _ => rfl
  | .ident _ :: _, _ => rfl
  | .group _ _ :: _, _ => rfl

theorem sepOk_append (x : Doc) (a fol : List Tok) (h : sepOk x a = true)
    (hf : a = [] → startsLit fol = false ∧ startsIdent fol = false) :
    sepOk x (a ++ fol) = true := by
  cases a with
  | nil => 
    obtain ⟨h1, h2⟩ := hf rfl
    unfold sepOk
    split
    · simp [h1, h2, startsNum_of_startsLit h1]
    · rfl
  | cons t a =>
    unfold sepOk at h ⊢
    split
    · rename_i c r
      simp only [] at h
      cases t <;> first | (simp [startsLit, startsIdent, startsNum]; done) |
        simpa [startsLit, startsIdent, startsNum] using h
    · rfl

theorem toks_head (x : Doc) (hwf : wf x = true) :
    ∃ tok more, toks x = tok :: more ∧ (isDotSym x = false → isDot tok = false) := by
  cases x <;> try (exact ⟨_, _, rfl, fun _ => rfl⟩)
  rename_i cs
  match cs, hwf with
  | [], hwf => simp [wf] at hwf
  | [c], _ =>
    exact ⟨_, _, by simp only [toks, punctRun]; rfl, fun hd => by simpa [isDot, isDotSym] using hd⟩
  | c :: d :: cs, _ => exact ⟨_, _, by simp only [toks, punctRun]; rfl, fun _ => rfl⟩

theorem sepOk_nil (x : Doc) : sepOk x [] = true := by
  unfold sepOk; split <;> simp [startsLit, startsIdent, startsNum]

theorem asc_f_t : (asc "f" == asc "t") = false := by decide
theorem asc_nil_t : (asc "nil" == asc "t") = false := by decide
theorem asc_nil_f : (asc "nil" == asc "f") = false := by decide

theorem needSeq_ge (xs : List Doc) (k : Nat) : k + xs.length ≤ needSeq xs k := by
  induction xs with
  | nil => simp [needSeq]
  | cons x xs ih => simp only [needSeq, List.length_cons]; omega

/-! ## The parser inverts `toks` -/

theorem wfSeq_cons {b : Bool} {x : Doc} {xs : List Doc} (h : wfSeq b (x :: xs) = true) :
    wf x = true ∧ (b = true → isDotSym x = false) ∧ sepOk x (toksL xs) = true ∧
      wfSeq b xs = true := by
  simp only [wfSeq, Bool.and_eq_true, Bool.not_eq_true', Bool.and_eq_false_iff] at h
  obtain ⟨⟨⟨h1, h2⟩, h3⟩, h4⟩ := h
  refine ⟨h1, ?_, h3, h4⟩
  intro hb; rcases h2 with h2 | h2
  · rw [hb] at h2; cases h2
  · exact h2

theorem fuel_pos {fuel n : Nat} (h : 1 + n ≤ fuel) : ∃ f, fuel = f + 1 ∧ n ≤ f :=
  ⟨fuel - 1, by omega, by omega⟩

/-- A leaf is at most three tokens (`punctRun` apart), on which `parse` is evaluated. -/
theorem parse_atom (d : Doc) (fuel : Nat) (rest : List Tok) (ha : d.isAtom = true)
    (hwf : wf d = true) (hf : 1 ≤ fuel) (hsep : sepOk d rest = true) :
    parse fuel (toks d ++ rest) = some (mv d, rest) := by
  obtain ⟨f, rfl, _⟩ := fuel_pos (n := 0) hf
  cases d with
  | list _ | dotted _ _ | vec _ => cases ha
  | psym cs => exact parse_psym f cs rest hwf hsep
  | pkw cs => exact parse_pkw f cs rest hwf
  | int _ | float _ _ | str _ _ | chr _ | sym _ | unq _ => simp [toks, mv, parse]
  | negInt _ | negFloat _ _ | ckw _ | cqkw _ _ =>
    simp [toks, mv, parse, isSymPunct, Lit.isNumeric, stringLiteral]
  | tru | fls | nil | qsym _ _ | kw _ | qkw _ _ =>
    simp [toks, mv, parse_hash, parseOctothorpe, asc_f_t, asc_nil_t, asc_nil_f, stringLiteral,
      parseIdentifier]

/- One unit of fuel per nesting level and one per element.  In a sequence the accumulator takes
   the elements one by one: `toks_head` shows that the next token is not the free-standing dot (so
   `parseList` parses an element), and `sepOk_append` that the element is not glued to what follows,
   the next elements or the `fol` of the caller. -/
mutual
theorem parse_toks : ∀ (d : Doc) (fuel : Nat) (rest : List Tok), wf d = true → need d ≤ fuel →
    sepOk d rest = true → parse fuel (toks d ++ rest) = some (mv d, rest)
  | .list xs => fun fuel rest hwf hf _ => by
    simp only [need] at hf
    obtain ⟨f, rfl, hf'⟩ := fuel_pos hf
    simp only [wf] at hwf
    have h := parseList_seq xs f [] [] none 0 hwf hf' rfl rfl
    simp only [List.append_nil, List.nil_append, parseList_nil] at h
    simp only [toks, mv, List.cons_append, List.nil_append, parse_group, h, Option.map_some]
  | .dotted xs t => fun fuel rest hwf hf _ => by
    simp only [need] at hf
    obtain ⟨f, rfl, hf'⟩ := fuel_pos hf
    simp only [wf, Bool.and_eq_true] at hwf
    have h := parseList_seq xs f (.punct 46 .alone :: toks t) [] none (1 + need t) hwf.1 hf' rfl rfl
    have hge := needSeq_ge xs (1 + need t)
    obtain ⟨g, hg, hgt⟩ : ∃ g, f - xs.length = g + 1 ∧ need t ≤ g :=
      ⟨f - xs.length - 1, by omega, by omega⟩
    have ht := parse_toks t g [] hwf.2 hgt (sepOk_nil t)
    rw [List.append_nil] at ht
    rw [hg, parseList_dot, ht] at h
    simp only [parseList_nil, List.nil_append] at h
    simp only [toks, mv, List.cons_append, List.nil_append, parse_group, h, Option.map_some]
  | .vec xs => fun fuel rest hwf hf _ => by
    simp only [need] at hf
    obtain ⟨f, rfl, hf'⟩ := fuel_pos hf
    simp only [wf] at hwf
    have h := parseVector_seq xs f [] hwf hf'
    simp only [toks, mv, List.cons_append, List.nil_append, parse_hash, parseOctothorpe_group, h,
      Option.map_some]
  | .int _ | .negInt _ | .float _ _ | .negFloat _ _ | .str _ _ | .chr _ | .tru | .fls | .nil
  | .sym _ | .psym _ | .qsym _ _ | .kw _ | .ckw _ | .qkw _ _ | .cqkw _ _ | .pkw _ | .unq _ =>
    fun fuel rest hwf hf hsep => parse_atom _ fuel rest rfl hwf hf hsep
theorem parseList_seq : ∀ (xs : List Doc) (fuel : Nat) (fol : List Tok) (acc : List MV)
    (tail : Option MV) (k : Nat), wfSeq true xs = true → needSeq xs k ≤ fuel →
    startsLit fol = false → startsIdent fol = false →
    parseList fuel (toksL xs ++ fol) acc tail = parseList (fuel - xs.length) fol (acc ++ mvL xs) tail
  | [], fuel, fol, acc, tail, k, _, _, _, _ => by simp [toksL, mvL]
  | x :: xs, fuel, fol, acc, tail, k, hwf, hf, hl, hi => by
    obtain ⟨hx, hdot, hsep, hxs⟩ := wfSeq_cons hwf
    simp only [needSeq] at hf
    obtain ⟨f, rfl⟩ : ∃ f, fuel = f + 1 := ⟨fuel - 1, by omega⟩
    obtain ⟨tok, more, htok, hnd⟩ := toks_head x hx
    have hp := parse_toks x f (toksL xs ++ fol) hx (by omega)
      (sepOk_append x _ _ hsep (fun _ => ⟨hl, hi⟩))
    have ih := parseList_seq xs f fol (acc ++ [mv x]) tail k hxs (by omega) hl hi
    simp only [toksL, List.append_assoc, mvL]
    rw [htok] at hp ⊢
    rw [List.cons_append, parseList_cons_notDot _ _ _ _ _ (hnd (hdot rfl))]
    rw [List.cons_append] at hp
    rw [hp]
    simp only [ih, List.length_cons, Nat.add_sub_add_right, List.append_assoc, List.cons_append,
      List.nil_append]
theorem parseVector_seq : ∀ (xs : List Doc) (fuel : Nat) (acc : List MV),
    wfSeq false xs = true → needSeq xs 0 ≤ fuel →
    parseVector fuel (toksL xs) acc = some (.vector (acc ++ mvL xs))
  | [], fuel, acc, _, _ => by simp [toksL, mvL, parseVector]
  | x :: xs, fuel, acc, hwf, hf => by
    obtain ⟨hx, _, hsep, hxs⟩ := wfSeq_cons hwf
    simp only [needSeq] at hf
    obtain ⟨f, rfl⟩ : ∃ f, fuel = f + 1 := ⟨fuel - 1, by omega⟩
    obtain ⟨tok, more, htok, _⟩ := toks_head x hx
    have hp := parse_toks x f (toksL xs) hx (by omega) hsep
    have ih := parseVector_seq xs f (acc ++ [mv x]) hxs (by omega)
    simp only [toksL, mvL]
    rw [htok] at hp ⊢
    rw [List.cons_append, parseVector_cons]
    rw [List.cons_append] at hp
    rw [hp]
    simp only [ih, List.append_assoc, List.cons_append, List.nil_append]
end

/-! ## Evaluation -/

theorem evalAll_eq_map (env : Tok → Value) (xs : List MV) : evalAll env xs = xs.map (eval env) := by
  induction xs with
  | nil => simp [evalAll]
  | cons x xs ih => simp [evalAll, ih]

theorem evalAll_append (env : Tok → Value) (xs ys : List MV) :
    evalAll env (xs ++ ys) = evalAll env xs ++ evalAll env ys := by
  simp only [evalAll_eq_map, List.map_append]

theorem toksL_eq_flatMap (xs : List Doc) : toksL xs = xs.flatMap toks := by
  induction xs with
  | nil => simp [toksL]
  | cons x xs ih => simp [toksL, ih]

theorem mvL_eq_map (xs : List Doc) : mvL xs = xs.map mv := by
  induction xs with
  | nil => simp [mvL]
  | cons x xs ih => simp [mvL, ih]

theorem valueOfL_eq_map (env : Tok → Value) (xs : List Doc) :
    valueOfL env xs = xs.map (valueOf env) := by
  induction xs with
  | nil => simp [valueOfL]
  | cons x xs ih => simp [valueOfL, ih]

/-- The three cases of `parse_list`'s `flattenTail` at once: whatever the tail `t` is, the
    flattened macro value evaluates to `Value::append(elements, tail)`. -/
theorem C09_flattenTail_eval (env : Tok → Value) (xs : List MV) (t : MV) :
    eval env (flattenTail xs t) = Value.append (evalAll env xs) (eval env t) := by
  cases t <;> simp only [flattenTail, eval, Value.list, evalAll_append, Value.C15_append_merge]

/-- A proper tail: merging a list tail into the elements, as `parse_list` does, agrees with
    `Value::append` of the elements onto the evaluated tail. -/
theorem C09_tail_flatten (env : Tok → Value) (xs ys : List MV) :
    eval env (.list (xs ++ ys)) = Value.append (evalAll env xs) (eval env (.list ys)) :=
  C09_flattenTail_eval env xs (.list ys)

/-- the same for a dotted tail -/
theorem C09_tail_flatten_improper (env : Tok → Value) (xs ys : List MV) (r : MV) :
    eval env (.improper (xs ++ ys) r) =
      Value.append (evalAll env xs) (eval env (.improper ys r)) :=
  C09_flattenTail_eval env xs (.improper ys r)

mutual
theorem eval_mv (env : Tok → Value) : ∀ d : Doc, eval env (mv d) = valueOf env d
  | .list xs => by simp only [mv, valueOf, eval, evalAll_mvL env xs]
  | .dotted xs t => by
    simp only [mv, valueOf, C09_flattenTail_eval, evalAll_mvL env xs, eval_mv env t]
  | .vec xs => by simp only [mv, valueOf, eval, evalAll_mvL env xs]
  | .int _ | .negInt _ | .float _ _ | .negFloat _ _ | .str _ _ | .chr _ | .tru | .fls | .nil
  | .sym _ | .psym _ | .qsym _ _ | .kw _ | .ckw _ | .qkw _ _ | .cqkw _ _ | .pkw _ | .unq _ => by
    simp [mv, valueOf, eval, litValue]
theorem evalAll_mvL (env : Tok → Value) : ∀ xs : List Doc, evalAll env (mvL xs) = valueOfL env xs
  | [] => by simp [mvL, valueOfL, evalAll]
  | x :: xs => by simp [mvL, valueOfL, evalAll, eval_mv env x, evalAll_mvL env xs]
end

/-! ## A simple bound on the fuel -/

mutual
/-- number of `Doc` constructors -/
def nodes : Doc → Nat
  | .list xs => 1 + nodesL xs
  | .dotted xs t => 1 + nodesL xs + nodes t
  | .vec xs => 1 + nodesL xs
  | _ => 1
def nodesL : List Doc → Nat
  | [] => 0
  | x :: xs => nodes x + nodesL xs
end

mutual
theorem need_le_nodes : ∀ d : Doc, need d + 1 ≤ 2 * nodes d
  | .list xs => by have := needSeq_le_nodes xs 0; simp only [need, nodes]; omega
  | .dotted xs t => by
    have := needSeq_le_nodes xs (1 + need t); have := need_le_nodes t
    simp only [need, nodes]; omega
  | .vec xs => by have := needSeq_le_nodes xs 0; simp only [need, nodes]; omega
  | .int _ | .negInt _ | .float _ _ | .negFloat _ _ | .str _ _ | .chr _ | .tru | .fls | .nil
  | .sym _ | .psym _ | .qsym _ _ | .kw _ | .ckw _ | .qkw _ _ | .cqkw _ _ | .pkw _ | .unq _ =>
    Nat.le_refl 2
theorem needSeq_le_nodes : ∀ (xs : List Doc) (k : Nat), needSeq xs k ≤ k + 2 * nodesL xs
  | [], k => by simp [needSeq, nodesL]
  | x :: xs, k => by
    have := need_le_nodes x; have := needSeq_le_nodes xs k
    simp only [needSeq, nodesL]; omega
end

theorem toks_length_pos (d : Doc) (h : wf d = true) : 1 ≤ (toks d).length := by
  obtain ⟨tok, more, ht, _⟩ := toks_head d h
  simp [ht]

/-! ## Why the side conditions are there, and observations about the model

  Rust tokens carry no whitespace, so different documented trees have the same token stream; no
  parser can invert `toks` on them.  The statements below are about concrete witnesses. -/

/-- `(- 5)` and `(-5)` are the same token stream. -/
example : toks (.list [.psym [45], .int 5]) = toks (.list [.negInt 5]) ∧
    mv (.list [.psym [45], .int 5]) ≠ mv (.list [.negInt 5]) ∧
    wf (.list [.psym [45], .int 5]) = false := by
  refine ⟨rfl, ?_, by decide⟩
  simp [mv, mvL]

/-- the same with a float: `(- 1.5)` and `(-1.5)` are the same token stream -/
example : toks (.list [.psym [45], .float 15 (-1)]) = toks (.list [.negFloat 15 (-1)]) ∧
    mv (.list [.psym [45], .float 15 (-1)]) ≠ mv (.list [.negFloat 15 (-1)]) ∧
    wf (.list [.psym [45], .float 15 (-1)]) = false := by
  refine ⟨rfl, ?_, by decide⟩
  simp [mv, mvL]

/-- The `-` condition is necessary: the tokens of `(- 5)` are read as the negative
    literal, so the inversion statement is false for this tree (which `wf` rejects); the same in a
    vector and with a float. -/
theorem minus_before_number_witness (env : Tok → Value) :
    wf (.list [.psym [45], .int 5]) = false ∧
    parse 3 (toks (.list [.psym [45], .int 5])) = some (.list [.negated (.int 5)], []) ∧
    parse 3 (toks (.list [.psym [45], .int 5])) ≠ some (mv (.list [.psym [45], .int 5]), []) ∧
    expand env (toks (.list [.psym [45], .int 5])) = some (Value.list [.number (.neg (-5))]) ∧
    wf (.vec [.psym [45], .float 15 (-1)]) = false ∧
    parse 3 (toks (.vec [.psym [45], .float 15 (-1)])) =
      some (.vector [.negated (.float 15 (-1))], []) := by
  refine ⟨by decide, ?_, ?_, ?_, by decide, ?_⟩
  · simp [toks, toksL, punctRun, parse, parseList, isSymPunct, Lit.isNumeric]
  · simp [toks, toksL, punctRun, parse, parseList, isSymPunct, Lit.isNumeric, mv, mvL]
  · simp [expand, toks, toksL, punctRun, parse, parseList, isSymPunct, Lit.isNumeric, eval, evalAll,
      litValue, Value.list, Value.append, Number.ofSigned]
  · simp [toks, toksL, punctRun, parse, parseOctothorpe, parseVector, isSymPunct, Lit.isNumeric]

/-- A free-standing `-` is a sign only before a numeric literal (`is_numeric_literal` in parser.rs);
    before a string or character literal it is the symbol `-`: `(- "s")`, `(- 'a')` and `(- "s" 1)`
    are read as lists that start with the symbol `-` (computed on the explicit token lists). -/
theorem minus_before_string_tokens (env : Tok → Value) :
    expand env [.group true [.punct 45 .alone, .lit (.str (asc "s") (asc "s"))]] =
      some (Value.list [.symbol [45], .string (asc "s")]) ∧
    expand env [.group true [.punct 45 .alone, .lit (.char 97)]] =
      some (Value.list [.symbol [45], .char 97]) ∧
    expand env [.group true [.punct 45 .alone, .lit (.str (asc "s") (asc "s")), .lit (.int 1)]] =
      some (Value.list [.symbol [45], .string (asc "s"), .number (.pos 1)]) ∧
    expand env [.punct 35 .alone, .group true [.punct 45 .alone, .lit (.char 97)]] =
      some (.vector [.symbol [45], .char 97]) := by
  refine ⟨?_, ?_, ?_, ?_⟩ <;>
    simp [expand, parse, parseList, parseOctothorpe, parseVector, isSymPunct, Lit.isNumeric, eval,
      evalAll, litValue, Number.ofSigned]

/-- `(- "s")`, `(- 'a')`, `(- "s" 1)`, `#(- 'a')`, `(- "s" . 'a')` are `wf` -/
theorem minus_before_string_wf :
    wf (.list [.psym [45], .str (asc "s") (asc "s")]) = true ∧
    wf (.list [.psym [45], .chr 97]) = true ∧
    wf (.list [.psym [45], .str (asc "s") (asc "s"), .int 1]) = true ∧
    wf (.vec [.psym [45], .chr 97]) = true ∧
    wf (.dotted [.psym [45], .str (asc "s") (asc "s")] (.chr 97)) = true := by decide

/-- `(: name)` and `(:name)` are the same token stream. -/
example : toks (.list [.psym [58], .sym (asc "name")]) = toks (.list [.ckw (asc "name")]) ∧
    mv (.list [.psym [58], .sym (asc "name")]) ≠ mv (.list [.ckw (asc "name")]) ∧
    wf (.list [.psym [58], .sym (asc "name")]) = false := by
  refine ⟨rfl, ?_, by decide⟩
  simp [mv, mvL]

/-- a list containing the lone symbol `.` is the same token stream as a dotted list -/
example : toks (.list [.sym (asc "a"), .psym [46], .sym (asc "b")]) =
      toks (.dotted [.sym (asc "a")] (.sym (asc "b"))) ∧
    wf (.list [.sym (asc "a"), .psym [46], .sym (asc "b")]) = false := ⟨rfl, by decide⟩

/-- without the side condition the inversion statement is false: `: 5` is a parse error
    (`ExpectedStringLiteral`), although `:` and `5` are both documented values -/
example : parseList 10 (toksL [.psym [58], .int 5]) [] none = none := by
  simp only [toksL, toks, punctRun, List.cons_append, List.nil_append]
  rw [parseList_cons_notDot _ _ _ _ _ rfl]
  simp [parse, isSymPunct, stringLiteral]

/-- the `:` condition cannot be confined to string literals and identifiers the way the `-`
    condition is confined to numbers: `: 'a'` is a parse error as well -/
example : parseList 10 (toksL [.psym [58], .chr 97]) [] none = none := by
  simp only [toksL, toks, punctRun, List.cons_append, List.nil_append]
  rw [parseList_cons_notDot _ _ _ _ _ rfl]
  simp [parse, isSymPunct, stringLiteral]

/-- the model (like `parse_list` in parser.rs) accepts elements *after* the dotted tail and
    appends them to the elements before the dot: `(a . b c)` is read as `(a c . b)` -/
example : parseList 10
    [.ident (asc "a"), .punct 46 .alone, .ident (asc "b"), .ident (asc "c")] [] none =
    some (.improper [.symbol (asc "a"), .symbol (asc "c")] (.symbol (asc "b"))) := by
  rw [parseList_cons_notDot _ _ _ _ _ rfl]
  simp only [parse, List.nil_append]
  rw [parseList_dot]
  simp only [parse]
  rw [parseList_cons_notDot _ _ _ _ _ rfl]
  simp only [parse, parseList_nil, flattenTail, List.cons_append, List.nil_append]

/-- `expand` (like `parser::parse`) reads one value and ignores every token after it:
    `sexp!(a b)` is `a` -/
example (env : Tok → Value) :
    expand env [.ident (asc "a"), .ident (asc "b")] = some (.symbol (asc "a")) := by
  simp [expand, parse, eval]

theorem parseList_out_of_fuel (n f : Nat) (acc : List MV) (h : f < n) :
    parseList f (List.replicate n (.lit (.int 0))) acc none = none := by
  induction f generalizing n acc with
  | zero =>
    obtain ⟨m, rfl⟩ : ∃ m, n = m + 1 := ⟨n - 1, by omega⟩
    simp [List.replicate_succ, parseList]
  | succ f ih =>
    obtain ⟨m, rfl⟩ : ∃ m, n = m + 1 := ⟨n - 1, by omega⟩
    rw [List.replicate_succ, parseList_cons_notDot _ _ _ _ _ rfl]
    cases f with
    | zero => simp [parse]
    | succ g =>
      simp only [parse]
      exact ih m _ (by omega)

theorem toksL_replicate_int (n : Nat) :
    toksL (List.replicate n (.int 0)) = List.replicate n (.lit (.int 0)) := by
  induction n with
  | zero => simp [toksL]
  | succ n ih => simp [List.replicate_succ, toksL, toks, ih]

theorem wfSeq_replicate_int (n : Nat) : wfSeq true (List.replicate n (.int 0)) = true := by
  induction n with
  | zero => simp [wfSeq]
  | succ n ih => simp [List.replicate_succ, wfSeq, wf, isDotSym, sepOk, ih]

/-- The fuel `expand` passes to `parse` counts top-level tokens only, so the model rejects a flat
    list of 1100 integers (one top-level token), which the Rust macro accepts: the fuel hypothesis
    of `C09_expand` cannot be dropped *for the model*. -/
theorem expand_fuel_too_small (env : Tok → Value) :
    wf (.list (List.replicate 1100 (.int 0))) = true ∧
    expand env (toks (.list (List.replicate 1100 (.int 0)))) = none := by
  refine ⟨by simp only [wf]; exact wfSeq_replicate_int _, ?_⟩
  have h := parseList_out_of_fuel 1100 1001 [] (by omega)
  simp only [expand, toks, toksL_replicate_int, List.length_cons, List.length_nil, parse_group, h,
    Option.map_none]

/-- For a well-formed documented tree `d`, `Parser::parse` reads exactly
    `mv d` off the front of `toks d ++ rest` and leaves `rest`, for every fuel `≥ need d` and every
    `rest` not glued to `d` (`sepOk d rest`: only relevant when `d` is the lone symbol `-` or `:`;
    e.g. `rest = []` always qualifies, see `sepOk_nil`). -/
theorem C09_parse_inverts_toks (d : Doc) (fuel : Nat) (rest : List Tok) (hwf : WF d)
    (hfuel : need d ≤ fuel) (hsep : sepOk d rest = true) :
    parse fuel (toks d ++ rest) = some (mv d, rest) :=
  parse_toks d fuel rest hwf hfuel hsep

/-- `C09_parse_inverts_toks` for every `rest` when `d` is not a one-character punctuation symbol. -/
theorem C09_parse_inverts_toks_any_rest (d : Doc) (fuel : Nat) (rest : List Tok) (hwf : WF d)
    (hfuel : need d ≤ fuel) (hd : ∀ c, d ≠ .psym [c]) :
    parse fuel (toks d ++ rest) = some (mv d, rest) := by
  refine parse_toks d fuel rest hwf hfuel ?_
  unfold sepOk; split
  · exact absurd rfl (hd _)
  · rfl

/-- Well-formed trees with the same token stream have the same macro value: identifying trees
    by their token stream (DESIGN.md, C09) loses nothing. -/
theorem C09_toks_determines_mv (d₁ d₂ : Doc) (h₁ : WF d₁) (h₂ : WF d₂) (h : toks d₁ = toks d₂) :
    mv d₁ = mv d₂ := by
  have p₁ := parse_toks d₁ (max (need d₁) (need d₂)) [] h₁ (by omega) (sepOk_nil _)
  have p₂ := parse_toks d₂ (max (need d₁) (need d₂)) [] h₂ (by omega) (sepOk_nil _)
  rw [h, p₂] at p₁
  simpa using p₁.symm

/-- `parse_list` on the elements' tokens gives the list of the elements' values. -/
theorem C09_parseList_inverts (xs : List Doc) (fuel : Nat) (hwf : wfSeq true xs = true)
    (hfuel : needSeq xs 0 ≤ fuel) :
    parseList fuel (xs.flatMap toks) [] none = some (.list (xs.map mv)) := by
  have h := parseList_seq xs fuel [] [] none 0 hwf hfuel rfl rfl
  simpa [toksL_eq_flatMap, mvL_eq_map, parseList_nil] using h

/-- `parse_list` on `x₁ … xₙ . t` gives the elements with the tail `t`;
    a tail that is itself a list or dotted list is merged (`flattenTail`). -/
theorem C09_parseList_dotted (xs : List Doc) (t : Doc) (fuel : Nat) (hwf : wfSeq true xs = true)
    (ht : WF t) (hfuel : needSeq xs (1 + need t) ≤ fuel) :
    parseList fuel (xs.flatMap toks ++ [.punct 46 .alone] ++ toks t) [] none =
      some (flattenTail (xs.map mv) (mv t)) := by
  have hp := parse_toks (.dotted xs t) (fuel + 1) []
    (by simp only [wf, Bool.and_eq_true]; exact ⟨hwf, ht⟩) (by simp only [need]; omega) rfl
  simp only [toks, List.cons_append, List.nil_append, parse_group, mv, Option.map_eq_some_iff,
    Prod.mk.injEq, and_true, exists_eq_right] at hp
  simpa [toksL_eq_flatMap, mvL_eq_map] using hp

theorem C09_parseVector_inverts (xs : List Doc) (fuel : Nat) (hwf : wfSeq false xs = true)
    (hfuel : needSeq xs 0 ≤ fuel) :
    parseVector fuel (xs.flatMap toks) [] = some (.vector (xs.map mv)) := by
  have h := parseVector_seq xs fuel [] hwf hfuel
  simpa [toksL_eq_flatMap, mvL_eq_map] using h

/-- An unquoted token tree evaluates to `Value::from(expr)`. -/
theorem C09_unquote (env : Tok → Value) (t : Tok) : eval env (.unquoted t) = env t := by
  simp only [eval]

/-- In dotted-tail position the elements are consed onto `Value::from(expr)`. -/
theorem C09_unquote_tail (env : Tok → Value) (xs : List MV) (t : Tok) :
    eval env (.improper xs (.unquoted t)) = Value.append (evalAll env xs) (env t) := by
  simp only [eval]

/-- The generated code evaluates to the value the text denotes. -/
theorem C09_eval_mv (env : Tok → Value) (d : Doc) : eval env (mv d) = valueOf env d :=
  eval_mv env d

/-- `sexp!` applied to the tokens of a well-formed documented tree builds the
    documented value.  The fuel hypothesis is an artefact of the model (`expand` passes
    `2 * #top-level tokens + 1000`); it cannot be dropped, see `expand_fuel_too_small`. -/
theorem C09_expand (env : Tok → Value) (d : Doc) (hwf : WF d)
    (hfuel : need d ≤ 2 * (toks d).length + 1000) :
    expand env (toks d) = some (valueOf env d) := by
  have hp := parse_toks d _ [] hwf hfuel (sepOk_nil d)
  rw [List.append_nil] at hp
  simp only [expand, hp, eval_mv]

/-- `C09_expand` with a fuel hypothesis that does not mention `need`: at most 500 nodes. -/
theorem C09_expand_small (env : Tok → Value) (d : Doc) (hwf : WF d) (hsize : nodes d ≤ 500) :
    expand env (toks d) = some (valueOf env d) := by
  have := need_le_nodes d
  exact C09_expand env d hwf (by omega)

/-- `C09_unquote_tail` end to end: `sexp!((x₁ … xₙ . ,expr))` -/
theorem C09_unquote_expand (env : Tok → Value) (xs : List Doc) (t : Tok)
    (hwf : wfSeq true xs = true) (hfuel : needSeq xs 2 ≤ 1001) :
    expand env (toks (.dotted xs (.unq t))) =
      some (Value.append (xs.map (valueOf env)) (env t)) := by
  rw [C09_expand env (.dotted xs (.unq t))
    (by simp only [WF, wf, Bool.and_eq_true]; exact ⟨hwf, trivial⟩)
    (by simp only [need, toks, List.length_cons, List.length_nil, Nat.reduceAdd]; omega)]
  simp only [valueOf, valueOfL_eq_map]

/-- `(- + -5 (a #:b . (1 ,x)) #(. "s" -) <=> #:-> #"k-s" :k #t 'c' 1.5 :)` -/
def exampleDoc : Doc :=
  .list [.psym [45], .psym [43], .negInt 5,
    .dotted [.sym (asc "a"), .kw (asc "b")] (.list [.int 1, .unq (.ident (asc "x"))]),
    .vec [.psym [46], .str (asc "s") (asc "s"), .psym [45]],
    .psym (asc "<=>"), .pkw (asc "->"), .qsym (asc "k-s") (asc "k-s"), .ckw (asc "k"), .tru,
    .chr 99, .float 15 (-1), .psym [58]]

theorem exampleDoc_wf : WF exampleDoc := by decide
theorem exampleDoc_need : need exampleDoc = 15 := by decide
theorem exampleDoc_nodes : nodes exampleDoc = 22 := by decide

example (rest : List Tok) :
    parse 15 (toks exampleDoc ++ rest) = some (mv exampleDoc, rest) :=
  C09_parse_inverts_toks exampleDoc 15 rest exampleDoc_wf (by decide) rfl

example : parse 1 (toks (.psym [45]) ++ [.punct 45 .alone, .lit (.int 1)]) =
    some (.symbol [45], [.punct 45 .alone, .lit (.int 1)]) :=
  C09_parse_inverts_toks (.psym [45]) 1 _ (by decide) (by decide) (by decide)

/-- the symbol `-` directly before a string literal (`sepOk` holds: the literal is not numeric) -/
example (rest : List Tok) :
    parse 1 (toks (.psym [45]) ++ .lit (.str (asc "s") (asc "s")) :: rest) =
      some (.symbol [45], .lit (.str (asc "s") (asc "s")) :: rest) :=
  C09_parse_inverts_toks (.psym [45]) 1 _ (by decide) (by decide) rfl

/-- `(- "s")` and `(- 'a')` through `C09_parse_inverts_toks` -/
example (rest : List Tok) :
    parse 4 (toks (.list [.psym [45], .str (asc "s") (asc "s")]) ++ rest) =
      some (.list [.symbol [45], .literal (.str (asc "s") (asc "s"))], rest) :=
  C09_parse_inverts_toks _ 4 rest (by decide) (by decide) rfl
example (rest : List Tok) :
    parse 4 (toks (.list [.psym [45], .chr 97]) ++ rest) =
      some (.list [.symbol [45], .literal (.char 97)], rest) :=
  C09_parse_inverts_toks _ 4 rest (by decide) (by decide) rfl

example (rest : List Tok) : parse 4 (toks (.vec [.psym [46], .psym [45]]) ++ rest) =
    some (.vector [.symbol [46], .symbol [45]], rest) :=
  C09_parse_inverts_toks_any_rest _ 4 rest (by decide) (by decide) (by intro c h; cases h)

example : mv exampleDoc = mv exampleDoc :=
  C09_toks_determines_mv _ _ exampleDoc_wf exampleDoc_wf rfl

example : parseList 3 ([Doc.psym [45], .sym (asc "x")].flatMap toks) [] none =
    some (.list [.symbol [45], .symbol (asc "x")]) :=
  C09_parseList_inverts _ 3 (by decide) (by decide)

/-- `(1 2 . (3 . ()))` is `(1 2 3)` -/
example : parseList 7 ([Doc.int 1, .int 2].flatMap toks ++ [.punct 46 .alone] ++
      toks (.dotted [.int 3] (.list []))) [] none =
    some (.list [.literal (.int 1), .literal (.int 2), .literal (.int 3)]) :=
  C09_parseList_dotted [.int 1, .int 2] (.dotted [.int 3] (.list [])) 7 (by decide) (by decide)
    (by decide)

example : parseVector 3 ([Doc.psym [46], .int 1].flatMap toks) [] =
    some (.vector [.symbol [46], .literal (.int 1)]) :=
  C09_parseVector_inverts _ 3 (by decide) (by decide)

example (env : Tok → Value) : eval env (.unquoted (.ident (asc "x"))) = env (.ident (asc "x")) :=
  C09_unquote env _

example (env : Tok → Value) :
    eval env (.improper [.bool true] (.unquoted (.ident (asc "x")))) =
      .cons (.bool true) (env (.ident (asc "x"))) :=
  C09_unquote_tail env _ _

/-- `sexp!(((answer . ,(number + 2))))`-style: `(answer . ,e)` -/
example (env : Tok → Value) (e : Tok) :
    expand env (toks (.dotted [.sym (asc "answer")] (.unq e))) =
      some (.cons (.symbol (asc "answer")) (env e)) :=
  C09_unquote_expand env [.sym (asc "answer")] e (by decide) (by decide)

example (env : Tok → Value) :
    eval env (.list ([.bool true] ++ [.nil])) = .cons (.bool true) (.cons .nil .null) :=
  C09_tail_flatten env _ _

example (env : Tok → Value) :
    eval env (.improper ([.bool true] ++ [.nil]) (.bool false)) =
      .cons (.bool true) (.cons .nil (.bool false)) :=
  C09_tail_flatten_improper env _ _ _

example (env : Tok → Value) :
    eval env (flattenTail [.bool true] (.improper [.nil] (.bool false))) =
      .cons (.bool true) (.cons .nil (.bool false)) :=
  C09_flattenTail_eval env _ _

example (env : Tok → Value) : eval env (mv exampleDoc) = valueOf env exampleDoc :=
  C09_eval_mv env exampleDoc

example (env : Tok → Value) : expand env (toks exampleDoc) = some (valueOf env exampleDoc) :=
  C09_expand env exampleDoc exampleDoc_wf (by decide)

example (env : Tok → Value) : expand env (toks exampleDoc) = some (valueOf env exampleDoc) :=
  C09_expand_small env exampleDoc exampleDoc_wf (by decide)

/-- `(- "s")`, `(- 'a')`, `(- "s" 1)` through `C09_expand`: the two- and three-element lists
    that start with the symbol `-` -/
theorem C09_expand_minus_before_string (env : Tok → Value) :
    expand env (toks (.list [.psym [45], .str (asc "s") (asc "s")])) =
      some (Value.list [.symbol [45], .string (asc "s")]) ∧
    expand env (toks (.list [.psym [45], .chr 97])) =
      some (Value.list [.symbol [45], .char 97]) ∧
    expand env (toks (.list [.psym [45], .str (asc "s") (asc "s"), .int 1])) =
      some (Value.list [.symbol [45], .string (asc "s"), .number (.pos 1)]) := by
  refine ⟨?_, ?_, ?_⟩
  · rw [C09_expand env _ (by decide) (by decide)]; simp [valueOf, valueOfL]
  · rw [C09_expand env _ (by decide) (by decide)]; simp [valueOf, valueOfL]
  · rw [C09_expand env _ (by decide) (by decide)]; simp [valueOf, valueOfL, Number.ofSigned]

/-- `(- "s" . ,e)` through `C09_unquote_expand` -/
example (env : Tok → Value) (e : Tok) :
    expand env (toks (.dotted [.psym [45], .str (asc "s") (asc "s")] (.unq e))) =
      some (.cons (.symbol [45]) (.cons (.string (asc "s")) (env e))) :=
  C09_unquote_expand env [.psym [45], .str (asc "s") (asc "s")] e (by decide) (by decide)

/-- the documented identities `(1 2 3) = (1 . (2 . (3 . ()))) = (1 2 . (3 . ()))` hold for the
    macro values already, hence for the expansions -/
example : mv (.dotted [.int 1] (.dotted [.int 2] (.dotted [.int 3] (.list [])))) =
      mv (.list [.int 1, .int 2, .int 3]) ∧
    mv (.dotted [.int 1, .int 2] (.dotted [.int 3] (.list []))) =
      mv (.list [.int 1, .int 2, .int 3]) := ⟨rfl, rfl⟩

end Macro
end Lexpr
