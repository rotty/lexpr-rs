/-
  C19, truncation clause: kernel-checked witnesses of the two classes of counterexamples, and
  concrete instances of the theorem (non-vacuity).  See Truncation.lean.
-/
import LexprModel.Proofs.Truncation
import LexprModel.Proofs.TruncHistory
namespace Lexpr
namespace Parse
open Trunc Locations

/-- `Options::elisp()`; the two tables are not consulted by the examples below -/
def elispCfg : Cfg := { opts := Options.elisp, isAlphabetic := fun _ => false, pow10 := fun _ => 0 }

/-- default options with Emacs character syntax only -/
def elispCharCfg : Cfg :=
  { opts := { Options.default with char := .elisp }, isAlphabetic := fun _ => false, pow10 := fun _ => 0 }

/-- default options, build without `fast-float-parsing` (no table is consulted) -/
def slowCfg : Cfg :=
  { opts := Options.default, fast := false, isAlphabetic := fun _ => false, pow10 := fun _ => 0 }

/-- default options, default build (`fast-float-parsing`) with the regenerated `POW10` table -/
def fastCfg : Cfg :=
  { opts := Options.default, fast := true, isAlphabetic := fun _ => false, pow10 := Numbers.pow10Tab }

/-! ### class A (repaired): a numeric Emacs escape whose value so far is a surrogate

  Before the repair these prefixes were reported as `InvalidUnicodeCodePoint` (syntax category);
  the model follows the repaired code: EOF category, same positions.  An escape that is complete
  (closing quote, delimiter, `}`) or of fixed length (`\u`) is still invalid. -/

/-- with `Options::elisp()`, `"\xD8000"` parses and its proper prefix `"\xD800` is now reported as
    `EofWhileParsingString` at 1:7 -/
example :
    (∃ v s1, fromTrait elispCfg (initSt .str (asc "\"\\xD8000\"")) = .ok v s1) ∧
    (∃ s', fromTrait elispCfg (initSt .str (asc "\"\\xD800")) =
        .err (.syntax .eofString 1 7) s' ∧ s'.rd.rest = []) ∧
    (Err.syntax .eofString 1 7).category = .eof ∧
    asc "\"\\xD800" <+: asc "\"\\xD8000\"" ∧ asc "\"\\xD800" ≠ asc "\"\\xD8000\"" :=
  ⟨Progress.okAny_elim (by decide +kernel), errIs_elim (by decide +kernel), rfl, by decide, by decide⟩

/-- an octal escape: `"\154000` (U+D800) is a prefix of `"\1540000"` (U+6C000) -/
example :
    (∃ v s1, fromTrait elispCfg (initSt .slice (asc "\"\\1540000\"")) = .ok v s1) ∧
    (∃ s', fromTrait elispCfg (initSt .slice (asc "\"\\154000")) =
        .err (.syntax .eofString 1 8) s' ∧ s'.rd.rest = []) :=
  ⟨Progress.okAny_elim (by decide +kernel), errIs_elim (by decide +kernel)⟩

/-- `\N{U+...}`: `"\N{U+D800` is a prefix of `"\N{U+D8000}"` -/
example :
    (∃ v s1, fromTrait elispCfg (initSt .io (asc "\"\\N{U+D8000}\"")) = .ok v s1) ∧
    (∃ s', fromTrait elispCfg (initSt .io (asc "\"\\N{U+D800")) =
        .err (.syntax .eofString 1 10) s' ∧ s'.rd.rest = []) :=
  ⟨Progress.okAny_elim (by decide +kernel), errIs_elim (by decide +kernel)⟩

/-- character literals, with only `CharSyntax::Elisp` switched on: `?\xD800` is a prefix of
    `?\xD8000`, `?\154000` of `?\1540000`; now `EofWhileParsingCharacterConstant` -/
example :
    (∃ v s1, fromTrait elispCharCfg (initSt .str (asc "?\\xD8000")) = .ok v s1) ∧
    (∃ s', fromTrait elispCharCfg (initSt .str (asc "?\\xD800")) =
        .err (.syntax .eofChar 1 7) s' ∧ s'.rd.rest = []) ∧
    (∃ s', fromTrait elispCharCfg (initSt .io (asc "?\\154000")) =
        .err (.syntax .eofChar 1 8) s' ∧ s'.rd.rest = []) :=
  ⟨Progress.okAny_elim (by decide +kernel), errIs_elim (by decide +kernel),
   errIs_elim (by decide +kernel)⟩

/-- still invalid, at the same positions as before: the escape is complete, or of fixed length -/
example :
    errIs .invalidUnicodeCodePoint 1 7 (asc "\"") (fromTrait elispCfg (initSt .str (asc "\"\\xD800\""))) = true ∧
    errIs .invalidUnicodeCodePoint 1 7 (asc " ") (fromTrait elispCfg (initSt .str (asc "?\\xD800 "))) = true ∧
    errIs .invalidUnicodeCodePoint 1 10 (asc "}\"") (fromTrait elispCfg (initSt .str (asc "\"\\N{U+D800}\""))) = true ∧
    errIs .invalidUnicodeCodePoint 1 8 (asc "\"") (fromTrait elispCfg (initSt .str (asc "\"\\154000\""))) = true ∧
    errIs .invalidUnicodeCodePoint 1 7 [] (fromTrait elispCfg (initSt .str (asc "\"\\uD800"))) = true := by
  decide +kernel

/-- a value above U+10FFFF at the end of the input stays a syntax error (no continuation helps) -/
example : errIs .invalidUnicodeCodePoint 1 9 [] (fromTrait elispCfg (initSt .str (asc "\"\\x110000"))) = true := by
  decide +kernel

/-! ### class B: an integer part of more than 308 digits -/

/-- `2` followed by 308 zeros (2e308, larger than every double) -/
def longInt : List UInt8 := 50 :: List.replicate 308 48

/-- **C19_truncation_counterexample_long_integer** (build without `fast-float-parsing`): `longInt`
    followed by `e-1` parses as a single datum (the number 2e307); its proper prefix `longInt` is
    reported as `NumberOutOfRange` at 1:309 — syntax category, all input consumed. -/
theorem C19_truncation_counterexample_long_integer :
    (∃ v s1, fromTrait slowCfg (initSt .str (longInt ++ asc "e-1")) = .ok v s1) ∧
    (∃ s', fromTrait slowCfg (initSt .str longInt) = .err (.syntax .numberOutOfRange 1 309) s' ∧
      s'.rd.rest = []) ∧
    (Err.syntax .numberOutOfRange 1 309).category = .syntax ∧ longInt <+: longInt ++ asc "e-1" :=
  ⟨Progress.okAny_elim (by decide +kernel), errIs_elim (by decide +kernel), rfl,
   List.prefix_append _ _⟩

/-- the same in the default build (`fast-float-parsing`, regenerated `POW10` table) -/
theorem C19_truncation_counterexample_long_integer_fast :
    (∃ v s1, fromTrait fastCfg (initSt .slice (longInt ++ asc "e-1")) = .ok v s1) ∧
    (∃ s', fromTrait fastCfg (initSt .slice longInt) = .err (.syntax .numberOutOfRange 1 309) s' ∧
      s'.rd.rest = []) ∧
    longInt <+: longInt ++ asc "e-1" :=
  ⟨Progress.okAny_elim (by decide +kernel), errIs_elim (by decide +kernel), List.prefix_append _ _⟩


/-! ### instances of the theorem (its hypotheses are satisfiable) -/

/-- `(a "b" #\x41)` parses; its prefix `(a "b` fails with `eofString` (EOF category) -/
example : (∃ v s1, fromTrait Progress.exCfg (initSt .slice (asc "(a \"b\" #\\x41)")) = .ok v s1) ∧
    (∃ s', fromTrait Progress.exCfg (initSt .slice (asc "(a \"b")) = .err (.syntax .eofString 1 5) s' ∧
      s'.rd.rest = []) :=
  ⟨Progress.okAny_elim (by decide +kernel), errIs_elim (by decide +kernel)⟩

/-- ... and `C19_truncation_eof` applies to it: all its hypotheses hold -/
example (e : Err) (s' : St)
    (hfail : fromTrait Progress.exCfg (initSt .slice (asc "(a \"b")) = .err e s') :
    e.category = .eof := by
  obtain ⟨v, s, hfull⟩ : ∃ v s1,
      fromTrait Progress.exCfg (initSt .slice (asc "(a \"b\" #\\x41)")) = .ok v s1 :=
    Progress.okAny_elim (by decide +kernel)
  obtain ⟨s'', h2, _⟩ : ∃ s', fromTrait Progress.exCfg (initSt .slice (asc "(a \"b")) =
      .err (.syntax .eofString 1 5) s' ∧ s'.rd.rest = [] := errIs_elim (by decide +kernel)
  refine C19_truncation_eof Progress.exCfg .slice _ _ v s e s' hfull (by decide) (by decide) hfail
    (fun l k h => ?_)
  rw [h2] at hfail; subst h; cases hfail

/-- the prefix `(a "b" #\x4` of the same text: the list is not closed, `eofList` -/
example : ∃ s', fromTrait Progress.exCfg (initSt .str (asc "(a \"b\" #\\x4")) =
    .err (.syntax .eofList 1 11) s' ∧ s'.rd.rest = [] := errIs_elim (by decide +kernel)

/-- the theorem applied to a class B witness: the exception holds, the category is not EOF -/
example : TruncExc (.syntax .numberOutOfRange 1 309) ∧
    (Err.syntax .numberOutOfRange 1 309).category ≠ .eof := ⟨⟨1, 309, rfl⟩, by decide⟩

/-- the clause of C19 as stated (no exception) is false for the model -/
theorem C19_truncation_clause_false :
    ¬ (∀ (cfg : Cfg) (mode : Mode) (t p : List UInt8) (v : Value) (s : St) (e : Err) (s' : St),
        fromTrait cfg (initSt mode t) = .ok v s → p <+: t → p ≠ t →
        fromTrait cfg (initSt mode p) = .err e s' → e.category = .eof) := by
  intro hall
  obtain ⟨⟨v, s, h1⟩, ⟨s', h2, _⟩, _, h4⟩ := C19_truncation_counterexample_long_integer
  have hne : longInt ≠ longInt ++ asc "e-1" := by
    intro h
    have h1 := congrArg List.length h
    have h3 : (asc "e-1").length = 3 := by decide
    rw [List.length_append, h3] at h1
    omega
  have := hall _ _ _ _ v s _ s' h1 h4 hne h2
  cases this

/-- four calls of a value iterator on `a (b) "c"`: three values and the end of the input -/
example : ∀ it ∈ runHistory Progress.exCfg [.valueIterNext, .valueIterNext, .valueIterNext, .valueIterNext]
    (initSt .io (asc "a (b) \"c" ++ asc "\"")), it.good = true := by decide +kernel

/-- on the truncated text `a (b) "c` the third call fails; `C19_truncation_history` applies (its
    hypothesis is the previous example) and says the error is of EOF category or an exception -/
example (e : Err)
    (he : Item.err e ∈ runHistory Progress.exCfg [.valueIterNext, .valueIterNext, .valueIterNext, .valueIterNext]
      (initSt .io (asc "a (b) \"c"))) :
    e.category = .eof ∨ TruncExc e :=
  C19_truncation_history Progress.exCfg .io _ (asc "a (b) \"c") (asc "\"") (by decide +kernel) e he

/-- the failing item is `eofString` -/
example : (runHistory Progress.exCfg [.valueIterNext, .valueIterNext, .valueIterNext, .valueIterNext]
      (initSt .io (asc "a (b) \"c"))).any (fun it => match it with
        | .err (.syntax .eofString 1 8) => true
        | _ => false) = true := by decide +kernel

end Parse
end Lexpr
