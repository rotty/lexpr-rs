/-
  C09 (text half, second part) — instances of `C09_agree_full` in both builds, witnesses that each
  float hypothesis and each clause on names is needed, and the names the parser can return at all
  (`C09_name_image`, `C09_keyword_names_exact`, `C09_symbol_names_necessary`).  A witness that is
  also a behaviour of the crate says so ("confirmed on the Rust code"); `C09_float_range_needed` is
  one of the model only.
-/
import LexprModel.Proofs.MacroText2
namespace Lexpr
namespace Macro
open Print
open Parse.ListRT
open Parse (PlainIdent symTermSlice)
open Decimals

/-! ## Float side conditions for the two example configurations -/

theorem fltOK_fast (L : DecLit) (hc : L.check = true) (hs : L.Small) (hS : L.sig < 2 ^ 53)
    (hlo : -22 ≤ L.exp10) (hhi : L.exp10 ≤ 22) : FltOK exCfgFast L :=
  ⟨L.wf_of_check hc, hs, Or.inl ⟨rfl, exTable, hS, hlo, hhi⟩⟩

theorem fltOK_slow (L : DecLit) (hc : L.check = true) (hs : L.Small) (hS : L.sig ≤ u64Max)
    (hfin : decRn L.sig L.exp10 < F64.infBits) : FltOK exCfgSlow L :=
  ⟨L.wf_of_check hc, hs, Or.inr ⟨rfl, hS, hfin⟩⟩

/-! ## An instance with every kind of leaf: `(a "x\ny" #\x1 1.5 -2e3 . #(#:k))` -/

/-- `1.5` -/
def lit1_5 : DecLit := ⟨asc "1", some (asc "5"), none⟩
/-- `2e3` -/
def lit2e3 : DecLit := ⟨asc "2", none, some ⟨101, [], asc "3"⟩⟩

/-- the Rust invocation `sexp!((a "x\ny" '\u{1}' 1.5 -2e3 . #(#:k)))`: the string literal has the
    six-byte source text `x\ny` and the three-byte value `x`, LF, `y` -/
def fullSx : Sx :=
  .dotted [.leaf (.sym (asc "a")), .leaf (.str (asc "x\\ny") [120, 10, 121]), .leaf (.chr 1),
      .flt false lit1_5, .flt true lit2e3]
    (.vec [.leaf (.kw (asc "k"))])

theorem fullSx_text : stext2 fullSx = asc "(a \"x\\ny\" #\\x1 1.5 -2e3 . #(#:k))" := by
  refine .trans ?_ (asc_ofList _).symm
  decide +kernel

theorem fullSx_wf : WF (erase fullSx) := by decide

theorem fullSx_ok_fast : TextOK2 exCfgFast fullSx := by
  simp only [TextOK2, fullSx, textOk2, textOkL2, textOkTail2, LeafOK]
  exact ⟨Or.inl (by decide), ⟨by decide, by decide,
    fltOK_fast _ (by decide) (by decide) (by decide) (by decide) (by decide),
    fltOK_fast _ (by decide) (by decide) (by decide) (by decide) (by decide), trivial⟩, by decide,
    trivial⟩

theorem fullSx_ok_slow : TextOK2 exCfgSlow fullSx := by
  simp only [TextOK2, fullSx, textOk2, textOkL2, textOkTail2, LeafOK]
  exact ⟨Or.inl (by decide), ⟨by decide, by decide,
    fltOK_slow _ (by decide) (by decide) (by decide) (by decide +kernel),
    fltOK_slow _ (by decide) (by decide) (by decide) (by decide +kernel), trivial⟩, by decide,
    trivial⟩

theorem fullSx_value (env : Tok → Value) : valueOf env (erase fullSx) =
    .cons (.symbol (asc "a")) (.cons (.string [120, 10, 121]) (.cons (.char 1)
      (.cons (.number (.flt 0x3FF8000000000000)) (.cons (.number (.flt 0xC09F400000000000))
        (.vector [.keyword (asc "k")]))))) := by
  have h1 : F64.rnDec lit1_5.sig lit1_5.exp10 = 0x3FF8000000000000 := by decide +kernel
  have h2 : F64.neg (F64.rnDec lit2e3.sig lit2e3.exp10) = 0xC09F400000000000 := by decide +kernel
  simp only [fullSx, erase, eraseL, valueOf, valueOfL, Value.append, if_true, Bool.false_eq_true,
    if_false, h1, h2]

/-- `C09_agree_full` is not vacuous; default build (regenerated `POW10` table): macro and
    parser both give the value `fullSx_value` for `(a "x\ny" #\x1 1.5 -2e3 . #(#:k))`. -/
example (env : Tok → Value) :
    expand env (toks (erase fullSx)) = some (valueOf env (erase fullSx)) ∧
      ∃ s', Parse.fromTrait exCfgFast (Parse.initSt .slice
          (asc "(a \"x\\ny\" #\\x1 1.5 -2e3 . #(#:k))")) = .ok (valueOf env (erase fullSx)) s' ∧
        s'.rd.rest = [] ∧ s'.depth = 128 :=
  fullSx_text ▸ C09_agree_full env exCfgFast rfl fullSx fullSx_wf fullSx_ok_fast (by decide)
    (by decide)

/-- … and in the build without fast-float-parsing -/
example (env : Tok → Value) :
    expand env (toks (erase fullSx)) = some (valueOf env (erase fullSx)) ∧
      ∃ s', Parse.fromTrait exCfgSlow (Parse.initSt .slice (stext2 fullSx)) =
          .ok (valueOf env (erase fullSx)) s' ∧ s'.rd.rest = [] ∧ s'.depth = 128 :=
  C09_agree_full_small env exCfgSlow rfl fullSx fullSx_wf fullSx_ok_slow (by decide) (by decide)

/-- a string with every kind of escape: `"`, `\`, BEL, TAB, DEL and a two-byte scalar -/
example (env : Tok → Value) (cfg : Parse.Cfg) (ho : cfg.opts = Parse.Options.default) :
    stext2 (.leaf (.str [] [34, 92, 7, 9, 127, 195, 169])) = asc "\"\\\"\\\\\\a\\t\\x7F;" ++ [195, 169, 34] ∧
    ∃ s', Parse.fromTrait cfg (Parse.initSt .slice (stext2 (.leaf (.str [] [34, 92, 7, 9, 127, 195, 169])))) =
        .ok (.string [34, 92, 7, 9, 127, 195, 169]) s' ∧ s'.rd.rest = [] ∧ s'.depth = 128 :=
  ⟨by decide, C09_text2 env cfg ho _ (by simp only [TextOK2, textOk2, LeafOK]; decide) (by decide)⟩

/-- floats at top level, positive and negative, in a list and in a vector -/
example (env : Tok → Value) :=
  C09_agree_float_default env exCfgFast rfl true lit1_5 (lit1_5.wf_of_check (by decide)) (by decide)
    rfl exTable (by decide) (by decide) (by decide)
example (env : Tok → Value) :=
  C09_agree_float_nofast env exCfgSlow rfl false lit2e3 (lit2e3.wf_of_check (by decide)) (by decide)
    rfl (by decide) (by decide +kernel)
example (env : Tok → Value) :
    ∃ s', Parse.fromTrait exCfgFast (Parse.initSt .slice (asc "(-1.5 #(2e3 1.5))")) =
        .ok (valueOf env (erase (.list [.flt true lit1_5, .vec [.flt false lit2e3, .flt false lit1_5]]))) s' ∧
      s'.rd.rest = [] ∧ s'.depth = 128 := by
  have : stext2 (.list [.flt true lit1_5, .vec [.flt false lit2e3, .flt false lit1_5]]) =
      asc "(-1.5 #(2e3 1.5))" := by decide +kernel
  rw [← this]
  refine C09_text2 env exCfgFast rfl _ ?_ (by decide)
  simp only [TextOK2, textOk2, textOkL2]
  exact ⟨fltOK_fast _ (by decide) (by decide) (by decide) (by decide) (by decide),
    ⟨fltOK_fast _ (by decide) (by decide) (by decide) (by decide) (by decide),
     fltOK_fast _ (by decide) (by decide) (by decide) (by decide) (by decide), trivial⟩, trivial⟩

/-! ## The window hypothesis is needed in the default build -/

/-- `1e-23` -/
def lit1em23 : DecLit := ⟨asc "1", none, some ⟨101, asc "-", asc "23"⟩⟩
/-- `8.5e-30` -/
def lit8_5em30 : DecLit := ⟨asc "8", some (asc "5"), some ⟨101, asc "-", asc "30"⟩⟩

theorem fast_85em31 :
    Parse.fastParts Numbers.pow10Tab ((-31 : Int).natAbs / 308 + 2) (F64.ofNat 85) (-31) =
      some 0x39E58CD0BEDA7ECA := by decide +kernel

/-- what the default build makes of a literal outside the window, given the value of the fast
    path on the scanned pair -/
theorem fast_reads (neg : Bool) (L : DecLit) (g : Nat) (hc : L.check = true)
    (hs : L.Small) (hS : L.sig ≤ u64Max)
    (hfp : Parse.fastParts Numbers.pow10Tab (L.exp10.natAbs / 308 + 2) (F64.ofNat L.sig) L.exp10 = some g) :
    ∃ s', Parse.fromTrait exCfgFast (Parse.initSt .slice (fltText neg L)) =
      .ok (.number (.flt (if neg then F64.neg g else g))) s' := by
  have hparts : ∀ u, Parse.f64FromParts exCfgFast (!neg) L.sig L.exp10 u =
      .ok (if neg then F64.neg g else g) u := by
    intro u
    unfold Parse.f64FromParts
    simp only [exCfgFast]
    rw [hfp]
    cases neg <;> rfl
  obtain ⟨s', e, _⟩ :=
    (float_reads_parts exCfgFast rfl neg L _ (L.wf_of_check hc) hs hS hparts).fromTrait_plain
      (by omega)
  exact ⟨s', e⟩

/-- In the default build (fast-float-parsing, the regenerated `POW10`
    table) the window hypothesis `|scanned exponent| ≤ 22` of `C09_agree_float_default` cannot be
    dropped: the literal `1e-23` (one digit, scanned exponent -23) is well formed, `sexp!(1e-23)`
    is the correctly rounded double `0x3B282DB34012B251` = 4262707295203537489, and the default
    parser reads the text `1e-23` as the next double up, …490; likewise with a minus sign.  The
    build without fast-float-parsing reads …489 (`C09_agree_float_nofast`).  Confirmed on the Rust
    code: macro and parser differ by one ulp, which C05 allows but C09 does not. -/
theorem C09_float_window_needed (env : Tok → Value) :
    lit1em23.WF ∧ lit1em23.Small ∧ lit1em23.sig = 1 ∧ lit1em23.exp10 = -23 ∧
    fltText false lit1em23 = asc "1e-23" ∧ fltText true lit1em23 = asc "-1e-23" ∧
    expand env (toks (erase (.flt false lit1em23))) = some (.number (.flt 4262707295203537489)) ∧
    (∃ s', Parse.fromTrait exCfgFast (Parse.initSt .slice (asc "1e-23")) =
      .ok (.number (.flt 4262707295203537490)) s') ∧
    expand env (toks (erase (.flt true lit1em23))) =
      some (.number (.flt (F64.neg 4262707295203537489))) ∧
    (∃ s', Parse.fromTrait exCfgFast (Parse.initSt .slice (asc "-1e-23")) =
      .ok (.number (.flt (F64.neg 4262707295203537490))) s') ∧
    (∃ s', Parse.fromTrait exCfgSlow (Parse.initSt .slice (asc "1e-23")) =
      .ok (.number (.flt 4262707295203537489)) s') := by
  have hwf : lit1em23.WF := lit1em23.wf_of_check (by decide)
  have hb : fltBits false lit1em23 = 4262707295203537489 := by decide +kernel
  have hbn : fltBits true lit1em23 = F64.neg 4262707295203537489 := by decide +kernel
  have ht : fltText false lit1em23 = asc "1e-23" := by decide
  have htn : fltText true lit1em23 = asc "-1e-23" := by decide
  have hfp := fast_1em23.1
  refine ⟨hwf, by decide, by decide, by decide, ht, htn, ?_, ?_, ?_, ?_, ?_⟩
  · rw [expand_flt, hb]
  · simpa [ht] using fast_reads false lit1em23 _ (by decide) (by decide) (by decide) hfp
  · rw [expand_flt, hbn]
  · simpa [htn] using fast_reads true lit1em23 _ (by decide) (by decide) (by decide) hfp
  · obtain ⟨_, ⟨s', h, _⟩, _⟩ := C09_agree_float_nofast env exCfgSlow rfl false lit1em23 hwf
      (by decide) rfl (by decide) (by decide +kernel)
    rw [ht, hb] at h
    exact ⟨s', h⟩

/-- A second literal outside the window: `8.5e-30` (two digits, scanned exponent -31).
    `sexp!(8.5e-30)` is `0x39E58CD0BEDA7EC9`, the default parser reads `0x39E58CD0BEDA7ECA`
    (printed `8.500000000000001e-30`).  Confirmed on the Rust code. -/
theorem C09_float_window_needed_8_5em30 (env : Tok → Value) :
    lit8_5em30.WF ∧ lit8_5em30.Small ∧ lit8_5em30.sig = 85 ∧ lit8_5em30.exp10 = -31 ∧
    fltText false lit8_5em30 = asc "8.5e-30" ∧
    expand env (toks (erase (.flt false lit8_5em30))) = some (.number (.flt 0x39E58CD0BEDA7EC9)) ∧
    (∃ s', Parse.fromTrait exCfgFast (Parse.initSt .slice (asc "8.5e-30")) =
      .ok (.number (.flt 0x39E58CD0BEDA7ECA)) s') ∧
    (∃ s', Parse.fromTrait exCfgSlow (Parse.initSt .slice (asc "8.5e-30")) =
      .ok (.number (.flt 0x39E58CD0BEDA7EC9)) s') := by
  have hwf : lit8_5em30.WF := lit8_5em30.wf_of_check (by decide)
  have hb : fltBits false lit8_5em30 = 0x39E58CD0BEDA7EC9 := by decide +kernel
  have ht : fltText false lit8_5em30 = asc "8.5e-30" := by decide
  refine ⟨hwf, by decide, by decide, by decide, ht, ?_, ?_, ?_⟩
  · rw [expand_flt, hb]
  · simpa [ht] using
      fast_reads false lit8_5em30 _ (by decide) (by decide) (by decide) fast_85em31
  · obtain ⟨_, ⟨s', h, _⟩, _⟩ := C09_agree_float_nofast env exCfgSlow rfl false lit8_5em30 hwf
      (by decide) rfl (by decide) (by decide +kernel)
    rw [ht, hb] at h
    exact ⟨s', h⟩

/-- `18446744073709553665.0`: twenty significant digits, `2^64 + 2049` -/
def litLong : DecLit := ⟨asc "18446744073709553665", some (asc "0"), none⟩

/-- the float a parse returned -/
def fltVal : Parse.Res Value → Option Nat
  | .ok (.number (.flt b)) _ => some b
  | _ => none

/-- The hypothesis "the significant digits fit `u64`" of
    `C09_agree_float_nofast` cannot be dropped, in either build: the literal
    `18446744073709553665.0` (= `2^64 + 2049`, twenty digits) lies just above the midpoint
    `2^64 + 2048` of two doubles, so `sexp!` (rustc) rounds it up to `2^64 + 4096`
    (bits 4895412794951729153); the parser's scanner drops the twentieth digit (`overflow!` of the
    `u64` significand), reads `1844674407370955366e1`, which is below the midpoint, and returns
    `2^64` (bits …152) — with and without fast-float-parsing.  Confirmed on the Rust code in both
    builds: macro and parser differ by one ulp (allowed by the accuracy clause of C05, not by C09). -/
theorem C09_float_digits_needed (env : Tok → Value) :
    litLong.WF ∧ litLong.Small ∧ litLong.sig = 2 ^ 64 + 2049 ∧ u64Max < litLong.sig ∧
    fltText false litLong = asc "18446744073709553665.0" ∧
    expand env (toks (erase (.flt false litLong))) = some (.number (.flt 4895412794951729153)) ∧
    F64.rn (2 ^ 64 + 2049) 1 = 4895412794951729153 ∧
    fltVal (Parse.fromTrait exCfgSlow (Parse.initSt .slice (asc "18446744073709553665.0"))) =
      some 4895412794951729152 ∧
    fltVal (Parse.fromTrait exCfgFast (Parse.initSt .slice (asc "18446744073709553665.0"))) =
      some 4895412794951729152 := by
  refine ⟨litLong.wf_of_check (by decide +kernel), by decide +kernel, by decide +kernel,
    by decide +kernel, by decide +kernel, ?_,
    by decide +kernel, by decide +kernel, by decide +kernel⟩
  rw [expand_flt]
  have : fltBits false litLong = 4895412794951729153 := by decide +kernel
  rw [this]

/-- `1e999` -/
def lit1e999 : DecLit := ⟨asc "1", none, some ⟨101, [], asc "999"⟩⟩

/-- The finiteness hypothesis of `C09_agree_float_nofast` is needed for
    the model: for `1e999` the model's macro side is `+∞` (`F64.rnDec`), while the parser (either
    build) rejects the text with `NumberOutOfRange`.  Not a behaviour of the real macro: rustc
    rejects the literal `1e999` (`overflowing_literals` is deny-by-default), so `sexp!(1e999)` does
    not compile. -/
theorem C09_float_range_needed (env : Tok → Value) :
    lit1e999.WF ∧ lit1e999.Small ∧ lit1e999.sig ≤ u64Max ∧
    expand env (toks (erase (.flt false lit1e999))) = some (.number (.flt F64.infBits)) ∧
    errCode (Parse.fromTrait exCfgSlow (Parse.initSt .slice (asc "1e999"))) =
      some .numberOutOfRange ∧
    errCode (Parse.fromTrait exCfgFast (Parse.initSt .slice (asc "1e999"))) =
      some .numberOutOfRange := by
  refine ⟨lit1e999.wf_of_check (by decide), by decide, by decide, ?_, by decide +kernel,
    by decide +kernel⟩
  rw [expand_flt]
  have : fltBits false lit1e999 = F64.infBits := by decide +kernel
  rw [this]

/-! ## Names -/

/-- Whatever the text and the parser options: every
    symbol and every keyword occurring (as an atom, at any depth) in a value the parser returns is
    well-formed UTF-8 and contains no symbol-terminator byte. -/
theorem C09_name_image (cfg : Parse.Cfg) (bytes : List UInt8) (v : Value) (s' : Parse.St)
    (h : Parse.fromTrait cfg (Parse.initSt .slice bytes) = .ok v s') :
    Parse.Image.AllAtoms (fun a => ∀ n, a = .symbol n ∨ a = .keyword n →
      Utf8.valid n = true ∧ ∀ b ∈ n, symTermSlice b = false) v := by
  refine Parse.Image.AllAtoms.impAtom ?_ v
    (Parse.Image.fromTrait_img h (by simp [Parse.initSt]))
  intro a _ ha n hn
  rcases hn with rfl | rfl
  · exact ⟨ha.1, ha.2.1⟩
  · exact ⟨ha.1, ha.2.1⟩

theorem C09_symbol_image (cfg : Parse.Cfg) (bytes name : List UInt8) (s' : Parse.St)
    (h : Parse.fromTrait cfg (Parse.initSt .slice bytes) = .ok (.symbol name) s') :
    Utf8.valid name = true ∧ ∀ b ∈ name, symTermSlice b = false := by
  have := C09_name_image cfg bytes _ s' h
  simp only [Parse.Image.AllAtoms] at this
  exact this name (Or.inl rfl)

theorem C09_keyword_image (cfg : Parse.Cfg) (bytes name : List UInt8) (s' : Parse.St)
    (h : Parse.fromTrait cfg (Parse.initSt .slice bytes) = .ok (.keyword name) s') :
    Utf8.valid name = true ∧ ∀ b ∈ name, symTermSlice b = false := by
  have := C09_name_image cfg bytes _ s' h
  simp only [Parse.Image.AllAtoms] at this
  exact this name (Or.inr rfl)

/-- `sexp!(#"a b")` is the symbol named `a b` (a well-formed tree,
    the macro accepts it), and NO S-expression text is read as that value, under any parser
    options: the name clause of `TextOK` / `TextOK2` cannot be dropped, and a name with a symbol
    terminator is outside every possible version of the theorem.  (The only candidate, the text
    `a b` the printer writes for it, is rejected with `TrailingCharacters` — on the Rust code
    too.) -/
theorem C09_space_symbol_no_text (env : Tok → Value) :
    WF (.qsym (asc "a b") (asc "a b")) ∧
    expand env (toks (.qsym (asc "a b") (asc "a b"))) = some (.symbol (asc "a b")) ∧
    (∀ (cfg : Parse.Cfg) (bytes : List UInt8) (s' : Parse.St),
      Parse.fromTrait cfg (Parse.initSt .slice bytes) ≠ .ok (.symbol (asc "a b")) s') ∧
    Print.text Print.Options.default (fun _ => []) (.symbol (asc "a b")) = asc "a b" ∧
    errCode (Parse.fromTrait cfg0 (Parse.initSt .slice (asc "a b"))) = some .trailingCharacters := by
  refine ⟨by decide, ?_, ?_, by decide, by decide +kernel⟩
  · rw [C09_expand env _ (by decide) (by decide)]; rfl
  · intro cfg bytes s' h
    have := (C09_symbol_image cfg bytes _ s' h).2 32 (by decide)
    exact absurd this (by decide)

/-- the same for a keyword: `sexp!(#:"a b")` -/
theorem C09_space_keyword_no_text (env : Tok → Value) :
    WF (.qkw (asc "a b") (asc "a b")) ∧
    expand env (toks (.qkw (asc "a b") (asc "a b"))) = some (.keyword (asc "a b")) ∧
    (∀ (cfg : Parse.Cfg) (bytes : List UInt8) (s' : Parse.St),
      Parse.fromTrait cfg (Parse.initSt .slice bytes) ≠ .ok (.keyword (asc "a b")) s') := by
  refine ⟨by decide, ?_, ?_⟩
  · rw [C09_expand env _ (by decide) (by decide)]; rfl
  · intro cfg bytes s' h
    have := (C09_keyword_image cfg bytes _ s' h).2 32 (by decide)
    exact absurd this (by decide)

/-- Under the default options the keyword names the theorems cover
    (`kwOk`: no terminator byte, not the lone `.`, well-formed UTF-8) are exactly the names of the
    keywords the parser can return (`KwImg`): the keyword clause is complete. -/
theorem C09_keyword_names_exact (cfg : Parse.Cfg) (ho : cfg.opts = Parse.Options.default)
    (name : List UInt8) : kwOk name = true ↔ Parse.Image.KwImg cfg name := by
  rw [kwOk_iff]
  unfold Parse.Image.KwImg Parse.Image.NonTerm
  rw [ho]
  constructor
  · rintro ⟨h1, h2, h3⟩
    exact ⟨h3, h1, Or.inl ⟨Or.inl rfl, h2⟩⟩
  · rintro ⟨h3, h1, h | h⟩
    · exact ⟨h1, h.2, h3⟩
    · exact absurd h.1 (by decide)

/-- A symbol the parser returns (any text, any options) has a
    name in `SymImg`: the second alternative of `symOk2` asks, beyond `dotHeadOk`, only what is
    necessary. -/
theorem C09_symbol_names_necessary (cfg : Parse.Cfg) (bytes name : List UInt8) (s' : Parse.St)
    (h : Parse.fromTrait cfg (Parse.initSt .slice bytes) = .ok (.symbol name) s') :
    Parse.Image.SymImg cfg name := by
  simpa only [Parse.Image.AllAtoms, Parse.Image.AtomImg] using
    Parse.Image.fromTrait_img h (by simp [Parse.initSt])

/-- under the default options the symbol names of `TextOK` are in the image of the parser: the
    first alternative of `symOk2` is a special case of the second.  (A `PlainIdent` is name-shaped
    and the default options turn no name into a keyword, `nil` or `t`.) -/
theorem symOk2_of_symOk (cfg : Parse.Cfg) (ho : cfg.opts = Parse.Options.default)
    (n : List UInt8) (h : symOk n = true) :
    Parse.Image.SymImg cfg n ∧ dotHeadOk n = true := by
  rw [symOk_iff] at h
  obtain ⟨⟨hshape, hvalid⟩, hdot⟩ := h
  cases n with
  | nil => simp [Parse.plainShape] at hshape
  | cons b tl =>
    refine ⟨⟨hvalid, ?_, Or.inl ⟨(Parse.nameShape_of_plainShape cfg ho b tl hshape).1,
      Parse.nameTok_default cfg ho _⟩⟩, hdot⟩
    simp only [Parse.plainShape, Bool.and_eq_true, List.all_eq_true, Bool.not_eq_true'] at hshape
    exact hshape.1

/-- the name of the symbol a parse returned -/
def symName : Parse.Res Value → Option (List UInt8)
  | .ok (.symbol n) _ => some n
  | _ => none

/-- The clause `dotHeadOk` of the symbol names cannot be dropped inside a
    list: `.|a` is a symbol the parser returns (from the text `.|a`), `sexp!((#".|a" b))` is the
    list of the symbols `.|a` and `b`, the printer writes `(.|a b)` for it, and the parser rejects
    that text (`.` followed by a delimiter is taken for the dotted-pair marker).  C01 and C13 exclude
    the same names; confirmed on the Rust code for the macro. -/
theorem C09_dot_head_needed (env : Tok → Value) :
    symName (Parse.fromTrait cfg0 (Parse.initSt .slice (asc ".|a"))) = some (asc ".|a") ∧
    dotHeadOk (asc ".|a") = false ∧
    WF (.list [.qsym (asc ".|a") (asc ".|a"), .sym (asc "b")]) ∧
    expand env (toks (.list [.qsym (asc ".|a") (asc ".|a"), .sym (asc "b")])) =
      some (Value.list [.symbol (asc ".|a"), .symbol (asc "b")]) ∧
    Print.text Print.Options.default (fun _ => [])
      (Value.list [.symbol (asc ".|a"), .symbol (asc "b")]) = asc "(.|a b)" ∧
    errCode (Parse.fromTrait cfg0 (Parse.initSt .slice (asc "(.|a b)"))) =
      some .expectedSomeValue := by
  refine ⟨by decide +kernel, by decide, by decide, ?_, by decide, by decide +kernel⟩
  rw [C09_expand env _ (by decide) (by decide)]; rfl

/-- a parser configuration whose `char::is_alphabetic` knows the letter lambda (U+03BB) -/
def lamCfg : Parse.Cfg := { exCfgFast with isAlphabetic := fun c => c == 955 }

/-- `(λx 1.5)`: a symbol that starts with a non-ASCII letter, outside `TextOK`, inside `TextOK2` -/
example (env : Tok → Value) :
    symOk [206, 187, 120] = false ∧
    ∃ s', Parse.fromTrait lamCfg (Parse.initSt .slice ([40, 206, 187, 120] ++ asc " 1.5)")) =
        .ok (Value.list [.symbol [206, 187, 120], .number (.flt 0x3FF8000000000000)]) s' ∧
      s'.rd.rest = [] ∧ s'.depth = 128 := by
  refine ⟨by decide, ?_⟩
  have hok : TextOK2 lamCfg (.list [.leaf (.sym [206, 187, 120]), .flt false lit1_5]) := by
    simp only [TextOK2, textOk2, textOkL2, LeafOK]
    refine ⟨Or.inr ⟨⟨by decide, by decide, Or.inl ⟨by decide, ?_⟩⟩, by decide⟩,
      ⟨lit1_5.wf_of_check (by decide), by decide,
        Or.inl ⟨rfl, exTable, by decide, by decide, by decide⟩⟩, trivial⟩
    exact Parse.nameTok_default lamCfg rfl _
  have ht : stext2 (.list [.leaf (.sym [206, 187, 120]), .flt false lit1_5]) =
      [40, 206, 187, 120] ++ asc " 1.5)" := by decide +kernel
  have h1 : F64.rnDec lit1_5.sig lit1_5.exp10 = 0x3FF8000000000000 := by decide +kernel
  have := C09_text2 env lamCfg rfl _ hok (by decide)
  rw [ht] at this
  simpa [erase, eraseL, valueOf, valueOfL, h1] using this

/-- `#"…"` and `#:"…"` take the source text of the string literal, not its value, as the name:
    the Rust invocation `sexp!(#"a\"b")` (source text `a\"b`, value `a"b`) is the symbol with the
    four-byte name `a\"b`.  (`string_literal` in parser.rs strips the quotes of
    `Literal::to_string()`; confirmed on the Rust code.)  The theorems therefore speak of the
    source text `src` for these two spellings. -/
theorem qsym_source_text_witness (env : Tok → Value) :
    expand env (toks (.qsym (asc "a\\\"b") (asc "a\"b"))) = some (.symbol [97, 92, 34, 98]) ∧
    expand env (toks (.qkw (asc "a\\nb") [97, 10, 98])) = some (.keyword [97, 92, 110, 98]) := by
  constructor
  · rw [C09_expand env _ (by decide) (by decide)]; rfl
  · rw [C09_expand env _ (by decide) (by decide)]; rfl

#print axioms str_reads
#print axioms float_reads
#print axioms reads2
#print axioms C09_text2
#print axioms C09_agree_full
#print axioms C09_agree_full_small
#print axioms C09_agree_float_default
#print axioms C09_agree_float_nofast
#print axioms fullSx_ok_fast
#print axioms fullSx_ok_slow
#print axioms fullSx_value
#print axioms C09_float_window_needed
#print axioms C09_float_window_needed_8_5em30
#print axioms C09_float_digits_needed
#print axioms C09_float_range_needed
#print axioms C09_name_image
#print axioms C09_space_symbol_no_text
#print axioms C09_space_keyword_no_text
#print axioms C09_keyword_names_exact
#print axioms C09_symbol_names_necessary
#print axioms symOk2_of_symOk
#print axioms C09_dot_head_needed
#print axioms qsym_source_text_witness

end Macro
end Lexpr
