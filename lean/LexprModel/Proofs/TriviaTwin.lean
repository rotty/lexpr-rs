/-
  TriviaTwin — `Concat.Trivia` / `Concat.TriviaEnd`: the predicates `Triv` / `TrivEnd` of
  `Reads.lean` under the names and in the form the concatenation statements use (`TriviaEnd` as a
  disjunction), the conversions, and the Boolean checkers `triviaB` / `triviaEndB` with their
  soundness.  The lemmas on skipping, appending and following are on `Triv`; a `Trivia` is
  converted where it is used (`Trivia.triv`, `TriviaEnd.trivEnd`).
-/
import LexprModel.Proofs.Reads
namespace Lexpr
namespace Parse
namespace Concat
open ListRT

/-- Trivia: whitespace bytes (space 32, tab 9, CR 13, LF 10, form feed 12) and complete line
    comments `;` … LF. -/
inductive Trivia : List UInt8 → Prop where
  | nil : Trivia []
  | ws (b : UInt8) (t : List UInt8) : isTrivia b = true → Trivia t → Trivia (b :: t)
  | comment (body t : List UInt8) : (∀ x ∈ body, x ≠ 10) → Trivia t →
      Trivia (59 :: (body ++ 10 :: t))

/-- Trivia at the very end of the input: the last comment may lack its line feed. -/
def TriviaEnd (t : List UInt8) : Prop :=
  Trivia t ∨ ∃ t1 body, t = t1 ++ 59 :: body ∧ Trivia t1 ∧ ∀ x ∈ body, x ≠ 10

theorem triv_iff_trivia (t : List UInt8) : Triv t ↔ Trivia t := by
  constructor
  · intro h
    induction h with
    | nil => exact .nil
    | ws b t hb _ ih => exact .ws b t hb ih
    | comment body t hbody _ ih => exact .comment body t hbody ih
  · intro h
    induction h with
    | nil => exact .nil
    | ws b t hb _ ih => exact .ws b t hb ih
    | comment body t hbody _ ih => exact .comment body t hbody ih

theorem Trivia.triv {t : List UInt8} (h : Trivia t) : Triv t := (triv_iff_trivia t).2 h

theorem Trivia.append {a b : List UInt8} (ha : Trivia a) (hb : Trivia b) : Trivia (a ++ b) :=
  (triv_iff_trivia _).1 (ha.triv.append hb.triv)

theorem TriviaEnd.trivEnd {t : List UInt8} (h : TriviaEnd t) : TrivEnd t := by
  rcases h with h | ⟨t1, body, rfl, h1, h2⟩
  · exact h.triv.toEnd
  · exact ⟨t1, 59 :: body, h1.triv, .inr ⟨body, h2, rfl⟩, rfl⟩

theorem TriviaEnd.prepend {a b : List UInt8} (ha : Trivia a) (hb : TriviaEnd b) :
    TriviaEnd (a ++ b) := by
  rcases hb with hb | ⟨t1, body, rfl, h1, h2⟩
  · exact .inl (ha.append hb)
  · exact .inr ⟨a ++ t1, body, by simp, ha.append h1, h2⟩

theorem TriviaEnd.nil : TriviaEnd [] := .inl .nil

/-- Boolean scanner behind `triviaB` / `triviaEndB`: `endOk` says whether the input may end
    inside a comment, the second argument whether the scanner is inside one. -/
def scan (endOk : Bool) : Bool → List UInt8 → Bool
  | c, [] => !c || endOk
  | false, b :: bs => if b == 59 then scan endOk true bs else isTrivia b && scan endOk false bs
  | true, b :: bs => if b == 10 then scan endOk false bs else scan endOk true bs

def triviaB (t : List UInt8) : Bool := scan false false t
def triviaEndB (t : List UInt8) : Bool := scan true false t

theorem scan_comment (endOk : Bool) : ∀ bs : List UInt8, scan endOk true bs = true →
    (∃ body t, bs = body ++ 10 :: t ∧ (∀ x ∈ body, x ≠ 10) ∧ scan endOk false t = true) ∨
    (endOk = true ∧ ∀ x ∈ bs, x ≠ 10)
  | [], h => by
    right
    simp only [scan, Bool.not_true, Bool.false_or] at h
    exact ⟨h, by simp⟩
  | b :: bs, h => by
    simp only [scan] at h
    by_cases hb : b = 10
    · subst hb
      simp only [beq_self_eq_true, if_true] at h
      exact .inl ⟨[], bs, rfl, by simp, h⟩
    · have hb' : (b == 10) = false := by simpa using hb
      simp only [hb', Bool.false_eq_true, if_false] at h
      rcases scan_comment endOk bs h with ⟨body, t, rfl, h1, h2⟩ | ⟨h1, h2⟩
      · refine .inl ⟨b :: body, t, rfl, ?_, h2⟩
        intro x hx
        rcases List.mem_cons.1 hx with rfl | hx
        · exact hb
        · exact h1 x hx
      · refine .inr ⟨h1, ?_⟩
        intro x hx
        rcases List.mem_cons.1 hx with rfl | hx
        · exact hb
        · exact h2 x hx

/-- What `scan` accepts from outside a comment is trivia, or, if the input may end inside a
    comment, trivia up to a last comment without its line feed.  The fuel `n` is for the recursion,
    which jumps over a whole comment. -/
theorem scan_sound (endOk : Bool) : ∀ (n : Nat) (t : List UInt8), t.length ≤ n →
    scan endOk false t = true → Trivia t ∨ (endOk = true ∧ TriviaEnd t)
  | _, [], _, _ => .inl .nil
  | 0, _ :: _, hl, _ => by simp at hl
  | n + 1, b :: bs, hl, h => by
    simp only [scan] at h
    by_cases hb : b = 59
    · subst hb
      simp only [beq_self_eq_true, if_true] at h
      rcases scan_comment endOk bs h with ⟨body, t, rfl, h1, h2⟩ | ⟨he, h2⟩
      · rcases scan_sound endOk n t
            (by simp only [List.length_cons, List.length_append] at hl; omega) h2 with ht | ⟨he, ht⟩
        · exact .inl (.comment body t h1 ht)
        · have := TriviaEnd.prepend (.comment body [] h1 .nil) ht
          exact .inr ⟨he, by simpa using this⟩
      · exact .inr ⟨he, .inr ⟨[], bs, rfl, .nil, h2⟩⟩
    · have hb' : (b == 59) = false := by simpa using hb
      simp only [hb', Bool.false_eq_true, if_false, Bool.and_eq_true] at h
      rcases scan_sound endOk n bs (by simp only [List.length_cons] at hl; omega) h.2 with
        ht | ⟨he, ht⟩
      · exact .inl (.ws b bs h.1 ht)
      · exact .inr ⟨he, TriviaEnd.prepend (.ws b [] h.1 .nil) ht⟩

theorem trivia_of_triviaB (t : List UInt8) (h : triviaB t = true) : Trivia t :=
  (scan_sound false t.length t (Nat.le_refl _) h).resolve_right fun h' => Bool.noConfusion h'.1

theorem triviaEnd_of_triviaEndB (t : List UInt8) (h : triviaEndB t = true) : TriviaEnd t :=
  (scan_sound true t.length t (Nat.le_refl _) h).elim .inl (·.2)

theorem scan_body (endOk : Bool) (body t : List UInt8) (h : ∀ x ∈ body, x ≠ 10) :
    scan endOk true (body ++ 10 :: t) = scan endOk false t := by
  induction body with
  | nil => simp [scan]
  | cons b bs ih =>
    have hb : (b == 10) = false := by simpa using h b (by simp)
    simp only [List.cons_append, scan, hb, Bool.false_eq_true, if_false]
    exact ih (fun x hx => h x (by simp [hx]))

theorem triviaB_of_trivia (t : List UInt8) (h : Trivia t) : triviaB t = true := by
  unfold triviaB
  induction h with
  | nil => rfl
  | ws b t hb _ ih => simp [scan, trivia_not_semicolon b hb, hb, ih]
  | comment body t hbody _ ih => simp [scan, scan_body false body t hbody, ih]

theorem trivia_iff (t : List UInt8) : Trivia t ↔ triviaB t = true :=
  ⟨triviaB_of_trivia t, trivia_of_triviaB t⟩

theorem trivia_follow (t rest : List UInt8) (h : Trivia t) (hne : t ≠ []) : Follow (t ++ rest) :=
  h.triv.follow hne rest

theorem triviaEnd_follow (t : List UInt8) (h : TriviaEnd t) : Follow t := h.trivEnd.follow

end Concat
end Parse
end Lexpr
