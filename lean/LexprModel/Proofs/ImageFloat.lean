/-
  ImageFloat — C13, float leaves: a float whose ryu text lies in the exact window of the build
  (`Decimals.FloatOK`) reads back bit for bit under every parser option set.  This is
  `FullRT.atomOKP_float` of FloatLeaf.lean (every printer / parser pair) at the printer options
  `pof cfg.opts`.
-/
import LexprModel.Proofs.FloatLeaf
namespace Lexpr
namespace Parse
namespace Image
open Spec Decimals

theorem atomOKP_float (cfg : Cfg) (ryu : Nat → List UInt8) (b : Nat) (h : FloatOK cfg ryu b) :
    ListRT.AtomOKP (pof cfg.opts) cfg ryu (.number (.flt b)) :=
  FullRT.atomOKP_float (pof cfg.opts) cfg ryu b h

end Image
end Parse
end Lexpr
