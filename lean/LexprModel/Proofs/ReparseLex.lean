/-
  C11, re-parse clause — the lexer: every function of Lex.lean treats the end of the input like
  the byte at which it stopped (`TrK 0`, see ReparseCore.lean).  The functions that never `peek`
  are followed at any distance from the boundary (`TrK k` for every `k`).
-/
import LexprModel.Proofs.ReparseCore
namespace Lexpr
namespace Parse
namespace Reparse
open Progress Spans

/-- what the truncated run, which has seen the end of input (`0` from `peek_or_null`), computes -/
theorem zero_facts : isDigit 0 = false ∧ ((0 : UInt8) == 46) = false ∧
    ((0 : UInt8) == 101) = false ∧ ((0 : UInt8) == 69) = false ∧ ((0 : UInt8) == 45) = false ∧
    ((0 : UInt8) == 43) = false := by decide
theorem zero_ne_35 : ((0 : UInt8) == 35) = false := by decide
theorem zero_ne_64 : ((0 : UInt8) == 64) = false := by decide
theorem zero_eq_zero : ((0 : UInt8) == 0) = true := by decide

section
variable {cfg : Cfg} {f : Nat} {pos : Bool} {sig : Nat} {e : Int}

/-! the functions that read at least one byte, from their specifications in Progress.lean -/
theorem Prog.parseExponent : Prog (parseExponent cfg f pos sig e) := .of_spec fun _ => parseExponent_spec
theorem Prog.parseDecimal : Prog (parseDecimal cfg f pos sig e) := .of_spec fun _ => parseDecimal_spec
theorem Prog.parseNumToken : Prog (parseNumToken cfg f pos) := .of_spec fun _ => parseNumToken_spec
theorem Prog.parseNumber : Prog (parseNumber cfg f) := .of_spec fun _ => parseNumber_spec
theorem Prog.parseSignDotSymbol {pfx : List UInt8} : Prog (parseSignDotSymbol cfg pfx) :=
  .of_spec fun _ => parseSignDotSymbol_spec

end

/-- a function that reads at least one byte -/
macro "prog" : tactic => `(tactic| with_reducible first
  | exact Prog.next
  | exact Prog.parseExponent
  | exact Prog.parseDecimal
  | exact Prog.parseNumToken
  | exact Prog.parseNumber
  | exact Prog.parseSignDotSymbol)

/-! ### the walk

  `tr [l₁, …]` follows the `do` block on a goal `TrK k m m'` by the rules of ReparseCore.lean; the
  `lᵢ` are the lemmas of the functions called.  Behind a `peek`, `peek_or_null` or
  `parse_whitespace` the goal is `T3 b L L' R'`: there `R'`, the truncated run at the end of the
  input, is first evaluated (`0` is no digit, `none` selects its arm), then `L` is followed by
  cases until it is what `R'` is (`T3.same`), consumes (`discard_bind`, `prog`, `prog_bind`) or
  fails (`neverOk`); each of these leaves `TrK` goals for the parts of `L`, so every part is gone
  through once.  The rules are tried at reducible transparency: one that does not apply fails at
  the head symbol of the program. -/

syntax "tr_step" "[" term,* "]" : tactic
syntax "tr" "[" term,* "]" : tactic
macro_rules
  | `(tactic| tr [$ts,*]) => `(tactic| repeat' tr_step [$ts,*])
macro_rules
  | `(tactic| tr_step [$ts,*]) => `(tactic| first
      | (with_reducible show TrK _ _ _; first
        | with_reducible first
          | refine TrK.ite (fun _ => ?_) (fun _ => ?_)
          | (refine TrK.bind_peek3 ?_ (fun _ => ?_) <;> try dsimp only)
          | (refine TrK.bind_parseWhitespace3 ?_ (fun _ => ?_) <;> try dsimp only)
          | (refine TrK.bind_peekOrNull3 (fun _ => ?_);
             try simp only [zero_facts, digitVal_zero, zero_ne_35, zero_ne_64, zero_eq_zero,
               Bool.or_self, Bool.true_or, Bool.false_eq_true, if_false, if_true,
               Option.isNone_none, Bool.and_true, Bool.true_and])
          | refine TrK.bind ?_ (fun _ => ?_)
          | exact TrK.pure
          | exact TrK.errAt
          | exact TrK.peekErr
          | exact TrK.panicAt
          | exact next_t
          | exact discard_t
          $[| exact $ts]*
        | split)
      | (with_reducible show T3 _ _ _ _; first
        | with_reducible first
          | refine T3.same ?_
          | refine T3.ite3 (fun _ => ?_) (fun _ => ?_)
          | refine T3.ite (fun _ => ?_) (fun _ => ?_)
          | refine T3.discard_bind (fun _ => ?_)
          | exact T3.discard
          | exact T3.neverOk NeverOk.errAt
          | exact T3.neverOk NeverOk.peekErr
          | refine T3.prog ?_ (by prog)
          | refine T3.prog_bind ?_ (by prog) (fun _ => ?_)
          | refine T3.bind ?_ (fun _ => ?_)
        | split))

theorem nextOrEof_t {k : Nat} : TrK k nextOrEof nextOrEof := by
  unfold nextOrEof
  tr []

theorem nextOrEofChar_t {k : Nat} : TrK k nextOrEofChar nextOrEofChar := by
  unfold nextOrEofChar
  tr []

theorem nextOrNull_t {k : Nat} : TrK k nextOrNull nextOrNull := by
  unfold nextOrNull
  tr []

theorem readCont_t {k n : Nat} {acc : List UInt8} : TrK k (readCont n acc) (readCont n acc) := by
  induction n generalizing acc with
  | zero => unfold readCont; tr []
  | succ n ih => unfold readCont; tr [ih]

theorem decodeUtf8Sequence_t {k : Nat} {b : UInt8} :
    TrK k (decodeUtf8Sequence b) (decodeUtf8Sequence b) := by
  unfold decodeUtf8Sequence
  tr [readCont_t]

theorem decodeR6rsHexEscape_t {k f f' n : Nat} :
    TrK k (decodeR6rsHexEscape f n) (decodeR6rsHexEscape f' n) := by
  induction f generalizing f' n with
  | zero => exact TrK.fuel0 rfl
  | succ f ih =>
    refine TrK.fuel_cases (G := fun f' => decodeR6rsHexEscape f' n) rfl (fun g => ?_) f'
    unfold decodeR6rsHexEscape
    tr [nextOrEof_t, ih]

theorem _root_.Lexpr.Parse.DigitLoop.tr {F : Nat → Nat → P Nat} {val : UInt8 → Option Nat} {base : Nat}
    (hF : DigitLoop F val base) {f f' n : Nat} : TrK 0 (F f n) (F f' n) := by
  induction f generalizing f' n with
  | zero => exact TrK.fuel0 (hF.zero n)
  | succ f ih =>
    refine TrK.fuel_cases (G := fun f' => F f' n) (hF.zero n) (fun g => ?_) f'
    rw [hF.succ, hF.succ]
    unfold digitStep
    tr [ih]

theorem decodeElispHexEscape_t {f f' n : Nat} :
    TrK 0 (decodeElispHexEscape f n) (decodeElispHexEscape f' n) :=
  decodeElispHexEscape_loop.tr

theorem parseR6rsEscape_t {k f f' : Nat} {acc : List UInt8} :
    TrK k (parseR6rsEscape f acc) (parseR6rsEscape f' acc) := by
  unfold parseR6rsEscape
  tr [nextOrEof_t, decodeR6rsHexEscape_t]

theorem finishStr_t {k : Nat} {c : Bool} {bs : List UInt8} : TrK k (finishStr c bs) (finishStr c bs) := by
  unfold finishStr
  tr [getMode_t]

theorem parseR6rsStr_t {k f f' : Nat} {acc : List UInt8} :
    TrK k (parseR6rsStr f acc) (parseR6rsStr f' acc) := by
  induction f generalizing f' acc with
  | zero => exact TrK.fuel0 rfl
  | succ f ih =>
    refine TrK.fuel_cases (G := fun f' => parseR6rsStr f' acc) rfl (fun g => ?_) f'
    unfold parseR6rsStr
    tr [nextOrEof_t, finishStr_t, parseR6rsEscape_t, ih]

theorem decodeElispUniEscape_t {k count n : Nat} :
    TrK k (decodeElispUniEscape count n) (decodeElispUniEscape count n) := by
  induction count generalizing n with
  | zero => unfold decodeElispUniEscape; tr []
  | succ f ih => unfold decodeElispUniEscape; tr [nextOrEof_t, ih]

theorem decodeElispOctalEscape_t {f f' n : Nat} :
    TrK 0 (decodeElispOctalEscape f n) (decodeElispOctalEscape f' n) :=
  decodeElispOctalEscape_loop.tr

theorem surrogate_not_scalar {n : Nat} (h : Utf8.isSurrogate n = true) : isScalar n = false := by
  unfold isScalar; simp [h]

theorem elispCharEscape_t {k : Nat} {acc : List UInt8} {n : Nat} :
    TrK k (elispCharEscape acc n) (elispCharEscape acc n) := by
  unfold elispCharEscape
  refine TrK.ite (fun _ => ?_) (fun _ => TrK.ite (fun _ => TrK.of_neverOk ?_) (fun _ => TrK.errAt))
  · tr []
  · -- a surrogate: an error whether or not the input ends here
    intro S a S' h
    obtain ⟨o, S1, _, h⟩ := bind_ok h
    cases o <;> simp [errAt] at h

theorem elispUniCharEscape_t {k : Nat} {acc : List UInt8} {n : Nat} :
    TrK k (elispUniCharEscape acc n) (elispUniCharEscape acc n) := by
  unfold elispUniCharEscape
  tr []

theorem parseElispEscape_t {f f' : Nat} {acc : List UInt8} :
    TrK 0 (parseElispEscape f acc) (parseElispEscape f' acc) := by
  unfold parseElispEscape
  tr [nextOrEof_t, decodeElispHexEscape_t, decodeElispUniEscape_t, decodeElispOctalEscape_t,
    elispCharEscape_t, elispUniCharEscape_t]
  -- `\N{U+<surrogate>`: the full run, which sees one more byte, fails as well
  rename_i hsur _
  refine T3.neverOk fun S a S' h => ?_
  obtain ⟨r, S1, h1, _⟩ := bind_ok h
  unfold elispUniCharEscape at h1
  simp [surrogate_not_scalar hsur, errAt] at h1

theorem parseElispStr_t {f f' : Nat} {acc : List UInt8} {ub mb na : Bool} :
    TrK 0 (parseElispStr f acc ub mb na) (parseElispStr f' acc ub mb na) := by
  induction f generalizing f' acc ub mb na with
  | zero => exact TrK.fuel0 rfl
  | succ f ih =>
    refine TrK.fuel_cases (G := fun f' => parseElispStr f' acc ub mb na) rfl (fun g => ?_) f'
    unfold parseElispStr
    tr [nextOrEof_t, finishStr_t, parseElispEscape_t, ih]

theorem decodeR6rsCharHexEscape_t {f f' n : Nat} {first : Bool} :
    TrK 0 (decodeR6rsCharHexEscape f n first) (decodeR6rsCharHexEscape f' n first) := by
  induction f generalizing f' n first with
  | zero => exact TrK.fuel0 rfl
  | succ f ih =>
    refine TrK.fuel_cases (G := fun f' => decodeR6rsCharHexEscape f' n first) rfl (fun g => ?_) f'
    unfold decodeR6rsCharHexEscape
    tr [ih]

theorem charNameTail_t {initial : UInt8} :
    TrK 0 (PrefixDet.charNameTail initial) (PrefixDet.charNameTail initial) := by
  rw [PrefixDet.charNameTail_eq]
  tr [scan_t charNameLen_scanner0]

/-- at a byte that is not a delimiter the character-name scanner consumes -/
theorem charNameTail_bd {initial b : UInt8} {m' : P Nat} (hb : ¬ isCharDelimiter b = true) :
    Bd b (PrefixDet.charNameTail initial) m' := by
  refine Bd.of_prog_at fun S a S' t hS hr => ?_
  rw [PrefixDet.charNameTail_eq] at hr
  obtain ⟨tk, S1, h1, h2⟩ := bind_ok hr
  cases h1
  refine Nat.lt_of_le_of_lt ((?_ : MonoOk _) _ a S' h2) ?_
  · exact TrK.mono (k := 1) (by tr [peek_t1])
  · have hc : charNameLen (b :: t) = charNameLen t + 1 := by simp [charNameLen, hb]
    show (S.rd.consume (charNameLen S.rd.rest)).rest.length < _
    rw [Rd.consume_rest, List.length_drop, hS, hc]
    simp only [List.length_cons]
    omega

theorem parseR6rsChar_t {f f' : Nat} : TrK 0 (parseR6rsChar f) (parseR6rsChar f') := by
  unfold parseR6rsChar
  -- the character-name branch is written out in `parseR6rsChar`: it starts with `getRest`
  repeat' first
    | ((with_reducible show TrK 0 (getRest >>= _) _); exact charNameTail_t)
    | tr_step [nextOrEofChar_t, decodeR6rsCharHexEscape_t, decodeUtf8Sequence_t]
  exact ⟨charNameTail_t, charNameTail_bd ‹_›⟩

theorem asChar_t {k n : Nat} : TrK k (asChar n) (asChar n) := by
  unfold asChar
  tr []

theorem asEscapedChar_t {k n : Nat} : TrK k (asEscapedChar n) (asEscapedChar n) := by
  unfold asEscapedChar
  refine TrK.ite (fun hsur => TrK.of_neverOk ?_) (fun _ => asChar_t)
  -- a surrogate: an error whether or not the input ends here
  intro S a S' h
  obtain ⟨o, S1, _, h⟩ := bind_ok h
  cases o with
  | none => simp [errAt] at h
  | some b =>
    dsimp only at h
    unfold asChar at h
    simp [surrogate_not_scalar hsur, errAt] at h

theorem decodeElispCharEscape_t {f f' : Nat} :
    TrK 0 (decodeElispCharEscape f) (decodeElispCharEscape f') := by
  unfold decodeElispCharEscape
  tr [nextOrEofChar_t, nextOrEof_t, decodeElispHexEscape_t, decodeElispUniEscape_t,
    decodeElispOctalEscape_t, asChar_t, asEscapedChar_t, decodeUtf8Sequence_t]

theorem parseElispChar_t {f f' : Nat} : TrK 0 (parseElispChar f) (parseElispChar f') := by
  unfold parseElispChar
  tr [decodeElispCharEscape_t, decodeUtf8Sequence_t]

theorem f64FromParts_t {k : Nat} {cfg : Cfg} {pos : Bool} {sig : Nat} {e : Int} :
    TrK k (f64FromParts cfg pos sig e) (f64FromParts cfg pos sig e) := by
  unfold f64FromParts
  tr []

theorem skipDigits_t : TrK 0 skipDigits skipDigits := by
  rw [PrefixDet.skipDigits_eq]
  tr [scan_t digits_scanner0]

theorem parseExponentOverflow_t {pos : Bool} {sig : Nat} {posExp : Bool} :
    TrK 0 (parseExponentOverflow pos sig posExp) (parseExponentOverflow pos sig posExp) := by
  unfold parseExponentOverflow
  tr [skipDigits_t]

theorem exponentLoop_t {cfg : Cfg} {pos : Bool} {sig : Nat} {startExp : Int} {posExp : Bool}
    {f f' exp : Nat} :
    TrK 0 (exponentLoop cfg pos sig startExp posExp f exp)
      (exponentLoop cfg pos sig startExp posExp f' exp) := by
  induction f generalizing f' exp with
  | zero => exact TrK.fuel0 rfl
  | succ f ih =>
    refine TrK.fuel_cases (G := fun f' => exponentLoop cfg pos sig startExp posExp f' exp) rfl
      (fun g => ?_) f'
    unfold exponentLoop
    tr [parseExponentOverflow_t, f64FromParts_t, ih]

theorem parseExponent_t {cfg : Cfg} {f f' : Nat} {pos : Bool} {sig : Nat} {startExp : Int} :
    TrK 0 (parseExponent cfg f pos sig startExp) (parseExponent cfg f' pos sig startExp) := by
  unfold parseExponent
  tr [exponentLoop_t]

theorem decimalLoop_t {f f' sig : Nat} {exp : Int} {zeros : Nat} {any : Bool} :
    TrK 0 (decimalLoop f sig exp zeros any) (decimalLoop f' sig exp zeros any) := by
  induction f generalizing f' sig exp zeros any with
  | zero => exact TrK.fuel0 rfl
  | succ f ih =>
    refine TrK.fuel_cases (G := fun f' => decimalLoop f' sig exp zeros any) rfl (fun g => ?_) f'
    unfold decimalLoop
    tr [skipDigits_t, ih]

theorem parseDecimal_t {cfg : Cfg} {f f' : Nat} {pos : Bool} {sig : Nat} {exp : Int} :
    TrK 0 (parseDecimal cfg f pos sig exp) (parseDecimal cfg f' pos sig exp) := by
  unfold parseDecimal
  tr [decimalLoop_t, parseExponent_t, f64FromParts_t]

theorem parseLongInteger_t {cfg : Cfg} {radix : Nat} {pos : Bool} {sig f f' exp : Nat} :
    TrK 0 (parseLongInteger cfg radix pos sig f exp) (parseLongInteger cfg radix pos sig f' exp) := by
  induction f generalizing f' exp with
  | zero => exact TrK.fuel0 rfl
  | succ f ih =>
    refine TrK.fuel_cases (G := fun f' => parseLongInteger cfg radix pos sig f' exp) rfl
      (fun g => ?_) f'
    unfold parseLongInteger
    generalize (2 : Nat) ^ 1024 = big
    tr [parseDecimal_t, parseExponent_t, f64FromParts_t, ih]

theorem parseNumTail_t {cfg : Cfg} {f f' radix : Nat} {pos : Bool} {sig : Nat} :
    TrK 0 (parseNumTail cfg f radix pos sig) (parseNumTail cfg f' radix pos sig) := by
  unfold parseNumTail
  tr [parseDecimal_t, parseExponent_t]

theorem numLoop_t {cfg : Cfg} {radix : Nat} {pos : Bool} {f f' res : Nat} :
    TrK 0 (numLoop cfg radix pos f res) (numLoop cfg radix pos f' res) := by
  induction f generalizing f' res with
  | zero => exact TrK.fuel0 rfl
  | succ f ih =>
    refine TrK.fuel_cases (G := fun f' => numLoop cfg radix pos f' res) rfl (fun g => ?_) f'
    unfold numLoop
    tr [parseNumTail_t, parseLongInteger_t, ih]

theorem parseNumLiteral_t {cfg : Cfg} {f f' radix : Nat} {pos : Bool} :
    TrK 0 (parseNumLiteral cfg f radix pos) (parseNumLiteral cfg f' radix pos) := by
  unfold parseNumLiteral
  tr [numLoop_t]

theorem parseRadixLiteral_t {cfg : Cfg} {f f' radix : Nat} :
    TrK 0 (parseRadixLiteral cfg f radix) (parseRadixLiteral cfg f' radix) := by
  unfold parseRadixLiteral
  tr [parseNumLiteral_t]

theorem expectNumberEnd_t {n : Number} : TrK 0 (expectNumberEnd n) (expectNumberEnd n) := by
  unfold expectNumberEnd
  tr []

theorem parseNumToken_t {cfg : Cfg} {f f' : Nat} {pos : Bool} :
    TrK 0 (parseNumToken cfg f pos) (parseNumToken cfg f' pos) := by
  unfold parseNumToken
  tr [parseNumLiteral_t, expectNumberEnd_t]

theorem parseRadixToken_t {cfg : Cfg} {f f' radix : Nat} :
    TrK 0 (parseRadixToken cfg f radix) (parseRadixToken cfg f' radix) := by
  unfold parseRadixToken
  tr [parseRadixLiteral_t, expectNumberEnd_t]

theorem parseNumber_t {cfg : Cfg} {f f' : Nat} : TrK 0 (parseNumber cfg f) (parseNumber cfg f') := by
  unfold parseNumber
  tr [parseRadixLiteral_t]

theorem expectIdent_t {k : Nat} {cs : List UInt8} : TrK k (expectIdent cs) (expectIdent cs) := by
  induction cs with
  | nil => unfold expectIdent; tr []
  | cons c cs ih => unfold expectIdent; tr [ih]

theorem parseSymbolBytes_t {scratch : List UInt8} :
    TrK 0 (parseSymbolBytes scratch) (parseSymbolBytes scratch) := by
  rw [PrefixDet.parseSymbolBytes_eq]
  tr [getMode_t, scan_t (symLen_scanner0 _)]

theorem parseSignDotSymbol_t {cfg : Cfg} {pfx : List UInt8} :
    TrK 0 (parseSignDotSymbol cfg pfx) (parseSignDotSymbol cfg pfx) := by
  unfold parseSignDotSymbol
  tr [parseSymbolBytes_t]

theorem parseSignToken_t {cfg : Cfg} {f f' : Nat} {sign : UInt8} {pos : Bool} :
    TrK 0 (parseSignToken cfg f sign pos) (parseSignToken cfg f' sign pos) := by
  unfold parseSignToken
  tr [parseSymbolBytes_t, parseSignDotSymbol_t, parseNumToken_t]

/-- the last arm of `parseToken`, as it is written out there -/
theorem badByte_t {k : Nat} {m' : P Token} :
    TrK k (do
        let s ← (fun s => Res.ok s s : P St)
        let pp := s.rd.peekPosition
        discard
        (fun s' => Res.err (.syntax .expectedSomeValue pp.line pp.col) s' : P Token)) m' :=
  TrK.of_neverOk (NeverOk.bind fun _ => NeverOk.bind fun _ => NeverOk.rawErr)

theorem parseToken_t {cfg : Cfg} {f f' : Nat} {pk : UInt8} :
    TrK 0 (parseToken cfg f pk) (parseToken cfg f' pk) := by
  unfold parseToken
  repeat' first
    | with_reducible exact badByte_t
    | tr_step [expectIdent_t, parseSymbolBytes_t, parseRadixToken_t, parseR6rsChar_t,
        parseSignToken_t, parseNumToken_t, parseR6rsStr_t, parseElispStr_t, parseElispChar_t,
        decodeUtf8Sequence_t]

end Reparse
end Parse
end Lexpr
