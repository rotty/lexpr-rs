/-
  ConcatBase — facts about call histories that only need `Parse.lean`: the three value calls, the
  states after each call of a history (`runStates`), and the passage from a history that ends
  with the first end-of-input item to `iterate`.
-/
import LexprModel.Parse
namespace Lexpr
namespace Parse
namespace Concat

/-- the three ways of asking a parser for the next value (`Parser::next_value`,
    `value_iter().next()`, `Iterator::next`) -/
def ValueOp (op : Op) : Prop := op = .nextValue ∨ op = .valueIterNext ∨ op = .parserNext

theorem stepOp_value (cfg : Cfg) (op : Op) (hop : ValueOp op) (s s' : St) (v : Value)
    (h : nextValueTop cfg s = .ok (some v) s') : stepOp cfg op s = (.value v, some s') := by
  rcases hop with rfl | rfl | rfl <;> simp [stepOp, h]

theorem stepOp_none (cfg : Cfg) (op : Op) (hop : ValueOp op) (s s' : St)
    (h : nextValueTop cfg s = .ok none s') : stepOp cfg op s = (.none_, some s') := by
  rcases hop with rfl | rfl | rfl <;> simp [stepOp, h]

/-- The parser states after each call of a history (`runHistory` reports the items only). -/
def runStates (cfg : Cfg) : List Op → St → List St
  | [], _ => []
  | op :: ops, s =>
    match stepOp cfg op s with
    | (_, some s') => s' :: runStates cfg ops s'
    | (_, none) => []

def obs (s : St) : List UInt8 × Nat := (s.rd.rest, s.depth)

theorem iterate_of_runHistory (cfg : Cfg) (op : Op) (its : List Item) :
    ∀ (s : St) (cap : Nat), (∀ it ∈ its, it ≠ .none_) →
      runHistory cfg (List.replicate (its.length + 1) op) s = its ++ [.none_] →
      its.length + 1 ≤ cap → iterate cfg op cap s = its ++ [.none_] := by
  induction its with
  | nil =>
    intro s cap _ h hcap
    obtain ⟨c, rfl⟩ : ∃ c, cap = c + 1 := ⟨cap - 1, by omega⟩
    have h' : runHistory cfg [op] s = [.none_] := h
    unfold runHistory at h'
    unfold iterate
    rcases hs : stepOp cfg op s with ⟨it, _ | s'⟩
    · rw [hs] at h'
      simp only [List.cons.injEq, and_true] at h'
      subst h'
      rfl
    · rw [hs] at h'
      simp only [runHistory, List.cons.injEq, and_true] at h'
      subst h'
      rfl
  | cons i its ih =>
    intro s cap hne h hcap
    obtain ⟨c, rfl⟩ : ∃ c, cap = c + 1 := ⟨cap - 1, by omega⟩
    have hi : i ≠ .none_ := hne i (by simp)
    have h' : runHistory cfg (op :: List.replicate (its.length + 1) op) s =
        i :: (its ++ [.none_]) := h
    unfold runHistory at h'
    unfold iterate
    rcases hs : stepOp cfg op s with ⟨it, _ | s'⟩
    · rw [hs] at h'
      simp only [List.cons.injEq] at h'
      exact absurd h'.2 (by simp)
    · rw [hs] at h'
      simp only [List.cons.injEq] at h'
      obtain ⟨rfl, h'⟩ := h'
      have ih' := ih s' c (fun x hx => hne x (by simp [hx])) h'
        (by simp only [List.length_cons] at hcap; omega)
      cases it <;> first | exact absurd rfl hi | simp [ih']

theorem values_ne_none (vs : List Value) : ∀ it ∈ vs.map Item.value, it ≠ .none_ := by
  intro it hit
  simp only [List.mem_map] at hit
  obtain ⟨x, -, rfl⟩ := hit
  simp

theorem iterate_of_values (cfg : Cfg) (op : Op) (vs : List Value) (s : St) (cap : Nat)
    (h : runHistory cfg (List.replicate (vs.length + 1) op) s = vs.map Item.value ++ [.none_])
    (hcap : vs.length + 1 ≤ cap) : iterate cfg op cap s = vs.map Item.value ++ [.none_] :=
  iterate_of_runHistory cfg op (vs.map Item.value) s cap (values_ne_none vs) (by simpa using h)
    (by simpa using hcap)

/-! ### a Boolean check of returned items (for examples and witnesses proved by evaluation) -/

mutual
/-- structural equality of values, as a Boolean (`Value` has no `DecidableEq` instance) -/
def veq : Value → Value → Bool
  | .nil, .nil => true
  | .null, .null => true
  | .bool a, .bool b => a == b
  | .number a, .number b => decide (a = b)
  | .char a, .char b => a == b
  | .string a, .string b => a == b
  | .symbol a, .symbol b => a == b
  | .keyword a, .keyword b => a == b
  | .bytes a, .bytes b => a == b
  | .cons a d, .cons a' d' => veq a a' && veq d d'
  | .vector xs, .vector ys => veqList xs ys
  | _, _ => false
def veqList : List Value → List Value → Bool
  | [], [] => true
  | x :: xs, y :: ys => veq x y && veqList xs ys
  | _, _ => false
end

mutual
theorem veq_sound : ∀ a b : Value, veq a b = true → a = b
  | .cons a d, b, h => by
    cases b <;> simp only [veq, Bool.and_eq_true, Bool.false_eq_true] at h
    rw [veq_sound a _ h.1, veq_sound d _ h.2]
  | .vector xs, b, h => by
    cases b <;> simp only [veq, Bool.false_eq_true] at h
    rw [veqList_sound xs _ h]
  | .nil, b, h => by cases b <;> simp_all [veq]
  | .null, b, h => by cases b <;> simp_all [veq]
  | .bool _, b, h => by cases b <;> simp_all [veq]
  | .number _, b, h => by cases b <;> simp_all [veq]
  | .char _, b, h => by cases b <;> simp_all [veq]
  | .string _, b, h => by cases b <;> simp_all [veq]
  | .symbol _, b, h => by cases b <;> simp_all [veq]
  | .keyword _, b, h => by cases b <;> simp_all [veq]
  | .bytes _, b, h => by cases b <;> simp_all [veq]
theorem veqList_sound : ∀ xs ys : List Value, veqList xs ys = true → xs = ys
  | [], ys, h => by cases ys <;> simp_all [veqList]
  | x :: xs, ys, h => by
    cases ys with
    | nil => simp [veqList] at h
    | cons y ys =>
      simp only [veqList, Bool.and_eq_true] at h
      rw [veq_sound x y h.1, veqList_sound xs ys h.2]
end

/-- Are the items exactly these values (`some v`) and end-of-input marks (`none`)? -/
def itemsAre : List Item → List (Option Value) → Bool
  | [], [] => true
  | .value w :: is, some v :: es => veq w v && itemsAre is es
  | .none_ :: is, none :: es => itemsAre is es
  | _, _ => false

def expItem : Option Value → Item
  | some v => .value v
  | none => .none_

theorem itemsAre_sound : ∀ (its : List Item) (es : List (Option Value)),
    itemsAre its es = true → its = es.map expItem
  | [], [], _ => rfl
  | [], _ :: _, h => by simp [itemsAre] at h
  | i :: is, [], h => by cases i <;> simp [itemsAre] at h
  | i :: is, e :: es, h => by
    cases i <;> cases e <;> simp only [itemsAre, Bool.and_eq_true, Bool.false_eq_true] at h
    · rw [veq_sound _ _ h.1, itemsAre_sound is es h.2]; rfl
    · rw [itemsAre_sound is es h]; rfl

end Concat
end Parse
end Lexpr
