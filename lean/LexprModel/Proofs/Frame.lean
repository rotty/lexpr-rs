/-
  C08, last clause — the frame theorem for whole inputs, operational form.

  `Spec.exercisedOp cfg mode bytes` is the union of `Spec.tokenOpts` (the declarative per-token
  description) over the tokens that the parser reads under `cfg`; `exValue` / `exList` / `exVector`
  walk along `next_value` / `parse_list` / `parse_vector`.

    `value_frame`    : `next_value`, `parse_list`, `parse_vector` give the same result under two
                       configurations of the same build that agree on the options exercised;
    `C08_frame_op`   : … and so do `from_str` / `from_slice` / `from_reader` (`fromTrait`), for every
                       input, from every source, well-formed or not: same value or same error
                       (code and position), same final reader state.
-/
import LexprModel.Proofs.FrameTok
namespace Lexpr
namespace Parse
namespace C08
open Spec

theorem attempt_congr {α : Type} {m1 m2 : P α} {s : St} (h : m1 s = m2 s) :
    attempt m1 s = attempt m2 s := by
  simp only [attempt, h]

theorem tokenFuel_eq (s : St) : tokenFuel s = .ok (s.rd.rest.length + 1) s := rfl

/-- a bracketed form: `enter`, then the sub-parser under `attempt`; it is enough that the
    sub-parser runs alike on the options it exercises -/
theorem enter_attempt_congr {α β : Type} {m1 m2 : P α} {k : Except Err α → P β} {s1 : St}
    {ex : St → List OptName} {o o' : Options}
    (ha : AgreeOn (match enter s1 with | .ok () s2 => ex s2 | _ => []) o o')
    (ih : ∀ s2, AgreeOn (ex s2) o o' → m1 s2 = m2 s2) :
    (enter >>= fun _ => attempt m1 >>= k) s1 = (enter >>= fun _ => attempt m2 >>= k) s1 := by
  apply bind_congr_ok
  intro u s2 he
  cases u
  rw [he] at ha
  rw [bind_apply, bind_apply, attempt_congr (ih s2 ha)]

theorem value_step (c1 c2 : Cfg) (hb : SameBuild c1 c2) (f : Nat)
    (ihV : ∀ s, AgreeOn (exValue c1 f s) c1.opts c2.opts → nextValue c1 f s = nextValue c2 f s)
    (ihL : ∀ term acc s, AgreeOn (exList c1 f acc.isEmpty s) c1.opts c2.opts →
      parseList c1 f term acc s = parseList c2 f term acc s)
    (ihX : ∀ term acc s, AgreeOn (exVector c1 f s) c1.opts c2.opts →
      parseVector c1 f term acc s = parseVector c2 f term acc s)
    (s : St) (ha : AgreeOn (exValue c1 (f + 1) s) c1.opts c2.opts) :
    nextValue c1 (f + 1) s = nextValue c2 (f + 1) s := by
  have hn : NumCfgEq c1 c2 := ⟨hb.fast, hb.pow10⟩
  rw [nextValue, nextValue]
  apply bind_congr_ok
  intro r s0 hw
  cases r with
  | none => rfl
  | some pk =>
    rw [exValue] at ha
    simp only [hw] at ha
    have htok := tokenOpts_frame c1 c2 hb (s0.rd.rest.length + 1) pk s0
      (parseWhitespace_some hw) ha.left
    have ha2 := ha.right
    simp only [bind_apply, tokenFuel_eq]
    rw [← htok]
    cases ht : parseToken c1 (s0.rd.rest.length + 1) pk s0 with
    | ok tok s1 =>
      rw [ht] at ha2
      cases tok with
      | byteVecOpen close => simp only [parseByteList_congr hn]
      | vecOpen close => exact enter_attempt_congr ha2 (ihX close [])
      | listOpen close => exact enter_attempt_congr ha2 (ihL close [])
      | quotation q => exact enter_attempt_congr ha2 ihV
      | _ => rfl
    | _ => rfl

/-- an element, then the rest of the sequence behind it: `ex` is what the rest exercises -/
theorem elem_congr {β : Type} {c1 c2 : Cfg} {f : Nat} {ex : St → List OptName}
    {k1 k2 : Option Value → P β} {s0 : St}
    (ihV : ∀ s, AgreeOn (exValue c1 f s) c1.opts c2.opts → nextValue c1 f s = nextValue c2 f s)
    (ha : AgreeOn (exValue c1 f s0 ++
      (match nextValue c1 f s0 with | .ok (some _) s1 => ex s1 | _ => [])) c1.opts c2.opts)
    (hnone : k1 none = k2 none)
    (hk : ∀ v s1, AgreeOn (ex s1) c1.opts c2.opts → k1 (some v) s1 = k2 (some v) s1) :
    (nextValue c1 f >>= k1) s0 = (nextValue c2 f >>= k2) s0 := by
  rw [bind_apply, bind_apply, ← ihV s0 ha.left]
  have ha2 := ha.right
  cases hv : nextValue c1 f s0 with
  | ok v s1 =>
    rw [hv] at ha2
    cases v with
    | none => exact congrFun hnone s1
    | some v => exact hk v s1 ha2
  | _ => rfl

/-- one turn of the list loop under two configurations.  The loop is followed statement by statement
    (`bind_congr_ok`), and `exList` is unfolded beside it: at each step the options it lists are those
    the step reads (the dot rule, the element through `ihV`, the rest through `ihL`), so the
    hypothesis `ha` hands each step its agreement -/
theorem list_step (c1 c2 : Cfg) (f : Nat)
    (ihV : ∀ s, AgreeOn (exValue c1 f s) c1.opts c2.opts → nextValue c1 f s = nextValue c2 f s)
    (ihL : ∀ term acc s, AgreeOn (exList c1 f acc.isEmpty s) c1.opts c2.opts →
      parseList c1 f term acc s = parseList c2 f term acc s)
    (term : UInt8) (acc : List Value) (s : St)
    (ha : AgreeOn (exList c1 (f + 1) acc.isEmpty s) c1.opts c2.opts) :
    parseList c1 (f + 1) term acc s = parseList c2 (f + 1) term acc s := by
  have hne : ∀ v : Value, (acc ++ [v]).isEmpty = false := by simp
  rw [parseList, parseList]
  apply bind_congr_ok
  intro r s0 hw
  cases r with
  | none => rfl
  | some c =>
    rw [exList] at ha
    simp only [hw] at ha
    simp only
    by_cases hc : (c == 41 || c == 93) = true
    · simp only [hc, ↓reduceIte]
    rw [if_neg hc] at ha
    simp only [hc, Bool.false_eq_true, ↓reduceIte]
    by_cases hdot : (c == 46) = true
    · rw [if_pos hdot] at ha
      simp only [hdot, ↓reduceIte]
      apply bind_congr_ok
      intro u s1 hd
      apply bind_congr_ok
      intro nxt s2 hp
      have hdp : (discard >>= fun _ => peekOrNull) s0 = .ok nxt s2 := by
        simp only [bind_apply, hd, hp]
      rw [hdp] at ha
      simp only at ha
      by_cases hdel : (nxt == 0 || isDelimiter nxt) = true
      · rw [if_pos hdel] at ha
        simp only [hdel, ↓reduceIte]
        cases hemp : acc.isEmpty
        · rw [hemp, if_neg (by decide)] at ha
          simp only [Bool.false_eq_true, ↓reduceIte, bind_apply]
          rw [ihV s2 ha]
        · simp only [↓reduceIte]
      · rw [if_neg hdel] at ha
        simp only [hdel, Bool.false_eq_true, ↓reduceIte]
        apply bind_congr_ok
        intro name s3 hnm
        rw [hnm] at ha
        rw [symbolValue_frame c1.opts c2.opts name ha.left]
        exact ihL term _ s3 (by rw [hne]; exact ha.right)
    · rw [if_neg hdot] at ha
      simp only [hdot, Bool.false_eq_true, ↓reduceIte]
      exact elem_congr ihV ha rfl fun v s1 h => ihL term _ s1 (by rw [hne]; exact h)

theorem vector_step (c1 c2 : Cfg) (f : Nat)
    (ihV : ∀ s, AgreeOn (exValue c1 f s) c1.opts c2.opts → nextValue c1 f s = nextValue c2 f s)
    (ihX : ∀ term acc s, AgreeOn (exVector c1 f s) c1.opts c2.opts →
      parseVector c1 f term acc s = parseVector c2 f term acc s)
    (term : UInt8) (acc : List Value) (s : St)
    (ha : AgreeOn (exVector c1 (f + 1) s) c1.opts c2.opts) :
    parseVector c1 (f + 1) term acc s = parseVector c2 (f + 1) term acc s := by
  rw [parseVector, parseVector]
  apply bind_congr_ok
  intro r s0 hw
  cases r with
  | none => rfl
  | some c =>
    rw [exVector] at ha
    simp only [hw] at ha
    simp only
    by_cases hc : (c == 41 || c == 93) = true
    · simp only [hc, ↓reduceIte]
    rw [if_neg hc] at ha
    simp only [hc, Bool.false_eq_true, ↓reduceIte]
    exact elem_congr ihV ha rfl fun v s1 h => ihX term _ s1 h

theorem value_frame (c1 c2 : Cfg) (hb : SameBuild c1 c2) : ∀ f : Nat,
    (∀ s, AgreeOn (exValue c1 f s) c1.opts c2.opts → nextValue c1 f s = nextValue c2 f s) ∧
    (∀ term acc s, AgreeOn (exList c1 f acc.isEmpty s) c1.opts c2.opts →
      parseList c1 f term acc s = parseList c2 f term acc s) ∧
    (∀ term acc s, AgreeOn (exVector c1 f s) c1.opts c2.opts →
      parseVector c1 f term acc s = parseVector c2 f term acc s) := by
  intro f
  induction f with
  | zero =>
    refine ⟨?_, ?_, ?_⟩
    · intro s _; rw [nextValue, nextValue]
    · intro term acc s _; rw [parseList, parseList]
    · intro term acc s _; rw [parseVector, parseVector]
  | succ f ih =>
    obtain ⟨ihV, ihL, ihX⟩ := ih
    exact ⟨value_step c1 c2 hb f ihV ihL ihX, list_step c1 c2 f ihV ihL,
      vector_step c1 c2 f ihV ihX⟩

end C08

open C08 Spec

/-- the frame theorem for `next_value`, the parser's own entry point, at any fuel -/
theorem C08_frame_nextValue (c1 c2 : Cfg) (hb : SameBuild c1 c2) (f : Nat) (s : St)
    (ha : AgreeOn (exValue c1 f s) c1.opts c2.opts) : nextValue c1 f s = nextValue c2 f s :=
  (value_frame c1 c2 hb f).1 s ha

/-- `from_trait` from any reader state -/
theorem frame_fromTrait (c1 c2 : Cfg) (hb : SameBuild c1 c2) (s : St)
    (ha : AgreeOn (exValue c1 (2 * s.rd.rest.length + 4) s) c1.opts c2.opts) :
    fromTrait c1 s = fromTrait c2 s := by
  have h : nextValueTop c1 s = nextValueTop c2 s := by
    simp only [nextValueTop, bind_apply, apiFuel]
    exact (value_frame c1 c2 hb _).1 s ha
  simp only [fromTrait, expectValue, bind_apply, h]

/-- **C08_frame (operational form)** — "two option sets that differ only in options an input
    does not exercise give identical results for it": for every input `bytes`, from every source,
    if the two configurations are of the same build and agree on every option exercised by the
    tokens that the parser reads under the first of them (`Spec.exercisedOp`: the union of the
    declarative per-token sets `Spec.tokenOpts`), then `from_str` / `from_slice` / `from_reader`
    return the same outcome under both: the same value, or the same error code at the same
    position, and the same final reader state. -/
theorem C08_frame_op (c1 c2 : Cfg) (hb : SameBuild c1 c2) (mode : Mode) (bytes : List UInt8)
    (ha : AgreeOn (exercisedOp c1 mode bytes) c1.opts c2.opts) :
    fromTrait c1 (initSt mode bytes) = fromTrait c2 (initSt mode bytes) :=
  frame_fromTrait c1 c2 hb (initSt mode bytes) ha

/-- `(a (b . c) 'd)` exercises no option: the Emacs Lisp options read it exactly as the default
    options do -/
example : exercisedOp (cfgOf Options.default) .slice (asc "(a (b . c) 'd)") = [] := by decide +kernel

example : fromTrait (cfgOf Options.default) (initSt .slice (asc "(a (b . c) 'd)")) =
    fromTrait (cfgOf Options.elisp) (initSt .slice (asc "(a (b . c) 'd)")) :=
  C08_frame_op (cfgOf Options.default) (cfgOf Options.elisp) ⟨rfl, rfl, rfl⟩ .slice _ (by decide +kernel)

/-- `(foo: nil [x])` exercises `kwPostfix`, `nil` and `brackets`; two option sets that agree on
    these three and differ in six others read it alike -/
example : exercisedOp (cfgOf Options.default) .slice (asc "(foo: nil [x])") =
    [.kwPostfix, .nil, .brackets] := by decide +kernel

def altOpts : Options :=
  { Options.default with kwPrefix := true, kwOctothorpe := false, string := .elisp, char := .elisp,
                         racket := true, leadingDigit := true }

example : fromTrait (cfgOf Options.default) (initSt .slice (asc "(foo: nil [x])")) =
    fromTrait (cfgOf altOpts) (initSt .slice (asc "(foo: nil [x])")) :=
  C08_frame_op (cfgOf Options.default) (cfgOf altOpts) ⟨rfl, rfl, rfl⟩ .slice _ (by decide +kernel)

/-- the hypothesis is needed: `nil` exercises the nil option, and the default and Emacs Lisp
    options (which differ in it) read `nil` differently -/
example : exercisedOp (cfgOf Options.default) .slice (asc "nil") = [.nil] ∧
    (match fromTrait (cfgOf Options.default) (initSt .slice (asc "nil")) with
      | .ok v _ => v.beq (.symbol (asc "nil")) | _ => false) = true ∧
    (match fromTrait (cfgOf Options.elisp) (initSt .slice (asc "nil")) with
      | .ok v _ => v.beq .null | _ => false) = true := by decide +kernel

/-- an erroneous input: `(a #:b` under `Options::new()` and the Emacs Lisp options (both without
    octothorpe keywords) fails in the same way -/
example : exercisedOp (cfgOf Options.new) .slice (asc "(a #:b") = [.kwOctothorpe] := by decide +kernel

example : fromTrait (cfgOf Options.new) (initSt .slice (asc "(a #:b")) =
    fromTrait (cfgOf Options.elisp) (initSt .slice (asc "(a #:b")) :=
  C08_frame_op (cfgOf Options.new) (cfgOf Options.elisp) ⟨rfl, rfl, rfl⟩ .slice _ (by decide +kernel)

end Parse
end Lexpr

#print axioms Lexpr.Parse.C08.value_frame
#print axioms Lexpr.Parse.C08_frame_op
