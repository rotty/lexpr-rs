/-
  C08, last clause — the token-level frame lemma, for EVERY reader state (any source mode, any
  input, well-formed or not):

    `tokenOpts_frame` : two configurations of the same build that agree on the options named by
    `Spec.tokenOpts` for the token at the head of the input give the same result of `parse_token`
    (same token and state, or same error and state).

  `Spec.tokenOpts` is the declarative, per-token description of which options a token exercises
  (LexprModel/Spec/Exercised.lean).  Also here: `symbolValue_frame` for the `.name` elements that
  `parse_list` reads itself.
-/
import LexprModel.Spec.Exercised
import LexprModel.Proofs.Tokens2
namespace Lexpr
namespace Parse
namespace C08
open Spec

theorem _root_.Lexpr.Spec.AgreeOn.mono {ns ms : List OptName} {o o' : Options} (h : AgreeOn ns o o')
    (hs : ∀ n ∈ ms, n ∈ ns) : AgreeOn ms o o' := fun n hn => h n (hs n hn)

theorem _root_.Lexpr.Spec.AgreeOn.left {ns ms : List OptName} {o o' : Options} (h : AgreeOn (ns ++ ms) o o') :
    AgreeOn ns o o' := h.mono (fun _ hn => List.mem_append_left _ hn)

theorem _root_.Lexpr.Spec.AgreeOn.right {ns ms : List OptName} {o o' : Options} (h : AgreeOn (ns ++ ms) o o') :
    AgreeOn ms o o' := h.mono (fun _ hn => List.mem_append_right _ hn)

theorem _root_.Lexpr.Spec.AgreeOn.tail {n : OptName} {ns : List OptName} {o o' : Options}
    (h : AgreeOn (n :: ns) o o') : AgreeOn ns o o' := h.mono (fun _ hn => List.mem_cons_of_mem _ hn)

theorem _root_.Lexpr.Spec.AgreeOn.append {ns ms : List OptName} {o o' : Options} (h1 : AgreeOn ns o o')
    (h2 : AgreeOn ms o o') : AgreeOn (ns ++ ms) o o' := by
  intro n hn
  rcases List.mem_append.mp hn with hn | hn
  · exact h1 n hn
  · exact h2 n hn

theorem _root_.Lexpr.Spec.AgreeOn.nil (o o' : Options) : AgreeOn [] o o' := fun _ hn => by cases hn

theorem _root_.Lexpr.Spec.AgreeOn.refl (ns : List OptName) (o : Options) : AgreeOn ns o o := fun _ _ => rfl

def sameOpt (o o' : Options) : OptName → Prop
  | .kwPrefix => o.kwPrefix = o'.kwPrefix
  | .kwPostfix => o.kwPostfix = o'.kwPostfix
  | .kwOctothorpe => o.kwOctothorpe = o'.kwOctothorpe
  | .nil => o.nil = o'.nil
  | .t => o.t = o'.t
  | .brackets => o.brackets = o'.brackets
  | .string => o.string = o'.string
  | .char => o.char = o'.char
  | .racket => o.racket = o'.racket
  | .leadingDigit => o.leadingDigit = o'.leadingDigit

/-- `optValue` numbers the contents of each option injectively -/
theorem sameOpt_of_optValue (o o' : Options) (n : OptName) (h : optValue o n = optValue o' n) :
    sameOpt o o' n := by
  have toNat_inj : ∀ {a b : Bool}, a.toNat = b.toNat → a = b := by decide
  cases n with
  | kwPrefix | kwPostfix | kwOctothorpe | racket | leadingDigit => exact toNat_inj h
  | nil => revert h; simp only [optValue, sameOpt]; cases o.nil <;> cases o'.nil <;> simp
  | t => revert h; simp only [optValue, sameOpt]; cases o.t <;> cases o'.t <;> simp
  | brackets =>
    revert h; simp only [optValue, sameOpt]; cases o.brackets <;> cases o'.brackets <;> simp
  | string => revert h; simp only [optValue, sameOpt]; cases o.string <;> cases o'.string <;> simp
  | char => revert h; simp only [optValue, sameOpt]; cases o.char <;> cases o'.char <;> simp

theorem _root_.Lexpr.Spec.AgreeOn.same {ns : List OptName} {o o' : Options} (h : AgreeOn ns o o')
    (n : OptName) (hn : n ∈ ns) : sameOpt o o' n := sameOpt_of_optValue o o' n (h n hn)

theorem options_eq_of_agree (o o' : Options)
    (h : AgreeOn [.kwPrefix, .kwPostfix, .kwOctothorpe, .nil, .t, .brackets, .string, .char,
      .racket, .leadingDigit] o o') : o = o' := by
  have h1 := h.same .kwPrefix (by simp)
  have h2 := h.same .kwPostfix (by simp)
  have h3 := h.same .kwOctothorpe (by simp)
  have h4 := h.same .nil (by simp)
  have h5 := h.same .t (by simp)
  have h6 := h.same .brackets (by simp)
  have h7 := h.same .string (by simp)
  have h8 := h.same .char (by simp)
  have h9 := h.same .racket (by simp)
  have h10 := h.same .leadingDigit (by simp)
  cases o; cases o'; simp_all [sameOpt]

theorem symbolToken_agree (o1 o2 : Options) (name : List UInt8)
    (h : AgreeOn (postfixKw name) o1 o2) : symbolToken o1 name = symbolToken o2 name := by
  unfold postfixKw at h
  unfold symbolToken
  by_cases hc : (decide (name.length > 1) && (name.getLast? == some 58)) = true
  · rw [if_pos hc] at h
    rw [show o1.kwPostfix = o2.kwPostfix from h.same .kwPostfix (by simp)]
  · have hc' : (decide (name.length > 1) && (name.getLast? == some 58)) = false := by
      simpa using hc
    simp only [Bool.and_assoc, hc', Bool.and_false, Bool.false_eq_true, ↓reduceIte]

theorem symbolValue_frame (o1 o2 : Options) (name : List UInt8)
    (h : AgreeOn (postfixKw name) o1 o2) : symbolValue o1 name = symbolValue o2 name := by
  simp only [symbolValue, symbolToken_agree o1 o2 name h]

theorem tokenText_cons (m : Mode) (b : UInt8) (l : List UInt8) (h : symTermSlice b = false) :
    tokenText m (b :: l) = b :: tokenText m l := by
  simp [tokenText, symLen, symTerm_eq, h]

theorem tokenText_append (m : Mode) (a l : List UInt8) (h : ∀ b ∈ a, symTermSlice b = false) :
    tokenText m (a ++ l) = a ++ tokenText m l := by
  induction a with
  | nil => rfl
  | cons x xs ih =>
    rw [List.cons_append, tokenText_cons m x _ (h x (by simp)), ih (fun b hb => h b (by simp [hb]))]
    rfl

theorem parseSymbolBytes_ok {sc name : List UInt8} {s s' : St}
    (h : parseSymbolBytes sc s = .ok name s') :
    name = sc ++ tokenText s.rd.mode s.rd.rest ∧
      s'.rd.rest = s.rd.rest.drop (symLen s.rd.mode s.rd.rest) :=
  ⟨(U8.parseSymbolBytes_spec h).1, (U8.parseSymbolBytes_spec h).2.1⟩

theorem parseSymbolBytes_name {sc name : List UInt8} {s s' : St}
    (h : parseSymbolBytes sc s = .ok name s') : name = sc ++ tokenText s.rd.mode s.rd.rest :=
  (parseSymbolBytes_ok h).1

/-- an arm that reads the rest of a token, whose first bytes `sc` are in the scratch buffer, and
    hands it to `symbol_token` -/
theorem symArm_frame (o1 o2 : Options) (sc : List UInt8) (s : St)
    (hsc : ∀ b ∈ sc, symTermSlice b = false)
    (h : AgreeOn (postfixKw (tokenText s.rd.mode (sc ++ s.rd.rest))) o1 o2) :
    symArm o1 sc s = symArm o2 sc s := by
  apply bind_congr_ok
  intro name s' hn
  rw [parseSymbolBytes_name hn, ← tokenText_append _ _ _ hsc, symbolToken_agree o1 o2 _ h]

/-- the options a sign-initial token exercises (the `+` / `-` clause of `Spec.tokenOpts`) -/
def signOpts (name tl : List UInt8) : List OptName :=
  if (nextByte tl == 0 || isDelimiter (nextByte tl) || isSignSubsequent (nextByte tl)) = true
  then postfixKw name
  else if (nextByte tl == 46) = true then
    (if isDigit (nextByte (tl.drop 1)) = true then [] else postfixKw name)
  else []

/-- the sign arm under two configurations.  `parse_sign_token` looks at the byte after the sign,
    and after `.` at one more; the three ways it goes on are the three cases of `signOpts`: a
    name (`symArm_frame`, on the postfix-keyword option), `.` and then a name unless a digit follows,
    or a number (`parseNumToken_congr`, no option at all) -/
theorem frame_sign (c1 c2 : Cfg) (fuel : Nat) (sign : UInt8) (pos : Bool) (tl : List UInt8) (s : St)
    (hn : NumCfgEq c1 c2) (hnt : symTermSlice sign = false) (hr : s.rd.rest = sign :: tl)
    (ha : AgreeOn (signOpts (tokenText s.rd.mode (sign :: tl)) tl) c1.opts c2.opts) :
    parseSignToken c1 fuel sign pos s = parseSignToken c2 fuel sign pos s := by
  unfold parseSignToken
  apply bind_congr_ok
  intro u s1 hd
  obtain ⟨b, tl', hr', rfl⟩ := discard_ok hd
  have hr1 : (s.adv 1).rd.rest = tl := by simp [hr]
  apply bind_congr_ok
  intro nxt s2 hp
  obtain ⟨hm2, hr2, hnx⟩ := peekOrNull_frame hp
  obtain rfl : nxt = nextByte (s.adv 1).rd.rest := hnx
  rw [hr1] at hr2
  have hm2' : s2.rd.mode = s.rd.mode := by rw [hm2]; simp
  rw [hr1]
  unfold signOpts at ha
  by_cases h1 : (nextByte tl == 0 || isDelimiter (nextByte tl) || isSignSubsequent (nextByte tl))
      = true
  · rw [if_pos h1] at ha
    rw [if_pos h1, if_pos h1]
    refine symArm_frame _ _ _ _ (by simpa using hnt) ?_
    rw [hr2, hm2']
    exact ha
  · rw [if_neg h1] at ha
    rw [if_neg h1, if_neg h1]
    by_cases h2 : (nextByte tl == 46) = true
    · rw [if_pos h2] at ha
      rw [if_pos h2, if_pos h2]
      unfold parseSignDotSymbol
      apply bind_congr_ok
      intro u' s3 hd3
      obtain ⟨b3, tl3, hr3, rfl⟩ := discard_ok hd3
      rw [hr2] at hr3
      subst hr3
      obtain rfl : b3 = 46 := by simpa [nextByte] using h2
      have hr4 : (s2.adv 1).rd.rest = tl3 := by simp [hr2]
      apply bind_congr_ok
      intro c s5 hp5
      obtain ⟨hm5, hr5, hnx⟩ := peekOrNull_frame hp5
      obtain rfl : c = nextByte (s2.adv 1).rd.rest := hnx
      rw [hr4] at hr5
      have hm5' : s5.rd.mode = s.rd.mode := by rw [hm5]; simp [hm2']
      rw [hr4]
      rw [show List.drop 1 (46 :: tl3) = tl3 from rfl] at ha
      by_cases h3 : isDigit (nextByte tl3) = true
      · rw [if_pos h3, if_pos h3]
      · rw [if_neg h3] at ha
        rw [if_neg h3, if_neg h3]
        refine symArm_frame _ _ _ _ (by simpa using ⟨hnt, by decide⟩) ?_
        rw [hr5, hm5']
        exact ha
    · rw [if_neg h2, if_neg h2, parseNumToken_congr hn]

theorem frame_digit (c1 c2 : Cfg) (fuel : Nat) (s : St) (hn : NumCfgEq c1 c2)
    (ha : AgreeOn (.leadingDigit ::
      (if c1.opts.leadingDigit = true then postfixKw (tokenText s.rd.mode s.rd.rest) else []))
      c1.opts c2.opts) :
    tokArm c1 fuel 0 .digit s = tokArm c2 fuel 0 .digit s := by
  have hld : c1.opts.leadingDigit = c2.opts.leadingDigit := ha.same .leadingDigit (by simp)
  show (if c1.opts.leadingDigit = true then _ else _ : P Token) s =
    (if c2.opts.leadingDigit = true then _ else _ : P Token) s
  rw [← hld]
  cases h : c1.opts.leadingDigit
  · rw [if_neg (by decide), if_neg (by decide), numArm, numArm, parseNumToken_congr hn]
  · rw [if_pos rfl, if_pos rfl]
    apply bind_congr_ok
    intro name s' hnm
    rw [wholeNumber_congr hn]
    cases wholeNumber c2 name with
    | some n => rfl
    | none =>
      have := ha.tail
      rw [h, if_pos rfl, ← List.nil_append (tokenText _ _), ← parseSymbolBytes_name hnm] at this
      show (pure (symbolToken c1.opts name) : P Token) s' =
        (pure (symbolToken c2.opts name) : P Token) s'
      rw [symbolToken_agree c1.opts c2.opts name this]

theorem frame_colon (o1 o2 : Options) (s : St)
    (ha : AgreeOn (.kwPrefix ::
      (if o1.kwPrefix = true then [] else postfixKw (tokenText s.rd.mode s.rd.rest))) o1 o2) :
    colonArm o1 s = colonArm o2 s := by
  have hk : o1.kwPrefix = o2.kwPrefix := ha.same .kwPrefix (by simp)
  rw [colonArm, colonArm, ← hk]
  cases h : o1.kwPrefix
  · rw [if_neg (by decide), if_neg (by decide)]
    refine symArm_frame _ _ [] s nofun ?_
    have := ha.tail
    rwa [h, if_neg (by decide)] at this
  · rfl

/-- in the name of a token of a class that does not begin with `:`, a final `:` is not the first
    byte -/
theorem kwPostfix_of_last {o1 o2 : Options} {name : List UInt8} {pk : UInt8}
    (hhead : name.head? = some pk) (h58 : pk ≠ 58) (ha : AgreeOn (postfixKw name) o1 o2)
    (hl : name.getLast? = some 58) : o1.kwPostfix = o2.kwPostfix := by
  have hlen : name.length > 1 := by
    match name, hhead, hl with
    | [x], hh, hl => cases hh; cases hl; exact absurd rfl h58
    | _ :: _ :: _, _, _ => simp
  exact ha.same .kwPostfix (by simp [postfixKw, hlen, hl])

theorem frame_alpha (o1 o2 : Options) (pk : UInt8) (tl : List UInt8) (s : St)
    (hc : tokClass pk = .alpha) (hr : s.rd.rest = pk :: tl)
    (ha : AgreeOn (postfixKw (tokenText s.rd.mode (pk :: tl)) ++
      (if (tokenText s.rd.mode (pk :: tl) == asc "nil") = true then [.nil] else []) ++
      (if (tokenText s.rd.mode (pk :: tl) == asc "t") = true then [.t] else [])) o1 o2) :
    letterArm o1 s = letterArm o2 s := by
  apply bind_congr_ok
  intro name s' hnm
  have hname := parseSymbolBytes_name hnm
  rw [List.nil_append, hr] at hname
  rw [← hname] at ha
  rw [letterTail_eq, letterTail_eq]
  have hhead : name.head? = some pk := by
    rw [hname, tokenText_cons _ _ _ (startsName_nonterm (by rw [hc]; rfl))]; rfl
  congr 1
  apply letterTok_frame
  · by_cases hl58 : name.getLast? = some 58
    · exact .inl (kwPostfix_of_last hhead (ne_of_tokClass (by rw [hc]; decide)) ha.left.left hl58)
    · exact .inr hl58
  · by_cases hnil : name = asc "nil"
    · exact .inl (ha.left.right.same .nil (by simp [hnil]))
    · exact .inr hnil
  · by_cases ht : name = asc "t"
    · exact .inl (ha.right.same .t (by simp [ht]))
    · exact .inr ht

theorem frame_qmark (c1 c2 : Cfg) (fuel : Nat) (s : St)
    (ha : AgreeOn (.char ::
      (if (c1.opts.char == .elisp) = true then [] else postfixKw (tokenText s.rd.mode s.rd.rest)))
      c1.opts c2.opts) :
    tokArm c1 fuel 63 .qmark s = tokArm c2 fuel 63 .qmark s := by
  have hc : c1.opts.char = c2.opts.char := ha.same .char (by simp)
  show (if (c1.opts.char == .elisp) = true then _ else _ : P Token) s =
    (if (c2.opts.char == .elisp) = true then _ else _ : P Token) s
  rw [← hc]
  by_cases h : (c1.opts.char == .elisp) = true
  · rw [if_pos h, if_pos h]
  · rw [if_neg h, if_neg h]
    refine symArm_frame _ _ [] s nofun ?_
    have := ha.tail
    rwa [if_neg h] at this

theorem decode_ok {pk : UInt8} {s s' : St} {c : Nat} {bytes : List UInt8} (hpk : pk > 127)
    (h : decodeUtf8Sequence pk s = .ok (c, bytes) s') :
    s'.rd.mode = s.rd.mode ∧ pk :: s.rd.rest = bytes ++ s'.rd.rest ∧ ∀ b ∈ bytes, 0x80 ≤ b := by
  obtain ⟨-, hm, cont, rfl, hall, -⟩ := Image.dus_inv h (Image.not_lt_of_hi hpk)
  refine ⟨hm, (U8.decodeUtf8Sequence_ok h).2.2, fun b hb => ?_⟩
  rcases List.mem_cons.mp hb with rfl | hb
  · exact hi_iff_ge80.mp hpk
  · exact hi_iff_ge80.mp (hall b hb)

theorem frame_hi (c1 c2 : Cfg) (pk : UInt8) (tl : List UInt8) (s : St)
    (hal : c1.isAlphabetic = c2.isAlphabetic) (hpk : pk > 127) (hr : s.rd.rest = pk :: tl)
    (ha : AgreeOn (postfixKw (tokenText s.rd.mode (pk :: tl))) c1.opts c2.opts) :
    hiArm c1 pk s = hiArm c2 pk s := by
  unfold hiArm
  apply bind_congr_ok
  intro u s1 hd
  obtain ⟨b, tl', hr', rfl⟩ := discard_ok hd
  have hr1 : (s.adv 1).rd.rest = tl := by simp [hr]
  apply bind_congr_ok
  intro cb s3 hdec
  obtain ⟨c, bytes⟩ := cb
  obtain ⟨hm3, hr3, hall⟩ := decode_ok hpk hdec
  rw [hr1] at hr3
  show (if (!c1.isAlphabetic c) = true then _ else _ : P Token) s3 =
    (if (!c2.isAlphabetic c) = true then _ else _ : P Token) s3
  rw [hal]
  by_cases hA : (!c2.isAlphabetic c) = true
  · rw [if_pos hA, if_pos hA]
  · rw [if_neg hA, if_neg hA]
    refine symArm_frame _ _ _ _ (fun b hb => startsName_nonterm (by
      rw [tokClass_hi (hi_iff_ge80.mpr (hall b hb))]; rfl)) ?_
    rw [← hr3, hm3, sadv_mode]
    exact ha

def ArmFrame (c1 c2 : Cfg) (fuel : Nat) (pk : UInt8) (s : St) (L : List OptName) (k : TokClass) :
    Prop :=
  AgreeOn L c1.opts c2.opts → tokArm c1 fuel pk k s = tokArm c2 fuel pk k s

section
variable {c1 c2 : Cfg} {fuel : Nat} {pk : UInt8} {s : St} {x y : List OptName}
  {k1 k2 k3 k4 : TokClass}

/-- `Spec.tokenOpts` and `tokClass` test the first byte in the same order; `tokenOpts` merges the
    two signs and the three quotation marks -/
theorem ArmFrame.ite {c : Prop} [Decidable c] (h1 : c → ArmFrame c1 c2 fuel pk s x k1)
    (h2 : ¬c → ArmFrame c1 c2 fuel pk s y k2) :
    ArmFrame c1 c2 fuel pk s (if c then x else y) (if c then k1 else k2) := by
  split
  · exact h1 ‹_›
  · exact h2 ‹_›

theorem ArmFrame.ite2 {p q : Bool} (h1 : p = true → ArmFrame c1 c2 fuel pk s x k1)
    (h2 : q = true → ArmFrame c1 c2 fuel pk s x k2)
    (h3 : p = false → q = false → ArmFrame c1 c2 fuel pk s y k3) :
    ArmFrame c1 c2 fuel pk s (if (p || q) = true then x else y)
      (if p = true then k1 else if q = true then k2 else k3) := by
  cases p <;> cases q <;> first | exact h1 rfl | exact h2 rfl | exact h3 rfl rfl

theorem ArmFrame.ite3 {p q r : Bool} (h1 : ArmFrame c1 c2 fuel pk s x k1)
    (h2 : ArmFrame c1 c2 fuel pk s x k2) (h3 : ArmFrame c1 c2 fuel pk s x k3)
    (h4 : ArmFrame c1 c2 fuel pk s y k4) :
    ArmFrame c1 c2 fuel pk s (if (p || q || r) = true then x else y)
      (if p = true then k1 else if q = true then k2 else if r = true then k3 else k4) := by
  cases p <;> cases q <;> cases r <;> first | exact h1 | exact h2 | exact h3 | exact h4
end

end C08

open C08 Spec

/-- For every reader state (any source mode, any input):
    two configurations of the same build whose option sets agree on the options that the token
    at the head of the input exercises (`Spec.tokenOpts`, a function of the first bytes and the
    text of the token) give the same result of `parse_token` — the same token and state, or the
    same error and state. -/
theorem tokenOpts_frame (c1 c2 : Cfg) (hb : SameBuild c1 c2) (fuel : Nat) (pk : UInt8) (s : St)
    (hpk : s.rd.rest.head? = some pk)
    (ha : AgreeOn (tokenOpts c1.opts s.rd.mode s.rd.rest) c1.opts c2.opts) :
    parseToken c1 fuel pk s = parseToken c2 fuel pk s := by
  have hn : NumCfgEq c1 c2 := ⟨hb.fast, hb.pow10⟩
  obtain ⟨tl, hr⟩ := cons_of_head_some hpk
  rw [parseToken_eq, parseToken_eq]
  refine (?_ : ArmFrame c1 c2 fuel pk s (tokenOpts c1.opts s.rd.mode s.rd.rest) (tokClass pk)) ha
  rw [hr]
  simp only [tokenOpts]
  unfold tokClass
  refine .ite (fun _ ha => ?hash) fun _ => .ite2 (fun h45 ha => ?minus) (fun h43 ha => ?plus) fun _ _ =>
    .ite (fun hd ha => ?digit) fun _ => .ite (fun _ ha => ?dquote) fun _ => .ite (fun _ _ => rfl)
    fun _ => .ite (fun _ ha => ?lbracket) fun _ => .ite (fun _ ha => ?colon) fun _ =>
    .ite (fun hal ha => ?alpha) fun _ => .ite (fun h63 ha => ?qmark) fun _ =>
    .ite3 (fun _ => rfl) (fun _ => rfl) (fun _ => rfl) <|
    .ite (fun hhi ha => ?hi) fun _ => .ite (fun _ ha => ?ext) fun _ _ => rfl
  case hash =>
    refine hashArm_frame c1 c2 fuel s hn (fun b x e => ?_) (fun b x e => ?_)
    · obtain ⟨_, rfl⟩ := List.cons.inj (hr.symm.trans e)
      exact ha.same .kwOctothorpe (by simp)
    · obtain ⟨_, rfl⟩ := List.cons.inj (hr.symm.trans e)
      exact ha.same .racket (by simp)
  case minus =>
    obtain rfl : pk = 45 := by simpa using h45
    exact frame_sign c1 c2 fuel 45 false tl s hn rfl hr ha
  case plus =>
    obtain rfl : pk = 43 := by simpa using h43
    exact frame_sign c1 c2 fuel 43 true tl s hn rfl hr ha
  case digit => exact frame_digit c1 c2 fuel s hn (by rwa [hr])
  case dquote =>
    show stringArm c1.opts.string fuel s = stringArm c2.opts.string fuel s
    rw [show c1.opts.string = c2.opts.string from ha.same .string (by simp)]
  case lbracket =>
    show punct (bracketTok c1.opts.brackets) s = punct (bracketTok c2.opts.brackets) s
    rw [show c1.opts.brackets = c2.opts.brackets from ha.same .brackets (by simp)]
  case colon => exact frame_colon c1.opts c2.opts s (by rwa [hr])
  case alpha => exact frame_alpha c1.opts c2.opts pk tl s (tokClass_alpha hal) hr ha
  case qmark => exact frame_qmark c1 c2 fuel s (by rwa [hr])
  case hi => exact frame_hi c1 c2 pk tl s hb.alpha hhi hr ha
  case ext => exact symArm_frame c1.opts c2.opts [] s nofun (by rwa [hr])

/-- on a whole token (followed by a terminator or the end of input) the token text is the token -/
theorem tokenText_token (name rest : List UInt8) (h : IsBody name rest) :
    tokenText .slice (name ++ rest) = name := by
  simp [tokenText, symLen_body name rest h]

/-- `nil` ⇒ the nil option, `t` ⇒ the t option, a final `:` ⇒ colon-postfix keywords, an initial
    `:` ⇒ colon-prefix keywords, `#:` ⇒ octothorpe keywords, `[` ⇒ brackets, `"` ⇒ string syntax,
    `?` ⇒ character syntax, `#%` ⇒ Racket symbols, a digit ⇒ leading-digit symbols;
    other tokens exercise nothing -/
example :
    tokenOpts Options.default .slice (asc "nil)") = [.nil] ∧
    tokenOpts Options.default .slice (asc "t") = [.t] ∧
    tokenOpts Options.default .slice (asc "nil: x") = [.kwPostfix] ∧
    tokenOpts Options.default .slice (asc "+foo:") = [.kwPostfix] ∧
    tokenOpts Options.default .slice [206, 187, 58] = [.kwPostfix] ∧
    tokenOpts Options.default .slice (asc ":k") = [.kwPrefix] ∧
    tokenOpts Options.default .slice (asc ":k:") = [.kwPrefix, .kwPostfix] ∧
    tokenOpts Options.elisp .slice (asc ":k:") = [.kwPrefix] ∧
    tokenOpts Options.default .slice (asc "#:k") = [.kwOctothorpe] ∧
    tokenOpts Options.default .slice (asc "[a]") = [.brackets] ∧
    tokenOpts Options.default .slice (asc "\"s\"") = [.string] ∧
    tokenOpts Options.default .slice (asc "?a:") = [.char, .kwPostfix] ∧
    tokenOpts Options.elisp .slice (asc "?a:") = [.char] ∧
    tokenOpts Options.default .slice (asc "#%app") = [.racket] ∧
    tokenOpts Options.default .slice (asc "1+:") = [.leadingDigit] ∧
    tokenOpts Options.elisp .slice (asc "1+:") = [.leadingDigit, .kwPostfix] ∧
    tokenOpts Options.default .slice (asc "nilx") = [] ∧
    tokenOpts Options.default .slice (asc "-5") = [] ∧
    tokenOpts Options.default .slice (asc "+5:") = [] ∧
    tokenOpts Options.default .slice (asc "#t") = [] ∧
    tokenOpts Options.default .slice (asc "(") = [] ∧
    tokenOpts Options.default .slice (asc "]") = [] ∧
    tokenOpts Options.default .slice (asc "'x") = [] ∧
    tokenOpts Options.default .slice (asc "...") = [] := by decide

end Parse
end Lexpr

#print axioms Lexpr.Parse.tokenOpts_frame
