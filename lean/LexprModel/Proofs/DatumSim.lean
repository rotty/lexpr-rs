/-
  The value readers are the datum readers with the spans forgotten: `MapSim h m m'` says that `m'`
  ends as `m` does, in the same state, with the `h`-image of the value (`Res.map`).  `sim_all` is
  the one walk over the six mutually recursive functions of Parse.lean that compares the two
  families; the entry points, `stepOp`, histories and iterations follow.  A judgement that is
  stable under `Res.map` gets its value statements from its datum statements through these.
-/
import LexprModel.Proofs.Monad
import LexprModel.Proofs.StepOp
import LexprModel.Proofs.ParserProg
namespace Lexpr
namespace Parse

def MapSim (h : α → β) (m : P α) (m' : P β) : Prop := ∀ s, Res.map h (m s) = m' s

theorem MapSim.bind {h : α → β} {g : γ → δ} {m : P α} {m' : P β} {f : α → P γ} {f' : β → P δ}
    (hm : MapSim h m m') (hf : ∀ a, MapSim g (f a) (f' (h a))) : MapSim g (m >>= f) (m' >>= f') := by
  intro s
  have := hm s
  rw [bind_apply, bind_apply, ← this]
  cases m s <;> simp only [Res.map]
  exact hf _ _

theorem MapSim.bind_same {g : γ → δ} {m : P α} {f : α → P γ} {f' : α → P δ}
    (hf : ∀ a, MapSim g (f a) (f' a)) : MapSim g (m >>= f) (m >>= f') := by
  intro s
  rw [bind_apply, bind_apply]
  cases m s <;> simp only [Res.map]
  exact hf _ _

/-- reading the position on the datum side only does not disturb the simulation -/
theorem MapSim.getPos_left {g : γ → δ} {f : Pos → P γ} {m' : P δ}
    (hf : ∀ p, MapSim g (f p) m') : MapSim g (getPos >>= f) m' := by
  intro s
  exact hf _ s

theorem MapSim.pure {h : α → β} {a : α} {b : β} (hab : h a = b) :
    MapSim h (pure a : P α) (pure b) := by
  intro s; simp only [pure_apply, Res.map, hab]

theorem MapSim.peekErr {h : α → β} (c : Code) : MapSim h (peekErr c) (peekErr c) := fun _ => rfl
theorem MapSim.panicAt {h : α → β} (p : Site) : MapSim h (panicAt p) (panicAt p) := fun _ => rfl
theorem MapSim.outOfFuel {h : α → β} : MapSim h outOfFuel outOfFuel := fun _ => rfl
theorem MapSim.liftError {h : α → β} (e : Err) :
    MapSim h (liftExcept (.error e)) (liftExcept (.error e)) := fun _ => rfl

theorem MapSim.attempt {h : α → β} {m : P α} {m' : P β} (hm : MapSim h m m') :
    MapSim (Except.map h) (attempt m) (attempt m') := by
  intro s
  have := hm s
  simp only [Parse.attempt, ← this]
  cases m s <;> simp only [Res.map, Except.map]

theorem MapSim.ok {g : α → β} {m : P α} {m' : P β} (hsim : MapSim g m m') {s s' : St} {a : α}
    (h : m s = .ok a s') : m' s = .ok (g a) s' := by
  rw [← hsim s, h]; rfl

theorem MapSim.deeperSeq {h : α → β} {g : γ → δ} {close : UInt8} {m : P α} {m' : P β}
    {k : α → P γ} {k' : β → P δ} (hm : MapSim h m m') (hk : ∀ a, MapSim g (k a) (k' (h a))) :
    MapSim g (deeperSeq close m k) (deeperSeq close m' k') :=
  bind_same fun _ => bind (attempt hm) fun ret => bind_same fun _ => bind_same fun es => by
    rcases ret with e | a <;> rcases es with e' | ⟨⟩ <;> first | exact liftError _ | exact hk a

theorem MapSim.deeper {h : α → β} {g : γ → δ} {m : P α} {m' : P β} {k : α → P γ} {k' : β → P δ}
    (hm : MapSim h m m') (hk : ∀ a, MapSim g (k a) (k' (h a))) :
    MapSim g (deeper m k) (deeper m' k') :=
  bind_same fun _ => bind (attempt hm) fun ret => bind_same fun _ => by
    rcases ret with e | a <;> first | exact liftError _ | exact hk a

/-- the value a `parse_list_meta` result stands for: `None` is the empty list -/
def listVal : Option (Value × SpanInfo × SpanInfo) → Value
  | none => Value.null
  | some (v, _, _) => v

theorem sim_all (cfg : Cfg) : ∀ fuel : Nat,
    MapSim (Option.map Datum.value) (nextDatum cfg fuel) (nextValue cfg fuel) ∧
    (∀ term acc ms, MapSim listVal (parseListMeta cfg fuel term acc ms) (parseList cfg fuel term acc)) ∧
    (∀ term acc ms,
      MapSim Prod.fst (parseVectorMeta cfg fuel term acc ms) (parseVector cfg fuel term acc)) := by
  intro fuel
  induction fuel with
  | zero =>
    refine ⟨?_, ?_, ?_⟩
    · rw [nextDatum, nextValue]; exact MapSim.outOfFuel
    · intro term acc ms; rw [parseListMeta, parseList]; exact MapSim.outOfFuel
    · intro term acc ms; rw [parseVectorMeta, parseVector]; exact MapSim.outOfFuel
  | succ f ih =>
    obtain ⟨ihD, ihL, ihV⟩ := ih
    refine ⟨?_, ?_, ?_⟩
    · rw [nextDatum_succ, nextValue_succ]
      refine MapSim.bind_same fun ws => ?_
      cases ws with
      | none => exact MapSim.pure rfl
      | some pk =>
        refine MapSim.getPos_left fun start => MapSim.bind_same fun tf =>
          MapSim.bind_same fun tok => ?_
        cases tok with
        | byteVecOpen close =>
          exact MapSim.bind_same fun bs => MapSim.getPos_left fun _ => MapSim.pure rfl
        | vecOpen close =>
          exact MapSim.deeperSeq (ihV close [] []) fun _ => MapSim.getPos_left fun _ => MapSim.pure rfl
        | listOpen close =>
          refine MapSim.deeperSeq (ihL close [] []) fun r => ?_
          rcases r with _ | ⟨v, c, d⟩ <;> exact MapSim.getPos_left fun _ => MapSim.pure rfl
        | quotation q =>
          refine MapSim.getPos_left fun _ => MapSim.deeper ihD fun od => ?_
          cases od with
          | none => exact MapSim.peekErr _
          | some d => exact MapSim.pure rfl
        | _ =>
          dsimp only
          split
          · exact MapSim.getPos_left fun _ => MapSim.pure rfl
          · exact MapSim.panicAt _
    · intro term acc ms
      rw [parseListMeta, parseList]
      refine MapSim.bind_same ?_
      intro ws
      cases ws with
      | none => exact MapSim.peekErr _
      | some c =>
        dsimp only
        refine ite_rel (ite_rel (MapSim.peekErr _) ?_) (ite_rel ?_ ?_)
        · by_cases hacc : acc.isEmpty = true
          · have : acc = [] := by simpa using hacc
            subst this
            simp only [List.isEmpty_nil, if_true]
            exact MapSim.pure rfl
          · simp only [hacc]
            exact MapSim.pure rfl
        · refine MapSim.getPos_left ?_
          intro start
          refine MapSim.bind_same ?_
          intro _
          refine MapSim.bind_same ?_
          intro nxt
          refine ite_rel (ite_rel ?_ ?_) ?_
          · refine MapSim.bind_same ?_
            intro pk
            cases pk with
            | none => exact MapSim.peekErr _
            | some _ => exact MapSim.peekErr _
          · refine MapSim.bind (h := Datum.value) ?_ ?_
            · refine MapSim.bind ihD ?_
              intro od
              cases od with
              | none => exact MapSim.peekErr _
              | some d => exact MapSim.pure rfl
            · intro tail
              refine MapSim.bind_same ?_
              intro ws
              cases ws with
              | none => exact MapSim.peekErr _
              | some c' => exact ite_rel (MapSim.pure rfl) (MapSim.peekErr _)
          · refine MapSim.bind_same ?_
            intro name
            refine MapSim.getPos_left ?_
            intro stop
            exact ihL _ _ _
        · refine MapSim.bind ihD ?_
          intro od
          cases od with
          | none => exact MapSim.peekErr _
          | some d => exact ihL _ _ _
    · intro term acc ms
      rw [parseVectorMeta, parseVector]
      refine MapSim.bind_same ?_
      intro ws
      cases ws with
      | none => exact MapSim.peekErr _
      | some c =>
        dsimp only
        refine ite_rel (ite_rel (MapSim.peekErr _) (MapSim.pure rfl)) ?_
        refine MapSim.bind ihD ?_
        intro od
        cases od with
        | none => exact MapSim.peekErr _
        | some d => exact ihV _ _ _

theorem sim_nextTop (cfg : Cfg) :
    MapSim (Option.map Datum.value) (nextDatumTop cfg) (nextValueTop cfg) := by
  unfold nextDatumTop nextValueTop
  exact MapSim.bind_same (fun f => (sim_all cfg f).1)

theorem sim_expect (cfg : Cfg) : MapSim Datum.value (expectDatum cfg) (expectValue cfg) := by
  unfold expectDatum expectValue
  refine MapSim.bind (sim_nextTop cfg) ?_
  intro od
  cases od with
  | none => exact MapSim.peekErr _
  | some d => exact MapSim.pure rfl

theorem sim_fromTrait (cfg : Cfg) : MapSim Datum.value (fromTraitDatum cfg) (fromTrait cfg) := by
  unfold fromTraitDatum fromTrait
  refine MapSim.bind (sim_expect cfg) ?_
  intro d
  exact MapSim.bind_same (fun _ => MapSim.pure rfl)

def Op.toValue : Op → Op
  | .nextDatum => .nextValue
  | .datumIterNext => .valueIterNext
  | .expectDatum => .expectValue
  | op => op

def Item.toValue : Item → Item
  | .datum d => .value d.value
  | it => it

/-- forgetting the spans commutes with reading a result as an item -/
theorem Res.step_map {α β : Type} {f : α → β} {mk : α → Item} {mk' : β → Item}
    (h : ∀ a, mk' (f a) = (mk a).toValue) (r : Res α) :
    (r.map f).step mk' = ((r.step mk).1.toValue, (r.step mk).2) := by
  cases r with
  | ok a s => exact congrArg (·, some s) (h a)
  | _ => rfl

theorem Res.step_toValue {α : Type} {mk : α → Item} (h : ∀ a, (mk a).toValue = mk a) (r : Res α) :
    r.step mk = ((r.step mk).1.toValue, (r.step mk).2) := by
  cases r with
  | ok a s => exact congrArg (·, some s) (h a).symm
  | _ => rfl

theorem stepOp_toValue (cfg : Cfg) (op : Op) (s : St) :
    stepOp cfg op.toValue s = ((stepOp cfg op s).1.toValue, (stepOp cfg op s).2) := by
  rw [stepOp_eq, stepOp_eq]
  cases op
  case nextDatum | datumIterNext =>
    exact (congrArg (Res.step _) (sim_nextTop cfg s).symm).trans
      (Res.step_map (fun a => by cases a <;> rfl) _)
  case expectDatum =>
    exact (congrArg (Res.step _) (sim_expect cfg s).symm).trans (Res.step_map (mk := Item.datum) (mk' := Item.value) (fun _ => rfl) _)
  case expectValue | expectEnd => exact Res.step_toValue (fun _ => rfl) _
  all_goals exact Res.step_toValue (fun a => by cases a <;> rfl) _

theorem runHistory_toValue (cfg : Cfg) (ops : List Op) (s : St) :
    runHistory cfg (ops.map Op.toValue) s = (runHistory cfg ops s).map Item.toValue := by
  induction ops generalizing s with
  | nil => rfl
  | cons op ops ih =>
    simp only [List.map_cons, runHistory, stepOp_toValue]
    rcases stepOp cfg op s with ⟨it, _ | s'⟩
    · rfl
    · simp only [List.map_cons, ih]

theorem Item.toValue_eq_none (it : Item) : it.toValue = .none_ ↔ it = .none_ := by
  cases it <;> simp [Item.toValue]

theorem iterate_toValue (cfg : Cfg) (op : Op) (cap : Nat) (s : St) :
    iterate cfg op.toValue cap s = (iterate cfg op cap s).map Item.toValue := by
  induction cap generalizing s with
  | zero => rfl
  | succ cap ih =>
    simp only [iterate, stepOp_toValue]
    rcases stepOp cfg op s with ⟨it, os⟩
    cases it <;> cases os <;> simp [Item.toValue, ih]

end Parse
end Lexpr
