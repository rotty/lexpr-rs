/-
  The reader primitives, and what a judgement has to satisfy to hold of every program over them.

  Most judgements about the lexer say, of each of its functions, a fact that is true of every
  program built from `peek`, `next`, `discard`, the scanners and the error primitives by `>>=`
  (an `if` or `match` is split outside, by `split`): two sources agree on it, it does not read the
  depth budget, it only consumes input, a run that stops early does not depend on what follows, ...
  `Prim κ` lists the leaves; `κ : Kind` says how the fuel that two copies of a program pass to the
  scanner loops may differ and whether the mode of the source may be read; `Built.Logic κ R` is
  what `R` must be closed under.  The programs themselves are in Held.lean (`Held`, with one lemma
  per function of the lexer), and `Built.Logic.of_held` there gives `R` of each of them; the parser
  proper follows in ParserProg.lean.
-/
import LexprModel.Parse
namespace Lexpr
namespace Parse

namespace PrefixDet

def scan (g : List UInt8 → Nat) : P (List UInt8) := fun s =>
  .ok (s.rd.rest.take (g s.rd.rest)) { s with rd := s.rd.consume (g s.rd.rest) }

theorem scan_apply (g : List UInt8 → Nat) (s : St) :
    scan g s = .ok (s.rd.rest.take (g s.rd.rest)) { s with rd := s.rd.consume (g s.rd.rest) } :=
  rfl

def digitsLen (r : List UInt8) : Nat := (r.takeWhile isDigit).length

/-- the character-name branch of `parse_r6rs_char` -/
def charNameTail (initial : UInt8) : P Nat := do
  let rest ← getRest
  let n := charNameLen rest
  consumeN n
  let nxt' ← peek
  match charName (initial :: rest.take n) with
  | some c => pure c
  | none =>
    if nxt'.isNone && isCharNamePrefix (initial :: rest.take n) then errAt .eofChar
    else errAt .invalidCharacterConstant

/-- the last arm of `parse_token`: report at `peek_position()`, skip the offending byte -/
def badByte : P Token := do
  let s ← (fun s => Res.ok s s : P St)
  let pp := s.rd.peekPosition
  discard
  (fun s' => Res.err (.syntax .expectedSomeValue pp.line pp.col) s' : P Token)

theorem parseWhitespace_eq : parseWhitespace = (scan wsLen >>= fun _ => peek) := rfl

theorem skipDigits_eq : skipDigits = (scan digitsLen >>= fun _ => peek >>= fun _ => pure ()) := rfl

theorem charNameTail_eq (initial : UInt8) : charNameTail initial =
    (scan charNameLen >>= fun tk => peek >>= fun nxt' =>
      match charName (initial :: tk) with
      | some c => pure c
      | none =>
        if nxt'.isNone && isCharNamePrefix (initial :: tk) then errAt .eofChar
        else errAt .invalidCharacterConstant) := rfl

theorem parseSymbolBytes_eq (scratch : List UInt8) : parseSymbolBytes scratch =
    (getMode >>= fun mode => scan (symLen mode) >>= fun tk => peek >>= fun nxt =>
      if (scratch ++ tk) == [46] then errAt (invalidDot nxt.isNone)
      else if mode == .str then pure (scratch ++ tk)
      else if Utf8.valid (scratch ++ tk) then pure (scratch ++ tk)
      else if Utf8.incomplete (scratch ++ tk) && nxt.isNone then errAt .eofValue
      else errAt .invalidUnicodeCodePoint) := rfl

end PrefixDet

open PrefixDet (scan digitsLen charNameTail badByte)

/-- What a judgement can follow: how the fuel of the right-hand program may differ from that of
    the left-hand one, and whether the programs may read the mode of the source (the `&str` source
    skips UTF-8 validation in `parseSymbolBytes` and `finishStr false`). -/
structure Kind where
  more : Prop
  less : Prop
  mode : Prop

/-- The leaves.  `parseSymbolBytes` and `finishStr` are leaves, not built from `getMode`, because
    a judgement relating two sources has to treat them by hand. -/
inductive Prim (κ : Kind) : {α : Type} → P α → Prop where
  | pure {α : Type} (a : α) : Prim κ (pure a : P α)
  | errAt {α : Type} (c : Code) : Prim κ (errAt c : P α)
  | peekErr {α : Type} (c : Code) : Prim κ (peekErr c : P α)
  | peek : Prim κ peek
  | next : Prim κ next
  | discard : Prim κ discard
  | panicAt {α : Type} (p : Site) : Prim κ (panicAt p : P α)
  | outOfFuel {α : Type} : Prim κ (outOfFuel : P α)
  | skipWs : Prim κ (scan wsLen)
  | skipDigits : Prim κ (scan digitsLen)
  | charName : Prim κ (scan charNameLen)
  | finishChecked (bytes : List UInt8) : Prim κ (finishStr true bytes)
  | badByte : Prim κ badByte
  | parseSymbolBytes (scratch : List UInt8) : κ.mode → Prim κ (parseSymbolBytes scratch)
  | finishUnchecked (bytes : List UInt8) : κ.mode → Prim κ (finishStr false bytes)

def Kind.Rel (κ : Kind) (n n' : Nat) : Prop := n = n' ∨ (κ.more ∧ n < n') ∨ (κ.less ∧ n' < n)

/-- the same fuel on both sides; the programs may read the mode of the source -/
def Kind.same : Kind := ⟨False, False, True⟩

/-- the same fuel on both sides, and the mode is not read: what two different sources share -/
def Kind.blind : Kind := ⟨False, False, False⟩

/-- the right-hand side may have more fuel (a run on a longer input) -/
def Kind.longer : Kind := ⟨True, False, True⟩

/-- the right-hand side may have less fuel if `less` (a run on a source that fails early: below
    the parser proper it is given the same fuel, above it computes a smaller one) -/
def Kind.shorter (less : Prop) : Kind := ⟨False, less, True⟩

theorem Kind.Rel.refl {κ : Kind} (n : Nat) : κ.Rel n n := .inl rfl

theorem Kind.Rel.pred {κ : Kind} {n n' : Nat} (h : κ.Rel (n + 1) (n' + 1)) : κ.Rel n n' := by
  rcases h with h | ⟨hm, h⟩ | ⟨hl, h⟩
  · exact .inl (by omega)
  · exact .inr (.inl ⟨hm, by omega⟩)
  · exact .inr (.inr ⟨hl, by omega⟩)

theorem Kind.Rel.succ {κ : Kind} {n n' : Nat} (h : κ.Rel n n') : κ.Rel (n + 1) (n' + 1) := by
  rcases h with h | ⟨hm, h⟩ | ⟨hl, h⟩
  · exact .inl (by omega)
  · exact .inr (.inl ⟨hm, by omega⟩)
  · exact .inr (.inr ⟨hl, by omega⟩)

/-- What a judgement `R` on pairs of programs has to satisfy to hold of every program over the
    primitives (`Built.Logic.of_held`): the leaves, `>>=`, and a side that is out of fuel where
    `κ` allows.  (`outR` is there for `Held.outR`; no judgement that comes through this interface
    is at a kind with `less`: each proves it by `h.elim`.) -/
structure Built.Logic (κ : Kind) (R : {α : Type} → P α → P α → Prop) : Prop where
  prim : ∀ {α : Type} {m : P α}, Prim κ m → R m m
  bind : ∀ {α β : Type} {m m' : P α} {f f' : α → P β},
    R m m' → (∀ a, R (f a) (f' a)) → R (m >>= f) (m' >>= f')
  outL : κ.more → ∀ {α : Type} {m' : P α}, R outOfFuel m'
  outR : κ.less → ∀ {α : Type} {m : P α}, R m outOfFuel

end Parse
end Lexpr
