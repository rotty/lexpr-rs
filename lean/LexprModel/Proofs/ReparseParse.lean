/-
  C11, re-parse clause — the parser: `next_value` treats the end of the input like the byte at
  which it stopped (`TrK 0`); the list and vector loops, which stop in front of the closing
  bracket, are followed strictly before the boundary (`TrK 1`).
-/
import LexprModel.Proofs.ReparseLex
namespace Lexpr
namespace Parse
namespace Reparse
open Progress Spans

section rules
variable {α β : Type} {k : Nat}

theorem TrK.bind_attempt {m m' : P α} {f f' : Except Err α → P β} (hm : TrK k m m')
    (hok : ∀ a, TrK k (f (.ok a)) (f' (.ok a))) (herr : ∀ e, NeverOk (f (.error e))) :
    TrK k (attempt m >>= f) (attempt m' >>= f') := by
  intro r S s b S' hrel h
  obtain ⟨ret, S1, h1, h2⟩ := bind_ok h
  rcases attempt_ok h1 with ⟨a, rfl, hk⟩ | ⟨e, rfl, _⟩
  · obtain ⟨fr1, t1⟩ := hm r S s a S1 hrel hk
    have fr2 := (hok a).frame S1 b S' h2
    refine ⟨fr1.trans fr2, fun hl => ?_⟩
    rcases t1 (by have := fr2.1; omega) with hfu | ⟨s1, hs1, hrel1⟩
    · exact Or.inl (bind_fuel (attempt_fuel hfu))
    · rw [bind_ok_eq (attempt_ok_eq hs1)]
      exact (hok a r S1 s1 b S' hrel1 h2).2 hl
  · exact absurd h2 (herr e _ _ _)

/-- `enter; attempt m; leave; g`: the depth budget is taken and given back; `g` consumes at least
    `j - k` bytes, so `m` only has to be followed `j` bytes before the boundary -/
theorem TrK.bracket {j : Nat} {m m' : P α} {g g' : Except Err α → P β}
    (hm : TrK j m m') (hg : ∀ a, TrK k (g (.ok a)) (g' (.ok a)))
    (herr : ∀ e, NeverOk (g (.error e)))
    (hp : ∀ a S b S', g (.ok a) S = .ok b S' → S'.rd.rest.length + j ≤ S.rd.rest.length + k) :
    TrK k (enter >>= fun _ => attempt m >>= fun ret => leave >>= fun _ => g ret)
      (enter >>= fun _ => attempt m' >>= fun ret => leave >>= fun _ => g' ret) := by
  intro r S s b S' hrel h
  obtain ⟨_, S3, h1, h⟩ := bind_ok h
  obtain ⟨hd, rfl⟩ := enter_ok h1
  obtain ⟨ret, S4, h2, h⟩ := bind_ok h
  obtain ⟨_, S5, h3, h4⟩ := bind_ok h
  rw [leave_eq] at h3
  cases h3
  rcases attempt_ok h2 with ⟨a, rfl, hk⟩ | ⟨e, rfl, _⟩
  · have hrel3 : TRel r { S with depth := S.depth - 1 } { s with depth := s.depth - 1 } :=
      ⟨hrel.1, hrel.2.1, hrel.2.2.1, by have := hrel.2.2.2; show S.depth - 1 ≤ s.depth - 1; omega⟩
    obtain ⟨fr1, t1⟩ := hm r _ _ a S4 hrel3 hk
    have fr2 := (hg a).frame _ b S' h4
    have hdep : S4.depth + 1 = S.depth := by
      have : S4.depth = S.depth - 1 := fr1.2
      omega
    refine ⟨⟨Nat.le_trans fr2.1 fr1.1, by rw [fr2.2]; exact hdep⟩, fun hl => ?_⟩
    have hs2 : 2 ≤ s.depth := Nat.le_trans hd hrel.2.2.2
    rw [bind_ok_eq (enter_of_le hs2)]
    have hp' := hp a _ b S' h4
    rcases t1 (by
        have : ({ S4 with depth := S4.depth + 1 } : St).rd.rest.length = S4.rd.rest.length := rfl
        omega) with hfu | ⟨s4, hs4, hrel4⟩
    · exact Or.inl (bind_fuel (attempt_fuel hfu))
    · rw [bind_ok_eq (attempt_ok_eq hs4), bind_ok_eq (leave_eq s4)]
      have hrel5 : TRel r { S4 with depth := S4.depth + 1 } { s4 with depth := s4.depth + 1 } :=
        ⟨hrel4.1, hrel4.2.1, hrel4.2.2.1, by
          have := hrel4.2.2.2; show S4.depth + 1 ≤ s4.depth + 1; omega⟩
      exact (hg a r _ _ b S' hrel5 h4).2 hl
  · exact absurd h4 (herr e _ _ _)

end rules

theorem endSeq_t {close : UInt8} : TrK 0 (endSeq close) (endSeq close) := by
  unfold endSeq
  tr []

/-- a successful `end_seq` has consumed the closing bracket -/
theorem endSeq_prog {close : UInt8} {S S' : St} (h : endSeq close S = .ok () S') :
    S'.rd.rest.length < S.rd.rest.length := by
  unfold endSeq at h
  obtain ⟨o, S1, h1, h2⟩ := bind_ok h
  have := parseWhitespace_t1.mono S o S1 h1
  cases o with
  | none => cases h2
  | some b =>
    dsimp only at h2
    split at h2
    · have hne : S1.rd.rest ≠ [] := by
        intro h0
        rw [discard_nil h0] at h2
        cases h2
      have := Prog.discard S1 () S' hne h2
      omega
    · cases h2

theorem byteListLoop_t {cfg : Cfg} {close : UInt8} {f f' : Nat} {acc : List UInt8} :
    TrK 0 (byteListLoop cfg close f acc) (byteListLoop cfg close f' acc) := by
  induction f generalizing f' acc with
  | zero => exact TrK.fuel0 rfl
  | succ f ih =>
    refine TrK.fuel_cases (G := fun f' => byteListLoop cfg close f' acc) rfl (fun g => ?_) f'
    unfold byteListLoop
    tr [parseNumber_t, expectNumberEnd_t, ih]

theorem parseByteList_t {cfg : Cfg} {close : UInt8} {f f' : Nat} :
    TrK 0 (parseByteList cfg f close) (parseByteList cfg f' close) := by
  unfold parseByteList
  tr [byteListLoop_t]

/-- the list and vector arms: the loop stops in front of the closing bracket, which `end_seq`
    consumes, so the loop is followed strictly before the boundary only -/
theorem TrK.deeperSeq {α β : Type} {close : UInt8} {m m' : P α} {k k' : α → P β}
    (hm : TrK 1 m m') (hk : ∀ a, TrK 0 (k a) (k' a)) :
    TrK 0 (deeperSeq close m k) (deeperSeq close m' k') := by
  refine TrK.bracket hm
    (fun a => TrK.bind_attempt endSeq_t (fun u => by cases u; exact hk a) fun _ => NeverOk.liftErr)
    (fun e => NeverOk.bind fun es => by cases es <;> exact NeverOk.liftErr) fun a S b S' h => ?_
  obtain ⟨es, S1, h1, h2⟩ := bind_ok h
  rcases attempt_ok h1 with ⟨⟨⟩, rfl, he⟩ | ⟨e, rfl, _⟩
  · have := endSeq_prog he
    have := (hk a).frame.mono S1 b S' h2
    omega
  · exact absurd h2 (NeverOk.liftErr _ _ _)

theorem TrK.deeper {α β : Type} {j k : Nat} {m m' : P α} {f f' : α → P β} (hm : TrK j m m')
    (hf : ∀ a, TrK k (f a) (f' a))
    (hp : ∀ a S b S', f a S = .ok b S' → S'.rd.rest.length + j ≤ S.rd.rest.length + k) :
    TrK k (deeper m f) (deeper m' f') :=
  TrK.bracket hm hf (fun _ => NeverOk.liftErr) hp

/-- what follows the token in `next_value`: what it opens -/
def afterTok (cfg : Cfg) (f tf : Nat) (tok : Token) : P (Option Value) :=
  match tok with
  | .byteVecOpen close => do
    let bs ← parseByteList cfg tf close
    pure (some (.bytes bs))
  | .vecOpen close => deeperSeq close (parseVector cfg f close []) fun xs => pure (some (.vector xs))
  | .listOpen close => deeperSeq close (parseList cfg f close []) fun v => pure (some v)
  | .quotation q => deeper (nextValue cfg f) fun
    | none => peekErr .eofList
    | some d => pure (some (Value.list [.symbol q.name, d]))
  | t => match t.atom with
    | some v => pure (some v)
    | none => panicAt .unreachable

/-- what follows the trivia in `next_value`: the token and what it opens -/
def afterWs (cfg : Cfg) (f : Nat) (pk : UInt8) : P (Option Value) := do
  let tf ← tokenFuel
  let tok ← parseToken cfg tf pk
  afterTok cfg f tf tok

theorem nextValue_succ (cfg : Cfg) (f : Nat) :
    nextValue cfg (f + 1) = (parseWhitespace >>= fun o =>
      match o with
      | none => pure none
      | some pk => afterWs cfg f pk) := by
  rw [Parse.nextValue_succ]
  refine bind_congr fun o => ?_
  cases o with
  | none => rfl
  | some pk => exact bind_congr fun tf => bind_congr fun tok => by cases tok <;> rfl

/-- `afterTok`, given the three mutually recursive functions one level down -/
theorem afterTok_of {cfg : Cfg} {f g tf tf' : Nat}
    (h1 : TrK 0 (nextValue cfg f) (nextValue cfg g))
    (h2 : ∀ term acc, TrK 1 (parseList cfg f term acc) (parseList cfg g term acc))
    (h3 : ∀ term acc, TrK 1 (parseVector cfg f term acc) (parseVector cfg g term acc))
    (tok : Token) : TrK 0 (afterTok cfg f tf tok) (afterTok cfg g tf' tok) := by
  cases tok with
  | byteVecOpen close => exact TrK.bind parseByteList_t fun _ => TrK.pure
  | vecOpen close => exact TrK.deeperSeq (h3 _ _) fun _ => TrK.pure
  | listOpen close => exact TrK.deeperSeq (h2 _ _) fun _ => TrK.pure
  | quotation q =>
    refine TrK.deeper h1 (fun o => ?_) (fun o S b S' h => ?_)
    · cases o with
      | none => exact TrK.peekErr
      | some d => exact TrK.pure
    · cases o with
      | none => cases h
      | some d => cases h; omega
  | _ => exact TrK.pure

/-- from a state that stands at `pk`, a successful `afterWs` consumes: the token does -/
theorem afterWs_prog_of {cfg : Cfg} {f : Nat} {pk : UInt8}
    (hm : ∀ tf tok, MonoOk (afterTok cfg f tf tok)) {S S' : St} {a : Option Value}
    {t : List UInt8} (hS : S.rd.rest = pk :: t) (h : afterWs cfg f pk S = .ok a S') :
    S'.rd.rest.length < S.rd.rest.length := by
  obtain ⟨tf, S1, h1, h⟩ := bind_ok h
  cases h1
  obtain ⟨tok, S2, h2, h3⟩ := bind_ok h
  have := ((parseToken_spec (cfg := cfg) (fuel := S.rd.rest.length + 1) (by rw [hS]; rfl)).ok h2).len
  have := hm _ tok S2 a S' h3
  omega

theorem value_ts (cfg : Cfg) : ∀ f f' : Nat,
    TrK 0 (nextValue cfg f) (nextValue cfg f') ∧
    (∀ term acc, TrK 1 (parseList cfg f term acc) (parseList cfg f' term acc)) ∧
    (∀ term acc, TrK 1 (parseVector cfg f term acc) (parseVector cfg f' term acc)) := by
  intro f
  induction f with
  | zero => intro f'; exact ⟨TrK.fuel0 rfl, fun _ _ => TrK.fuel0 rfl, fun _ _ => TrK.fuel0 rfl⟩
  | succ f ih =>
    have main : ∀ g,
        TrK 0 (nextValue cfg (f + 1)) (nextValue cfg (g + 1)) ∧
        (∀ term acc, TrK 1 (parseList cfg (f + 1) term acc) (parseList cfg (g + 1) term acc)) ∧
        (∀ term acc, TrK 1 (parseVector cfg (f + 1) term acc) (parseVector cfg (g + 1) term acc)) := by
      intro g
      obtain ⟨ihV, ihL, ihVec⟩ := ih g
      refine ⟨?_, fun term acc => ?_, fun term acc => ?_⟩
      · rw [nextValue_succ, nextValue_succ]
        refine TrK.bind_parseWhitespace (fun o => ?_) (fun b => ?_)
        · cases o with
          | none => exact TrK.pure
          | some pk =>
            exact TrK.bind_tokenFuel fun n n' => TrK.bind parseToken_t (afterTok_of ihV ihL ihVec)
        · obtain ⟨dV, dL, dVec⟩ := ih f
          exact Bd.of_prog_at fun S a S' t hS h =>
            afterWs_prog_of (fun _ tok => (afterTok_of dV dL dVec tok).mono) hS h
      · unfold parseList
        tr [parseWhitespace_t1, peekOrNull_t1, peek_t1, TrK.weaken parseSymbolBytes_t, TrK.weaken ihV,
          ihL _ _]
      · unfold parseVector
        tr [parseWhitespace_t1, TrK.weaken ihV, ihVec _ _]
    intro f'
    exact ⟨TrK.fuel_cases rfl (fun g => (main g).1) f',
      fun t a => TrK.fuel_cases (G := fun f' => parseList cfg f' t a) rfl (fun g => (main g).2.1 t a) f',
      fun t a => TrK.fuel_cases (G := fun f' => parseVector cfg f' t a) rfl (fun g => (main g).2.2 t a) f'⟩

/-- **End of input acts like a delimiter**, for `next_value`. -/
theorem nextValue_t {cfg : Cfg} {f f' : Nat} : TrK 0 (nextValue cfg f) (nextValue cfg f') :=
  (value_ts cfg f f').1

theorem parseList_t {cfg : Cfg} {f f' : Nat} {term : UInt8} {acc : List Value} :
    TrK 1 (parseList cfg f term acc) (parseList cfg f' term acc) := (value_ts cfg f f').2.1 term acc

theorem parseVector_t {cfg : Cfg} {f f' : Nat} {term : UInt8} {acc : List Value} :
    TrK 1 (parseVector cfg f term acc) (parseVector cfg f' term acc) :=
  (value_ts cfg f f').2.2 term acc

theorem afterTok_t {cfg : Cfg} {f f' tf tf' : Nat} {tok : Token} :
    TrK 0 (afterTok cfg f tf tok) (afterTok cfg f' tf' tok) :=
  afterTok_of nextValue_t (fun _ _ => parseList_t) (fun _ _ => parseVector_t) tok

theorem afterWs_t {cfg : Cfg} {f f' : Nat} {pk : UInt8} :
    TrK 0 (afterWs cfg f pk) (afterWs cfg f' pk) :=
  TrK.bind_tokenFuel fun _ _ => TrK.bind parseToken_t fun _ => afterTok_t

theorem afterWs_prog (cfg : Cfg) (f : Nat) (pk : UInt8) {S S' : St} {a : Option Value}
    {t : List UInt8} (hS : S.rd.rest = pk :: t) (h : afterWs cfg f pk S = .ok a S') :
    S'.rd.rest.length < S.rd.rest.length :=
  afterWs_prog_of (fun _ _ => afterTok_t.mono) hS h

/-! ### the statements in plain form -/

/-- **C11_trunc** (end of input acts like a delimiter).  A successful run of `next_value` over
    `a ++ r` that leaves exactly `r` unread (having at most peeked its first byte), repeated on a
    parser whose whole unread input is `a` — any line/column/`peeked` bookkeeping, the same kind of
    source, not failing, at least the same depth budget, any amount of fuel — returns the same
    value with nothing left unread, unless the fuel runs out. -/
theorem C11_trunc (cfg : Cfg) (f f' : Nat) (S S' s : St) (v : Option Value) (a r : List UInt8)
    (h : nextValue cfg f S = .ok v S') (hS : S.rd.rest = a ++ r) (hS' : S'.rd.rest = r)
    (hs : s.rd.rest = a) (hmode : S.rd.mode = s.rd.mode) (hfaulty : s.rd.faulty = false)
    (hdepth : S.depth ≤ s.depth) :
    nextValue cfg f' s = .fuel ∨
      ∃ s', nextValue cfg f' s = .ok v s' ∧ s'.rd.rest = [] ∧ s'.rd.mode = s.rd.mode ∧
        s'.rd.faulty = false ∧ S'.depth ≤ s'.depth := by
  have hrel : TRel r S s := ⟨by rw [hS, hs], hmode, hfaulty, hdepth⟩
  rcases (nextValue_t (cfg := cfg) (f := f) (f' := f') r S s v S' hrel h).2 (by rw [hS']; omega) with
    hfu | ⟨s', hs', hrel'⟩
  · exact Or.inl hfu
  · refine Or.inr ⟨s', hs', ?_, ?_, hrel'.2.2.1, hrel'.2.2.2⟩
    · have := hrel'.1
      rw [hS'] at this
      have hl := congrArg List.length this
      simp only [List.length_append] at hl
      exact List.eq_nil_of_length_eq_zero (by omega)
    · have hm1 := ((value_invs (I := fun t : St => t.rd.mode = s.rd.mode) cfg f').1 s rfl)
      rw [hs'] at hm1
      exact hm1

/-- `C11_trunc` with enough fuel (more than twice the length of the text, which is less than what
    the public entry points supply): the truncated run succeeds. -/
theorem C11_trunc_fuel (cfg : Cfg) (f f' : Nat) (S S' s : St) (v : Option Value) (a r : List UInt8)
    (h : nextValue cfg f S = .ok v S') (hS : S.rd.rest = a ++ r) (hS' : S'.rd.rest = r)
    (hs : s.rd.rest = a) (hmode : S.rd.mode = s.rd.mode) (hfaulty : s.rd.faulty = false)
    (hdepth : S.depth ≤ s.depth) (hf : 2 * a.length < f') :
    ∃ s', nextValue cfg f' s = .ok v s' ∧ s'.rd.rest = [] := by
  rcases C11_trunc cfg f f' S S' s v a r h hS hS' hs hmode hfaulty hdepth with hfu | ⟨s', h1, h2, _⟩
  · exact absurd hfu (((value_specs cfg f').1 s).no_fuel (by rw [hs]; omega))
  · exact ⟨s', h1, h2⟩

/-- **C11_depth_mono** (success is monotone in the depth budget) and **position independence**:
    a successful `next_value` succeeds with the same value, and the same unread input left, from
    any non-failing state with the same unread input and kind of source, whatever its
    line/column/`peeked` bookkeeping, provided its depth budget is at least as large (and unless
    its fuel runs out). -/
theorem C11_depth_mono (cfg : Cfg) (f f' : Nat) (S S' s : St) (v : Option Value)
    (h : nextValue cfg f S = .ok v S') (hrest : S.rd.rest = s.rd.rest)
    (hmode : S.rd.mode = s.rd.mode) (hfaulty : s.rd.faulty = false) (hdepth : S.depth ≤ s.depth) :
    nextValue cfg f' s = .fuel ∨
      ∃ s', nextValue cfg f' s = .ok v s' ∧ s'.rd.rest = S'.rd.rest := by
  have hrel : TRel [] S s := ⟨by rw [hrest]; simp, hmode, hfaulty, hdepth⟩
  rcases (nextValue_t (cfg := cfg) (f := f) (f' := f') [] S s v S' hrel h).2 (by simp) with
    hfu | ⟨s', hs', hrel'⟩
  · exact Or.inl hfu
  · exact Or.inr ⟨s', hs', by have := hrel'.1; simpa using this.symm⟩

theorem nextValue_frame (cfg : Cfg) (f : Nat) : FrOk (nextValue cfg f) :=
  (nextValue_t (cfg := cfg) (f := f) (f' := f)).frame

end Reparse
end Parse
end Lexpr
