/-
  FloatApproxConcat — C12 "floats as in C01" with floats that are not exactly readable: parsing
  the concatenation of several printed values separated by trivia yields values `approxEq` to
  those values (after the folding of the pair), in order, and then end of input.

  `C12_concat_approx` is `Concat.C12_concat` with `AllPlainForA` (floats: `RyuSpecOnly`) in place of
  `AllPlainFor` (no floats at all) and a list `ws` of returned values related to the folded
  originals by `Value.approxEqList`; `C12_concat_approx_sources` adds the `&str` and stream sources
  through the transfer lemmas of `ConcatSources.lean`.
-/
import LexprModel.Proofs.FloatApproxRT
import LexprModel.Proofs.Concat
import LexprModel.Proofs.ConcatSources
namespace Lexpr
namespace FloatApprox
open Parse Parse.ListRT Parse.Concat Print Spec F64 Numbers Decimals FullRT

theorem value_step_approx (p : Print.Options) (cfg : Cfg) (ryu : Nat → List UInt8)
    (hb : p.vector = .brackets → cfg.opts.brackets = .vector) (v : Value)
    (h : AllLeaves (AtomOKW p cfg ryu) v) :
    ∃ w, Value.approxEq (fold p cfg.opts v) w ∧
      ReadsW cfg (closes v) (text p ryu v) w (nestingP p v) := by
  obtain ⟨w, hw, A⟩ := readsAs_approx p cfg ryu hb v h
  exact ⟨w, hw, A.value⟩

/-- One function giving, for every value, a value its text is read as: `C12_concat_reads` takes the
    values read as a function of the values printed. -/
theorem reading_approx (p : Print.Options) (cfg : Cfg) (ryu : Nat → List UInt8)
    (hb : p.vector = .brackets → cfg.opts.brackets = .vector) :
    ∃ g : Value → Value, ∀ v, AllLeaves (AtomOKW p cfg ryu) v →
      Value.approxEq (fold p cfg.opts v) (g v) ∧
        ReadsW cfg (closes v) (text p ryu v) (g v) (nestingP p v) := by
  refine Classical.axiomOfChoice (r := fun v w => AllLeaves (AtomOKW p cfg ryu) v →
    Value.approxEq (fold p cfg.opts v) w ∧
      ReadsW cfg (closes v) (text p ryu v) w (nestingP p v)) fun v => ?_
  by_cases h : AllLeaves (AtomOKW p cfg ryu) v
  · obtain ⟨w, hw⟩ := value_step_approx p cfg ryu hb v h
    exact ⟨w, fun _ => hw⟩
  · exact ⟨v, fun h' => absurd h' h⟩

/-- **C12_concat_approx.**  `Concat.C12_concat` with float leaves: for every compatible printer /
    parser option pair and values all of whose leaves are plain for the pair, finite floats with
    `RyuSpecOnly` included (`AllPlainForA`), nesting at most 127: a fresh slice parser on
    `t0 ++ text v1 ++ sep1 ++ text v2 ++ … ++ tEnd` returns values `w1, …, wn` with
    `approxEq (fold p r vi) wi` — identical except for float leaves, which agree within
    `floatClose` — and then end of input, for each of the three ways of asking for the next value;
    further calls keep reporting the end; the depth budget is 128 after every call and the unread
    input after the `i`-th call is exactly what follows the `i`-th value. -/
theorem C12_concat_approx (p : Print.Options) (cfg : Cfg) (ryu : Nat → List UInt8)
    (hc : Compatible p cfg.opts = true) (op : Op) (hop : ValueOp op)
    (items : List (List UInt8 × Value)) (tEnd : List UInt8)
    (hall : ∀ it ∈ items, AllPlainForA p cfg ryu it.2 ∧ nestingP p it.2 ≤ 127)
    (hs : SepsOK p ryu true items) (hE : TriviaEnd tEnd) :
    let s0 := initSt .slice (concatText p ryu items ++ tEnd)
    ∃ ws : List Value,
      Value.approxEqList (items.map fun it => fold p cfg.opts it.2) ws ∧
      (∀ cap, items.length + 1 ≤ cap →
        iterate cfg op cap s0 = ws.map Item.value ++ [.none_]) ∧
      (∀ k, runHistory cfg (List.replicate (items.length + (k + 1)) op) s0 =
        ws.map Item.value ++ List.replicate (k + 1) .none_) ∧
      (∀ k, (runStates cfg (List.replicate (items.length + (k + 1)) op) s0).map obs =
        (rests p ryu tEnd items).map (fun r => (r, 128)) ++ List.replicate (k + 1) ([], 128)) := by
  intro s0
  obtain ⟨g, hg⟩ := reading_approx p cfg ryu (compatible_brackets p cfg.opts hc)
  have hA : ∀ it ∈ items, AllLeaves (AtomOKW p cfg ryu) it.2 := fun it hit =>
    AllLeaves.mono (atomOKW_of_leafA p cfg ryu hc) it.2 (hall it hit).1
  have h := C12_concat_reads p cfg ryu g op hop items tEnd s0 ⟨rfl, rfl⟩ rfl
    (fun it hit => ⟨(hg it.2 (hA it hit)).2, by
      have := (hall it hit).2
      show nestingP p it.2 + 1 ≤ 128
      omega⟩) hs hE
  refine ⟨items.map fun it => g it.2,
    approxEqList_map _ _ items fun it hit => (hg it.2 (hA it hit)).1, ?_⟩
  have hd0 : s0.depth = 128 := rfl
  simpa [List.map_map, Function.comp_def, hd0] using And.intro h.2.2 (And.intro h.1 h.2.1)

/-- **C12_concat_approx_sources**: the items returned, for the stream source and — when the input
    is well-formed UTF-8 — the `&str` source. -/
theorem C12_concat_approx_sources (p : Print.Options) (cfg : Cfg) (ryu : Nat → List UInt8)
    (hc : Compatible p cfg.opts = true) (op : Op) (hop : ValueOp op)
    (items : List (List UInt8 × Value)) (tEnd : List UInt8)
    (hall : ∀ it ∈ items, AllPlainForA p cfg ryu it.2 ∧ nestingP p it.2 ≤ 127)
    (hs : SepsOK p ryu true items) (hE : TriviaEnd tEnd) (m : Mode)
    (hu : m = .str → Utf8.valid (concatText p ryu items ++ tEnd) = true) :
    ∃ ws : List Value,
      Value.approxEqList (items.map fun it => fold p cfg.opts it.2) ws ∧
      (∀ cap, items.length + 1 ≤ cap →
        iterate cfg op cap (initSt m (concatText p ryu items ++ tEnd)) =
          ws.map Item.value ++ [.none_]) ∧
      (∀ k, runHistory cfg (List.replicate (items.length + (k + 1)) op)
          (initSt m (concatText p ryu items ++ tEnd)) =
        ws.map Item.value ++ List.replicate (k + 1) .none_) := by
  obtain ⟨ws, hws, -, hh, -⟩ := C12_concat_approx p cfg ryu hc op hop items tEnd hall hs hE
  have hlen : ws.length = items.length := by
    have := approxEqList_length hws
    simpa using this.symm
  exact ⟨ws, hws, by simpa [hlen] using concat_sources cfg op _ ws m hu (by simpa [hlen] using hh)⟩

/-- `1e-23 ;c⏎ (a 1e-23 . #(2.5))2.5` followed by a space: three values, the last one directly
    after the closing parenthesis; default pair, default build -/
def exItemsA : List (List UInt8 × Value) :=
  [([], .number (.flt 0x3B282DB34012B251)), (asc " ;c\n ", exV),
   ([], .number (.flt 0x4004000000000000))]

example : concatText Print.Options.default ryuAx exItemsA ++ asc " " =
    asc "1e-23 ;c\n (a 1e-23 . #(2.5))2.5 " := by decide +kernel

/-- non-vacuity of `C12_concat_approx` -/
example : ∃ ws : List Value,
    Value.approxEqList (exItemsA.map fun it => fold Print.Options.default exCfgFast.opts it.2) ws ∧
    ∀ cap, exItemsA.length + 1 ≤ cap →
      iterate exCfgFast .nextValue cap
        (initSt .slice (concatText Print.Options.default ryuAx exItemsA ++ asc " ")) =
          ws.map Item.value ++ [.none_] := by
  have hall : ∀ it ∈ exItemsA, AllPlainForA Print.Options.default exCfgFast ryuAx it.2 ∧
      nestingP Print.Options.default it.2 ≤ 127 := by
    intro it hit
    simp only [exItemsA, List.mem_cons, List.not_mem_nil, or_false] at hit
    rcases hit with rfl | rfl | rfl
    · exact ⟨ryuAx_1em23, by simp [nestingP]⟩
    · refine ⟨?_, by simp [exV, nestingP, nestingTailP, nestingSeqP]⟩
      simp only [exV, AllPlainForA, AllLeaves, AllLeavesSeq, LeafPlainForA, ListRT.LeafPlainFor,
        AtomPlainFor, ListRT.dotOkP, and_true]
      exact ⟨by decide, ryuAx_1em23, ryuAx_25⟩
    · exact ⟨ryuAx_25, by simp [nestingP]⟩
  have hs : SepsOK Print.Options.default ryuAx true exItemsA :=
    ⟨.nil, .inl rfl, trivia_of_triviaB _ (by decide), .inr (.inl (by decide)), .nil,
      .inl rfl, trivial⟩
  obtain ⟨ws, h1, h2, _⟩ := C12_concat_approx Print.Options.default exCfgFast ryuAx (by decide)
    .nextValue (Or.inl rfl) exItemsA (asc " ") hall hs (triviaEnd_of_triviaEndB _ (by decide))
  exact ⟨ws, h1, h2⟩

#print axioms value_step_approx
#print axioms C12_concat_approx
#print axioms C12_concat_approx_sources

end FloatApprox
end Lexpr
