/-
  C09 (text half, second part) — `C09_agree` over the sub-language `TextOK2`: float literals with an
  optional minus sign, strings with arbitrary (well-formed UTF-8) content, characters, and everything
  `TextOK` admits, nested arbitrarily in lists, dotted lists (tails merged) and vectors.

  The documented tree type `Doc` (MacroSpec) carries for a float only the pair `(sig, exp)` the
  token denotes, not its spelling.  `Sx` is the same tree with the float literals spelled out
  (`DecLit`: `digits[.digits][(e|E)[+|-]digits]`, a sub-syntax of Rust's float literals);
  `erase : Sx → Doc` forgets the spelling: the Rust token of the literal `L` is
  `Lit.float L.sig L.exp10` (its digits without the trailing zeros of the fraction, exponent
  adjusted — the same number as all written digits, `DecLit.value_eq`), which the model evaluates
  to `F64.rnDec L.sig L.exp10`, the correctly rounded double of the written decimal.

  `C09_text2`, `C09_agree_full`: macro on the tokens and parser on the text both give
  `valueOf env (erase x)`; `C09_agree_float`: the float clause for a build that is exact on the
  scanned pair, `C09_agree_float_default` and `C09_agree_float_nofast` for the two builds.
-/
import LexprModel.Proofs.MacroText2Base
import LexprModel.Proofs.Image
namespace Lexpr
namespace Macro
open Print
open Parse.ListRT
open Parse (PlainIdent symTermSlice)
open Decimals

/-! ## The tree with spelled float literals -/

/-- The documented syntax with float literals spelled out.  `leaf d` is any leaf of `Doc` other
    than a float (the side conditions reject composite `d`). -/
inductive Sx where
  | leaf (d : Doc)
  | flt (neg : Bool) (L : DecLit)
  | list (xs : List Sx)
  | dotted (xs : List Sx) (t : Sx)
  | vec (xs : List Sx)

mutual
/-- the documented tree of MacroSpec: a float literal becomes the pair its token denotes -/
def erase : Sx → Doc
  | .leaf d => d
  | .flt neg L => if neg then .negFloat L.sig L.exp10 else .float L.sig L.exp10
  | .list xs => .list (eraseL xs)
  | .dotted xs t => .dotted (eraseL xs) (erase t)
  | .vec xs => .vec (eraseL xs)
def eraseL : List Sx → List Doc
  | [] => []
  | x :: xs => erase x :: eraseL xs
end

/-- the text of a leaf: as `stextAtom`, but a string is written as the default printer writes its
    value (R6RS escapes), whatever the Rust source text was -/
def stextAtom2 : Doc → List UInt8
  | .str _ val => strText val
  | d => stextAtom d

mutual
/-- The S-expression text equivalent to the macro syntax: as `stext` (tails merged, single spaces),
    with float literals as written and strings as the printer writes them. -/
def stext2 : Sx → List UInt8
  | .leaf d => stextAtom2 d
  | .flt neg L => fltText neg L
  | .list [] => [40, 41]
  | .list (x :: xs) => 40 :: (stext2 x ++ (stextRest2 xs ++ [41]))
  | .dotted [] t => stext2 t
  | .dotted (x :: xs) t => 40 :: (stext2 x ++ ((stextRest2 xs ++ stextTail2 t) ++ [41]))
  | .vec [] => [35, 40, 41]
  | .vec (x :: xs) => 35 :: 40 :: ((stext2 x ++ stextRest2 xs) ++ [41])
def stextRest2 : List Sx → List UInt8
  | [] => []
  | x :: xs => 32 :: (stext2 x ++ stextRest2 xs)
/-- the tail of a dotted list, up to the closing parenthesis: merged if it is a list -/
def stextTail2 : Sx → List UInt8
  | .list ys => stextRest2 ys
  | .dotted ys t => stextRest2 ys ++ stextTail2 t
  | .vec [] => [32, 46, 32, 35, 40, 41]
  | .vec (x :: xs) => 32 :: 46 :: 32 :: 35 :: 40 :: ((stext2 x ++ stextRest2 xs) ++ [41])
  | .leaf d => 32 :: 46 :: 32 :: stextAtom2 d
  | .flt neg L => 32 :: 46 :: 32 :: fltText neg L
end

/-! ## Side conditions -/

/-- leaves: as `atomOk`, but a string only has to denote well-formed UTF-8 (any content, any
    source text) and `-0` is allowed (it denotes `0`) -/
def atomOk2 : Doc → Bool
  | .str _ val => Utf8.valid val
  | .negInt n => decide (n ≤ 9223372036854775808)
  | d => atomOk d

/-- a symbol name: as in `TextOK` (`symOk`: `PlainIdent` and `dotHeadOk`), or — more generally —
    any name of a symbol the parser `cfg` can return at all (`Parse.Image.SymImg`, necessary by
    `C13_image_shape`) that does not start with `.` followed by NUL or a delimiter (`dotHeadOk`).
    Under the default options the first alternative implies the second (`symOk2_of_symOk`); it is
    there because it is decidable by evaluation. -/
def symOk2 (cfg : Parse.Cfg) (n : List UInt8) : Prop :=
  symOk n = true ∨ (Parse.Image.SymImg cfg n ∧ dotHeadOk n = true)

/-- the side condition on a leaf: `atomOk2`, with the wider symbol-name clause `symOk2` -/
def LeafOK (cfg : Parse.Cfg) : Doc → Prop
  | .sym n => symOk2 cfg n
  | .psym n => symOk2 cfg n
  | .qsym n _ => symOk2 cfg n
  | d => atomOk2 d = true

/-- a float literal the build reads exactly: well formed, exponent arithmetic inside `i32`, and
    `f64_from_parts` exact on the scanned pair (`ExactBuild`: default build — digits below `2^53`
    and scanned exponent within `±22`, with the first 23 `POW10` entries exact; build without
    fast-float-parsing — at most `u64::MAX` as significand and a finite result) -/
def FltOK (cfg : Parse.Cfg) (L : DecLit) : Prop :=
  L.WF ∧ L.Small ∧ ExactBuild cfg L.sig L.exp10

mutual
def textOk2 (cfg : Parse.Cfg) : Sx → Prop
  | .leaf d => LeafOK cfg d
  | .flt _ L => FltOK cfg L
  | .list xs => textOkL2 cfg xs
  | .dotted [] _ => False
  | .dotted (x :: xs) t => textOk2 cfg x ∧ textOkL2 cfg xs ∧ textOkTail2 cfg t
  | .vec xs => textOkL2 cfg xs
def textOkL2 (cfg : Parse.Cfg) : List Sx → Prop
  | [] => True
  | x :: xs => textOk2 cfg x ∧ textOkL2 cfg xs
/-- in tail position a dotted list may have no elements before its dot -/
def textOkTail2 (cfg : Parse.Cfg) : Sx → Prop
  | .list ys => textOkL2 cfg ys
  | .dotted ys t => textOkL2 cfg ys ∧ textOkTail2 cfg t
  | .vec xs => textOkL2 cfg xs
  | .leaf d => LeafOK cfg d
  | .flt _ L => FltOK cfg L
end

/-- The side conditions of the enlarged sub-language, for the build `cfg`:
    * `leaf d` (`LeafOK`): `d` is a leaf with the conditions of `TextOK` (integers in range, scalar
      characters, keyword names without terminator bytes, not `.`, well-formed UTF-8), except that
      a string literal may have ANY content that is well-formed UTF-8 (its text is the printer's
      rendering of the value), that `-0` is allowed, and that a symbol name may be any name the
      parser can return as a symbol (`SymImg`) with `dotHeadOk` (`symOk2`; this adds the names
      that start with a non-ASCII alphabetic character); no unquote;
    * `flt neg L`: `FltOK cfg L`;
    * a dotted list has at least one element before the dot, except in tail position. -/
def TextOK2 (cfg : Parse.Cfg) (x : Sx) : Prop := textOk2 cfg x

mutual
/-- parentheses pending at the deepest point of `stext2 x` (merged tails do not count) -/
def dnest2 : Sx → Nat
  | .list xs => 1 + dnestL2 xs
  | .dotted [] t => dnest2 t
  | .dotted (x :: xs) t => 1 + max (dnest2 x) (max (dnestL2 xs) (dnestTail2 t))
  | .vec xs => 1 + dnestL2 xs
  | .leaf _ => 0
  | .flt _ _ => 0
def dnestL2 : List Sx → Nat
  | [] => 0
  | x :: xs => max (dnest2 x) (dnestL2 xs)
def dnestTail2 : Sx → Nat
  | .list ys => dnestL2 ys
  | .dotted ys t => max (dnestL2 ys) (dnestTail2 t)
  | .vec xs => 1 + dnestL2 xs
  | .leaf _ => 0
  | .flt _ _ => 0
end

/-! ## Leaves -/

theorem stextAtom2_str_print (ryu : Nat → List UInt8) (src val : List UInt8) :
    stextAtom2 (.str src val) = Print.text Print.Options.default ryu (.string val) :=
  strText_print ryu val

theorem stextAtom2_chr_print (ryu : Nat → List UInt8) (c : Nat) :
    stextAtom2 (.chr c) = Print.text Print.Options.default ryu (.char c) :=
  (SpecRT.text_char .default ryu c).symm

theorem atomOk2_reads (env : Tok → Value) (cfg : Parse.Cfg) (ho : cfg.opts = Parse.Options.default)
    (d : Doc) (h : atomOk2 d = true) :
    Reads cfg false (stextAtom2 d) (valueOf env d) 0 := by
  cases d with
  | str src val => exact str_reads cfg ho val h
  | negInt n =>
    simp only [atomOk2, decide_eq_true_eq] at h
    refine raw_negInt env cfg ho true n ?_
    by_cases h0 : n = 0
    · simp [h0]
    · simp only [atomOk, Bool.or_eq_true, decide_eq_true_eq]; exact Or.inr ⟨by omega, h⟩
  | int _ | float _ _ | negFloat _ _ | chr _ | tru | fls | nil | sym _ | psym _ | qsym _ _
  | kw _ | ckw _ | qkw _ _ | cqkw _ _ | pkw _ | unq _ | list _ | dotted _ _ | vec _ =>
    simp only [atomOk2] at h
    simpa only [stextAtom2] using raw_atom env cfg ho _ h

theorem sym_reads (cfg : Parse.Cfg) (n : List UInt8) (himg : Parse.Image.SymImg cfg n)
    (hdot : dotHeadOk n = true) : Reads cfg false n (.symbol n) 0 := by
  have := (Parse.Image.atomOKP_symbol cfg (fun _ => []) n himg hdot).reads
  rwa [Parse.atomTextP_symbol, Parse.Image.fold_pof] at this

theorem leafOK_of_atomOk2 (cfg : Parse.Cfg) (d : Doc) (h : atomOk2 d = true) : LeafOK cfg d := by
  cases d with
  | sym n | psym n | qsym n _ => exact Or.inl h
  | int _ | negInt _ | float _ _ | negFloat _ _ | str _ _ | chr _ | tru | fls | nil
  | kw _ | ckw _ | qkw _ _ | cqkw _ _ | pkw _ | unq _ | list _ | dotted _ _ | vec _ => exact h

theorem leafOK_reads (env : Tok → Value) (cfg : Parse.Cfg) (ho : cfg.opts = Parse.Options.default)
    (d : Doc) (h : LeafOK cfg d) :
    Reads cfg false (stextAtom2 d) (valueOf env d) 0 := by
  have key : ∀ n, symOk2 cfg n → Reads cfg false n (.symbol n) 0 := by
    rintro n (hn | ⟨himg, hdot⟩)
    · exact atomOk2_reads env cfg ho (.sym n) hn
    · exact sym_reads cfg n himg hdot
  cases d with
  | sym n | psym n | qsym n _ => exact key n h
  | int _ | negInt _ | float _ _ | negFloat _ _ | str _ _ | chr _ | tru | fls | nil
  | kw _ | ckw _ | qkw _ _ | cqkw _ _ | pkw _ | unq _ | list _ | dotted _ _ | vec _ =>
    exact atomOk2_reads env cfg ho _ (by simpa only [LeafOK] using h)

theorem valueOf_flt (env : Tok → Value) (neg : Bool) (L : DecLit) :
    valueOf env (erase (.flt neg L)) = .number (.flt (fltBits neg L)) := by
  cases neg <;> simp [erase, valueOf, fltBits]

theorem flt_reads (env : Tok → Value) (cfg : Parse.Cfg) (ho : cfg.opts = Parse.Options.default)
    (neg : Bool) (L : DecLit) (h : FltOK cfg L) :
    Reads cfg false (fltText neg L) (valueOf env (erase (.flt neg L))) 0 := by
  rw [valueOf_flt]
  exact float_reads cfg ho neg L h.1 h.2.1 h.2.2

/-! ## Reading the merged text

  On each constructor `stext2`, `valueOf ∘ erase` and `dnest2` unfold to the shape of one of the
  closure lemmas of `Reads.lean` with single spaces as separators, which is applied as it stands. -/

mutual
theorem reads2 (env : Tok → Value) (cfg : Parse.Cfg) (ho : cfg.opts = Parse.Options.default) :
    ∀ x : Sx, textOk2 cfg x → Reads cfg false (stext2 x) (valueOf env (erase x)) (dnest2 x)
  | .leaf d, h => leafOK_reads env cfg ho d h
  | .flt neg L, h => flt_reads env cfg ho neg L h
  | .list [], _ => (Reads.null cfg .nil).toOpen
  | .list (x :: xs), h =>
    (Reads.cons .nil (reads2 env cfg ho x h.1)
      (readsTail_close cfg fun _ _ _ => readsRest2 env cfg ho xs h.2)).toOpen
  | .dotted [] _, h => h.elim
  | .dotted (x :: xs) t, h =>
    (Reads.cons .nil (reads2 env cfg ho x h.1)
      (readsRest2 env cfg ho xs h.2.1 (readsTail2 env cfg ho t h.2.2))).toOpen
  | .vec [], _ => (reads_vector (ReadsSeq.nil cfg (.inl rfl) true .nil)).toOpen
  | .vec (x :: xs), h =>
    (reads_vector (ReadsSeq.cons .nil (fun h => nomatch h) (reads2 env cfg ho x h.1)
      (readsSeq2 env cfg ho xs h.2))).toOpen
theorem readsRest2 (env : Tok → Value) (cfg : Parse.Cfg) (ho : cfg.opts = Parse.Options.default) :
    ∀ (xs : List Sx) {E : List UInt8} {tl : Value} {nt : Nat}, textOkL2 cfg xs →
      ReadsTail cfg E tl nt →
      ReadsTail cfg (stextRest2 xs ++ E) (Value.append (valueOfL env (eraseL xs)) tl)
        (max (dnestL2 xs) nt)
  | [], _, _, _, _, hD => by
    simpa [stextRest2, eraseL, valueOfL, Value.append, dnestL2] using hD
  | x :: xs, _, _, _, h, hD => by
    have := ReadsTail.cons triv_space (by simp) (reads2 env cfg ho x h.1)
      (readsRest2 env cfg ho xs h.2 hD)
    simpa [stextRest2, eraseL, valueOfL, Value.append, dnestL2, Nat.max_assoc] using this
theorem readsSeq2 (env : Tok → Value) (cfg : Parse.Cfg) (ho : cfg.opts = Parse.Options.default) :
    ∀ xs : List Sx, textOkL2 cfg xs →
      ReadsSeq cfg 41 false (stextRest2 xs) (valueOfL env (eraseL xs)) (dnestL2 xs)
  | [], _ => ReadsSeq.nil cfg (.inl rfl) false .nil
  | x :: xs, h =>
    ReadsSeq.cons triv_space (fun _ => by simp) (reads2 env cfg ho x h.1)
      (readsSeq2 env cfg ho xs h.2)
theorem readsTail2 (env : Tok → Value) (cfg : Parse.Cfg) (ho : cfg.opts = Parse.Options.default) :
    ∀ t : Sx, textOkTail2 cfg t →
      ReadsTail cfg (stextTail2 t) (valueOf env (erase t)) (dnestTail2 t)
  | .list ys, h => readsTail_close cfg fun _ _ _ => readsRest2 env cfg ho ys h
  | .dotted ys t, h => readsRest2 env cfg ho ys h.1 (readsTail2 env cfg ho t h.2)
  | .vec [], _ =>
    ReadsTail.dotted (dotShape_plain _) (reads_vector (ReadsSeq.nil cfg (.inl rfl) true .nil))
  | .vec (x :: xs), h =>
    ReadsTail.dotted (dotShape_plain _) (reads_vector (ReadsSeq.cons .nil (fun h => nomatch h)
      (reads2 env cfg ho x h.1) (readsSeq2 env cfg ho xs h.2)))
  | .leaf d, h => ReadsTail.dotted (dotShape_plain _) (leafOK_reads env cfg ho d h)
  | .flt neg L, h => ReadsTail.dotted (dotShape_plain _) (flt_reads env cfg ho neg L h)
end

/-! The same with the follow clauses of `ReadsTail` spelt as `SpaceOrEnd`. -/

theorem spaceOrEnd_rest2 (xs : List Sx) : SpaceOrEnd (stextRest2 xs) := by
  cases xs with
  | nil => exact Or.inl rfl
  | cons x xs => exact Or.inr ⟨_, rfl⟩

theorem rest2 (env : Tok → Value) (cfg : Parse.Cfg) (ho : cfg.opts = Parse.Options.default) :
    ∀ (xs : List Sx) (E : List UInt8) (tl : Value) (nt : Nat), textOkL2 cfg xs →
      SpaceOrEnd E → TailReads cfg E tl nt →
      TailReads cfg (stextRest2 xs ++ E) (Value.append (valueOfL env (eraseL xs)) tl)
        (max (dnestL2 xs) nt) :=
  fun xs _ _ _ h hE hD => (readsRest2 env cfg ho xs h (hD.reads hE)).2

theorem seq2 (env : Tok → Value) (cfg : Parse.Cfg) (ho : cfg.opts = Parse.Options.default) :
    ∀ xs : List Sx, textOkL2 cfg xs →
      SeqReads cfg false (stextRest2 xs) (valueOfL env (eraseL xs)) (dnestL2 xs) :=
  fun xs h => (readsSeq2 env cfg ho xs h).2

theorem spaceOrEnd_tail2 : ∀ t : Sx, SpaceOrEnd (stextTail2 t)
  | .list ys => spaceOrEnd_rest2 ys
  | .dotted ys t => (spaceOrEnd_rest2 ys).append (spaceOrEnd_tail2 t)
  | .vec [] | .vec (_ :: _) | .leaf _ | .flt _ _ => Or.inr ⟨_, rfl⟩

theorem tail2 (env : Tok → Value) (cfg : Parse.Cfg) (ho : cfg.opts = Parse.Options.default) :
    ∀ t : Sx, textOkTail2 cfg t →
      TailReads cfg (stextTail2 t) (valueOf env (erase t)) (dnestTail2 t) ∧
        SpaceOrEnd (stextTail2 t) :=
  fun t h => ⟨(readsTail2 env cfg ho t h).2, spaceOrEnd_tail2 t⟩

/-- The parser (default options, slice source, build `cfg`) reads the text of a
    `TextOK2` tree of nesting at most 127 as the value the macro syntax denotes, consuming all
    of it. -/
theorem C09_text2 (env : Tok → Value) (cfg : Parse.Cfg) (ho : cfg.opts = Parse.Options.default)
    (x : Sx) (hok : TextOK2 cfg x) (hn : dnest2 x ≤ 127) :
    ∃ s', Parse.fromTrait cfg (Parse.initSt .slice (stext2 x)) = .ok (valueOf env (erase x)) s' ∧
      s'.rd.rest = [] ∧ s'.depth = 128 :=
  (reads2 env cfg ho x hok).fromTrait_plain hn

/-- Macro and parser agree on the enlarged sub-language: for a tree `x` whose
    documented tree `erase x` is well formed (`WF`: no glued tokens), that satisfies the text side
    conditions `TextOK2 cfg x` and nests at most 127 deep, `sexp!` applied to the Rust tokens and
    `from_slice` (build `cfg`, default options) applied to the S-expression text `stext2 x` both
    yield `valueOf env (erase x)`: floats are the correctly rounded doubles of the written
    decimals, strings and characters the literal's value.
    (`hfuel` is the fuel artefact of the macro model, as in `C09_expand`.) -/
theorem C09_agree_full (env : Tok → Value) (cfg : Parse.Cfg)
    (ho : cfg.opts = Parse.Options.default) (x : Sx) (hwf : WF (erase x)) (hok : TextOK2 cfg x)
    (hn : dnest2 x ≤ 127) (hfuel : need (erase x) ≤ 2 * (toks (erase x)).length + 1000) :
    expand env (toks (erase x)) = some (valueOf env (erase x)) ∧
      ∃ s', Parse.fromTrait cfg (Parse.initSt .slice (stext2 x)) = .ok (valueOf env (erase x)) s' ∧
        s'.rd.rest = [] ∧ s'.depth = 128 :=
  ⟨C09_expand env (erase x) hwf hfuel, C09_text2 env cfg ho x hok hn⟩

/-- `C09_agree_full` with a fuel hypothesis that does not mention `need`: at most 500 nodes. -/
theorem C09_agree_full_small (env : Tok → Value) (cfg : Parse.Cfg)
    (ho : cfg.opts = Parse.Options.default) (x : Sx) (hwf : WF (erase x)) (hok : TextOK2 cfg x)
    (hn : dnest2 x ≤ 127) (hsize : nodes (erase x) ≤ 500) :
    expand env (toks (erase x)) = some (valueOf env (erase x)) ∧
      ∃ s', Parse.fromTrait cfg (Parse.initSt .slice (stext2 x)) = .ok (valueOf env (erase x)) s' ∧
        s'.rd.rest = [] ∧ s'.depth = 128 :=
  ⟨C09_expand_small env (erase x) hwf hsize, C09_text2 env cfg ho x hok hn⟩

/-! ### Float leaves, spelled out -/

/-- the macro side of a float literal: the tokens `[-] lit` expand to the correctly rounded double
    (sign applied by flipping the sign bit, as `-lit` does) -/
theorem expand_flt (env : Tok → Value) (neg : Bool) (L : DecLit) :
    expand env (toks (erase (.flt neg L))) = some (.number (.flt (fltBits neg L))) := by
  have hwf : WF (erase (.flt neg L)) := by cases neg <;> simp [erase, WF, wf]
  have hf : need (erase (.flt neg L)) ≤ 2 * (toks (erase (.flt neg L))).length + 1000 := by
    cases neg <;> simp [erase, need]
  rw [C09_expand env _ hwf hf, valueOf_flt]

/-- The float clause for a build that is exact on the scanned pair (`ExactBuild`): `sexp!` and the
    parser give the double nearest to the written decimal, negated for `-`.  The two builds below
    are its instances. -/
theorem C09_agree_float (env : Tok → Value) (cfg : Parse.Cfg)
    (ho : cfg.opts = Parse.Options.default) (neg : Bool) (L : DecLit) (hwf : L.WF)
    (hsmall : L.Small) (hb : ExactBuild cfg L.sig L.exp10) :
    expand env (toks (erase (.flt neg L))) = some (.number (.flt (fltBits neg L))) ∧
    (∃ s', Parse.fromTrait cfg (Parse.initSt .slice (fltText neg L)) =
        .ok (.number (.flt (fltBits neg L))) s' ∧ s'.rd.rest = [] ∧ s'.depth = 128) ∧
    fltBits neg L =
      (if neg then F64.neg (F64.rn (L.rawSig * 10 ^ L.rawExp.toNat) (10 ^ (-L.rawExp).toNat))
       else F64.rn (L.rawSig * 10 ^ L.rawExp.toNat) (10 ^ (-L.rawExp).toNat)) := by
  have ht := C09_text2 env cfg ho (.flt neg L) ⟨hwf, hsmall, hb⟩ (by simp [dnest2])
  rw [valueOf_flt] at ht
  exact ⟨expand_flt env neg L, by simpa only [stext2] using ht, fltBits_raw neg L hb.sig_le⟩

/-- Default build (fast-float-parsing): a float literal with optional
    minus sign whose significant digits (integer part and fraction without its trailing zeros) are
    below `2^53` and whose scanned exponent (written exponent minus the number of those fraction
    digits) is within `±22` denotes the same double for `sexp!` and for the parser: the double
    nearest to the written decimal, negated for `-`. -/
theorem C09_agree_float_default (env : Tok → Value) (cfg : Parse.Cfg)
    (ho : cfg.opts = Parse.Options.default) (neg : Bool) (L : DecLit) (hwf : L.WF)
    (hsmall : L.Small) (hfast : cfg.fast = true)
    (hp : ∀ k, k ≤ 22 → Numbers.Exact (cfg.pow10 k) (10 ^ k))
    (hS : L.sig < 2 ^ 53) (hlo : -22 ≤ L.exp10) (hhi : L.exp10 ≤ 22) :
    expand env (toks (erase (.flt neg L))) = some (.number (.flt (fltBits neg L))) ∧
    (∃ s', Parse.fromTrait cfg (Parse.initSt .slice (fltText neg L)) =
        .ok (.number (.flt (fltBits neg L))) s' ∧ s'.rd.rest = [] ∧ s'.depth = 128) ∧
    fltBits neg L =
      (if neg then F64.neg (F64.rn (L.rawSig * 10 ^ L.rawExp.toNat) (10 ^ (-L.rawExp).toNat))
       else F64.rn (L.rawSig * 10 ^ L.rawExp.toNat) (10 ^ (-L.rawExp).toNat)) :=
  C09_agree_float env cfg ho neg L hwf hsmall (Or.inl ⟨hfast, hp, hS, hlo, hhi⟩)

/-- Build without fast-float-parsing: every float literal with optional
    minus sign whose significant digits fit `u64` (at most 19 digits always do) and whose correctly
    rounded value is finite denotes the same double for `sexp!` and for the parser. -/
theorem C09_agree_float_nofast (env : Tok → Value) (cfg : Parse.Cfg)
    (ho : cfg.opts = Parse.Options.default) (neg : Bool) (L : DecLit) (hwf : L.WF)
    (hsmall : L.Small) (hfast : cfg.fast = false) (hS : L.sig ≤ u64Max)
    (hfin : F64.rn (L.rawSig * 10 ^ L.rawExp.toNat) (10 ^ (-L.rawExp).toNat) < F64.infBits) :
    expand env (toks (erase (.flt neg L))) = some (.number (.flt (fltBits neg L))) ∧
    (∃ s', Parse.fromTrait cfg (Parse.initSt .slice (fltText neg L)) =
        .ok (.number (.flt (fltBits neg L))) s' ∧ s'.rd.rest = [] ∧ s'.depth = 128) ∧
    fltBits neg L =
      (if neg then F64.neg (F64.rn (L.rawSig * 10 ^ L.rawExp.toNat) (10 ^ (-L.rawExp).toNat))
       else F64.rn (L.rawSig * 10 ^ L.rawExp.toNat) (10 ^ (-L.rawExp).toNat)) :=
  C09_agree_float env cfg ho neg L hwf hsmall (Or.inr ⟨hfast, hS, by rw [L.decRn_eq]; exact hfin⟩)

end Macro
end Lexpr
