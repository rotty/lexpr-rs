/-
  Truncation (C19): the parser, part 1 (`parse_whitespace`, `end_seq`, byte lists, the rules for
  `attempt` and for the fuel read off the input).
-/
import LexprModel.Proofs.TruncTok
import LexprModel.Proofs.ParserProg
namespace Lexpr
namespace Parse
namespace Trunc
open PrefixDet (Sim ext Scanner digitsLen scan ext_rest ext_consume)

section parse
variable {X : Err → Prop} {s : St} {q : List UInt8}

/-- the diverged result of `parse_whitespace`: end of input -/
def QEnd : Option UInt8 → St → Res (Option UInt8) → Prop := fun a _ _ => a = none

theorem parseWhitespace_t (_ : q ≠ []) : TS X QEnd parseWhitespace parseWhitespace s q := by
  rw [PrefixDet.parseWhitespace_eq]
  refine TS.bind (scan_t PrefixDet.wsLen_scanner) (fun _ s1 _ _ => ?_) (fun _ s1 _ h0 _ => ?_)
  · exact peek_t.weakenQ (fun _ _ _ h => h.1)
  · exact TE.peekNone h0 rfl

theorem parseWhitespace_eo (h0 : s.rd.rest = []) :
    EO X parseWhitespace s (fun a s1 => a = none ∧ s1.depth = s.depth) := by
  rw [PrefixDet.parseWhitespace_eq]
  refine EO.bind_scan PrefixDet.wsLen_scanner h0 (fun s1 h1 hd _ _ => ?_)
  exact EO.peekNone h1 ⟨rfl, hd⟩

theorem TS.bind_ws {β : Type} {f f' : Option UInt8 → P β} {Q2 : β → St → Res β → Prop}
    (hq : q ≠ [])
    (h2 : ∀ o s1, parseWhitespace s = .ok o s1 → TS X Q2 (f o) (f' o) s1 q)
    (h3 : ∀ s1, s1.rd.rest = [] → TE X Q2 (f none) (rbind (parseWhitespace (ext q s)) f') s1) :
    TS X Q2 (parseWhitespace >>= f) (parseWhitespace >>= f') s q :=
  TS.bind (parseWhitespace_t hq) (fun o s1 h _ => h2 o s1 h) (fun _ s1 _ h0 ho => ho ▸ h3 s1 h0)

theorem EO.bind_ws {β : Type} {f : Option UInt8 → P β} {Pa : β → St → Prop} (h0 : s.rd.rest = [])
    (h : ∀ s1, s1.rd.rest = [] → s1.depth = s.depth → EO X (f none) s1 Pa) :
    EO X (parseWhitespace >>= f) s Pa :=
  EO.bind (parseWhitespace_eo h0) (fun _ s1 h1 ha => ha.1 ▸ h s1 h1 ha.2)

theorem TE.bind_ws {β : Type} {f : Option UInt8 → P β} {Q : β → St → Res β → Prop} {r' : Res β}
    (h0 : s.rd.rest = [])
    (h : ∀ s1, s1.rd.rest = [] → s1.depth = s.depth → TE X Q (f none) r' s1) :
    TE X Q (parseWhitespace >>= f) r' s :=
  TE.iff_EO.2 (EO.bind_ws h0 h)

theorem endSeq_t (hq : q ≠ []) {close : UInt8} : TS X QF (endSeq close) (endSeq close) s q := by
  unfold endSeq
  refine TS.bind_ws hq (fun a s1 _ => ?_) (fun s1 h0 => TE.peekErrSoft (by decide))
  ts hq []

theorem endSeq_eo {close : UInt8} (h0 : s.rd.rest = []) :
    EO X (endSeq close) s (fun _ _ => False) := by
  unfold endSeq
  exact EO.bind_ws h0 fun _ _ _ => EO.peekErrSoft (by decide)

theorem byteListLoop_eo {cfg : Cfg} {close : UInt8} {f : Nat} {acc : List UInt8}
    (h0 : s.rd.rest = []) : EO X (byteListLoop cfg close f acc) s (fun _ _ => False) := by
  cases f with
  | zero => exact EO.outOfFuel
  | succ f =>
    unfold byteListLoop
    exact EO.bind_ws h0 fun _ _ _ => EO.peekErrSoft (by decide)

/-- what `byteListLoop` does with a number it has read -/
abbrev octetCheck (cfg : Cfg) (close : UInt8) (f : Nat) (acc : List UInt8) (n : Number) :
    P (List UInt8) :=
  match n.asU64 with
  | none => peekErr .expectedOctet
  | some v => if v > 255 then peekErr .expectedOctet
              else byteListLoop cfg close f (acc ++ [UInt8.ofNat v])

theorem octetCheck_notOk {cfg : Cfg} {close : UInt8} {f : Nat} {acc : List UInt8} {n : Number}
    {x : St} (hn : nonOctet n) : NotOk (octetCheck cfg close f acc n x) := by
  unfold octetCheck
  cases hv : n.asU64 with
  | none => exact NotOk.err
  | some v =>
    have := hn v hv
    simp only [this, ↓reduceIte]
    exact NotOk.err

/-- at the end of the input the element check fails hard only on a number that is not a byte -/
theorem octetCheck_eof {cfg : Cfg} {close : UInt8} {f : Nat} {acc : List UInt8} {n : Number}
    {r' : Res (List UInt8)} (h0 : s.rd.rest = []) (hr : nonOctet n → NotOk r') :
    TE X QF (octetCheck cfg close f acc n) r' s := by
  unfold octetCheck
  cases hv : n.asU64 with
  | none => exact TE.peekErrNotOk (hr fun v hv' => by rw [hv] at hv'; cases hv')
  | some v =>
    refine TE.ite (fun hgt => TE.peekErrNotOk (hr fun v' hv' => ?_))
      (fun _ => TE.ofEO_false (byteListLoop_eo h0))
    rw [hv] at hv'; cases hv'; exact hgt

theorem byteListLoop_t (hq : q ≠ []) (hB : ∀ l k, X (.syntax .numberOutOfRange l k)) {cfg : Cfg}
    {close : UInt8} {f f' : Nat} {acc : List UInt8} (h : f ≤ f') :
    TS X QF (byteListLoop cfg close f acc) (byteListLoop cfg close f' acc) s q := by
  induction f generalizing f' acc s with
  | zero => exact TS.outOfFuel
  | succ f ih =>
    cases f' with
    | zero => exact absurd h (Nat.not_succ_le_zero f)
    | succ g =>
      unfold byteListLoop
      refine TS.bind_ws hq (fun a s1 _ => ?_) (fun s1 h0 => TE.peekErrSoft (by decide))
      cases a with
      | none => exact TS.peekErr
      | some c =>
        refine TS.ite (fun _ => ?_) (fun _ => ?_)
        · ts hq []
        · refine TS.bind (parseNumber_t hq hB h) (fun n s2 _ _ => ?_) (fun n s2 _ h0 hq1 => ?_)
          · refine TS.bind (expectNumberEnd_t hq) (fun n2 s3 _ _ => ?_) (fun n2 s3 _ h0 hq2 => ?_)
            · ts hq [ih (Nat.le_of_succ_le_succ h)]
            · -- the number ended at the end of the input, in step: the same number on both sides
              obtain ⟨rfl, hsame⟩ := hq2
              refine octetCheck_eof h0 fun hno => NotOk.rbind_of fun a' s' hr => ?_
              rw [hsame a' s' hr]
              exact octetCheck_notOk hno
          · -- the truncated number is followed by more digits on the other side
            unfold expectNumberEnd
            rw [bind_assoc]
            refine TE.bind_peek h0 (TE.bind_pure (octetCheck_eof h0 fun hno => ?_))
            refine NotOk.rbind_of fun n' s' hr => NotOk.rbind_of fun a' s'' he => ?_
            rw [expectNumberEnd_ok he]
            exact octetCheck_notOk (hq1 n' s' hr hno)

theorem parseByteList_t (hq : q ≠ []) (hB : ∀ l k, X (.syntax .numberOutOfRange l k)) {cfg : Cfg}
    {close : UInt8} {f f' : Nat} (h : f ≤ f') :
    TS X QF (parseByteList cfg f close) (parseByteList cfg f' close) s q := by
  unfold parseByteList
  refine TS.bind_ws hq (fun a s1 _ => ?_) (fun s1 h0 => TE.peekErrSoft (by decide))
  ts hq [byteListLoop_t hq hB h]

theorem parseByteList_eo {cfg : Cfg} {close : UInt8} {f : Nat} (h0 : s.rd.rest = []) :
    EO X (parseByteList cfg f close) s (fun _ _ => False) := by
  unfold parseByteList
  exact EO.bind_ws h0 fun _ _ _ => EO.peekErrSoft (by decide)

theorem TS.bind_tokenFuel {β : Type} {f f' : Nat → P β} {Q : β → St → Res β → Prop}
    (h : ∀ n n', n ≤ n' → TS X Q (f n) (f' n') s q) :
    TS X Q (tokenFuel >>= f) (tokenFuel >>= f') s q :=
  h (s.rd.rest.length + 1) ((ext q s).rd.rest.length + 1) (by simp [ext_rest])

theorem TS.bind_apiFuel {β : Type} {f f' : Nat → P β} {Q : β → St → Res β → Prop}
    (h : ∀ n n', n ≤ n' → TS X Q (f n) (f' n') s q) :
    TS X Q (apiFuel >>= f) (apiFuel >>= f') s q :=
  h (2 * s.rd.rest.length + 4) (2 * (ext q s).rd.rest.length + 4) (by simp [ext_rest]; omega)

theorem EO.bind_apiFuel {β : Type} {f : Nat → P β} {Pa : β → St → Prop}
    (h : EO X (f (2 * s.rd.rest.length + 4)) s Pa) : EO X (apiFuel >>= f) s Pa := h

/-! ### captured errors: the two shapes in which `next_datum` captures them (ParserProg.lean) -/

/-- the shape of the continuations: `leave`, one more attempt, then the error -/
theorem reraises_leave {α β γ : Type} {g : P γ} {k : Except Err α → Except Err γ → P β}
    (hk : ∀ e es x, k (.error e) es x = .err e x) :
    Reraises (fun ret => leave >>= fun _ => attempt g >>= fun es => k ret es) := by
  intro e x
  dsimp only
  rw [bind_eq]
  unfold leave
  simp only [rbind]
  rw [bind_eq]
  unfold attempt
  cases g _ with
  | ok a s1 => simp only [rbind, hk]
  | err e1 s1 => simp only [rbind, hk]
  | panic p => trivial
  | fuel => trivial

theorem TE.bind_leave {β : Type} {f : Unit → P β} {Q : β → St → Res β → Prop} {r' : Res β}
    (h : ∀ s1, s1.rd.rest = s.rd.rest → TE X Q (f ()) r' s1) : TE X Q (leave >>= f) r' s :=
  h _ rfl

theorem enter_notOk {β : Type} {f : Unit → P β} {x : St} (hd : (x.depth == 0) = false)
    (h1 : (x.depth - 1 == 0) = true) : NotOk ((enter >>= f) x) := by
  rw [bind_eq]
  unfold enter
  simp only [hd, h1, Bool.false_eq_true, ↓reduceIte, rbind]
  exact NotOk.err

theorem TE.bind_enter {β : Type} {f : Unit → P β} {Q : β → St → Res β → Prop} {r' : Res β}
    (hr : (s.depth == 0) = false → (s.depth - 1 == 0) = true → NotOk r')
    (h : ∀ s1, s1.rd.rest = s.rd.rest → TE X Q (f ()) r' s1) : TE X Q (enter >>= f) r' s := by
  unfold TE
  rw [bind_eq]
  unfold enter
  cases hd : (s.depth == 0) with
  | true => simp only [↓reduceIte, rbind]
  | false =>
    cases h1 : (s.depth - 1 == 0) with
    | true =>
      simp only [Bool.false_eq_true, ↓reduceIte, rbind]
      exact Or.inr (Or.inr (hr hd h1))
    | false =>
      simp only [Bool.false_eq_true, ↓reduceIte, rbind]
      exact h _ rfl

/-- the loop of a list or vector never returns at the end of the input (`QF`), and neither does
    `end_seq`: the runs stay in step or the truncated one fails softly -/
theorem TS.deeperSeq {α β : Type} {close : UInt8} {m m' : P α} {k k' : α → P β}
    {Q : β → St → Res β → Prop} (hq : q ≠ []) (hm : ∀ s, TS X QF m m' s q)
    (hk : ∀ a s, TS X Q (k a) (k' a) s q) :
    TS X Q (deeperSeq close m k) (deeperSeq close m' k') s q := by
  unfold Parse.deeperSeq
  refine TS.bindF enter_t fun _ s1 _ _ => TS.bind_attempt (hm s1) (fun a s2 _ _ => ?_)
    (fun _ _ _ _ h => h.elim) (reraises_leave fun e es x => by cases es <;> rfl)
    (reraises_leave fun e es x => by cases es <;> rfl)
  exact TS.bindF leave_t fun _ s3 _ _ => TS.bind_attempt (endSeq_t hq)
    (fun u s4 _ _ => by cases u; exact hk a s4) (fun _ _ _ _ h => h.elim) (fun _ _ => rfl)
    (fun _ _ => rfl)

/-- `hdiv`: the body has returned at the end of the input; what follows `leave` runs there -/
theorem TS.deeper {α β : Type} {m m' : P α} {k k' : α → P β} {Q1 : α → St → Res α → Prop}
    {Q : β → St → Res β → Prop} (hm : ∀ s, TS X Q1 m m' s q) (hk : ∀ a s, TS X Q (k a) (k' a) s q)
    (hdiv : ∀ a s1 r', s1.rd.rest = [] → TE X Q (k a) r' s1) :
    TS X Q (deeper m k) (deeper m' k') s q := by
  unfold Parse.deeper
  exact TS.bindF enter_t fun _ s1 _ _ => TS.bind_attempt (hm s1)
    (fun a s2 _ _ => TS.bindF leave_t fun _ s3 _ _ => hk a s3)
    (fun a s2 _ h0 _ => TE.bind_leave fun s3 h3 => hdiv a s3 _ (h3.trans h0))
    (fun _ _ => rfl) (fun _ _ => rfl)

/-- `hr`: where `enter` fails on the truncated side for want of depth, the other run fails too -/
theorem TE.deeper {α β : Type} {m : P α} {k : α → P β} {Pa : α → St → Prop}
    {Q : β → St → Res β → Prop} {r' : Res β}
    (hr : (s.depth == 0) = false → (s.depth - 1 == 0) = true → NotOk r')
    (hm : ∀ s1, s1.rd.rest = s.rd.rest → EO X m s1 Pa)
    (hk : ∀ a s1 s2, Pa a s1 → s2.rd.rest = [] → TE X Q (k a) r' s2) : TE X Q (deeper m k) r' s := by
  unfold Parse.deeper
  exact TE.bind_enter hr fun s1 h1 => TE.bind_attempt (hm s1 h1)
    (fun a s2 h2 ha => TE.bind_leave fun s3 h3 => hk a s2 s3 ha (h3.trans h2)) fun _ _ => rfl

end parse
end Trunc
end Parse
end Lexpr
