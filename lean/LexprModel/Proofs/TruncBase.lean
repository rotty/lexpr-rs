/-
  Truncation (C19, last clause): the calculus.

  `PrefixDet.Sim` says that a run which stops with input left does not depend on what follows.
  Here the complementary case is treated: the run on the truncated input `s` reaches the end of
  its input.  Two judgements relate the run of `m` on `s` (the truncated text) with the run of
  `m'` (the same program with at least as much fuel) on `ext q s` (the longer text):

   * `TS X Q m m' s q` ("in step"): both runs start at corresponding states.
       - if `m s = ok a s1` then either the other run is in step (`m' (ext q s) = ok a (ext q s1)`),
         or the truncated run has used up its input and `Q a s1 (m' (ext q s))` holds ("diverged":
         the truncated run saw the end of the input, the other run saw more bytes);
       - if `m s = err e _` then `e` is not of syntax category (`Soft e`: EOF or I/O), or it is
         one of the exceptions `X e`, or the other run does not succeed (`NotOk`).
   * `TE X Q m r' s` ("after the end"): the truncated run continues in a state `s` without input,
     `r'` is the complete result of the other run.  `EO X m s Pa` is the same without another
     run; both are the triple `Sat` of Progress.lean at a post-condition (`TE.iff_EO`,
     `EO.iff_sat`).

  `X` collects the syntax errors for which the clause fails; the theorems take it to be
  `NumberOutOfRange` (Truncation.lean).

  `TS.seq` is the rule for `>>=`, but its premises ask what the first part returns when it sees
  the end of the input (its `Q`) and which error it raises there.  That differs from function to
  function, no `Q` serves every program over the reader primitives, and so the lexer is walked
  here function by function.
-/
import LexprModel.Proofs.PrefixDet
import LexprModel.Proofs.Primitives
namespace Lexpr
namespace Parse
namespace Trunc
open PrefixDet (Sim ext Scanner digitsLen scan ext_rest ext_consume)

def NotOk {α : Type} (r : Res α) : Prop := ∀ a s, r ≠ .ok a s

/-- an error that is not of syntax category (EOF or I/O) -/
def Soft (e : Err) : Prop := e.category ≠ .syntax

theorem NotOk.err {α : Type} {e : Err} {s : St} : NotOk (.err e s : Res α) := fun _ _ h => nomatch h
theorem NotOk.panic {α : Type} {p : Site} : NotOk (.panic p : Res α) := fun _ _ h => nomatch h
theorem NotOk.fuel {α : Type} : NotOk (.fuel : Res α) := fun _ _ h => nomatch h

theorem NotOk.rbind_of {α β : Type} {r : Res α} {f : α → P β}
    (h : ∀ a s, r = .ok a s → NotOk (f a s)) : NotOk (rbind r f) := by
  cases r with
  | ok a s => exact h a s rfl
  | err e s => exact NotOk.err
  | panic p => exact NotOk.panic
  | fuel => exact NotOk.fuel

theorem NotOk.rbind {α β : Type} {r : Res α} {f : α → P β} (h : NotOk r) : NotOk (rbind r f) :=
  .rbind_of fun a s hr => absurd hr (h a s)

theorem NotOk.bind {α β : Type} {m : P α} {f : α → P β} {x : St} (h : NotOk (m x)) :
    NotOk ((m >>= f) x) := h.rbind

theorem Soft.io : Soft .io := by simp [Soft, Err.category]
theorem Soft.eof {c : Code} {l k : Nat} (h : c.category = .eof) : Soft (.syntax c l k) := by
  simp [Soft, Err.category, h]

def TS {α : Type} (X : Err → Prop) (Q : α → St → Res α → Prop) (m m' : P α) (s : St)
    (q : List UInt8) : Prop :=
  match m s with
  | .ok a s1 => s1.rd.rest <:+ s.rd.rest ∧
      (m' (ext q s) = .ok a (ext q s1) ∨ (s1.rd.rest = [] ∧ Q a s1 (m' (ext q s))))
  | .err e _ => Soft e ∨ X e ∨ NotOk (m' (ext q s))
  | .panic _ => True
  | .fuel => True

def TE {α : Type} (X : Err → Prop) (Q : α → St → Res α → Prop) (m : P α) (r' : Res α) (s : St) :
    Prop :=
  match m s with
  | .ok a s1 => s1.rd.rest = [] ∧ Q a s1 r'
  | .err e _ => Soft e ∨ X e ∨ NotOk r'
  | .panic _ => True
  | .fuel => True

def EO {α : Type} (X : Err → Prop) (m : P α) (s : St) (Pa : α → St → Prop) : Prop :=
  match m s with
  | .ok a s1 => s1.rd.rest = [] ∧ Pa a s1
  | .err e _ => Soft e ∨ X e
  | .panic _ => True
  | .fuel => True

theorem EO.iff_sat {α : Type} {X : Err → Prop} {m : P α} {s : St} {Pa : α → St → Prop} :
    EO X m s Pa ↔ Progress.Sat (m s) (fun a s1 => s1.rd.rest = [] ∧ Pa a s1)
      (fun e _ => Soft e ∨ X e) True := Iff.rfl

/-- no requirement on a diverged result -/
def QT {α : Type} : α → St → Res α → Prop := fun _ _ _ => True
/-- the program never returns a result after seeing the end of the input -/
def QF {α : Type} : α → St → Res α → Prop := fun _ _ _ => False

/-- the continuation of an `attempt` re-raises a captured error -/
def Reraises {α β : Type} (f : Except Err α → P β) : Prop :=
  ∀ e x, match f (.error e) x with
    | .ok _ _ => False
    | .err e2 _ => e2 = e
    | .panic _ => True
    | .fuel => True

/-- `K` continues a result with `f` and passes on an error, perhaps in another state: what
    `· >>= f` and `attempt · >>= f` (for `f` re-raising) do with the result of their argument -/
structure Continues {α β : Type} (K : Res α → Res β) (f : α → P β) : Prop where
  ok : ∀ a s, K (.ok a s) = f a s
  err : ∀ e s, match K (.err e s) with
    | .ok _ _ => False
    | .err e2 _ => e2 = e
    | .panic _ => True
    | .fuel => True
  panic : ∀ p, K (.panic p) = .panic p
  fuel : K .fuel = .fuel

theorem Continues.rbind {α β : Type} {f : α → P β} : Continues (rbind · f) f :=
  ⟨fun _ _ => rfl, fun _ _ => rfl, fun _ => rfl, rfl⟩

/-- the result of `attempt m`, from that of `m` -/
def caught {α : Type} : Res α → Res (Except Err α)
  | .ok a s => .ok (.ok a) s
  | .err e s => .ok (.error e) s
  | .panic p => .panic p
  | .fuel => .fuel

theorem Continues.attempt {α β : Type} {f : Except Err α → P β} (h : Reraises f) :
    Continues (fun r => Trunc.rbind (caught r) f) (fun a => f (.ok a)) :=
  ⟨fun _ _ => rfl, h, fun _ => rfl, rfl⟩

theorem Continues.notOk {α β : Type} {K : Res α → Res β} {f : α → P β} (hK : Continues K f)
    {r : Res α} (h : NotOk r) : NotOk (K r) := by
  cases r with
  | ok a s => exact absurd rfl (h a s)
  | err e s =>
    intro b s' hb
    have := hK.err e s
    rw [hb] at this
    exact this
  | panic p => rw [hK.panic]; exact NotOk.panic
  | fuel => rw [hK.fuel]; exact NotOk.fuel

section rules
variable {α β : Type} {X : Err → Prop} {s : St} {q : List UInt8}

theorem EO.pure {a : α} {Pa : α → St → Prop} (h0 : s.rd.rest = []) (h : Pa a s) :
    EO X (pure a : P α) s Pa := ⟨h0, h⟩

theorem EO.errSoft {c : Code} {Pa : α → St → Prop} (h : c.category = .eof) :
    EO X (errAt c : P α) s Pa := Or.inl (Soft.eof h)

theorem EO.peekErrSoft {c : Code} {Pa : α → St → Prop} (h : c.category = .eof) :
    EO X (peekErr c : P α) s Pa := Or.inl (Soft.eof h)

theorem EO.errX {c : Code} {Pa : α → St → Prop} (h : ∀ l k, X (.syntax c l k)) :
    EO X (errAt c : P α) s Pa := Or.inr (h _ _)

theorem EO.peekErrX {c : Code} {Pa : α → St → Prop} (h : ∀ l k, X (.syntax c l k)) :
    EO X (peekErr c : P α) s Pa := Or.inr (h _ _)

theorem EO.panicAt {p : Site} {Pa : α → St → Prop} : EO X (panicAt p : P α) s Pa := trivial
theorem EO.outOfFuel {Pa : α → St → Prop} : EO X (outOfFuel : P α) s Pa := trivial

theorem EO.ite {c : Prop} [Decidable c] {A B : P α} {Pa : α → St → Prop}
    (hA : c → EO X A s Pa) (hB : ¬c → EO X B s Pa) : EO X (if c then A else B) s Pa := by
  split
  · exact hA ‹_›
  · exact hB ‹_›

theorem EO.seq {m : P α} {f : α → P β} {K : Res α → Res β} {P1 : α → St → Prop}
    {P2 : β → St → Prop} (hK : Continues K f) (hm : EO X m s P1)
    (hf : ∀ a s1, s1.rd.rest = [] → P1 a s1 → EO X (f a) s1 P2) :
    EO X (fun x => K (m x)) s P2 := by
  unfold EO at hm ⊢
  dsimp only
  cases h : m s with
  | ok a s1 =>
    rw [h] at hm
    rw [hK.ok]
    exact hf a s1 hm.1 hm.2
  | err e s1 =>
    rw [h] at hm
    have := hK.err e s1
    cases hk : K (.err e s1) with
    | ok b s2 => rw [hk] at this; exact this.elim
    | err e2 s2 => rw [hk] at this; exact this ▸ hm
    | panic p => trivial
    | fuel => trivial
  | panic p => rw [hK.panic]; trivial
  | fuel => rw [hK.fuel]; trivial

theorem EO.bind {m : P α} {f : α → P β} {P1 : α → St → Prop} {P2 : β → St → Prop}
    (hm : EO X m s P1) (hf : ∀ a s1, s1.rd.rest = [] → P1 a s1 → EO X (f a) s1 P2) :
    EO X (m >>= f) s P2 := EO.seq .rbind hm hf

theorem EO.mono {m : P α} {X' : Err → Prop} {P1 P2 : α → St → Prop} (h : EO X m s P1)
    (hx : ∀ e, X e → X' e) (hp : ∀ a s1, s1.rd.rest = [] → P1 a s1 → P2 a s1) :
    EO X' m s P2 :=
  Progress.Sat.imp (EO.iff_sat.1 h) (fun a s1 h => ⟨h.1, hp a s1 h.1 h.2⟩)
    (fun e _ h => h.imp_right (hx e)) id

theorem EO.weaken {m : P α} {P1 P2 : α → St → Prop} (h : EO X m s P1)
    (hp : ∀ a s1, s1.rd.rest = [] → P1 a s1 → P2 a s1) : EO X m s P2 := h.mono (fun _ h => h) hp

/-- `TE` is `EO` with the failure of the other run as one more exception -/
theorem TE.iff_EO {m : P α} {Q : α → St → Res α → Prop} {r' : Res α} :
    TE X Q m r' s ↔ EO (fun e => X e ∨ NotOk r') m s (fun a s1 => Q a s1 r') := Iff.rfl

theorem TE.pure {a : α} {Q : α → St → Res α → Prop} {r' : Res α} (h0 : s.rd.rest = [])
    (h : Q a s r') : TE X Q (pure a : P α) r' s := ⟨h0, h⟩

theorem TE.errSoft {c : Code} {Q : α → St → Res α → Prop} {r' : Res α} (h : c.category = .eof) :
    TE X Q (errAt c : P α) r' s := Or.inl (Soft.eof h)

theorem TE.peekErrSoft {c : Code} {Q : α → St → Res α → Prop} {r' : Res α}
    (h : c.category = .eof) : TE X Q (peekErr c : P α) r' s := Or.inl (Soft.eof h)

theorem TE.errX {c : Code} {Q : α → St → Res α → Prop} {r' : Res α}
    (h : ∀ l k, X (.syntax c l k)) : TE X Q (errAt c : P α) r' s := Or.inr (Or.inl (h _ _))

theorem TE.peekErrX {c : Code} {Q : α → St → Res α → Prop} {r' : Res α}
    (h : ∀ l k, X (.syntax c l k)) : TE X Q (peekErr c : P α) r' s := Or.inr (Or.inl (h _ _))

theorem TE.errNotOk {c : Code} {Q : α → St → Res α → Prop} {r' : Res α} (h : NotOk r') :
    TE X Q (errAt c : P α) r' s := Or.inr (Or.inr h)

theorem TE.peekErrNotOk {c : Code} {Q : α → St → Res α → Prop} {r' : Res α} (h : NotOk r') :
    TE X Q (peekErr c : P α) r' s := Or.inr (Or.inr h)

theorem TE.panicAt {p : Site} {Q : α → St → Res α → Prop} {r' : Res α} :
    TE X Q (panicAt p : P α) r' s := trivial

theorem TE.outOfFuel {Q : α → St → Res α → Prop} {r' : Res α} :
    TE X Q (outOfFuel : P α) r' s := trivial

theorem TE.ite {c : Prop} [Decidable c] {A B : P α} {Q : α → St → Res α → Prop} {r' : Res α}
    (hA : c → TE X Q A r' s) (hB : ¬c → TE X Q B r' s) : TE X Q (if c then A else B) r' s :=
  TE.iff_EO.2 (EO.ite hA hB)

theorem TE.ite_neg {c : Prop} [Decidable c] {A B : P α} {Q : α → St → Res α → Prop} {r' : Res α}
    (hc : ¬c) (hB : TE X Q B r' s) : TE X Q (if c then A else B) r' s := by
  rw [if_neg hc]; exact hB

theorem TE.ite_pos {c : Prop} [Decidable c] {A B : P α} {Q : α → St → Res α → Prop} {r' : Res α}
    (hc : c) (hA : TE X Q A r' s) : TE X Q (if c then A else B) r' s := by
  rw [if_pos hc]; exact hA

theorem TE.ofEO {m : P α} {Pa : α → St → Prop} {Q : α → St → Res α → Prop} {r' : Res α}
    (hm : EO X m s Pa) (hq : ∀ a s1, s1.rd.rest = [] → Pa a s1 → Q a s1 r') : TE X Q m r' s :=
  TE.iff_EO.2 (hm.mono (fun _ => Or.inl) hq)

theorem TE.ofEO_false {m : P α} {Q : α → St → Res α → Prop} {r' : Res α}
    (hm : EO X m s (fun _ _ => False)) : TE X Q m r' s := TE.ofEO hm (fun _ _ _ h => h.elim)

theorem TE.seq {m : P α} {f : α → P β} {K : Res α → Res β} {Pa : α → St → Prop}
    {Q : β → St → Res β → Prop} {r' : Res β} (hK : Continues K f) (hm : EO X m s Pa)
    (hf : ∀ a s1, s1.rd.rest = [] → Pa a s1 → TE X Q (f a) r' s1) :
    TE X Q (fun x => K (m x)) r' s :=
  TE.iff_EO.2 (EO.seq hK (hm.mono (fun _ => Or.inl) (fun _ _ _ h => h)) hf)

theorem TE.bind {m : P α} {f : α → P β} {Pa : α → St → Prop} {Q : β → St → Res β → Prop}
    {r' : Res β} (hm : EO X m s Pa)
    (hf : ∀ a s1, s1.rd.rest = [] → Pa a s1 → TE X Q (f a) r' s1) : TE X Q (m >>= f) r' s :=
  TE.seq .rbind hm hf

theorem TE.bind_attempt {α β : Type} {m : P α} {f : Except Err α → P β} {Pa : α → St → Prop}
    {Q : β → St → Res β → Prop} {r' : Res β} (hm : EO X m s Pa)
    (hok : ∀ a s1, s1.rd.rest = [] → Pa a s1 → TE X Q (f (.ok a)) r' s1) (hre : Reraises f) :
    TE X Q (attempt m >>= f) r' s :=
  TE.seq (.attempt hre) hm hok

theorem TE.weakenQ {m : P α} {Q Q' : α → St → Res α → Prop} {r' : Res α}
    (h : TE X Q' m r' s) (hq : ∀ a s1, Q' a s1 r' → Q a s1 r') : TE X Q m r' s :=
  TE.iff_EO.2 ((TE.iff_EO.1 h).weaken fun a s1 _ => hq a s1)

/-- The rule for `m >>= f` and for `attempt m >>= f`: in step, the continuations are in step
    (`h2`); once `m` has diverged, `f` runs without input against the whole rest of the other
    run (`h3`). -/
theorem TS.seq {m m' : P α} {f f' : α → P β} {K K' : Res α → Res β}
    {Q1 : α → St → Res α → Prop} {Q2 : β → St → Res β → Prop}
    (hK : Continues K f) (hK' : Continues K' f') (h1 : TS X Q1 m m' s q)
    (h2 : ∀ a s1, m s = .ok a s1 → m' (ext q s) = .ok a (ext q s1) → TS X Q2 (f a) (f' a) s1 q)
    (h3 : ∀ a s1, m s = .ok a s1 → s1.rd.rest = [] → Q1 a s1 (m' (ext q s)) →
      TE X Q2 (f a) (K' (m' (ext q s))) s1) :
    TS X Q2 (fun x => K (m x)) (fun x => K' (m' x)) s q := by
  unfold TS at h1 ⊢
  dsimp only
  cases hm : m s with
  | ok a s1 =>
    rw [hm] at h1
    obtain ⟨hsuf, h1⟩ := h1
    rw [hK.ok]
    rcases h1 with hin | ⟨h0, hq1⟩
    · have h2' := h2 a s1 hm hin
      unfold TS at h2'
      rw [hin, hK'.ok]
      cases hf : f a s1 with
      | ok b s2 => rw [hf] at h2'; exact ⟨h2'.1.trans hsuf, h2'.2⟩
      | err e s2 => rw [hf] at h2'; exact h2'
      | panic p => trivial
      | fuel => trivial
    · have h3' := h3 a s1 hm h0 hq1
      unfold TE at h3'
      cases hf : f a s1 with
      | ok b s2 =>
        rw [hf] at h3'
        exact ⟨h3'.1 ▸ List.nil_suffix, Or.inr h3'⟩
      | err e s2 => rw [hf] at h3'; exact h3'
      | panic p => trivial
      | fuel => trivial
  | err e s1 =>
    rw [hm] at h1
    have := hK.err e s1
    cases hk : K (.err e s1) with
    | ok b s2 => rw [hk] at this; exact this.elim
    | err e2 s2 => rw [hk] at this; exact this ▸ h1.imp_right (Or.imp_right hK'.notOk)
    | panic p => trivial
    | fuel => trivial
  | panic p => rw [hK.panic]; trivial
  | fuel => rw [hK.fuel]; trivial

theorem TS.bind {m m' : P α} {f f' : α → P β} {Q1 : α → St → Res α → Prop}
    {Q2 : β → St → Res β → Prop}
    (h1 : TS X Q1 m m' s q)
    (h2 : ∀ a s1, m s = .ok a s1 → m' (ext q s) = .ok a (ext q s1) → TS X Q2 (f a) (f' a) s1 q)
    (h3 : ∀ a s1, m s = .ok a s1 → s1.rd.rest = [] → Q1 a s1 (m' (ext q s)) →
      TE X Q2 (f a) (rbind (m' (ext q s)) f') s1) :
    TS X Q2 (m >>= f) (m' >>= f') s q :=
  TS.seq .rbind .rbind h1 h2 h3

theorem TS.bind_attempt {m m' : P α} {f f' : Except Err α → P β}
    {Q1 : α → St → Res α → Prop} {Q2 : β → St → Res β → Prop}
    (hm : TS X Q1 m m' s q)
    (hok : ∀ a s1, m s = .ok a s1 → m' (ext q s) = .ok a (ext q s1) →
      TS X Q2 (f (.ok a)) (f' (.ok a)) s1 q)
    (hdiv : ∀ a s1, m s = .ok a s1 → s1.rd.rest = [] → Q1 a s1 (m' (ext q s)) →
      TE X Q2 (f (.ok a)) (rbind (attempt m' (ext q s)) f') s1)
    (hre : Reraises f) (hre' : Reraises f') :
    TS X Q2 (attempt m >>= f) (attempt m' >>= f') s q :=
  TS.seq (.attempt hre) (.attempt hre') hm hok hdiv

theorem TS.bindF {m m' : P α} {f f' : α → P β} {Q2 : β → St → Res β → Prop}
    (h1 : TS X QF m m' s q)
    (h2 : ∀ a s1, m s = .ok a s1 → m' (ext q s) = .ok a (ext q s1) → TS X Q2 (f a) (f' a) s1 q) :
    TS X Q2 (m >>= f) (m' >>= f') s q :=
  TS.bind h1 h2 (fun _ _ _ _ h => h.elim)

theorem TS.pure {a : α} {Q : α → St → Res α → Prop} : TS X Q (pure a : P α) (pure a) s q :=
  ⟨List.suffix_refl _, Or.inl rfl⟩

theorem TS.pure_bind {a : α} {f f' : α → P β} {Q : β → St → Res β → Prop}
    (h : TS X Q (f a) (f' a) s q) : TS X Q ((Pure.pure a : P α) >>= f) ((Pure.pure a : P α) >>= f') s q := h

theorem TS.errAt {c : Code} {Q : α → St → Res α → Prop} : TS X Q (errAt c : P α) (errAt c) s q :=
  Or.inr (Or.inr NotOk.err)

theorem TS.peekErr {c : Code} {Q : α → St → Res α → Prop} :
    TS X Q (peekErr c : P α) (peekErr c) s q :=
  Or.inr (Or.inr NotOk.err)

theorem TS.panicAt {p : Site} {m' : P α} {Q : α → St → Res α → Prop} :
    TS X Q (panicAt p : P α) m' s q := trivial

theorem TS.outOfFuel {m' : P α} {Q : α → St → Res α → Prop} : TS X Q (outOfFuel : P α) m' s q :=
  trivial

theorem TS.fuel0 {m m' : P α} {Q : α → St → Res α → Prop} (h : m = Parse.outOfFuel) :
    TS X Q m m' s q := h ▸ TS.outOfFuel

theorem TS.ite {c : Prop} [Decidable c] {A A' B B' : P α} {Q : α → St → Res α → Prop}
    (hA : c → TS X Q A A' s q) (hB : ¬c → TS X Q B B' s q) :
    TS X Q (if c then A else B) (if c then A' else B') s q := by
  split
  · exact hA ‹_›
  · exact hB ‹_›

theorem TS.liftExcept {x : Except Err α} {Q : α → St → Res α → Prop} :
    TS X Q (liftExcept x) (liftExcept x) s q := by
  cases x with
  | ok a => exact TS.pure
  | error e => exact Or.inr (Or.inr NotOk.err)

theorem TS.weaken {m m' : P α} {X' : Err → Prop} {Q Q' : α → St → Res α → Prop}
    (h : TS X' Q' m m' s q) (hx : ∀ e, X' e → X e) (hq : ∀ a s1 r, Q' a s1 r → Q a s1 r) :
    TS X Q m m' s q :=
  Progress.Sat.imp (r := m s) (F := True) h
    (fun _ _ h => ⟨h.1, h.2.imp id fun ⟨h0, hq'⟩ => ⟨h0, hq _ _ _ hq'⟩⟩)
    (fun e _ h => h.imp id (Or.imp (hx e) id)) id

theorem TS.weakenQ {m m' : P α} {Q Q' : α → St → Res α → Prop}
    (h : TS X Q' m m' s q) (hq : ∀ a s1 r, Q' a s1 r → Q a s1 r) : TS X Q m m' s q :=
  h.weaken (fun _ h => h) hq

theorem TS.toQT {m m' : P α} {Q' : α → St → Res α → Prop} (h : TS X Q' m m' s q) :
    TS X QT m m' s q := h.weakenQ (fun _ _ _ _ => trivial)

theorem TS.err_of_ok {m m' : P α} {Q : α → St → Res α → Prop} {e : Err} {s' : St} {a : α}
    {s1 : St} (h : TS X Q m m' s q) (hfail : m s = .err e s')
    (hok : m' (ext q s) = .ok a s1) : Soft e ∨ X e := by
  unfold TS at h
  rw [hfail] at h
  rcases h with h | h | h
  · exact Or.inl h
  · exact Or.inr h
  · exact absurd hok (h a s1)

end rules

section prims
variable {α β : Type} {X : Err → Prop} {s : St} {q : List UInt8}

def SameUpToPeek (s s1 : St) : Prop :=
  s1.rd.rest = s.rd.rest ∧ s1.depth = s.depth ∧ s1.rd.mode = s.rd.mode ∧ s1.rd.faulty = s.rd.faulty

/-- what `peek` and `next` have in common -/
structure ReadsByte (r : P (Option UInt8)) : Prop where
  eof : ∀ {s : St}, s.rd.rest = [] → r s = if s.rd.faulty then .err .io s else .ok none s
  cons : ∀ {s : St} {b : UInt8} {t : List UInt8}, s.rd.rest = b :: t →
    ∃ s1, r s = .ok (some b) s1 ∧ s1.rd.rest <:+ s.rd.rest ∧
      ∀ q, r (ext q s) = .ok (some b) (ext q s1)

theorem peek_readsByte : ReadsByte peek :=
  ⟨peek_nil, fun {s b t} h => ⟨_, peek_cons h, by simp [h], fun q =>
    peek_cons (s := ext q s) (b := b) (t := t ++ q) (by simp [ext_rest, h])⟩⟩

theorem next_readsByte : ReadsByte next :=
  ⟨next_nil, fun {s b t} h => ⟨_, next_cons h, by simp [Rd.consume_rest, h], fun q => by
    rw [next_cons (s := ext q s) (b := b) (t := t ++ q) (by simp [ext_rest, h])]
    exact congrArg _ (ext_consume q s 1 (by simp [h]))⟩⟩

theorem ReadsByte.at_end {r : P (Option UInt8)} (hr : ReadsByte r) (h0 : s.rd.rest = []) :
    r s = .err .io s ∨ r s = .ok none s := by
  rw [hr.eof h0]
  by_cases hf : s.rd.faulty = true
  · exact Or.inl (if_pos hf)
  · exact Or.inr (if_neg hf)

/-- the diverged result of `peek` / `next`: end of input, state unchanged -/
def QNone (s : St) : Option UInt8 → St → Res (Option UInt8) → Prop :=
  fun a s1 _ => a = none ∧ s1 = s

theorem ReadsByte.ts {r : P (Option UInt8)} (hr : ReadsByte r) : TS X (QNone s) r r s q := by
  unfold TS
  cases h : s.rd.rest with
  | nil =>
    rcases hr.at_end h with h1 | h1 <;> rw [h1]
    · exact Or.inl Soft.io
    · exact ⟨by simp [h], Or.inr ⟨h, rfl, rfl⟩⟩
  | cons b t =>
    obtain ⟨s1, h1, hsuf, hx⟩ := hr.cons h
    rw [h1]
    exact ⟨h ▸ hsuf, Or.inl (hx q)⟩

theorem peek_t : TS X (QNone s) peek peek s q := peek_readsByte.ts

/-- `none` is read only at the end of the truncated input (`q ≠ []`); in step both sides read the
    same byte -/
theorem ReadsByte.bind {r : P (Option UInt8)} (hr : ReadsByte r) {f f' : Option UInt8 → P β}
    {Q2 : β → St → Res β → Prop} (hq : q ≠ [])
    (h2 : ∀ b s1, r s = .ok (some b) s1 → TS X Q2 (f (some b)) (f' (some b)) s1 q)
    (h3 : s.rd.rest = [] → TE X Q2 (f none) (rbind (r (ext q s)) f') s) :
    TS X Q2 (r >>= f) (r >>= f') s q := by
  refine TS.bind hr.ts (fun a s1 hm hin => ?_) (fun a s1 hm h0 hq1 => ?_)
  · cases a with
    | some b => exact h2 b s1 hm
    | none =>
      exfalso
      cases h : s.rd.rest with
      | nil =>
        obtain ⟨b, q', rfl⟩ := List.exists_cons_of_ne_nil hq
        obtain ⟨s2, h', _⟩ := hr.cons (s := ext (b :: q') s) (b := b) (t := q') (by simp [ext_rest, h])
        rw [h'] at hin; cases hin
      | cons b t =>
        obtain ⟨s2, h', _⟩ := hr.cons h
        rw [h'] at hm; cases hm
  · obtain ⟨rfl, rfl⟩ := hq1
    exact h3 h0

theorem TS.bind_peek {f f' : Option UInt8 → P β} {Q2 : β → St → Res β → Prop} (hq : q ≠ [])
    (h2 : ∀ b s1, peek s = .ok (some b) s1 → TS X Q2 (f (some b)) (f' (some b)) s1 q)
    (h3 : s.rd.rest = [] → TE X Q2 (f none) (rbind (peek (ext q s)) f') s) :
    TS X Q2 (peek >>= f) (peek >>= f') s q := peek_readsByte.bind hq h2 h3

theorem TS.bind_next {f f' : Option UInt8 → P β} {Q2 : β → St → Res β → Prop} (hq : q ≠ [])
    (h2 : ∀ b s1, next s = .ok (some b) s1 → TS X Q2 (f (some b)) (f' (some b)) s1 q)
    (h3 : s.rd.rest = [] → TE X Q2 (f none) (rbind (next (ext q s)) f') s) :
    TS X Q2 (next >>= f) (next >>= f') s q := next_readsByte.bind hq h2 h3

theorem ReadsByte.eo_bind {r : P (Option UInt8)} (hr : ReadsByte r) {f : Option UInt8 → P β}
    {Pa : β → St → Prop} (h0 : s.rd.rest = []) (h : EO X (f none) s Pa) :
    EO X (r >>= f) s Pa := by
  unfold EO
  rw [bind_eq]
  rcases hr.at_end h0 with h1 | h1 <;> rw [h1]
  · exact Or.inl Soft.io
  · exact h

theorem EO.bind_peek {f : Option UInt8 → P β} {Pa : β → St → Prop}
    (h0 : s.rd.rest = []) (h : EO X (f none) s Pa) : EO X (peek >>= f) s Pa :=
  peek_readsByte.eo_bind h0 h

theorem EO.bind_next {f : Option UInt8 → P β} {Pa : β → St → Prop}
    (h0 : s.rd.rest = []) (h : EO X (f none) s Pa) : EO X (next >>= f) s Pa :=
  next_readsByte.eo_bind h0 h

theorem TE.bind_peek {f : Option UInt8 → P β} {Q : β → St → Res β → Prop} {r' : Res β}
    (h0 : s.rd.rest = []) (h : TE X Q (f none) r' s) : TE X Q (peek >>= f) r' s :=
  TE.iff_EO.2 (peek_readsByte.eo_bind h0 h)

theorem TE.bind_next {f : Option UInt8 → P β} {Q : β → St → Res β → Prop} {r' : Res β}
    (h0 : s.rd.rest = []) (h : TE X Q (f none) r' s) : TE X Q (next >>= f) r' s :=
  TE.iff_EO.2 (next_readsByte.eo_bind h0 h)

theorem EO.peekNone {Pa : Option UInt8 → St → Prop} (h0 : s.rd.rest = []) (h : Pa none s) :
    EO X peek s Pa := by
  unfold EO
  rcases peek_readsByte.at_end h0 with h1 | h1 <;> rw [h1]
  · exact Or.inl Soft.io
  · exact ⟨h0, h⟩

theorem TE.peekNone {Q : Option UInt8 → St → Res (Option UInt8) → Prop} {r' : Res (Option UInt8)}
    (h0 : s.rd.rest = []) (h : Q none s r') : TE X Q peek r' s :=
  TE.iff_EO.2 (EO.peekNone h0 h)

theorem peek_ext_nil {b : UInt8} {q' : List UInt8} (h0 : s.rd.rest = []) :
    ∃ s2, peek (ext (b :: q') s) = .ok (some b) s2 ∧ s2.rd.rest = b :: q' ∧ s2.depth = s.depth ∧
      s2.rd.mode = s.rd.mode := by
  refine ⟨_, peek_cons (s := ext (b :: q') s) (b := b) (t := q') (by simp [ext_rest, h0]), ?_, rfl, rfl⟩
  simp [ext_rest, h0]

theorem peekOrNull_eq : peekOrNull = (peek >>= fun b => pure (b.getD 0)) := rfl
theorem nextOrNull_eq : nextOrNull = (next >>= fun b => pure (b.getD 0)) := rfl

theorem peekErr_bind (c : Code) (f : α → P β) : (peekErr c >>= f) = peekErr c := rfl

theorem rbind_assoc {γ : Type} (m : P α) (g : α → P γ) (f : γ → P β) (x : St) :
    rbind ((m >>= g) x) f = rbind (m x) (fun a => g a >>= f) := by
  rw [bind_eq]
  cases m x <;> rfl

theorem TS.bind_peekOrNull {f f' : UInt8 → P β} {Q2 : β → St → Res β → Prop} (hq : q ≠ [])
    (h2 : ∀ b s1, peek s = .ok (some b) s1 → TS X Q2 (f b) (f' b) s1 q)
    (h3 : s.rd.rest = [] → TE X Q2 (f 0) (rbind (peekOrNull (ext q s)) f') s) :
    TS X Q2 (peekOrNull >>= f) (peekOrNull >>= f') s q := by
  rw [peekOrNull_eq, bind_assoc, bind_assoc]
  refine TS.bind_peek hq h2 (fun h0 => ?_)
  have := h3 h0
  rw [peekOrNull_eq, rbind_assoc] at this
  exact this

theorem EO.bind_peekOrNull {f : UInt8 → P β} {Pa : β → St → Prop}
    (h0 : s.rd.rest = []) (h : EO X (f 0) s Pa) : EO X (peekOrNull >>= f) s Pa := by
  rw [peekOrNull_eq, bind_assoc]
  exact EO.bind_peek h0 h

theorem TE.bind_peekOrNull {f : UInt8 → P β} {Q : β → St → Res β → Prop} {r' : Res β}
    (h0 : s.rd.rest = []) (h : TE X Q (f 0) r' s) : TE X Q (peekOrNull >>= f) r' s :=
  TE.iff_EO.2 (EO.bind_peekOrNull h0 h)

theorem EO.bind_discard {f : Unit → P β} {Pa : β → St → Prop}
    (h0 : s.rd.rest = []) : EO X (discard >>= f) s Pa := by
  unfold EO
  rw [bind_eq]
  simp [discard, h0, rbind]

theorem TE.bind_discard {f : Unit → P β} {Q : β → St → Res β → Prop} {r' : Res β}
    (h0 : s.rd.rest = []) : TE X Q (discard >>= f) r' s :=
  TE.iff_EO.2 (EO.bind_discard h0)

theorem TE.bind_getMode {f : Mode → P β} {Q : β → St → Res β → Prop} {r' : Res β}
    (h : TE X Q (f s.rd.mode) r' s) : TE X Q (getMode >>= f) r' s := h

theorem TE.bind_getPos {f : Pos → P β} {Q : β → St → Res β → Prop} {r' : Res β}
    (h : TE X Q (f s.rd.position) r' s) : TE X Q (getPos >>= f) r' s := h

theorem TE.bind_pure {a : α} {f : α → P β} {Q : β → St → Res β → Prop} {r' : Res β}
    (h : TE X Q (f a) r' s) : TE X Q ((Pure.pure a : P α) >>= f) r' s := h

theorem EO.bind_getMode {f : Mode → P β} {Pa : β → St → Prop}
    (h : EO X (f s.rd.mode) s Pa) : EO X (getMode >>= f) s Pa := h

theorem EO.bind_pure {a : α} {f : α → P β} {Pa : β → St → Prop}
    (h : EO X (f a) s Pa) : EO X ((Pure.pure a : P α) >>= f) s Pa := h

theorem discard_t : TS X QF discard discard s q := by
  unfold TS
  cases hr : s.rd.rest with
  | nil => simp [discard, hr]
  | cons b t =>
    rw [discard_cons hr]
    refine ⟨by simp [Rd.consume_rest, hr], Or.inl ?_⟩
    rw [discard_cons (s := ext q s) (b := b) (t := t ++ q) (by simp [ext_rest, hr])]
    exact congrArg _ (ext_consume q s 1 (by simp [hr]))

theorem getMode_t : TS X QF getMode getMode s q := ⟨List.suffix_refl _, Or.inl rfl⟩
theorem getPos_t : TS X QF getPos getPos s q := ⟨List.suffix_refl _, Or.inl rfl⟩
theorem leave_t : TS X QF leave leave s q := ⟨List.suffix_refl _, Or.inl rfl⟩

theorem enter_t : TS X QF enter enter s q := by
  unfold TS enter
  have hd : (ext q s).depth = s.depth := rfl
  by_cases h0 : (s.depth == 0) = true
  · simp only [h0, ↓reduceIte]
  · by_cases h1 : (s.depth - 1 == 0) = true
    · simp only [hd, h0, h1, ↓reduceIte]
      exact Or.inr (Or.inr NotOk.err)
    · simp only [hd, h0, h1]
      exact ⟨List.suffix_refl _, Or.inl (by simp; rfl)⟩

/-- the diverged result of a scanner: it took everything -/
def QScan (g : List UInt8 → Nat) (s : St) : List UInt8 → St → Res (List UInt8) → Prop :=
  fun a s1 _ => a = s.rd.rest ∧ g s.rd.rest = s.rd.rest.length ∧ s1.depth = s.depth ∧
    s1.rd.mode = s.rd.mode ∧ s1.rd.faulty = s.rd.faulty

theorem scan_t {g : List UInt8 → Nat} (hg : Scanner g) : TS X (QScan g s) (scan g) (scan g) s q := by
  unfold TS scan
  refine ⟨by simp [Rd.consume_rest, List.drop_suffix], ?_⟩
  have hlen := (hg s.rd.rest q).1
  rcases Nat.lt_or_ge (g s.rd.rest) s.rd.rest.length with hlt | hge
  · left
    have hg' := (hg s.rd.rest q).2 hlt
    simp only [ext_rest, hg']
    rw [ext_consume q s _ hlen, List.take_append_of_le_length hlen]
  · right
    have heq : g s.rd.rest = s.rd.rest.length := Nat.le_antisymm hlen hge
    refine ⟨by simp [Rd.consume_rest, heq], ?_, heq, rfl, ?_, ?_⟩
    · rw [heq, List.take_length]
    · simp [Rd.consume_mode]
    · simp [Rd.consume_faulty]

theorem scan_eof {g : List UInt8 → Nat} (hg : Scanner g) (h0 : s.rd.rest = []) :
    scan g s = .ok [] { s with rd := s.rd.consume 0 } := by
  have := (hg [] []).1
  simp at this
  unfold scan
  rw [h0, this]
  rfl

theorem EO.bind_scan {g : List UInt8 → Nat} (hg : Scanner g) {f : List UInt8 → P β}
    {Pa : β → St → Prop} (h0 : s.rd.rest = [])
    (h : ∀ s1, s1.rd.rest = [] → s1.depth = s.depth → s1.rd.mode = s.rd.mode →
      s1.rd.faulty = s.rd.faulty → EO X (f []) s1 Pa) :
    EO X (scan g >>= f) s Pa := by
  unfold EO
  rw [bind_eq, scan_eof hg h0]
  simp only [rbind]
  exact h _ (by simp [Rd.consume_rest, h0]) rfl (by simp [Rd.consume_mode])
    (by simp [Rd.consume_faulty])

theorem TE.bind_scan {g : List UInt8 → Nat} (hg : Scanner g) {f : List UInt8 → P β}
    {Q : β → St → Res β → Prop} {r' : Res β} (h0 : s.rd.rest = [])
    (h : ∀ s1, s1.rd.rest = [] → s1.depth = s.depth → s1.rd.mode = s.rd.mode →
      s1.rd.faulty = s.rd.faulty → TE X Q (f []) r' s1) :
    TE X Q (scan g >>= f) r' s :=
  TE.iff_EO.2 (EO.bind_scan hg h0 h)

end prims

end Trunc
end Parse
end Lexpr
