/-
  Truncation (C19): the lexer, part 3 (symbols, signs, `parse_token`).
-/
import LexprModel.Proofs.TruncNum
import LexprModel.Proofs.Utf8Lemmas
namespace Lexpr
namespace Parse
namespace Trunc
open PrefixDet (Sim ext Scanner digitsLen scan ext_rest ext_consume)

theorem run_none_of {name : List UInt8} (hv : Utf8.valid name = false)
    (hi : Utf8.incomplete name = false) : Utf8.run .idle name = none := by
  unfold Utf8.valid at hv
  unfold Utf8.incomplete at hi
  cases hr : Utf8.run .idle name with
  | none => rfl
  | some st =>
    rw [hr] at hv hi
    cases st with
    | idle => simp at hv
    | mid a b c => simp at hi

theorem invalid_append {name x : List UInt8} (h : Utf8.run .idle name = none) :
    Utf8.valid (name ++ x) = false ∧ Utf8.incomplete (name ++ x) = false ∧ (name ++ x == [46]) = false := by
  have hr : Utf8.run .idle (name ++ x) = none := by rw [Utf8.run_append, h]; rfl
  refine ⟨by simp [Utf8.valid, hr], by simp [Utf8.incomplete, hr], ?_⟩
  cases hb : (name ++ x == [46]) with
  | false => rfl
  | true =>
    have : name ++ x = [46] := by simpa using hb
    rw [this] at hr
    revert hr; decide

section tok
variable {X : Err → Prop} {s : St} {q : List UInt8}

theorem expectIdent_t (hq : q ≠ []) {cs : List UInt8} :
    TS X QF (expectIdent cs) (expectIdent cs) s q := by
  induction cs generalizing s with
  | nil => unfold expectIdent; ts hq []
  | cons c cs ih => unfold expectIdent; ts hq [ih]; te []

/-- the tail of `parse_symbol` after the scan: the decision on the bytes of the name -/
def symDecide (mode : Mode) (name : List UInt8) (nxt : Option UInt8) : P (List UInt8) :=
  if name == [46] then errAt (invalidDot nxt.isNone)
  else if mode == .str then pure name
  else if Utf8.valid name then pure name
  else if Utf8.incomplete name && nxt.isNone then errAt .eofValue
  else errAt .invalidUnicodeCodePoint

theorem symDecide_t {mode : Mode} {name : List UInt8} {nxt : Option UInt8} :
    TS X QF (symDecide mode name nxt) (symDecide mode name nxt) s q := by
  unfold symDecide
  ts (by assumption) []

/-- at the end of the input the decision fails hard only for bytes that the automaton rejects -/
theorem symDecide_eof {mode : Mode} {name : List UInt8} {r' : Res (List UInt8)}
    (h0 : s.rd.rest = [])
    (hr : mode ≠ .str → Utf8.run .idle name = none → NotOk r') :
    TE X QT (symDecide mode name none) r' s := by
  unfold symDecide
  refine TE.ite (fun _ => TE.errSoft (by simp [invalidDot]; decide)) (fun _ => ?_)
  refine TE.ite (fun _ => TE.pure h0 trivial) (fun hm => ?_)
  refine TE.ite (fun _ => TE.pure h0 trivial) (fun hv => ?_)
  refine TE.ite (fun _ => TE.errSoft (by decide)) (fun hi => TE.errNotOk ?_)
  refine hr (by simpa using hm) (run_none_of (by simpa using hv) (by simpa using hi))

theorem symDecide_notOk {mode : Mode} {name : List UInt8} {nxt : Option UInt8} {x : St}
    (hm : mode ≠ .str) (hv : Utf8.valid name = false) (hi : Utf8.incomplete name = false)
    (h46 : (name == [46]) = false) : NotOk (symDecide mode name nxt x) := by
  unfold symDecide
  have hm' : (mode == Mode.str) = false := by simpa using hm
  simp only [h46, hm', hv, hi, Bool.false_and, Bool.false_eq_true, ↓reduceIte]
  exact NotOk.err

theorem parseSymbolBytes_eq' (scratch : List UInt8) : parseSymbolBytes scratch =
    (getMode >>= fun mode => scan (symLen mode) >>= fun tk => peek >>= fun nxt =>
      symDecide mode (scratch ++ tk) nxt) := rfl

theorem parseSymbolBytes_t (hq : q ≠ []) {scratch : List UInt8} :
    TS X QT (parseSymbolBytes scratch) (parseSymbolBytes scratch) s q := by
  rw [parseSymbolBytes_eq']
  obtain ⟨b, q', rfl⟩ := List.exists_cons_of_ne_nil hq
  refine TS.bindF getMode_t (fun mode s1 hgm _ => ?_)
  have hs1 : s1 = s ∧ mode = s.rd.mode := by
    unfold getMode at hgm; cases hgm; exact ⟨rfl, rfl⟩
  obtain ⟨rfl, rfl⟩ := hs1
  refine TS.bind (scan_t (PrefixDet.symLen_scanner _)) (fun tk s2 _ _ => ?_)
    (fun tk s2 hm h0 hq1 => ?_)
  · refine TS.bind_peek hq (fun _ _ _ => symDecide_t.toQT) (fun h0 => ?_)
    refine symDecide_eof h0 (fun hmode hrun => ?_)
    obtain ⟨s3, hp, _⟩ := peek_ext_nil (b := b) (q' := q') h0
    rw [hp]
    simp only [rbind]
    have := invalid_append (x := []) hrun
    simp only [List.append_nil] at this
    exact symDecide_notOk hmode this.1 this.2.1 this.2.2
  · obtain ⟨rfl, hlen, -⟩ := hq1
    refine TE.bind_peek h0 ?_
    refine symDecide_eof h0 (fun hmode hrun => ?_)
    unfold scan
    simp only [rbind]
    rw [ext_rest, (Scans.symLen _).take_append _ hlen, bind_eq]
    have := invalid_append (x := (b :: q').take (symLen s1.rd.mode (s1.rd.rest ++ b :: q') -
      s1.rd.rest.length)) hrun
    cases peek _ with
    | ok o s3 =>
      simp only [rbind]
      rw [← List.append_assoc]
      exact symDecide_notOk hmode this.1 this.2.1 this.2.2
    | err e s3 => exact NotOk.err
    | panic p => exact NotOk.panic
    | fuel => exact NotOk.fuel

theorem parseSymbolBytes_eo {scratch : List UInt8} (hv : Utf8.valid scratch = true)
    (h0 : s.rd.rest = []) : EO X (parseSymbolBytes scratch) s (fun _ _ => True) := by
  rw [parseSymbolBytes_eq']
  refine EO.bind_getMode ?_
  refine EO.bind_scan (PrefixDet.symLen_scanner _) h0 (fun s1 h1 _ _ _ => ?_)
  refine EO.bind_peek h1 ?_
  unfold symDecide
  simp only [List.append_nil, hv, ↓reduceIte]
  refine EO.ite (fun _ => EO.errSoft (by simp [invalidDot]; decide)) (fun _ => ?_)
  exact EO.ite (fun _ => EO.pure h1 trivial) (fun _ => EO.pure h1 trivial)

/-- the diverged result of `parse_token`: a token that is a value by itself, or a quotation
    mark, in which case the other run also returned a quotation mark at the same depth -/
def QTok : Token → St → Res Token → Prop := fun a s1 r' =>
  a.atom.isSome = true ∨
  ∃ qt qt' s', a = .quotation qt ∧ r' = .ok (.quotation qt') s' ∧ s'.depth = s1.depth

theorem symbolToken_atom (o : Options) (name : List UInt8) :
    (symbolToken o name).atom.isSome = true := by
  unfold symbolToken; split <;> rfl

macro_rules
  | `(tactic| tq_close) => `(tactic| first
      | exact Or.inl (symbolToken_atom _ _)
      | exact Or.inl rfl)

theorem parseSignDotSymbol_t (hq : q ≠ []) {cfg : Cfg} {pfx : List UInt8}
    (hv : Utf8.valid pfx = true) :
    TS X QTok (parseSignDotSymbol cfg pfx) (parseSignDotSymbol cfg pfx) s q := by
  unfold parseSignDotSymbol
  ts hq [parseSymbolBytes_t hq]
  te [parseSymbolBytes_eo hv ‹_›]

theorem parseSignToken_t (hq : q ≠ []) (hB : ∀ l k, X (.syntax .numberOutOfRange l k)) {cfg : Cfg}
    {f f' : Nat} {sign : UInt8} {pos : Bool} (h : f ≤ f') (hs : sign = 45 ∨ sign = 43) :
    TS X QTok (parseSignToken cfg f sign pos) (parseSignToken cfg f' sign pos) s q := by
  have hv1 : Utf8.valid [sign] = true := by rcases hs with rfl | rfl <;> decide
  have hv2 : Utf8.valid [sign, 46] = true := by rcases hs with rfl | rfl <;> decide
  unfold parseSignToken
  ts hq [parseSymbolBytes_t hq, parseSignDotSymbol_t hq hv2, parseNumToken_t hq hB h]
  te [parseSymbolBytes_eo hv1 ‹_›]

theorem discard_ok {u : Unit} {s1 : St} (h : discard s = .ok u s1) :
    ∃ b, s.rd.rest = b :: s1.rd.rest :=
  (discard_frame h).2

/-- `PrefixDet.badByte` as it is written out in `parseToken` -/
theorem badByte_t {Q : Token → St → Res Token → Prop} :
    TS X Q (do
        let s ← (fun s => Res.ok s s : P St)
        let pp := s.rd.peekPosition
        discard
        (fun s' => Res.err (.syntax .expectedSomeValue pp.line pp.col) s' : P Token))
      (do
        let s ← (fun s => Res.ok s s : P St)
        let pp := s.rd.peekPosition
        discard
        (fun s' => Res.err (.syntax .expectedSomeValue pp.line pp.col) s' : P Token)) s q := by
  show TS X Q PrefixDet.badByte PrefixDet.badByte s q
  unfold TS
  rw [PrefixDet.badByte_eq s, PrefixDet.badByte_eq (ext q s)]
  cases hr : s.rd.rest with
  | nil => trivial
  | cons b t =>
    dsimp only
    rw [ext_rest, hr]
    exact Or.inr (Or.inr NotOk.err)

/-- `,` at the end of the input: the other run reads `,` or `,@`, a quotation mark at the same
    depth -/
theorem comma_eof (hq : q ≠ []) (h0 : s.rd.rest = []) :
    QTok (.quotation .unquote) s (rbind (peekOrNull (ext q s)) fun c =>
      if c == 64 then do discard; pure (.quotation .unquoteSplicing)
      else pure (.quotation .unquote)) := by
  refine Or.inr ?_
  obtain ⟨b, q', rfl⟩ := List.exists_cons_of_ne_nil hq
  obtain ⟨s3, hp, hr3, hd3, _⟩ := peek_ext_nil (b := b) (q' := q') h0
  have hpn : peekOrNull (ext (b :: q') s) = .ok b s3 := by
    rw [peekOrNull_eq, bind_eq, hp]; rfl
  rw [hpn]
  simp only [rbind]
  by_cases h64 : (b == 64) = true
  · rw [if_pos h64]
    refine ⟨_, .unquoteSplicing, { s3 with rd := s3.rd.consume 1 }, rfl, ?_, hd3⟩
    show rbind (discard s3) _ = _
    rw [discard_cons hr3]
    rfl
  · rw [if_neg h64]
    exact ⟨_, .unquote, s3, rfl, rfl, hd3⟩

theorem parseToken_t (hq : q ≠ []) (hB : ∀ l k, X (.syntax .numberOutOfRange l k)) {cfg : Cfg}
    {f f' : Nat} {pk : UInt8} (h : f ≤ f') :
    TS X QTok (parseToken cfg f pk) (parseToken cfg f' pk) s q := by
  unfold parseToken
  dsimp only
  repeat' first
    | with_reducible apply badByte_t
    | ts_step hq [expectIdent_t hq, decodeUtf8Sequence_t hq, parseR6rsStr_t hq h,
        parseElispStr_t hq h, parseSymbolBytes_t hq, parseRadixToken_t hq hB h,
        parseR6rsChar_t hq h, parseSignToken_t hq hB h (Or.inl rfl),
        parseSignToken_t hq hB h (Or.inr rfl), parseNumToken_t hq hB h, parseElispChar_t hq h]
  te []
  exact TE.pure ‹_› (comma_eof hq ‹_›)

end tok
end Trunc
end Parse
end Lexpr
