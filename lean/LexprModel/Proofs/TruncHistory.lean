/-
  C19, truncation clause for call histories on one parser (the iterator API): if every call of a
  history succeeds on the full text, then on a truncated text every error of the same history is of
  EOF category, or `NumberOutOfRange` as in Truncation.lean.
-/
import LexprModel.Proofs.Truncation
import LexprModel.Proofs.StepOp
namespace Lexpr
namespace Parse
namespace Trunc
open PrefixDet (Sim ext Scanner digitsLen scan ext_rest ext_consume)

/-- the call returned something (a value, a datum, `None`, `()`), not an error -/
def _root_.Lexpr.Parse.Item.good : Item → Bool
  | .value _ | .datum _ | .none_ | .unit => true
  | _ => false

section hist
variable {cfg : Cfg} {q : List UInt8}

theorem nextDatumTop_eo {X : Err → Prop} {s : St} (h0 : s.rd.rest = []) :
    EO X (nextDatumTop cfg) s (fun a _ => a = none) := by
  unfold nextDatumTop
  exact EO.bind_apiFuel ((nextDatum_eo h0).weaken (fun _ _ _ h => h.1))

theorem expectDatum_eo {X : Err → Prop} {s : St} (h0 : s.rd.rest = []) :
    EO X (expectDatum cfg) s (fun _ _ => True) := by
  unfold expectDatum
  refine EO.bind (nextDatumTop_eo h0) (fun a s1 h1 ha => ?_)
  subst ha
  exact EO.peekErrSoft (by decide)

theorem Op.run_ts (hq : q ≠ []) (op : Op) (s : St) :
    TS TruncExc QT (op.run cfg) (op.run cfg) s q :=
  Op.run_forall (C := fun m => TS TruncExc QT m m s q) (nextValueTop_t cfg hq TruncExc.noor)
    (nextDatumTop_t cfg hq TruncExc.noor) (expectValue_t cfg hq TruncExc.noor)
    (expectDatum_t cfg hq TruncExc.noor) (expectEnd_t hq) op

theorem Op.run_sim (op : Op) : PrefixDet.Sim (op.run cfg) (op.run cfg) :=
  Op.run_forall (C := fun m => PrefixDet.Sim m m) PrefixDet.nextValueTop_s
    PrefixDet.nextDatumTop_s PrefixDet.expectValue_s PrefixDet.expectDatum_s PrefixDet.expectEnd_s op

theorem Op.run_eo {s : St} (h0 : s.rd.rest = []) (op : Op) :
    EO TruncExc (op.run cfg) s (fun _ _ => True) :=
  Op.run_forall (C := fun m => EO TruncExc m s (fun _ _ => True))
    ((nextDatumTop_eo h0).map (sim_nextTop cfg) (fun _ _ _ => trivial))
    ((nextDatumTop_eo h0).weaken (fun _ _ _ _ => trivial))
    ((expectDatum_eo h0).map (sim_expect cfg) (fun _ _ _ => trivial)) (expectDatum_eo h0)
    (expectEnd_eo h0) op

/-- a call only consumes input, keeps the `faulty` flag, and reports an I/O error only if it is
    set -/
theorem Op.run_spec (op : Op) (s : St) :
    ∃ ko ke, Progress.Spec (op.run cfg) s s ko ke False :=
  Op.run_forall (C := fun m => ∃ ko ke, Progress.Spec m s s ko ke False)
    ⟨_, _, Progress.nextValueTop_spec⟩ ⟨_, _, Progress.nextDatumTop_spec⟩
    ⟨_, _, Progress.expectValue_spec⟩ ⟨_, _, Progress.expectDatum_spec⟩
    ⟨_, _, Progress.expectEnd_spec⟩ op

/-- the truncated run is in step with the other run, or it has used up its input -/
def Rel (q : List UInt8) (s x : St) : Prop := x = ext q s ∨ s.rd.rest = []

/-- one call: what `TS`, `Sim`, the end-of-input evaluation and the suffix property give -/
theorem step_rel (hq : q ≠ []) (op : Op) {s x : St} (hrel : Rel q s x) {a' : op.Ret} {x1 : St}
    (hx : op.run cfg x = .ok a' x1) :
    match op.run cfg s with
    | .ok _ s1 => Rel q s1 x1
    | .err e s1 => (Soft e ∨ TruncExc e) ∧ s1.rd.rest = []
    | .panic _ => True
    | .fuel => True := by
  rcases hrel with rfl | h0
  · have h := Op.run_ts (cfg := cfg) hq op s
    unfold TS at h
    cases hm : op.run cfg s with
    | ok a s1 =>
      rw [hm] at h
      rcases h.2 with hin | ⟨h0, _⟩
      · rw [hin] at hx; cases hx
        exact Or.inl rfl
      · exact Or.inr h0
    | err e s1 =>
      rw [hm] at h
      have hs1 : s1.rd.rest = [] := by
        apply Classical.byContradiction
        intro hne
        rw [(Op.run_sim op).err q hm hne] at hx; cases hx
      exact ⟨h.imp_right fun h => h.resolve_right fun h => h a' x1 hx, hs1⟩
    | panic p => trivial
    | fuel => trivial
  · have h := Op.run_eo (cfg := cfg) h0 op
    unfold EO at h
    cases hm : op.run cfg s with
    | ok a s1 => rw [hm] at h; exact Or.inr h.1
    | err e s1 =>
      rw [hm] at h
      obtain ⟨ko, ke, hsp⟩ := Op.run_spec (cfg := cfg) op s
      have := (hsp.err hm).1.suf
      rw [h0] at this
      exact ⟨h, List.suffix_nil.mp this⟩
    | panic p => trivial
    | fuel => trivial

theorem hist_rel (hq : q ≠ []) : ∀ (ops : List Op) (s x : St), Rel q s x →
    (∀ it ∈ runHistory cfg ops x, it.good = true) →
    ∀ e, Item.err e ∈ runHistory cfg ops s → Soft e ∨ TruncExc e := by
  intro ops
  induction ops with
  | nil => intro s x _ _ e he; simp [runHistory] at he
  | cons op ops ih =>
    intro s x hrel hgood e he
    simp only [runHistory, stepOp_eq] at hgood he
    cases hx : op.run cfg x with
    | ok a' x1 =>
      rw [hx] at hgood
      simp only [Res.step, List.mem_cons] at hgood
      have hstep := step_rel hq op hrel hx
      cases hm : op.run cfg s with
      | ok a s1 =>
        rw [hm] at hstep he
        simp only [Res.step, List.mem_cons] at he
        rcases he with he | he
        · exact absurd he.symm (op.item_ne_err a e)
        · exact ih s1 x1 hstep (fun it hit => hgood it (Or.inr hit)) e he
      | err e0 s1 =>
        rw [hm] at hstep he
        simp only [Res.step, List.mem_cons] at he
        rcases he with he | he
        · cases he; exact hstep.1
        · exact ih s1 x1 (Or.inr hstep.2) (fun it hit => hgood it (Or.inr hit)) e he
      | panic p => rw [hm] at he; simp [Res.step] at he
      | fuel => rw [hm] at he; simp [Res.step] at he
    | err e' x1 => rw [hx] at hgood; cases hgood (.err e') (by simp [Res.step])
    | panic p => rw [hx] at hgood; cases hgood (.panic p) (by simp [Res.step])
    | fuel => rw [hx] at hgood; cases hgood .fuel (by simp [Res.step])

theorem hist_noio (ops : List Op) (s : St) (hf : s.rd.faulty = false) :
    Item.err .io ∉ runHistory cfg ops s := fun he =>
  runHistory_forall (.of_run (I := fun s => s.rd.faulty = false) (Q := (· ≠ .err .io))
    (fun _ => nofun) (fun _ => nofun) nofun nofun fun op s hf => by
      obtain ⟨ko, ke, hsp⟩ := Op.run_spec (cfg := cfg) op s
      cases hm : op.run cfg s with
      | ok a s1 => exact (hsp.ok hm).faulty.trans hf
      | err e s1 =>
        refine ⟨(hsp.err hm).1.faulty.trans hf, fun h => ?_⟩
        cases h
        exact absurd ((hsp.err hm).2 rfl) (by rw [hf]; decide)
      | panic p => exact nofun
      | fuel => exact nofun) ops s hf _ he rfl

end hist
end Trunc

open Trunc in
/-- **C19_truncation_history**: any history of calls on one parser (`next_value`, `next_datum`,
    `expect_*`, the iterators), any source.  If no call of the history fails on the text `p ++ q`
    (for instance `p ++ q` is a sequence of data read to its end by an iterator), then every error
    that the same history reports on the truncated text `p` is of EOF category, or it is one of the
    exceptions of `C19_truncation` (`NumberOutOfRange`). -/
theorem C19_truncation_history (cfg : Cfg) (mode : Mode) (ops : List Op) (p q : List UInt8)
    (hgood : ∀ it ∈ runHistory cfg ops (initSt mode (p ++ q)), it.good = true)
    (e : Err) (he : Item.err e ∈ runHistory cfg ops (initSt mode p)) :
    e.category = .eof ∨ TruncExc e := by
  by_cases hq : q = []
  · subst hq
    rw [List.append_nil] at hgood
    cases hgood _ he
  · have h := hist_rel (cfg := cfg) hq ops (initSt mode p) (initSt mode (p ++ q))
      (Or.inl (PrefixDet.ext_initSt mode p q false).symm) hgood e he
    have hio : e ≠ .io := by
      intro hio
      subst hio
      exact hist_noio ops (initSt mode p) rfl he
    exact h.imp_left (fun h => category_eof_of h hio)

end Parse
end Lexpr
