/-
  Accuracy of decimal literals (property C05, accuracy clause), part 3: the build without
  `fast-float-parsing`, `f64_from_parts` in both builds, and the composition with the scanners
  (`Decimals.C05_scan_parts`).
-/
import LexprModel.Proofs.AccuracyFast
namespace Lexpr
namespace Accuracy
open Parse F64 Numbers Decimals

/-- the quotient `decRn` rounds is `S * 10^E` -/
theorem decRn_quot (S : Nat) (E : Int) :
    ((S * 10 ^ E.toNat : Nat) : Rat) / ((10 ^ (-E).toNat : Nat) : Rat) = dec S E := by
  unfold dec
  rw [Rat.natCast_mul, ten_pow_cast, ten_pow_cast]
  have hs := zpow_split ten_ne E
  have hA : (0 : Rat) < (10 : Rat) ^ (-E).toNat := Rat.pow_pos (by decide)
  generalize (10 : Rat) ^ (-E).toNat = A at *
  generalize (10 : Rat) ^ E.toNat = B at *
  rw [← hs]
  grind

/-- Build without `fast-float-parsing` (the standard library's parser,
    modelled as the correctly rounded `rnDec`): for a `u64` significand and a finite result, the
    relative error is at most `2^-53` whenever `sig * 10^e ≥ 2^-1022` (half an ulp, `rn_relerr`),
    and the absolute error at most `2^-1075` below that. -/
theorem C05_accuracy_nofast {sig : Nat} {e : Int} (hs : sig ≤ u64Max)
    (hfin : rnDec sig e < infBits) :
    ((2 : Rat) ^ (-1022 : Int) ≤ dec sig e →
      dec sig e * (1 - u) ≤ val (rnDec sig e) ∧ val (rnDec sig e) ≤ dec sig e * (1 + u)) ∧
    (dec sig e < (2 : Rat) ^ (-1022 : Int) →
      dec sig e - eta ≤ val (rnDec sig e) ∧ val (rnDec sig e) ≤ dec sig e + eta) ∧
    (dec sig e * (1 - u) - eta ≤ val (rnDec sig e) ∧
      val (rnDec sig e) ≤ dec sig e * (1 + u) + eta) := by
  rw [rnDec_eq_all sig e hs] at hfin ⊢
  unfold decRn at hfin ⊢
  have hd : 0 < 10 ^ (-e).toNat := ten_pow_pos _
  refine ⟨fun hn => ?_, fun hsub => ?_, ?_⟩
  · have := rn_relerr hd (by rw [decRn_quot]; exact hn) hfin
    rw [decRn_quot] at this
    exact this
  · have := (rn_abserr (n := sig * 10 ^ e.toNat) hd (by rw [decRn_quot]; exact hsub)).2
    rw [decRn_quot] at this
    exact this
  · have := rn_err (n := sig * 10 ^ e.toNat) hd hfin
    rw [decRn_quot] at this
    exact this

theorem u_le_c50 : u ≤ c50 := by decide +kernel
theorem eta_le_a1074 : eta ≤ a1074 := by decide +kernel

theorem u_le_cTight : u ≤ cTight := by decide +kernel

/-- `f64_from_parts` with the constants the analysis yields (`cTight = 6 * 2^-53`,
    `aTight = 9/8 * 2^-1075`); used for over-long literals, where the truncation error of the
    scanner comes on top. -/
theorem C05_accuracy_parts_tight (cfg : Cfg) (pos : Bool) (sig : Nat) (e : Int) (s s' : St) (r : Nat)
    (hsig : sig ≤ u64Max)
    (hp : cfg.fast = true → ∀ k, k ≤ 308 → cfg.pow10 k = rn (10 ^ k) 1)
    (h : f64FromParts cfg pos sig e s = .ok r s') :
    ∃ g, r = signed pos g ∧ s' = s ∧ g < infBits ∧
      (dec sig e * (1 - cTight) - aTight ≤ val g ∧ val g ≤ dec sig e * (1 + cTight) + aTight) ∧
      (cfg.fast = false →
        dec sig e * (1 - u) - eta ≤ val g ∧ val g ≤ dec sig e * (1 + u) + eta) := by
  obtain ⟨g, hg, h1, h2⟩ := f64FromParts_ok h
  refine ⟨g, h1, h2, ?_⟩
  have hx := dec_nonneg sig e
  cases hfast : cfg.fast with
  | true =>
    rw [partsMag_fast hfast] at hg
    by_cases h0 : sig = 0
    · subst h0
      rw [fast_sig_zero] at hg
      injection hg with hg; subst hg
      rw [dec_zero_left, val_zero]
      have h1 := eta_pos
      have h2 := eta_le_aTight
      exact ⟨by decide, ⟨by grind, by grind⟩, fun hf => by cases hf⟩
    · obtain ⟨a, b, c⟩ :=
        C05_accuracy_fast_tight (hp hfast) h0 (by unfold u64Max at hsig; omega) hg
      exact ⟨a, ⟨b, c⟩, fun hf => by cases hf⟩
  | false =>
    have hfin := partsMag_finite hsig (fun hf => by rw [hfast] at hf; cases hf) hg
    rw [partsMag_slow hfast] at hg
    split at hg
    · cases hg
    · injection hg with hg; subst hg
      obtain ⟨_, _, b, c⟩ := C05_accuracy_nofast hsig hfin
      have h1 := Rat.mul_le_mul_of_nonneg_left u_le_cTight hx
      have h2 := eta_le_aTight
      exact ⟨hfin, ⟨by grind, by grind⟩, fun _ => ⟨b, c⟩⟩

/-- Whenever `f64_from_parts(pos, sig, e)` succeeds on a `u64`
    significand, the result is `±g` for finite magnitude bits `g` with
    `|g - sig * 10^e| ≤ 2^-50 * sig * 10^e + 2^-1074`; without `fast-float-parsing` even
    `≤ 2^-53 * sig * 10^e + 2^-1075`.  (Fast build: `POW10` correctly rounded.) -/
theorem C05_accuracy_parts (cfg : Cfg) (pos : Bool) (sig : Nat) (e : Int) (s s' : St) (r : Nat)
    (hsig : sig ≤ u64Max)
    (hp : cfg.fast = true → ∀ k, k ≤ 308 → cfg.pow10 k = rn (10 ^ k) 1)
    (h : f64FromParts cfg pos sig e s = .ok r s') :
    ∃ g, r = signed pos g ∧ s' = s ∧ g < infBits ∧
      (dec sig e * (1 - c50) - a1074 ≤ val g ∧ val g ≤ dec sig e * (1 + c50) + a1074) ∧
      (cfg.fast = false →
        dec sig e * (1 - u) - eta ≤ val g ∧ val g ≤ dec sig e * (1 + u) + eta) := by
  obtain ⟨g, h1, h2, h3, ⟨h4, h5⟩, h6⟩ := C05_accuracy_parts_tight cfg pos sig e s s' r hsig hp h
  have := aTight_le
  have := Rat.mul_le_mul_of_nonneg_left cTight_le (dec_nonneg sig e)
  exact ⟨g, h1, h2, h3, ⟨by grind, by grind⟩, h6⟩

theorem dec_shift (S t : Nat) (E : Int) : dec (S * 10 ^ t) E = dec S (E + (t : Int)) := by
  unfold dec
  rw [Rat.natCast_mul, ten_pow_cast, Rat.zpow_add ten_ne, Rat.zpow_natCast]
  grind

/-- the exact value of the literal: all written digits, scaled by the written exponent and the
    number of fraction digits -/
def litValue (L : DecLit) : Rat := dec L.rawSig L.rawExp

/-- the pair handed to `f64_from_parts` denotes the literal's value -/
theorem litValue_eq (L : DecLit) : dec L.sig L.exp10 = litValue L := by
  obtain ⟨h1, h2⟩ := L.value_eq
  unfold litValue
  rw [← h2, dec_shift]
  congr 1; omega

theorem litValue_shift (ip : List UInt8) (fp : Option (List UInt8)) (ex : Option ExpPart) :
    litValue ⟨ip, fp, ex⟩ = litValue ⟨ip, fp, none⟩ * (10 : Rat) ^ (exVal ex) := by
  unfold litValue
  rw [← dec_add]
  have h1 : DecLit.rawSig ⟨ip, fp, ex⟩ = DecLit.rawSig ⟨ip, fp, none⟩ := rfl
  have h2 : DecLit.rawExp ⟨ip, fp, ex⟩ = DecLit.rawExp ⟨ip, fp, none⟩ + exVal ex := by
    simp only [DecLit.rawExp, DecLit.expVal, exVal]; omega
  rw [h1, h2]

/-- A decimal literal with a fraction and / or an exponent whose
    significant digits fit `u64` (hypotheses of `Decimals.C05_scan_parts`) is consumed entirely
    and either rejected with `NumberOutOfRange`, or read as `±g` where `g` is a finite double with

      `|g - value| ≤ 2^-50 * value + 2^-1074`        (both builds),
      `|g - value| ≤ 2^-53 * value + 2^-1075`        (build without `fast-float-parsing`),

    `value = litValue L` the exact value of the written digits. -/
theorem C05_accuracy_literal (cfg : Cfg) (fuel : Nat) (pos : Bool) (L : DecLit) (rest : List UInt8)
    (s : St) (hwf : L.WF) (hrest : s.rd.rest = L.text ++ rest) (hstop : ScanStop rest)
    (hf : rest = [] → s.rd.faulty = false) (hS : L.sig ≤ u64Max) (hsmall : L.Small)
    (hfuel : L.text.length + 1 ≤ fuel)
    (hp : cfg.fast = true → ∀ k, k ≤ 308 → cfg.pow10 k = rn (10 ^ k) 1) :
    (∃ g, parseNumLiteral cfg fuel 10 pos s =
        .ok (Number.flt (signed pos g)) (adv s L.text.length (endPeek s rest)) ∧
      g < infBits ∧
      (litValue L * (1 - c50) - a1074 ≤ val g ∧ val g ≤ litValue L * (1 + c50) + a1074) ∧
      (cfg.fast = false →
        litValue L * (1 - u) - eta ≤ val g ∧ val g ≤ litValue L * (1 + u) + eta)) ∨
    parseNumLiteral cfg fuel 10 pos s =
      errAt .numberOutOfRange (adv s L.text.length (endPeek s rest)) := by
  rw [scan_lit cfg fuel pos L rest s hwf hrest hstop hf hS hsmall hfuel]
  rcases f64FromParts_cases cfg pos L.sig L.exp10 (adv s L.text.length (endPeek s rest)) with
    ⟨r, hr⟩ | he
  · obtain ⟨g, h1, _, h3, h4, h5⟩ := C05_accuracy_parts cfg pos L.sig L.exp10 _ _ r hS hp hr
    rw [litValue_eq] at h4 h5
    subst h1
    exact Or.inl ⟨g, by simp only [bind_apply, hr, pure_apply, Number.ofF64], h3, h4, h5⟩
  · exact Or.inr (by simp only [bind_apply, he, errAt])

#print axioms C05_accuracy_nofast
#print axioms C05_accuracy_parts
#print axioms C05_accuracy_literal

end Accuracy
end Lexpr
