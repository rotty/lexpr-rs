/-
  Property C05, accuracy clause: "in all other cases the result is within relative error 2^-50 of
  the true value" (read, as fixed in the design document, with an additive `2^-1074` for results
  in the subnormal range).

  One rounding (`AccuracyRn`: `rn_relerr`, `rn_abserr`); the chain of at most five roundings of the
  fast path (`AccuracyFast`); `f64_from_parts` in both builds and literals whose digits fit `u64`
  (`AccuracyLit`); the truncation of over-long significands on top of that (`AccuracyTrunc`); the
  regenerated table and concrete literals (`AccuracyEx`).

  Values are rational numbers (core `Rat`): `val b` is the value `m * 2^p` of the magnitude bits
  `b`, `dec sig e = sig * 10^e`, `litValue L` the exact value of a literal; bounds are written
  two-sided, `x * (1 - c) - a ≤ val f ∧ val f ≤ x * (1 + c) + a` for `|val f - x| ≤ c * x + a`.
-/
import LexprModel.Proofs.AccuracyRn
import LexprModel.Proofs.AccuracyFast
import LexprModel.Proofs.AccuracyLit
import LexprModel.Proofs.AccuracyTrunc
import LexprModel.Proofs.AccuracyEx
namespace Lexpr
namespace Accuracy

#print axioms rn_relerr
#print axioms rn_abserr
#print axioms rn_relerr_cross
#print axioms C05_accuracy_fast_tight
#print axioms C05_accuracy_fast
#print axioms C05_accuracy_nofast
#print axioms C05_accuracy_parts
#print axioms C05_accuracy_literal
#print axioms C05_accuracy_any_literal
#print axioms C05_accuracy_fast_real

end Accuracy
end Lexpr
