/-
  The walk over the parser proper: `nextDatum`, `parseListMeta`, `parseVectorMeta` in one
  induction on the fuel, and the entry points.  The statement also bounds the nesting depth of
  what is read by the depth budget, which the same walk shows: `Value.vdepth`, with which the C03
  statements of Safety.lean are written, is defined here for that.  The value API gets its
  statements through the simulation (DatumSim.lean); `Lexes` of the parser at the end.
-/
import LexprModel.Proofs.RunLexer
import LexprModel.Proofs.DatumSim
import LexprModel.Proofs.ParserProg
import LexprModel.Proofs.Lexes
namespace Lexpr

namespace Value

mutual
/-- Nesting depth: one level per list or vector around a value, a cdr chain staying on the level of
    its list.  A lower bound of what the parser counts, not equal to it: the value in dotted-tail
    position is not charged the level of its list, so `(a . #(b))` has depth 1 although the parser
    enters twice to read it. -/
def vdepth : Value → Nat
  | cons a d => max (vdepth a + 1) (vdepth d)
  | vector xs => vdepthList xs + 1
  | _ => 0
def vdepthList : List Value → Nat
  | [] => 0
  | x :: xs => max (vdepth x) (vdepthList xs)
end

theorem vdepth_append_le (acc : List Value) (t : Value) (d : Nat)
    (h : ∀ x ∈ acc, vdepth x < d) (ht : vdepth t ≤ d) : vdepth (append acc t) ≤ d := by
  induction acc with
  | nil => simpa [append] using ht
  | cons x xs ih =>
    have h1 := h x (by simp)
    have h2 := ih (fun y hy => h y (by simp [hy]))
    simp only [append, vdepth]
    omega

theorem vdepth_list_le (acc : List Value) (d : Nat) (h : ∀ x ∈ acc, vdepth x < d) :
    vdepth (list acc) ≤ d :=
  vdepth_append_le acc null d h (by simp [vdepth])

theorem vdepthList_lt (xs : List Value) (d : Nat) (h : ∀ x ∈ xs, vdepth x < d) (hd : 0 < d) :
    vdepthList xs < d := by
  induction xs with
  | nil => simpa [vdepthList] using hd
  | cons x xs ih =>
    have h1 := h x (by simp)
    have h2 := ih (fun y hy => h y (by simp [hy]))
    simp only [vdepthList]
    omega

end Value

namespace Parse
open Value
open Locations (strictEof lexCode plainCode eofLex)

theorem symbolValue_vdepth (o : Options) (name : List UInt8) : (symbolValue o name).vdepth = 0 := by
  unfold symbolValue
  split <;> simp [vdepth]

theorem atom_vdepth (t : Token) (v : Value) (h : t.atom = some v) : v.vdepth = 0 := by
  cases t <;> simp [Token.atom] at h <;> subst h <;> simp [vdepth]

theorem forall_mem_snoc {α : Type} {p : α → Prop} {acc : List α} {v : α} (h : ∀ x ∈ acc, p x)
    (hv : p v) : ∀ x ∈ acc ++ [v], p x :=
  List.forall_mem_append.2 ⟨h, List.forall_mem_singleton.2 hv⟩

/-- the loops ask for a bound on what they have accumulated: some bound always exists -/
theorem exists_bound (n : Nat) (acc : List Value) :
    ∃ d, n ≤ d ∧ 1 ≤ d ∧ ∀ x ∈ acc, x.vdepth < d := by
  induction acc with
  | nil => exact ⟨max n 1, Nat.le_max_left _ _, Nat.le_max_right _ _, nofun⟩
  | cons a acc ih =>
    obtain ⟨d, h1, h2, h3⟩ := ih
    refine ⟨max d (a.vdepth + 1), by omega, by omega, fun x hx => ?_⟩
    rcases List.mem_cons.mp hx with rfl | hx
    · omega
    · have := h3 x hx; omega

section bracket
variable {α β : Type} {k : Nat} {s0 s : St} {ko : β → Nat} {ke : Err → Nat} {Q : β → St → Prop}
  {N F : Prop}

/-- What `enter; body; leave` does, seen from the state `s` in front of it: `body` runs in a state
    `s1` one level down; after `leave` the state `s4` is `Adv` of `s` again.  `D` is what `body`
    establishes of its result and of the reader (it may not speak of the depth); an error of
    `body` comes back as a value, with what `Run` says of it. -/
theorem enter_body_leave {body : P α} {ko1 : α → Nat} {ke1 : Err → Nat} {D : α → Rd → Prop}
    {r : Res (Except Err α)}
    (hb : ∀ s1 : St, s1.rd = s.rd → s1.depth + 1 = s.depth → 1 ≤ s1.depth →
      Run body .parse s1 s1 ko1 ke1 (fun a s' => D a s'.rd) N F)
    (hr : (enter >>= fun _ => attempt body >>= fun ret => leave >>= fun _ => pure ret) s = r) :
    r.Tri
      (fun ret s4 => 2 ≤ s.depth ∧ match ret with
        | .ok a => At0 (ko1 a) s s4 ∧ D a s4.rd
        | .error e => At0 (ke1 e) s s4 ∧ Raised s s4 e ∧ ∀ c l k, e = .syntax c l k → KOf .parse c s s4)
      (fun e s' => s' = s ∧ e = .syntax .recursionLimitExceeded s.rd.peekPosition.line
        s.rd.peekPosition.col)
      (s.depth = 0 ∨ N) F := by
  subst hr
  show Res.Tri (P.bind enter _ s) _ _ _ _
  unfold P.bind enter
  by_cases h0 : (s.depth == 0) = true
  · simp only [h0, if_true]; exact .inl (by simpa using h0)
  · simp only [h0]
    by_cases h1 : (s.depth - 1 == 0) = true
    · simp only [h1, if_true]; exact ⟨rfl, rfl⟩
    · simp only [h1]
      have hd0 : s.depth ≠ 0 := by simpa using h0
      have hd1 : s.depth - 1 ≠ 0 := by simpa using h1
      have hb := hb { s with depth := s.depth - 1 } rfl (by show s.depth - 1 + 1 = _; omega)
        (by show 1 ≤ s.depth - 1; omega)
      show Res.Tri (P.bind (attempt body) _ _) _ _ _ _
      unfold P.bind attempt Run at *
      -- `leave` puts the depth back: the state is `Adv` of `s` again
      have back : ∀ {k : Nat} {s3 : St}, At0 k { s with depth := s.depth - 1 } s3 →
          At0 k s { s3 with depth := s3.depth + 1 } := by
        intro k s3 h3
        have := h3.adv.setDepth s.depth
        have hd3 : s3.depth + 1 = s.depth := by have := h3.adv.depth; simp at this; omega
        rw [hd3]
        exact ⟨this, h3.len⟩
      cases hbr : body { s with depth := s.depth - 1 } with
      | ok a s3 =>
        rw [hbr] at hb
        exact ⟨by omega, back hb.1, hb.2⟩
      | err e s3 =>
        rw [hbr] at hb
        refine ⟨by omega, back hb.1, ?_, fun c l k hc => fun hs => hb.2.2 c l k hc hs⟩
        cases e with
        | io => exact hb.2.1
        | «syntax» c l k =>
          obtain ⟨t, h1, h2, hp⟩ := hb.2.1
          have hd3 : s3.depth + 1 = s.depth := by
            have := hb.1.adv.depth; simp at this; omega
          refine ⟨{ t with depth := s.depth }, h1.setDepth s.depth, ?_, hp⟩
          have := h2.setDepth s.depth
          rwa [← hd3] at this ⊢
      | panic p => rw [hbr] at hb; exact .inr hb
      | fuel => rw [hbr] at hb; exact hb

/-- the first error wins: an error of `body` is thrown again after `leave` (and `endSeq`) -/
theorem Run.rethrow {e : Err} {k1 : Nat} {s4 s5 : St} (h : At0 k s0 s)
    (h4 : At0 k1 s s4 ∧ Raised s s4 e ∧ ∀ c l k, e = .syntax c l k → KOf .parse c s s4)
    (h5 : Adv s4 s5) (hke : ke e ≤ k) :
    Run (liftExcept (.error e) : P β) .parse s5 s0 ko ke Q N F := by
  have h45 : At0 0 s4 s5 := ⟨h5, by have := h5.length_le; omega⟩
  exact ⟨(h.trans (h4.1.trans h45)).mono (by omega), (h4.2.1.later h5).trans h.adv,
    fun c l k hc => ((h4.2.2 c l k hc).later h5).shift h.adv⟩

/-- The rule for `deeperSeq close body k` (ParserProg.lean): `body` is followed one level down, from
    a state `s1` of its own; `k` runs on its result after `leave` and `endSeq`, and may assume that
    the budget was at least 2.  Of an error of the block all that is claimed is that it has consumed
    what was consumed in front of the block (`hke`). -/
theorem Run.deeperSeq {close : UInt8} {body : P α} {kf : α → P β} {ko1 : α → Nat}
    {ke1 : Err → Nat} {D : α → Prop} (h : At0 k s0 s) (hN0 : s.depth = 0 → N)
    (hb : ∀ s1 : St, s1.rd = s.rd → s1.depth + 1 = s.depth → 1 ≤ s1.depth →
      Run body .parse s1 s1 ko1 ke1 (fun a _ => D a) N F)
    (hke : ∀ e, ke e ≤ k)
    (hk : ∀ a s', At0 (k + ko1 a) s0 s' → 2 ≤ s.depth → D a →
      Run (kf a) .parse s' s0 ko ke Q N F) :
    Run (Parse.deeperSeq close body kf) .parse s s0 ko ke Q N F := by
  have eq : Parse.deeperSeq close body kf =
      (enter >>= fun _ => attempt body >>= fun ret => leave >>= fun _ => Pure.pure ret) >>=
        fun ret => attempt (endSeq close) >>= fun es =>
          (match ret, es with
            | .ok x, .ok () => kf x
            | .error e, _ => liftExcept (.error e)
            | _, .error e => liftExcept (.error e)) := by
    simp only [Parse.deeperSeq, Parse.bind_assoc]; rfl
  rw [eq]
  refine Res.Tri.bind (enter_body_leave (D := fun a _ => D a) hb rfl) ?_ ?_
    (fun hp => hp.elim hN0 id) id
  · rintro ret s4 ⟨h2, hret⟩
    have hes := endSeq_run (close := close) (s := s4)
    show Res.Tri (P.bind (attempt (endSeq close)) _ s4) _ _ _ _
    unfold P.bind attempt
    cases hr : endSeq close s4 with
    | ok u s5 =>
      have hes := hes.ok hr
      cases ret with
      | error e => exact Run.rethrow h hret hes.1.adv (hke e)
      | ok a => cases u; exact hk a s5 (h.trans (hret.1.trans hes.1) |>.mono (by omega)) h2 hret.2
    | err e5 s5 =>
      have hes := hes.err hr
      cases ret with
      | error e => exact Run.rethrow h hret hes.1.adv (hke e)
      | ok a => exact Run.err_shift (h.trans hret.1) rfl (Nat.le_trans (hke e5) (by omega)) hes
    | panic p => exact absurd hr (hes.no_panic id p)
    | fuel => exact absurd hr (hes.no_fuel id)
  · rintro e s' ⟨rfl, rfl⟩
    exact ⟨h.mono (hke _), ⟨s', h.adv, .refl _, .inr rfl⟩, fun _ _ _ hc => by
      cases hc; exact KOf.loose rfl⟩

/-- The same for `deeper body k`; `k` runs right after `leave`, so what `body` says of the reader
    (`D`) still holds. -/
theorem Run.deeper {body : P α} {kf : α → P β} {ko1 : α → Nat}
    {ke1 : Err → Nat} {D : α → Rd → Prop} (h : At0 k s0 s) (hN0 : s.depth = 0 → N)
    (hb : ∀ s1 : St, s1.rd = s.rd → s1.depth + 1 = s.depth → 1 ≤ s1.depth →
      Run body .parse s1 s1 ko1 ke1 (fun a s' => D a s'.rd) N F)
    (hke : ∀ e, ke e ≤ k)
    (hk : ∀ a s', At0 (k + ko1 a) s0 s' → 2 ≤ s.depth → D a s'.rd →
      Run (kf a) .parse s' s0 ko ke Q N F) :
    Run (Parse.deeper body kf) .parse s s0 ko ke Q N F := by
  have eq : Parse.deeper body kf =
      (enter >>= fun _ => attempt body >>= fun ret => leave >>= fun _ => Pure.pure ret) >>=
        fun ret => (match ret with
            | .error e => liftExcept (.error e)
            | .ok x => kf x) := by
    simp only [Parse.deeper, Parse.bind_assoc]; rfl
  rw [eq]
  refine Res.Tri.bind (enter_body_leave hb rfl) ?_ ?_ (fun hp => hp.elim hN0 id) id
  · rintro ret s4 ⟨h2, hret⟩
    cases ret with
    | error e => exact Run.rethrow h hret (.refl _) (hke e)
    | ok a => exact hk a s4 (h.trans hret.1) h2 hret.2
  · rintro e s' ⟨rfl, rfl⟩
    exact ⟨h.mono (hke _), ⟨s', h.adv, .refl _, .inr rfl⟩, fun _ _ _ hc => by
      cases hc; exact KOf.loose rfl⟩

end bracket

theorem atom_none (t : Token) (h : t.atom = none) :
    (∃ c, t = .byteVecOpen c) ∨ (∃ c, t = .vecOpen c) ∨ (∃ c, t = .listOpen c) ∨
      (∃ q, t = .quotation q) := by
  cases t <;> simp_all [Token.atom]

open Progress (optN synN synN_le optN_le)

/-- what `next_value` returns: `none` only at the end of the input, and a value nested less deep
    than `d` -/
def NextPost (d : Nat) (r : Option Value) (s' : St) : Prop :=
  (r = none → s'.rd.rest = []) ∧ ∀ v, r = some v → v.vdepth < d

/-- `run_nil` (Run.lean) learns one more way to see that no input is left: `next_datum` said so -/
macro_rules | `(tactic| run_nil) => `(tactic| exact (‹NextPost _ _ _›).1 rfl)

/-- `next_datum` and the two loops under it.  The panic is the depth budget at 0 (`enter`) or an
    input of `i32::MAX` bytes; the fuel is enough if it is twice the length of the input.  `d`
    bounds the depth budget: what is read nests less deep (the bound is a variable so that the
    hypothesis on the accumulator does not have to move from state to state). -/
theorem datum_runs (cfg : Cfg) (fuel : Nat) :
    (∀ (s : St) (d : Nat), s.depth ≤ d → 1 ≤ d →
      Run (nextDatum cfg fuel) .parse s s optN synN (fun r => NextPost d (r.map Datum.value))
        (s.depth = 0 ∨ i32Max ≤ s.rd.rest.length + 1) (fuel ≤ 2 * s.rd.rest.length)) ∧
    (∀ (term : UInt8) (acc : List Value) (ms : List SpanInfo) (s : St) (d : Nat), s.depth ≤ d →
      1 ≤ d → (∀ x ∈ acc, x.vdepth < d) →
      Run (parseListMeta cfg fuel term acc ms) .parse s s (fun _ => 0) (fun _ => 0)
        (fun r _ => (listVal r).vdepth ≤ d)
        (s.depth = 0 ∨ i32Max ≤ s.rd.rest.length + 1) (fuel ≤ 2 * s.rd.rest.length + 1)) ∧
    (∀ (term : UInt8) (acc : List Value) (ms : List SpanInfo) (s : St) (d : Nat), s.depth ≤ d →
      1 ≤ d → (∀ x ∈ acc, x.vdepth < d) →
      Run (parseVectorMeta cfg fuel term acc ms) .parse s s (fun _ => 0) (fun _ => 0)
        (fun r _ => ∀ x ∈ r.1, x.vdepth < d)
        (s.depth = 0 ∨ i32Max ≤ s.rd.rest.length + 1) (fuel ≤ 2 * s.rd.rest.length + 1)) := by
  induction fuel with
  | zero =>
    refine ⟨?_, ?_, ?_⟩ <;> intros
    · unfold nextDatum; exact Run.outOfFuel (Nat.zero_le _)
    · unfold parseListMeta; exact Run.outOfFuel (Nat.zero_le _)
    · unfold parseVectorMeta; exact Run.outOfFuel (Nat.zero_le _)
  | succ f ih =>
    obtain ⟨nextDatum_ih, parseListMeta_ih, parseVectorMeta_ih⟩ := ih
    refine ⟨?_, ?_, ?_⟩
    · intro s d hsd hd
      rw [nextDatum_succ]
      refine Run.start fun h0 => ?_
      refine Run.bind h0 parseWhitespace_head rfl (by run_arith) (by run_n) (by run_arith) ?_
      intro a s1 h1 ha
      cases a with
      | none => exact Run.pure h1 (Nat.zero_le _) ⟨fun _ => head_nil ha, nofun⟩
      | some pk =>
        have hne : 1 ≤ s1.rd.rest.length := by
          cases hr : s1.rd.rest with
          | nil => rw [hr] at ha; cases ha
          | cons b t => simp
        have hd1 := h1.adv.depth
        have hl1 := h1.len
        -- from here on the bytes are counted from the start `s1` of the token, where `tokenFuel`
        -- is taken
        refine Run.tail h1 (lv1 := .parse) (ko1 := fun _ => 1) (ke1 := fun _ => 1)
          (N1 := s1.depth = 0 ∨ i32Max ≤ s1.rd.rest.length + 1)
          (F1 := f + 1 ≤ 2 * s1.rd.rest.length) ?_ rfl (by run_arith) (by run_arith)
          (by intros; omega) (by intros; omega) (fun _ _ _ h => h)
        dsimp only
        refine Run.start fun h1' => ?_
        run_walk [parseToken_run (c := 1) (Nat.le_refl 1) (fun _ => ha.symm), parseByteList_run]
        · exact Run.pure (by assumption) (by run_arith)
            ⟨nofun, fun x hx => by cases hx; simp only [vdepth]; omega⟩
        · -- a vector: its elements are read one level down
          rename_i s2 h2 _ tok close
          have hd2 := h2.adv.depth
          have hl2 := h2.len
          refine Run.deeperSeq (D := fun r => ∀ x ∈ r.1, x.vdepth < d - 1) (ko1 := fun _ => 0)
            (ke1 := fun _ => 0) h2 (fun h => .inl (by omega)) ?_ (by run_arith) ?_
          · intro s3 hrd hdep h3
            have hl3 : s3.rd.rest.length = s2.rd.rest.length := by rw [hrd]
            exact (parseVectorMeta_ih _ [] [] s3 (d - 1) (by omega) (by omega) (by simp)).weaken
              (fun _ => Nat.le_refl _) (fun _ => Nat.le_refl _) (fun _ _ h => h) (by omega)
              (by omega)
          · intro r s4 h4 hdep hD
            refine Run.bind_read ?_
            refine Run.pure h4 (by run_arith) ⟨nofun, fun x hx => ?_⟩
            cases hx
            have := vdepthList_lt r.1 (d - 1) hD (by omega)
            simp only [vdepth]; omega
        · -- a list: likewise
          rename_i s2 h2 _ tok close
          have hd2 := h2.adv.depth
          have hl2 := h2.len
          refine Run.deeperSeq (D := fun r => (listVal r).vdepth ≤ d - 1) (ko1 := fun _ => 0)
            (ke1 := fun _ => 0) h2 (fun h => .inl (by omega)) ?_ (by run_arith) ?_
          · intro s3 hrd hdep h3
            have hl3 : s3.rd.rest.length = s2.rd.rest.length := by rw [hrd]
            exact (parseListMeta_ih _ [] [] s3 (d - 1) (by omega) (by omega) (by simp)).weaken
              (fun _ => Nat.le_refl _) (fun _ => Nat.le_refl _) (fun _ _ h => h) (by omega)
              (by omega)
          · intro r s4 h4 hdep hD
            rcases r with _ | ⟨v, c, dd⟩ <;> dsimp only <;> refine Run.bind_read ?_ <;>
              refine Run.pure h4 (by run_arith) ⟨nofun, fun x hx => ?_⟩ <;> cases hx
            · simp only [vdepth]; omega
            · simp only [listVal] at hD; show v.vdepth < d; omega
        · -- a quotation: the datum quoted is read one level down
          rename_i s2 h2 _ tok q
          have hd2 := h2.adv.depth
          have hl2 := h2.len
          refine Run.deeper (D := fun r rd => (r = none → rd.rest = []) ∧
              ∀ x, r = some x → x.value.vdepth < d - 1) (ko1 := optN) (ke1 := synN) h2
            (fun h => .inl (by omega)) ?_ (by run_arith) ?_
          · intro s3 hrd hdep h3
            have hl3 : s3.rd.rest.length = s2.rd.rest.length := by rw [hrd]
            exact (nextDatum_ih s3 (d - 1) (by omega) (by omega)).weaken
              (fun _ => Nat.le_refl _) (fun _ => Nat.le_refl _)
              (fun r _ h => ⟨fun hr => h.1 (by rw [hr]; rfl), fun x hx => h.2 _ (by rw [hx]; rfl)⟩)
              (by omega) (by omega)
          · intro r s4 h4 hdep hD
            rcases r with _ | x <;> dsimp only
            · exact Run.peekErr h4 (by run_arith) (KOf.parseEnd (hD.1 rfl))
            · refine Run.pure h4 (by run_arith) ⟨nofun, fun y hy => ?_⟩
              cases hy
              have := hD.2 x rfl
              simp only [Datum.quotation, list, append, vdepth]; omega
        · rename_i v heq
          exact Run.pure (by assumption) (by run_arith)
            ⟨nofun, fun x hx => by cases hx; rw [atom_vdepth _ _ heq]; omega⟩
        · -- `unreachable!()`: the other tokens are atoms
          rename_i tok _ _ _ _ h1 h2 h3 h4 _ heq
          rcases atom_none tok heq with ⟨c, h⟩ | ⟨c, h⟩ | ⟨c, h⟩ | ⟨q, h⟩
          · exact (h1 c h).elim
          · exact (h2 c h).elim
          · exact (h3 c h).elim
          · exact (h4 q h).elim
    · intro term acc ms s d hsd hd hacc
      unfold parseListMeta
      run_walk0 [parseWhitespace_head, peekOrNull_ne, parseSymbolBytes_run,
        nextDatum_ih _ d (by have := At0.depth ‹At0 _ _ _›; omega) hd,
        parseListMeta_ih term _ _ _ d (by have := At0.depth ‹At0 _ _ _›; omega) hd
          (forall_mem_snoc hacc (by rw [symbolValue_vdepth]; omega)),
        parseListMeta_ih term _ _ _ d (by have := At0.depth ‹At0 _ _ _›; omega) hd
          (forall_mem_snoc hacc ((‹NextPost d _ _›).2 _ rfl))]
      · exact Run.pure (by assumption) (by run_arith) (by simp [listVal, vdepth])
      · exact Run.pure (by assumption) (by run_arith) (vdepth_list_le acc d hacc)
      · exact Run.pure (by assumption) (by run_arith)
          (vdepth_append_le acc _ d hacc (Nat.le_of_lt ((‹NextPost d _ _›).2 _ rfl)))
    · intro term acc ms s d hsd hd hacc
      unfold parseVectorMeta
      run_walk0 [parseWhitespace_head,
        nextDatum_ih _ d (by have := At0.depth ‹At0 _ _ _›; omega) hd,
        parseVectorMeta_ih term _ _ _ d (by have := At0.depth ‹At0 _ _ _›; omega) hd
          (forall_mem_snoc hacc ((‹NextPost d _ _›).2 _ rfl))]

/-- A program that `m` simulates satisfies what `m` satisfies, read through `h`. -/
theorem Run.of_sim {α β : Type} {h : α → β} {m : P α} {m' : P β} (hs : MapSim h m m') {lv : Lv}
    {s s0 : St} {ko : β → Nat} {ke : Err → Nat} {Q : β → St → Prop} {N F : Prop}
    (hm : Run m lv s s0 (fun a => ko (h a)) ke (fun a s' => Q (h a) s') N F) :
    Run m' lv s s0 ko ke Q N F := by
  unfold Run at *
  rw [← hs s]; revert hm; cases m s <;> exact id

theorem optN_map {α β : Type} (f : α → β) (a : Option α) : optN (a.map f) = optN a := by
  cases a <;> rfl

theorem value_runs (cfg : Cfg) (fuel : Nat) :
    (∀ (s : St) (d : Nat), s.depth ≤ d → 1 ≤ d →
      Run (nextValue cfg fuel) .parse s s optN synN (NextPost d)
        (s.depth = 0 ∨ i32Max ≤ s.rd.rest.length + 1) (fuel ≤ 2 * s.rd.rest.length)) ∧
    (∀ (term : UInt8) (acc : List Value) (s : St) (d : Nat), s.depth ≤ d →
      1 ≤ d → (∀ x ∈ acc, x.vdepth < d) →
      Run (parseList cfg fuel term acc) .parse s s (fun _ => 0) (fun _ => 0)
        (fun r _ => r.vdepth ≤ d)
        (s.depth = 0 ∨ i32Max ≤ s.rd.rest.length + 1) (fuel ≤ 2 * s.rd.rest.length + 1)) ∧
    (∀ (term : UInt8) (acc : List Value) (s : St) (d : Nat), s.depth ≤ d →
      1 ≤ d → (∀ x ∈ acc, x.vdepth < d) →
      Run (parseVector cfg fuel term acc) .parse s s (fun _ => 0) (fun _ => 0)
        (fun r _ => ∀ x ∈ r, x.vdepth < d)
        (s.depth = 0 ∨ i32Max ≤ s.rd.rest.length + 1) (fuel ≤ 2 * s.rd.rest.length + 1)) :=
  have hs := sim_all cfg fuel
  have hd := datum_runs cfg fuel
  ⟨fun s d h1 h2 => .of_sim hs.1 ((hd.1 s d h1 h2).weaken (fun a => Nat.le_of_eq (optN_map _ a))
      (fun _ => Nat.le_refl _) (fun _ _ h => h) id id),
   fun term acc s d h1 h2 h3 => .of_sim (hs.2.1 term acc []) (hd.2.1 term acc [] s d h1 h2 h3),
   fun term acc s d h1 h2 h3 => .of_sim (hs.2.2 term acc []) (hd.2.2 term acc [] s d h1 h2 h3)⟩

/-! The statements as they are cited.  In any state the budget is at most `max s.depth 1`, and some
    `d` bounds any accumulator (`exists_bound`); of what the loops return nothing is kept. -/

section entry
variable {cfg : Cfg} {s : St}

theorem datum_loops_run (cfg : Cfg) (fuel : Nat) (term : UInt8) (acc : List Value)
    (ms : List SpanInfo) {s : St} :
    Run (parseListMeta cfg fuel term acc ms) .parse s s (fun _ => 0) (fun _ => 0) (fun _ _ => True)
      (s.depth = 0 ∨ i32Max ≤ s.rd.rest.length + 1) (fuel ≤ 2 * s.rd.rest.length + 1) ∧
    Run (parseVectorMeta cfg fuel term acc ms) .parse s s (fun _ => 0) (fun _ => 0)
      (fun _ _ => True) (s.depth = 0 ∨ i32Max ≤ s.rd.rest.length + 1)
      (fuel ≤ 2 * s.rd.rest.length + 1) :=
  have ⟨d, h1, h2, h3⟩ := exists_bound s.depth acc
  have h := datum_runs cfg fuel
  ⟨(h.2.1 term acc ms s d h1 h2 h3).post fun _ _ _ => trivial,
   (h.2.2 term acc ms s d h1 h2 h3).post fun _ _ _ => trivial⟩

theorem value_loops_run (cfg : Cfg) (fuel : Nat) (term : UInt8) (acc : List Value) {s : St} :
    Run (parseList cfg fuel term acc) .parse s s (fun _ => 0) (fun _ => 0) (fun _ _ => True)
      (s.depth = 0 ∨ i32Max ≤ s.rd.rest.length + 1) (fuel ≤ 2 * s.rd.rest.length + 1) ∧
    Run (parseVector cfg fuel term acc) .parse s s (fun _ => 0) (fun _ => 0) (fun _ _ => True)
      (s.depth = 0 ∨ i32Max ≤ s.rd.rest.length + 1) (fuel ≤ 2 * s.rd.rest.length + 1) :=
  have ⟨d, h1, h2, h3⟩ := exists_bound s.depth acc
  have h := value_runs cfg fuel
  ⟨(h.2.1 term acc s d h1 h2 h3).post fun _ _ _ => trivial,
   (h.2.2 term acc s d h1 h2 h3).post fun _ _ _ => trivial⟩

theorem nextDatum_run (cfg : Cfg) (fuel : Nat) {s : St} :
    Run (nextDatum cfg fuel) .parse s s optN synN
      (fun r => NextPost (max s.depth 1) (r.map Datum.value))
      (s.depth = 0 ∨ i32Max ≤ s.rd.rest.length + 1) (fuel ≤ 2 * s.rd.rest.length) :=
  (datum_runs cfg fuel).1 s _ (Nat.le_max_left _ 1) (Nat.le_max_right _ 1)

theorem nextValue_run (cfg : Cfg) (fuel : Nat) {s : St} :
    Run (nextValue cfg fuel) .parse s s optN synN (NextPost (max s.depth 1))
      (s.depth = 0 ∨ i32Max ≤ s.rd.rest.length + 1) (fuel ≤ 2 * s.rd.rest.length) :=
  (value_runs cfg fuel).1 s _ (Nat.le_max_left _ 1) (Nat.le_max_right _ 1)

theorem nextDatumTop_run :
    Run (nextDatumTop cfg) .parse s s optN synN
      (fun r => NextPost (max s.depth 1) (r.map Datum.value))
      (s.depth = 0 ∨ i32Max ≤ s.rd.rest.length + 1) False := by
  unfold nextDatumTop
  refine Run.bind_read (g := fun s => 2 * s.rd.rest.length + 4) ?_
  exact (nextDatum_run cfg _).weaken (fun _ => Nat.le_refl _) (fun _ => Nat.le_refl _)
    (fun _ _ h => h) id (by omega)

theorem expectDatum_run :
    Run (expectDatum cfg) .parse s s (fun _ => 1) (fun _ => 0)
      (fun x _ => x.value.vdepth < max s.depth 1)
      (s.depth = 0 ∨ i32Max ≤ s.rd.rest.length + 1) False := by
  unfold expectDatum
  run_walk0 [nextDatumTop_run]
  exact Run.pure (by assumption) (by simp only [optN]; omega) ((‹NextPost _ _ _›).2 _ rfl)

theorem fromTraitDatum_run :
    Run (fromTraitDatum cfg) .parse s s (fun _ => 1) (fun _ => 0)
      (fun x _ => x.value.vdepth < max s.depth 1)
      (s.depth = 0 ∨ i32Max ≤ s.rd.rest.length + 1) False := by
  unfold fromTraitDatum
  run_walk0 [expectDatum_run, expectEnd_run]

theorem nextValueTop_run :
    Run (nextValueTop cfg) .parse s s optN synN (NextPost (max s.depth 1))
      (s.depth = 0 ∨ i32Max ≤ s.rd.rest.length + 1) False :=
  .of_sim (sim_nextTop cfg) (nextDatumTop_run.weaken
    (fun a => Nat.le_of_eq (optN_map _ a)) (fun _ => Nat.le_refl _) (fun _ _ h => h) id id)

theorem expectValue_run :
    Run (expectValue cfg) .parse s s (fun _ => 1) (fun _ => 0) (fun x _ => x.vdepth < max s.depth 1)
      (s.depth = 0 ∨ i32Max ≤ s.rd.rest.length + 1) False :=
  .of_sim (sim_expect cfg) expectDatum_run

theorem fromTrait_run :
    Run (fromTrait cfg) .parse s s (fun _ => 1) (fun _ => 0) (fun x _ => x.vdepth < max s.depth 1)
      (s.depth = 0 ∨ i32Max ≤ s.rd.rest.length + 1) False :=
  .of_sim (sim_fromTrait cfg) fromTraitDatum_run

end entry

/-! ### the frame of the parser proper and of the entry points

  They capture errors, so they are no programs over the reader primitives in the sense of
  Held.lean; `Lexes` holds of them all the same, read off their statements. -/

theorem Lexes.datum_all (cfg : Cfg) (fuel : Nat) :
    Lexes (nextDatum cfg fuel) ∧
    (∀ term acc ms, Lexes (parseListMeta cfg fuel term acc ms)) ∧
    (∀ term acc ms, Lexes (parseVectorMeta cfg fuel term acc ms)) :=
  ⟨fun _ => (nextDatum_run cfg fuel).lexes,
   fun term acc ms _ => (datum_loops_run cfg fuel term acc ms).1.lexes,
   fun term acc ms _ => (datum_loops_run cfg fuel term acc ms).2.lexes⟩

theorem Lexes.value_all (cfg : Cfg) (fuel : Nat) :
    Lexes (nextValue cfg fuel) ∧
    (∀ term acc, Lexes (parseList cfg fuel term acc)) ∧
    (∀ term acc, Lexes (parseVector cfg fuel term acc)) :=
  ⟨fun _ => (nextValue_run cfg fuel).lexes,
   fun term acc _ => (value_loops_run cfg fuel term acc).1.lexes,
   fun term acc _ => (value_loops_run cfg fuel term acc).2.lexes⟩

theorem Lexes.nextValueTop {cfg : Cfg} : Lexes (nextValueTop cfg) := fun _ => nextValueTop_run.lexes
theorem Lexes.nextDatumTop {cfg : Cfg} : Lexes (nextDatumTop cfg) := fun _ => nextDatumTop_run.lexes
theorem Lexes.expectValue {cfg : Cfg} : Lexes (expectValue cfg) := fun _ => expectValue_run.lexes
theorem Lexes.expectDatum {cfg : Cfg} : Lexes (expectDatum cfg) := fun _ => expectDatum_run.lexes
theorem Lexes.fromTrait {cfg : Cfg} : Lexes (fromTrait cfg) := fun _ => fromTrait_run.lexes
theorem Lexes.fromTraitDatum {cfg : Cfg} : Lexes (fromTraitDatum cfg) := fun _ =>
  fromTraitDatum_run.lexes

end Parse
end Lexpr
