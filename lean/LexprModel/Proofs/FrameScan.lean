/-
  C08, last clause — the frame theorem for whole inputs, with the exercised options computed by the
  flat scan of the token stream.

  `Spec.exercised cfg mode bytes` scans the token stream of the input once, context-free (skip
  trivia, take the token, continue behind it), and collects the declarative per-token sets
  `Spec.tokenOpts`.  This file shows that the scan covers every token the parser reads:

    `exercisedOp_sub` : every option in `Spec.exercisedOp` (the tokens the parser reads) is in
                        `Spec.exercised` (the tokens of the flat scan);
    `C08_frame`       : two configurations of the same build that agree on `Spec.exercised` give the
                        same outcome of `from_str` / `from_slice` / `from_reader`.

  Method: `post_steps` — after a successful `next_value` / `parse_list` / `parse_vector` the reader
  is at a position from which the scan finds nothing that it does not find from the start position
  (`Good`; the two bracketed shapes of `next_value`, ParserProg's `deeper` and `deeperSeq`, keep it:
  `Post_deeper`, `Post_deeperSeq`); `ex_sub` — the options collected along the parser's path are
  found by the scan.
-/
import LexprModel.Proofs.Frame
import LexprModel.Proofs.ScanBase
import LexprModel.Proofs.TokYields
import LexprModel.Proofs.ParserProg
import LexprModel.Proofs.Primitives
namespace Lexpr
namespace Parse
namespace C08
open Spec DepthInd

def Sub (a b : List OptName) : Prop := ∀ n ∈ a, n ∈ b

theorem Sub.refl (a : List OptName) : Sub a a := fun _ h => h
theorem Sub.trans {a b c : List OptName} (h1 : Sub a b) (h2 : Sub b c) : Sub a c :=
  fun n h => h2 n (h1 n h)
theorem Sub.nil (a : List OptName) : Sub [] a := fun _ h => by cases h
theorem Sub.append {a b c : List OptName} (h1 : Sub a c) (h2 : Sub b c) : Sub (a ++ b) c := by
  intro n hn
  rcases List.mem_append.mp hn with h | h
  · exact h1 n h
  · exact h2 n h
theorem Sub.of_eq {a b : List OptName} (h : a = b) : Sub a b := h ▸ Sub.refl a
theorem Sub.left (a b : List OptName) : Sub a (a ++ b) := fun _ h => List.mem_append_left _ h
theorem Sub.right (a b : List OptName) : Sub b (a ++ b) := fun _ h => List.mem_append_right _ h

/-- from `s'` the scan finds nothing that it does not find from `s` -/
def Good (cfg : Cfg) (s s' : St) : Prop := Sub (scanAll cfg s') (scanAll cfg s)

theorem Good.refl (cfg : Cfg) (s : St) : Good cfg s s := Sub.refl _
theorem Good.trans {cfg : Cfg} {s s1 s2 : St} (h1 : Good cfg s s1) (h2 : Good cfg s1 s2) :
    Good cfg s s2 := Sub.trans h2 h1
theorem Good.of_eq {cfg : Cfg} {s s' : St} (h : scanAll cfg s' = scanAll cfg s) : Good cfg s s' :=
  Sub.of_eq h
theorem Good.of_rd {cfg : Cfg} {s s' : St} (h : s'.rd = s.rd) : Good cfg s s' :=
  Good.of_eq (scanAll_depth cfg s s' h)

def Post {α : Type} (cfg : Cfg) (s : St) (r : Res α) : Prop :=
  match r with
  | .ok _ s' => Good cfg s s'
  | _ => True

theorem Post.weaken {α : Type} {cfg : Cfg} {s s1 : St} {r : Res α} (h : Good cfg s s1)
    (hp : Post cfg s1 r) : Post cfg s r := by
  cases r with
  | ok a s' => exact h.trans hp
  | _ => trivial

theorem Post_bind {α β : Type} {cfg : Cfg} {m : P α} {f : α → P β} {s : St}
    (hm : Post cfg s (m s)) (hf : ∀ a s1, m s = .ok a s1 → Post cfg s1 (f a s1)) :
    Post cfg s ((m >>= f) s) := by
  simp only [bind_apply]
  cases h : m s with
  | ok a s1 =>
    rw [h] at hm
    exact Post.weaken hm (hf a s1 h)
  | _ => trivial

theorem Post_ws (cfg : Cfg) (s : St) : Post cfg s (parseWhitespace s) := by
  cases h : parseWhitespace s with
  | ok r s0 => exact Good.of_eq (scanAll_ws cfg h)
  | _ => trivial

theorem leave_eq (s : St) : leave s = .ok () { s with depth := s.depth + 1 } := Parse.leave_eq s

theorem closer_not_token (cfg : Cfg) (fuel : Nat) (pk : UInt8) (s : St) (tok : Token) (s' : St)
    (hc : (pk == 41 || pk == 93) = true) : parseToken cfg fuel pk s ≠ .ok tok s' := by
  intro h
  have hy := parseToken_yields h
  have hpk : pk = 41 ∨ pk = 93 := by simpa using hc
  rcases hpk with rfl | rfl <;> cases tok <;> cases hy

theorem tokenOpts_closer (o : Options) (m : Mode) (pk : UInt8) (tl : List UInt8)
    (hc : (pk == 41 || pk == 93) = true) : tokenOpts o m (pk :: tl) = [] := by
  have hpk : pk = 41 ∨ pk = 93 := by simpa using hc
  rcases hpk with rfl | rfl <;> simp [tokenOpts, isDigit, isAsciiAlpha, isSymbolExtended]

theorem tokenOpts_dot (o : Options) (m : Mode) (tl : List UInt8) :
    tokenOpts o m (46 :: tl) = postfixKw (tokenText m (46 :: tl)) := by
  simp [tokenOpts, isDigit, isAsciiAlpha, isSymbolExtended]

/-- behind a token the scan goes on (behind `#u8(`: behind the byte vector): from there it finds
    nothing new -/
theorem good_token (cfg : Cfg) {s0 s1 : St} {pk : UInt8} {tok : Token}
    (hw0 : parseWhitespace s0 = .ok (some pk) s0)
    (ht : parseToken cfg (s0.rd.rest.length + 1) pk s0 = .ok tok s1) :
    ((∀ c, tok ≠ .byteVecOpen c) → Good cfg s0 s1) ∧
    (∀ close bs s2, tok = .byteVecOpen close →
      parseByteList cfg (s0.rd.rest.length + 1) close s1 = .ok bs s2 → Good cfg s0 s2) := by
  have hc : (pk == 41 || pk == 93) = false := by
    cases h : (pk == 41 || pk == 93)
    · rfl
    · exact absurd ht (closer_not_token cfg _ pk s0 tok s1 h)
  have hscan := scanAll_token cfg hw0 hc
  rw [ht] at hscan
  constructor
  · intro hne
    show Sub (scanAll cfg s1) (scanAll cfg s0)
    rw [hscan]
    cases tok with
    | byteVecOpen c => exact absurd rfl (hne c)
    | _ => exact Sub.trans (Sub.right _ _) (Sub.left _ _)
  · rintro close bs s2 rfl hb
    show Sub (scanAll cfg s2) (scanAll cfg s0)
    rw [hscan]
    simp only [hb]
    exact Sub.trans (Sub.right _ _) (Sub.left _ _)

theorem opens_parseToken {cfg : Cfg} {fuel : Nat} {pk : UInt8} {s s' : St} {tok : Token}
    (h : parseToken cfg fuel pk s = .ok tok s') :
    (∀ c, tok = .listOpen c ∨ tok = .vecOpen c → c = 41 ∨ c = 93) := by
  have hy := parseToken_yields h
  rintro c (rfl | rfl) <;>
  · simp only [TokClass.yields, Bool.or_eq_true, Bool.and_eq_true, beq_iff_eq] at hy
    rcases hy with ⟨_, rfl⟩ | ⟨_, rfl⟩
    · exact .inl rfl
    · exact .inr rfl

theorem Post_endSeq (cfg : Cfg) (close : UInt8) (hc : close = 41 ∨ close = 93) (s : St) :
    Post cfg s (endSeq close s) := by
  unfold endSeq
  apply Post_bind (Post_ws cfg s)
  intro r s0 hw
  cases r with
  | none => trivial
  | some b =>
    simp only
    by_cases hb : (b == close) = true
    · simp only [hb, ↓reduceIte]
      cases hd : discard s0 with
      | ok u s1 =>
        have hbc : (b == 41 || b == 93) = true := by
          have : b = close := by simpa using hb
          rcases hc with rfl | rfl <;> simp [this]
        exact Good.of_eq (scanAll_closer cfg (parseWhitespace_idem hw) hbc hd).symm
      | _ => trivial
    · simp only [hb, Bool.false_eq_true, ↓reduceIte]
      trivial

/-! ### `.name` inside a list is read like the token `.name` -/

theorem dot_symbol_sync (cfg : Cfg) (fuel : Nat) {s0 s1 s2 s3 : St} {u : Unit} {nxt : UInt8}
    {name : List UInt8} (h46 : s0.rd.rest.head? = some 46)
    (hd : discard s0 = .ok u s1) (hp : peekOrNull s1 = .ok nxt s2)
    (hn : parseSymbolBytes [46] s2 = .ok name s3) :
    parseToken cfg fuel 46 s0 = .ok (symbolToken cfg.opts name) s3 := by
  rw [parseToken_ext cfg fuel 46 (by decide) (by decide) (by intro h; cases h), symArm, bind_apply]
  suffices h : parseSymbolBytes [] s0 = .ok name s3 by rw [h]; rfl
  obtain ⟨b, tl, hr0, rfl⟩ := discard_ok hd
  rw [hr0] at h46
  simp only [List.head?_cons, Option.some.injEq] at h46
  subst h46
  unfold peekOrNull at hp
  obtain ⟨o, s2', hpk, hp2⟩ := bind_ok hp
  simp only [pure_apply, Res.ok.injEq] at hp2
  obtain ⟨_, rfl⟩ := hp2
  obtain ⟨hm2, hr2, _⟩ := peek_frame hpk
  have hr2' : s2'.rd.rest = tl := by rw [hr2]; simp [hr0]
  have hm2' : s2'.rd.mode = s0.rd.mode := by rw [hm2]; simp
  have hadv : ∀ n, s2'.adv n = s0.adv (n + 1) := by
    intro n; rw [adv_of_peek hpk n, sadv_adv, Nat.add_comm]
  have hsl : symLen s0.rd.mode (46 :: tl) = symLen s0.rd.mode tl + 1 := by
    simp [symLen, symTerm_eq, show symTermSlice 46 = false from rfl]
  unfold parseSymbolBytes at hn ⊢
  simp only [bind_apply, getRest_eq, getMode_eq, consumeN_eq] at hn ⊢
  rw [hr2', hm2', hadv] at hn
  rw [hr0, hsl]
  simpa using hn

/-- a dot in front of a delimiter: the scan also goes on directly behind the dot -/
theorem good_dot_delim (cfg : Cfg) {s0 s2 : St} {nxt : UInt8}
    (hw0 : parseWhitespace s0 = .ok (some 46) s0)
    (hdp : (discard >>= fun _ => peekOrNull) s0 = .ok nxt s2)
    (hdel : (nxt == 0 || isDelimiter nxt) = true) : Good cfg s0 s2 := by
  show Sub (scanAll cfg s2) (scanAll cfg s0)
  rw [scanAll_token cfg hw0 rfl]
  simp only [beq_self_eq_true, ↓reduceIte, hdp, hdel]
  exact Sub.right _ _

/-- `.name` inside a list: its options are those of the token `.name`, and the scan goes on behind it -/
theorem good_dot_name (cfg : Cfg) {s0 s1 s2 s3 : St} {u : Unit} {nxt : UInt8} {name : List UInt8}
    (hw0 : parseWhitespace s0 = .ok (some 46) s0) (hd : discard s0 = .ok u s1)
    (hp : peekOrNull s1 = .ok nxt s2) (hn : parseSymbolBytes [46] s2 = .ok name s3) :
    Sub (postfixKw name) (scanAll cfg s0) ∧ Good cfg s0 s3 := by
  have hpk := parseWhitespace_some hw0
  have hscan := scanAll_token cfg hw0 rfl
  have htok := dot_symbol_sync cfg (s0.rd.rest.length + 1) hpk hd hp hn
  constructor
  · -- the name is the text of the token `.name`
    obtain ⟨b, tl, hr0, hs1⟩ := discard_ok hd
    rw [hr0] at hpk
    obtain rfl : b = 46 := Option.some.inj hpk
    subst hs1
    obtain ⟨hm2, hr2, _⟩ := peekOrNull_frame hp
    have hname := parseSymbolBytes_name hn
    rw [hr2, hm2] at hname
    simp only [sadv_rest, hr0, List.drop_succ_cons, List.drop_zero, sadv_mode] at hname
    have : name = tokenText s0.rd.mode (46 :: tl) := by
      rw [hname, tokenText_cons _ 46 _ (by decide)]; rfl
    rw [hscan, hr0, tokenOpts_dot, ← this]
    exact Sub.trans (Sub.left _ _) (Sub.left _ _)
  · show Sub (scanAll cfg s3) (scanAll cfg s0)
    rw [hscan, htok]
    rcases symbolToken_cases cfg.opts name with h | h <;> rw [h] <;>
      exact Sub.trans (Sub.right _ _) (Sub.left _ _)

theorem Post_enter (cfg : Cfg) (s : St) : Post cfg s (enter s) := by
  cases he : enter s with
  | ok u s2 => exact Good.of_rd ((enter_inv he).2 ▸ rfl)
  | _ => trivial

/-- the two shapes in which `next_value` goes one level down keep `Post` -/
theorem Post_deeper {α β : Type} (cfg : Cfg) {body : P α} {k : α → P β}
    (hm : ∀ s, Post cfg s (body s)) (hk : ∀ a s, Post cfg s (k a s)) (s : St) :
    Post cfg s (deeper body k s) := by
  refine Post_bind (Post_enter cfg s) fun _ s2 _ => ?_
  have h3 := hm s2
  cases h : body s2 with
  | ok a s3 =>
    rw [h] at h3
    simp only [bind_apply, attempt, leave_eq, h]
    exact Post.weaken (Good.trans h3 (Good.of_rd (s' := { s3 with depth := s3.depth + 1 }) rfl))
      (hk a _)
  | _ => simp only [bind_apply, attempt, leave_eq, h]; trivial

theorem Post_deeperSeq {α β : Type} (cfg : Cfg) {close : UInt8} (hc : close = 41 ∨ close = 93)
    {body : P α} {k : α → P β}
    (hm : ∀ s, Post cfg s (body s)) (hk : ∀ a s, Post cfg s (k a s)) (s : St) :
    Post cfg s (deeperSeq close body k s) := by
  refine Post_bind (Post_enter cfg s) fun _ s2 _ => ?_
  have h3 := hm s2
  cases h : body s2 with
  | ok a s3 =>
    rw [h] at h3
    simp only [bind_apply, attempt, leave_eq, h]
    refine Post.weaken (Good.trans h3 (Good.of_rd (s' := { s3 with depth := s3.depth + 1 }) rfl)) ?_
    have hpe := Post_endSeq cfg close hc { s3 with depth := s3.depth + 1 }
    cases hes : endSeq close { s3 with depth := s3.depth + 1 } with
    | ok u s6 => cases u; rw [hes] at hpe; exact Post.weaken hpe (hk a s6)
    | _ => trivial
  | err e s3 =>
    simp only [bind_apply, attempt, leave_eq, h]
    cases endSeq close _ <;> trivial
  | _ => simp only [bind_apply, attempt, h]; trivial

theorem value_post (cfg : Cfg) (f : Nat)
    (ihV : ∀ s, Post cfg s (nextValue cfg f s))
    (ihL : ∀ term acc s, Post cfg s (parseList cfg f term acc s))
    (ihX : ∀ term acc s, Post cfg s (parseVector cfg f term acc s))
    (s : St) : Post cfg s (nextValue cfg (f + 1) s) := by
  rw [nextValue_succ]
  apply Post_bind (Post_ws cfg s)
  intro r s0 hw
  cases r with
  | none => exact Good.refl cfg s0
  | some pk =>
    have hw0 := parseWhitespace_idem hw
    simp only [bind_apply, tokenFuel_eq]
    cases ht : parseToken cfg (s0.rd.rest.length + 1) pk s0 with
    | ok tok s1 =>
      obtain ⟨hgood, hbytes⟩ := good_token cfg hw0 ht
      have hopen := opens_parseToken ht
      have hpure : ∀ {γ : Type} (c : γ) (s : St), Post cfg s ((pure c : P γ) s) :=
        fun _ s => Good.refl cfg s
      simp only
      cases tok with
      | byteVecOpen close =>
        simp only [bind_apply]
        cases hb : parseByteList cfg (s0.rd.rest.length + 1) close s1 with
        | ok bs s2 => exact hbytes close bs s2 rfl hb
        | _ => trivial
      | vecOpen close =>
        exact Post.weaken (hgood nofun)
          (Post_deeperSeq cfg (hopen close (.inr rfl)) (ihX close []) (fun _ => hpure _) s1)
      | listOpen close =>
        exact Post.weaken (hgood nofun)
          (Post_deeperSeq cfg (hopen close (.inl rfl)) (ihL close []) (fun _ => hpure _) s1)
      | quotation q =>
        refine Post.weaken (hgood nofun) (Post_deeper cfg ihV (fun v s => ?_) s1)
        cases v with
        | none => trivial
        | some d => exact Good.refl cfg s
      | _ => exact hgood nofun
    | _ => trivial

/-- one turn of the list loop keeps `Post`: every step of the loop is a primitive that consumes
    input the scan also walks over (`Post_ws`, the dot and its look-ahead), an element (`ihV`), or
    the rest of the list (`ihL`); `Post_bind` chains them -/
theorem list_post (cfg : Cfg) (f : Nat)
    (ihV : ∀ s, Post cfg s (nextValue cfg f s))
    (ihL : ∀ term acc s, Post cfg s (parseList cfg f term acc s))
    (term : UInt8) (acc : List Value) (s : St) :
    Post cfg s (parseList cfg (f + 1) term acc s) := by
  rw [parseList]
  apply Post_bind (Post_ws cfg s)
  intro r s0 hw
  cases r with
  | none => trivial
  | some c =>
    have hw0 := parseWhitespace_idem hw
    simp only
    by_cases hc : (c == 41 || c == 93) = true
    · simp only [hc, ↓reduceIte]
      split
      · trivial
      · exact Good.refl cfg s0
    simp only [hc, Bool.false_eq_true, ↓reduceIte]
    by_cases hdot : (c == 46) = true
    · obtain rfl : c = 46 := by simpa using hdot
      simp only [beq_self_eq_true, ↓reduceIte, bind_apply]
      cases hd : discard s0 with
      | ok u s1 =>
        simp only
        cases hp : peekOrNull s1 with
        | ok nxt s2 =>
          simp only
          have hdp : (discard >>= fun _ => peekOrNull) s0 = .ok nxt s2 := by
            simp only [bind_apply, hd, hp]
          by_cases hdel : (nxt == 0 || isDelimiter nxt) = true
          · simp only [hdel, ↓reduceIte]
            by_cases hemp : acc.isEmpty = true
            · simp only [hemp, ↓reduceIte, bind_apply]
              cases hpe : peek s2 with
              | ok o s' => cases o <;> trivial
              | _ => trivial
            · simp only [hemp, Bool.false_eq_true, ↓reduceIte]
              apply Post.weaken (good_dot_delim cfg hw0 hdp hdel)
              apply Post_bind
              · apply Post_bind (ihV s2)
                intro v s3 _
                cases v with
                | none => trivial
                | some v => exact Good.refl cfg s3
              · intro tail s3 _
                apply Post_bind (Post_ws cfg s3)
                intro r s4 _
                cases r with
                | none => trivial
                | some c' =>
                  simp only
                  split
                  · exact Good.refl cfg s4
                  · trivial
          · simp only [hdel, Bool.false_eq_true, ↓reduceIte, bind_apply]
            cases hn : parseSymbolBytes [46] s2 with
            | ok name s3 =>
              exact Post.weaken (good_dot_name cfg hw0 hd hp hn).2 (ihL term _ s3)
            | _ => trivial
        | _ => trivial
      | _ => trivial
    · simp only [hdot, Bool.false_eq_true, ↓reduceIte]
      apply Post_bind (ihV s0)
      intro v s1 _
      cases v with
      | none => trivial
      | some v => exact ihL term _ s1

theorem vector_post (cfg : Cfg) (f : Nat)
    (ihV : ∀ s, Post cfg s (nextValue cfg f s))
    (ihX : ∀ term acc s, Post cfg s (parseVector cfg f term acc s))
    (term : UInt8) (acc : List Value) (s : St) :
    Post cfg s (parseVector cfg (f + 1) term acc s) := by
  rw [parseVector]
  apply Post_bind (Post_ws cfg s)
  intro r s0 hw
  cases r with
  | none => trivial
  | some c =>
    simp only
    by_cases hc : (c == 41 || c == 93) = true
    · simp only [hc, ↓reduceIte]
      split
      · trivial
      · exact Good.refl cfg s0
    · simp only [hc, Bool.false_eq_true, ↓reduceIte]
      apply Post_bind (ihV s0)
      intro v s1 _
      cases v with
      | none => trivial
      | some v => exact ihX term _ s1

/-- after a successful `next_value` / `parse_list` / `parse_vector` the scan finds nothing from the
    final position that it does not find from the start position -/
theorem post_steps (cfg : Cfg) : ∀ f : Nat,
    (∀ s, Post cfg s (nextValue cfg f s)) ∧
    (∀ term acc s, Post cfg s (parseList cfg f term acc s)) ∧
    (∀ term acc s, Post cfg s (parseVector cfg f term acc s)) := by
  intro f
  induction f with
  | zero =>
    refine ⟨?_, ?_, ?_⟩
    · intro s; rw [nextValue]; trivial
    · intro term acc s; rw [parseList]; trivial
    · intro term acc s; rw [parseVector]; trivial
  | succ f ih =>
    obtain ⟨ihV, ihL, ihX⟩ := ih
    exact ⟨value_post cfg f ihV ihL ihX, list_post cfg f ihV ihL, vector_post cfg f ihV ihX⟩

/-- behind an opening token: `enter`, then what the sub-parser exercises -/
theorem Sub_enter {cfg : Cfg} {ex : St → List OptName} {s0 s1 : St}
    (ih : ∀ s2, Sub (ex s2) (scanAll cfg s2)) (hg : Sub (scanAll cfg s1) (scanAll cfg s0)) :
    Sub (match enter s1 with | .ok () s2 => ex s2 | _ => []) (scanAll cfg s0) := by
  cases he : enter s1 with
  | ok u s2 =>
    cases u
    exact Sub.trans (ih s2) (Sub.trans (Good.of_rd (cfg := cfg) ((enter_inv he).2 ▸ rfl)) hg)
  | _ => exact Sub.nil _

theorem value_ex (cfg : Cfg) (f : Nat)
    (ihV : ∀ s, Sub (exValue cfg f s) (scanAll cfg s))
    (ihL : ∀ emp s, Sub (exList cfg f emp s) (scanAll cfg s))
    (ihX : ∀ s, Sub (exVector cfg f s) (scanAll cfg s))
    (s : St) : Sub (exValue cfg (f + 1) s) (scanAll cfg s) := by
  rw [exValue]
  cases hw : parseWhitespace s with
  | ok r s0 =>
    cases r with
    | none => exact Sub.nil _
    | some pk =>
      simp only
      rw [← scanAll_ws cfg hw]
      have hw0 := parseWhitespace_idem hw
      have hpk := parseWhitespace_some hw
      by_cases hc : (pk == 41 || pk == 93) = true
      · -- a closing delimiter is not a token, and exercises nothing
        obtain ⟨tl, hr⟩ := cons_of_head_some hpk
        rw [hr, tokenOpts_closer _ _ pk tl hc, ← hr]
        cases ht : parseToken cfg (s0.rd.rest.length + 1) pk s0 with
        | ok tok s1 => exact absurd ht (closer_not_token cfg _ pk s0 tok s1 hc)
        | _ => exact Sub.nil _
      · have hc' : (pk == 41 || pk == 93) = false := by simpa using hc
        have hscan := scanAll_token cfg hw0 hc'
        apply Sub.append
        · rw [hscan]; exact Sub.trans (Sub.left _ _) (Sub.left _ _)
        · cases ht : parseToken cfg (s0.rd.rest.length + 1) pk s0 with
          | ok tok s1 =>
            have hgood := (good_token cfg hw0 ht).1
            cases tok with
            | vecOpen close => exact Sub_enter ihX (hgood nofun)
            | listOpen close => exact Sub_enter (ihL true) (hgood nofun)
            | quotation q => exact Sub_enter ihV (hgood nofun)
            | _ => exact Sub.nil _
          | _ => exact Sub.nil _
  | _ => exact Sub.nil _

/-- an element, then what the rest of the sequence exercises behind it -/
theorem Sub_elem {cfg : Cfg} {f : Nat} {ex : St → List OptName} {s0 : St}
    (ihV : Sub (exValue cfg f s0) (scanAll cfg s0)) (ih : ∀ s1, Sub (ex s1) (scanAll cfg s1)) :
    Sub (exValue cfg f s0 ++
      (match nextValue cfg f s0 with | .ok (some _) s1 => ex s1 | _ => [])) (scanAll cfg s0) := by
  apply Sub.append ihV
  have hpost := (post_steps cfg f).1 s0
  cases hv : nextValue cfg f s0 with
  | ok v s1 =>
    rw [hv] at hpost
    cases v with
    | none => exact Sub.nil _
    | some v => exact Sub.trans (ih s1) hpost
  | _ => exact Sub.nil _

/-- the options one turn of the list loop exercises are found by the scan: `exList` follows the loop,
    and after each step that succeeded the scan from the new state finds no more than from the old
    one (`post_steps`, i.e. `Post`), so what the rest exercises (`ihV`, `ihL`) is found from `s` -/
theorem list_ex (cfg : Cfg) (f : Nat)
    (ihV : ∀ s, Sub (exValue cfg f s) (scanAll cfg s))
    (ihL : ∀ emp s, Sub (exList cfg f emp s) (scanAll cfg s))
    (emp : Bool) (s : St) : Sub (exList cfg (f + 1) emp s) (scanAll cfg s) := by
  rw [exList]
  cases hw : parseWhitespace s with
  | ok r s0 =>
    cases r with
    | none => exact Sub.nil _
    | some c =>
      simp only
      rw [← scanAll_ws cfg hw]
      have hw0 := parseWhitespace_idem hw
      by_cases hc : (c == 41 || c == 93) = true
      · simp only [hc, ↓reduceIte]; exact Sub.nil _
      simp only [hc, Bool.false_eq_true, ↓reduceIte]
      by_cases hdot : (c == 46) = true
      · obtain rfl : c = 46 := by simpa using hdot
        simp only [beq_self_eq_true, ↓reduceIte]
        cases hdp : (discard >>= fun _ => peekOrNull) s0 with
        | ok nxt s2 =>
          simp only
          obtain ⟨u, s1, hd, hp⟩ := bind_ok hdp
          by_cases hdel : (nxt == 0 || isDelimiter nxt) = true
          · simp only [hdel, ↓reduceIte]
            cases emp with
            | true => exact Sub.nil _
            | false =>
              simp only [Bool.false_eq_true, ↓reduceIte]
              exact Sub.trans (ihV s2) (good_dot_delim cfg hw0 hdp hdel)
          · simp only [hdel, Bool.false_eq_true, ↓reduceIte]
            cases hn : parseSymbolBytes [46] s2 with
            | ok name s3 =>
              obtain ⟨h1, h2⟩ := good_dot_name cfg hw0 hd hp hn
              exact Sub.append h1 (Sub.trans (ihL false s3) h2)
            | _ => exact Sub.nil _
        | _ => exact Sub.nil _
      · simp only [hdot, Bool.false_eq_true, ↓reduceIte]
        exact Sub_elem (ihV s0) (ihL false)
  | _ => exact Sub.nil _

theorem vector_ex (cfg : Cfg) (f : Nat)
    (ihV : ∀ s, Sub (exValue cfg f s) (scanAll cfg s))
    (ihX : ∀ s, Sub (exVector cfg f s) (scanAll cfg s))
    (s : St) : Sub (exVector cfg (f + 1) s) (scanAll cfg s) := by
  rw [exVector]
  cases hw : parseWhitespace s with
  | ok r s0 =>
    cases r with
    | none => exact Sub.nil _
    | some c =>
      simp only
      rw [← scanAll_ws cfg hw]
      by_cases hc : (c == 41 || c == 93) = true
      · simp only [hc, ↓reduceIte]; exact Sub.nil _
      · simp only [hc, Bool.false_eq_true, ↓reduceIte]
        exact Sub_elem (ihV s0) ihX
  | _ => exact Sub.nil _

theorem ex_sub (cfg : Cfg) : ∀ f : Nat,
    (∀ s, Sub (exValue cfg f s) (scanAll cfg s)) ∧
    (∀ emp s, Sub (exList cfg f emp s) (scanAll cfg s)) ∧
    (∀ s, Sub (exVector cfg f s) (scanAll cfg s)) := by
  intro f
  induction f with
  | zero =>
    refine ⟨?_, ?_, ?_⟩
    · intro s; rw [exValue]; exact Sub.nil _
    · intro emp s; rw [exList]; exact Sub.nil _
    · intro s; rw [exVector]; exact Sub.nil _
  | succ f ih =>
    obtain ⟨ihV, ihL, ihX⟩ := ih
    exact ⟨value_ex cfg f ihV ihL ihX, list_ex cfg f ihV ihL, vector_ex cfg f ihV ihX⟩

end C08

open C08 Spec

/-- the flat scan of the token stream covers every token the parser reads -/
theorem exercisedOp_sub (cfg : Cfg) (mode : Mode) (bytes : List UInt8) :
    ∀ n ∈ exercisedOp cfg mode bytes, n ∈ exercised cfg mode bytes :=
  (ex_sub cfg _).1 (initSt mode bytes)

/-- **C08_frame** — "two option sets that differ only in options an input does not exercise give
    identical results for it".  `Spec.exercised cfg mode bytes` is computed by one context-free
    pass over the token stream of `bytes` (skip trivia, classify the token at the head by its first
    bytes and its text — `Spec.tokenOpts` —, continue behind it).  If two configurations of the same
    build agree on every option in that set, `from_str` / `from_slice` / `from_reader` return the
    same outcome under both: the same value, or the same error code at the same position, and the
    same final reader state. -/
theorem C08_frame (c1 c2 : Cfg) (hb : SameBuild c1 c2) (mode : Mode) (bytes : List UInt8)
    (ha : AgreeOn (exercised c1 mode bytes) c1.opts c2.opts) :
    fromTrait c1 (initSt mode bytes) = fromTrait c2 (initSt mode bytes) :=
  C08_frame_op c1 c2 hb mode bytes (ha.mono (exercisedOp_sub c1 mode bytes))

def racketOpts : Options := { Options.default with racket := true }

/-- one input that exercises all ten options; the scan and the parser's own path agree on it -/
example : exercised (cfgOf racketOpts) .slice (asc "(foo: nil t [x] \"s\" ?c 12 #:k #%r :p)") =
    [.kwPostfix, .nil, .t, .brackets, .string, .char, .leadingDigit, .kwOctothorpe, .racket,
     .kwPrefix] := by decide +kernel

example : exercisedOp (cfgOf racketOpts) .slice (asc "(foo: nil t [x] \"s\" ?c 12 #:k #%r :p)") =
    exercised (cfgOf racketOpts) .slice (asc "(foo: nil t [x] \"s\" ?c 12 #:k #%r :p)") := by
  decide +kernel

/-- `(a (b . c) 'd #t #\\x +5 -)` exercises nothing, so every option set reads it alike -/
example : exercised (cfgOf Options.default) .slice (asc "(a (b . c) 'd #t #\\x +5 -)") = [] := by
  decide +kernel

example : fromTrait (cfgOf Options.default) (initSt .slice (asc "(a (b . c) 'd #t #\\x +5 -)")) =
    fromTrait (cfgOf Options.elisp) (initSt .slice (asc "(a (b . c) 'd #t #\\x +5 -)")) :=
  C08_frame (cfgOf Options.default) (cfgOf Options.elisp) ⟨rfl, rfl, rfl⟩ .slice _ (by decide +kernel)

/-- a byte vector is one token of the scan: its octets are read by `parse_number`, which
    consults nothing, and they do not count as digit-initial tokens -/
example : exercised (cfgOf Options.default) .slice (asc "(a #u8(1 2) b)") = [] := by decide +kernel

/-- the scan is context-free, hence coarser than the parser's own path: it goes on behind the
    first datum, where the parser stops with `TrailingCharacters` … -/
example : exercised (cfgOf Options.default) .slice (asc "#u8(1 2) nil") = [.nil] ∧
    exercisedOp (cfgOf Options.default) .slice (asc "#u8(1 2) nil") = [] := by decide +kernel

/-- … and a dot in front of a string is a dotted tail inside a list (the string option is
    exercised) but part of the symbol `."b"` elsewhere; the scan follows both readings -/
example : exercised (cfgOf Options.default) .slice (asc "(a .\"b\")") = [.string] ∧
    exercisedOp (cfgOf Options.default) .slice (asc "(a .\"b\")") = [.string] ∧
    exercised (cfgOf Options.default) .slice (asc "#(a .\"b\")") = [.string] ∧
    exercisedOp (cfgOf Options.default) .slice (asc "#(a .\"b\")") = [] := by decide +kernel

end Parse
end Lexpr

#print axioms Lexpr.Parse.exercisedOp_sub
#print axioms Lexpr.Parse.C08_frame
