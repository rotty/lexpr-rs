/-
  Correctness and call depth of the hand-written `Clone` / `PartialEq` / `Drop` of `SpanInfo` and of
  the derived `Clone` / `PartialEq` of `Datum` (model: LexprModel/ConsOpsDatum.lean).

  The same plan as for `Cons` (Proofs/ConsOps.lean, Proofs/ConsOpsDepth.lean) with `chainS` for
  `append` and `loopedS` for `Depth.looped`: plain and instrumented clone under one invariant
  (`cloneS_spec`), `==` decides equality (spans hold no floats) within `loopedS` of either side
  (`eqSI_spec_both`), drop within twice that (`dropSD_le`).
-/
import LexprModel.ConsOpsDatum
import LexprModel.ConsOpsDepth
import LexprModel.Proofs.ConsOpsDepth
namespace Lexpr
namespace ConsOps
open Parse

/-- the chain of `Cons` nodes with spans and cars `ys`, ending in `t` -/
def chainS : List (Span × SpanInfo) → SpanInfo → SpanInfo
  | [], t => t
  | (sp, a) :: ys, t => .cons sp a (chainS ys t)

theorem chainS_snoc (ys : List (Span × SpanInfo)) (sp : Span) (c t : SpanInfo) :
    chainS (ys ++ [(sp, c)]) t = chainS ys (.cons sp c t) := by
  induction ys with
  | nil => rfl
  | cons y ys ih => obtain ⟨s, a⟩ := y; simp [chainS, ih]

theorem nodeAt_chainS (ys : List (Span × SpanInfo)) (t : SpanInfo) :
    SI.nodeAt (chainS ys t) ys.length = some t := by
  induction ys with
  | nil => cases t <;> rfl
  | cons y ys ih => obtain ⟨s, a⟩ := y; simpa [chainS, SI.nodeAt] using ih

theorem setSlot1At_chainS (ys : List (Span × SpanInfo)) (sp : Span) (c d x : SpanInfo) :
    SI.setSlot1At (chainS ys (.cons sp c d)) ys.length x = some (chainS ys (.cons sp c x)) := by
  induction ys with
  | nil => rfl
  | cons y ys ih => obtain ⟨s, a⟩ := y; simp [chainS, SI.setSlot1At, ih]

theorem finishS_chainS (ys : List (Span × SpanInfo)) (sp : Span) (c d t : SpanInfo) :
    finishS (chainS ys (.cons sp c d)) ys.length (.ok t) = .ok (chainS ys (.cons sp c t)) := by
  simp [finishS, nodeAt_chainS, setSlot1At_chainS]

mutual
/-- The clone of a span tree is the tree itself, and the depth reached is exactly `loopedS s`
    (plain and instrumented loop together, as for `Cons`: `cloneV_spec`). -/
theorem cloneS_spec : ∀ s : SpanInfo, cloneS s = .ok s ∧ cloneSI s = (.ok s, loopedS s)
  | .prim sp => ⟨rfl, rfl⟩
  | .vec sp xs => by
    simp only [cloneS, cloneSI, cloneSList_spec xs, Out.map, loopedS, and_self]
  | .cons sp car cdr => by
    have h := cloneSWhile_spec cdr [] sp car (loopedS car)
    simp only [chainS, List.length_nil] at h
    simp only [cloneS, cloneSI, cloneS_spec car, h, loopedS, and_self]
theorem cloneSWhile_spec : ∀ (rest : SpanInfo) (ys : List (Span × SpanInfo)) (sp : Span)
    (c : SpanInfo) (k : Nat),
    cloneSWhile (chainS ys (cellS sp c)) ys.length rest = .ok (chainS ys (.cons sp c rest)) ∧
    cloneSWhileI (chainS ys (cellS sp c)) ys.length rest k
      = (.ok (chainS ys (.cons sp c rest)), max k (loopedSTail rest))
  | .cons sp' car cdr, ys, sp, c, k => by
    have ih := cloneSWhile_spec cdr (ys ++ [(sp, c)]) sp' car (max k (loopedS car))
    simp only [chainS_snoc, List.length_append, List.length_cons, List.length_nil,
      Nat.zero_add] at ih
    simp only [cloneSWhile, cloneSWhileI, cellS, nodeAt_chainS, cloneS_spec car, setSlot1At_chainS,
      loopedSTail, Nat.max_assoc] at ih ⊢
    exact ih
  | .vec sp' xs, ys, sp, c, k => by
    simp only [cloneSWhile, cloneSWhileI, cellS, cloneSList_spec xs, Out.map, finishS_chainS,
      loopedSTail, and_self]
  | .prim sp', ys, sp, c, k => by
    simp only [cloneSWhile, cloneSWhileI, cellS, finishS_chainS, loopedSTail, and_self]
theorem cloneSList_spec : ∀ xs : List SpanInfo,
    cloneSList xs = .ok xs ∧ cloneSListI xs = (.ok xs, loopedSList xs)
  | [] => ⟨rfl, rfl⟩
  | x :: xs => by
    simp only [cloneSList, cloneSListI, cloneS_spec x, cloneSList_spec xs, Out.map, loopedSList,
      and_self]
end

theorem cloneS_eq : ∀ s : SpanInfo, cloneS s = .ok s := fun s => (cloneS_spec s).1
theorem cloneSWhile_eq : ∀ (rest : SpanInfo) (ys : List (Span × SpanInfo)) (sp : Span) (c : SpanInfo),
    cloneSWhile (chainS ys (cellS sp c)) ys.length rest = .ok (chainS ys (.cons sp c rest)) :=
  fun rest ys sp c => (cloneSWhile_spec rest ys sp c 0).1
theorem cloneSList_eq : ∀ xs : List SpanInfo, cloneSList xs = .ok xs :=
  fun xs => (cloneSList_spec xs).1

theorem cloneS_no_panic (s : SpanInfo) : (cloneS s).isOk = true := by rw [cloneS_eq]; rfl

/-- cloning a datum gives the same value and the same span tree. -/
theorem cloneDatum_eq (d : Datum) : cloneDatum d = .ok d := by
  simp only [cloneDatum, clone_eq, cloneS_eq]

/-- By the case structure of `eqS`; `h` is the test that leaves the loop. -/
theorem eqS_iff_both :
    (∀ a b : SpanInfo, eqS a b = true ↔ a = b) ∧
    (∀ xs ys : List SpanInfo, eqSList xs ys = true ↔ xs = ys) := by
  apply eqS.mutual_induct
  · intro x y
    simp only [eqS, beq_iff_eq, SpanInfo.prim.injEq]
  · intro x xs y ys ih
    simp only [eqS, Bool.and_eq_true, beq_iff_eq, ih, SpanInfo.vec.injEq]
  · intro x xa xd y ya yd h ih
    rw [eqS, if_pos h]
    refine ⟨nofun, fun e => ?_⟩
    cases e
    rw [(ih).2 rfl] at h
    simp at h
  · intro x xa xd y ya yd h ih ih'
    rw [eqS, if_neg h, ih', SpanInfo.cons.injEq]
    simp only [Bool.or_eq_true, bne_iff_ne, ne_eq, Bool.not_eq_eq_eq_not, Bool.not_true, not_or,
      Decidable.not_not, Bool.not_eq_false, ih] at h
    exact ⟨fun e => ⟨h.1, h.2, e⟩, fun e => e.2.2⟩
  · intro a b h1 h2 h3
    rw [eqS.eq_4 a b h1 h2 h3]
    refine ⟨nofun, ?_⟩
    rintro rfl
    cases a with
    | prim sp => exact (h1 _ _ rfl rfl).elim
    | vec sp xs => exact (h2 _ _ _ _ rfl rfl).elim
    | cons sp a d => exact (h3 _ _ _ _ _ _ rfl rfl).elim
  · exact ⟨fun _ => rfl, fun _ => rfl⟩
  · intro x xs y ys ih ih'
    simp only [eqSList, Bool.and_eq_true, ih, ih', List.cons.injEq]
  · intro xs ys h1 h2
    rw [eqSList.eq_3 xs ys h1 h2]
    refine ⟨nofun, ?_⟩
    rintro rfl
    cases xs with
    | nil => exact (h1 rfl rfl).elim
    | cons x xs => exact (h2 _ _ _ _ rfl rfl).elim

/-- the hand-written comparison of span trees decides equality. -/
theorem eqS_iff : ∀ a b : SpanInfo, eqS a b = true ↔ a = b := eqS_iff_both.1
theorem eqSList_iff : ∀ xs ys : List SpanInfo, eqSList xs ys = true ↔ xs = ys := eqS_iff_both.2

theorem eqS_refl (s : SpanInfo) : eqS s s = true := (eqS_iff s s).mpr rfl

theorem eqS_symm (a b : SpanInfo) : eqS a b = eqS b a :=
  Bool.eq_iff_iff.2 (((eqS_iff a b).trans eq_comm).trans (eqS_iff b a).symm)

/-- two datums are `==` exactly when their values are (structural, IEEE on floats)
    and their span trees are identical. -/
theorem eqDatum_iff (a b : Datum) :
    eqDatum a b = true ↔ Value.beq a.value b.value = true ∧ a.info = b.info := by
  simp only [eqDatum, eqLoop_iff, Bool.and_eq_true, eqS_iff]

theorem cloneDatum_eqDatum (d : Datum) (h : nanFree d.value = true) :
    ∃ c, cloneDatum d = .ok c ∧ eqDatum d c = true :=
  ⟨d, cloneDatum_eq d, (eqDatum_iff d d).mpr ⟨beq_refl d.value h, rfl⟩⟩

theorem cloneSI_eq : ∀ s : SpanInfo, cloneSI s = (.ok s, loopedS s) := fun s => (cloneS_spec s).2
theorem cloneSWhileI_eq : ∀ (rest : SpanInfo) (ys : List (Span × SpanInfo)) (sp : Span)
    (c : SpanInfo) (k : Nat),
    cloneSWhileI (chainS ys (cellS sp c)) ys.length rest k
      = (.ok (chainS ys (.cons sp c rest)), max k (loopedSTail rest)) :=
  fun rest ys sp c k => (cloneSWhile_spec rest ys sp c k).2
theorem cloneSListI_eq : ∀ xs : List SpanInfo, cloneSListI xs = (.ok xs, loopedSList xs) :=
  fun xs => (cloneSList_spec xs).2

theorem cloneSI_fst (s : SpanInfo) : (cloneSI s).1 = cloneS s := by rw [cloneSI_eq, cloneS_eq]

theorem loopedS_pos (s : SpanInfo) : 1 ≤ loopedS s := by
  cases s <;> first | exact Nat.le_refl 1 | exact Nat.le_add_left 1 _

/-- Erasure, and: one call of `SpanInfo::eq` reaches at most `loopedS` levels (its own included) on
    either argument; the part below its frame also fits the tail measure.  By the case structure of
    `eqSI` / `eqSListI`. -/
theorem eqSI_spec_both :
    (∀ a b : SpanInfo,
      (eqSI a b).1 = eqS a b ∧
      (eqSI a b).2 + 1 ≤ loopedS a ∧ (eqSI a b).2 ≤ loopedSTail a ∧
      (eqSI a b).2 + 1 ≤ loopedS b ∧ (eqSI a b).2 ≤ loopedSTail b) ∧
    (∀ xs ys : List SpanInfo,
      (eqSListI xs ys).1 = eqSList xs ys ∧ (eqSListI xs ys).2 ≤ loopedSList xs ∧
        (eqSListI xs ys).2 ≤ loopedSList ys) := by
  apply eqSI.mutual_induct
  · intro x y
    exact ⟨rfl, Nat.le_refl 1, Nat.zero_le _, Nat.le_refl 1, Nat.zero_le _⟩
  · intro x xs y ys h ⟨l1, l2, l3⟩
    rw [eqSI, if_pos h, eqS, h, l1, loopedS, loopedS, loopedSTail, loopedSTail]
    exact ⟨rfl, Nat.succ_le_succ l2, Nat.le_succ_of_le l2, Nat.succ_le_succ l3, Nat.le_succ_of_le l3⟩
  · intro x xs y ys h
    rw [eqSI, if_neg h, eqS, Bool.eq_false_iff.2 h]
    exact ⟨rfl, loopedS_pos _, Nat.zero_le _, loopedS_pos _, Nat.zero_le _⟩
  · intro x xa xd y ya yd h
    rw [eqSI, if_pos h, eqS, h]
    exact ⟨rfl, loopedS_pos _, Nat.zero_le _, loopedS_pos _, Nat.zero_le _⟩
  · intro x xa xd y ya yd h k he ⟨h1, h2, _, h4, _⟩
    rw [he] at h1 h2 h4
    rw [eqSI, if_neg h, he, eqS, ← h1, loopedS, loopedS, loopedSTail, loopedSTail]
    refine ⟨?_, Nat.succ_le_succ (Nat.le_trans h2 (Nat.le_max_left ..)),
      Nat.le_trans h2 (Nat.le_max_left ..), Nat.succ_le_succ (Nat.le_trans h4 (Nat.le_max_left ..)),
      Nat.le_trans h4 (Nat.le_max_left ..)⟩
    rw [Bool.eq_false_iff.2 h]; rfl
  · intro x xa xd y ya yd h k he r k' he' ⟨h1, h2, _, h4, _⟩ ⟨t1, _, t3, _, t5⟩
    rw [he] at h1 h2 h4; rw [he'] at t1 t3 t5
    rw [eqSI, if_neg h, he, he', eqS, ← h1, ← t1, loopedS, loopedS, loopedSTail, loopedSTail]
    refine ⟨?_, Nat.succ_le_succ (Depth.max_le_max h2 t3), Depth.max_le_max h2 t3,
      Nat.succ_le_succ (Depth.max_le_max h4 t5), Depth.max_le_max h4 t5⟩
    rw [Bool.eq_false_iff.2 h]; rfl
  · intro a b h1 h2 h3
    rw [eqSI.eq_4 a b h1 h2 h3, eqS.eq_4 a b h1 h2 h3]
    exact ⟨rfl, loopedS_pos a, Nat.zero_le _, loopedS_pos b, Nat.zero_le _⟩
  · exact ⟨rfl, Nat.le_refl 0, Nat.le_refl 0⟩
  · intro x xs y ys k he ⟨h1, h2, _, h4, _⟩
    rw [he] at h1 h2 h4
    rw [eqSListI, he, eqSList, ← h1, loopedSList, loopedSList]
    exact ⟨rfl, Nat.le_trans h2 (Nat.le_max_left ..), Nat.le_trans h4 (Nat.le_max_left ..)⟩
  · intro x xs y ys k he r k' he' ⟨h1, h2, _, h4, _⟩ ⟨t1, t2, t3⟩
    rw [he] at h1 h2 h4; rw [he'] at t1 t2 t3
    rw [eqSListI, he, he', eqSList, ← h1, ← t1, loopedSList, loopedSList]
    exact ⟨rfl, Depth.max_le_max h2 t2, Depth.max_le_max h4 t3⟩
  · intro xs ys h1 h2
    rw [eqSListI.eq_3 xs ys h1 h2, eqSList.eq_3 xs ys h1 h2]
    exact ⟨rfl, Nat.zero_le _, Nat.zero_le _⟩

theorem eqSI_spec : ∀ a b : SpanInfo,
    (eqSI a b).1 = eqS a b ∧
    (eqSI a b).2 + 1 ≤ loopedS a ∧ (eqSI a b).2 ≤ loopedSTail a ∧
    (eqSI a b).2 + 1 ≤ loopedS b ∧ (eqSI a b).2 ≤ loopedSTail b := eqSI_spec_both.1
theorem eqSListI_spec : ∀ xs ys : List SpanInfo,
    (eqSListI xs ys).1 = eqSList xs ys ∧ (eqSListI xs ys).2 ≤ loopedSList xs ∧
      (eqSListI xs ys).2 ≤ loopedSList ys := eqSI_spec_both.2

theorem eqSI_fst (a b : SpanInfo) : (eqSI a b).1 = eqS a b := (eqSI_spec a b).1

/-- depth of one comparison (its own frame included) -/
theorem eqS_depth_le (a b : SpanInfo) :
    (eqSI a b).2 + 1 ≤ loopedS a ∧ (eqSI a b).2 + 1 ≤ loopedS b :=
  ⟨(eqSI_spec a b).2.1, (eqSI_spec a b).2.2.2.1⟩

theorem dropSD_unlinked (sp : Span) (car : SpanInfo) :
    dropSD (.cons sp car (.prim Span.empty)) = 1 + max (max (dropSD car) 1) 1 := by
  simp [dropSD, chainSD]

/-- `chainSD` is the deepest of the nodes the loop drops -/
theorem chainSD_nodes : ∀ s : SpanInfo, chainSD s = maxOf ((dropSChain s).map dropSD)
  | .cons sp car cdr => by
    simp only [chainSD, dropSChain, List.map_cons, maxOf, dropSD_unlinked, chainSD_nodes cdr]
  | .vec sp xs => by simp [chainSD, dropSChain, maxOf, dropSD]
  | .prim sp => by simp [chainSD, dropSChain, maxOf, dropSD]

/-- The depth of dropping a span tree is one level plus the deepest of the nodes
    dropped by the loop of `SpanInfo::drop` and of the glue on what the loop leaves in place. -/
theorem dropSD_loop (s : SpanInfo) :
    dropSD s = match (SpanInfo.dropLoop s).1 with
      | .cons _ car rest =>
        1 + max (max (dropSD car) (dropSD rest)) (maxOf ((SpanInfo.dropLoop s).2.map dropSD))
      | .vec _ xs => 1 + dropSListD xs
      | .prim _ => 1 := by
  cases s with
  | prim sp => simp [SpanInfo.dropLoop, unlink, dropSD]
  | vec sp xs => simp [SpanInfo.dropLoop, unlink, dropSD]
  | cons sp car cdr => simp [SpanInfo.dropLoop, unlink, dropSD, chainSD_nodes cdr]

mutual
theorem dropSD_le : ∀ s : SpanInfo, dropSD s ≤ 2 * loopedS s
  | .prim _ => by simp [dropSD, loopedS]
  | .vec _ xs => by have := dropSListD_le xs; simp only [dropSD, loopedS]; omega
  | .cons _ car cdr => by
    have h1 := dropSD_le car
    have h2 := chainSD_le cdr
    have := loopedS_pos car
    simp only [dropSD, loopedS]; omega
theorem chainSD_le : ∀ s : SpanInfo, chainSD s ≤ 2 * loopedSTail s + 1
  | .prim _ => by simp [chainSD, loopedSTail]
  | .vec _ xs => by have := dropSListD_le xs; simp only [chainSD, loopedSTail]; omega
  | .cons _ car cdr => by
    have h1 := dropSD_le car
    have h2 := chainSD_le cdr
    have := loopedS_pos car
    simp only [chainSD, loopedSTail]; omega
theorem dropSListD_le : ∀ xs : List SpanInfo, dropSListD xs ≤ 2 * loopedSList xs
  | [] => by simp [dropSListD]
  | x :: xs => by
    have h1 := dropSD_le x; have h2 := dropSListD_le xs
    simp only [dropSListD, loopedSList]; omega
end

/-- the span tree of a list of `n + 1` atoms -/
def flatS (n : Nat) : SpanInfo :=
  chainS (List.replicate (n + 1) (Span.empty, .prim Span.empty)) (.prim Span.empty)

theorem loopedSTail_flat (n : Nat) :
    loopedSTail (chainS (List.replicate n (Span.empty, .prim Span.empty)) (.prim Span.empty)) = 1 := by
  induction n with
  | zero => simp [chainS, loopedSTail]
  | succ n ih => simp [List.replicate_succ, chainS, loopedSTail, loopedS, ih]

/-- Whatever the number of elements, clone and `==` of the span tree of a flat list stay within 2
    levels, and drop within 4 (the measure `loopedS` of the chain `flatS n` is 2 for every `n`). -/
theorem loopedS_chain (n : Nat) :
    (cloneSI (flatS n)).2 = 2 ∧ (eqSI (flatS n) (flatS n)).2 + 1 ≤ 2 ∧ dropSD (flatS n) ≤ 4 := by
  have h : loopedS (flatS n) = 2 := by
    simp [flatS, List.replicate_succ, chainS, loopedS, loopedSTail_flat]
  refine ⟨by rw [cloneSI_eq, h], ?_, ?_⟩
  · have := (eqS_depth_le (flatS n) (flatS n)).1; omega
  · have := dropSD_le (flatS n); omega

end ConsOps
end Lexpr
