/-
  ImageLift — C13, the image of the parser: from tokens to values.

  `AllAtoms A v`: every atom leaf of `v` (through car, cdr and vector elements; `()` is not an
  atom) satisfies `A`.  `nextValue_img`: whatever `next_value` returns from a source that validates
  text has all its atoms in `AtomImg cfg` (the value form of `TokImg`), and its nesting — one level
  per list or vector, `()` counted as a level unless the reader turns the symbol `nil` into `()` —
  is strictly below the recursion budget it was read with.
-/
import LexprModel.Proofs.ImageTok
import LexprModel.Proofs.ImageDepth
import LexprModel.Proofs.ReaderWalk
namespace Lexpr
namespace Parse
namespace Image
open Utf8

mutual
def AllAtoms (A : Value → Prop) : Value → Prop
  | .cons a d => AllAtoms A a ∧ AllAtoms A d
  | .vector xs => AllAtomsSeq A xs
  | .null => True
  | .nil => A .nil
  | .bool b => A (.bool b)
  | .number n => A (.number n)
  | .char c => A (.char c)
  | .string x => A (.string x)
  | .symbol x => A (.symbol x)
  | .keyword x => A (.keyword x)
  | .bytes x => A (.bytes x)
def AllAtomsSeq (A : Value → Prop) : List Value → Prop
  | [] => True
  | x :: xs => AllAtoms A x ∧ AllAtomsSeq A xs
end

theorem allAtoms_append (A : Value → Prop) : ∀ (xs : List Value) (t : Value),
    AllAtomsSeq A xs → AllAtoms A t → AllAtoms A (Value.append xs t)
  | [], _, _, ht => by simpa [Value.append] using ht
  | x :: xs, t, h, ht => by
    simp only [AllAtomsSeq] at h
    simp only [Value.append, AllAtoms]
    exact ⟨h.1, allAtoms_append A xs t h.2 ht⟩

theorem allAtoms_list (A : Value → Prop) (xs : List Value) (h : AllAtomsSeq A xs) :
    AllAtoms A (Value.list xs) :=
  allAtoms_append A xs .null h (by simp only [AllAtoms])

theorem allAtomsSeq_snoc (A : Value → Prop) : ∀ (xs : List Value) (v : Value),
    AllAtomsSeq A xs → AllAtoms A v → AllAtomsSeq A (xs ++ [v])
  | [], v, _, hv => by simp only [List.nil_append, AllAtomsSeq]; exact ⟨hv, True.intro⟩
  | x :: xs, v, h, hv => by
    simp only [AllAtomsSeq] at h
    simp only [List.cons_append, AllAtomsSeq]
    exact ⟨h.1, allAtomsSeq_snoc A xs v h.2 hv⟩

def IsAtom (v : Value) : Prop := v.isCons = false ∧ v.isVector = false ∧ v ≠ .null

mutual
/-- the recursion behind `imp`, `and` and `impAtom` -/
theorem AllAtoms.imp2 {A B C : Value → Prop} (h : ∀ v, IsAtom v → A v → B v → C v) (v : Value)
    (ha : AllAtoms A v) (hb : AllAtoms B v) : AllAtoms C v := by
  cases v with
  | cons a d => exact ⟨AllAtoms.imp2 h a ha.1 hb.1, AllAtoms.imp2 h d ha.2 hb.2⟩
  | vector xs => exact AllAtomsSeq.imp2 h xs ha hb
  | null => trivial
  | _ => exact h _ ⟨rfl, rfl, nofun⟩ ha hb
theorem AllAtomsSeq.imp2 {A B C : Value → Prop} (h : ∀ v, IsAtom v → A v → B v → C v)
    (xs : List Value) (ha : AllAtomsSeq A xs) (hb : AllAtomsSeq B xs) : AllAtomsSeq C xs := by
  cases xs with
  | nil => trivial
  | cons x xs => exact ⟨AllAtoms.imp2 h x ha.1 hb.1, AllAtomsSeq.imp2 h xs ha.2 hb.2⟩
end

theorem AllAtoms.impAtom {A B : Value → Prop} (hab : ∀ v, IsAtom v → A v → B v) :
    ∀ v : Value, AllAtoms A v → AllAtoms B v :=
  fun v h => AllAtoms.imp2 (fun v hv a _ => hab v hv a) v h h
theorem AllAtomsSeq.impAtom {A B : Value → Prop} (hab : ∀ v, IsAtom v → A v → B v) :
    ∀ xs : List Value, AllAtomsSeq A xs → AllAtomsSeq B xs :=
  fun xs h => AllAtomsSeq.imp2 (fun v hv a _ => hab v hv a) xs h h

theorem AllAtoms.imp {A B : Value → Prop} (hab : ∀ v, A v → B v) :
    ∀ v : Value, AllAtoms A v → AllAtoms B v :=
  AllAtoms.impAtom fun v _ => hab v
theorem AllAtomsSeq.imp {A B : Value → Prop} (hab : ∀ v, A v → B v) :
    ∀ xs : List Value, AllAtomsSeq A xs → AllAtomsSeq B xs :=
  AllAtomsSeq.impAtom fun v _ => hab v

theorem AllAtoms.and {A B : Value → Prop} :
    ∀ v : Value, AllAtoms A v → AllAtoms B v → AllAtoms (fun x => A x ∧ B x) v :=
  AllAtoms.imp2 fun _ _ a b => ⟨a, b⟩
theorem AllAtomsSeq.and {A B : Value → Prop} :
    ∀ xs : List Value, AllAtomsSeq A xs → AllAtomsSeq B xs →
      AllAtomsSeq (fun x => A x ∧ B x) xs :=
  AllAtomsSeq.imp2 fun _ _ a b => ⟨a, b⟩

theorem AllAtoms.atom {A : Value → Prop} {a : Value} (hat : IsAtom a) (h : AllAtoms A a) :
    A a := by
  cases a with
  | cons a d => exact absurd hat.1 nofun
  | vector xs => exact absurd hat.2.1 nofun
  | null => exact absurd rfl hat.2.2
  | _ => exact h

/-- the value form of `TokImg` -/
def AtomImg (cfg : Cfg) : Value → Prop
  | .symbol n => SymImg cfg n
  | .keyword n => KwImg cfg n
  | .char c => isScalar c = true
  | .string s => Utf8.valid s = true
  | .number n => NumOK n
  | _ => True

mutual
/-- number of `enter`s pending at the deepest point while the printed text of the value is read;
    `z` is what `()` costs -/
def nq (z : Nat) : Value → Nat
  | .cons a d => 1 + max (nq z a) (nqTail z d)
  | .vector xs => 1 + nqSeq z xs
  | .null => z
  | _ => 0
def nqTail (z : Nat) : Value → Nat
  | .cons a d => max (nq z a) (nqTail z d)
  | .vector xs => 1 + nqSeq z xs
  | _ => 0
def nqSeq (z : Nat) : List Value → Nat
  | [] => 0
  | x :: xs => max (nq z x) (nqSeq z xs)
end

/-- `()` costs a level, except where the reader also makes it from the symbol `nil` -/
def nullCost (o : Options) : Nat := if o.nil = .emptyList then 0 else 1

theorem nullCost_le (o : Options) : nullCost o ≤ 1 := by unfold nullCost; split <;> omega

theorem nq_le_tail (z : Nat) (hz : z ≤ 1) (v : Value) : nq z v ≤ 1 + nqTail z v := by
  cases v <;> simp only [nq, nqTail] <;> omega

theorem nqTail_le (z : Nat) (v : Value) : nqTail z v ≤ nq z v := by
  cases v <;> simp only [nq, nqTail] <;> omega

theorem nqTail_append (z : Nat) (D : Nat) : ∀ (acc : List Value) (t : Value),
    (∀ x ∈ acc, nq z x < D) → nqTail z t < D → nqTail z (Value.append acc t) < D
  | [], t, _, ht => by simpa [Value.append] using ht
  | x :: xs, t, h, ht => by
    have h1 := h x (by simp)
    have h2 := nqTail_append z D xs t (fun y hy => h y (by simp [hy])) ht
    simp only [Value.append, nqTail]
    omega

theorem nqSeq_lt (z : Nat) (D : Nat) (hD : 1 ≤ D) : ∀ (xs : List Value),
    (∀ x ∈ xs, nq z x < D) → nqSeq z xs < D
  | [], _ => by simp only [nqSeq]; omega
  | x :: xs, h => by
    have h1 := h x (by simp)
    have h2 := nqSeq_lt z D hD xs (fun y hy => h y (by simp [hy]))
    simp only [nqSeq]
    omega

theorem nqSeq_mem (z : Nat) : ∀ (xs : List Value) (x : Value), x ∈ xs → nq z x ≤ nqSeq z xs
  | [], _, h => by cases h
  | y :: ys, x, h => by
    simp only [nqSeq]
    rcases List.mem_cons.mp h with rfl | h
    · omega
    · have := nqSeq_mem z ys x h; omega

/-! ### what the induction maintains: atoms in the image, nesting below a budget `D`

  The bound is only claimed of a budget of at least one: with none, a single token can still be
  read (every `enter` would be a panic), and its atoms are in the image all the same. -/

def ImgV (cfg : Cfg) (D : Nat) (v : Value) : Prop :=
  AllAtoms (AtomImg cfg) v ∧ (1 ≤ D → nq (nullCost cfg.opts) v < D)
/-- the same of a cdr: a pair costs nothing here, the list it continues is already counted -/
def ImgTail (cfg : Cfg) (D : Nat) (v : Value) : Prop :=
  AllAtoms (AtomImg cfg) v ∧ (1 ≤ D → nqTail (nullCost cfg.opts) v < D)
def ImgSeq (cfg : Cfg) (D : Nat) (xs : List Value) : Prop :=
  AllAtomsSeq (AtomImg cfg) xs ∧ (1 ≤ D → ∀ x ∈ xs, nq (nullCost cfg.opts) x < D)

section img
variable {cfg : Cfg} {D : Nat}

theorem ImgSeq.nil : ImgSeq cfg D [] := ⟨trivial, fun _ => nofun⟩

theorem ImgSeq.snoc {acc : List Value} {v : Value} (h : ImgSeq cfg D acc) (hv : ImgV cfg D v) :
    ImgSeq cfg D (acc ++ [v]) := by
  refine ⟨allAtomsSeq_snoc _ _ _ h.1 hv.1, fun hD x hx => ?_⟩
  rcases List.mem_append.mp hx with hx | hx
  · exact h.2 hD x hx
  · rw [List.mem_singleton.mp hx]; exact hv.2 hD

theorem ImgSeq.append {acc : List Value} {t : Value} (h : ImgSeq cfg D acc)
    (ht : ImgTail cfg D t) : ImgTail cfg D (Value.append acc t) :=
  ⟨allAtoms_append _ _ _ h.1 ht.1, fun hD => nqTail_append _ _ acc t (h.2 hD) (ht.2 hD)⟩

theorem ImgSeq.vector {xs : List Value} (h : ImgSeq cfg D xs) (hD : 1 ≤ D) :
    ImgV cfg (D + 1) (.vector xs) :=
  ⟨h.1, fun _ => by have := nqSeq_lt _ D hD xs (h.2 hD); simp only [nq]; omega⟩

theorem ImgTail.null : ImgTail cfg D .null := ⟨trivial, id⟩

theorem ImgV.tail {v : Value} (h : ImgV cfg D v) : ImgTail cfg D v :=
  ⟨h.1, fun hD => Nat.lt_of_le_of_lt (nqTail_le _ v) (h.2 hD)⟩

/-- a list read one level down, seen from outside -/
theorem ImgTail.value {v : Value} (h : ImgTail cfg D v) (hD : 1 ≤ D) : ImgV cfg (D + 1) v :=
  ⟨h.1, fun _ => by have := nq_le_tail _ (nullCost_le cfg.opts) v; have := h.2 hD; omega⟩

end img

/-- `()` as an atom is the symbol `nil` read under `NilSymbol::EmptyList` (`TokImg` of `.null`), and
    then it costs no level -/
theorem atom_img (cfg : Cfg) {tok : Token} {v : Value} {D : Nat} (ht : TokImg cfg tok)
    (h : tok.atom = some v) : ImgV cfg D v := by
  cases tok <;> simp only [Token.atom, Option.some.injEq] at h <;> (try cases h) <;>
    first
      | exact ⟨ht, id⟩
      | exact ⟨True.intro, id⟩
      | exact ⟨True.intro, by
          simp only [nq, nullCost, if_pos (show cfg.opts.nil = .emptyList from ht)]; exact id⟩

theorem symbolValue_img (cfg : Cfg) (name : List UInt8) {D : Nat}
    (h : TokImg cfg (symbolToken cfg.opts name)) :
    ImgV cfg D (symbolValue cfg.opts name) := by
  unfold symbolValue
  rcases symbolToken_cases cfg.opts name with hc | hc <;> rw [hc] at h ⊢ <;> exact ⟨h, id⟩

/-- the symbol `parse_list` reads after a dot that is not the pair marker -/
theorem dotsym_img (cfg : Cfg) {name : List UInt8} {s s' : St} {D : Nat}
    (h : parseSymbolBytes [46] s = .ok name s') (hm : s.rd.mode ≠ .str) :
    ImgV cfg D (symbolValue cfg.opts name) := by
  obtain ⟨body, rfl, -, hnt, hdot, hv, -⟩ := psb_inv h
  have hdot : 46 :: body ≠ [46] := hdot
  exact symbolValue_img cfg _ (symbolToken_img cfg (tl := body) (NonTerm.cons (by decide) hnt)
    (hv hm) (by decide) (fun h => absurd h.1 (by decide))
    (by simp [isSymbolExtended, hdot]))

theorem quote_img (cfg : Cfg) (q : Quote) : SymImg cfg q.name := by
  have hq : ∃ b tl, q.name = b :: tl ∧ isAsciiAlpha b = true ∧ NonTerm (b :: tl) ∧
      (b :: tl).getLast? ≠ some 58 ∧ b :: tl ≠ asc "nil" ∧ b :: tl ≠ asc "t" := by
    cases q <;> exact ⟨_, _, rfl, by decide +kernel⟩
  obtain ⟨b, tl, hq, ha, hnt, hl, hn, ht⟩ := hq
  rw [hq]
  refine ⟨hq ▸ U8.quoteName_valid q, hnt, Or.inl ⟨nameShape_intro cfg b tl hnt (by simp [ha]), ?_⟩⟩
  simp only [nameTok, ha, if_true, letterTok]
  rw [if_neg fun h => hl h.2, if_neg fun h => hn h.2, if_neg fun h => ht h.2]

theorem ImgV.quote {cfg : Cfg} {D : Nat} {d : Value} (q : Quote) (h : ImgV cfg D d)
    (hD : 1 ≤ D) : ImgV cfg (D + 1) (Value.list [.symbol q.name, d]) := by
  refine ⟨⟨quote_img cfg q, h.1, trivial⟩, fun _ => ?_⟩
  have := h.2 hD
  simp only [Value.list, Value.append, nq, nqTail]
  omega

def NoStr (s : St) : Prop := s.rd.mode ≠ .str

/-- the source validates text and the recursion budget is `D` -/
def Budget (D : Nat) (s : St) : Prop := NoStr s ∧ s.depth = D

theorem Budget.lexes {α : Type} {m : P α} (h : Lexes m) (D : Nat) :
    Hoare (Budget D) m fun _ => Budget D := fun s _ s' hr hs => by
  have a := h.ok hr
  exact ⟨by unfold NoStr; rw [a.mode]; exact hs.1, a.depth.trans hs.2⟩

/-! ### the walk over the parser

  `ReaderInv` of `ReaderWalk`, indexed by the recursion budget on entry: one level down the budget is
  one less and at least one (from a budget of one nothing is entered), which is what `ImgSeq.vector`,
  `ImgTail.value` and `ImgV.quote` ask for. -/

theorem imgWalk (cfg : Cfg) :
    ReaderInv cfg Budget (fun d D => d + 1 = D ∧ 1 ≤ d) (TokImg cfg) (fun _ => True)
      (ImgV cfg) (ImgTail cfg) (ImgSeq cfg) where
  ws D := Budget.lexes (Lexes.of_held .parseWhitespace) D
  tok D fuel pk s tok s' h hs :=
    ⟨Budget.lexes (Lexes.of_held (.parseToken trivial cfg pk (.refl fuel))) D s tok s' h hs.1,
      parseToken_img h (List.head?_eq_some_iff.1 hs.2) hs.1.1⟩
  clBytes _ := trivial
  clVec _ := trivial
  clList _ := trivial
  byteList D fuel close _ := Budget.lexes (Lexes.of_held (.parseByteList cfg close (.refl fuel))) D
  enter D s _ s' h hs := by
    obtain ⟨hr, hd, hd'⟩ := enter_inv h
    exact ⟨s'.depth, ⟨hs.2 ▸ hd, hd'⟩, by unfold NoStr; rw [hr]; exact hs.1, rfl⟩
  leave d D hu s _ s' h hs := by
    obtain ⟨hr, hd⟩ := leave_inv h
    exact ⟨by unfold NoStr; rw [hr]; exact hs.1, by rw [hd, hs.2]; exact hu.1⟩
  endSeq D close _ := Budget.lexes (Lexes.of_held (.endSeq close)) D
  dot D s a s' h hs := Budget.lexes Lexes.discard D s a s' h hs.1
  peek D := Budget.lexes (Lexes.of_held .peekOrNull) D
  dotsym D s name s' h hs :=
    ⟨Budget.lexes (Lexes.parseSymbolBytes [46]) D s name s' h hs,
      dotsym_img cfg h hs.1⟩
  atom hq h := atom_img cfg hq h
  bytes := ⟨trivial, id⟩
  vector hu h := hu.1 ▸ h.vector hu.2
  list hu h := hu.1 ▸ h.value hu.2
  quote q hu h := hu.1 ▸ h.quote q hu.2
  nil := ImgSeq.nil
  snoc h hv := h.snoc hv
  tnull := ImgTail.null
  append h ht := h.append ht
  tail h := h.tail

theorem nextValue_img {cfg : Cfg} {fuel : Nat} {s s' : St} {v : Value}
    (h : nextValue cfg fuel s = .ok (some v) s') (hm : s.rd.mode ≠ .str) (hd : 1 ≤ s.depth) :
    AllAtoms (AtomImg cfg) v ∧ nq (nullCost cfg.opts) v < s.depth :=
  have r := (((imgWalk cfg).readers fuel).1 _ _ _ _ h ⟨hm, rfl⟩).2 v rfl
  ⟨r.1, r.2 hd⟩

/-- The atoms part needs no recursion budget. -/
theorem nextValue_img_atoms {cfg : Cfg} {fuel : Nat} {s s' : St} {v : Value}
    (h : nextValue cfg fuel s = .ok (some v) s') (hm : s.rd.mode ≠ .str) :
    AllAtoms (AtomImg cfg) v :=
  ((((imgWalk cfg).readers fuel).1 _ _ _ _ h ⟨hm, rfl⟩).2 v rfl).1

end Image
end Parse
end Lexpr
