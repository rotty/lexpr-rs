/-
  What the reader primitives do to a state.

  `Rd.consume n` drops `n` bytes (all of them if there are fewer), clears the `peeked` flag and
  leaves mode and `faulty` alone; two of them compose by adding.  `Adv s s'` says that `s'` is `s`
  after some `consume` and some setting of `peeked`: that is all `peek`, `next`, `discard` and the
  scanners ever do, so every state a function of the lexer passes through is `Adv` of the one it
  started in (`Lexes`, in Lexes.lean), and whatever is kept by `consume` and by `peeked := b` is
  kept by the lexer.
-/
import LexprModel.Parse
namespace Lexpr
namespace Parse
namespace Rd

theorem consume_fields (n : Nat) : ∀ rd : Rd, (rd.consume n).rest = rd.rest.drop n ∧
    (rd.consume n).mode = rd.mode ∧ (rd.consume n).faulty = rd.faulty ∧
    (rd.consume n).peeked = false := by
  induction n with
  | zero => intro rd; simp [Rd.consume]
  | succ n ih =>
    intro rd
    cases hr : rd.rest with
    | nil => simp [Rd.consume, hr]
    | cons b bs => simp [Rd.consume, hr, ih]

theorem consume_rest (n : Nat) (rd : Rd) : (rd.consume n).rest = rd.rest.drop n :=
  (consume_fields n rd).1
theorem consume_mode (n : Nat) (rd : Rd) : (rd.consume n).mode = rd.mode :=
  (consume_fields n rd).2.1
theorem consume_faulty (n : Nat) (rd : Rd) : (rd.consume n).faulty = rd.faulty :=
  (consume_fields n rd).2.2.1
theorem consume_peeked (n : Nat) (rd : Rd) : (rd.consume n).peeked = false :=
  (consume_fields n rd).2.2.2

theorem consume_length (n : Nat) (rd : Rd) : (rd.consume n).rest.length = rd.rest.length - n := by
  rw [consume_rest, List.length_drop]

theorem consume_setPeeked (n : Nat) (rd : Rd) (p : Bool) :
    ({ rd with peeked := p } : Rd).consume n = rd.consume n := by
  cases n <;> simp only [Rd.consume]

theorem consume_consume (n m : Nat) (rd : Rd) : (rd.consume n).consume m = rd.consume (n + m) := by
  induction n generalizing rd with
  | zero => rw [Nat.zero_add]; exact consume_setPeeked m rd false
  | succ n ih =>
    rw [show n + 1 + m = (n + m) + 1 by omega]
    simp only [Rd.consume]
    split
    · cases m <;> simp [Rd.consume, *]
    · exact ih _

theorem consume_tags (rd : Rd) (m : Mode) (pk fl : Bool) (n : Nat) :
    ({ rd with mode := m, peeked := pk, faulty := fl } : Rd).consume n =
      { rd.consume n with mode := m, faulty := fl } := by
  induction n generalizing rd pk with
  | zero => rfl
  | succ n ih =>
    unfold Rd.consume
    cases rd.rest with
    | nil => rfl
    | cons b bs =>
      exact ih { rd with rest := bs, line := (advance rd.line rd.col b).1,
                         col := (advance rd.line rd.col b).2, peeked := false } false

/-- readers at the same point of the same input stay there: only the tags differ -/
theorem consume_congr {r₁ r₂ : Rd} (hr : r₁.rest = r₂.rest) (hl : r₁.line = r₂.line)
    (hc : r₁.col = r₂.col) (n : Nat) :
    r₂.consume n = { r₁.consume n with mode := r₂.mode, faulty := r₂.faulty } := by
  cases r₁; cases r₂; dsimp only at hr hl hc; subst hr hl hc
  exact consume_tags ⟨_, _, _, _, _, _⟩ _ _ _ n

end Rd

/-- `s'` is `s` after consuming `k` bytes, with the `peeked` flag set to `b`; the depth, the mode
    and `faulty` are those of `s`. -/
inductive Adv (s : St) : St → Prop where
  | mk (k : Nat) (b : Bool) : Adv s { s with rd := { s.rd.consume k with peeked := b } }

namespace Adv
variable {s s1 s' : St}

theorem refl (s : St) : Adv s s := .mk 0 s.rd.peeked
theorem consume (s : St) (n : Nat) : Adv s { s with rd := s.rd.consume n } :=
  .mk n (s.rd.consume n).peeked
theorem peeked (s : St) (b : Bool) : Adv s { s with rd := { s.rd with peeked := b } } := .mk 0 b

theorem trans (h1 : Adv s s1) (h2 : Adv s1 s') : Adv s s' := by
  cases h1 with | mk k b => cases h2 with | mk k' b' =>
  show Adv s { s with rd :=
    { ({ s.rd.consume k with peeked := b } : Rd).consume k' with peeked := b' } }
  rw [Rd.consume_setPeeked, Rd.consume_consume]; exact .mk _ _

theorem setDepth (h : Adv s s') (d : Nat) : Adv { s with depth := d } { s' with depth := d } := by
  cases h; exact .mk _ _

theorem depth (h : Adv s s') : s'.depth = s.depth := by cases h; rfl
theorem mode (h : Adv s s') : s'.rd.mode = s.rd.mode := by cases h; exact Rd.consume_mode _ _
theorem faulty (h : Adv s s') : s'.rd.faulty = s.rd.faulty := by
  cases h; exact Rd.consume_faulty _ _

theorem take_drop (h : Adv s s') : ∃ k, k ≤ s.rd.rest.length ∧
    s.rd.rest = s.rd.rest.take k ++ s'.rd.rest := by
  cases h with | mk k b =>
  refine ⟨min k s.rd.rest.length, Nat.min_le_right _ _, ?_⟩
  show _ = _ ++ (s.rd.consume k).rest
  rw [Rd.consume_rest]
  rcases Nat.le_total k s.rd.rest.length with hk | hk
  · rw [Nat.min_eq_left hk, List.take_append_drop]
  · rw [Nat.min_eq_right hk, List.take_length, List.drop_eq_nil_of_le hk, List.append_nil]

theorem suffix (h : Adv s s') : s'.rd.rest <:+ s.rd.rest := by
  obtain ⟨k, -, hk⟩ := h.take_drop; exact ⟨_, hk.symm⟩

theorem length_le (h : Adv s s') : s'.rd.rest.length ≤ s.rd.rest.length := h.suffix.length_le

theorem nil (h : Adv s s') (hs : s.rd.rest = []) : s'.rd.rest = [] :=
  List.eq_nil_of_length_eq_zero (by have := h.length_le; rw [hs] at this; simpa using this)

end Adv

/-- The state after consuming `n` bytes from `s`, with the peek flag set to `p`. -/
def adv (s : St) (n : Nat) (p : Bool) : St :=
  { rd := { s.rd.consume n with peeked := p }, depth := s.depth }

@[simp] theorem adv_rest (s : St) (n p) : (adv s n p).rd.rest = s.rd.rest.drop n := by
  simp [adv, Rd.consume_rest]
@[simp] theorem adv_mode (s : St) (n p) : (adv s n p).rd.mode = s.rd.mode := by
  simp [adv, Rd.consume_mode]
@[simp] theorem adv_faulty (s : St) (n p) : (adv s n p).rd.faulty = s.rd.faulty := by
  simp [adv, Rd.consume_faulty]
@[simp] theorem adv_peeked (s : St) (n p) : (adv s n p).rd.peeked = p := by simp [adv]
@[simp] theorem adv3_depth (s : St) (n p) : (adv s n p).depth = s.depth := by simp [adv]
@[simp] theorem adv_adv (s : St) (n m p q) : adv (adv s n p) m q = adv s (n + m) q := by
  unfold adv
  show ({ rd := { ({ s.rd.consume n with peeked := p } : Rd).consume m with peeked := q },
          depth := s.depth } : St) = _
  rw [Rd.consume_setPeeked, Rd.consume_consume]

theorem setPeeked_consume (rd : Rd) (n : Nat) :
    ({ rd.consume n with peeked := false } : Rd) = rd.consume n := by
  have h := Rd.consume_peeked n rd
  revert h
  cases rd.consume n
  simp

theorem adv_false (s : St) (n : Nat) : adv s n false = { s with rd := s.rd.consume n } := by
  unfold adv; rw [setPeeked_consume]

theorem adv_zero_self (s : St) : adv s 0 s.rd.peeked = s := by
  cases s with | mk rd d => cases rd; rfl

/-- `s'` is reached from `s` by consuming a chunk `w` with `Q w`; the source is the same.  This is
    `Adv` seen from the input: `Adv s s'` says how many bytes went and keeps every other field,
    `Ate Q s s'` names the bytes and says nothing of the rest of the state (`Adv.ate`).  `U8.Suf`,
    `ASuf`, `InTok.VC`, `Eats`, `LastQ` (Utf8Scan.lean) are this relation for five predicates on the
    chunk, and `Lead s pre s'` (TokenCase.lean) says of named bytes what `Ate (· = pre) s s'` says. -/
def U8.Ate (Q : List UInt8 → Prop) (s s' : St) : Prop :=
  s'.rd.mode = s.rd.mode ∧ ∃ w, Q w ∧ s.rd.rest = w ++ s'.rd.rest

namespace U8.Ate
variable {Q Q' : List UInt8 → Prop} {s s' : St}

theorem refl (h0 : Q []) (s : St) : Ate Q s s := ⟨rfl, [], h0, rfl⟩

theorem comp {Q1 Q2 : List UInt8 → Prop} {a b c : St} (h1 : Ate Q1 a b) (h2 : Ate Q2 b c)
    (hq : ∀ {x y}, Q1 x → Q2 y → Q (x ++ y)) : Ate Q a c :=
  let ⟨m1, w1, q1, r1⟩ := h1
  let ⟨m2, w2, q2, r2⟩ := h2
  ⟨m2.trans m1, w1 ++ w2, hq q1 q2, by rw [r1, r2, List.append_assoc]⟩

theorem mono (h : Ate Q s s') (hq : ∀ {w}, Q w → Q' w) : Ate Q' s s' :=
  let ⟨m, w, q, r⟩ := h; ⟨m, w, hq q, r⟩

/-- the chunk is determined by the two states: `Q` holds of any way of writing it -/
theorem of_eq {w : List UInt8} (h : Ate Q s s') (hw : s.rd.rest = w ++ s'.rd.rest) : Q w := by
  obtain ⟨_, w', q, hr⟩ := h
  rwa [List.append_cancel_right (hw.symm.trans hr)]

end U8.Ate

theorem Adv.ate {s s' : St} (h : Adv s s') : U8.Ate (fun _ => True) s s' :=
  let ⟨_, _, hk⟩ := h.take_drop; ⟨h.mode, _, trivial, hk⟩

/-- what an error that surfaces in `s'` from a run started in `s` tells -/
def Raised (s s' : St) : Err → Prop
  | .io => s.rd.faulty = true ∧ s'.rd.rest = []
  | .syntax _ l c => ∃ s1, Adv s s1 ∧ Adv s1 s' ∧
      (s1.rd.position = ⟨l, c⟩ ∨ s1.rd.peekPosition = ⟨l, c⟩)

theorem Raised.trans {s s1 s2 : St} {e : Err} (h : Adv s s1) (hr : Raised s1 s2 e) :
    Raised s s2 e := by
  cases e with
  | io => exact ⟨h.faulty ▸ hr.1, hr.2⟩
  | «syntax» c l k => obtain ⟨t, h1, h2, hp⟩ := hr; exact ⟨t, h.trans h1, h2, hp⟩

/-- an error raised earlier, thrown again later -/
theorem Raised.later {s0 s1 s2 : St} {e : Err} (hr : Raised s0 s1 e) (h : Adv s1 s2) :
    Raised s0 s2 e := by
  cases e with
  | io => exact ⟨hr.1, h.nil hr.2⟩
  | «syntax» c l k => obtain ⟨t, h1, h2, hp⟩ := hr; exact ⟨t, h1, h2.trans h, hp⟩

end Parse
end Lexpr
