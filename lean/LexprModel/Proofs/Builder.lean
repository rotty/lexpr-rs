/-
  The builder API of the two option types (`parse::Options`, `print::Options`): which field each
  `with_*` call assigns, that calls on different fields commute, that the last call on a field wins,
  that `with_keyword_syntax` accumulates while `with_keyword_syntaxes` replaces, that the presets are
  the documented chains of calls, and that every option set is reachable by a chain of calls.
  (Used by C08 — "each parser option changes exactly …" presupposes that setting one option leaves the
  others alone — and by C02, which quantifies over every option set.)
-/
import LexprModel.Options
namespace Lexpr

namespace Parse

inductive Field where | keywords | nil | t | brackets | string | char | racket | leadingDigit
  deriving DecidableEq, Repr

def Setter.field : Setter → Field
  | .addKeyword _ => .keywords | .setKeywords _ => .keywords
  | .nil _ => .nil | .t _ => .t | .brackets _ => .brackets | .string _ => .string
  | .char _ => .char | .racket _ => .racket | .leadingDigit _ => .leadingDigit

/-- the content of a field, as a number (for stating frame conditions uniformly) -/
def Options.get (o : Options) : Field → Nat
  | .keywords => o.kwPrefix.toNat + 2 * o.kwPostfix.toNat + 4 * o.kwOctothorpe.toNat
  | .nil => match o.nil with | .emptyList => 0 | .default => 1 | .special => 2
  | .t => match o.t with | .true_ => 0 | .default => 1
  | .brackets => match o.brackets with | .list => 0 | .vector => 1
  | .string => match o.string with | .r6rs => 0 | .elisp => 1
  | .char => match o.char with | .r6rs => 0 | .elisp => 1
  | .racket => o.racket.toNat
  | .leadingDigit => o.leadingDigit.toNat

theorem addKeyword_frame (o : Options) (k : KeywordSyntax) :
    (o.addKeyword k).nil = o.nil ∧ (o.addKeyword k).t = o.t ∧ (o.addKeyword k).brackets = o.brackets ∧
    (o.addKeyword k).string = o.string ∧ (o.addKeyword k).char = o.char ∧
    (o.addKeyword k).racket = o.racket ∧ (o.addKeyword k).leadingDigit = o.leadingDigit := by
  cases k <;> simp [Options.addKeyword]

theorem addKeywords_frame (ks : List KeywordSyntax) : ∀ o : Options,
    (ks.foldl Options.addKeyword o).nil = o.nil ∧ (ks.foldl Options.addKeyword o).t = o.t ∧
    (ks.foldl Options.addKeyword o).brackets = o.brackets ∧
    (ks.foldl Options.addKeyword o).string = o.string ∧ (ks.foldl Options.addKeyword o).char = o.char ∧
    (ks.foldl Options.addKeyword o).racket = o.racket ∧
    (ks.foldl Options.addKeyword o).leadingDigit = o.leadingDigit := by
  induction ks with
  | nil => intro o; simp
  | cons k ks ih =>
    intro o
    have h1 := ih (o.addKeyword k)
    have h2 := addKeyword_frame o k
    simp only [List.foldl_cons]
    refine ⟨h1.1.trans h2.1, h1.2.1.trans h2.2.1, h1.2.2.1.trans h2.2.2.1, h1.2.2.2.1.trans h2.2.2.2.1,
      h1.2.2.2.2.1.trans h2.2.2.2.2.1, h1.2.2.2.2.2.1.trans h2.2.2.2.2.2.1,
      h1.2.2.2.2.2.2.trans h2.2.2.2.2.2.2⟩

/-- **builder_frame**: a setter leaves every field other than its own unchanged. -/
theorem builder_frame (o : Options) (st : Setter) (f : Field) (h : f ≠ st.field) :
    (o.set st).get f = o.get f := by
  cases st with
  | addKeyword k => cases k <;> cases f <;> first | rfl | exact absurd rfl h
  | setKeywords ks =>
    obtain ⟨f1, f2, f3, f4, f5, f6, f7⟩ :=
      addKeywords_frame ks { o with kwPrefix := false, kwPostfix := false, kwOctothorpe := false }
    cases f <;> first
      | exact absurd rfl h
      | simp only [Options.set, Options.get, f1, f2, f3, f4, f5, f6, f7]
  | nil _ | t _ | brackets _ | string _ | char _ | racket _ | leadingDigit _ =>
    cases f <;> first | rfl | exact absurd rfl h

theorem toNat_inj {a b : Bool} (h : a.toNat = b.toNat) : a = b := by
  cases a <;> cases b <;> first | rfl | cases h

/-- an option set is determined by its eight fields -/
theorem options_ext (a b : Options) (h : ∀ f, a.get f = b.get f) : a = b := by
  have h1 := h .keywords; have h2 := h .nil; have h3 := h .t; have h4 := h .brackets
  have h5 := h .string; have h6 := h .char; have h7 := h .racket; have h8 := h .leadingDigit
  cases a with
  | mk a1 a2 a3 a4 a5 a6 a7 a8 a9 a10 =>
    cases b with
    | mk b1 b2 b3 b4 b5 b6 b7 b8 b9 b10 =>
      simp only [Options.get] at h1 h2 h3 h4 h5 h6 h7 h8
      -- the three keyword flags are the binary digits of the field's code
      have k1 := Bool.toNat_le a1; have k2 := Bool.toNat_le a2; have k3 := Bool.toNat_le a3
      have l1 := Bool.toNat_le b1; have l2 := Bool.toNat_le b2; have l3 := Bool.toNat_le b3
      have e1 : a1 = b1 := toNat_inj (by omega)
      have e2 : a2 = b2 := toNat_inj (by omega)
      have e3 : a3 = b3 := toNat_inj (by omega)
      have e4 : a4 = b4 := by cases a4 <;> cases b4 <;> first | rfl | cases h2
      have e5 : a5 = b5 := by cases a5 <;> cases b5 <;> first | rfl | cases h3
      have e6 : a6 = b6 := by cases a6 <;> cases b6 <;> first | rfl | cases h4
      have e7 : a7 = b7 := by cases a7 <;> cases b7 <;> first | rfl | cases h5
      have e8 : a8 = b8 := by cases a8 <;> cases b8 <;> first | rfl | cases h6
      rw [e1, e2, e3, e4, e5, e6, e7, e8, toNat_inj h7, toNat_inj h8]

theorem set_addKeyword (o : Options) (k : KeywordSyntax) (st : Setter) (h : st.field ≠ .keywords) :
    (o.addKeyword k).set st = (o.set st).addKeyword k := by
  cases st <;> cases k <;> first | rfl | exact absurd rfl h

theorem set_addKeywords (ks : List KeywordSyntax) (st : Setter) (h : st.field ≠ .keywords) :
    ∀ o : Options, (ks.foldl Options.addKeyword o).set st = ks.foldl Options.addKeyword (o.set st) := by
  induction ks with
  | nil => intro o; rfl
  | cons k ks ih => intro o; simp only [List.foldl_cons]; rw [ih, set_addKeyword o k st h]

theorem set_clearKeywords (o : Options) (st : Setter) (h : st.field ≠ .keywords) :
    ({ o with kwPrefix := false, kwPostfix := false, kwOctothorpe := false } : Options).set st =
    { o.set st with kwPrefix := false, kwPostfix := false, kwOctothorpe := false } := by
  cases st <;> first | rfl | exact absurd rfl h

theorem keyword_commute (o : Options) (s1 s2 : Setter) (h1 : s1.field = .keywords)
    (h2 : s2.field ≠ .keywords) : (o.set s1).set s2 = (o.set s2).set s1 := by
  cases s1 with
  | addKeyword k => exact set_addKeyword o k s2 h2
  | setKeywords ks =>
    show (ks.foldl Options.addKeyword _).set s2 = ks.foldl Options.addKeyword _
    rw [set_addKeywords ks s2 h2, set_clearKeywords o s2 h2]
  | nil _ | t _ | brackets _ | string _ | char _ | racket _ | leadingDigit _ => cases h1

/-- what a setter of a field other than the keyword set assigns does not depend on the option
    set it is applied to -/
theorem set_get_own (o o' : Options) (st : Setter) (h : st.field ≠ .keywords) :
    (o.set st).get st.field = (o'.set st).get st.field := by
  cases st <;> first | rfl | exact absurd rfl h

/-- **builder_commute**: calls that assign different fields commute. -/
theorem builder_commute (o : Options) (s1 s2 : Setter) (h : s1.field ≠ s2.field) :
    (o.set s1).set s2 = (o.set s2).set s1 := by
  by_cases k1 : s1.field = .keywords
  · exact keyword_commute o s1 s2 k1 (fun e => h (k1.trans e.symm))
  · by_cases k2 : s2.field = .keywords
    · exact (keyword_commute o s2 s1 k2 k1).symm
    · -- field by field: each side has `s1`'s value in `s1`'s field, `s2`'s in `s2`'s, `o` elsewhere
      refine options_ext _ _ fun f => ?_
      by_cases h1 : f = s1.field
      · subst h1
        rw [builder_frame _ s2 _ h, set_get_own o (o.set s2) s1 k1]
      · by_cases h2 : f = s2.field
        · subst h2
          rw [builder_frame _ s1 _ h1, set_get_own (o.set s1) o s2 k2]
        · rw [builder_frame _ s2 _ h2, builder_frame _ s1 _ h1, builder_frame _ s1 _ h1,
            builder_frame _ s2 _ h2]

/-- **builder_last_wins**: of two assignments to the same (non-keyword) field, or with a
    `with_keyword_syntaxes` second, only the second counts. -/
theorem builder_last_wins (o : Options) (s1 s2 : Setter) (h : s1.field = s2.field)
    (h2 : ∀ k, s2 ≠ .addKeyword k) : (o.set s1).set s2 = o.set s2 := by
  by_cases hk : s2.field = .keywords
  · cases s2 with
    | addKeyword k => exact absurd rfl (h2 k)
    | setKeywords ks =>
      cases s1 with
      | addKeyword k => cases k <;> rfl
      | setKeywords ks' =>
        show ks.foldl Options.addKeyword _ = ks.foldl Options.addKeyword _
        congr 1
        have fr := addKeywords_frame ks'
          { o with kwPrefix := false, kwPostfix := false, kwOctothorpe := false }
        show ({ (ks'.foldl Options.addKeyword
            { o with kwPrefix := false, kwPostfix := false, kwOctothorpe := false }) with
            kwPrefix := false, kwPostfix := false, kwOctothorpe := false } : Options) = _
        generalize ks'.foldl Options.addKeyword
          { o with kwPrefix := false, kwPostfix := false, kwOctothorpe := false } = o' at fr
        cases o'; cases o
        obtain ⟨rfl, rfl, rfl, rfl, rfl, rfl, rfl⟩ := fr
        rfl
      | nil _ | t _ | brackets _ | string _ | char _ | racket _ | leadingDigit _ => cases h
    | nil _ | t _ | brackets _ | string _ | char _ | racket _ | leadingDigit _ => cases hk
  · -- the field of `s2` gets `s2`'s value on both sides, no other field is touched
    refine options_ext _ _ fun f => ?_
    by_cases hf : f = s2.field
    · subst hf; exact set_get_own _ _ _ hk
    · rw [builder_frame _ s2 _ hf, builder_frame _ s2 _ hf, builder_frame _ s1 _ (h ▸ hf)]

/-- `with_keyword_syntax` accumulates: after it the spelling is enabled and the others are as before -/
theorem builder_addKeyword (o : Options) (k k' : KeywordSyntax) :
    (o.set (.addKeyword k)).keyword k' = (o.keyword k' || k == k') := by
  cases k <;> cases k' <;> simp [Options.set, Options.addKeyword, Options.keyword]

/-- `with_keyword_syntaxes` replaces: exactly the listed spellings are enabled afterwards -/
theorem builder_setKeywords (o : Options) (ks : List KeywordSyntax) (k' : KeywordSyntax) :
    (o.set (.setKeywords ks)).keyword k' = ks.contains k' := by
  show (ks.foldl Options.addKeyword _).keyword k' = _
  have gen : ∀ (ks : List KeywordSyntax) (o : Options),
      (ks.foldl Options.addKeyword o).keyword k' = (o.keyword k' || ks.contains k') := by
    intro ks
    induction ks with
    | nil => intro o; simp
    | cons k ks ih =>
      intro o
      simp only [List.foldl_cons, ih, List.contains_cons]
      have := builder_addKeyword o k k'
      simp only [Options.set] at this
      rw [this]
      cases k <;> cases k' <;> cases o.keyword _ <;> simp <;>
        (first | (have e : ∀ a b : KeywordSyntax, (a == b) = (b == a) := by intro a b; cases a <;> cases b <;> rfl
                  rw [e]))
  rw [gen]
  cases k' <;> simp [Options.keyword]

/-- the presets are the documented chains of calls -/
theorem builder_elisp : Options.elisp = Options.build Options.new
    [.addKeyword .colonPrefix, .nil .emptyList, .brackets .vector, .string .elisp, .char .elisp,
     .leadingDigit true] := rfl

theorem builder_default : Options.default = Options.build Options.new [.addKeyword .octothorpe] := rfl

/-- **builder_reachable**: every one of the 1536 parser option sets is the result of a chain of
    builder calls from `Options::new()`. -/
theorem builder_reachable (r : Options) : ∃ ops, Options.build Options.new ops = r := by
  refine ⟨[.setKeywords ((if r.kwPrefix then [.colonPrefix] else []) ++
      (if r.kwPostfix then [.colonPostfix] else []) ++ (if r.kwOctothorpe then [.octothorpe] else [])),
      .nil r.nil, .t r.t, .brackets r.brackets, .string r.string, .char r.char, .racket r.racket,
      .leadingDigit r.leadingDigit], ?_⟩
  cases r with
  | mk a b c n t br s ch ra d =>
    cases a <;> cases b <;> cases c <;> rfl

example : (Options.build Options.elisp [.racket true, .setKeywords [.colonPostfix]]).racket = true ∧
    (Options.build Options.elisp [.racket true, .setKeywords [.colonPostfix]]).leadingDigit = true ∧
    (Options.build Options.elisp [.racket true, .setKeywords [.colonPostfix]]).kwPrefix = false := by
  decide

end Parse

namespace Print

inductive Field where | keyword | nil | bool | vector | bytes | string | char
  deriving DecidableEq, Repr

def Setter.field : Setter → Field
  | .keyword _ => .keyword | .nil _ => .nil | .bool _ => .bool | .vector _ => .vector
  | .bytes _ => .bytes | .string _ => .string | .char _ => .char

/-- calls that assign different fields commute -/
theorem builder_commute (o : Options) (s1 s2 : Setter) (h : s1.field ≠ s2.field) :
    (o.set s1).set s2 = (o.set s2).set s1 := by
  cases s1 <;> cases s2 <;> first | rfl | exact absurd rfl h

/-- the last assignment to a field wins -/
theorem builder_last_wins (o : Options) (s1 s2 : Setter) (h : s1.field = s2.field) :
    (o.set s1).set s2 = o.set s2 := by
  cases s1 <;> cases s2 <;> first | rfl | cases h

/-- a setter assigns its own field and nothing else -/
theorem builder_frame (o : Options) (st : Setter) :
    (st.field ≠ .keyword → (o.set st).keyword = o.keyword) ∧ (st.field ≠ .nil → (o.set st).nil = o.nil) ∧
    (st.field ≠ .bool → (o.set st).bool = o.bool) ∧ (st.field ≠ .vector → (o.set st).vector = o.vector) ∧
    (st.field ≠ .bytes → (o.set st).bytes = o.bytes) ∧ (st.field ≠ .string → (o.set st).string = o.string) ∧
    (st.field ≠ .char → (o.set st).char = o.char) := by
  cases st <;> simp [Options.set, Setter.field]

theorem builder_elisp : Options.elisp = Options.build Options.default
    [.keyword .colonPrefix, .nil .symbol, .bool .symbol, .vector .brackets, .bytes .elisp,
     .string .elisp, .char .elisp] := rfl

/-- every one of the 576 printer option sets is reachable from the default -/
theorem builder_reachable (p : Options) : ∃ ops, Options.build Options.default ops = p :=
  ⟨[.keyword p.keyword, .nil p.nil, .bool p.bool, .vector p.vector, .bytes p.bytes, .string p.string,
    .char p.char], by cases p; rfl⟩

end Print
end Lexpr
