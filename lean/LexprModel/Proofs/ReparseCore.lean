/-
  C11, re-parse clause — the framework.

  "End of input acts like a delimiter": the converse direction of prefix determinism
  (PrefixDet.lean).  A run (`S`, the *full* run) over `x ++ r` that stops without consuming
  anything of `r` is compared with the run (`s`, the *truncated* run) over `x` alone.

  `TRel r S s`: the full state `S` has the unread input of the truncated state `s` followed by `r`,
  the same mode, `s` is not faulty, and the depth budget of `s` is at least that of `S`.  Line,
  column and the `peeked` flag are unconstrained: values do not depend on them (position
  independence), and the fuel of the two runs is unrelated (the truncated run may answer
  "out of fuel"; the public entry points never do).

  `TrK k m m'`: if the full run `m S` succeeds in `S'`, then
    * the frame: it did not grow the input and restored the depth budget, and
    * if at least `k` bytes in front of `r` are left (`k = 1`: strictly before the boundary,
      `k = 0`: possibly exactly at the boundary, having at most peeked the first byte of `r`),
      the truncated run `m' s` returns the same value in a related state (or runs out of fuel).
  Strictly before the boundary the full run never saw `r`; `TrK 1` is proved where it is used
  (`peek_t1`, the list and vector loops).  `TrK 0` fails for `peek` itself and holds for a function
  only if the code treats end of input like the byte it peeked: each `peek` site needs an analysis
  of the boundary case, `Bd b m m'` (the full run has peeked `b`, the first byte of `r`, where the
  truncated run saw the end of input).  `T3` puts the two cases of a site into one statement.
-/
import LexprModel.Proofs.Spans
import LexprModel.Proofs.Primitives
namespace Lexpr
namespace Parse
namespace Reparse
open Progress Spans

def TRel (r : List UInt8) (S s : St) : Prop :=
  S.rd.rest = s.rd.rest ++ r ∧ S.rd.mode = s.rd.mode ∧ s.rd.faulty = false ∧ S.depth ≤ s.depth

/-- the truncated run follows: same value, related state — or it ran out of fuel -/
def Fol {α : Type} (r : List UInt8) (a : α) (S' : St) (res : Res α) : Prop :=
  res = .fuel ∨ ∃ s', res = .ok a s' ∧ TRel r S' s'

def Fr (S S' : St) : Prop := S'.rd.rest.length ≤ S.rd.rest.length ∧ S'.depth = S.depth

theorem Fr.refl (S : St) : Fr S S := ⟨Nat.le_refl _, rfl⟩
theorem Fr.trans {a b c : St} (h1 : Fr a b) (h2 : Fr b c) : Fr a c :=
  ⟨Nat.le_trans h2.1 h1.1, h2.2.trans h1.2⟩

def TrK {α : Type} (k : Nat) (m m' : P α) : Prop :=
  ∀ (r : List UInt8) (S s : St) (a : α) (S' : St), TRel r S s → m S = .ok a S' →
    Fr S S' ∧ (r.length + k ≤ S'.rd.rest.length → Fol r a S' (m' s))

/-- the boundary case: the truncated input is exhausted, the full run sees `b` next and does
    not consume it -/
def Bd {α : Type} (b : UInt8) (m m' : P α) : Prop :=
  ∀ (r' : List UInt8) (S s : St) (a : α) (S' : St), TRel (b :: r') S s → s.rd.rest = [] →
    m S = .ok a S' → r'.length + 1 ≤ S'.rd.rest.length → Fol (b :: r') a S' (m' s)

def MonoOk {α : Type} (m : P α) : Prop :=
  ∀ S a S', m S = .ok a S' → S'.rd.rest.length ≤ S.rd.rest.length

def Prog {α : Type} (m : P α) : Prop :=
  ∀ S a S', S.rd.rest ≠ [] → m S = .ok a S' → S'.rd.rest.length < S.rd.rest.length

def FrOk {α : Type} (m : P α) : Prop := ∀ S a S', m S = .ok a S' → Fr S S'

/-- `S` with its input emptied: a truncated state to which every `S` is related (with `r` all of
    its input), so that the frame half of a `TrK` statement can be had by itself -/
def emptied (S : St) : St := { S with rd := { S.rd with rest := [], faulty := false } }

theorem trel_emptied (S : St) : TRel S.rd.rest S (emptied S) :=
  ⟨by simp [emptied], rfl, rfl, Nat.le_refl _⟩

section rules
variable {α β : Type} {k : Nat}

theorem TrK.frame {m m' : P α} (h : TrK k m m') : FrOk m :=
  fun S a S' hr => (h S.rd.rest S (emptied S) a S' (trel_emptied S) hr).1

theorem FrOk.mono {m : P α} (h : FrOk m) : MonoOk m := fun S a S' hr => (h S a S' hr).1

theorem TrK.weaken {m m' : P α} (h : TrK 0 m m') : TrK k m m' := by
  intro r S s a S' hrel hr
  obtain ⟨fr, t⟩ := h r S s a S' hrel hr
  exact ⟨fr, fun hl => t (by omega)⟩

/-- the rule for `>>=`: the first part has to be followed only `j` bytes before the boundary when
    the second, which is followed `k` bytes before it, consumes the difference -/
theorem TrK.bind_shift {j : Nat} {m m' : P α} {f f' : α → P β} (hm : TrK j m m')
    (hf : ∀ a, TrK k (f a) (f' a))
    (hp : ∀ a S b S', f a S = .ok b S' → S'.rd.rest.length + j ≤ S.rd.rest.length + k) :
    TrK k (m >>= f) (m' >>= f') := by
  intro r S s b S' hrel h
  obtain ⟨a, S1, h1, h2⟩ := bind_ok h
  obtain ⟨fr1, t1⟩ := hm r S s a S1 hrel h1
  refine ⟨fr1.trans ((hf a).frame S1 b S' h2), fun hl => ?_⟩
  rcases t1 (by have := hp a S1 b S' h2; omega) with hfu | ⟨s1, hs1, hrel1⟩
  · exact Or.inl (bind_fuel hfu)
  · rw [bind_ok_eq hs1]
    exact (hf a r S1 s1 b S' hrel1 h2).2 hl

theorem TrK.bind {m m' : P α} {f f' : α → P β} (hm : TrK k m m') (hf : ∀ a, TrK k (f a) (f' a)) :
    TrK k (m >>= f) (m' >>= f') :=
  TrK.bind_shift hm hf fun a S b S' h => Nat.add_le_add_right ((hf a).frame S b S' h).1 k

theorem TrK.bind_prog {m m' : P α} {f f' : α → P β} (hm : TrK 1 m m')
    (hf : ∀ a, TrK 0 (f a) (f' a))
    (hp : ∀ a S b S', f a S = .ok b S' → S'.rd.rest.length < S.rd.rest.length) :
    TrK 0 (m >>= f) (m' >>= f') :=
  TrK.bind_shift hm hf hp

theorem TrK.pure {a : α} : TrK k (pure a : P α) (pure a) := by
  intro r S s b S' hrel h
  cases h
  exact ⟨Fr.refl _, fun _ => Or.inr ⟨s, rfl, hrel⟩⟩

theorem TrK.of_neverOk {m m' : P α} (h : NeverOk m) : TrK k m m' :=
  fun _ S _ a S' _ hr => absurd hr (h S a S')

theorem TrK.errAt {c : Code} {m' : P α} : TrK k (errAt c : P α) m' := TrK.of_neverOk NeverOk.errAt
theorem TrK.peekErr {c : Code} {m' : P α} : TrK k (peekErr c : P α) m' :=
  TrK.of_neverOk NeverOk.peekErr
theorem TrK.panicAt {p : Site} {m' : P α} : TrK k (panicAt p : P α) m' :=
  TrK.of_neverOk NeverOk.panicAt
theorem TrK.outOfFuel {m' : P α} : TrK k (outOfFuel : P α) m' := TrK.of_neverOk NeverOk.outOfFuel
theorem TrK.rawErr {e : Err} {m' : P α} : TrK k (fun s' => Res.err e s' : P α) m' :=
  TrK.of_neverOk NeverOk.rawErr

theorem TrK.fuel0 {m m' : P α} (h : m = Parse.outOfFuel) : TrK k m m' := h ▸ TrK.outOfFuel

/-- the truncated run is out of fuel: only the frame of the full run is needed -/
theorem TrK.right_fuel {m m' : P α} (hfr : FrOk m) (h : m' = Parse.outOfFuel) : TrK k m m' := by
  intro r S s a S' _ hr
  exact ⟨hfr S a S' hr, fun _ => Or.inl (by rw [h]; rfl)⟩

/-- a function with a fuel argument: it is enough to treat positive fuel on the right -/
theorem TrK.fuel_cases {m : P α} {G : Nat → P α} (h0 : G 0 = Parse.outOfFuel)
    (main : ∀ g, TrK k m (G (g + 1))) : ∀ f', TrK k m (G f') := by
  intro f'
  cases f' with
  | zero => exact TrK.right_fuel (main 0).frame h0
  | succ g => exact main g

theorem TrK.liftExcept {x : Except Err α} : TrK k (liftExcept x) (liftExcept x) := by
  cases x with
  | ok a => exact TrK.pure
  | error e => exact TrK.of_neverOk NeverOk.liftErr

theorem TrK.ite {c : Prop} {_ : Decidable c} {A A' B B' : P α} (hA : c → TrK k A A')
    (hB : ¬c → TrK k B B') : TrK k (if c then A else B) (if c then A' else B') := by
  split
  · exact hA ‹_›
  · exact hB ‹_›

theorem TrK.bind_tokenFuel {f f' : Nat → P β} (h : ∀ n n', TrK k (f n) (f' n')) :
    TrK k (tokenFuel >>= f) (tokenFuel >>= f') := by
  intro r S s b S' hrel hr
  exact h (S.rd.rest.length + 1) (s.rd.rest.length + 1) r S s b S' hrel hr

theorem TrK.bind_apiFuel {f f' : Nat → P β} (h : ∀ n n', TrK k (f n) (f' n')) :
    TrK k (apiFuel >>= f) (apiFuel >>= f') := by
  intro r S s b S' hrel hr
  exact h (2 * S.rd.rest.length + 4) (2 * s.rd.rest.length + 4) r S s b S' hrel hr

end rules

theorem trel_peeked {r : List UInt8} {S s : St} (h : TRel r S s) (p q : Bool) :
    TRel r { S with rd := { S.rd with peeked := p } } { s with rd := { s.rd with peeked := q } } := h

theorem trel_consume {r : List UInt8} {S s : St} (h : TRel r S s) (n : Nat)
    (hn : n ≤ s.rd.rest.length) :
    TRel r { S with rd := S.rd.consume n } { s with rd := s.rd.consume n } := by
  obtain ⟨h1, h2, h3, h4⟩ := h
  refine ⟨?_, ?_, ?_, h4⟩
  · show (S.rd.consume n).rest = (s.rd.consume n).rest ++ r
    rw [Rd.consume_rest, Rd.consume_rest, h1, List.drop_append_of_le_length hn]
  · show (S.rd.consume n).mode = (s.rd.consume n).mode
    rw [Rd.consume_mode, Rd.consume_mode, h2]
  · show (s.rd.consume n).faulty = false
    rw [Rd.consume_faulty, h3]

theorem fr_consume (S : St) (n : Nat) : Fr S { S with rd := S.rd.consume n } :=
  ⟨by show (S.rd.consume n).rest.length ≤ _; rw [Rd.consume_rest]; simp, rfl⟩

theorem fr_peeked (S : St) (p : Bool) : Fr S { S with rd := { S.rd with peeked := p } } :=
  ⟨Nat.le_refl _, rfl⟩

theorem peek_nil_ok {S S' : St} {o : Option UInt8} (h : S.rd.rest = []) (hr : peek S = .ok o S') :
    o = none ∧ S' = S := by
  rw [peek_nil h] at hr
  split at hr <;> cases hr
  exact ⟨rfl, rfl⟩

theorem trel_pk {r : List UInt8} {S s : St} (h : TRel r S s) : TRel r (pk S) (pk s) := h
theorem trel_pk_left {r : List UInt8} {S s : St} (h : TRel r S s) : TRel r (pk S) s := h
theorem fr_pk (S : St) : Fr S (pk S) := ⟨Nat.le_refl _, rfl⟩
theorem pk_rest (S : St) : (pk S).rd.rest = S.rd.rest := rfl

theorem adv1_rest {S : St} {c : UInt8} {t : List UInt8} (h : S.rd.rest = c :: t) :
    (adv1 S).rd.rest = t := by
  show (S.rd.consume 1).rest = t
  rw [Rd.consume_rest, h]; rfl

theorem trel_nil {r : List UInt8} {S s : St} (h : TRel r S s) (hS : S.rd.rest = []) :
    s.rd.rest = [] ∧ r = [] := by
  have := h.1
  rw [hS] at this
  cases hs : s.rd.rest with
  | nil => rw [hs] at this; exact ⟨rfl, by simpa using this.symm⟩
  | cons _ _ => rw [hs] at this; simp at this

theorem trel_cons {r : List UInt8} {S s : St} {c : UInt8} {t : List UInt8} (h : TRel r S s)
    (hS : S.rd.rest = c :: t) :
    (∃ t', s.rd.rest = c :: t' ∧ t = t' ++ r) ∨ (s.rd.rest = [] ∧ r = c :: t) := by
  have := h.1
  rw [hS] at this
  cases hs : s.rd.rest with
  | nil => rw [hs] at this; exact Or.inr ⟨rfl, by simpa using this.symm⟩
  | cons c' t' =>
    rw [hs, List.cons_append] at this
    obtain ⟨rfl, ht⟩ := List.cons.inj this
    exact Or.inl ⟨t', rfl, ht⟩

theorem trel_adv1 {r : List UInt8} {S s : St} (h : TRel r S s) {c : UInt8} {t' : List UInt8}
    (hs : s.rd.rest = c :: t') : TRel r (adv1 S) (adv1 s) :=
  trel_consume h 1 (by simp [hs])

theorem fr_adv1 (S : St) : Fr S (adv1 S) := fr_consume S 1

theorem peek_t1 : TrK 1 peek peek := by
  intro r S s a S' hrel hr
  cases hS : S.rd.rest with
  | nil =>
    obtain ⟨rfl, rfl⟩ := peek_nil_ok hS hr
    exact ⟨Fr.refl _, fun hl => by simp [hS] at hl⟩
  | cons c t =>
    rw [peek_cons hS] at hr
    cases hr
    refine ⟨fr_pk S, fun hl => ?_⟩
    rcases trel_cons hrel hS with ⟨t', hs, _⟩ | ⟨_, hr⟩
    · rw [peek_cons hs]
      exact Or.inr ⟨_, rfl, trel_pk hrel⟩
    · rw [pk_rest, hS, hr] at hl
      omega

/-- a primitive that consumes the byte it stands at -/
theorem tr_of_cons {α : Type} {k : Nat} {m : P α} {v : UInt8 → α}
    (hm : ∀ {S c t}, S.rd.rest = c :: t → m S = .ok (v c) (adv1 S))
    {r : List UInt8} {S s S' : St} {a : α} {c : UInt8} {t : List UInt8} (hrel : TRel r S s)
    (hS : S.rd.rest = c :: t) (hr : m S = .ok a S') :
    Fr S S' ∧ (r.length + k ≤ S'.rd.rest.length → Fol r a S' (m s)) := by
  rw [hm hS] at hr
  cases hr
  refine ⟨fr_adv1 S, fun hl => ?_⟩
  rcases trel_cons hrel hS with ⟨t', hs, _⟩ | ⟨_, hr⟩
  · rw [hm hs]
    exact Or.inr ⟨_, rfl, trel_adv1 hrel hs⟩
  · rw [adv1_rest hS, hr] at hl
    simp at hl
    omega

theorem next_t {k : Nat} : TrK k next next := by
  intro r S s a S' hrel hr
  cases hS : S.rd.rest with
  | nil =>
    rcases next_ok hr with ⟨rfl, -, rfl⟩ | ⟨c, t, -, hc, -⟩
    · refine ⟨Fr.refl _, fun _ => ?_⟩
      rw [next_end (trel_nil hrel hS).1 hrel.2.2.1]
      exact Or.inr ⟨s, rfl, hrel⟩
    · rw [hS] at hc; cases hc
  | cons c t => exact tr_of_cons next_cons hrel hS hr

theorem discard_t {k : Nat} : TrK k discard discard := by
  intro r S s a S' hrel hr
  cases hS : S.rd.rest with
  | nil => rw [discard_nil hS] at hr; cases hr
  | cons c t => exact tr_of_cons (v := fun _ => ()) discard_cons hrel hS hr

theorem getMode_t {k : Nat} : TrK k getMode getMode := by
  intro r S s a S' hrel hr
  cases hr
  refine ⟨Fr.refl _, fun _ => Or.inr ⟨s, ?_, hrel⟩⟩
  show Res.ok s.rd.mode s = _
  rw [hrel.2.1]

/-- `enter` and `leave` change the depth budget: they only occur as a bracket -/
theorem enter_ok {S S' : St} (h : enter S = .ok () S') :
    2 ≤ S.depth ∧ S' = { S with depth := S.depth - 1 } := enter_inv h

theorem enter_of_le {s : St} (h : 2 ≤ s.depth) : enter s = .ok () { s with depth := s.depth - 1 } :=
  Parse.enter_of_le h

/-- what `scan_t` needs of a scanner: `g` measures a prefix of its argument; if it stops at or
    before the end of `x`, it does not depend on what follows `x` -/
def Scanner0 (g : List UInt8 → Nat) : Prop :=
  ∀ x r, g (x ++ r) ≤ (x ++ r).length ∧ (g (x ++ r) ≤ x.length → g x = g (x ++ r))

theorem _root_.Lexpr.Parse.Scans.scanner0 {g : List UInt8 → Nat} (h : Scans g) : Scanner0 g :=
  fun x r => ⟨(h (x ++ r) []).1, h.stop_within⟩

theorem symLen_scanner0 (m : Mode) : Scanner0 (symLen m) := (Scans.symLen m).scanner0

theorem charNameLen_scanner0 : Scanner0 charNameLen := Scans.charNameLen.scanner0

theorem digits_scanner0 : Scanner0 PrefixDet.digitsLen := Scans.digitsLen.scanner0

theorem scan_t {k : Nat} {g : List UInt8 → Nat} (hg : Scanner0 g) :
    TrK k (PrefixDet.scan g) (PrefixDet.scan g) := by
  intro r S s a S' hrel hr
  have hrel' := hrel
  obtain ⟨h1, h2, h3, h4⟩ := hrel
  unfold PrefixDet.scan at hr ⊢
  cases hr
  refine ⟨fr_consume S _, fun hl => ?_⟩
  have hl' : r.length + k ≤ (S.rd.consume (g S.rd.rest)).rest.length := hl
  rw [Rd.consume_rest, h1, List.length_drop, List.length_append] at hl'
  have hle := (hg s.rd.rest r).1
  rw [List.length_append] at hle
  have hx : g (s.rd.rest ++ r) ≤ s.rd.rest.length := by omega
  have he := (hg s.rd.rest r).2 hx
  have hgS : g S.rd.rest = g s.rd.rest := by rw [h1, he]
  rw [hgS]
  refine Or.inr ⟨_, ?_, trel_consume hrel' (g s.rd.rest) (by omega)⟩
  rw [h1, List.take_append_of_le_length (by omega)]

section peekrules
variable {β : Type}

theorem TrK.bind_peek {f f' : Option UInt8 → P β} (hf : ∀ o, TrK 0 (f o) (f' o))
    (hb : ∀ b, Bd b (f (some b)) (f' none)) : TrK 0 (peek >>= f) (peek >>= f') := by
  intro r S s x S' hrel h
  obtain ⟨o, S1, hp, hf1⟩ := bind_ok h
  cases hS : S.rd.rest with
  | nil =>
    obtain ⟨rfl, rfl⟩ := peek_nil_ok hS hp
    refine ⟨(hf none).frame S1 x S' hf1, fun hl => ?_⟩
    rw [bind_ok_eq (peek_end (trel_nil hrel hS).1 hrel.2.2.1)]
    exact (hf none r S1 s x S' hrel hf1).2 hl
  | cons c t =>
    rw [peek_cons hS] at hp
    cases hp
    refine ⟨(fr_pk S).trans ((hf (some c)).frame _ x S' hf1), fun hl => ?_⟩
    rcases trel_cons hrel hS with ⟨t', hs, _⟩ | ⟨hs, hr⟩
    · rw [bind_ok_eq (peek_cons hs)]
      exact (hf (some c) r _ _ x S' (trel_pk hrel) hf1).2 hl
    · rw [bind_ok_eq (peek_end hs hrel.2.2.1)]
      subst hr
      exact hb c t _ s x S' (trel_pk_left hrel) hs hf1 (by simpa using hl)

theorem peekOrNull_bind (f : UInt8 → P β) :
    (peekOrNull >>= f) = (peek >>= fun o => f (o.getD 0)) := by
  unfold peekOrNull
  rw [bind_assoc]
  rfl

theorem TrK.bind_peekOrNull {f f' : UInt8 → P β} (hf : ∀ c, TrK 0 (f c) (f' c))
    (hb : ∀ b, Bd b (f b) (f' 0)) : TrK 0 (peekOrNull >>= f) (peekOrNull >>= f') := by
  rw [peekOrNull_bind, peekOrNull_bind]
  exact TrK.bind_peek (fun o => hf _) (fun b => hb b)

theorem parseWhitespace_bind (f : Option UInt8 → P β) :
    (parseWhitespace >>= f) = (PrefixDet.scan wsLen >>= fun _ => peek >>= f) := by
  rw [PrefixDet.parseWhitespace_eq, bind_assoc]

theorem TrK.bind_parseWhitespace {f f' : Option UInt8 → P β} (hf : ∀ o, TrK 0 (f o) (f' o))
    (hb : ∀ b, Bd b (f (some b)) (f' none)) :
    TrK 0 (parseWhitespace >>= f) (parseWhitespace >>= f') := by
  rw [parseWhitespace_bind, parseWhitespace_bind]
  exact TrK.bind (scan_t Scans.wsLen.scanner0) fun _ => TrK.bind_peek hf hb

theorem peekOrNull_t1 : TrK 1 peekOrNull peekOrNull := by
  unfold peekOrNull
  exact TrK.bind peek_t1 fun _ => TrK.pure

theorem parseWhitespace_t1 : TrK 1 parseWhitespace parseWhitespace := by
  rw [PrefixDet.parseWhitespace_eq]
  exact TrK.bind (scan_t Scans.wsLen.scanner0) fun _ => peek_t1

end peekrules

section bdrules
variable {α β : Type} {b : UInt8}

theorem Bd.of_tr {m m' : P α} (h : TrK 0 m m') : Bd b m m' :=
  fun r' S s a S' hrel _ hr hl => (h (b :: r') S s a S' hrel hr).2 (by simpa using hl)

theorem Bd.of_neverOk {m m' : P α} (h : NeverOk m) : Bd b m m' :=
  fun _ S _ a S' _ _ hr _ => absurd hr (h S a S')

theorem Bd.pure {a : α} : Bd b (pure a : P α) (pure a) := Bd.of_tr TrK.pure

theorem Bd.ite_left {c : Prop} {_ : Decidable c} {A B m' : P α} (hA : c → Bd b A m')
    (hB : ¬c → Bd b B m') : Bd b (if c then A else B) m' := by
  split
  · exact hA ‹_›
  · exact hB ‹_›

theorem Bd.ite {c : Prop} {_ : Decidable c} {A A' B B' : P α} (hA : c → Bd b A A')
    (hB : ¬c → Bd b B B') : Bd b (if c then A else B) (if c then A' else B') := by
  split
  · exact hA ‹_›
  · exact hB ‹_›

/-- the full run, which stands at `b`, consumes: it cannot have stopped at the boundary -/
theorem Bd.of_prog_at {m m' : P α}
    (h : ∀ S a S' t, S.rd.rest = b :: t → m S = .ok a S' → S'.rd.rest.length < S.rd.rest.length) :
    Bd b m m' := by
  intro r' S s a S' hrel hs hr hl
  have h1 : S.rd.rest = b :: r' := by rw [hrel.1, hs]; rfl
  have := h S a S' r' h1 hr
  rw [h1] at this
  simp at this
  omega

theorem Bd.of_prog {m m' : P α} (h : Prog m) : Bd b m m' :=
  Bd.of_prog_at fun S a S' t hS hr => h S a S' (by rw [hS]; simp) hr

theorem Prog.bind {m : P α} {f : α → P β} (hm : Prog m) (hf : ∀ a, MonoOk (f a)) :
    Prog (m >>= f) := by
  intro S x S' hne h
  obtain ⟨a, S1, h1, h2⟩ := bind_ok h
  have := hm S a S1 hne h1
  have := hf a S1 x S' h2
  omega

theorem Bd.prog_bind {m : P α} {f : α → P β} {m' : P β} (hm : Prog m) (hf : ∀ a, MonoOk (f a)) :
    Bd b (m >>= f) m' := Bd.of_prog (Prog.bind hm hf)

/-- stated for a program against itself, so that the lemma of a function can be cited without
    giving the fuel of the truncated run -/
theorem TrK.mono {k : Nat} {m : P α} (h : TrK k m m) : MonoOk m := h.frame.mono

theorem Prog.of_cons {m : P α} {v : UInt8 → α}
    (hm : ∀ {S c t}, S.rd.rest = c :: t → m S = .ok (v c) (adv1 S)) : Prog m := by
  intro S a S' hne h
  cases hS : S.rd.rest with
  | nil => exact absurd hS hne
  | cons c t =>
    rw [hm hS] at h
    cases h
    rw [adv1_rest hS]; simp

theorem Prog.discard : Prog discard := Prog.of_cons (v := fun _ => ()) discard_cons

theorem Prog.next : Prog next := Prog.of_cons next_cons

theorem Prog.of_spec {m : P α} {ke : St → Err → Nat} {F : St → Prop}
    (h : ∀ S, Spec m S S (fun _ => 1) (ke S) (F S)) : Prog m := by
  intro S a S' _ hr
  have := (h S).ok hr
  have := this.len
  omega

theorem MonoOk.of_spec {m : P α} {ko : α → Nat} {ke : Err → Nat} {F : St → Prop}
    (h : ∀ S, Spec m S S ko ke (F S)) : MonoOk m := by
  intro S a S' hr
  have := (h S).ok hr
  have := this.len
  omega

theorem Bd.bind_peek {f f' : Option UInt8 → P β} (h : Bd b (f (some b)) (f' none)) :
    Bd b (peek >>= f) (peek >>= f') := by
  intro r' S s x S' hrel hs hr hl
  have hS : S.rd.rest = b :: r' := by rw [hrel.1, hs]; rfl
  rw [bind_ok_eq (peek_cons hS)] at hr
  rw [bind_ok_eq (peek_end hs hrel.2.2.1)]
  exact h r' _ s x S' (trel_pk_left hrel) hs hr hl

theorem Bd.bind_peekOrNull {f f' : UInt8 → P β} (h : Bd b (f b) (f' 0)) :
    Bd b (peekOrNull >>= f) (peekOrNull >>= f') := by
  rw [peekOrNull_bind, peekOrNull_bind]
  exact Bd.bind_peek h

/-- a scanner that is followed by a `peek`: at the boundary it measures nothing on either side -/
theorem Bd.bind_scan {g : List UInt8 → Nat} (hg : Scans g) {f f' : List UInt8 → P β}
    (hmono : ∀ a, MonoOk (f a)) (h : Bd b (f []) (f' [])) :
    Bd b (PrefixDet.scan g >>= f) (PrefixDet.scan g >>= f') := by
  intro r' S s x S' hrel hs hr hl
  have hS : S.rd.rest = b :: r' := by rw [hrel.1, hs]; rfl
  obtain ⟨tk, S1, h1, h2⟩ := bind_ok hr
  unfold PrefixDet.scan at h1
  cases h1
  have hm := hmono _ _ x S' h2
  have hm' : S'.rd.rest.length ≤ (S.rd.consume (g S.rd.rest)).rest.length := hm
  rw [Rd.consume_rest, List.length_drop, hS] at hm'
  simp only [List.length_cons] at hm'
  have hg0 : g (b :: r') = 0 := by omega
  have hgn : g [] = 0 := Nat.le_zero.mp (hg [] []).1
  have hsc : PrefixDet.scan g s = .ok [] { s with rd := s.rd.consume 0 } := by
    unfold PrefixDet.scan
    rw [hs, hgn]; rfl
  rw [bind_ok_eq hsc]
  rw [hS, hg0] at h2
  exact h r' _ _ x S' (trel_consume hrel 0 (Nat.zero_le _)) (by rw [Rd.consume_rest, hs]; rfl) h2 hl

theorem Bd.bind_parseWhitespace {f f' : Option UInt8 → P β} (hmono : ∀ o, MonoOk (f o))
    (h : Bd b (f (some b)) (f' none)) :
    Bd b (parseWhitespace >>= f) (parseWhitespace >>= f') := by
  rw [parseWhitespace_bind, parseWhitespace_bind]
  refine Bd.bind_scan Scans.wsLen (fun _ => ?_) (Bd.bind_peek h)
  intro S x S' hr
  obtain ⟨o, S1, hp, hf1⟩ := bind_ok hr
  have := hmono o S1 x S' hf1
  have h2 : S1.rd.rest = S.rd.rest := by
    cases hS : S.rd.rest with
    | nil => rw [(peek_nil_ok hS hp).2, hS]
    | cons c t => rw [peek_cons hS] at hp; cases hp; rw [pk_rest, hS]
  rw [h2] at this
  exact this

end bdrules

/-! ### a `peek` site

  `TrK.bind_peek hf hb` asks two things of the continuation `f`: `hf`, that the truncated run
  follows it at the same byte, and `hb`, the boundary case.  Proved apart, `hb` has to go through
  `f` a second time, and where `f` consumes it needs that the rest of `f` does not grow the input,
  which `hf` has already shown (`TrK.frame`).  `T3` is the pair, with rules that take both from one
  `TrK` fact about each part of `f`. -/

section site
variable {α β : Type} {b : UInt8}

/-- `L`: the full run behind the peeked byte `b`.  The truncated run follows it where it has
    peeked the same byte (`L'`), and where it has seen the end of the input (`R'`) unless `L`
    consumes `b`. -/
def T3 (b : UInt8) (L L' R' : P α) : Prop := TrK 0 L L' ∧ Bd b L R'

theorem TrK.bind_peek3 {f f' : Option UInt8 → P β} (hn : TrK 0 (f none) (f' none))
    (h : ∀ b, T3 b (f (some b)) (f' (some b)) (f' none)) : TrK 0 (peek >>= f) (peek >>= f') :=
  TrK.bind_peek (fun o => by cases o with | none => exact hn | some c => exact (h c).1)
    fun b => (h b).2

theorem TrK.bind_peekOrNull3 {f f' : UInt8 → P β} (h : ∀ b, T3 b (f b) (f' b) (f' 0)) :
    TrK 0 (peekOrNull >>= f) (peekOrNull >>= f') :=
  TrK.bind_peekOrNull (fun c => (h c).1) fun b => (h b).2

theorem TrK.bind_parseWhitespace3 {f f' : Option UInt8 → P β} (hn : TrK 0 (f none) (f' none))
    (h : ∀ b, T3 b (f (some b)) (f' (some b)) (f' none)) :
    TrK 0 (parseWhitespace >>= f) (parseWhitespace >>= f') :=
  TrK.bind_parseWhitespace (fun o => by cases o with | none => exact hn | some c => exact (h c).1)
    fun b => (h b).2

theorem T3.same {L L' : P α} (h : TrK 0 L L') : T3 b L L' L' := ⟨h, Bd.of_tr h⟩

theorem T3.neverOk {L L' R' : P α} (h : NeverOk L) : T3 b L L' R' :=
  ⟨TrK.of_neverOk h, Bd.of_neverOk h⟩

theorem T3.prog {L L' R' : P α} (h : TrK 0 L L') (hp : Prog L) : T3 b L L' R' := ⟨h, Bd.of_prog hp⟩

theorem T3.discard {R' : P Unit} : T3 b Parse.discard Parse.discard R' :=
  .prog discard_t Prog.discard

theorem T3.prog_bind {m m' : P α} {t t' : α → P β} {R' : P β} (hm : TrK 0 m m') (hp : Prog m)
    (ht : ∀ a, TrK 0 (t a) (t' a)) : T3 b (m >>= t) (m' >>= t') R' :=
  ⟨TrK.bind hm ht, Bd.prog_bind hp fun a => (ht a).frame.mono⟩

theorem T3.discard_bind {k k' : Unit → P β} {R' : P β} (hk : ∀ u, TrK 0 (k u) (k' u)) :
    T3 b (Parse.discard >>= k) (Parse.discard >>= k') R' := .prog_bind discard_t Prog.discard hk

/-- a case distinction that the truncated run at the end of the input does not make -/
theorem T3.ite {c : Prop} {_ : Decidable c} {A A' B B' R' : P α} (hA : c → T3 b A A' R')
    (hB : ¬c → T3 b B B' R') : T3 b (if c then A else B) (if c then A' else B') R' :=
  ⟨TrK.ite (fun h => (hA h).1) fun h => (hB h).1, Bd.ite_left (fun h => (hA h).2) fun h => (hB h).2⟩

theorem T3.ite3 {c : Prop} {_ : Decidable c} {A A' B B' RA RB : P α} (hA : c → T3 b A A' RA)
    (hB : ¬c → T3 b B B' RB) :
    T3 b (if c then A else B) (if c then A' else B') (if c then RA else RB) :=
  ⟨TrK.ite (fun h => (hA h).1) fun h => (hB h).1, Bd.ite (fun h => (hA h).2) fun h => (hB h).2⟩

/-- a first part that does not consume `b`, then `t`: that `t` does not grow the input is part of
    `ht` -/
theorem T3.bind {G G' GR' : P α} {t t' : α → P β} (hg : T3 b G G' GR')
    (ht : ∀ a, TrK 0 (t a) (t' a)) : T3 b (G >>= t) (G' >>= t') (GR' >>= t') := by
  refine ⟨TrK.bind hg.1 ht, fun r' S s x S' hrel hs hr hl => ?_⟩
  obtain ⟨a, S1, h1, h2⟩ := bind_ok hr
  have := (ht a).frame.mono S1 x S' h2
  rcases hg.2 r' S s a S1 hrel hs h1 (by omega) with hfu | ⟨s1, hs1, hrel1⟩
  · exact Or.inl (bind_fuel hfu)
  · rw [bind_ok_eq hs1]
    exact ((ht a) (b :: r') S1 s1 x S' hrel1 h2).2 (by simpa using hl)

end site

/-! ### three `Stable` predicates (SpansInv.lean): how much is unread, the kind of source, and
    whether it fails; `MonoOk` read off the invariant lemmas for the first -/

/-- "at most `n` bytes are unread" is a stable predicate -/
instance lenLe_stable (n : Nat) : Stable (fun s : St => s.rd.rest.length ≤ n) where
  consume s k h := by
    show (s.rd.consume k).rest.length ≤ n
    rw [Rd.consume_rest, List.length_drop]; omega
  peeked _ _ h := h
  depth _ _ h := h

instance mode_stable (m : Mode) : Stable (fun s : St => s.rd.mode = m) where
  consume s k h := by
    show (s.rd.consume k).mode = m
    rw [Rd.consume_mode]; exact h
  peeked _ _ h := h
  depth _ _ h := h

instance faulty_stable (b : Bool) : Stable (fun s : St => s.rd.faulty = b) where
  consume s k h := by
    show (s.rd.consume k).faulty = b
    rw [Rd.consume_faulty]; exact h
  peeked _ _ h := h
  depth _ _ h := h

theorem MonoOk.of_inv {α : Type} {m : P α}
    (h : ∀ n, Inv (fun s : St => s.rd.rest.length ≤ n) m) : MonoOk m := by
  intro S a S' hr
  have := h S.rd.rest.length S (Nat.le_refl _)
  rw [hr] at this
  exact this

end Reparse
end Parse
end Lexpr
