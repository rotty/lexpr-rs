/-
  Error analysis of the `fast-float-parsing` body of `f64_from_parts` (property C05, accuracy
  clause), part 2: the chain of roundings in `fastParts`.
-/
import LexprModel.Proofs.AccuracyRn
namespace Lexpr
namespace Accuracy
open Parse F64 Numbers Decimals

def rho : Rat := 1 - u
def sigma : Rat := 1 / (1 - u)

theorem rho_pos : 0 < rho := by decide +kernel
theorem sigma_pos : 0 < sigma := by decide +kernel
theorem rho_sigma : rho * sigma = 1 := by decide +kernel
theorem rho_le_one : rho ≤ 1 := by decide +kernel
theorem rho_rho_le_one : rho * rho ≤ 1 := by decide +kernel
theorem one_add_u_le_sigma : 1 + u ≤ sigma := by decide +kernel
theorem one_add_u_rho : (1 + u) * rho ≤ 1 := by decide +kernel
theorem one_add_u_pos : 0 < 1 + u := by decide +kernel
theorem rho_eq : 1 - u = rho := rfl

/-- division by a rounded constant followed by one rounding -/
theorem step_div {x' T a' P y g L U : Rat}
    (hT : 0 < T) (ha' : 0 ≤ a') (hy0 : 0 ≤ y)
    (hflo : x' * T * L - a' * T ≤ y * P) (hfhi : y * P ≤ x' * T * U + a' * T)
    (hPlo : T * rho ≤ P) (hPhi : P ≤ T * (1 + u))
    (hglo : y * rho - eta ≤ g) (hghi : g ≤ y * (1 + u) + eta) :
    x' * (L * rho * rho) - (a' + eta) ≤ g ∧
    g ≤ x' * (U * sigma * sigma) + (a' * sigma * sigma + eta) := by
  have hr := Rat.le_of_lt rho_pos
  have hs := Rat.le_of_lt sigma_pos
  constructor
  · have t1 : y * P ≤ y * (T * (1 + u)) := Rat.mul_le_mul_of_nonneg_left hPhi hy0
    have t2 : (x' * L - a') * T ≤ (y * (1 + u)) * T := by grind
    have t3 : x' * L - a' ≤ y * (1 + u) := Rat.le_of_mul_le_mul_right t2 hT
    have t4 := Rat.mul_le_mul_of_nonneg_right t3 hr
    have t5 : y * ((1 + u) * rho) ≤ y * 1 := Rat.mul_le_mul_of_nonneg_left one_add_u_rho hy0
    have t6 : (x' * L - a') * rho ≤ y := by grind
    have t7 := Rat.mul_le_mul_of_nonneg_right t6 hr
    have t8 : a' * (rho * rho) ≤ a' * 1 := Rat.mul_le_mul_of_nonneg_left rho_rho_le_one ha'
    grind
  · have s1 : y * (T * rho) ≤ y * P := Rat.mul_le_mul_of_nonneg_left hPlo hy0
    have s2 : (y * rho) * T ≤ (x' * U + a') * T := by grind
    have s3 : y * rho ≤ x' * U + a' := Rat.le_of_mul_le_mul_right s2 hT
    have s4 := Rat.mul_le_mul_of_nonneg_right s3 hs
    have e1 : y * rho * sigma = y := by rw [Rat.mul_assoc, rho_sigma, Rat.mul_one]
    rw [e1] at s4
    have s5 : y * (1 + u) ≤ y * sigma := Rat.mul_le_mul_of_nonneg_left one_add_u_le_sigma hy0
    have s6 := Rat.mul_le_mul_of_nonneg_right s4 hs
    grind

/-- multiplication by a rounded constant followed by one rounding -/
theorem step_mul {x T f P g L U : Rat}
    (hT : 0 < T) (hx : 0 ≤ x) (hL : 0 ≤ L)
    (hflo : x * L ≤ f) (hfhi : f ≤ x * U)
    (hPlo : T * rho ≤ P) (hPhi : P ≤ T * (1 + u))
    (hglo : f * P * rho - eta ≤ g) (hghi : g ≤ f * P * (1 + u) + eta) :
    (x * T) * (L * rho * rho) - eta ≤ g ∧ g ≤ (x * T) * (U * sigma * sigma) + eta := by
  have hr := Rat.le_of_lt rho_pos
  have hs := Rat.le_of_lt sigma_pos
  have hxL : 0 ≤ x * L := Rat.mul_nonneg hx hL
  have hf0 : 0 ≤ f := Rat.le_trans hxL hflo
  have hTr : 0 ≤ T * rho := Rat.mul_nonneg (Rat.le_of_lt hT) hr
  have hP0 : 0 ≤ P := Rat.le_trans hTr hPlo
  constructor
  · have t1 : (x * L) * (T * rho) ≤ f * P := mul_le_mul_nn hflo hPlo hxL hTr
    have t2 := Rat.mul_le_mul_of_nonneg_right t1 hr
    grind
  · have s0 : T * (1 + u) ≤ T * sigma :=
      Rat.mul_le_mul_of_nonneg_left one_add_u_le_sigma (Rat.le_of_lt hT)
    have s1 : f * P ≤ (x * U) * (T * sigma) :=
      mul_le_mul_nn hfhi (Rat.le_trans hPhi s0) hf0 hP0
    have hfP : 0 ≤ f * P := Rat.mul_nonneg hf0 hP0
    have s2 : f * P * (1 + u) ≤ (x * U) * (T * sigma) * sigma :=
      mul_le_mul_nn s1 one_add_u_le_sigma hfP (Rat.le_of_lt one_add_u_pos)
    grind

theorem div_one_cast (x : Rat) : x / ((1 : Nat) : Rat) = x := by
  have : ((1 : Nat) : Rat) = 1 := rfl
  rw [this, Rat.div_def]
  have : (1 : Rat)⁻¹ = 1 := by decide +kernel
  rw [this, Rat.mul_one]

set_option exponentiation.threshold 2048 in
theorem two_m1022_le_one : (2 : Rat) ^ (-1022 : Int) ≤ 1 := by
  have := two_zpow_mono (show (-1022 : Int) ≤ 0 by decide)
  simpa using this

theorem natCast_one_le {n : Nat} (h : 0 < n) : (1 : Rat) ≤ (n : Rat) := by
  have := Rat.natCast_le_natCast.mpr (show 1 ≤ n from h)
  simpa using this

theorem natCast_le_two_pow {n k : Nat} (h : n ≤ 2 ^ k) : (n : Rat) ≤ (2 : Rat) ^ k := by
  have := Rat.natCast_le_natCast.mpr h
  rw [Rat.natCast_pow] at this
  exact this

/-- `n as f64` for `n ≥ 1` (always in the normal range) -/
theorem ofNat_err {n : Nat} (hn : 0 < n) (hfin : F64.ofNat n < infBits) :
    (n : Rat) * rho ≤ val (F64.ofNat n) ∧ val (F64.ofNat n) ≤ (n : Rat) * (1 + u) := by
  unfold F64.ofNat at *
  have h := rn_relerr (n := n) (d := 1) (by decide)
    (by rw [div_one_cast]; exact Rat.le_trans two_m1022_le_one (natCast_one_le hn)) hfin
  rw [div_one_cast] at h
  exact h

theorem ten308_le_maxFin : 10 ^ 308 ≤ maxFin * 1 := by decide +kernel

theorem one_le_ten_pow (k : Nat) : (1 : Rat) ≤ (10 : Rat) ^ k := one_le_pow_of_one_le (by decide) k

theorem ten_pow_cast (k : Nat) : ((10 ^ k : Nat) : Rat) = (10 : Rat) ^ k := by
  rw [Rat.natCast_pow]; rfl

/-- what the analysis needs of a `POW10` entry that is the correctly rounded power of ten -/
theorem tab_facts {pow10 : Nat → Nat} (hp : ∀ k, k ≤ 308 → pow10 k = rn (10 ^ k) 1) {k : Nat}
    (hk : k ≤ 308) :
    pow10 k < infBits ∧ oneBits ≤ pow10 k ∧
    (10 : Rat) ^ k * rho ≤ val (pow10 k) ∧ val (pow10 k) ≤ (10 : Rat) ^ k * (1 + u) ∧
    0 < val (pow10 k) := by
  rw [hp k hk]
  have hfin : rn (10 ^ k) 1 < infBits :=
    rn_finite (by decide)
      (Nat.le_trans (Nat.pow_le_pow_right (by decide) hk) ten308_le_maxFin)
  have h := ofNat_err (n := 10 ^ k) (Nat.pow_pos (by decide)) hfin
  rw [F64.ofNat, ten_pow_cast] at h
  refine ⟨hfin, rn_ge_one (Nat.pow_pos (by decide)), h.1, h.2, ?_⟩
  have h0 : (0 : Rat) < (10 : Rat) ^ k := Rat.pow_pos (by decide)
  have := Rat.mul_pos h0 rho_pos
  grind

theorem decode_zero : decode 0 = (0, -1074) := by decide

theorem mulPos_zero (b : Nat) : mulPos 0 b = 0 := by
  rw [mulPos_rn, rnScaled_eq, decode_zero]
  simp [rn_zero_left]

theorem divPos_zero_left (b : Nat) : divPos 0 b = 0 := by
  rw [divPos_eq, decode_zero]
  simp [rn_zero_left]

theorem fast_zero (pow10 : Nat → Nat) : ∀ (fuel : Nat) (e : Int), fastParts pow10 fuel 0 e = some 0 := by
  intro fuel e
  cases fuel with
  | zero => rfl
  | succ n =>
    rw [fastParts]
    have hz : isZero 0 = true := by decide
    have hi : isInf 0 = false := by decide
    simp only [mulPos_zero, divPos_zero_left, hz, hi, if_true]
    split
    · split <;> rfl
    · rfl

theorem fast_small (pow10 : Nat → Nat) (fuel f : Nat) {e : Int} (h : e.natAbs ≤ 308) :
    fastParts pow10 (fuel + 1) f e =
      if e ≥ 0 then
        (if isInf (mulPos f (pow10 e.natAbs)) then none else some (mulPos f (pow10 e.natAbs)))
      else some (divPos f (pow10 e.natAbs)) := by
  rw [fastParts, if_pos h]

theorem fast_big (pow10 : Nat → Nat) (fuel f : Nat) {e : Int} (h : ¬ e.natAbs ≤ 308) :
    fastParts pow10 (fuel + 1) f e =
      if isZero f then some f else if e ≥ 0 then none
      else fastParts pow10 fuel (divPos f (pow10 308)) (e + 308) := by
  rw [fastParts, if_neg h]

/-- the relative bound `2^-50` -/
def c50 : Rat := 1 / 2 ^ 50
/-- the additive bound `2^-1074` (the smallest subnormal) -/
def a1074 : Rat := (2 : Rat) ^ (-1074 : Int)

theorem two_eta : eta + eta = a1074 := by decide +kernel
theorem c50_pos : 0 < c50 := by decide +kernel
theorem c50_le_one : c50 ≤ 1 := by decide +kernel
/-- the relative bound actually obtained: `6 * 2^-53` (five roundings, second-order terms) -/
def cTight : Rat := 6 * u
theorem cTight_le : cTight ≤ c50 := by decide +kernel
theorem cTight_pos : 0 < cTight := by decide +kernel
theorem cTight_le_one : cTight ≤ 1 := by decide +kernel
theorem L3 : 1 - cTight ≤ rho * rho * rho := by decide +kernel
theorem L5 : 1 - cTight ≤ rho * rho * rho * rho * rho := by decide +kernel
theorem U3 : (1 + u) * sigma * sigma ≤ 1 + cTight := by decide +kernel
theorem U5 : (1 + u) * sigma * sigma * sigma * sigma ≤ 1 + cTight := by decide +kernel
theorem sigma_sq_le : 8 * (sigma * sigma) ≤ 10 := by decide +kernel
/-- the additive bound actually obtained: `(1 + 1/8) * 2^-1075` -/
def aTight : Rat := eta * (9 / 8)
theorem aTight_le : aTight ≤ a1074 := by decide +kernel
theorem eta_le_aTight : eta ≤ aTight := by decide +kernel
theorem aTight_eq : aTight = eta + eta / 8 := by decide +kernel

/-- the exact value `sig * 10^e` of the pair handed to `f64_from_parts` -/
def dec (sig : Nat) (e : Int) : Rat := (sig : Rat) * (10 : Rat) ^ e

theorem ten_ne : (10 : Rat) ≠ 0 := by decide

theorem ten_zpow_pos (e : Int) : (0 : Rat) < (10 : Rat) ^ e := Rat.zpow_pos (by decide)

theorem dec_zero_left (e : Int) : dec 0 e = 0 := by
  unfold dec; exact Rat.zero_mul _

theorem dec_nonneg (sig : Nat) (e : Int) : 0 ≤ dec sig e := by
  unfold dec
  have h1 : (0 : Rat) ≤ (sig : Rat) := Rat.natCast_nonneg
  exact Rat.mul_nonneg h1 (Rat.le_of_lt (ten_zpow_pos e))

theorem dec_add (S : Nat) (a b : Int) : dec S (a + b) = dec S a * (10 : Rat) ^ b := by
  unfold dec
  rw [Rat.zpow_add ten_ne, Rat.mul_assoc]

theorem dec_mul_pow (sig : Nat) (e : Int) (k : Nat) :
    dec sig e * (10 : Rat) ^ k = dec sig (e + (k : Int)) := by
  rw [dec_add, Rat.zpow_natCast]

theorem dec_zero (sig : Nat) : dec sig 0 = (sig : Rat) := by
  unfold dec; rw [Rat.zpow_zero, Rat.mul_one]

theorem finish {x v L U A B b c : Rat} (hx : 0 ≤ x) (hL : 1 - c ≤ L) (hU : U ≤ 1 + c)
    (hA : A ≤ b) (hB : B ≤ b) (h1 : x * L - A ≤ v) (h2 : v ≤ x * U + B) :
    x * (1 - c) - b ≤ v ∧ v ≤ x * (1 + c) + b := by
  have := Rat.mul_le_mul_of_nonneg_left hL hx
  have := Rat.mul_le_mul_of_nonneg_left hU hx
  grind

theorem ten_pow_ge_ten {k : Nat} (hk : 1 ≤ k) : (10 : Rat) ≤ (10 : Rat) ^ k := by
  obtain ⟨j, rfl⟩ : ∃ j, k = j + 1 := ⟨k - 1, by omega⟩
  rw [Rat.pow_succ]
  have := one_le_ten_pow j
  grind

section chain
variable {pow10 : Nat → Nat} (hp : ∀ k, k ≤ 308 → pow10 k = rn (10 ^ k) 1)
include hp

/-- `0 ≤ e ≤ 308`: `(sig as f64) * POW10[e]`, three roundings -/
theorem chain_mul {sig : Nat} {e : Int} (hs : 0 < sig) (hfin0 : F64.ofNat sig < infBits)
    (he0 : 0 ≤ e) (h308 : e.natAbs ≤ 308)
    (hfin : mulPos (F64.ofNat sig) (pow10 e.natAbs) < infBits) :
    dec sig e * (rho * rho * rho) - eta ≤ val (mulPos (F64.ofNat sig) (pow10 e.natAbs)) ∧
    val (mulPos (F64.ofNat sig) (pow10 e.natAbs)) ≤ dec sig e * ((1 + u) * sigma * sigma) + eta := by
  obtain ⟨f0lo, f0hi⟩ := ofNat_err hs hfin0
  obtain ⟨_, _, plo, phi, ppos⟩ := tab_facts hp h308
  obtain ⟨glo, ghi⟩ := mulPos_err hfin
  rw [rho_eq] at glo
  have hx : (0 : Rat) ≤ (sig : Rat) := Rat.le_trans (by decide) (natCast_one_le hs)
  have hT : (0 : Rat) < (10 : Rat) ^ e.natAbs := by have := one_le_ten_pow e.natAbs; grind
  have hd : dec sig e = (sig : Rat) * (10 : Rat) ^ e.natAbs := by
    have := dec_mul_pow sig 0 e.natAbs
    rw [dec_zero] at this
    rw [this]; congr 1; omega
  rw [hd]
  exact step_mul hT hx (Rat.le_of_lt rho_pos) f0lo f0hi plo phi glo ghi

/-- one division by a table entry: from bounds on `f` to bounds on `divPos f POW10[k]` -/
theorem chain_div {f k : Nat} {x' a' L U : Rat} (hk : k ≤ 308) (hf : f < infBits)
    (ha' : 0 ≤ a')
    (hflo : x' * (10 : Rat) ^ k * L - a' * (10 : Rat) ^ k ≤ val f)
    (hfhi : val f ≤ x' * (10 : Rat) ^ k * U + a' * (10 : Rat) ^ k) :
    divPos f (pow10 k) < infBits ∧
    x' * (L * rho * rho) - (a' + eta) ≤ val (divPos f (pow10 k)) ∧
    val (divPos f (pow10 k)) ≤ x' * (U * sigma * sigma) + (a' * sigma * sigma + eta) := by
  obtain ⟨pfin, pone, plo, phi, ppos⟩ := tab_facts hp hk
  have hfin := divPos_finite hf pone pfin
  obtain ⟨glo, ghi⟩ := divPos_err ppos hfin
  rw [rho_eq] at glo
  have hT : (0 : Rat) < (10 : Rat) ^ k := by have := one_le_ten_pow k; grind
  have hyP := div_mul_self' (f := val f) ppos
  have hy0 := quot_nonneg ppos (val_nonneg f) hyP
  refine ⟨hfin, ?_⟩
  exact step_div hT ha' hy0 (by rw [hyP]; exact hflo) (by rw [hyP]; exact hfhi) plo phi glo ghi

end chain

theorem le_div_const {y C D : Rat} (hC : 0 < C) (h : y * C ≤ D) : y ≤ D / C := by
  have e : D / C * C = D := div_mul_self' hC
  rw [← e] at h
  exact Rat.le_of_mul_le_mul_right h hC

theorem div_le_div {f B P C : Rat} (hf : 0 ≤ f) (h : f ≤ B) (hC : 0 < C) (hCP : C ≤ P) :
    f / P ≤ B / C := by
  have hP : 0 < P := by grind
  have hy := div_mul_self' (f := f) hP
  have hynn := quot_nonneg hP hf hy
  apply le_div_const hC
  have := Rat.mul_le_mul_of_nonneg_left hCP hynn
  grind

theorem ten_zpow_mono {a b : Int} (h : a ≤ b) : (10 : Rat) ^ a ≤ (10 : Rat) ^ b :=
  zpow_mono_of_one_le (by decide) h

theorem two1023_le_ten308_rho : (2 : Rat) ^ 1023 ≤ (10 : Rat) ^ 308 * rho := by decide +kernel

theorem tiny1 : (2 : Rat) ^ 65 / (2 : Rat) ^ 1023 * (1 + u) + eta ≤ 1 / (2 : Rat) ^ 900 := by
  decide +kernel

theorem tiny2 : 1 / (2 : Rat) ^ 900 / (2 : Rat) ^ 1023 < eta := by decide +kernel

theorem two64_one_add_u : (2 : Rat) ^ 64 * (1 + u) ≤ (2 : Rat) ^ 65 := by decide +kernel

section under
variable {pow10 : Nat → Nat} (hp : ∀ k, k ≤ 308 → pow10 k = rn (10 ^ k) 1)
include hp

theorem two_divs_zero {sig : Nat} (hs : 0 < sig) (hs64 : sig < 2 ^ 64)
    (hfin0 : F64.ofNat sig < infBits) :
    divPos (divPos (F64.ofNat sig) (pow10 308)) (pow10 308) = 0 := by
  obtain ⟨_, f0hi⟩ := ofNat_err hs hfin0
  obtain ⟨pfin, pone, plo, _, ppos⟩ := tab_facts hp (Nat.le_refl 308)
  have hP : (2 : Rat) ^ 1023 ≤ val (pow10 308) := Rat.le_trans two1023_le_ten308_rho plo
  have hC : (0 : Rat) < (2 : Rat) ^ 1023 := by decide +kernel
  have hsig : (sig : Rat) ≤ (2 : Rat) ^ 64 := natCast_le_two_pow (Nat.le_of_lt hs64)
  have h0 : val (F64.ofNat sig) ≤ (2 : Rat) ^ 65 := by
    have := Rat.mul_le_mul_of_nonneg_right hsig (Rat.le_of_lt one_add_u_pos)
    exact Rat.le_trans f0hi (Rat.le_trans this two64_one_add_u)
  have hfin1 := divPos_finite hfin0 pone pfin
  obtain ⟨_, g1hi⟩ := divPos_err (a := F64.ofNat sig) ppos hfin1
  have b1 := div_le_div (val_nonneg _) h0 hC hP
  generalize val (F64.ofNat sig) / val (pow10 308) = y1 at *
  have b2 : val (divPos (F64.ofNat sig) (pow10 308)) ≤ 1 / (2 : Rat) ^ 900 := by
    have := Rat.mul_le_mul_of_nonneg_right b1 (Rat.le_of_lt one_add_u_pos)
    have := tiny1
    grind
  apply divPos_zero ppos
  have b3 := div_le_div (val_nonneg _) b2 hC hP
  have := tiny2
  grind

end under

theorem eq_zero_of_isZero {f : Nat} (hf : f < infBits) (hz : isZero f = true) : f = 0 := by
  unfold isZero at hz
  rw [mag_of_le_inf (Nat.le_of_lt hf)] at hz
  simpa using hz

theorem ten_m324_lt_eta : (10 : Rat) ^ (-324 : Int) < eta := by decide +kernel

theorem dec_lt_eta {sig n : Nat} {e : Int} (hs : sig < 10 ^ n) (he : (n : Int) + e ≤ -324) :
    dec sig e < eta := by
  have h1 : (sig : Rat) ≤ ((10 ^ n : Nat) : Rat) := Rat.natCast_le_natCast.mpr (Nat.le_of_lt hs)
  rw [ten_pow_cast] at h1
  have h2 := Rat.mul_le_mul_of_nonneg_right h1 (Rat.le_of_lt (ten_zpow_pos e))
  have h3 : (10 : Rat) ^ n * (10 : Rat) ^ e = (10 : Rat) ^ ((n : Int) + e) := by
    rw [Rat.zpow_add ten_ne, Rat.zpow_natCast]
  rw [h3] at h2
  have h4 := ten_zpow_mono he
  have h5 := ten_m324_lt_eta
  unfold dec
  grind

/-- The analysis with the constants it actually yields: relative
    `6 * 2^-53` (at most five roundings: `significand as f64`, two table entries, two operations)
    and additive `(1 + 1/8) * 2^-1075`: one half of the smallest subnormal for the last rounding,
    plus at most one eighth of that for an earlier quotient in the subnormal range (it is divided
    by at least ten afterwards).  The bound of the property (`2^-50`, `2^-1074`) is `C05_accuracy_fast`. -/
theorem C05_accuracy_fast_tight {pow10 : Nat → Nat} (hp : ∀ k, k ≤ 308 → pow10 k = rn (10 ^ k) 1)
    {sig : Nat} {e : Int} {f : Nat} (hs0 : sig ≠ 0) (hs64 : sig < 2 ^ 64)
    (h : fastParts pow10 (e.natAbs / 308 + 2) (F64.ofNat sig) e = some f) :
    f < infBits ∧
    dec sig e * (1 - cTight) - aTight ≤ val f ∧ val f ≤ dec sig e * (1 + cTight) + aTight := by
  have hs : 0 < sig := Nat.pos_of_ne_zero hs0
  have hfin0 : F64.ofNat sig < infBits := ofNat_finite (by unfold u64Max; omega)
  have hz0 : isZero (F64.ofNat sig) = false := isZero_ofNat hs
  have hx := dec_nonneg sig e
  have heta : eta ≤ aTight := eta_le_aTight
  by_cases h308 : e.natAbs ≤ 308
  · rw [show e.natAbs / 308 + 2 = (e.natAbs / 308 + 1) + 1 from rfl, fast_small _ _ _ h308] at h
    by_cases he0 : e ≥ 0
    · rw [if_pos he0] at h
      split at h
      · cases h
      · next hinf =>
        injection h with h; subst h
        have hfin := lt_inf_of_not_isInf (mulPos_le_inf _ _) (by simpa using hinf)
        obtain ⟨g1, g2⟩ := chain_mul hp hs hfin0 he0 h308 hfin
        exact ⟨hfin, finish hx L3 U3 heta heta g1 g2⟩
    · rw [if_neg he0] at h
      injection h with h; subst h
      have hxT : dec sig e * (10 : Rat) ^ e.natAbs = (sig : Rat) := by
        rw [dec_mul_pow, ← dec_zero sig]; congr 1; omega
      obtain ⟨f0lo, f0hi⟩ := ofNat_err hs hfin0
      obtain ⟨hfin, g1, g2⟩ := chain_div hp (x' := dec sig e) (a' := 0) (L := rho) (U := 1 + u)
        h308 hfin0 Rat.le_refl
        (by rw [hxT, Rat.zero_mul]; grind) (by rw [hxT, Rat.zero_mul]; grind)
      refine ⟨hfin, finish hx L3 U3 (A := 0 + eta) (B := 0 * sigma * sigma + eta)
        (by grind) (by grind) g1 g2⟩
  · rw [show e.natAbs / 308 + 2 = (e.natAbs / 308 + 1) + 1 from rfl, fast_big _ _ _ h308, hz0] at h
    simp only [Bool.false_eq_true, if_false] at h
    by_cases he0 : e ≥ 0
    · rw [if_pos he0] at h; cases h
    · rw [if_neg he0] at h
      -- first division by 1e308
      have hx1T : dec sig (-308) * (10 : Rat) ^ 308 = (sig : Rat) := by
        rw [dec_mul_pow, ← dec_zero sig]; congr 1
      obtain ⟨f0lo, f0hi⟩ := ofNat_err hs hfin0
      obtain ⟨hfin1, f1lo, f1hi⟩ := chain_div hp (x' := dec sig (-308)) (a' := 0) (L := rho)
        (U := 1 + u) (Nat.le_refl 308) hfin0 Rat.le_refl
        (by rw [hx1T, Rat.zero_mul]; grind) (by rw [hx1T, Rat.zero_mul]; grind)
      generalize hf1 : divPos (F64.ofNat sig) (pow10 308) = f1 at *
      by_cases h616 : (e + 308).natAbs ≤ 308
      · rw [fast_small _ _ _ h616, if_neg (show ¬ (e + 308 ≥ 0) by omega)] at h
        injection h with h; subst h
        have hk1 : 1 ≤ (e + 308).natAbs := by omega
        have hT10 := ten_pow_ge_ten hk1
        have hT0 : (0 : Rat) < (10 : Rat) ^ (e + 308).natAbs := by grind
        have hxT : dec sig e * (10 : Rat) ^ (e + 308).natAbs = dec sig (-308) := by
          rw [dec_mul_pow]; congr 1; omega
        have haT := div_mul_self' (f := eta) hT0
        have ha0 := quot_nonneg hT0 (Rat.le_of_lt eta_pos) haT
        generalize eta / (10 : Rat) ^ (e + 308).natAbs = a' at *
        obtain ⟨hfin, g1, g2⟩ := chain_div hp (x' := dec sig e) (a' := a') (L := rho * rho * rho)
          (U := (1 + u) * sigma * sigma) h616 hfin1 ha0
          (by rw [hxT, haT]; grind) (by rw [hxT, haT]; grind)
        have hA : a' * 8 ≤ eta := by
          have := Rat.mul_le_mul_of_nonneg_left (Rat.le_trans (by decide) hT10 : (8 : Rat) ≤ _) ha0
          grind
        have hB : a' * (8 * (sigma * sigma)) ≤ eta := by
          have := Rat.mul_le_mul_of_nonneg_left (Rat.le_trans sigma_sq_le hT10) ha0
          grind
        have h2e := aTight_eq
        refine ⟨hfin, finish hx (L := rho * rho * rho * rho * rho)
          (U := (1 + u) * sigma * sigma * sigma * sigma) L5 U5 (A := a' + eta)
          (B := a' * sigma * sigma + eta) (by grind) (by grind) g1 g2⟩
      · -- e < -616: the result is +0.0 and the exact value is below 2^-1075
        have hf0 : f = 0 := by
          rw [fast_big _ _ _ h616] at h
          split at h
          · next hz =>
            injection h with h; subst h
            exact eq_zero_of_isZero hfin1 hz
          · rw [if_neg (show ¬ (e + 308 ≥ 0) by omega)] at h
            have hz := two_divs_zero hp hs hs64 hfin0
            rw [hf1] at hz
            rw [hz, fast_zero] at h
            injection h with h; exact h.symm
        subst hf0
        have ht := Rat.le_of_lt (dec_lt_eta (n := 20) (e := e)
          (Nat.lt_of_lt_of_le hs64 (by decide)) (by omega))
        have hc1 := cTight_pos
        have hc2 := cTight_le_one
        have := Rat.mul_le_mul_of_nonneg_left hc2 hx
        have := Rat.mul_le_mul_of_nonneg_left (Rat.le_of_lt hc1) hx
        rw [val_zero]
        refine ⟨by decide, ?_, ?_⟩ <;> grind

/-- Build with `fast-float-parsing`, every `POW10[k]` the correctly rounded
    `10^k` (true of the regenerated table: `TablesCheck.pow10_rounded`).  For a non-zero `u64`
    significand and any exponent: if the loop of `f64_from_parts` returns the double `f`, then `f`
    is finite and

      `|f - sig * 10^e| ≤ 2^-50 * (sig * 10^e) + 2^-1074`.

    (Two-sided form; `val f` is the rational value of the bits `f`, `dec sig e = sig * 10^e`,
    `c50 = 2^-50`, `a1074 = 2^-1074`.) -/
theorem C05_accuracy_fast {pow10 : Nat → Nat} (hp : ∀ k, k ≤ 308 → pow10 k = rn (10 ^ k) 1)
    {sig : Nat} {e : Int} {f : Nat} (hs0 : sig ≠ 0) (hs64 : sig < 2 ^ 64)
    (h : fastParts pow10 (e.natAbs / 308 + 2) (F64.ofNat sig) e = some f) :
    f < infBits ∧
    dec sig e * (1 - c50) - a1074 ≤ val f ∧ val f ≤ dec sig e * (1 + c50) + a1074 := by
  obtain ⟨h1, h2, h3⟩ := C05_accuracy_fast_tight hp hs0 hs64 h
  have := aTight_le
  have := Rat.mul_le_mul_of_nonneg_left cTight_le (dec_nonneg sig e)
  exact ⟨h1, by grind, by grind⟩

theorem fast_sig_zero (pow10 : Nat → Nat) (fuel : Nat) (e : Int) :
    fastParts pow10 fuel (F64.ofNat 0) e = some 0 := by
  have : F64.ofNat 0 = 0 := by decide
  rw [this, fast_zero]

#print axioms C05_accuracy_fast_tight
#print axioms C05_accuracy_fast

end Accuracy
end Lexpr
