/-
  The UTF-8 validity automaton of `Basic.lean`: composition, self-synchronisation (inside a
  sequence only continuation bytes are accepted, so a well-formed text can be cut in front of any
  other byte), ASCII text, two texts that keep the automaton in one state, and `Seq c bs`, table
  3-7 of the Unicode standard as one relation, of which `encode`, `decodeFirst` and the automaton
  are three readings.
-/
import LexprModel.Basic
namespace Lexpr
namespace Utf8

theorem step_idle_nat (b : UInt8) : step .idle b =
    (if b.toNat < 128 then some .idle
     else if 194 ≤ b.toNat ∧ b.toNat ≤ 223 then some (.mid 1 0x80 0xBF)
     else if b.toNat = 224 then some (.mid 2 0xA0 0xBF)
     else if b.toNat = 237 then some (.mid 2 0x80 0x9F)
     else if 225 ≤ b.toNat ∧ b.toNat ≤ 239 then some (.mid 2 0x80 0xBF)
     else if b.toNat = 240 then some (.mid 3 0x90 0xBF)
     else if 241 ≤ b.toNat ∧ b.toNat ≤ 243 then some (.mid 3 0x80 0xBF)
     else if b.toNat = 244 then some (.mid 3 0x80 0x8F)
     else none) := by
  simp only [step, UInt8.lt_iff_toNat_lt, UInt8.le_iff_toNat_le, Bool.and_eq_true,
    decide_eq_true_eq, beq_iff_eq, ← UInt8.toNat_inj]
  rfl

theorem step_mid_nat (need : Nat) (lo hi b : UInt8) : step (.mid need lo hi) b =
    (if lo.toNat ≤ b.toNat ∧ b.toNat ≤ hi.toNat then
      (if need ≤ 1 then some .idle else some (.mid (need - 1) 0x80 0xBF))
     else none) := by
  simp only [step, UInt8.le_iff_toNat_le, Bool.and_eq_true, decide_eq_true_eq]

theorem lit80 : (0x80 : UInt8).toNat = 128 := rfl
theorem litBF : (0xBF : UInt8).toNat = 191 := rfl
theorem litA0 : (0xA0 : UInt8).toNat = 160 := rfl
theorem lit9F : (0x9F : UInt8).toNat = 159 := rfl
theorem lit90 : (0x90 : UInt8).toNat = 144 := rfl
theorem lit8F : (0x8F : UInt8).toNat = 143 := rfl

/-- bounds of a reachable mid-sequence state lie within the continuation range -/
def St.wf : St → Prop
  | .idle => True
  | .mid _ lo hi => 0x80 ≤ lo ∧ hi ≤ 0xBF

/-- the lead-byte column, as the automaton's first step reads it -/
theorem step_idle_tab (b0 : UInt8) :
    (b0.toNat < 0x80 → step .idle b0 = some .idle) ∧
    (0xC2 ≤ b0.toNat ∧ b0.toNat < 0xE0 → step .idle b0 = some (.mid 1 0x80 0xBF)) ∧
    (0xE0 ≤ b0.toNat ∧ b0.toNat < 0xF0 → ∃ lo hi, step .idle b0 = some (.mid 2 lo hi) ∧ (0x80 ≤ lo ∧ hi ≤ 0xBF) ∧
      (b0.toNat = 0xE0 ∧ lo.toNat = 0xA0 ∨ b0.toNat ≠ 0xE0 ∧ lo.toNat = 0x80) ∧
      (b0.toNat = 0xED ∧ hi.toNat = 0x9F ∨ b0.toNat ≠ 0xED ∧ hi.toNat = 0xBF)) ∧
    (0xF0 ≤ b0.toNat ∧ b0.toNat < 0xF5 → ∃ lo hi, step .idle b0 = some (.mid 3 lo hi) ∧ (0x80 ≤ lo ∧ hi ≤ 0xBF) ∧
      (b0.toNat = 0xF0 ∧ lo.toNat = 0x90 ∨ b0.toNat ≠ 0xF0 ∧ lo.toNat = 0x80) ∧
      (b0.toNat = 0xF4 ∧ hi.toNat = 0x8F ∨ b0.toNat ≠ 0xF4 ∧ hi.toNat = 0xBF)) ∧
    ((0x80 ≤ b0.toNat ∧ b0.toNat < 0xC2) ∨ 0xF5 ≤ b0.toNat → step .idle b0 = none) := by
  rw [step_idle_nat]
  refine ⟨fun h => if_pos h, fun h => ?_, fun h => ?_, fun h => ?_, fun h => ?_⟩
  · rw [if_neg (by omega), if_pos (by omega)]
  · rw [if_neg (by omega), if_neg (by omega)]
    by_cases c1 : b0.toNat = 0xE0
    · rw [if_pos c1]; exact ⟨_, _, rfl, ⟨by decide, by decide⟩, .inl ⟨c1, rfl⟩, .inr ⟨by omega, rfl⟩⟩
    rw [if_neg c1]
    by_cases c2 : b0.toNat = 0xED
    · rw [if_pos c2]; exact ⟨_, _, rfl, ⟨by decide, by decide⟩, .inr ⟨c1, rfl⟩, .inl ⟨c2, rfl⟩⟩
    rw [if_neg c2, if_pos (by omega)]; exact ⟨_, _, rfl, ⟨by decide, by decide⟩, .inr ⟨c1, rfl⟩, .inr ⟨c2, rfl⟩⟩
  · rw [if_neg (by omega), if_neg (by omega), if_neg (by omega), if_neg (by omega),
      if_neg (by omega)]
    by_cases c1 : b0.toNat = 0xF0
    · rw [if_pos c1]; exact ⟨_, _, rfl, ⟨by decide, by decide⟩, .inl ⟨c1, rfl⟩, .inr ⟨by omega, rfl⟩⟩
    rw [if_neg c1]
    by_cases c2 : b0.toNat = 0xF4
    · rw [if_neg (by omega), if_pos c2]; exact ⟨_, _, rfl, ⟨by decide, by decide⟩, .inr ⟨c1, rfl⟩, .inl ⟨c2, rfl⟩⟩
    rw [if_pos (by omega)]; exact ⟨_, _, rfl, ⟨by decide, by decide⟩, .inr ⟨c1, rfl⟩, .inr ⟨c2, rfl⟩⟩
  · rw [if_neg (by omega), if_neg (by omega), if_neg (by omega), if_neg (by omega),
      if_neg (by omega), if_neg (by omega), if_neg (by omega), if_neg (by omega)]

theorem step_idle_some {b : UInt8} {st : St} (h : step .idle b = some st) :
    (b.toNat < 128 ∧ st = .idle) ∨ (194 ≤ b.toNat ∧ st ≠ .idle ∧ st.wf) := by
  obtain ⟨t1, t2, t3, t4, t5⟩ := step_idle_tab b
  by_cases c1 : b.toNat < 0x80
  · rw [t1 c1] at h; exact .inl ⟨c1, (Option.some.inj h).symm⟩
  by_cases c2 : 0xC2 ≤ b.toNat ∧ b.toNat < 0xE0
  · rw [t2 c2] at h; cases h; exact .inr ⟨c2.1, St.noConfusion, by decide, by decide⟩
  by_cases c3 : 0xE0 ≤ b.toNat ∧ b.toNat < 0xF0
  · obtain ⟨lo, hi, e, hw, -⟩ := t3 c3
    rw [e] at h; cases h; exact .inr ⟨by omega, St.noConfusion, hw⟩
  by_cases c4 : 0xF0 ≤ b.toNat ∧ b.toNat < 0xF5
  · obtain ⟨lo, hi, e, hw, -⟩ := t4 c4
    rw [e] at h; cases h; exact .inr ⟨by omega, St.noConfusion, hw⟩
  · rw [t5 (by omega)] at h; cases h

theorem step_wf {st st' : St} {b : UInt8} (h : step st b = some st') : st'.wf := by
  cases st with
  | idle =>
    rcases step_idle_some h with ⟨_, rfl⟩ | ⟨_, _, hw⟩
    · trivial
    · exact hw
  | mid need lo hi =>
    rw [step_mid_nat] at h
    split at h
    · split at h <;> cases h
      · trivial
      · exact ⟨by decide, by decide⟩
    · cases h

theorem isCont_iff {b : UInt8} : isCont b = true ↔ 128 ≤ b.toNat ∧ b.toNat < 192 := by
  simp only [isCont, Bool.and_eq_true, decide_eq_true_eq, UInt8.le_iff_toNat_le,
    UInt8.lt_iff_toNat_lt]
  exact Iff.rfl

theorem step_noncont {st st' : St} {b : UInt8} (hw : st.wf) (hb : isCont b = false)
    (h : step st b = some st') : st = .idle := by
  cases st with
  | idle => rfl
  | mid need lo hi =>
    exfalso
    rw [step_mid_nat] at h
    split at h
    · rename_i hc
      have h1 := UInt8.le_iff_toNat_le.mp hw.1
      have h2 := UInt8.le_iff_toNat_le.mp hw.2
      rw [lit80] at h1
      rw [litBF] at h2
      have : isCont b = true := isCont_iff.mpr ⟨by omega, by omega⟩
      rw [this] at hb; cases hb
    · cases h

theorem ascii_noncont {b : UInt8} (h : b < 0x80) : isCont b = false := by
  cases hc : isCont b with
  | false => rfl
  | true =>
    have h1 := UInt8.lt_iff_toNat_lt.mp h
    rw [lit80] at h1
    have := (isCont_iff.mp hc).1
    omega

theorem step_idle_ascii {b : UInt8} (h : b < 0x80) : step .idle b = some .idle := by
  simp [step, h]

theorem step_idle_cont {b : UInt8} (h : isCont b = true) : step .idle b = none := by
  cases hs : step .idle b with
  | none => rfl
  | some st =>
    have := isCont_iff.mp h
    rcases step_idle_some hs with ⟨h1, _⟩ | ⟨h1, _⟩ <;> omega

theorem step_idle_noncont {b : UInt8} {st : St} (h : step .idle b = some st) :
    isCont b = false := by
  cases hc : isCont b with
  | false => rfl
  | true => rw [step_idle_cont hc] at h; cases h

theorem run_append (st : St) (a b : List UInt8) :
    run st (a ++ b) = (run st a).bind (fun st' => run st' b) := by
  induction a generalizing st with
  | nil => simp [run]
  | cons x xs ih =>
    simp only [List.cons_append, run]
    cases step st x with
    | none => simp
    | some st' => simpa using ih st'

theorem run_cons_of_step {s st : St} {b : UInt8} (r : List UInt8) (h : step s b = some st) :
    run s (b :: r) = run st r := by
  rw [run, h]

theorem run_cons_some {s t : St} {b : UInt8} {bs : List UInt8} (h : run s (b :: bs) = some t) :
    ∃ s', step s b = some s' ∧ run s' bs = some t := by
  simp only [run] at h
  cases hs : step s b with
  | none => rw [hs] at h; cases h
  | some s' => rw [hs] at h; exact ⟨s', rfl, h⟩

theorem run_wf {st st' : St} {l : List UInt8} (hw : st.wf) (h : run st l = some st') : st'.wf := by
  induction l generalizing st with
  | nil => simp only [run] at h; cases h; exact hw
  | cons x xs ih =>
    obtain ⟨s1, hs, h⟩ := run_cons_some h
    exact ih (step_wf hs) h

def Head (t : List UInt8) : Prop := ∃ b r, t = b :: r ∧ isCont b = false

theorem run_mid_head {s : St} {t : List UInt8} (hs : s.wf) (hne : s ≠ .idle) (ht : Head t) :
    run s t = none := by
  obtain ⟨b, r, rfl, hb⟩ := ht
  simp only [run]
  cases h : step s b with
  | none => rfl
  | some s' => exact absurd (step_noncont hs hb h) hne

theorem Head.ascii {b : UInt8} (r : List UInt8) (hb : b < 0x80) : Head (b :: r) :=
  ⟨b, r, rfl, ascii_noncont hb⟩

theorem valid_iff {l : List UInt8} : valid l = true ↔ run .idle l = some .idle := by
  simp [valid]

theorem valid_nil : valid [] = true := rfl

theorem Head.of_valid {t : List UInt8} (hne : t ≠ []) (hv : valid t = true) : Head t := by
  cases t with
  | nil => exact absurd rfl hne
  | cons b r =>
    obtain ⟨s', hs, _⟩ := run_cons_some (valid_iff.mp hv)
    exact ⟨b, r, rfl, step_idle_noncont hs⟩

/-- "suffix of well-formed text": from automaton state `st` the bytes complete to idle -/
def Bnd (l : List UInt8) : Prop := ∃ st : St, st.wf ∧ run st l = some .idle

theorem Bnd.of_valid {l : List UInt8} (h : valid l = true) : Bnd l :=
  ⟨.idle, trivial, valid_iff.1 h⟩

theorem Bnd.tail {b : UInt8} {l : List UInt8} (h : Bnd (b :: l)) : Bnd l := by
  obtain ⟨st, hw, hr⟩ := h
  obtain ⟨s1, hs, hr⟩ := run_cons_some hr
  exact ⟨s1, step_wf hs, hr⟩

theorem Bnd.drop {l : List UInt8} (h : Bnd l) (n : Nat) : Bnd (l.drop n) := by
  induction n generalizing l with
  | zero => simpa using h
  | succ n ih =>
    cases l with
    | nil => simpa using h
    | cons b bs => simpa using ih h.tail

/-- self-synchronisation: a suffix of well-formed text that is empty or starts with a
    non-continuation byte is itself well-formed -/
theorem Bnd.valid_of_head {l : List UInt8} (h : Bnd l)
    (hh : ∀ b, l.head? = some b → isCont b = false) : valid l = true := by
  obtain ⟨st, hw, hr⟩ := h
  by_cases hst : st = .idle
  · subst hst; exact valid_iff.2 hr
  · cases l with
    | nil => cases hr; exact absurd rfl hst
    | cons b bs => rw [run_mid_head hw hst ⟨b, bs, rfl, hh b rfl⟩] at hr; cases hr

theorem valid_append {a b : List UInt8} (ha : valid a = true) (hb : valid b = true) :
    valid (a ++ b) = true := by
  rw [valid_iff] at *
  rw [run_append, ha]; exact hb

theorem valid_append_iff_of_valid_left {a : List UInt8} (b : List UInt8) (ha : valid a = true) :
    valid (a ++ b) = valid b := by
  simp only [valid, run_append, valid_iff.mp ha, Option.bind_some]

theorem valid_of_append_left {a b : List UInt8} (ha : valid a = true) (hab : valid (a ++ b) = true) :
    valid b = true := by
  rw [← valid_append_iff_of_valid_left b ha]; exact hab

theorem valid_take {l : List UInt8} (n : Nat) (h : valid l = true)
    (hh : ∀ b, (l.drop n).head? = some b → isCont b = false) :
    valid (l.take n) = true ∧ valid (l.drop n) = true := by
  have h' := valid_iff.1 h
  rw [← List.take_append_drop n l, run_append] at h'
  cases hr : run .idle (l.take n) with
  | none => rw [hr] at h'; cases h'
  | some st =>
    rw [hr] at h'
    simp only [Option.bind_some] at h'
    have hw := run_wf (st := .idle) trivial hr
    refine ⟨?_, Bnd.valid_of_head ⟨st, hw, h'⟩ hh⟩
    by_cases hst : st = .idle
    · rw [valid_iff, hr, hst]
    · cases hd : l.drop n with
      | nil => rw [hd] at h'; cases h'; exact absurd rfl hst
      | cons b bs =>
        rw [hd] at hh h'
        rw [run_mid_head hw hst ⟨b, bs, rfl, hh b rfl⟩] at h'; cases h'

theorem valid_split {a c : List UInt8} (h : valid (a ++ c) = true)
    (hh : ∀ b, c.head? = some b → isCont b = false) : valid a = true ∧ valid c = true := by
  have := valid_take a.length h (by rw [List.drop_left]; exact hh)
  rw [List.take_left, List.drop_left] at this
  exact this

theorem valid_left_of_append {a b : List UInt8} (hab : valid (a ++ b) = true)
    (hb : valid b = true) : valid a = true := by
  refine (valid_split hab fun x hx => ?_).1
  obtain ⟨_, _, e, hc⟩ := Head.of_valid (fun hn => by rw [hn] at hx; cases hx) hb
  rw [e] at hx; cases hx; exact hc

theorem Bnd.valid_after_ascii {b : UInt8} {l : List UInt8} (h : Bnd (b :: l)) (hb : b < 0x80) :
    valid l = true := by
  have := h.valid_of_head (fun x hx => by cases hx; exact ascii_noncont hb)
  rw [valid_iff] at this ⊢
  rw [run, step_idle_ascii hb] at this
  exact this

theorem run_cons_ascii_idle {b : UInt8} (bs : List UInt8) (hb : b < 0x80) :
    run .idle (b :: bs) = run .idle bs :=
  run_cons_of_step bs (step_idle_ascii hb)

theorem valid_cons_ascii {b : UInt8} (bs : List UInt8) (hb : b < 0x80) :
    valid (b :: bs) = valid bs := by
  simp [valid, run_cons_ascii_idle bs hb]

/-- the automaton is in state `idle` in front of an ASCII byte -/
theorem valid_split_ascii {a : List UInt8} {b : UInt8} {c : List UInt8}
    (h : valid (a ++ b :: c)) (hb : b < 0x80) : valid a ∧ valid (b :: c) :=
  valid_split h fun x hx => by cases hx; exact ascii_noncont hb

theorem valid_append_cons_ascii (a : List UInt8) {b : UInt8} (c : List UInt8) (hb : b < 0x80) :
    valid (a ++ b :: c) = (valid a && valid c) := by
  cases ha : valid a with
  | true => rw [valid_append_iff_of_valid_left _ ha, valid_cons_ascii c hb, Bool.true_and]
  | false =>
    cases h : valid (a ++ b :: c) with
    | false => rfl
    | true => rw [(valid_split_ascii h hb).1] at ha; cases ha

theorem valid_snoc_ascii (a : List UInt8) {b : UInt8} (hb : b < 0x80) :
    valid (a ++ [b]) = valid a := by
  rw [valid_append_cons_ascii a [] hb, valid_nil, Bool.and_true]

theorem valid_split_ascii_end {a : List UInt8} {b : UInt8}
    (h : valid (a ++ [b])) (hb : b < 0x80) : valid a :=
  (valid_split_ascii h hb).1

/-! ### two texts in one automaton state

  `run .idle x = run .idle y` (as `Option` values: the same state, or both dead) is what a string
  loop keeps between the input it has consumed and the buffer it has filled. -/

theorem sync_step {x y t u : List UInt8} (h : run .idle x = run .idle y)
    (ht : Head t) (hu : Head u) (htu : run .idle t = run .idle u) :
    run .idle (x ++ t) = run .idle (y ++ u) := by
  rw [run_append, run_append, h]
  cases hy : run .idle y with
  | none => rfl
  | some s =>
    have hwf : s.wf := run_wf (st := .idle) trivial hy
    simp only [Option.bind_some]
    by_cases hs : s = .idle
    · subst hs; exact htu
    · rw [run_mid_head hwf hs ht, run_mid_head hwf hs hu]

theorem sync_push {x y : List UInt8} (c : UInt8) (h : run .idle x = run .idle y) :
    run .idle (x ++ [c]) = run .idle (y ++ [c]) := by
  rw [run_append, run_append, h]

/-- text that leaves nothing in the buffer: harmless when the buffer is complete -/
theorem sync_drop {x y t : List UInt8} (h : run .idle x = run .idle y) (hy : valid y = true)
    (ht : run .idle t = some .idle) : run .idle (x ++ t) = run .idle y := by
  rw [valid_iff] at hy
  rw [run_append, h, hy]
  exact ht

theorem valid_eq_of_run {x y : List UInt8} (h : run .idle x = run .idle y) : valid x = valid y := by
  simp only [valid, h]

end Utf8

namespace Utf8.U8
open Utf8

def Ascii (bs : List UInt8) : Prop := ∀ b ∈ bs, b < 0x80

theorem Ascii.nil : Ascii [] := by intro b h; cases h
theorem Ascii.cons {b : UInt8} {bs : List UInt8} (hb : b < 0x80) (h : Ascii bs) : Ascii (b :: bs) := by
  intro x hx
  cases hx with
  | head => exact hb
  | tail _ hx => exact h x hx
theorem Ascii.append {a b : List UInt8} (ha : Ascii a) (hb : Ascii b) : Ascii (a ++ b) := by
  intro x hx
  rcases List.mem_append.mp hx with h | h
  · exact ha x h
  · exact hb x h
theorem Ascii.head {b : UInt8} {bs : List UInt8} (h : Ascii (b :: bs)) : b < 0x80 :=
  h b List.mem_cons_self
theorem Ascii.tail {b : UInt8} {bs : List UInt8} (h : Ascii (b :: bs)) : Ascii bs :=
  fun x hx => h x (List.mem_cons_of_mem _ hx)

theorem run_idle_ascii {bs : List UInt8} (h : Ascii bs) : run .idle bs = some .idle := by
  induction bs with
  | nil => rfl
  | cons b bs ih => rw [run_cons_ascii_idle bs h.head]; exact ih h.tail

theorem valid_ascii {bs : List UInt8} (h : ∀ b ∈ bs, b < 0x80) : valid bs := by
  rw [valid_iff]; exact run_idle_ascii h

theorem valid_ascii_append {a : List UInt8} (b : List UInt8) (ha : Ascii a) :
    valid (a ++ b) = valid b :=
  valid_append_iff_of_valid_left b (valid_ascii ha)

theorem valid_split_ascii_text {a t c : List UInt8} (h : valid (a ++ t ++ c)) (ht : Ascii t)
    (hne : t ≠ []) : valid a ∧ valid c := by
  cases t with
  | nil => exact absurd rfl hne
  | cons b t =>
    rw [List.append_assoc, List.cons_append] at h
    obtain ⟨h1, h2⟩ := valid_split_ascii h ht.head
    refine ⟨h1, ?_⟩
    rw [← List.cons_append, valid_ascii_append c ht] at h2
    exact h2

theorem ofNat_toNat {k : Nat} (hk : k < 256) : (UInt8.ofNat k).toNat = k := by
  simp [UInt8.toNat_ofNat', Nat.mod_eq_of_lt hk]

end Utf8.U8

namespace Utf8
open Utf8.U8

/-- a backslash and ASCII text on the one side, a non-empty well-formed text on the other -/
theorem sync_text {x y t u : List UInt8} (h : run .idle x = run .idle y)
    (ht : Ascii t) (hu : u ≠ []) (hv : valid u = true) :
    run .idle (x ++ 92 :: t) = run .idle (y ++ u) := by
  have h92 : (92 : UInt8) < 0x80 := by decide
  refine sync_step h (Head.ascii t h92) (Head.of_valid hu hv) ?_
  rw [run_idle_ascii (Ascii.cons h92 ht), valid_iff.mp hv]

/-- a backslash and a byte that stands for itself -/
theorem sync_raw {x y : List UInt8} {c : UInt8} (h : run .idle x = run .idle y)
    (hc : isCont c = false) : run .idle (x ++ [92, c]) = run .idle (y ++ [c]) := by
  have h92 : (92 : UInt8) < 0x80 := by decide
  refine sync_step h (Head.ascii _ h92) ⟨c, [], rfl, hc⟩ ?_
  rw [run_cons_ascii_idle _ h92]

/-! ### the table of well-formed byte sequences

  `Seq c bs` is table 3-7 of the Unicode standard as a relation on variables: `bs` is the
  well-formed byte sequence of the scalar value `c`.  The encoder writes its rows (`Seq.encode`:
  the base-64 digits of `c` lie in the ranges of the row), the automaton accepts them
  (`Seq.run`), the strict decoder reads them back (`Seq.decode`) and accepts nothing else
  (`Seq.of_decode`), and a well-formed text starts with one (`Seq.of_valid_cons`). -/

theorem encode_ne_nil (n : Nat) : encode n ≠ [] := by
  unfold encode
  split
  · simp
  · split
    · simp
    · split <;> simp

theorem isScalar_iff (c : Nat) : isScalar c = true ↔ c < 0x110000 ∧ ¬ (0xD800 ≤ c ∧ c < 0xE000) := by
  simp only [isScalar, isSurrogate, Bool.and_eq_true, Bool.not_eq_true', decide_eq_true_eq,
    Bool.and_eq_false_iff, decide_eq_false_iff_not]
  omega

theorem isScalar_of_lt_256 {n : Nat} (h : n < 256) : isScalar n = true :=
  (isScalar_iff n).mpr (by omega)

def Cont (b : UInt8) : Prop := 0x80 ≤ b.toNat ∧ b.toNat < 0xC0

instance (b : UInt8) : Decidable (Cont b) := inferInstanceAs (Decidable (_ ∧ _))

/-- Table 3-7: `Seq c bs`: `bs` is the well-formed byte sequence of the scalar value `c`. -/
inductive Seq : Nat → List UInt8 → Prop
  | one {b0 : UInt8} (h0 : b0.toNat < 0x80) : Seq b0.toNat [b0]
  | two {b0 b1 : UInt8} (h0 : 0xC2 ≤ b0.toNat ∧ b0.toNat < 0xE0) (h1 : Cont b1) :
      Seq ((b0.toNat - 0xC0) * 64 + (b1.toNat - 0x80)) [b0, b1]
  | three {b0 b1 b2 : UInt8} (h0 : 0xE0 ≤ b0.toNat ∧ b0.toNat < 0xF0) (h1 : Cont b1) (h2 : Cont b2)
      (lo : b0.toNat = 0xE0 → 0xA0 ≤ b1.toNat) (hi : b0.toNat = 0xED → b1.toNat < 0xA0) :
      Seq (((b0.toNat - 0xE0) * 64 + (b1.toNat - 0x80)) * 64 + (b2.toNat - 0x80)) [b0, b1, b2]
  | four {b0 b1 b2 b3 : UInt8} (h0 : 0xF0 ≤ b0.toNat ∧ b0.toNat < 0xF5) (h1 : Cont b1)
      (h2 : Cont b2) (h3 : Cont b3)
      (lo : b0.toNat = 0xF0 → 0x90 ≤ b1.toNat) (hi : b0.toNat = 0xF4 → b1.toNat < 0x90) :
      Seq ((((b0.toNat - 0xF0) * 64 + (b1.toNat - 0x80)) * 64 + (b2.toNat - 0x80)) * 64
            + (b3.toNat - 0x80)) [b0, b1, b2, b3]

theorem Seq.cast {c c' : Nat} {bs : List UInt8} (h : Seq c bs) (e : c = c') : Seq c' bs := e ▸ h

theorem toNat_ofNat_add {a d n : Nat} (h : d < n) (ha : a + n ≤ 256) :
    (UInt8.ofNat (a + d)).toNat = a + d :=
  ofNat_toNat (by omega)

theorem Cont.of_digit {b : UInt8} {d : Nat} (e : b.toNat = 0x80 + d) (h : d < 64) : Cont b := by
  unfold Cont; omega

/-- the rows of the table in terms of the base-64 digits of the scalar value -/
theorem Seq.two_digits {b0 b1 : UInt8} {q d1 : Nat} (e0 : b0.toNat = 0xC0 + q)
    (e1 : b1.toNat = 0x80 + d1) (hq : 2 ≤ q ∧ q < 32) (h1 : d1 < 64) :
    Seq (q * 64 + d1) [b0, b1] := by
  refine (Seq.two (b0 := b0) (b1 := b1) (by omega) (.of_digit e1 h1)).cast ?_
  rw [e0, e1]
  simp only [Nat.add_sub_cancel_left]

theorem Seq.three_digits {b0 b1 b2 : UInt8} {q d1 d2 : Nat} (e0 : b0.toNat = 0xE0 + q)
    (e1 : b1.toNat = 0x80 + d1) (e2 : b2.toNat = 0x80 + d2) (hq : q < 16) (h1 : d1 < 64)
    (h2 : d2 < 64) (lo : q = 0 → 32 ≤ d1) (hi : q = 13 → d1 < 32) :
    Seq ((q * 64 + d1) * 64 + d2) [b0, b1, b2] := by
  refine (Seq.three (b0 := b0) (b1 := b1) (b2 := b2) (by omega) (.of_digit e1 h1)
    (.of_digit e2 h2) (by omega) (by omega)).cast ?_
  rw [e0, e1, e2]
  simp only [Nat.add_sub_cancel_left]

theorem Seq.four_digits {b0 b1 b2 b3 : UInt8} {q d1 d2 d3 : Nat}
    (e0 : b0.toNat = 0xF0 + q) (e1 : b1.toNat = 0x80 + d1) (e2 : b2.toNat = 0x80 + d2)
    (e3 : b3.toNat = 0x80 + d3) (hq : q < 5) (h1 : d1 < 64) (h2 : d2 < 64) (h3 : d3 < 64)
    (lo : q = 0 → 16 ≤ d1) (hi : q = 4 → d1 < 16) :
    Seq (((q * 64 + d1) * 64 + d2) * 64 + d3) [b0, b1, b2, b3] := by
  refine (Seq.four (b0 := b0) (b1 := b1) (b2 := b2) (b3 := b3) (by omega) (.of_digit e1 h1)
    (.of_digit e2 h2) (.of_digit e3 h3) (by omega) (by omega)).cast ?_
  rw [e0, e1, e2, e3]
  simp only [Nat.add_sub_cancel_left]

/-- the base-64 digits of a scalar value lie in the ranges of its row -/
theorem Seq.encode {c : Nat} (h : isScalar c = true) : Seq c (Utf8.encode c) := by
  obtain ⟨h1, h2⟩ := (isScalar_iff c).mp h
  unfold Utf8.encode
  by_cases c1 : c < 0x80
  · rw [if_pos c1]
    have e0 : (UInt8.ofNat c).toNat = c := ofNat_toNat (by omega)
    generalize UInt8.ofNat c = b0 at e0 ⊢
    exact (Seq.one (b0 := b0) (e0 ▸ c1)).cast e0
  rw [if_neg c1]
  by_cases c2 : c < 0x800
  · rw [if_pos c2]
    have k : c = (c / 64) * 64 + c % 64 ∧ c % 64 < 64 := by omega
    generalize c / 64 = q, c % 64 = d1 at k ⊢
    have hq : 2 ≤ q ∧ q < 32 := by omega
    exact (Seq.two_digits (toNat_ofNat_add hq.2 (by decide)) (toNat_ofNat_add k.2 (by decide))
      hq k.2).cast k.1.symm
  rw [if_neg c2]
  by_cases c3 : c < 0x10000
  · rw [if_pos c3]
    have k : c = ((c / 4096) * 64 + (c / 64) % 64) * 64 + c % 64 ∧ (c / 64) % 64 < 64 ∧
        c % 64 < 64 := by omega
    generalize c / 4096 = q, (c / 64) % 64 = d1, c % 64 = d2 at k ⊢
    obtain ⟨k0, k1, k2⟩ := k
    have hq : q < 16 ∧ (q = 0 → 32 ≤ d1) ∧ (q = 13 → d1 < 32) := by omega
    exact (Seq.three_digits (toNat_ofNat_add hq.1 (by decide)) (toNat_ofNat_add k1 (by decide))
      (toNat_ofNat_add k2 (by decide)) hq.1 k1 k2 hq.2.1 hq.2.2).cast k0.symm
  · rw [if_neg c3]
    have k : c = (((c / 262144) * 64 + (c / 4096) % 64) * 64 + (c / 64) % 64) * 64 + c % 64 ∧
        (c / 4096) % 64 < 64 ∧ (c / 64) % 64 < 64 ∧ c % 64 < 64 := by omega
    generalize c / 262144 = q, (c / 4096) % 64 = d1, (c / 64) % 64 = d2, c % 64 = d3 at k ⊢
    obtain ⟨k0, k1, k2, k3⟩ := k
    have hq : q < 5 ∧ (q = 0 → 16 ≤ d1) ∧ (q = 4 → d1 < 16) := by omega
    exact (Seq.four_digits (toNat_ofNat_add hq.1 (by decide)) (toNat_ofNat_add k1 (by decide))
      (toNat_ofNat_add k2 (by decide)) (toNat_ofNat_add k3 (by decide)) hq.1 k1 k2 k3
      hq.2.1 hq.2.2).cast k0.symm

theorem run_mid_cons (n : Nat) (lo hi b : UInt8) (r : List UInt8) : run (.mid n lo hi) (b :: r) =
    if lo.toNat ≤ b.toNat ∧ b.toNat ≤ hi.toNat then
      run (if n ≤ 1 then .idle else .mid (n - 1) 0x80 0xBF) r
    else none := by
  rw [run, step_mid_nat]
  by_cases h : lo.toNat ≤ b.toNat ∧ b.toNat ≤ hi.toNat
  · rw [if_pos h, if_pos h]; by_cases kn : n ≤ 1
    · rw [if_pos kn, if_pos kn]
    · rw [if_neg kn, if_neg kn]
  · rw [if_neg h, if_neg h]

theorem run_mid_inv {n : Nat} {lo hi : UInt8} {bs : List UInt8}
    (h : run (.mid n lo hi) bs = some .idle) :
    ∃ b1 r, bs = b1 :: r ∧ (lo.toNat ≤ b1.toNat ∧ b1.toNat ≤ hi.toNat) ∧
      run (if n ≤ 1 then .idle else .mid (n - 1) 0x80 0xBF) r = some .idle := by
  cases bs with
  | nil => cases h
  | cons b1 r =>
    rw [run_mid_cons] at h
    by_cases k : lo.toNat ≤ b1.toNat ∧ b1.toNat ≤ hi.toNat
    · rw [if_pos k] at h; exact ⟨b1, r, rfl, k, h⟩
    · rw [if_neg k] at h; cases h

theorem Seq.run {c : Nat} {bs : List UInt8} (h : Seq c bs) : Utf8.run .idle bs = some .idle := by
  cases h with
  | @one b0 h0 => rw [run_cons_of_step _ ((step_idle_tab b0).1 h0)]; rfl
  | @two b0 b1 h0 h1 =>
    unfold Cont at h1
    rw [run_cons_of_step _ ((step_idle_tab b0).2.1 h0), run_mid_cons, lit80, litBF,
      if_pos (by omega)]; rfl
  | @three b0 b1 b2 h0 h1 h2 lo hi =>
    unfold Cont at h1 h2
    obtain ⟨l, u, hs, -, hl, hu⟩ := (step_idle_tab b0).2.2.1 h0
    rw [run_cons_of_step _ hs, run_mid_cons, if_pos (by omega)]
    show Utf8.run (.mid 1 0x80 0xBF) [b2] = _
    rw [run_mid_cons, lit80, litBF, if_pos (by omega)]; rfl
  | @four b0 b1 b2 b3 h0 h1 h2 h3 lo hi =>
    unfold Cont at h1 h2 h3
    obtain ⟨l, u, hs, -, hl, hu⟩ := (step_idle_tab b0).2.2.2.1 h0
    rw [run_cons_of_step _ hs, run_mid_cons, if_pos (by omega)]
    show Utf8.run (.mid 2 0x80 0xBF) [b2, b3] = _
    rw [run_mid_cons, lit80, litBF, if_pos (by omega)]
    show Utf8.run (.mid 1 0x80 0xBF) [b3] = _
    rw [run_mid_cons, lit80, litBF, if_pos (by omega)]; rfl

/-- `decodeFirst` with its tests stated about numbers -/
theorem decodeFirst_cons_nat (b0 : UInt8) (rest : List UInt8) : decodeFirst (b0 :: rest) =
    if b0.toNat < 0x80 then some (b0.toNat, rest)
    else if 0xC2 ≤ b0.toNat ∧ b0.toNat < 0xE0 then
      match rest with
      | b1 :: r => if Cont b1 then some ((b0.toNat - 0xC0) * 64 + (b1.toNat - 0x80), r) else none
      | _ => none
    else if 0xE0 ≤ b0.toNat ∧ b0.toNat < 0xF0 then
      match rest with
      | b1 :: b2 :: r =>
        if Cont b1 ∧ Cont b2 then
          if 0x800 ≤ ((b0.toNat - 0xE0) * 64 + (b1.toNat - 0x80)) * 64 + (b2.toNat - 0x80) ∧
              (¬ 0xD800 ≤ ((b0.toNat - 0xE0) * 64 + (b1.toNat - 0x80)) * 64 + (b2.toNat - 0x80) ∨
                ¬ ((b0.toNat - 0xE0) * 64 + (b1.toNat - 0x80)) * 64 + (b2.toNat - 0x80) < 0xE000)
          then some (((b0.toNat - 0xE0) * 64 + (b1.toNat - 0x80)) * 64 + (b2.toNat - 0x80), r)
          else none
        else none
      | _ => none
    else if 0xF0 ≤ b0.toNat ∧ b0.toNat < 0xF5 then
      match rest with
      | b1 :: b2 :: b3 :: r =>
        if (Cont b1 ∧ Cont b2) ∧ Cont b3 then
          if 0x10000 ≤ (((b0.toNat - 0xF0) * 64 + (b1.toNat - 0x80)) * 64 + (b2.toNat - 0x80)) * 64
                + (b3.toNat - 0x80) ∧
              (((b0.toNat - 0xF0) * 64 + (b1.toNat - 0x80)) * 64 + (b2.toNat - 0x80)) * 64
                + (b3.toNat - 0x80) < 0x110000
          then some ((((b0.toNat - 0xF0) * 64 + (b1.toNat - 0x80)) * 64 + (b2.toNat - 0x80)) * 64
                + (b3.toNat - 0x80), r)
          else none
        else none
      | _ => none
    else none := by
  simp only [decodeFirst, isCont, isSurrogate, Cont, UInt8.le_iff_toNat_le, UInt8.lt_iff_toNat_lt,
    UInt8.reduceToNat, Bool.and_eq_true, decide_eq_true_eq, Bool.not_eq_true',
    Bool.and_eq_false_iff, decide_eq_false_iff_not]
  rfl

/-- the values of the three-byte rows: no overlong forms, no surrogates -/
theorem Seq.range3 {c : Nat} {b0 b1 b2 : UInt8} (h : Seq c [b0, b1, b2]) :
    (0x800 ≤ c ∧ (¬ 0xD800 ≤ c ∨ ¬ c < 0xE000)) ∧ c < 0x10000 := by
  cases h with
  | three h0 h1 h2 lo hi => unfold Cont at h1 h2; omega

/-- the values of the four-byte rows: no overlong forms, nothing above U+10FFFF -/
theorem Seq.range4 {c : Nat} {b0 b1 b2 b3 : UInt8} (h : Seq c [b0, b1, b2, b3]) :
    0x10000 ≤ c ∧ c < 0x110000 := by
  cases h with
  | four h0 h1 h2 h3 lo hi => unfold Cont at h1 h2 h3; omega

theorem Seq.decode {c : Nat} {bs : List UInt8} (h : Seq c bs) (r : List UInt8) :
    decodeFirst (bs ++ r) = some (c, r) := by
  cases h with
  | @one b0 h0 => exact (decodeFirst_cons_nat b0 r).trans (if_pos h0)
  | @two b0 b1 h0 h1 =>
    rw [List.cons_append, decodeFirst_cons_nat, if_neg (by omega), if_pos h0]
    exact if_pos h1
  | @three b0 b1 b2 h0 h1 h2 lo hi =>
    rw [List.cons_append, decodeFirst_cons_nat, if_neg (by omega), if_neg (by omega), if_pos h0]
    exact (if_pos ⟨h1, h2⟩).trans (if_pos (Seq.three h0 h1 h2 lo hi).range3.1)
  | @four b0 b1 b2 b3 h0 h1 h2 h3 lo hi =>
    rw [List.cons_append, decodeFirst_cons_nat, if_neg (by omega), if_neg (by omega),
      if_neg (by omega), if_pos h0]
    exact (if_pos ⟨⟨h1, h2⟩, h3⟩).trans (if_pos (Seq.four h0 h1 h2 h3 lo hi).range4)

theorem Seq.scalar {c : Nat} {bs : List UInt8} (h : Seq c bs) : isScalar c = true := by
  rw [isScalar_iff]
  cases h with
  | one h0 => omega
  | two h0 h1 => unfold Cont at h1; omega
  | three h0 h1 h2 lo hi =>
    have := (Seq.three h0 h1 h2 lo hi).range3
    exact ⟨Nat.lt_trans this.2 (by decide), fun k => this.1.2.elim (· k.1) (· k.2)⟩
  | four h0 h1 h2 h3 lo hi =>
    have := (Seq.four h0 h1 h2 h3 lo hi).range4
    exact ⟨this.2, fun k => absurd (Nat.lt_of_le_of_lt this.1 k.2) (by decide)⟩

theorem Seq.ne_nil {c : Nat} {bs : List UInt8} (h : Seq c bs) : bs ≠ [] := by
  cases h <;> exact List.cons_ne_nil _ _

theorem Seq.tail_cont {c : Nat} {b : UInt8} {r : List UInt8} (h : Seq c (b :: r)) :
    ∀ x ∈ r, isCont x = true := by
  have k : ∀ {x : UInt8}, Cont x → isCont x = true := isCont_iff.mpr
  cases h with
  | one => nofun
  | two _ h1 => simpa using k h1
  | three _ h1 h2 => simpa using ⟨k h1, k h2⟩
  | four _ h1 h2 h3 => simpa using ⟨k h1, k h2, k h3⟩

theorem Seq.length {c : Nat} {b : UInt8} {r : List UInt8} (h : Seq c (b :: r)) :
    b.toNat < 0x80 ∧ r.length = 0 ∨ (0xC2 ≤ b.toNat ∧ b.toNat < 0xE0) ∧ r.length = 1 ∨
    (0xE0 ≤ b.toNat ∧ b.toNat < 0xF0) ∧ r.length = 2 ∨
    (0xF0 ≤ b.toNat ∧ b.toNat < 0xF5) ∧ r.length = 3 := by
  cases h with
  | one h0 => exact .inl ⟨h0, rfl⟩
  | two h0 => exact .inr (.inl ⟨h0, rfl⟩)
  | three h0 => exact .inr (.inr (.inl ⟨h0, rfl⟩))
  | four h0 => exact .inr (.inr (.inr ⟨h0, rfl⟩))

/-- The strict decoder accepts rows of the table only.  One case per range of the lead byte; in
    the three- and four-byte rows the decoder tests the value it has computed (not a surrogate,
    not below the shortest form, not above 0x10FFFF), and that test, read on the bytes, is the
    row's side condition on the second byte. -/
theorem Seq.of_decode {bs r : List UInt8} {c : Nat} (h : decodeFirst bs = some (c, r)) :
    ∃ s, bs = s ++ r ∧ Seq c s := by
  cases bs with
  | nil => cases h
  | cons b0 rest =>
  rw [decodeFirst_cons_nat] at h
  by_cases c1 : b0.toNat < 0x80
  · rw [if_pos c1] at h; cases h; exact ⟨[b0], rfl, Seq.one c1⟩
  rw [if_neg c1] at h
  by_cases c2 : 0xC2 ≤ b0.toNat ∧ b0.toNat < 0xE0
  · rw [if_pos c2] at h
    match rest, h with
    | b1 :: r', h =>
      dsimp only at h
      by_cases k : Cont b1
      · rw [if_pos k] at h; obtain ⟨rfl, rfl⟩ := Prod.mk.inj (Option.some.inj h)
        exact ⟨[b0, b1], rfl, Seq.two c2 k⟩
      · rw [if_neg k] at h; cases h
  rw [if_neg c2] at h
  by_cases c3 : 0xE0 ≤ b0.toNat ∧ b0.toNat < 0xF0
  · rw [if_pos c3] at h
    match rest, h with
    | b1 :: b2 :: r', h =>
      dsimp only at h
      by_cases k : Cont b1 ∧ Cont b2
      · rw [if_pos k] at h
        split at h
        · rename_i ks
          obtain ⟨rfl, rfl⟩ := Prod.mk.inj (Option.some.inj h)
          have k1 := k.1
          have k2 := k.2
          unfold Cont at k1 k2
          have lh : (b0.toNat = 0xE0 → 0xA0 ≤ b1.toNat) ∧ (b0.toNat = 0xED → b1.toNat < 0xA0) := by
            omega
          exact ⟨[b0, b1, b2], rfl, Seq.three c3 k.1 k.2 lh.1 lh.2⟩
        · cases h
      · rw [if_neg k] at h; cases h
  rw [if_neg c3] at h
  by_cases c4 : 0xF0 ≤ b0.toNat ∧ b0.toNat < 0xF5
  · rw [if_pos c4] at h
    match rest, h with
    | b1 :: b2 :: b3 :: r', h =>
      dsimp only at h
      by_cases k : (Cont b1 ∧ Cont b2) ∧ Cont b3
      · rw [if_pos k] at h
        split at h
        · rename_i ks
          obtain ⟨rfl, rfl⟩ := Prod.mk.inj (Option.some.inj h)
          have k1 := k.1.1
          have k2 := k.1.2
          have k3 := k.2
          unfold Cont at k1 k2 k3
          have lh : (b0.toNat = 0xF0 → 0x90 ≤ b1.toNat) ∧ (b0.toNat = 0xF4 → b1.toNat < 0x90) := by
            omega
          exact ⟨[b0, b1, b2, b3], rfl, Seq.four c4 k.1.1 k.1.2 k.2 lh.1 lh.2⟩
        · cases h
      · rw [if_neg k] at h; cases h
  rw [if_neg c4] at h; cases h

/-- A well-formed text starts with a row of the table: the first step of the automaton fixes the
    row (`step_idle_tab`), and each further step gives one continuation byte within the bounds the
    state carries (`run_mid_inv`). -/
theorem Seq.of_valid_cons {b0 : UInt8} {bs : List UInt8} (h : valid (b0 :: bs) = true) :
    ∃ c s r, b0 :: bs = s ++ r ∧ Seq c s := by
  obtain ⟨st, hs, hr⟩ := run_cons_some (valid_iff.1 h)
  obtain ⟨-, t2, t3, t4, t5⟩ := step_idle_tab b0
  by_cases c1 : b0.toNat < 0x80
  · exact ⟨_, [b0], bs, rfl, Seq.one c1⟩
  by_cases c2 : 0xC2 ≤ b0.toNat ∧ b0.toNat < 0xE0
  · rw [t2 c2] at hs; cases hs
    obtain ⟨b1, r, rfl, k1, -⟩ := run_mid_inv hr
    rw [lit80, litBF] at k1
    exact ⟨_, [b0, b1], r, rfl, Seq.two c2 ⟨k1.1, by omega⟩⟩
  by_cases c3 : 0xE0 ≤ b0.toNat ∧ b0.toNat < 0xF0
  · obtain ⟨lo, hi, e, -, hlo, hhi⟩ := t3 c3
    rw [e] at hs; cases hs
    obtain ⟨b1, r, rfl, k1, hr⟩ := run_mid_inv hr
    obtain ⟨b2, r, rfl, k2, -⟩ := run_mid_inv (n := 1) hr
    rw [lit80, litBF] at k2
    exact ⟨_, [b0, b1, b2], r, rfl, Seq.three c3 ⟨by omega, by omega⟩ ⟨k2.1, by omega⟩
      (by omega) (by omega)⟩
  by_cases c4 : 0xF0 ≤ b0.toNat ∧ b0.toNat < 0xF5
  · obtain ⟨lo, hi, e, -, hlo, hhi⟩ := t4 c4
    rw [e] at hs; cases hs
    obtain ⟨b1, r, rfl, k1, hr⟩ := run_mid_inv hr
    obtain ⟨b2, r, rfl, k2, hr⟩ := run_mid_inv (n := 2) hr
    obtain ⟨b3, r, rfl, k3, -⟩ := run_mid_inv (n := 1) hr
    rw [lit80, litBF] at k2 k3
    exact ⟨_, [b0, b1, b2, b3], r, rfl, Seq.four c4 ⟨by omega, by omega⟩ ⟨k2.1, by omega⟩
      ⟨k3.1, by omega⟩ (by omega) (by omega)⟩
  · rw [t5 (by omega)] at hs; cases hs

theorem decodeFirst_isScalar {bs r : List UInt8} {c : Nat} (h : decodeFirst bs = some (c, r)) :
    isScalar c = true :=
  let ⟨_, _, hs⟩ := Seq.of_decode h; hs.scalar

theorem valid_encode {n : Nat} (h : isScalar n = true) : valid (encode n) = true :=
  valid_iff.2 (Seq.encode h).run

theorem decodeFirst_of_valid (b0 : UInt8) (bs : List UInt8) (h : valid (b0 :: bs) = true) :
    (decodeFirst (b0 :: bs)).isSome = true := by
  obtain ⟨c, s, r, e, hs⟩ := Seq.of_valid_cons h
  rw [e, hs.decode r]; rfl

end Utf8

namespace Utf8.U8
open Utf8

theorem decodeFirst_encode {c : Nat} (h : isScalar c = true) (rest : List UInt8) :
    decodeFirst (encode c ++ rest) = some (c, rest) :=
  (Seq.encode h).decode rest

end Utf8.U8
end Lexpr
