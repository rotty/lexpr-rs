/-
  The lexer as a program over the reader primitives.

  `Held κ b c m m'`: `m` and `m'` are one program over the primitives by `>>=`, up to fuel.  Two
  things are recorded for the judgements that compare a reader with one that holds only a prefix
  of the same input.  The shorter reader may be at its end where the longer one is not, so such a
  judgement can say something of `discard` only under the hypothesis that the shorter reader holds
  a byte.  The indices keep the place of that hypothesis: `b` says that the programs may rely on
  it, `c` that what follows them may.  `c` is true behind every `peek`, also one that returned
  `none` (`peek >>= fun o => match o with | none => discard | some _ => pure ()` is derivable): a
  derivation by itself does not say that `discard` follows a `peek` that returned a byte.  It says
  so as `Loc` (Fault.lean) reads the indices, for the faulty reader, on which a `peek` that
  returns has returned a byte (`peek_ok_faulty`).  And a scanner may read past the end of the
  shorter input, so `scan g` alone relates nothing; in the lexer it is always followed by a `peek`,
  which fails on the shorter reader exactly when the scanner ran to its end, and the two together
  are a constructor.

  The lemmas `Held.parseToken`, `Held.parseByteList`, ... walk over the definitions of Lex.lean
  and of `endSeq`, `byteListLoop`, `parseByteList`, `expectEnd` of Parse.lean once, for every
  judgement closed under the constructors.  One indexed like `Held` gets them from `Held.sound`
  (it proves a `Held.Logic`); one that says nothing of held bytes proves the four fields of
  `Built.Logic` and gets them from `Built.Logic.of_held`.
-/
import LexprModel.Proofs.Built
import LexprModel.Proofs.Monad
import LexprModel.Proofs.Primitives
namespace Lexpr
namespace Parse

open PrefixDet (scan digitsLen charNameTail badByte)

/-- `g` measures a prefix of its argument; if it stops before the end it does not depend on what
    follows, and if it reaches the end it goes at least as far on a longer input. -/
def Scans (g : List UInt8 → Nat) : Prop :=
  ∀ p q, g p ≤ p.length ∧ (g p < p.length → g (p ++ q) = g p) ∧
    (g p = p.length → p.length ≤ g (p ++ q))

theorem Scans.takeWhile (f : UInt8 → Bool) : Scans fun l => (l.takeWhile f).length := by
  intro p q
  induction p with
  | nil => simp
  | cons x xs ih =>
    dsimp only at ih ⊢
    simp only [List.cons_append, List.takeWhile_cons, List.length_cons]
    split
    · simp only [List.length_cons]
      exact ⟨by omega, fun h => by rw [ih.2.1 (by omega)],
        fun h => by have := ih.2.2 (by omega); omega⟩
    · exact ⟨by simp, fun _ => rfl, fun h => by simp at h⟩

theorem symLen_eq_takeWhile (m : Mode) :
    symLen m = fun l => (l.takeWhile fun b => !symTerm m b).length := by
  funext l
  induction l with
  | nil => rfl
  | cons b bs ih => cases hb : symTerm m b <;> simp [symLen, hb, ih]

theorem charNameLen_eq_takeWhile :
    charNameLen = fun l => (l.takeWhile fun b => !isCharDelimiter b).length := by
  funext l
  induction l with
  | nil => rfl
  | cons b bs ih => cases hb : isCharDelimiter b <;> simp [charNameLen, hb, ih]

theorem Scans.symLen (m : Mode) : Scans (symLen m) := symLen_eq_takeWhile m ▸ .takeWhile _
theorem Scans.charNameLen : Scans charNameLen := charNameLen_eq_takeWhile ▸ .takeWhile _
theorem Scans.digitsLen : Scans digitsLen := .takeWhile _

theorem Scans.ws_comment (p q : List UInt8) :
    (wsLen p ≤ p.length ∧ (wsLen p < p.length → wsLen (p ++ q) = wsLen p) ∧
      (wsLen p = p.length → p.length ≤ wsLen (p ++ q))) ∧
    (commentLen p ≤ p.length ∧ (commentLen p < p.length → commentLen (p ++ q) = commentLen p) ∧
      (commentLen p = p.length → p.length ≤ commentLen (p ++ q))) := by
  induction p with
  | nil => simp [wsLen, commentLen]
  | cons b t ih =>
    obtain ⟨⟨w1, w2, w3⟩, c1, c2, c3⟩ := ih
    simp only [List.cons_append, wsLen, commentLen, List.length_cons]
    refine ⟨?_, ?_⟩
    · split
      · exact ⟨by omega, fun h => by rw [c2 (by omega)], fun h => by have := c3 (by omega); omega⟩
      · split
        · exact ⟨by omega, fun h => by rw [w2 (by omega)], fun h => by have := w3 (by omega); omega⟩
        · exact ⟨by omega, fun _ => rfl, fun h => by omega⟩
    · split
      · exact ⟨by omega, fun h => by rw [w2 (by omega)], fun h => by have := w3 (by omega); omega⟩
      · exact ⟨by omega, fun h => by rw [c2 (by omega)], fun h => by have := c3 (by omega); omega⟩

theorem Scans.wsLen : Scans wsLen := fun p q => (Scans.ws_comment p q).1

theorem Scans.take_append {g : List UInt8 → Nat} (hg : Scans g)
    {p : List UInt8} (q : List UInt8) (hp : g p = p.length) :
    (p ++ q).take (g (p ++ q)) = p ++ q.take (g (p ++ q) - p.length) := by
  rw [List.take_append, List.take_of_length_le ((hg p q).2.2 hp)]

/-- a scanner that runs to the end of `x` goes at least as far on `x ++ r`: so if it stops within
    `x` there, it stopped at the same place on `x` alone -/
theorem Scans.stop_within {g : List UInt8 → Nat} (h : Scans g)
    {x r : List UInt8} (hle : g (x ++ r) ≤ x.length) : g x = g (x ++ r) := by
  obtain ⟨h1, h2, h3⟩ := h x r
  rcases Nat.lt_or_ge (g x) x.length with hlt | hge
  · exact (h2 hlt).symm
  · have := h3 (Nat.le_antisymm h1 hge)
    omega

/-- The primitives with their indices: `discard` and `badByte` need `b`; `peek` gives `c` whatever
    it returns, `pure` hands `b` on, `next` and `discard` give `false`.  What reports an error or
    stops returns nothing, so it has every `c`. -/
inductive Held.Leaf : Bool → Bool → {α : Type} → P α → Prop where
  | pure {b : Bool} {α : Type} (a : α) : Leaf b false (pure a : P α)
  | pureHeld {α : Type} (a : α) : Leaf true true (pure a : P α)
  | errAt {b c : Bool} {α : Type} (code : Code) : Leaf b c (errAt code : P α)
  | peekErr {b c : Bool} {α : Type} (code : Code) : Leaf b c (peekErr code : P α)
  | panicAt {b c : Bool} {α : Type} (p : Site) : Leaf b c (panicAt p : P α)
  | outOfFuel {b c : Bool} {α : Type} : Leaf b c (outOfFuel : P α)
  | peek {b : Bool} : Leaf b true peek
  | next {b : Bool} : Leaf b false next
  | discard : Leaf true false discard
  | badByte {c : Bool} : Leaf true c badByte

theorem Held.Leaf.prim {κ : Kind} {b c : Bool} {α : Type} {m : P α} (h : Held.Leaf b c m) :
    Prim κ m := by
  cases h <;> constructor

/-- `m` and `m'` are one program over the primitives by `>>=`, twice the same up to the fuel they
    pass to the scanner loops: where the loops of `m` run out of fuel those of `m'` may go on if
    `κ.more`, and the other way round if `κ.less`.  A `discard` stands only where the index is
    `true`: at the start if `b`, and behind a `peek` with nothing but `pure` between.  Each scanner
    is followed by a `peek`. -/
inductive Held : Kind → Bool → Bool → {α : Type} → P α → P α → Prop where
  | leaf {κ : Kind} {b c : Bool} {α : Type} {m : P α} : Held.Leaf b c m → Held κ b c m m
  | finishChecked {κ : Kind} {b : Bool} (bytes : List UInt8) :
      Held κ b false (finishStr true bytes) (finishStr true bytes)
  | finishUnchecked {κ : Kind} {b : Bool} (bytes : List UInt8) :
      κ.mode → Held κ b false (finishStr false bytes) (finishStr false bytes)
  | parseSymbolBytes {κ : Kind} {b : Bool} (scratch : List UInt8) :
      κ.mode → Held κ b false (parseSymbolBytes scratch) (parseSymbolBytes scratch)
  | bind {κ : Kind} {b c d : Bool} {α β : Type} {m m' : P α} {f f' : α → P β} :
      Held κ b c m m' → (∀ a, Held κ c d (f a) (f' a)) → Held κ b d (m >>= f) (m' >>= f')
  | scanPeek {κ : Kind} {b d : Bool} {β : Type} {g : List UInt8 → Nat}
      {k k' : List UInt8 → Option UInt8 → P β} :
      Prim κ (scan g) → Scans g → (∀ tk o, Held κ true d (k tk o) (k' tk o)) →
      Held κ b d (scan g >>= fun tk => peek >>= k tk) (scan g >>= fun tk => peek >>= k' tk)
  | outL {κ : Kind} {b c : Bool} {α : Type} {m' : P α} : κ.more → Held κ b c outOfFuel m'
  /-- the right-hand program is out of fuel; of the left-hand one all that matters is that it
      is a program of the lexer -/
  | outR {κ : Kind} {b c : Bool} {α : Type} {m : P α} :
      κ.less → Held ⟨False, False, κ.mode⟩ b c m m → Held κ b c m outOfFuel

namespace Held
variable {κ : Kind} {b c : Bool}

/-- What a judgement `R`, indexed like `Held`, has to satisfy for `sound`: the scanner is any
    `g` with `Scans g`, and `getMode` stands in for the three primitives that read the mode.  It
    separates the induction over `Held` from the one judgement that needs the indices, the fault
    relation `Loc` (Fault.lean), which is at the kinds `Kind.shorter less`. -/
structure Logic (κ : Kind) (R : Bool → Bool → {α : Type} → P α → P α → Prop) : Prop where
  leaf : ∀ {b c : Bool} {α : Type} {m : P α}, Leaf b c m → R b c m m
  getMode : ∀ {b : Bool}, R b false getMode getMode
  bind : ∀ {b c d : Bool} {α β : Type} {m m' : P α} {f f' : α → P β},
    R b c m m' → (∀ a, R c d (f a) (f' a)) → R b d (m >>= f) (m' >>= f')
  scanPeek : ∀ {b d : Bool} {β : Type} {g : List UInt8 → Nat}
    {k k' : List UInt8 → Option UInt8 → P β}, Scans g → (∀ tk o, R true d (k tk o) (k' tk o)) →
    R b d (scan g >>= fun tk => peek >>= k tk) (scan g >>= fun tk => peek >>= k' tk)
  outL : κ.more → ∀ {b c : Bool} {α : Type} {m' : P α}, R b c outOfFuel m'
  outR : κ.less → ∀ {b c : Bool} {α : Type} {m : P α},
    Held ⟨False, False, κ.mode⟩ b c m m → R b c m outOfFuel

section
variable {R : Bool → Bool → {α : Type} → P α → P α → Prop}

variable (hR : Logic κ R)
include hR

theorem Logic.finishStr (checked : Bool) (bytes : List UInt8) :
    R b false (Parse.finishStr checked bytes) (Parse.finishStr checked bytes) :=
  hR.bind hR.getMode fun _ =>
    ite_rel (hR.leaf (.pure _)) (ite_rel (hR.leaf (.pure _)) (hR.leaf (.errAt _)))

theorem Logic.parseSymbolBytes (scratch : List UInt8) :
    R b false (Parse.parseSymbolBytes scratch) (Parse.parseSymbolBytes scratch) := by
  rw [PrefixDet.parseSymbolBytes_eq]
  exact hR.bind hR.getMode fun mode => hR.scanPeek (.symLen mode) fun _ _ =>
    ite_rel (hR.leaf (.errAt _)) <| ite_rel (hR.leaf (.pure _)) <| ite_rel (hR.leaf (.pure _)) <|
    ite_rel (hR.leaf (.errAt _)) (hR.leaf (.errAt _))

theorem sound {α : Type} {m m' : P α} (h : Held κ b c m m') : R b c m m' := by
  induction h with
  | leaf h => exact hR.leaf h
  | finishChecked bytes => exact hR.finishStr true bytes
  | finishUnchecked bytes _ => exact hR.finishStr false bytes
  | parseSymbolBytes scratch _ => exact hR.parseSymbolBytes scratch
  | bind _ _ ih ihf => exact hR.bind (ih hR) fun a => ihf a hR
  | scanPeek _ hg _ ih => exact hR.scanPeek hg fun tk o => ih tk o hR
  | outL h => exact hR.outL h
  | outR h hm => exact hR.outR h hm

end

theorem zero_left {α : Type} {F : Nat → P α} (h0 : F 0 = outOfFuel) {n' : Nat} (h : κ.Rel 0 n') :
    Held κ b c outOfFuel (F n') := by
  rcases h with h | ⟨hm, _⟩ | ⟨_, h⟩
  · rw [← h, h0]; exact .leaf .outOfFuel
  · exact .outL hm
  · omega

/-- The successor case of a loop on the fuel.  The step is walked once, for any kind: it serves
    the case where both loops go on and, on the diagonal, the case where the right-hand one is out
    of fuel. -/
theorem succ {α : Type} {F : Nat → P α} (h0 : F 0 = outOfFuel) {f f' : Nat} (h : κ.Rel (f + 1) f')
    (step : ∀ {κ' : Kind} {g' : Nat}, (κ.mode → κ'.mode) → κ'.Rel f g' →
      Held κ' b c (F (f + 1)) (F (g' + 1))) :
    Held κ b c (F (f + 1)) (F f') := by
  cases f' with
  | zero =>
    rcases h with h | ⟨_, h⟩ | ⟨hl, _⟩
    · cases h
    · omega
    · rw [h0]; exact .outR hl (step (κ' := ⟨False, False, κ.mode⟩) id (.refl f))
  | succ f' => exact step id h.pred

/-- One step of the walk: the two sides are taken apart together.  Structural rules come first and
    at reducible transparency, so a rule that does not apply fails at the head symbol; `ls` are the
    lemmas for the functions called.  After `Held.bind` the index between the two parts is a
    metavariable; the proof of the first part assigns it. -/
syntax "held_step" "[" term,* "]" : tactic
macro_rules
  | `(tactic| held_step [$ls,*]) => `(tactic| first
      | with_reducible apply Held.bind
      | with_reducible apply ite_rel
      | intro _
      | with_reducible exact Held.leaf (by with_reducible constructor)
      $[| with_reducible exact $ls]*
      | with_reducible apply_assumption -exfalso -symm
      | split)

syntax "held" "[" term,* "]" : tactic
macro_rules
  | `(tactic| held [$ls,*]) => `(tactic| repeat' held_step [$ls,*])

theorem peekOrNull : Held κ b true peekOrNull peekOrNull :=
  .bind (.leaf .peek) fun _ => .leaf (.pureHeld _)
theorem nextOrNull : Held κ b false nextOrNull nextOrNull := by unfold Parse.nextOrNull; held []
theorem nextOrEof : Held κ b false nextOrEof nextOrEof := by unfold Parse.nextOrEof; held []
theorem nextOrEofChar : Held κ b false nextOrEofChar nextOrEofChar := by
  unfold Parse.nextOrEofChar; held []

theorem parseWhitespace : Held κ b true parseWhitespace parseWhitespace := by
  rw [PrefixDet.parseWhitespace_eq, ← bind_pure Parse.peek]
  exact .scanPeek .skipWs .wsLen fun _ _ => .leaf (.pureHeld _)

theorem skipDigits : Held κ b false skipDigits skipDigits := by
  rw [PrefixDet.skipDigits_eq]
  exact .scanPeek .skipDigits .digitsLen fun _ _ => .leaf (.pure _)

theorem charNameTail (initial : UInt8) :
    Held κ b false (charNameTail initial) (charNameTail initial) := by
  rw [PrefixDet.charNameTail_eq]
  refine .scanPeek .charName .charNameLen fun _ _ => ?_
  held []

theorem readCont (n : Nat) (acc : List UInt8) : Held κ b false (readCont n acc) (readCont n acc) := by
  induction n generalizing b acc <;> (unfold Parse.readCont; held [])

theorem decodeUtf8Sequence (initial : UInt8) :
    Held κ b false (decodeUtf8Sequence initial) (decodeUtf8Sequence initial) := by
  unfold Parse.decodeUtf8Sequence; dsimp only; held [readCont _ _]

theorem decodeR6rsHexEscape {f f' : Nat} (h : κ.Rel f f') (n : Nat) :
    Held κ b false (Parse.decodeR6rsHexEscape f n) (Parse.decodeR6rsHexEscape f' n) := by
  induction f generalizing κ b f' n with
  | zero => exact zero_left (F := fun f => Parse.decodeR6rsHexEscape f n) rfl h
  | succ f ih =>
    refine succ (F := fun f => Parse.decodeR6rsHexEscape f n) rfl h fun _ h' => ?_
    unfold Parse.decodeR6rsHexEscape; held [nextOrEof, ih h' _]

theorem parseR6rsEscape (acc : List UInt8) {fuel fuel' : Nat} (h : κ.Rel fuel fuel') :
    Held κ b false (Parse.parseR6rsEscape fuel acc) (Parse.parseR6rsEscape fuel' acc) := by
  unfold Parse.parseR6rsEscape; held [nextOrEof, decodeR6rsHexEscape h _]

theorem parseR6rsStr (hm : κ.mode) {f f' : Nat} (h : κ.Rel f f') (acc : List UInt8) :
    Held κ b false (Parse.parseR6rsStr f acc) (Parse.parseR6rsStr f' acc) := by
  induction f generalizing κ b f' acc with
  | zero => exact zero_left (F := fun f => Parse.parseR6rsStr f acc) rfl h
  | succ f ih =>
    refine succ (F := fun f => Parse.parseR6rsStr f acc) rfl h fun hm' h' => ?_
    unfold Parse.parseR6rsStr
    held [nextOrEof, .finishUnchecked _ (hm' hm), parseR6rsEscape _ h'.succ, ih (hm' hm) h' _]

theorem digitLoop {F : Nat → Nat → P Nat} {val : UInt8 → Option Nat} {base : Nat}
    (hF : DigitLoop F val base) {f f' : Nat} (h : κ.Rel f f') (n : Nat) :
    Held κ b false (F f n) (F f' n) := by
  induction f generalizing κ b f' n with
  | zero => rw [hF.zero]; exact zero_left (F := fun f => F f n) (hF.zero n) h
  | succ f ih =>
    refine succ (F := fun f => F f n) (hF.zero n) h fun _ h' => ?_
    rw [hF.succ, hF.succ]; unfold digitStep; held [ih h' _]

theorem decodeElispHexEscape {f f' : Nat} (h : κ.Rel f f') (n : Nat) :
    Held κ b false (Parse.decodeElispHexEscape f n) (Parse.decodeElispHexEscape f' n) :=
  digitLoop decodeElispHexEscape_loop h n

theorem decodeElispUniEscape (count n : Nat) :
    Held κ b false (decodeElispUniEscape count n) (decodeElispUniEscape count n) := by
  induction count generalizing b n <;> (unfold Parse.decodeElispUniEscape; held [nextOrEof])

theorem decodeElispOctalEscape {f f' : Nat} (h : κ.Rel f f') (n : Nat) :
    Held κ b false (Parse.decodeElispOctalEscape f n) (Parse.decodeElispOctalEscape f' n) :=
  digitLoop decodeElispOctalEscape_loop h n

theorem elispCharEscape (acc : List UInt8) (n : Nat) :
    Held κ b false (elispCharEscape acc n) (elispCharEscape acc n) := by
  unfold Parse.elispCharEscape; held []

theorem elispUniCharEscape (acc : List UInt8) (n : Nat) :
    Held κ b false (elispUniCharEscape acc n) (elispUniCharEscape acc n) := by
  unfold Parse.elispUniCharEscape; held []

theorem parseElispEscape (acc : List UInt8) {fuel fuel' : Nat} (h : κ.Rel fuel fuel') :
    Held κ b false (Parse.parseElispEscape fuel acc) (Parse.parseElispEscape fuel' acc) := by
  unfold Parse.parseElispEscape
  held [nextOrEof, decodeElispHexEscape h _, decodeElispUniEscape _ _, decodeElispOctalEscape h _,
    elispCharEscape _ _, elispUniCharEscape _ _]

theorem parseElispStr {f f' : Nat} (h : κ.Rel f f') (acc : List UInt8) (ub mb na : Bool) :
    Held κ b false (Parse.parseElispStr f acc ub mb na) (Parse.parseElispStr f' acc ub mb na) := by
  induction f generalizing κ b f' acc ub mb na with
  | zero => exact zero_left (F := fun f => Parse.parseElispStr f acc ub mb na) rfl h
  | succ f ih =>
    refine succ (F := fun f => Parse.parseElispStr f acc ub mb na) rfl h fun _ h' => ?_
    unfold Parse.parseElispStr
    held [nextOrEof, .finishChecked _, parseElispEscape _ h'.succ, ih h' _ _ _ _]

theorem decodeR6rsCharHexEscape {f f' : Nat} (h : κ.Rel f f') (n : Nat) (first : Bool) :
    Held κ b false (Parse.decodeR6rsCharHexEscape f n first)
      (Parse.decodeR6rsCharHexEscape f' n first) := by
  induction f generalizing κ b f' n first with
  | zero => exact zero_left (F := fun f => Parse.decodeR6rsCharHexEscape f n first) rfl h
  | succ f ih =>
    refine succ (F := fun f => Parse.decodeR6rsCharHexEscape f n first) rfl h fun _ h' => ?_
    unfold Parse.decodeR6rsCharHexEscape; held [ih h' _ _]

theorem parseR6rsChar {fuel fuel' : Nat} (h : κ.Rel fuel fuel') :
    Held κ b false (parseR6rsChar fuel) (parseR6rsChar fuel') := by
  unfold Parse.parseR6rsChar
  repeat' first
    | exact charNameTail _
    | held_step [nextOrEofChar, decodeR6rsCharHexEscape h _ _, decodeUtf8Sequence _]

theorem asChar (n : Nat) :
    Held κ b false (asChar n) (asChar n) := by
  unfold Parse.asChar; held []

theorem asEscapedChar (n : Nat) :
    Held κ b false (asEscapedChar n) (asEscapedChar n) := by
  unfold Parse.asEscapedChar; held [asChar _]

theorem decodeElispCharEscape {fuel fuel' : Nat} (h : κ.Rel fuel fuel') :
    Held κ b false (Parse.decodeElispCharEscape fuel) (Parse.decodeElispCharEscape fuel') := by
  unfold Parse.decodeElispCharEscape
  held [nextOrEofChar, nextOrEof, decodeElispHexEscape h _, decodeElispUniEscape _ _,
    decodeElispOctalEscape h _, asChar _, asEscapedChar _, decodeUtf8Sequence _]

theorem parseElispChar {fuel fuel' : Nat} (h : κ.Rel fuel fuel') :
    Held κ b false (Parse.parseElispChar fuel) (Parse.parseElispChar fuel') := by
  unfold Parse.parseElispChar; held [decodeUtf8Sequence _, decodeElispCharEscape h]

theorem f64FromParts (cfg : Cfg) (pos : Bool) (sig : Nat) (e : Int) :
    Held κ b false (f64FromParts cfg pos sig e) (f64FromParts cfg pos sig e) := by
  unfold Parse.f64FromParts; held []

theorem parseExponentOverflow (pos : Bool) (sig : Nat) (posExp : Bool) :
    Held κ b false (parseExponentOverflow pos sig posExp)
      (parseExponentOverflow pos sig posExp) := by
  unfold Parse.parseExponentOverflow; held [skipDigits]

theorem exponentLoop (cfg : Cfg) (pos : Bool) (sig : Nat) (startExp : Int) (posExp : Bool)
    {f f' : Nat} (h : κ.Rel f f') (exp : Nat) :
    Held κ b false (Parse.exponentLoop cfg pos sig startExp posExp f exp)
      (Parse.exponentLoop cfg pos sig startExp posExp f' exp) := by
  induction f generalizing κ b f' exp with
  | zero => exact zero_left (F := fun f => Parse.exponentLoop cfg pos sig startExp posExp f exp) rfl h
  | succ f ih =>
    refine succ (F := fun f => Parse.exponentLoop cfg pos sig startExp posExp f exp) rfl h fun _ h' => ?_
    unfold Parse.exponentLoop
    held [peekOrNull, parseExponentOverflow _ _ _, f64FromParts _ _ _ _, ih h' _]

theorem parseExponent (cfg : Cfg) (pos : Bool) (sig : Nat) (startExp : Int)
    {fuel fuel' : Nat} (h : κ.Rel fuel fuel') :
    Held κ true false (Parse.parseExponent cfg fuel pos sig startExp)
      (Parse.parseExponent cfg fuel' pos sig startExp) := by
  unfold Parse.parseExponent; held [peekOrNull, exponentLoop _ _ _ _ _ h _]

theorem decimalLoop
    {f f' : Nat} (h : κ.Rel f f') (sig : Nat) (exp : Int) (zeros : Nat) (any : Bool) :
    Held κ b false (Parse.decimalLoop f sig exp zeros any)
      (Parse.decimalLoop f' sig exp zeros any) := by
  induction f generalizing κ b f' sig exp zeros any with
  | zero => exact zero_left (F := fun f => Parse.decimalLoop f sig exp zeros any) rfl h
  | succ f ih =>
    refine succ (F := fun f => Parse.decimalLoop f sig exp zeros any) rfl h fun _ h' => ?_
    unfold Parse.decimalLoop; held [peekOrNull, skipDigits, ih h' _ _ _ _]

theorem parseDecimal (cfg : Cfg) (pos : Bool) (sig : Nat) (exp : Int)
    {fuel fuel' : Nat} (h : κ.Rel fuel fuel') :
    Held κ true false (Parse.parseDecimal cfg fuel pos sig exp)
      (Parse.parseDecimal cfg fuel' pos sig exp) := by
  unfold Parse.parseDecimal
  held [peekOrNull, decimalLoop h _ _ _ _, parseExponent _ _ _ _ h, f64FromParts _ _ _ _]

theorem parseLongInteger (cfg : Cfg) (radix : Nat) (pos : Bool) (sig : Nat)
    {f f' : Nat} (h : κ.Rel f f') (exp : Nat) :
    Held κ b false (Parse.parseLongInteger cfg radix pos sig f exp)
      (Parse.parseLongInteger cfg radix pos sig f' exp) := by
  induction f generalizing κ b f' exp with
  | zero => exact zero_left (F := fun f => Parse.parseLongInteger cfg radix pos sig f exp) rfl h
  | succ f ih =>
    refine succ (F := fun f => Parse.parseLongInteger cfg radix pos sig f exp) rfl h fun _ h' => ?_
    unfold Parse.parseLongInteger
    held [peekOrNull, parseDecimal _ _ _ _ h'.succ, parseExponent _ _ _ _ h'.succ,
      f64FromParts _ _ _ _, ih h' _]

theorem parseNumTail (cfg : Cfg) (radix : Nat) (pos : Bool) (sig : Nat)
    {fuel fuel' : Nat} (h : κ.Rel fuel fuel') :
    Held κ b false (Parse.parseNumTail cfg fuel radix pos sig)
      (Parse.parseNumTail cfg fuel' radix pos sig) := by
  unfold Parse.parseNumTail; held [peekOrNull, parseDecimal _ _ _ _ h, parseExponent _ _ _ _ h]

theorem numLoop (cfg : Cfg) (radix : Nat) (pos : Bool) {f f' : Nat} (h : κ.Rel f f') (res : Nat) :
    Held κ b false (Parse.numLoop cfg radix pos f res) (Parse.numLoop cfg radix pos f' res) := by
  induction f generalizing κ b f' res with
  | zero => exact zero_left (F := fun f => Parse.numLoop cfg radix pos f res) rfl h
  | succ f ih =>
    refine succ (F := fun f => Parse.numLoop cfg radix pos f res) rfl h fun _ h' => ?_
    unfold Parse.numLoop
    held [peekOrNull, parseNumTail _ _ _ _ h'.succ, parseLongInteger _ _ _ _ h'.succ _, ih h' _]

theorem parseNumLiteral (cfg : Cfg) (radix : Nat) (pos : Bool)
    {fuel fuel' : Nat} (h : κ.Rel fuel fuel') :
    Held κ b false (Parse.parseNumLiteral cfg fuel radix pos)
      (Parse.parseNumLiteral cfg fuel' radix pos) := by
  unfold Parse.parseNumLiteral; held [numLoop _ _ _ h _]

theorem parseRadixLiteral (cfg : Cfg) (radix : Nat) {fuel fuel' : Nat} (h : κ.Rel fuel fuel') :
    Held κ b false (Parse.parseRadixLiteral cfg fuel radix)
      (Parse.parseRadixLiteral cfg fuel' radix) := by
  unfold Parse.parseRadixLiteral; held [peekOrNull, parseNumLiteral _ _ _ h]

theorem expectNumberEnd (n : Number) :
    Held κ b false (expectNumberEnd n) (expectNumberEnd n) := by
  unfold Parse.expectNumberEnd; held []

theorem parseNumToken (cfg : Cfg) (pos : Bool) {fuel fuel' : Nat} (h : κ.Rel fuel fuel') :
    Held κ b false (Parse.parseNumToken cfg fuel pos) (Parse.parseNumToken cfg fuel' pos) := by
  unfold Parse.parseNumToken; held [parseNumLiteral _ _ _ h, expectNumberEnd _]

theorem parseRadixToken (cfg : Cfg) (radix : Nat) {fuel fuel' : Nat} (h : κ.Rel fuel fuel') :
    Held κ b false (Parse.parseRadixToken cfg fuel radix)
      (Parse.parseRadixToken cfg fuel' radix) := by
  unfold Parse.parseRadixToken; held [parseRadixLiteral _ _ h, expectNumberEnd _]

theorem parseNumber (cfg : Cfg) {fuel fuel' : Nat} (h : κ.Rel fuel fuel') :
    Held κ b false (Parse.parseNumber cfg fuel) (Parse.parseNumber cfg fuel') := by
  unfold Parse.parseNumber; held [peekOrNull, parseRadixLiteral _ _ h]

/-- `badByte` as it is written out in `parseToken` -/
theorem badByte :
    Held κ true c (do
        let s ← (fun s => Res.ok s s : P St)
        let pp := s.rd.peekPosition
        Parse.discard
        (fun s' => Res.err (.syntax .expectedSomeValue pp.line pp.col) s' : P Token))
      (do
        let s ← (fun s => Res.ok s s : P St)
        let pp := s.rd.peekPosition
        Parse.discard
        (fun s' => Res.err (.syntax .expectedSomeValue pp.line pp.col) s' : P Token)) :=
  .leaf .badByte

theorem expectIdent (cs : List UInt8) : Held κ b false (expectIdent cs) (expectIdent cs) := by
  induction cs generalizing b <;> (unfold Parse.expectIdent; held [])

theorem parseSignDotSymbol (hm : κ.mode) (cfg : Cfg) (pfx : List UInt8) :
    Held κ true false (parseSignDotSymbol cfg pfx) (parseSignDotSymbol cfg pfx) := by
  unfold Parse.parseSignDotSymbol; held [peekOrNull, .parseSymbolBytes _ hm]

theorem parseSignToken (hm : κ.mode) (cfg : Cfg) (sign : UInt8) (pos : Bool) {fuel fuel' : Nat}
    (h : κ.Rel fuel fuel') :
    Held κ true false (Parse.parseSignToken cfg fuel sign pos)
      (Parse.parseSignToken cfg fuel' sign pos) := by
  unfold Parse.parseSignToken
  held [peekOrNull, .parseSymbolBytes _ hm, parseSignDotSymbol hm _ _, parseNumToken _ _ h]

theorem parseToken (hm : κ.mode) (cfg : Cfg) (pk : UInt8) {fuel fuel' : Nat}
    (h : κ.Rel fuel fuel') :
    Held κ true false (Parse.parseToken cfg fuel pk) (Parse.parseToken cfg fuel' pk) := by
  unfold Parse.parseToken
  repeat' first
    | with_reducible exact badByte
    | held_step [.parseSymbolBytes _ hm, expectIdent _, parseRadixToken _ _ h, parseR6rsChar h,
        parseSignToken hm _ _ _ h, parseNumToken _ _ h, parseR6rsStr hm h _,
        parseElispStr h _ _ _ _, parseElispChar h, peekOrNull, decodeUtf8Sequence _]

theorem endSeq (close : UInt8) :
    Held κ b false (endSeq close) (endSeq close) := by
  unfold Parse.endSeq; held [parseWhitespace]

theorem byteListLoop (cfg : Cfg) (close : UInt8) {f f' : Nat} (h : κ.Rel f f') (acc : List UInt8) :
    Held κ b false (Parse.byteListLoop cfg close f acc) (Parse.byteListLoop cfg close f' acc) := by
  induction f generalizing κ b f' acc with
  | zero => exact zero_left (F := fun f => Parse.byteListLoop cfg close f acc) rfl h
  | succ f ih =>
    refine succ (F := fun f => Parse.byteListLoop cfg close f acc) rfl h fun _ h' => ?_
    unfold Parse.byteListLoop
    held [parseWhitespace, parseNumber _ h'.succ, expectNumberEnd _, ih h' _]

theorem parseByteList (cfg : Cfg) (close : UInt8) {fuel fuel' : Nat} (h : κ.Rel fuel fuel') :
    Held κ b false (Parse.parseByteList cfg fuel close) (Parse.parseByteList cfg fuel' close) := by
  unfold Parse.parseByteList; held [parseWhitespace, byteListLoop _ _ h _]

theorem expectEnd : Held κ b false expectEnd expectEnd := by unfold Parse.expectEnd; held [parseWhitespace]

end Held

theorem Built.Logic.of_held {κ : Kind} {R : {α : Type} → P α → P α → Prop} (hR : Built.Logic κ R)
    {b c : Bool} {α : Type} {m m' : P α} (h : Held κ b c m m') : R m m' := by
  induction h with
  | leaf h => exact hR.prim h.prim
  | finishChecked bytes => exact hR.prim (.finishChecked bytes)
  | finishUnchecked bytes hm => exact hR.prim (.finishUnchecked bytes hm)
  | parseSymbolBytes scratch hm => exact hR.prim (.parseSymbolBytes scratch hm)
  | bind _ _ ih ihf => exact hR.bind (ih hR) fun a => ihf a hR
  | scanPeek hp _ _ ih =>
    exact hR.bind (hR.prim hp) fun tk => hR.bind (hR.prim .peek) fun o => ih tk o hR
  | outL h => exact hR.outL h
  | outR h _ _ => exact hR.outR h

end Parse
end Lexpr
