/-
  TriviaBase — the trivia variants of a printed text.  `TV p ryu v t`: `t` is `Print.text p ryu v`
  with a trivia string (`Triv` of `Reads.lean`: whitespace bytes and complete line comments) at
  every token boundary, also inside `#u8(…)` / `#vu8(…)` (`BytesVar`); non-empty where the printer
  writes a space, possibly empty elsewhere; atoms verbatim.  `TVTop` adds trivia before the text
  and final trivia (`TrivEnd`) after it.
-/
import LexprModel.Proofs.ListRT
import LexprModel.Proofs.ReadsGlue
import LexprModel.Proofs.DialectRT
namespace Lexpr
namespace Parse
namespace ListRT
open Print Spec

theorem textP_atom (p : Print.Options) (ryu : Nat → List UInt8) (v : Value) (h1 : v.isCons = false)
    (h2 : v.isVector = false) : text p ryu v = atomTextP p ryu v :=
  text_leaf p ryu v h1 h2

/-- The elements of a byte vector with trivia: a trivia string before every element (non-empty
    before every element but the first, where the printer writes a space) and one (possibly
    empty) before the closing parenthesis. -/
def BElemsT : Bool → List UInt8 → List UInt8 → Prop
  | _, [], t => Triv t
  | first, b :: bs, t => ∃ w tl, Triv w ∧ (first = false → w ≠ []) ∧ BElemsT false bs tl ∧
      t = w ++ (natDigits b.toNat ++ tl)

/-- The trivia variants of the text of a byte vector: `#u8` / `#vu8`, trivia, `(`, the elements
    with trivia, `)`.  The Emacs Lisp unibyte string `"\ooo…"` is a single token and is kept
    verbatim. -/
def BytesVar (p : Print.Options) (bs t : List UInt8) : Prop :=
  match p.bytes with
  | .r6rs => ∃ w te, Triv w ∧ BElemsT true bs te ∧
      t = 35 :: 118 :: 117 :: 56 :: (w ++ 40 :: (te ++ [41]))
  | .r7rs => ∃ w te, Triv w ∧ BElemsT true bs te ∧ t = 35 :: 117 :: 56 :: (w ++ 40 :: (te ++ [41]))
  | .elisp => t = 34 :: (Print.elispBytesText bs ++ [34])

theorem bytesVar_head (p : Print.Options) (bs t : List UInt8) (h : BytesVar p bs t) :
    ElemHead t := by
  unfold BytesVar at h
  cases hp : p.bytes <;> simp only [hp] at h
  · obtain ⟨w, te, -, -, rfl⟩ := h
    exact head_of_byte _ _ (by decide) (by decide) (by decide) (by decide) (by decide)
  · obtain ⟨w, te, -, -, rfl⟩ := h
    exact head_of_byte _ _ (by decide) (by decide) (by decide) (by decide) (by decide)
  · subst h
    exact head_of_byte _ _ (by decide) (by decide) (by decide) (by decide) (by decide)

mutual
/-- `TV p ryu v t`: `t` is the text of `v` with trivia inserted at the token boundaries. -/
def TV (p : Print.Options) (ryu : Nat → List UInt8) : Value → List UInt8 → Prop
  | .cons a d, t => ∃ w ta td, Triv w ∧ TV p ryu a ta ∧ TVTail p ryu d td ∧
      t = 40 :: (w ++ (ta ++ (td ++ [41])))
  | .vector xs, t => ∃ ts, TVSeq p ryu true xs ts ∧ t = vopen p ++ (ts ++ [vclose p])
  | .null, t => ∃ w, Triv w ∧ t = 40 :: (w ++ [41])
  | .nil, t => t = atomTextP p ryu .nil
  | .bool b, t => t = atomTextP p ryu (.bool b)
  | .number n, t => t = atomTextP p ryu (.number n)
  | .char c, t => t = atomTextP p ryu (.char c)
  | .string x, t => t = atomTextP p ryu (.string x)
  | .symbol x, t => t = atomTextP p ryu (.symbol x)
  | .keyword x, t => t = atomTextP p ryu (.keyword x)
  | .bytes b, t => BytesVar p b t
/-- the rest of a cdr chain up to (not including) the closing parenthesis, trivia before the
    parenthesis included -/
def TVTail (p : Print.Options) (ryu : Nat → List UInt8) : Value → List UInt8 → Prop
  | .null, t => Triv t
  | .cons a d, t => ∃ w ta td, Triv w ∧ w ≠ [] ∧ TV p ryu a ta ∧ TVTail p ryu d td ∧
      t = w ++ (ta ++ td)
  | .vector xs, t => ∃ ts, TVSeq p ryu true xs ts ∧ DotShape (vopen p ++ (ts ++ [vclose p])) t
  | .nil, t => DotShape (atomTextP p ryu .nil) t
  | .bool b, t => DotShape (atomTextP p ryu (.bool b)) t
  | .number n, t => DotShape (atomTextP p ryu (.number n)) t
  | .char c, t => DotShape (atomTextP p ryu (.char c)) t
  | .string x, t => DotShape (atomTextP p ryu (.string x)) t
  | .symbol x, t => DotShape (atomTextP p ryu (.symbol x)) t
  | .keyword x, t => DotShape (atomTextP p ryu (.keyword x)) t
  | .bytes b, t => ∃ tx, BytesVar p b tx ∧ DotShape tx t
/-- the elements of a vector up to (not including) the closing delimiter, trivia before the
    delimiter included; `first`: no separator is required before the next element -/
def TVSeq (p : Print.Options) (ryu : Nat → List UInt8) : Bool → List Value → List UInt8 → Prop
  | _, [], t => Triv t
  | first, x :: xs, t => ∃ w tx ts, Triv w ∧ (first = false → w ≠ []) ∧ TV p ryu x tx ∧
      TVSeq p ryu false xs ts ∧ t = w ++ (tx ++ ts)
end

def TVTop (p : Print.Options) (ryu : Nat → List UInt8) (v : Value) (t : List UInt8) : Prop :=
  ∃ w0 tv w1, Triv w0 ∧ TV p ryu v tv ∧ TrivEnd w1 ∧ t = w0 ++ (tv ++ w1)

theorem tvTail_dotted (p : Print.Options) (ryu : Nat → List UInt8) (d : Value)
    (h1 : d.isCons = false) (h2 : d ≠ .null) (t : List UInt8) :
    TVTail p ryu d t ↔ ∃ tx, TV p ryu d tx ∧ DotShape tx t := by
  cases d with
  | cons a d => simp [Value.isCons] at h1
  | null => exact absurd rfl h2
  | vector xs =>
    simp only [TVTail, TV]
    constructor
    · rintro ⟨ts, h, hd⟩; exact ⟨_, ⟨ts, h, rfl⟩, hd⟩
    · rintro ⟨tx, ⟨ts, h, rfl⟩, hd⟩; exact ⟨ts, h, hd⟩
  | bytes b => simp only [TVTail, TV]
  | _ => simp only [TVTail, TV, exists_eq_left]

theorem tv_atom (p : Print.Options) (ryu : Nat → List UInt8) (v : Value)
    (h1 : v.isCons = false) (h2 : v.isVector = false) (h3 : v ≠ .null)
    (hb : ∀ b, v ≠ .bytes b) (t : List UInt8) :
    TV p ryu v t ↔ t = atomTextP p ryu v := by
  cases v <;> simp_all [Value.isCons, Value.isVector, TV]

end ListRT
end Parse
end Lexpr

