/-
  Generic: the public entry points, and call histories on related parsers give related items.
-/
import LexprModel.Proofs.Rel
import LexprModel.Proofs.StepOp
namespace Lexpr
namespace Parse

/-- What the public functions and the call histories need of the parser proper.  `&str` against
    slice has it without being `PrimsFull` (StrSlice.lean). -/
class PrimsTop (S : St → St → Prop) (E : Err → Err → Prop) : Prop extends Prims S E where
  nextValue : ∀ cfg f, PRel S E Eq (nextValue cfg f) (nextValue cfg f)
  nextDatum : ∀ cfg f, PRel S E Eq (nextDatum cfg f) (nextDatum cfg f)

instance {S : St → St → Prop} {E : Err → Err → Prop} [PrimsFull S E] : PrimsTop S E where
  nextValue := Gen.nextValue
  nextDatum := Gen.nextDatum

section hist
variable {S : St → St → Prop} {E : Err → Err → Prop}

theorem Gen.nextValueTop [PrimsTop S E] (cfg : Cfg) :
    PRel S E Eq (nextValueTop cfg) (nextValueTop cfg) :=
  .bind Prims.apiFuel (PrimsTop.nextValue cfg)

theorem Gen.nextDatumTop [PrimsTop S E] (cfg : Cfg) :
    PRel S E Eq (nextDatumTop cfg) (nextDatumTop cfg) :=
  .bind Prims.apiFuel (PrimsTop.nextDatum cfg)

theorem Gen.expectValue [PrimsTop S E] (cfg : Cfg) :
    PRel S E Eq (expectValue cfg) (expectValue cfg) :=
  .bind (Gen.nextValueTop cfg) fun
    | some v => .pure v
    | none => Prims.peekErr _

theorem Gen.expectDatum [PrimsTop S E] (cfg : Cfg) :
    PRel S E Eq (expectDatum cfg) (expectDatum cfg) :=
  .bind (Gen.nextDatumTop cfg) fun
    | some v => .pure v
    | none => Prims.peekErr _

theorem Gen.fromTrait [PrimsTop S E] (cfg : Cfg) : PRel S E Eq (fromTrait cfg) (fromTrait cfg) :=
  .bind (Gen.expectValue cfg) fun v => .bind Gen.expectEnd fun _ => .pure v

theorem Gen.fromTraitDatum [PrimsTop S E] (cfg : Cfg) :
    PRel S E Eq (fromTraitDatum cfg) (fromTraitDatum cfg) :=
  .bind (Gen.expectDatum cfg) fun v => .bind Gen.expectEnd fun _ => .pure v

def ItemRel (E : Err → Err → Prop) : Item → Item → Prop
  | .value v, .value w => v = w
  | .datum d, .datum d' => d = d'
  | .none_, .none_ => True
  | .unit, .unit => True
  | .err e, .err e' => E e e'
  | .panic p, .panic q => p = q
  | .fuel, .fuel => True
  | _, _ => False

def StepRel (S : St → St → Prop) (E : Err → Err → Prop) :
    Item × Option St → Item × Option St → Prop
  | (i, some s), (j, some t) => ItemRel E i j ∧ S s t
  | (i, none), (j, none) => ItemRel E i j
  | _, _ => False

theorem StepRel.step {α : Type} {mk : α → Item} {r₁ r₂ : Res α} (h : ResRel S E Eq r₁ r₂)
    (hmk : ∀ a, ItemRel E (mk a) (mk a)) : StepRel S E (r₁.step mk) (r₂.step mk) := by
  cases r₁ <;> cases r₂ <;> simp only [ResRel] at h
  · exact ⟨h.1 ▸ hmk _, h.2⟩
  · exact h
  · exact h
  · exact h

theorem stepOp_rel [PrimsTop S E] (cfg : Cfg) (op : Op) {s t : St} (h : S s t) :
    StepRel S E (stepOp cfg op s) (stepOp cfg op t) := by
  rw [stepOp_eq, stepOp_eq]
  exact .step
    ((Op.run_forall (C := fun m => PRel S E Eq m m) (Gen.nextValueTop cfg) (Gen.nextDatumTop cfg)
      (Gen.expectValue cfg) (Gen.expectDatum cfg) Gen.expectEnd op).app s t h)
    (Op.item_forall (Q := fun i => ItemRel E i i) (fun _ => rfl) (fun _ => rfl) trivial trivial op)

inductive HistRel (E : Err → Err → Prop) : List Item → List Item → Prop
  | nil : HistRel E [] []
  | cons {i j : Item} {is js : List Item} : ItemRel E i j → HistRel E is js →
      HistRel E (i :: is) (j :: js)

theorem runHistory_rel [PrimsTop S E] (cfg : Cfg) (ops : List Op) {s t : St} (h : S s t) :
    HistRel E (runHistory cfg ops s) (runHistory cfg ops t) := by
  induction ops generalizing s t with
  | nil => exact .nil
  | cons op ops ih =>
    have := stepOp_rel (S := S) (E := E) cfg op h
    unfold runHistory
    revert this
    rcases stepOp cfg op s with ⟨i, _ | s'⟩ <;> rcases stepOp cfg op t with ⟨j, _ | t'⟩ <;>
      simp only [StepRel] <;> intro h'
    · exact .cons h' .nil
    · exact h'.elim
    · exact h'.elim
    · exact .cons h'.1 (ih h'.2)

end hist

end Parse
end Lexpr
