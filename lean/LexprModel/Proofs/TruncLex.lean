/-
  Truncation (C19): the lexer, part 1 (tactics, strings, escapes, characters).
-/
import LexprModel.Proofs.TruncBase
namespace Lexpr
namespace Parse
namespace Trunc
open PrefixDet (Sim ext Scanner digitsLen scan ext_rest ext_consume)

/-! ### the walk

  `ts hq [l₁, …]` follows the shape of `m` on a goal `TS X Q m m' s q`: a conditional, `peek` / `next`
  / `peekOrNull` and what follows, any other `m₁ >>= f` (by `TS.bind`, whose first premise then
  fixes what a diverged result of `m₁` satisfies), a leaf, the call of a function whose lemma is
  among the `lᵢ`, last a `match`.  Every rule is tried at reducible transparency, so that one which
  does not apply fails at the head symbol of `m`.  The goals `TE ..` for the truncated run after
  the end of its input are left, unless `m₁` excludes a diverged result.  `te [l₁, …]` walks those
  in the same way, on all goals; there the `lᵢ` are `EO` lemmas, and a condition on the byte that
  stands for the end of the input is evaluated.  A step of `ts` begins by applying the identity
  `TS.self`, so that the walk stops at a goal that is no `TS` goal. -/

theorem TS.self {α : Type} {X : Err → Prop} {Q : α → St → Res α → Prop} {m m' : P α} {s : St}
    {q : List UInt8} (h : TS X Q m m' s q) : TS X Q m m' s q := h

theorem QF.elim {α : Type} {a : α} {s : St} {r : Res α} {p : Prop} (h : QF a s r) : p :=
  False.elim h

syntax "ts_step" term:max "[" term,* "]" : tactic
macro_rules
  | `(tactic| ts_step $hq [$ls,*]) => `(tactic| (with_reducible apply TS.self); first
      | (with_reducible apply TS.ite) <;> intros
      | with_reducible apply TS.pure
      | with_reducible apply TS.errAt
      | with_reducible apply TS.peekErr
      | with_reducible apply TS.panicAt
      | with_reducible apply TS.outOfFuel
      | with_reducible apply discard_t
      | (with_reducible apply TS.bind_peek $hq) <;> intros
      | (with_reducible apply TS.bind_next $hq) <;> intros
      | (with_reducible apply TS.bind_peekOrNull $hq) <;> intros
      | with_reducible apply TS.pure_bind
      | ((with_reducible apply TS.bind);
         (case' h1 => first | with_reducible apply discard_t $[| with_reducible apply $ls]*);
         (case' h3 => (intros; first | with_reducible (apply QF.elim; assumption) | skip));
         (case' h2 => intros))
      $[| with_reducible apply $ls]*
      $[| ((with_reducible apply TS.weakenQ $ls);
           first | exact fun _ _ _ h => h.elim | exact fun _ _ _ _ => trivial)]*
      | dsimp only
      | split)

syntax "ts" term:max "[" term,* "]" : tactic
macro_rules
  | `(tactic| ts $hq [$ls,*]) => `(tactic| repeat' ts_step $hq [$ls,*])

/-- closes the requirement `Q` on a diverged result at a `pure` leaf: here `QT`; TruncTok.lean adds
    `QTok` for a token that is a value by itself -/
syntax "tq_close" : tactic
macro_rules
  | `(tactic| tq_close) => `(tactic| exact True.intro)

syntax "te_step" "[" term,* "]" : tactic
macro_rules
  | `(tactic| te_step [$ls,*]) => `(tactic| first
      | with_reducible apply TE.ite_neg (by decide)
      | with_reducible apply TE.ite_pos (by decide)
      | (with_reducible apply TE.ite) <;> intros
      | with_reducible apply TE.bind_peek (by assumption)
      | with_reducible apply TE.bind_next (by assumption)
      | with_reducible apply TE.bind_peekOrNull (by assumption)
      | with_reducible apply TE.bind_discard (by assumption)
      | with_reducible apply TE.bind_pure
      | ((with_reducible apply TE.pure (by assumption)); tq_close)
      | with_reducible apply TE.errSoft (by decide)
      | with_reducible apply TE.peekErrSoft (by decide)
      | with_reducible apply TE.errX (by assumption)
      | with_reducible apply TE.peekErrX (by assumption)
      | with_reducible apply TE.panicAt
      | with_reducible apply TE.outOfFuel
      $[| with_reducible apply TE.ofEO_false $ls]*
      $[| with_reducible apply TE.ofEO $ls (fun _ _ _ _ => trivial)]*
      $[| with_reducible apply TE.bind $ls (fun _ _ _ h => h.elim)]*
      $[| (with_reducible apply TE.bind $ls) <;> intros]*
      | ((with_reducible show TE _ _ _ _ _); first | dsimp only | split))

syntax "te" "[" term,* "]" : tactic
macro_rules
  | `(tactic| te [$ls,*]) => `(tactic| all_goals repeat' te_step [$ls,*])

section lex
variable {X : Err → Prop} {s : St} {q : List UInt8}

theorem nextOrEof_t (hq : q ≠ []) : TS X QF nextOrEof nextOrEof s q := by
  unfold nextOrEof
  ts hq []
  te []

theorem nextOrEofChar_t (hq : q ≠ []) : TS X QF nextOrEofChar nextOrEofChar s q := by
  unfold nextOrEofChar
  ts hq []
  te []

theorem readCont_t (hq : q ≠ []) {n : Nat} {acc : List UInt8} :
    TS X QF (readCont n acc) (readCont n acc) s q := by
  induction n generalizing acc s with
  | zero => unfold readCont; ts hq []
  | succ n ih => unfold readCont; ts hq [ih]; te []

theorem decodeUtf8Sequence_t (hq : q ≠ []) {b : UInt8} :
    TS X QF (decodeUtf8Sequence b) (decodeUtf8Sequence b) s q := by
  unfold decodeUtf8Sequence
  ts hq [readCont_t hq]

theorem decodeR6rsHexEscape_t (hq : q ≠ []) {f f' n : Nat} (h : f ≤ f') :
    TS X QF (decodeR6rsHexEscape f n) (decodeR6rsHexEscape f' n) s q := by
  induction f generalizing f' n s with
  | zero => exact TS.outOfFuel
  | succ f ih =>
    cases f' with
    | zero => exact absurd h (Nat.not_succ_le_zero f)
    | succ g =>
      unfold decodeR6rsHexEscape
      ts hq [nextOrEof_t hq, ih (Nat.le_of_succ_le_succ h)]

theorem parseR6rsEscape_t (hq : q ≠ []) {f f' : Nat} {acc : List UInt8} (h : f ≤ f') :
    TS X QF (parseR6rsEscape f acc) (parseR6rsEscape f' acc) s q := by
  unfold parseR6rsEscape
  ts hq [nextOrEof_t hq, decodeR6rsHexEscape_t hq h]

theorem finishStr_t {c : Bool} {bs : List UInt8} : TS X QF (finishStr c bs) (finishStr c bs) s q := by
  unfold finishStr
  ts (by assumption) [getMode_t]

theorem parseR6rsStr_t (hq : q ≠ []) {f f' : Nat} {acc : List UInt8} (h : f ≤ f') :
    TS X QF (parseR6rsStr f acc) (parseR6rsStr f' acc) s q := by
  induction f generalizing f' acc s with
  | zero => exact TS.outOfFuel
  | succ f ih =>
    cases f' with
    | zero => exact absurd h (Nat.not_succ_le_zero f)
    | succ g =>
      unfold parseR6rsStr
      ts hq [nextOrEof_t hq, finishStr_t, parseR6rsEscape_t hq h, ih (Nat.le_of_succ_le_succ h)]

/-- the diverged result of a digit loop: the other run, if it returns, returns at least as much -/
def QLe : Nat → St → Res Nat → Prop := fun a _ r' => ∀ a' s', r' = .ok a' s' → a ≤ a'

/-- more digits only make the value larger -/
theorem _root_.Lexpr.Parse.DigitLoop.ge {F : Nat → Nat → P Nat} {val : UInt8 → Option Nat} {base : Nat}
    (hF : DigitLoop F val base) {f n a : Nat} {x x' : St} (h : F f n x = .ok a x') : n ≤ a := by
  induction f generalizing n x with
  | zero => rw [hF.zero] at h; cases h
  | succ f ih =>
    rw [hF.succ] at h
    unfold digitStep at h
    obtain ⟨o, x1, _, h⟩ := bind_ok h
    cases o with
    | none => exact Nat.le_of_eq (pure_ok h).1
    | some c =>
      dsimp only at h
      cases hv : val c with
      | none => rw [hv] at h; exact Nat.le_of_eq (pure_ok h).1
      | some v =>
        rw [hv] at h
        obtain ⟨_, x2, _, h⟩ := bind_ok h
        rcases ite_ok h with ⟨_, h⟩ | ⟨_, h⟩
        · cases h
        · exact Nat.le_trans (Nat.le_mul_of_pos_right n hF.base_pos)
            (Nat.le_trans (Nat.le_add_right _ v) (ih h))

theorem _root_.Lexpr.Parse.DigitLoop.ts {F : Nat → Nat → P Nat} {val : UInt8 → Option Nat} {base : Nat}
    (hF : DigitLoop F val base) (hq : q ≠ []) {f f' n : Nat} (h : f ≤ f') :
    TS X QLe (F f n) (F f' n) s q := by
  induction f generalizing f' n s with
  | zero => rw [hF.zero]; exact TS.outOfFuel
  | succ f ih =>
    cases f' with
    | zero => exact absurd h (Nat.not_succ_le_zero f)
    | succ g =>
      rw [hF.succ, hF.succ]
      unfold digitStep
      ts hq [ih (Nat.le_of_succ_le_succ h)]
      exact TE.pure ‹_› fun a' s' hr =>
        hF.ge (f := g + 1) (by rw [hF.succ]; unfold digitStep; exact hr)

theorem decodeElispUniEscape_t (hq : q ≠ []) {count n : Nat} :
    TS X QF (decodeElispUniEscape count n) (decodeElispUniEscape count n) s q := by
  induction count generalizing n s with
  | zero => unfold decodeElispUniEscape; ts hq []
  | succ f ih => unfold decodeElispUniEscape; ts hq [nextOrEof_t hq, ih]

theorem consume1_rest {b : UInt8} {t : List UInt8} (h : s.rd.rest = b :: t) :
    ({ s with rd := s.rd.consume 1 } : St).rd.rest = t := by
  simp [Rd.consume_rest, h]

theorem elispCharEscape_t (hq : q ≠ []) {acc : List UInt8} {n : Nat} :
    TS X QF (elispCharEscape acc n) (elispCharEscape acc n) s q := by
  unfold elispCharEscape
  ts hq []
  te []

theorem elispUniCharEscape_t {acc : List UInt8} {n : Nat} :
    TS X QF (elispUniCharEscape acc n) (elispUniCharEscape acc n) s q := by
  unfold elispUniCharEscape
  ts (by assumption) []

theorem notScalar_of_ge {n a : Nat} (h : 0x110000 ≤ n) (ha : n ≤ a) : isScalar a = false := by
  unfold isScalar
  have : ¬ a < 0x110000 := by omega
  simp [this]

theorem notSurrogate_of_ge {a : Nat} (h : 0x110000 ≤ a) : Utf8.isSurrogate a = false := by
  unfold Utf8.isSurrogate
  have : ¬ a < 0xE000 := by omega
  simp [this]

theorem ge_of_notScalar {n : Nat} (h : ¬ isScalar n = true) (hsur : ¬ Utf8.isSurrogate n = true) :
    0x110000 ≤ n := by
  unfold isScalar at h
  by_cases h1 : n < 0x110000
  · simp [h1] at h; exact absurd h hsur
  · omega

theorem nextOrEof_eo (h0 : s.rd.rest = []) : EO X nextOrEof s (fun _ _ => False) := by
  unfold nextOrEof
  exact EO.bind_next h0 (EO.errSoft (by decide))

theorem nextOrEofChar_eo (h0 : s.rd.rest = []) : EO X nextOrEofChar s (fun _ _ => False) := by
  unfold nextOrEofChar
  exact EO.bind_next h0 (EO.errSoft (by decide))

/-! ### numeric Emacs escapes whose digits ran to the end of the input

  A value above U+10FFFF stays invalid whatever follows (`QLe`: more digits only make it larger);
  a surrogate at the end of the input is reported as EOF (the repaired code: one more digit makes
  it a scalar value again). -/

theorem notOk_peek {β : Type} {k : Option UInt8 → P β} {x : St}
    (h : ∀ o x1, NotOk (k o x1)) : NotOk ((peek >>= k) x) :=
  NotOk.rbind_of fun o x1 _ => h o x1

theorem elispCharEscape_notOk {acc : List UInt8} {a : Nat} {x : St} (h : isScalar a = false) :
    NotOk (elispCharEscape acc a x) := by
  unfold elispCharEscape
  simp only [h, Bool.false_eq_true, ↓reduceIte]
  split
  · exact notOk_peek fun o _ => by cases o <;> exact NotOk.err
  · exact NotOk.err

theorem elispUniCharEscape_notOk {acc : List UInt8} {a : Nat} {x : St} (h : isScalar a = false) :
    NotOk (elispUniCharEscape acc a x) := by
  unfold elispUniCharEscape; simp only [h]; exact NotOk.err

theorem asChar_notOk {a : Nat} {x : St} (h : isScalar a = false) : NotOk (asChar a x) := by
  unfold asChar; simp only [h]; exact NotOk.err

theorem asEscapedChar_notOk {a : Nat} {x : St} (h : isScalar a = false) :
    NotOk (asEscapedChar a x) := by
  unfold asEscapedChar
  split
  · exact notOk_peek fun o _ => by
      cases o with
      | none => exact NotOk.err
      | some b => exact asChar_notOk h
  · exact asChar_notOk h

theorem notOk_of_QLe {β : Type} {n : Nat} {s2 : St} {r' : Res Nat} {k' : Nat → P β}
    (hs : ¬ isScalar n = true) (hsur : ¬ Utf8.isSurrogate n = true) (hQ : QLe n s2 r')
    (hk : ∀ a x, isScalar a = false → NotOk (k' a x)) : NotOk (rbind r' k') :=
  NotOk.rbind_of fun a' s' hr =>
    hk a' s' (notScalar_of_ge (ge_of_notScalar hs hsur) (hQ a' s' hr))

theorem elispCharEscape_te {acc : List UInt8} {n : Nat} {s2 : St} {r' : Res Nat}
    (h0 : s2.rd.rest = []) (hQ : QLe n s2 r') :
    TE X QT (elispCharEscape acc n) (rbind r' fun n => elispCharEscape acc n) s2 := by
  unfold elispCharEscape
  refine TE.ite (fun _ => TE.ite (fun _ => TE.pure h0 trivial) (fun _ => TE.pure h0 trivial))
    (fun hs => TE.ite (fun _ => ?_) (fun hsur => TE.errNotOk ?_))
  · exact TE.bind_peek h0 (TE.errSoft (by decide))
  · exact notOk_of_QLe hs hsur hQ (fun a x ha => elispCharEscape_notOk ha)

theorem asEscapedChar_t (hq : q ≠ []) {n : Nat} : TS X QF (asEscapedChar n) (asEscapedChar n) s q := by
  unfold asEscapedChar asChar
  ts hq []
  te []

theorem asEscapedChar_te {n : Nat} {s2 : St} {r' : Res Nat} (h0 : s2.rd.rest = [])
    (hQ : QLe n s2 r') : TE X QT (asEscapedChar n) (rbind r' fun n => asEscapedChar n) s2 := by
  unfold asEscapedChar
  refine TE.ite (fun _ => TE.bind_peek h0 (TE.errSoft (by decide))) (fun hsur => ?_)
  unfold asChar
  refine TE.ite (fun _ => TE.pure h0 trivial) (fun hs => TE.errNotOk ?_)
  exact notOk_of_QLe hs hsur hQ (fun a x ha => asEscapedChar_notOk ha)

/-- what follows the digits of `\N{U+...` in a string -/
abbrev namedTail (acc : List UInt8) (n : Nat) : P (List UInt8 × ElispEscape) := do
  let r ← elispUniCharEscape acc n
  let b4 ← nextOrEof
  if b4 != 125 then errAt .invalidEscape else pure r

/-- `surrogate_at_end`, then the rest of the `\N{U+...}` arm -/
abbrev namedEnd (acc : List UInt8) (n : Nat) : P (List UInt8 × ElispEscape) :=
  if Utf8.isSurrogate n then do
    match (← peek) with
    | none => errAt .eofString
    | some _ => namedTail acc n
  else namedTail acc n

theorem namedEnd_notOk {acc : List UInt8} {a : Nat} {x : St} (h : isScalar a = false) :
    NotOk (namedEnd acc a x) := by
  have ht : ∀ y, NotOk (namedTail acc a y) := fun y => (elispUniCharEscape_notOk h).bind
  unfold namedEnd
  split
  · exact notOk_peek fun o x1 => by
      cases o with
      | none => exact NotOk.err
      | some b => exact ht x1
  · exact ht x

theorem namedEnd_te {acc : List UInt8} {n : Nat} {s2 : St} {r' : Res Nat}
    (h0 : s2.rd.rest = []) (hQ : QLe n s2 r') :
    TE X QT (namedEnd acc n) (rbind r' fun n => namedEnd acc n) s2 := by
  unfold namedEnd
  refine TE.ite (fun _ => TE.bind_peek h0 (TE.errSoft (by decide))) (fun hsur => ?_)
  unfold namedTail elispUniCharEscape
  by_cases hs : isScalar n = true
  · rw [if_pos hs]
    te [nextOrEof_eo ‹_›]
  · rw [if_neg hs]
    exact Or.inr (Or.inr (notOk_of_QLe hs hsur hQ (fun a x ha => namedEnd_notOk ha)))

theorem parseElispEscape_t (hq : q ≠ []) {f f' : Nat} {acc : List UInt8} (h : f ≤ f') :
    TS X QT (parseElispEscape f acc) (parseElispEscape f' acc) s q := by
  unfold parseElispEscape
  ts hq [nextOrEof_t hq, decodeElispUniEscape_t hq, elispUniCharEscape_t, elispCharEscape_t hq,
    decodeElispHexEscape_loop.ts hq h, decodeElispOctalEscape_loop.ts hq h]
  all_goals first
    | with_reducible exact elispCharEscape_te ‹_› ‹_›
    | exact namedEnd_te ‹_› ‹_›
    | te []

theorem TS.suffix {α : Type} {Q : α → St → Res α → Prop} {m m' : P α} {a : α} {s1 : St}
    (h : TS X Q m m' s q) (hm : m s = .ok a s1) : s1.rd.rest <:+ s.rd.rest := by
  unfold TS at h; rw [hm] at h; exact h.1

theorem parseElispStr_eo {f : Nat} {acc : List UInt8} {ub mb na : Bool} (h0 : s.rd.rest = []) :
    EO X (parseElispStr f acc ub mb na) s (fun _ _ => False) := by
  cases f with
  | zero => exact EO.outOfFuel
  | succ f =>
    unfold parseElispStr
    exact EO.bind (nextOrEof_eo h0) (fun _ _ _ h => h.elim)

theorem parseElispStr_t (hq : q ≠ []) {f f' : Nat} {acc : List UInt8} {ub mb na : Bool} (h : f ≤ f') :
    TS X QF (parseElispStr f acc ub mb na) (parseElispStr f' acc ub mb na) s q := by
  induction f generalizing f' acc ub mb na s with
  | zero => exact TS.outOfFuel
  | succ f ih =>
    cases f' with
    | zero => exact absurd h (Nat.not_succ_le_zero f)
    | succ g =>
      unfold parseElispStr
      ts hq [nextOrEof_t hq, finishStr_t, parseElispEscape_t hq h, ih (Nat.le_of_succ_le_succ h)]
      te [parseElispStr_eo ‹_›]

/-- the diverged result of the `#\x` digit loop -/
def QOptLe : Option Nat → St → Res (Option Nat) → Prop := fun a _ r' =>
  ∀ n0, a = some n0 → ∀ a' s', r' = .ok a' s' → ∃ n', a' = some n' ∧ n0 ≤ n'

theorem decodeR6rsCharHexEscape_ge {f n : Nat} {a : Option Nat} {x x' : St}
    (h : decodeR6rsCharHexEscape f n false x = .ok a x') : ∃ n', a = some n' ∧ n ≤ n' := by
  induction f generalizing n x with
  | zero => cases h
  | succ f ih =>
    unfold decodeR6rsCharHexEscape at h
    obtain ⟨o, x1, _, h⟩ := bind_ok h
    cases o with
    | none => exact ⟨n, (pure_ok h).1.symm, Nat.le_refl _⟩
    | some c =>
      dsimp only at h
      rcases ite_ok h with ⟨_, h⟩ | ⟨_, h⟩
      · exact ⟨n, (pure_ok h).1.symm, Nat.le_refl _⟩
      · obtain ⟨_, x2, _, h⟩ := bind_ok h
        cases hv : hexVal c with
        | none => rw [hv] at h; cases h
        | some v =>
          rw [hv] at h
          rcases ite_ok h with ⟨_, h⟩ | ⟨_, h⟩
          · cases h
          · obtain ⟨n', h1, h2⟩ := ih h
            exact ⟨n', h1, by omega⟩

theorem decodeR6rsCharHexEscape_t (hq : q ≠ []) {f f' n : Nat} {first : Bool} (h : f ≤ f') :
    TS X QOptLe (decodeR6rsCharHexEscape f n first) (decodeR6rsCharHexEscape f' n first) s q := by
  induction f generalizing f' n first s with
  | zero => exact TS.outOfFuel
  | succ f ih =>
    cases f' with
    | zero => exact absurd h (Nat.not_succ_le_zero f)
    | succ g =>
      unfold decodeR6rsCharHexEscape
      ts hq [ih (Nat.le_of_succ_le_succ h)]
      refine TE.pure ‹_› fun n0 hn0 a' s' hr => ?_
      cases first with
      | true => cases hn0
      | false =>
        cases hn0
        exact decodeR6rsCharHexEscape_ge (f := g + 1) (by unfold decodeR6rsCharHexEscape; exact hr)

theorem charName_mem {y : List UInt8} {c : Nat} (h : charName y = some c) : y ∈ charNames := by
  apply Classical.byContradiction
  intro hm
  simp only [charNames, List.mem_cons, List.not_mem_nil, or_false, not_or] at hm
  obtain ⟨h1, h2, h3, h4, h5, h6, h7, h8, h9, h10, h11, h12⟩ := hm
  simp [charName, h1, h2, h3, h4, h5, h6, h7, h8, h9, h10, h11, h12] at h

theorem charName_none_append {x : List UInt8} (h : isCharNamePrefix x = false) (y : List UInt8) :
    charName (x ++ y) = none := by
  cases hx : charName (x ++ y) with
  | none => rfl
  | some c =>
    have : isCharNamePrefix x = true :=
      List.any_eq_true.2 ⟨_, charName_mem hx, List.isPrefixOf_iff_prefix.2 (List.prefix_append x y)⟩
    rw [h] at this; cases this

/-- the decision of the character-name branch on the bytes `tk` after `initial` -/
abbrev charNameDecide (initial : UInt8) (tk : List UInt8) (nxt' : Option UInt8) : P Nat :=
  match charName (initial :: tk) with
  | some c => pure c
  | none =>
    if nxt'.isNone && isCharNamePrefix (initial :: tk) then errAt .eofChar
    else errAt .invalidCharacterConstant

/-- at the end of the input the decision fails hard only on bytes that begin no name -/
theorem charNameDecide_eof {initial : UInt8} {tk : List UInt8} {r' : Res Nat}
    (h0 : s.rd.rest = []) (hr : charName (initial :: tk) = none →
      isCharNamePrefix (initial :: tk) = false → NotOk r') :
    TE X QT (charNameDecide initial tk none) r' s := by
  unfold charNameDecide
  cases hcn : charName (initial :: tk) with
  | some c => exact TE.pure h0 trivial
  | none =>
    exact TE.ite (fun _ => TE.errSoft (by decide)) (fun hnp => TE.errNotOk (hr hcn (by simpa using hnp)))

theorem charNameTail_t (hq : q ≠ []) {initial : UInt8} :
    TS X QT (PrefixDet.charNameTail initial) (PrefixDet.charNameTail initial) s q := by
  rw [PrefixDet.charNameTail_eq]
  obtain ⟨b, q', rfl⟩ := List.exists_cons_of_ne_nil hq
  refine TS.bind (scan_t PrefixDet.charNameLen_scanner) (fun tk s1 _ _ => ?_)
    (fun tk s1 _ h0 hq1 => TE.bind_peek h0 ?_)
  · -- the name ends before the end of the input; the next byte may be missing
    refine TS.bind_peek hq (fun _ _ _ => ?_) (fun h0 => charNameDecide_eof h0 fun hcn _ => ?_)
    · ts hq []
    · obtain ⟨s2, hp, _⟩ := peek_ext_nil (b := b) (q' := q') h0
      rw [hp]
      simp only [rbind, hcn, Option.isNone_some, Bool.false_and, Bool.false_eq_true, ↓reduceIte]
      exact NotOk.err
  · -- the name runs to the end of the input: the other run reads a longer one
    obtain ⟨rfl, hlen, -⟩ := hq1
    refine charNameDecide_eof h0 fun _ hnp => NotOk.rbind_of fun tk' s' htk => notOk_peek fun o x => ?_
    obtain ⟨y, rfl⟩ : ∃ y, tk' = s.rd.rest ++ y := by
      cases htk
      rw [ext_rest]
      exact ⟨_, Scans.charNameLen.take_append _ hlen⟩
    rw [← List.cons_append, charName_none_append hnp]
    dsimp only
    split <;> exact NotOk.err

theorem parseR6rsChar_t (hq : q ≠ []) {f f' : Nat} (h : f ≤ f') :
    TS X QT (parseR6rsChar f) (parseR6rsChar f') s q := by
  unfold parseR6rsChar
  refine TS.bindF (nextOrEofChar_t hq) fun initial s1 _ _ =>
    TS.ite (fun _ => ?_) fun _ => TS.ite (fun _ => ?_) fun _ => ?_
  · -- `#\x`: hex digits, perhaps to the end of the input
    refine TS.bind (decodeR6rsCharHexEscape_t hq h) (fun a s2 _ _ => ?_) (fun a s2 _ h0 hq1 => ?_)
    · ts hq []
      te []
    · cases a with
      | none => exact TE.pure h0 trivial
      | some n =>
        dsimp only
        refine TE.ite (fun _ => TE.pure h0 trivial) (fun hs => TE.ite (fun _ => ?_) (fun hsur => ?_))
        · te []
        · refine TE.errNotOk (NotOk.rbind_of fun a' s' hr => ?_)
          obtain ⟨n', rfl, hle⟩ := hq1 n rfl a' s' hr
          have hge := ge_of_notScalar hs hsur
          simp only [notScalar_of_ge hge hle, notSurrogate_of_ge (Nat.le_trans hge hle),
            Bool.false_eq_true, ↓reduceIte]
          exact NotOk.err
  · ts hq [decodeUtf8Sequence_t hq]
  · -- one character, or a character name (`charNameTail`, written out in `parseR6rsChar`)
    exact TS.bind_peek hq (fun _ _ _ => TS.ite (fun _ => TS.pure) (fun _ => charNameTail_t hq))
      (fun h0 => TE.pure h0 trivial)

theorem asChar_t {n : Nat} : TS X QF (asChar n) (asChar n) s q := by
  unfold asChar
  ts (by assumption) []

theorem decodeElispCharEscape_t (hq : q ≠ []) {f f' : Nat} (h : f ≤ f') :
    TS X QT (decodeElispCharEscape f) (decodeElispCharEscape f') s q := by
  unfold decodeElispCharEscape
  ts hq [nextOrEof_t hq, nextOrEofChar_t hq, decodeElispUniEscape_t hq, asChar_t,
    asEscapedChar_t hq, decodeUtf8Sequence_t hq,
    decodeElispHexEscape_loop.ts hq h, decodeElispOctalEscape_loop.ts hq h]
  all_goals first
    | with_reducible exact asEscapedChar_te ‹_› ‹_›
    | te [nextOrEof_eo ‹_›]

theorem next_ok {c : UInt8} {s1 : St} (h : next s = .ok (some c) s1) :
    s.rd.rest = c :: s1.rd.rest := by
  obtain ⟨t, hr, rfl⟩ := next_some_ok h
  rw [hr, Rd.consume_one_rest hr]

theorem parseElispChar_t (hq : q ≠ []) {f f' : Nat} (h : f ≤ f') :
    TS X QT (parseElispChar f) (parseElispChar f') s q := by
  unfold parseElispChar
  ts hq [decodeUtf8Sequence_t hq, decodeElispCharEscape_t hq h]
  te []

end lex
end Trunc
end Parse
end Lexpr
