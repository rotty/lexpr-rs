/-
  The parser proper as a program.  `nextValue` / `nextDatum` capture errors with `attempt`, but only
  in two shapes: `enter; r ← attempt body; leave; es ← attempt (endSeq close)`, first error wins
  (list and vector arms: `deeperSeq`), and the same without `endSeq` (quotation arm: `deeper`).
  A captured error is never inspected, only thrown again, so a judgement need not say how the
  errors captured by two runs are related: it has to be closed under the two combinators.
  `Built.PLogic` adds them (and the position and the two fuel computations) to `Built.Logic`, and
  the six mutually recursive functions and the entry points are walked once, for any such judgement.
-/
import LexprModel.Proofs.Held
namespace Lexpr
namespace Parse

/-- `enter; body; leave; endSeq close; k`: the depth is restored and the closing delimiter looked
    for also when `body` fails; the first error wins. -/
def deeperSeq {α β : Type} (close : UInt8) (body : P α) (k : α → P β) : P β := do
  enter
  let ret ← attempt body
  leave
  let es ← attempt (endSeq close)
  match ret, es with
  | .ok x, .ok () => k x
  | .error e, _ => liftExcept (.error e)
  | _, .error e => liftExcept (.error e)

/-- `enter; body; leave; k`: the depth is restored also when `body` fails. -/
def deeper {α β : Type} (body : P α) (k : α → P β) : P β := do
  enter
  let ret ← attempt body
  leave
  match ret with
  | .error e => liftExcept (.error e)
  | .ok x => k x

theorem nextValueTop_eq (cfg : Cfg) (s : St) :
    nextValueTop cfg s = nextValue cfg (2 * s.rd.rest.length + 4) s := rfl

theorem nextDatumTop_eq (cfg : Cfg) (s : St) :
    nextDatumTop cfg s = nextDatum cfg (2 * s.rd.rest.length + 4) s := rfl

theorem nextValue_succ (cfg : Cfg) (f : Nat) : nextValue cfg (f + 1) = (do
    match (← parseWhitespace) with
    | none => pure none
    | some pk =>
      let tf ← tokenFuel
      let tok ← parseToken cfg tf pk
      match tok with
      | .byteVecOpen close => do
        let bs ← parseByteList cfg tf close
        pure (some (.bytes bs))
      | .vecOpen close => deeperSeq close (parseVector cfg f close []) fun xs => pure (some (.vector xs))
      | .listOpen close => deeperSeq close (parseList cfg f close []) fun v => pure (some v)
      | .quotation q => deeper (nextValue cfg f) fun
        | none => peekErr .eofList
        | some d => pure (some (Value.list [.symbol q.name, d]))
      | t => match t.atom with
        | some v => pure (some v)
        | none => panicAt .unreachable) := by
  rw [nextValue]
  refine bind_congr fun ws => ?_
  cases ws with
  | none => rfl
  | some pk =>
    refine bind_congr fun tf => bind_congr fun tok => ?_
    cases tok with
    | vecOpen close | listOpen close =>
      exact bind_congr fun _ => bind_congr fun ret => bind_congr fun _ => bind_congr fun es => by
        cases ret <;> cases es <;> rfl
    | quotation q =>
      exact bind_congr fun _ => bind_congr fun ret => bind_congr fun _ => by
        rcases ret with e | _ | d <;> rfl
    | _ => rfl

theorem nextDatum_succ (cfg : Cfg) (f : Nat) : nextDatum cfg (f + 1) = (do
    match (← parseWhitespace) with
    | none => pure none
    | some pk =>
      let start ← getPos
      let tf ← tokenFuel
      let tok ← parseToken cfg tf pk
      match tok with
      | .byteVecOpen close => do
        let bs ← parseByteList cfg tf close
        let stop ← getPos
        pure (some ⟨.bytes bs, .prim ⟨start, stop⟩⟩)
      | .vecOpen close => deeperSeq close (parseVectorMeta cfg f close [] []) fun r => do
          let stop ← getPos
          pure (some ⟨.vector r.1, .vec ⟨start, stop⟩ r.2⟩)
      | .listOpen close => deeperSeq close (parseListMeta cfg f close [] []) fun
        | some (v, c, d) => do
          let stop ← getPos
          pure (some ⟨v, .cons ⟨start, stop⟩ c d⟩)
        | none => do
          let stop ← getPos
          pure (some ⟨.null, .prim ⟨start, stop⟩⟩)
      | .quotation q => do
        let tokenEnd ← getPos
        deeper (nextDatum cfg f) fun
          | none => peekErr .eofList
          | some d => pure (some (Datum.quotation q d ⟨start, tokenEnd⟩))
      | t => match t.atom with
        | some v => do
          let stop ← getPos
          pure (some ⟨v, .prim ⟨start, stop⟩⟩)
        | none => panicAt .unreachable) := by
  rw [nextDatum]
  refine bind_congr fun ws => ?_
  cases ws with
  | none => rfl
  | some pk =>
    refine bind_congr fun start => bind_congr fun tf => bind_congr fun tok => ?_
    cases tok with
    | vecOpen close =>
      exact bind_congr fun _ => bind_congr fun ret => bind_congr fun _ => bind_congr fun es => by
        rcases ret with e | ⟨xs, ms⟩ <;> cases es <;> rfl
    | listOpen close =>
      exact bind_congr fun _ => bind_congr fun ret => bind_congr fun _ => bind_congr fun es => by
        rcases ret with e | _ | ⟨v, c, d⟩ <;> cases es <;> rfl
    | quotation q =>
      exact bind_congr fun _ => bind_congr fun _ => bind_congr fun ret => bind_congr fun _ => by
        rcases ret with e | _ | d <;> rfl
    | _ => rfl

namespace Built
variable {κ : Kind} {R : {α : Type} → P α → P α → Prop}

/-- What a judgement has to satisfy, beyond `Logic`, to follow the parser proper: the position,
    the two fuel computations (the right-hand run may get a fuel that differs as `κ` allows), and
    the two shapes in which `next_value` / `next_datum` capture errors. -/
structure PLogic (κ : Kind) (R : {α : Type} → P α → P α → Prop) : Prop extends Logic κ R where
  getPos : R getPos getPos
  tokenFuel : ∀ {β : Type} {k k' : Nat → P β}, (∀ n n', κ.Rel n n' → R (k n) (k' n')) →
    R (tokenFuel >>= k) (tokenFuel >>= k')
  apiFuel : ∀ {β : Type} {k k' : Nat → P β}, (∀ n n', κ.Rel n n' → R (k n) (k' n')) →
    R (apiFuel >>= k) (apiFuel >>= k')
  deeperSeq : ∀ {α β : Type} (close : UInt8) {m m' : P α} {k k' : α → P β},
    R m m' → (∀ a, R (k a) (k' a)) → R (deeperSeq close m k) (deeperSeq close m' k')
  deeper : ∀ {α β : Type} {m m' : P α} {k k' : α → P β},
    R m m' → (∀ a, R (k a) (k' a)) → R (deeper m k) (deeper m' k')

/-- a loop on the fuel, at the boundary: where one side is out of fuel `κ` has to allow it -/
theorem Logic.zero_left (hR : Logic κ R) {α : Type} {F : Nat → P α} (h0 : F 0 = outOfFuel)
    {n' : Nat} (h : κ.Rel 0 n') : R outOfFuel (F n') := by
  rcases h with h | ⟨hm, _⟩ | ⟨_, h⟩
  · rw [← h, h0]; exact hR.prim .outOfFuel
  · exact hR.outL hm
  · omega

theorem Logic.succ (hR : Logic κ R) {α : Type} {F : Nat → P α} (h0 : F 0 = outOfFuel)
    {f f' : Nat} (h : κ.Rel (f + 1) f') (step : ∀ g', κ.Rel f g' → R (F (f + 1)) (F (g' + 1))) :
    R (F (f + 1)) (F f') := by
  cases f' with
  | zero =>
    rcases h with h | ⟨_, h⟩ | ⟨hl, _⟩
    · cases h
    · omega
    · rw [h0]; exact hR.outR hl
  | succ f' => exact step f' h.pred

/-- One step of the walk over the parser proper; `ls` are the facts about the functions called. -/
syntax "prog_step" term:max "[" term,* "]" : tactic
macro_rules
  | `(tactic| prog_step $hR [$ls,*]) => `(tactic| first
      | with_reducible apply PLogic.tokenFuel $hR
      | with_reducible apply PLogic.deeperSeq $hR
      | with_reducible apply PLogic.deeper $hR
      | with_reducible apply Logic.bind (PLogic.toLogic $hR)
      | with_reducible apply ite_rel
      | intro _
      $[| with_reducible exact $ls]*
      | with_reducible exact Logic.prim (PLogic.toLogic $hR) (by with_reducible constructor)
      | with_reducible exact PLogic.getPos $hR
      | with_reducible apply_assumption -exfalso -symm
      | split)

end Built

section walk
open Built
variable {κ : Kind} {R : {α : Type} → P α → P α → Prop} (hR : PLogic κ R) (hm : κ.mode)
include hR hm

/-- the functions of the lexer that the parser proper calls -/
theorem Built.PLogic.lexer (cfg : Cfg) :
    R Parse.parseWhitespace Parse.parseWhitespace ∧ R Parse.peekOrNull Parse.peekOrNull ∧
    (∀ sc, R (Parse.parseSymbolBytes sc) (Parse.parseSymbolBytes sc)) ∧
    (∀ pk n n', κ.Rel n n' → R (Parse.parseToken cfg n pk) (Parse.parseToken cfg n' pk)) ∧
    ∀ close n n', κ.Rel n n' →
      R (Parse.parseByteList cfg n close) (Parse.parseByteList cfg n' close) :=
  have L := hR.toLogic
  ⟨L.of_held (Held.parseWhitespace (b := true)), L.of_held (Held.peekOrNull (b := true)),
    fun sc => L.prim (.parseSymbolBytes sc hm), fun pk _ _ h => L.of_held (Held.parseToken hm cfg pk h),
    fun close _ _ h => L.of_held (Held.parseByteList (b := true) cfg close h)⟩

theorem Built.PLogic.value_all (cfg : Cfg) : ∀ f f', κ.Rel f f' →
    R (nextValue cfg f) (nextValue cfg f') ∧
    (∀ term acc, R (parseList cfg f term acc) (parseList cfg f' term acc)) ∧
    (∀ term acc, R (parseVector cfg f term acc) (parseVector cfg f' term acc)) := by
  have L := hR.toLogic
  obtain ⟨hws, hpo, hsym, htok, hbl⟩ := hR.lexer hm cfg
  intro f
  induction f with
  | zero =>
    intro f' h
    exact ⟨L.zero_left (F := nextValue cfg) rfl h,
      fun term acc => L.zero_left (F := fun f => parseList cfg f term acc) rfl h,
      fun term acc => L.zero_left (F := fun f => parseVector cfg f term acc) rfl h⟩
  | succ f ih =>
    intro f' h
    refine ⟨L.succ (F := nextValue cfg) rfl h fun g' hg => ?_,
      fun term acc => L.succ (F := fun f => parseList cfg f term acc) rfl h fun g' hg => ?_,
      fun term acc => L.succ (F := fun f => parseVector cfg f term acc) rfl h fun g' hg => ?_⟩
    · obtain ⟨ihV, ihL, ihVec⟩ := ih g' hg
      rw [nextValue_succ, nextValue_succ]
      repeat' prog_step hR [hws, htok _ _ _ (by assumption), hbl _ _ _ (by assumption), ihL _ _, ihVec _ _]
    · obtain ⟨ihV, ihL, ihVec⟩ := ih g' hg
      unfold parseList
      repeat' prog_step hR [hws, hpo, hsym _, ihL _ _]
    · obtain ⟨ihV, ihL, ihVec⟩ := ih g' hg
      unfold parseVector
      repeat' prog_step hR [hws, ihVec _ _]

theorem Built.PLogic.datum_all (cfg : Cfg) : ∀ f f', κ.Rel f f' →
    R (nextDatum cfg f) (nextDatum cfg f') ∧
    (∀ term acc ms, R (parseListMeta cfg f term acc ms) (parseListMeta cfg f' term acc ms)) ∧
    (∀ term acc ms, R (parseVectorMeta cfg f term acc ms) (parseVectorMeta cfg f' term acc ms)) := by
  have L := hR.toLogic
  obtain ⟨hws, hpo, hsym, htok, hbl⟩ := hR.lexer hm cfg
  intro f
  induction f with
  | zero =>
    intro f' h
    exact ⟨L.zero_left (F := nextDatum cfg) rfl h,
      fun term acc ms => L.zero_left (F := fun f => parseListMeta cfg f term acc ms) rfl h,
      fun term acc ms => L.zero_left (F := fun f => parseVectorMeta cfg f term acc ms) rfl h⟩
  | succ f ih =>
    intro f' h
    refine ⟨L.succ (F := nextDatum cfg) rfl h fun g' hg => ?_,
      fun term acc ms => L.succ (F := fun f => parseListMeta cfg f term acc ms) rfl h fun g' hg => ?_,
      fun term acc ms => L.succ (F := fun f => parseVectorMeta cfg f term acc ms) rfl h fun g' hg => ?_⟩
    · obtain ⟨ihV, ihL, ihVec⟩ := ih g' hg
      rw [nextDatum_succ, nextDatum_succ]
      repeat' prog_step hR [hws, htok _ _ _ (by assumption), hbl _ _ _ (by assumption), ihL _ _ _, ihVec _ _ _]
    · obtain ⟨ihV, ihL, ihVec⟩ := ih g' hg
      unfold parseListMeta
      repeat' prog_step hR [hws, hpo, hsym _, ihL _ _ _]
    · obtain ⟨ihV, ihL, ihVec⟩ := ih g' hg
      unfold parseVectorMeta
      repeat' prog_step hR [hws, ihVec _ _ _]

theorem Built.PLogic.nextValueTop (cfg : Cfg) : R (nextValueTop cfg) (nextValueTop cfg) :=
  hR.apiFuel fun f f' h => (hR.value_all hm cfg f f' h).1

theorem Built.PLogic.nextDatumTop (cfg : Cfg) : R (nextDatumTop cfg) (nextDatumTop cfg) :=
  hR.apiFuel fun f f' h => (hR.datum_all hm cfg f f' h).1

theorem Built.PLogic.expectValue (cfg : Cfg) : R (expectValue cfg) (expectValue cfg) :=
  hR.bind (hR.nextValueTop hm cfg) fun
    | some _ => hR.prim (.pure _)
    | none => hR.prim (.peekErr _)

theorem Built.PLogic.expectDatum (cfg : Cfg) : R (expectDatum cfg) (expectDatum cfg) :=
  hR.bind (hR.nextDatumTop hm cfg) fun
    | some _ => hR.prim (.pure _)
    | none => hR.prim (.peekErr _)

theorem Built.PLogic.fromTrait (cfg : Cfg) : R (fromTrait cfg) (fromTrait cfg) :=
  hR.bind (hR.expectValue hm cfg) fun _ =>
    hR.bind (hR.toLogic.of_held (Held.expectEnd (b := true))) fun _ => hR.prim (.pure _)

theorem Built.PLogic.fromTraitDatum (cfg : Cfg) : R (fromTraitDatum cfg) (fromTraitDatum cfg) :=
  hR.bind (hR.expectDatum hm cfg) fun _ =>
    hR.bind (hR.toLogic.of_held (Held.expectEnd (b := true))) fun _ => hR.prim (.pure _)

end walk

end Parse
end Lexpr
