/-
  TriviaRel — C12, "inserting or changing trivia between tokens never changes any value", for
  every compatible pair of printer / parser options: on a trivia variant (`TV`, `TVTop` of
  `TriviaBase.lean`) of a printed text the parser returns what it returns on the text itself,
  `fold p cfg.opts v`.  `reads_tv` is the instance of `reads_relT` (`ReadsRel.lean`) for "read
  back as the folded value", as `reads_textP` is for the plain text; the theorems are read off it.
-/
import LexprModel.Proofs.DialectStructRT
namespace Lexpr
namespace Parse
namespace ListRT
open Print Spec

/-- every trivia variant of every byte vector is read back in every follow context -/
def BytesOKT (p : Print.Options) (cfg : Cfg) : Prop :=
  ∀ (bs t : List UInt8), BytesVar p bs t →
    ∀ (s : St) (rest : List UInt8) (fuel : Nat), Follow rest → Good s →
      s.rd.rest = t ++ rest → fuel ≥ s.rd.rest.length + 2 → 1 ≤ s.depth →
      Runs (nextValue cfg fuel) s (some (fold p cfg.opts (.bytes bs))) rest

/-- compatibility is needed for the plain reading of the Emacs Lisp string only -/
theorem bytesOKT_of_compat (p : Print.Options) (cfg : Cfg)
    (hc : Compatible p cfg.opts = true) : BytesOKT p cfg := by
  intro bs t ht s rest fuel hf hg hr hfu hd
  rcases bytesVar_runs p cfg (fun _ => []) bs with ⟨-, hv⟩ | ⟨hp, hv⟩
  · have hA := atomOKP_of_leaf p cfg (fun _ => []) (.bytes bs) hc (by simp) ⟨trivial, rfl⟩
    rw [hv t ht] at hr
    exact hA.2.2.2.2 s rest fuel hf hg hr hfu (by simp only [nestingP]; omega)
  · rw [show fold p cfg.opts (.bytes bs) = .bytes bs by simp [fold, hp]]
    exact hv t ht s rest fuel hg hr (by omega)

def TailRTT (p : Print.Options) (cfg : Cfg) (ryu : Nat → List UInt8) (d : Value) : Prop :=
  ∀ t, TVTail p ryu d t →
  ∀ (s : St) (rest : List UInt8) (fuel : Nat) (acc : List Value), acc ≠ [] → Good s →
    s.rd.rest = t ++ 41 :: rest → fuel ≥ 2 * s.rd.rest.length + 3 →
    nestingTailP p d + 1 ≤ s.depth →
    Runs (parseList cfg fuel 41 acc) s (Value.append acc (fold p cfg.opts d)) (41 :: rest)

def SeqRTT (p : Print.Options) (cfg : Cfg) (ryu : Nat → List UInt8) (first : Bool)
    (xs : List Value) : Prop :=
  ∀ t, TVSeq p ryu first xs t →
  ∀ (s : St) (rest : List UInt8) (fuel : Nat) (acc : List Value), Good s →
    s.rd.rest = t ++ vclose p :: rest →
    fuel ≥ 2 * s.rd.rest.length + (if first then 4 else 3) →
    nestingSeqP p xs + 1 ≤ s.depth →
    Runs (parseVector cfg fuel (vclose p) acc) s (acc ++ foldList p cfg.opts xs)
      (vclose p :: rest)

theorem reads_tv (p : Print.Options) (cfg : Cfg) (ryu : Nat → List UInt8)
    (hb : p.vector = .brackets → cfg.opts.brackets = .vector) :
    (∀ v, AllAtomsOKP p cfg ryu v → ∀ t, TV p ryu v t →
      Reads cfg (Concat.closes v) t (fold p cfg.opts v) (nestingP p v)) ∧
    (∀ d, AllAtomsOKP p cfg ryu d → ∀ t, TVTail p ryu d t →
      ReadsTail cfg t (fold p cfg.opts d) (nestingTailP p d)) ∧
    (∀ xs, AllAtomsOKSeqP p cfg ryu xs → ∀ first t, TVSeq p ryu first xs t →
      ReadsSeq cfg (vclose p) first t (foldList p cfg.opts xs) (nestingSeqP p xs)) := by
  have H := reads_relT p cfg ryu hb (structural_fold p cfg.opts) (hyp_atomsOKP p cfg ryu)
  refine ⟨fun v h t ht => ?_, fun d h t ht => ?_, fun xs h first t ht => ?_⟩
  · obtain ⟨w, rfl, A⟩ := H.1 v h
    exact (A.value t ht).strong (elemHead_tv ht (text_head_of_leaf p ryu v fun h1 h2 h3 =>
      ((allAtomsOKP_leaf p cfg ryu v h1 h2 h3).1 h).2.2.2.1))
  · obtain ⟨w, rfl, A⟩ := H.1 d h
    exact A.tail t ht
  · obtain ⟨ws, rfl, S⟩ := H.2 xs h
    exact S first t ht


theorem tail_rtT (p : Print.Options) (cfg : Cfg) (ryu : Nat → List UInt8)
    (hb : p.vector = .brackets → cfg.opts.brackets = .vector) (hB : BytesOKT p cfg) :
    ∀ d : Value, AllAtomsOKP p cfg ryu d → TailRTT p cfg ryu d :=
  fun d h t ht => ((reads_tv p cfg ryu hb).2.1 d h t ht).2

theorem seq_rtT (p : Print.Options) (cfg : Cfg) (ryu : Nat → List UInt8)
    (hb : p.vector = .brackets → cfg.opts.brackets = .vector) (hB : BytesOKT p cfg) :
    ∀ (first : Bool) (xs : List Value), AllAtomsOKSeqP p cfg ryu xs → SeqRTT p cfg ryu first xs :=
  fun first xs h t ht => ((reads_tv p cfg ryu hb).2.2 xs h first t ht).2

def okValue {α : Type} : Res α → Option α
  | .ok a _ => some a
  | _ => none

/-- **trivia_structure**: inside a larger input.  Behind any trivia `w0` and in front of a follow
    context (empty or starting with a byte that ends every token), `next_value` on a trivia
    variant of the text of `v` returns `fold p cfg.opts v` — what it returns on the plain text
    (`dialectRT_structure`) —, leaves exactly the context unread and restores the depth budget.
    `AllAtomsOKP` (the atom leaves round-trip) is implied by `AllPlainFor`. -/
theorem trivia_structure (cfg : Cfg) (p : Print.Options) (ryu : Nat → List UInt8)
    (hc : Compatible p cfg.opts = true) (v : Value) (h : AllAtomsOKP p cfg ryu v)
    (w0 t : List UInt8) (hw0 : Triv w0) (ht : TV p ryu v t)
    (s : St) (rest : List UInt8) (fuel : Nat) (hf : Follow rest)
    (hm : s.rd.mode = .slice) (hfa : s.rd.faulty = false)
    (hr : s.rd.rest = w0 ++ (t ++ rest))
    (hfu : fuel ≥ 2 * s.rd.rest.length + 3) (hn : nestingP p v + 1 ≤ s.depth) :
    ∃ s', nextValue cfg fuel s = .ok (some (fold p cfg.opts v)) s' ∧ s'.rd.rest = rest ∧
      s'.rd.mode = .slice ∧ s'.rd.faulty = false ∧ s'.depth = s.depth :=
  ((reads_tv p cfg ryu (compatible_brackets p cfg.opts hc)).1 v h t
    ht).run w0 hw0 s rest fuel (.inr hf) hm hfa hr hfu hn

/-- **C12_trivia_atoms**: `C12_trivia` with the atom round trips as a hypothesis. -/
theorem C12_trivia_atoms (cfg : Cfg) (p : Print.Options) (ryu : Nat → List UInt8)
    (hc : Compatible p cfg.opts = true) (v : Value) (h : AllAtomsOKP p cfg ryu v)
    (hn : nestingP p v ≤ 127) (t : List UInt8) (ht : TVTop p ryu v t) :
    ∃ s', fromTrait cfg (initSt .slice t) = .ok (fold p cfg.opts v) s' ∧
      s'.rd.rest = [] ∧ s'.depth = 128 := by
  obtain ⟨w0, tv, w1, hw0, htv, hw1, rfl⟩ := ht
  exact ((reads_tv p cfg ryu (compatible_brackets p cfg.opts hc)).1 v
    h tv htv).fromTrait hn w0 w1 hw0 hw1

/-- **C12_trivia** (the trivia clause of C12): for every compatible pair of option sets, every
    value whose atoms are plain for the pair (`AllPlainFor`) and whose nesting is at most 127,
    and every text obtained from the printed text of `v` by inserting trivia at token boundaries
    (`TVTop`): `from_slice_custom` returns `fold p cfg.opts v`, consuming everything and restoring
    the depth budget — the same as on the printed text itself (`dialectRT_roundtrip`). -/
theorem C12_trivia (cfg : Cfg) (p : Print.Options) (ryu : Nat → List UInt8)
    (hc : Compatible p cfg.opts = true) (v : Value) (h : AllPlainFor p cfg v)
    (hn : nestingP p v ≤ 127) (t : List UInt8) (ht : TVTop p ryu v t) :
    ∃ s', fromTrait cfg (initSt .slice t) = .ok (fold p cfg.opts v) s' ∧
      s'.rd.rest = [] ∧ s'.depth = 128 :=
  C12_trivia_atoms cfg p ryu hc v (allAtomsOKP_of_plain p cfg ryu hc v h) hn t ht

/-- **C12_trivia_plain**: the statement
    `parse R (printT τ P v) = parse R (bytes P v)`: the value read from any trivia variant is the
    value read from the printed text. -/
theorem C12_trivia_plain (cfg : Cfg) (p : Print.Options) (ryu : Nat → List UInt8)
    (hc : Compatible p cfg.opts = true) (v : Value) (h : AllPlainFor p cfg v)
    (hn : nestingP p v ≤ 127) (t : List UInt8) (ht : TVTop p ryu v t) :
    okValue (fromTrait cfg (initSt .slice t)) =
      okValue (fromTrait cfg (initSt .slice (text p ryu v))) ∧
    okValue (fromTrait cfg (initSt .slice t)) = some (fold p cfg.opts v) := by
  obtain ⟨s1, e1, -, -⟩ := C12_trivia cfg p ryu hc v h hn t ht
  obtain ⟨s2, e2, -, -⟩ := dialectRT_roundtrip cfg p ryu hc v h hn
  rw [e1, e2]; exact ⟨rfl, rfl⟩

/-- **C12_trivia_eq**: changing the trivia never changes the value: any two trivia variants of the
    text of the same value read as the same value. -/
theorem C12_trivia_eq (cfg : Cfg) (p : Print.Options) (ryu : Nat → List UInt8)
    (hc : Compatible p cfg.opts = true) (v : Value) (h : AllPlainFor p cfg v)
    (hn : nestingP p v ≤ 127) (t1 t2 : List UInt8) (h1 : TVTop p ryu v t1)
    (h2 : TVTop p ryu v t2) :
    okValue (fromTrait cfg (initSt .slice t1)) = okValue (fromTrait cfg (initSt .slice t2)) := by
  rw [(C12_trivia_plain cfg p ryu hc v h hn t1 h1).2, (C12_trivia_plain cfg p ryu hc v h hn t2 h2).2]

/-- `C12_trivia` with the nesting measure of `Spec/Dialect.lean` (as in `C02_roundtrip`). -/
theorem C12_trivia_spec (cfg : Cfg) (p : Print.Options) (ryu : Nat → List UInt8)
    (hc : Compatible p cfg.opts = true) (v : Value) (h : AllPlainFor p cfg v)
    (hn : Spec.nesting v < 127) (t : List UInt8) (ht : TVTop p ryu v t) :
    ∃ s', fromTrait cfg (initSt .slice t) = .ok (fold p cfg.opts v) s' ∧
      s'.rd.rest = [] ∧ s'.depth = 128 :=
  C12_trivia cfg p ryu hc v h (by have := nestingP_le p v; omega) t ht

end ListRT
end Parse
end Lexpr

