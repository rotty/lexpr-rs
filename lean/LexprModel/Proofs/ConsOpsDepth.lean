/-
  Call depth of the hand-written `Clone` / `PartialEq` / `Drop` of `Cons` (C16), from the loops
  themselves (LexprModel/ConsOpsDepth.lean instruments the functions of LexprModel/ConsOps.lean).

  Clone reaches exactly `Depth.looped v` levels (`cloneVI_eq`, the depth half of `cloneV_spec`), `==`
  at most `Depth.looped` of either operand (`eqI_spec`), drop at most twice that (`dropD_le_all`;
  `drop_depth_not_looped`: the factor is needed); `C16_depth_looped` turns each into a bound in the
  nesting alone.
-/
import LexprModel.ConsOpsDepth
import LexprModel.Proofs.ConsOps
import LexprModel.Props.C16
namespace Lexpr
namespace ConsOps
open Value Depth Spec

theorem cloneVI_eq : ∀ v : Value, cloneVI v = (.ok v, looped v) := fun v => (cloneV_spec v).2
theorem cloneWhileI_eq : ∀ (rest : Value) (ys : List Value) (c : Value) (k : Nat),
    cloneWhileI (append ys (.cons c .null)) ys.length rest k
      = (.ok (append ys (.cons c rest)), max k (loopedTail rest)) :=
  fun rest ys c k => (cloneWhile_spec rest ys c k).2
theorem cloneListI_eq : ∀ xs : List Value, cloneListI xs = (.ok xs, loopedList xs) :=
  fun xs => (cloneList_spec xs).2

theorem cloneVI_fst (v : Value) : (cloneVI v).1 = cloneV v := by rw [cloneVI_eq, clone_eq]

/-- cloning uses at most `nesting v + 1` levels, whatever the number of elements. -/
theorem clone_depth_le (v : Value) : (cloneVI v).2 ≤ nesting v + 1 := by
  rw [cloneVI_eq]; exact C16_depth_looped v

theorem clone_depth_flat (n : Nat) :
    (cloneVI (Value.list (List.replicate n (.number (.pos 7))))).2 ≤ 2 := by
  rw [cloneVI_eq]; exact C16_flat_list n

theorem looped_pos (v : Value) : 1 ≤ looped v := by
  cases v <;> first | exact Nat.le_refl 1 | exact Nat.le_add_left 1 _
theorem loopedTail_pos : ∀ v : Value, 1 ≤ loopedTail v
  | .cons a _ => Nat.le_trans (looped_pos a) (Nat.le_max_left ..)
  | .vector _ => Nat.le_add_left 1 _
  | .nil | .null | .bool _ | .number _ | .char _ | .string _ | .symbol _ | .keyword _ | .bytes _ =>
    Nat.le_refl 1

/-- Erasure, and the depth stays within `Depth.looped` of either operand.  By the case structure
    of `eqVI` / `eqTailI` / `eqListI`: `h` is the outcome of comparing the cars (`false`: the loop
    returns, the rest is not looked at), `h'` that of the rest. -/
theorem eqI_spec :
    (∀ a b : Value,
      (eqVI a b).1 = eqV a b ∧ (eqVI a b).2 ≤ looped a ∧ (eqVI a b).2 ≤ looped b) ∧
    (∀ xs ys : List Value,
      (eqListI xs ys).1 = eqList xs ys ∧ (eqListI xs ys).2 ≤ loopedList xs ∧
        (eqListI xs ys).2 ≤ loopedList ys) ∧
    (∀ a b : Value,
      (eqTailI a b).1 = eqTail a b ∧ (eqTailI a b).2 ≤ loopedTail a ∧
        (eqTailI a b).2 ≤ loopedTail b) := by
  apply eqVI.mutual_induct
  · intro a d a' d' k h ⟨h1, h2, h3⟩
    rw [h] at h1 h2 h3
    rw [eqVI, h, eqV, ← h1, looped, looped]
    exact ⟨rfl, Nat.succ_le_succ (Nat.le_trans h2 (Nat.le_max_left ..)),
      Nat.succ_le_succ (Nat.le_trans h3 (Nat.le_max_left ..))⟩
  · intro a d a' d' k h r k' h' ⟨h1, h2, h3⟩ ⟨t1, t2, t3⟩
    rw [h] at h1 h2 h3; rw [h'] at t1 t2 t3
    rw [eqVI, h, h', eqV, ← h1, ← t1, looped, looped]
    exact ⟨rfl, Nat.succ_le_succ (max_le_max h2 t2), Nat.succ_le_succ (max_le_max h3 t3)⟩
  · intro xs ys r k h ⟨l1, l2, l3⟩
    rw [h] at l1 l2 l3
    rw [eqVI, h, eqV, looped, looped]
    exact ⟨l1, Nat.succ_le_succ l2, Nat.succ_le_succ l3⟩
  · intro a b hc hv
    rw [eqVI.eq_3 a b hc hv, eqV.eq_3 a b hc hv]
    exact ⟨rfl, looped_pos a, looped_pos b⟩
  · intro a d a' d' k h ⟨h1, h2, h3⟩
    rw [h] at h1 h2 h3
    rw [eqTailI, h, eqTail, ← h1, loopedTail, loopedTail]
    exact ⟨rfl, Nat.le_trans h2 (Nat.le_max_left ..), Nat.le_trans h3 (Nat.le_max_left ..)⟩
  · intro a d a' d' k h r k' h' ⟨h1, h2, h3⟩ ⟨t1, t2, t3⟩
    rw [h] at h1 h2 h3; rw [h'] at t1 t2 t3
    rw [eqTailI, h, h', eqTail, ← h1, ← t1, loopedTail, loopedTail]
    exact ⟨rfl, max_le_max h2 t2, max_le_max h3 t3⟩
  · intro xs ys r k h ⟨l1, l2, l3⟩
    rw [h] at l1 l2 l3
    rw [eqTailI, h, eqTail, loopedTail, loopedTail]
    exact ⟨l1, Nat.succ_le_succ l2, Nat.succ_le_succ l3⟩
  · intro a b hc hv
    rw [eqTailI.eq_3 a b hc hv, eqTail.eq_3 a b hc hv]
    exact ⟨rfl, loopedTail_pos a, loopedTail_pos b⟩
  · exact ⟨rfl, Nat.le_refl 0, Nat.le_refl 0⟩
  · intro x xs y ys k h ⟨h1, h2, h3⟩
    rw [h] at h1 h2 h3
    rw [eqListI, h, eqList, ← h1, loopedList, loopedList]
    exact ⟨rfl, Nat.le_trans h2 (Nat.le_max_left ..), Nat.le_trans h3 (Nat.le_max_left ..)⟩
  · intro x xs y ys k h r k' h' ⟨h1, h2, h3⟩ ⟨t1, t2, t3⟩
    rw [h] at h1 h2 h3; rw [h'] at t1 t2 t3
    rw [eqListI, h, h', eqList, ← h1, ← t1, loopedList, loopedList]
    exact ⟨rfl, max_le_max h2 t2, max_le_max h3 t3⟩
  · intro xs ys h1 h2
    rw [eqListI.eq_3 xs ys h1 h2, eqList.eq_3 xs ys h1 h2]
    exact ⟨rfl, Nat.zero_le _, Nat.zero_le _⟩

theorem eqVI_spec : ∀ a b : Value,
    (eqVI a b).1 = eqV a b ∧ (eqVI a b).2 ≤ looped a ∧ (eqVI a b).2 ≤ looped b := eqI_spec.1
theorem eqTailI_spec : ∀ a b : Value,
    (eqTailI a b).1 = eqTail a b ∧ (eqTailI a b).2 ≤ loopedTail a ∧ (eqTailI a b).2 ≤ loopedTail b :=
  eqI_spec.2.2
theorem eqListI_spec : ∀ xs ys : List Value,
    (eqListI xs ys).1 = eqList xs ys ∧ (eqListI xs ys).2 ≤ loopedList xs ∧
      (eqListI xs ys).2 ≤ loopedList ys := eqI_spec.2.1

theorem eqVI_fst (a b : Value) : (eqVI a b).1 = eqV a b := (eqVI_spec a b).1

/-- comparing uses at most `min (nesting a) (nesting b) + 1` levels. -/
theorem eq_depth_le (a b : Value) :
    (eqVI a b).2 ≤ nesting a + 1 ∧ (eqVI a b).2 ≤ nesting b + 1 :=
  ⟨Nat.le_trans (eqVI_spec a b).2.1 (C16_depth_looped a),
   Nat.le_trans (eqVI_spec a b).2.2 (C16_depth_looped b)⟩

theorem eq_depth_flat (n : Nat) (b : Value) :
    (eqVI (Value.list (List.replicate n (.number (.pos 7)))) b).2 ≤ 2 :=
  Nat.le_trans (eqVI_spec _ b).2.1 (C16_flat_list n)

theorem dropD_nilnil : dropD (.cons .nil .nil) = 2 := rfl

theorem dropD_noncons (t : Value) (h : t.isCons = false) (k : Nat) :
    chainD k t = 1 + max k (dropD t) := by
  cases t with
  | cons a d => exact Bool.noConfusion h
  | _ => rfl

/-- with three cells or more `Cons::drop` runs its loop: the chain from the cell itself, and the
    `(Nil . Nil)` it leaves behind -/
theorem dropD_long (a a2 a3 d3 : Value) :
    dropD (.cons a (.cons a2 (.cons a3 d3))) =
      1 + max (chainD (dropD a) (.cons a2 (.cons a3 d3))) 1 := by
  simp only [dropD, chainD, Nat.max_assoc]

/-- the depth function `chainD` is the deepest of the cells that the loop drops -/
theorem chainD_cells : ∀ (d a : Value), chainD (dropD a) d = maxOf ((dropWhile a d).map cellD) := by
  intro d
  induction d using cdr_induct with
  | stop t ht =>
    intro a
    rw [dropWhile.eq_2 a t ht.ne, dropD_noncons t ht]; exact (Nat.max_zero _).symm
  | step x y ih =>
    intro a
    rw [chainD, dropWhile, List.map_cons, maxOf, cellD, dropD_nilnil, ih]

/-- The depth of dropping a pair is one level for the pair itself plus the deepest of
    (a) the cells that `Cons::drop` drops inside its loop (`Cons.dropLoop`), (b) the drop glue on what
    `Cons::drop` leaves in the cell — this ties `dropD` to the state model of the loop. -/
theorem dropD_loop (a d : Value) :
    dropD (.cons a d) =
      1 + max (maxOf ((Cons.dropLoop a d).2.map cellD))
              (max (dropD (Cons.dropLoop a d).1.1) (dropD (Cons.dropLoop a d).1.2)) := by
  unfold Cons.dropLoop
  split
  · rw [dropD_long, chainD_cells]; rfl
  · rename_i h
    rw [dropD.eq_2 a d h]; exact congrArg _ (Nat.zero_max _).symm

/-- Whatever the length of the chain, dropping a pair stays within one level above the cells of its
    chain: lists of one or two cells go to the drop glue, which is no deeper than the loop would be. -/
theorem dropD_cons_le (a d : Value) : dropD (.cons a d) ≤ 1 + max (chainD (dropD a) d) 1 := by
  rcases cons_or_notCons d with ⟨a2, d2, rfl⟩ | hd
  · rcases cons_or_notCons d2 with ⟨a3, d3, rfl⟩ | hd2
    · exact Nat.le_of_eq (dropD_long a a2 a3 d3)
    · rw [dropD.eq_2 a _ (fun x y z e => hd2.ne y z (Value.cons.inj e).2),
        dropD.eq_2 a2 d2 (fun x y z e => hd2.ne _ _ e), chainD, dropD_noncons d2 hd2]
      generalize max (dropD a2) (dropD d2) = e
      omega
  · rw [dropD.eq_2 a d (fun x y z e => hd.ne _ _ e), dropD_noncons d hd]
    omega

/-- By the case structure of `Depth.looped`: a pair goes through the chain bound of its cdr, the
    chain bound through the drop bound of each car. -/
theorem dropD_le_all :
    (∀ v : Value, dropD v ≤ 2 * looped v) ∧
    (∀ xs : List Value, dropListD xs ≤ 2 * loopedList xs) ∧
    (∀ (d : Value) (k k' : Nat), k ≤ 2 * k' → 1 ≤ k' →
      chainD k d ≤ 2 * max k' (loopedTail d) + 1) := by
  apply looped.mutual_induct
  · intro a d ha hd
    have hc := hd (dropD a) (looped a) ha (looped_pos a)
    have := dropD_cons_le a d
    rw [looped]; omega
  · intro xs h
    rw [dropD, looped]; omega
  · intro t hc hv
    rw [dropD.eq_4 t (fun a _ _ _ e => hc a _ e) hc hv, looped.eq_3 t hc hv]; exact Nat.le_succ 1
  · intro a d ha hd k k' hk hp
    have hc := hd (dropD a) (looped a) ha (looped_pos a)
    rw [chainD, loopedTail]; omega
  · intro xs h k k' hk hp
    rw [chainD, loopedTail]; omega
  · intro t hc hv k k' hk hp
    rw [chainD.eq_3 k t hc hv, loopedTail.eq_3 t hc hv]; omega
  · exact Nat.le_refl 0
  · intro x xs h1 h2
    rw [dropListD, loopedList]; omega

theorem dropD_le : ∀ v : Value, dropD v ≤ 2 * looped v := dropD_le_all.1
theorem chainD_le : ∀ (d : Value) (k k' : Nat), k ≤ 2 * k' → 1 ≤ k' →
    chainD k d ≤ 2 * max k' (loopedTail d) + 1 := dropD_le_all.2.2
theorem dropListD_le : ∀ xs : List Value, dropListD xs ≤ 2 * loopedList xs := dropD_le_all.2.1

/-- dropping uses at most `2 * nesting v + 2` levels, whatever the number of
    elements (`Cons::drop` hands lists of one or two cells to the recursive drop glue, and drops the
    cells of longer lists one level below itself: two levels per nesting in the worst case). -/
theorem drop_depth_le (v : Value) : dropD v ≤ 2 * nesting v + 2 := by
  have h1 := dropD_le v
  have h2 := C16_depth_looped v
  omega

/-- witness: the `nesting + 1` bound of `Depth.looped` does not hold for drop under this count
    (a flat list of three atoms: nesting 1, drop reaches level 4; a two-element list nested in second
    position k times: nesting k, drop reaches 2k + 1) -/
theorem drop_depth_not_looped :
    dropD (Value.list [.null, .null, .null]) = 4 ∧
    looped (Value.list [.null, .null, .null]) = 2 ∧
    dropD (Value.list [.null, Value.list [.null, Value.list [.null, .null]]]) = 7 ∧
    looped (Value.list [.null, Value.list [.null, Value.list [.null, .null]]]) = 4 := by
  decide

theorem drop_depth_flat (n : Nat) : dropD (Value.list (List.replicate n (.number (.pos 7)))) ≤ 4 := by
  have h1 := dropD_le (Value.list (List.replicate n (.number (.pos 7))))
  have h2 := C16_flat_list n
  omega

end ConsOps
end Lexpr
