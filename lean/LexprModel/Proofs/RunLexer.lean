/-
  The walk over Lex.lean, with `nextOrNull`, `peekOrNull` of Reader.lean in front
  and `endSeq`, `byteListLoop`, `parseByteList`, `expectEnd` of Parse.lean behind: one lemma `f_run`
  per function, proved by `unfold f; run_walk0 [lemmas about the callees]` (Run.lean); what the
  walk cannot close is finished by hand and says why.
-/
import LexprModel.Proofs.Run
import LexprModel.Proofs.Utf8Lemmas
import LexprModel.Proofs.Primitives
import LexprModel.Proofs.SymTerm
namespace Lexpr
namespace Parse
open Locations (strictEof lexCode plainCode eofLex)

variable {s : St}

theorem nextOrNull_run :
    Run nextOrNull .lex s s (fun _ => 0) (fun _ => 0) (fun _ _ => True) False False := by
  unfold nextOrNull
  run_walk0 []

theorem discard_run :
    Run discard .lex s s (fun _ => 1) (fun _ => 1)
      (fun _ s' => ∀ c, some c = s.rd.rest.head? → s.rd.rest = c :: s'.rd.rest)
      (s.rd.rest = []) False := by
  run_walk0 []

theorem peekOrNull_run :
    Run peekOrNull .lex s s (fun _ => 0) (fun _ => 0)
      (fun c s' => s'.rd.rest = s.rd.rest ∧ c = s.rd.rest.head?.getD 0) False False := by
  unfold peekOrNull
  run_walk0 []
  rename_i a _ _ hr ha
  exact Run.pure (by assumption) (Nat.zero_le _) ⟨hr, by rw [ha, hr]⟩

/-- as the walk uses it: `c ≠ 0` says that a byte is there -/
theorem peekOrNull_ne :
    Run peekOrNull .lex s s (fun _ => 0) (fun _ => 0) (fun c s' => c ≠ 0 → s'.rd.rest ≠ []) False
      False :=
  peekOrNull_run.post fun c s' ⟨hr, hc⟩ h0 hn => by rw [hr] at hn; rw [hn] at hc; exact h0 hc

/-- the exact form: the reader moves over the leading trivia, the result is the next unread byte;
    only a read can fail -/
theorem parseWhitespace_run :
    Run parseWhitespace .lex s s (fun _ => 0) Progress.synN
      (fun a s' => a = s'.rd.rest.head? ∧ s'.rd.rest = s.rd.rest.drop (wsLen s.rd.rest))
      False False := by
  unfold parseWhitespace
  run_walk0 []
  rename_i s1 _ h1 a s' _ hr ha
  exact Run.pure (by assumption) (Nat.zero_le _) ⟨ha, hr.trans h1⟩

/-- as the walk uses it -/
theorem parseWhitespace_head :
    Run parseWhitespace .lex s s (fun _ => 0) Progress.synN (fun a s' => a = s'.rd.rest.head?)
      False False :=
  parseWhitespace_run.post fun _ _ h => h.1

theorem nextOrEof_run :
    Run nextOrEof .lex s s (fun _ => 1) (fun _ => 0) (fun b s' => s.rd.rest = b :: s'.rd.rest)
      False False := by
  unfold nextOrEof
  run_walk0 []

theorem nextOrEofChar_run :
    Run nextOrEofChar .lex s s (fun _ => 1) (fun _ => 0) (fun b s' => s.rd.rest = b :: s'.rd.rest)
      False False := by
  unfold nextOrEofChar
  run_walk0 []

theorem readCont_run {n : Nat} {acc : List UInt8} :
    Run (readCont n acc) .lex s s (fun _ => 0) (fun _ => 0) (fun a _ => a ≠ [] ∨ acc = []) False
      False := by
  induction n generalizing acc s with
  | zero =>
    unfold readCont; refine Run.start fun h => Run.pure h (Nat.zero_le _) ?_
    cases acc <;> simp
  | succ n ih =>
    unfold readCont
    run_walk0 []
    refine Run.tail (by assumption) ih rfl (by run_arith) (by run_arith) (by run_n)
      (by run_arith) fun a _ _ h => ?_
    rcases h with h | h
    · exact .inl h
    · simp at h

theorem decodeUtf8Sequence_run {b : UInt8} :
    Run (decodeUtf8Sequence b) .lex s s (fun _ => 0) (fun _ => 0) (fun _ _ => True) False False := by
  unfold decodeUtf8Sequence
  run_walk0 [readCont_run]
  -- `unreachable!()`: a valid non-empty byte string has a first scalar
  rename_i bytes _ _ hb hv _ hn
  refine Run.panicAt ?_
  cases bytes with
  | nil => simp at hb
  | cons b0 bs => have := Utf8.decodeFirst_of_valid b0 bs hv; simp [hn] at this

theorem decodeR6rsHexEscape_run {fuel n : Nat} :
    Run (decodeR6rsHexEscape fuel n) .lex s s (fun _ => 0) (fun _ => 0) (fun _ _ => True) False
      (fuel ≤ s.rd.rest.length) := by
  induction fuel generalizing n s with
  | zero => unfold decodeR6rsHexEscape; exact Run.outOfFuel (Nat.zero_le _)
  | succ f ih =>
    have decodeR6rsHexEscape_ih := @ih
    unfold decodeR6rsHexEscape
    run_walk0 [nextOrEof_run, decodeR6rsHexEscape_ih]

theorem parseR6rsEscape_run {fuel : Nat} {acc : List UInt8} :
    Run (parseR6rsEscape fuel acc) .lex s s (fun _ => 1) (fun _ => 0) (fun _ _ => True) False
      (fuel + 1 ≤ s.rd.rest.length) := by
  unfold parseR6rsEscape
  run_walk0 [nextOrEof_run, decodeR6rsHexEscape_run]

theorem finishStr_run {c : Bool} {bs : List UInt8} :
    Run (finishStr c bs) .lex s s (fun _ => 0) (fun _ => 0) (fun _ _ => True) False False := by
  unfold finishStr
  run_walk0 []

theorem parseR6rsStr_run {fuel : Nat} {acc : List UInt8} :
    Run (parseR6rsStr fuel acc) .lex s s (fun _ => 0) (fun _ => 0) (fun _ _ => True) False
      (fuel ≤ s.rd.rest.length) := by
  induction fuel generalizing acc s with
  | zero => unfold parseR6rsStr; exact Run.outOfFuel (Nat.zero_le _)
  | succ f ih =>
    have parseR6rsStr_ih := @ih
    unfold parseR6rsStr
    run_walk0 [nextOrEof_run, finishStr_run, parseR6rsEscape_run, parseR6rsStr_ih]

theorem DigitLoop.run {F : Nat → Nat → P Nat} {val : UInt8 → Option Nat} {base : Nat}
    (hF : DigitLoop F val base) {fuel n : Nat} :
    Run (F fuel n) .lex s s (fun _ => 0) (fun _ => 0) (fun _ _ => True) False
      (fuel ≤ s.rd.rest.length) := by
  induction fuel generalizing n s with
  | zero => rw [hF.zero]; exact Run.outOfFuel (Nat.zero_le _)
  | succ f ih =>
    rw [hF.succ]
    unfold digitStep
    -- `F` is no constant, so no name fits it (`run_head`); a term in brackets is tried unnamed
    run_walk0 [(ih)]

theorem decodeElispHexEscape_run {fuel n : Nat} :
    Run (decodeElispHexEscape fuel n) .lex s s (fun _ => 0) (fun _ => 0) (fun _ _ => True) False
      (fuel ≤ s.rd.rest.length) := decodeElispHexEscape_loop.run

theorem decodeElispUniEscape_run {count n : Nat} :
    Run (decodeElispUniEscape count n) .lex s s (fun _ => 0) (fun _ => 0) (fun _ _ => True) False
      False := by
  induction count generalizing n s with
  | zero => unfold decodeElispUniEscape; run_walk0 []
  | succ f ih =>
    have decodeElispUniEscape_ih := @ih
    unfold decodeElispUniEscape
    run_walk0 [nextOrEof_run, decodeElispUniEscape_ih]

theorem decodeElispOctalEscape_run {fuel n : Nat} :
    Run (decodeElispOctalEscape fuel n) .lex s s (fun _ => 0) (fun _ => 0) (fun _ _ => True) False
      (fuel ≤ s.rd.rest.length) := decodeElispOctalEscape_loop.run

theorem elispCharEscape_run {acc : List UInt8} {n : Nat} :
    Run (elispCharEscape acc n) .lex s s (fun _ => 0) (fun _ => 0) (fun _ _ => True) False
      False := by
  unfold elispCharEscape
  run_walk0 []

theorem elispUniCharEscape_run {acc : List UInt8} {n : Nat} :
    Run (elispUniCharEscape acc n) .lex s s (fun _ => 0) (fun _ => 0) (fun _ _ => True) False
      False := by
  unfold elispUniCharEscape
  run_walk0 []

theorem parseElispEscape_run {fuel : Nat} {acc : List UInt8} :
    Run (parseElispEscape fuel acc) .lex s s (fun _ => 1) (fun _ => 0) (fun _ _ => True) False
      (fuel ≤ s.rd.rest.length) := by
  unfold parseElispEscape
  run_walk0 [nextOrEof_run, decodeElispHexEscape_run, decodeElispUniEscape_run,
    decodeElispOctalEscape_run, elispCharEscape_run, elispUniCharEscape_run]

theorem parseElispStr_run {fuel : Nat} {acc : List UInt8} {ub mb na : Bool} :
    Run (parseElispStr fuel acc ub mb na) .lex s s (fun _ => 0) (fun _ => 0) (fun _ _ => True)
      False (fuel ≤ s.rd.rest.length) := by
  induction fuel generalizing acc ub mb na s with
  | zero => unfold parseElispStr; exact Run.outOfFuel (Nat.zero_le _)
  | succ f ih =>
    have parseElispStr_ih := @ih
    unfold parseElispStr
    run_walk0 [nextOrEof_run, finishStr_run, parseElispEscape_run, parseElispStr_ih]

theorem decodeR6rsCharHexEscape_run {fuel n : Nat} {first : Bool} :
    Run (decodeR6rsCharHexEscape fuel n first) .lex s s (fun _ => 0) (fun _ => 0)
      (fun _ _ => True) False (fuel ≤ s.rd.rest.length) := by
  induction fuel generalizing n first s with
  | zero => unfold decodeR6rsCharHexEscape; exact Run.outOfFuel (Nat.zero_le _)
  | succ f ih =>
    have decodeR6rsCharHexEscape_ih := @ih
    unfold decodeR6rsCharHexEscape
    run_walk0 [decodeR6rsCharHexEscape_ih]

theorem parseR6rsChar_run {fuel : Nat} :
    Run (parseR6rsChar fuel) .lex s s (fun _ => 1) (fun _ => 0) (fun _ _ => True) False
      (fuel ≤ s.rd.rest.length) := by
  unfold parseR6rsChar
  run_walk0 [nextOrEofChar_run, decodeR6rsCharHexEscape_run, decodeUtf8Sequence_run]

theorem asChar_run {n : Nat} :
    Run (asChar n) .lex s s (fun _ => 0) (fun _ => 0) (fun _ _ => True) False False := by
  unfold asChar
  run_walk0 []

theorem asEscapedChar_run {n : Nat} :
    Run (asEscapedChar n) .lex s s (fun _ => 0) (fun _ => 0) (fun _ _ => True) False False := by
  unfold asEscapedChar
  run_walk0 [asChar_run]

theorem decodeElispCharEscape_run {fuel : Nat} :
    Run (decodeElispCharEscape fuel) .lex s s (fun _ => 1) (fun _ => 0) (fun _ _ => True) False
      (fuel ≤ s.rd.rest.length) := by
  unfold decodeElispCharEscape
  run_walk0 [nextOrEofChar_run, nextOrEof_run, decodeElispHexEscape_run, decodeElispUniEscape_run,
    decodeElispOctalEscape_run, asChar_run, asEscapedChar_run, decodeUtf8Sequence_run]

theorem parseElispChar_run {fuel : Nat} :
    Run (parseElispChar fuel) .lex s s (fun _ => 1) (fun _ => 0) (fun _ _ => True) False
      (fuel ≤ s.rd.rest.length) := by
  unfold parseElispChar
  run_walk0 [decodeElispCharEscape_run, decodeUtf8Sequence_run]

-- `run_ne` closes "the byte held is not the NUL of `peek_or_null`" by `simp_all`; behind a digit test
-- (`digitVal radix c = some d`) it needs to know that NUL is no digit.
attribute [local simp] digitVal_zero

theorem f64FromParts_run {cfg : Cfg} {pos : Bool} {sig : Nat} {e : Int} :
    Run (f64FromParts cfg pos sig e) .lex s s (fun _ => 0) (fun _ => 0) (fun _ _ => True) False
      False := by
  unfold f64FromParts
  run_walk0 []

theorem skipDigits_run :
    Run skipDigits .lex s s (fun _ => 0) (fun _ => 0) (fun _ _ => True) False False := by
  unfold skipDigits
  run_walk0 []

theorem parseExponentOverflow_run {pos : Bool} {sig : Nat} {posExp : Bool} :
    Run (parseExponentOverflow pos sig posExp) .lex s s (fun _ => 0) (fun _ => 0) (fun _ _ => True)
      False False := by
  unfold parseExponentOverflow
  run_walk0 [skipDigits_run]

theorem exponentLoop_run {cfg : Cfg} {pos : Bool} {sig : Nat} {startExp : Int} {posExp : Bool}
    {fuel exp : Nat} :
    Run (exponentLoop cfg pos sig startExp posExp fuel exp) .lex s s (fun _ => 0) (fun _ => 0)
      (fun _ _ => True) False (fuel ≤ s.rd.rest.length) := by
  induction fuel generalizing exp s with
  | zero => unfold exponentLoop; exact Run.outOfFuel (Nat.zero_le _)
  | succ f ih =>
    have exponentLoop_ih := @ih
    unfold exponentLoop
    run_walk0 [peekOrNull_ne, parseExponentOverflow_run, f64FromParts_run, exponentLoop_ih]

/-- starts with `discard`: panics if no byte is there -/
theorem parseExponent_run {cfg : Cfg} {fuel : Nat} {pos : Bool} {sig : Nat} {startExp : Int} :
    Run (parseExponent cfg fuel pos sig startExp) .lex s s (fun _ => 1) (fun _ => 0)
      (fun _ _ => True) (s.rd.rest = []) (fuel ≤ s.rd.rest.length) := by
  unfold parseExponent
  run_walk0 [peekOrNull_ne, exponentLoop_run]

theorem decimalLoop_run {fuel sig : Nat} {exp : Int} {zeros : Nat} {any : Bool} :
    Run (decimalLoop fuel sig exp zeros any) .lex s s (fun _ => 0) (fun _ => 0) (fun _ _ => True)
      False (fuel ≤ s.rd.rest.length) := by
  induction fuel generalizing sig exp zeros any s with
  | zero => unfold decimalLoop; exact Run.outOfFuel (Nat.zero_le _)
  | succ f ih =>
    have decimalLoop_ih := @ih
    unfold decimalLoop
    run_walk0 [peekOrNull_ne, skipDigits_run, decimalLoop_ih]

theorem parseDecimal_run {cfg : Cfg} {fuel : Nat} {pos : Bool} {sig : Nat} {exp : Int} :
    Run (parseDecimal cfg fuel pos sig exp) .lex s s (fun _ => 1) (fun _ => 0) (fun _ _ => True)
      (s.rd.rest = []) (fuel ≤ s.rd.rest.length) := by
  unfold parseDecimal
  run_walk0 [peekOrNull_ne, decimalLoop_run, parseExponent_run, f64FromParts_run]

/-- `parse_long_integer` counts the digits it skips in an `i32`, one per byte consumed: the
    counter overflows only on an input of `i32::MAX` bytes -/
theorem parseLongInteger_run {cfg : Cfg} {radix : Nat} {pos : Bool} {sig fuel exp : Nat} :
    Run (parseLongInteger cfg radix pos sig fuel exp) .lex s s (fun _ => 0) (fun _ => 0)
      (fun _ _ => True) (i32Max ≤ exp + s.rd.rest.length) (fuel ≤ s.rd.rest.length) := by
  induction fuel generalizing exp s with
  | zero => unfold parseLongInteger; exact Run.outOfFuel (Nat.zero_le _)
  | succ f ih =>
    have parseLongInteger_ih := @ih
    unfold parseLongInteger
    -- the overflow bound of the model: as a numeral the walker's `simp` tries to evaluate it and
    -- runs into the recursion limit
    generalize (2 : Nat) ^ 1024 = big
    run_walk0 [peekOrNull_ne, parseDecimal_run, parseExponent_run, f64FromParts_run,
      parseLongInteger_ih]

theorem parseNumTail_run {cfg : Cfg} {fuel radix : Nat} {pos : Bool} {sig : Nat} :
    Run (parseNumTail cfg fuel radix pos sig) .lex s s (fun _ => 0) (fun _ => 0) (fun _ _ => True)
      False (fuel ≤ s.rd.rest.length) := by
  unfold parseNumTail
  run_walk0 [peekOrNull_ne, parseDecimal_run, parseExponent_run]

theorem numLoop_run {cfg : Cfg} {radix : Nat} {pos : Bool} {fuel res : Nat} :
    Run (numLoop cfg radix pos fuel res) .lex s s (fun _ => 0) (fun _ => 0) (fun _ _ => True)
      (i32Max ≤ s.rd.rest.length + 1) (fuel ≤ s.rd.rest.length) := by
  induction fuel generalizing res s with
  | zero => unfold numLoop; exact Run.outOfFuel (Nat.zero_le _)
  | succ f ih =>
    have numLoop_ih := @ih
    unfold numLoop
    run_walk0 [peekOrNull_ne, parseNumTail_run, parseLongInteger_run, numLoop_ih]

theorem parseNumLiteral_run {cfg : Cfg} {fuel radix : Nat} {pos : Bool} :
    Run (parseNumLiteral cfg fuel radix pos) .lex s s (fun _ => 1) (fun _ => min 1 s.rd.rest.length)
      (fun _ _ => True) (i32Max ≤ s.rd.rest.length + 1) (fuel ≤ s.rd.rest.length) := by
  unfold parseNumLiteral
  run_walk0 [numLoop_run]

theorem parseRadixLiteral_run {cfg : Cfg} {fuel radix : Nat} :
    Run (parseRadixLiteral cfg fuel radix) .lex s s (fun _ => 1) (fun _ => 0) (fun _ _ => True)
      (i32Max ≤ s.rd.rest.length + 1) (fuel ≤ s.rd.rest.length) := by
  unfold parseRadixLiteral
  run_walk0 [peekOrNull_ne, parseNumLiteral_run]

theorem expectNumberEnd_run {n : Number} :
    Run (expectNumberEnd n) .lex s s (fun _ => 0) (fun _ => 0) (fun _ _ => True) False False := by
  unfold expectNumberEnd
  run_walk0 []

theorem parseNumToken_run {cfg : Cfg} {fuel : Nat} {pos : Bool} :
    Run (parseNumToken cfg fuel pos) .lex s s (fun _ => 1) (fun _ => min 1 s.rd.rest.length)
      (fun _ _ => True) (i32Max ≤ s.rd.rest.length + 1) (fuel ≤ s.rd.rest.length) := by
  unfold parseNumToken
  run_walk0 [parseNumLiteral_run, expectNumberEnd_run]

theorem parseRadixToken_run {cfg : Cfg} {fuel radix : Nat} :
    Run (parseRadixToken cfg fuel radix) .lex s s (fun _ => 1) (fun _ => 0) (fun _ _ => True)
      (i32Max ≤ s.rd.rest.length + 1) (fuel ≤ s.rd.rest.length) := by
  unfold parseRadixToken
  run_walk0 [parseRadixLiteral_run, expectNumberEnd_run]

theorem parseNumber_run {cfg : Cfg} {fuel : Nat} :
    Run (parseNumber cfg fuel) .lex s s (fun _ => 1) (fun _ => 0) (fun _ _ => True)
      (i32Max ≤ s.rd.rest.length + 1) (fuel ≤ s.rd.rest.length) := by
  unfold parseNumber
  run_walk0 [peekOrNull_ne, parseRadixLiteral_run]

theorem expectIdent_run {cs : List UInt8} :
    Run (expectIdent cs) .lex s s (fun _ => 0) (fun _ => 0) (fun _ _ => True) False False := by
  induction cs generalizing s with
  | nil => unfold expectIdent; run_walk0 []
  | cons c cs ih =>
    have expectIdent_ih := @ih
    unfold expectIdent
    run_walk0 [expectIdent_ih]

theorem parseSymbolBytes_run {scratch : List UInt8} :
    Run (parseSymbolBytes scratch) .lex s s
      (fun _ => min (symLen s.rd.mode s.rd.rest) s.rd.rest.length)
      (fun _ => min (symLen s.rd.mode s.rd.rest) s.rd.rest.length) (fun _ _ => True) False
      False := by
  unfold parseSymbolBytes
  run_walk0 []
  -- a lone `.`: `eofValue` at the end of the input, `invalidSymbol` before a delimiter
  rename_i nxt s' _ _ hh _
  cases nxt with
  | none => exact Run.errAt (by assumption) (by run_arith) (KOf.atEnd rfl (head_nil hh))
  | some b =>
    exact Run.errAt (by assumption) (by run_arith)
      ⟨rfl, nofun, fun _ => head_ne hh, by rintro (h | h) <;> cases h⟩

/-- `parseSymbolBytes` started at a byte that begins a symbol consumes it (`c` is 1 if the byte `b`
    is known to be the next one, else 0) -/
theorem parseSymbolBytes_head_run {p : UInt8 → Bool} {scratch : List UInt8} {c : Nat} {b : UInt8}
    (h : p b = true)
    (hp : ([32, 10, 9, 13, 12, 41, 93, 40, 91, 59] : List UInt8).all (fun v => !p v) = true)
    (hc : c ≤ 1) (hb : c = 1 → s.rd.rest.head? = some b) :
    Run (parseSymbolBytes scratch) .lex s s (fun _ => c) (fun _ => c) (fun _ _ => True) False
      False := by
  have h1 : c ≤ min (symLen s.rd.mode s.rd.rest) s.rd.rest.length := by
    rcases Nat.le_one_iff_eq_zero_or_eq_one.mp hc with rfl | rfl
    · exact Nat.zero_le _
    · have hb := hb rfl
      cases hr : s.rd.rest with
      | nil => simp [hr] at hb
      | cons c t =>
        simp only [hr, List.head?_cons, Option.some.injEq] at hb
        subst hb
        simp [symLen, symTerm_false_of hp h]
  exact parseSymbolBytes_run.weaken (fun _ => h1) (fun _ => h1) (fun _ _ h => h) id id

theorem parseSignDotSymbol_run {cfg : Cfg} {pfx : List UInt8} :
    Run (parseSignDotSymbol cfg pfx) .lex s s (fun _ => 1) (fun _ => 0) (fun _ _ => True)
      (s.rd.rest = []) False := by
  unfold parseSignDotSymbol
  run_walk0 [peekOrNull_ne, parseSymbolBytes_run]

theorem parseSignToken_run {cfg : Cfg} {fuel : Nat} {sign : UInt8} {pos : Bool} :
    Run (parseSignToken cfg fuel sign pos) .lex s s (fun _ => 1) (fun _ => 1) (fun _ _ => True)
      (s.rd.rest.length = 0 ∨ i32Max ≤ s.rd.rest.length + 1) (fuel ≤ s.rd.rest.length) := by
  unfold parseSignToken
  run_walk0 [peekOrNull_ne, parseSymbolBytes_run, parseSignDotSymbol_run, parseNumToken_run]

/-- `c` is 1 if `pk` is known to be the next byte (as in `next_value`), else 0: the token then
    consumes at least that byte.  `parse_token` panics only if no byte is there at all or on an input
    of `i32::MAX` bytes. -/
theorem parseToken_run {cfg : Cfg} {fuel : Nat} {pk : UInt8} {c : Nat} (hc : c ≤ 1)
    (hpk : c = 1 → s.rd.rest.head? = some pk) :
    Run (parseToken cfg fuel pk) .lex s s (fun _ => c) (fun _ => c) (fun _ _ => True)
      (s.rd.rest.length = 0 ∨ i32Max ≤ s.rd.rest.length + 1) (fuel ≤ s.rd.rest.length) := by
  have hlen : c ≤ s.rd.rest.length := by
    rcases Nat.le_one_iff_eq_zero_or_eq_one.mp hc with rfl | rfl
    · exact Nat.zero_le _
    · have := hpk rfl
      cases hr : s.rd.rest with
      | nil => simp [hr] at this
      | cons b t => simp
  unfold parseToken
  run_walk0 [peekOrNull_ne, expectIdent_run,
    parseSymbolBytes_head_run (p := isDigit) ‹_› (by decide) hc hpk,
    parseSymbolBytes_head_run (p := (· == 58)) ‹_› (by decide) hc hpk,
    parseSymbolBytes_head_run (p := isAsciiAlpha) ‹_› (by decide) hc hpk,
    parseSymbolBytes_head_run (p := isSymbolExtended) ‹_› (by decide) hc hpk,
    parseSymbolBytes_run, parseRadixToken_run, parseR6rsChar_run, parseSignToken_run,
    parseNumToken_run, parseR6rsStr_run, parseElispStr_run, parseElispChar_run,
    decodeUtf8Sequence_run]
  -- the two `unreachable!()` arms: the test in front of the `match` excludes the default setting
  case h_3 h _ heq => simp [heq] at h
  case h_2 h _ heq => simp [heq] at h
  -- the last arm reports at the `peek_position()` of the state before its `discard`
  refine Run.bind_read (g := id) ?_
  refine Run.bind_discard (by assumption) (fun h0 => Or.inl (congrArg List.length h0)) ?_
  intro s' h' _
  exact Run.rawErr h' (.refl s) h'.adv (.inr rfl) (by omega) (KOf.plain rfl)

theorem endSeq_run {close : UInt8} :
    Run (endSeq close) .parse s s (fun _ => 0) (fun _ => 0) (fun _ _ => True) False False := by
  unfold endSeq
  run_walk0 [parseWhitespace_head]

theorem byteListLoop_run {cfg : Cfg} {close : UInt8} {fuel : Nat} {acc : List UInt8} :
    Run (byteListLoop cfg close fuel acc) .parse s s (fun _ => 0) (fun _ => 0) (fun _ _ => True)
      (i32Max ≤ s.rd.rest.length + 1) (fuel ≤ s.rd.rest.length) := by
  induction fuel generalizing acc s with
  | zero => unfold byteListLoop; exact Run.outOfFuel (Nat.zero_le _)
  | succ f ih =>
    have byteListLoop_ih := @ih
    unfold byteListLoop
    run_walk0 [parseWhitespace_head, parseNumber_run, expectNumberEnd_run, byteListLoop_ih]

theorem parseByteList_run {cfg : Cfg} {close : UInt8} {fuel : Nat} :
    Run (parseByteList cfg fuel close) .parse s s (fun _ => 0) (fun _ => 0) (fun _ _ => True)
      (i32Max ≤ s.rd.rest.length + 1) (fuel ≤ s.rd.rest.length) := by
  unfold parseByteList
  run_walk0 [parseWhitespace_head, byteListLoop_run]

theorem expectEnd_run :
    Run expectEnd .parse s s (fun _ => 0) (fun _ => 0) (fun _ _ => True) False False := by
  unfold expectEnd
  run_walk0 [parseWhitespace_head]

end Parse
end Lexpr
