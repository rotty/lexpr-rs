/-
  Invariants of the reader state.

  A predicate on parser states is `Stable` when it survives the three things the model ever does
  to a state: consuming bytes (`Rd.consume`), setting the `peeked` flag, changing the depth
  counter.  `Inv I m` says that `m` keeps `I` (in its `ok` and in its `err` result).  Every function
  of Reader.lean, Lex.lean and Parse.lean keeps every stable predicate, because it only advances
  the reader and returns with the depth it was called with (`Lexes`: Lexes.lean for the lexer,
  RunParser.lean for the parser proper and the entry points).  The rules `Inv.bind`, `Inv.pure`, …
  say how `Inv I` composes; the functions do not come through them.  The ghost invariants
  `At input` and `Reach s0` of SpansPos.lean are stable.
-/
import LexprModel.Proofs.SpansPos
import LexprModel.Proofs.RunParser
namespace Lexpr
namespace Parse
namespace Spans
open Progress

/-- predicates preserved by every primitive state change of the model -/
class Stable (I : St → Prop) : Prop where
  consume : ∀ (s : St) (n : Nat), I s → I { s with rd := s.rd.consume n }
  peeked : ∀ (s : St) (b : Bool), I s → I { s with rd := { s.rd with peeked := b } }
  depth : ∀ (s : St) (d : Nat), I s → I { s with depth := d }

/-- `m` keeps `I`: from a state satisfying `I`, both the `ok` and the `err` outcome satisfy it -/
def Inv {α : Type} (I : St → Prop) (m : P α) : Prop :=
  ∀ s, I s → Sat (m s) (fun _ s' => I s') (fun _ s' => I s') True

section rules
variable {α β : Type} {I : St → Prop}

theorem Inv.bind {m : P α} {f : α → P β} (hm : Inv I m) (hf : ∀ a, Inv I (f a)) :
    Inv I (m >>= f) :=
  fun s hs => Sat.bind (hm s hs) (fun a s' h => hf a s' h) (fun _ _ h => h) id

theorem Inv.pure {a : α} : Inv I (Pure.pure a : P α) := fun _ hs => hs
theorem Inv.errAt {c : Code} : Inv I (errAt c : P α) := fun _ hs => hs
theorem Inv.peekErr {c : Code} : Inv I (peekErr c : P α) := fun _ hs => hs
theorem Inv.panicAt {p : Site} : Inv I (panicAt p : P α) := fun _ _ => trivial
theorem Inv.outOfFuel : Inv I (outOfFuel : P α) := fun _ _ => trivial
theorem Inv.liftExcept {r : Except Err α} : Inv I (liftExcept r) := by
  cases r with
  | ok a => exact Inv.pure
  | error e => exact fun _ hs => hs
theorem Inv.tokenFuel : Inv I tokenFuel := fun _ hs => hs
theorem Inv.rawErr {e : Err} : Inv I (fun s' => Res.err e s' : P α) := fun _ hs => hs

theorem Inv.ite {c : Prop} [Decidable c] {A B : P α} (hA : Inv I A) (hB : Inv I B) :
    Inv I (if c then A else B) := by
  split
  · exact hA
  · exact hB

theorem Inv.attempt {m : P α} (hm : Inv I m) : Inv I (attempt m) := by
  intro s hs
  have := hm s hs
  unfold Parse.attempt
  cases hms : m s <;> simp only [hms, Sat] at * <;> first | exact this | trivial

variable [Stable I]

theorem _root_.Lexpr.Parse.Adv.stable {s s' : St} (h : Adv s s') (hs : I s) : I s' := by
  cases h with | mk k b => exact Stable.peeked _ b (Stable.consume s k hs)

/-- what is kept by `consume` and by `peeked := b` is kept by whatever only advances the reader -/
theorem _root_.Lexpr.Parse.Lexes.inv {m : P α} (h : Lexes m) : Inv I m :=
  fun s hs => Sat.imp (h s) (fun _ _ h => h.stable hs) (fun _ _ h => h.1.stable hs) id

theorem Inv.peek : Inv I peek := Lexes.peek.inv
theorem Inv.next : Inv I next := Lexes.next.inv
theorem Inv.discard : Inv I discard := Lexes.discard.inv

theorem Inv.enter : Inv I enter := by
  intro s hs
  unfold Parse.enter
  split
  · trivial
  · split
    · exact hs
    · exact Stable.depth s _ hs

theorem Inv.leave : Inv I leave := fun s hs => Stable.depth s _ hs

end rules

section lex
variable {I : St → Prop} [Stable I]

theorem parseSymbolBytes_inv {scratch : List UInt8} : Inv I (parseSymbolBytes scratch) :=
  (Lexes.parseSymbolBytes scratch).inv

theorem Inv.of_held {c : Bool} {α : Type} {m m' : P α} (h : Held .same true c m m') : Inv I m :=
  (Lexes.of_held h).inv

theorem parseWhitespace_inv : Inv I parseWhitespace := .of_held .parseWhitespace
theorem peekOrNull_inv : Inv I peekOrNull := .of_held .peekOrNull
theorem nextOrNull_inv : Inv I nextOrNull := .of_held .nextOrNull
theorem parseToken_inv {cfg : Cfg} {fuel : Nat} {pk : UInt8} : Inv I (parseToken cfg fuel pk) :=
  .of_held (.parseToken trivial cfg pk (.refl fuel))
theorem endSeq_inv {close : UInt8} : Inv I (endSeq close) := .of_held (.endSeq close)
theorem parseByteList_inv {cfg : Cfg} {close : UInt8} {fuel : Nat} :
    Inv I (parseByteList cfg fuel close) :=
  .of_held (.parseByteList cfg close (.refl fuel))
theorem expectEnd_inv : Inv I expectEnd := .of_held .expectEnd

theorem decodeElispHexEscape_inv {fuel n : Nat} : Inv I (decodeElispHexEscape fuel n) :=
  .of_held (.decodeElispHexEscape (.refl fuel) n)
theorem decodeElispOctalEscape_inv {fuel n : Nat} : Inv I (decodeElispOctalEscape fuel n) :=
  .of_held (.decodeElispOctalEscape (.refl fuel) n)
theorem decodeR6rsCharHexEscape_inv {fuel n : Nat} {first : Bool} :
    Inv I (decodeR6rsCharHexEscape fuel n first) :=
  .of_held (.decodeR6rsCharHexEscape (.refl fuel) n first)
theorem skipDigits_inv : Inv I skipDigits := .of_held .skipDigits
theorem parseExponentOverflow_inv {pos : Bool} {sig : Nat} {posExp : Bool} :
    Inv I (parseExponentOverflow pos sig posExp) :=
  .of_held (.parseExponentOverflow pos sig posExp)
theorem exponentLoop_inv {cfg : Cfg} {pos : Bool} {sig : Nat} {startExp : Int} {posExp : Bool}
    {fuel exp : Nat} : Inv I (exponentLoop cfg pos sig startExp posExp fuel exp) :=
  .of_held (.exponentLoop cfg pos sig startExp posExp (.refl fuel) exp)
theorem decimalLoop_inv {fuel sig : Nat} {exp : Int} {zeros : Nat} {any : Bool} :
    Inv I (decimalLoop fuel sig exp zeros any) :=
  .of_held (.decimalLoop (.refl fuel) sig exp zeros any)
theorem parseLongInteger_inv {cfg : Cfg} {radix : Nat} {pos : Bool} {sig fuel exp : Nat} :
    Inv I (parseLongInteger cfg radix pos sig fuel exp) :=
  .of_held (.parseLongInteger cfg radix pos sig (.refl fuel) exp)
theorem numLoop_inv {cfg : Cfg} {radix : Nat} {pos : Bool} {fuel res : Nat} :
    Inv I (numLoop cfg radix pos fuel res) :=
  .of_held (.numLoop cfg radix pos (.refl fuel) res)
theorem parseNumLiteral_inv {cfg : Cfg} {fuel radix : Nat} {pos : Bool} :
    Inv I (parseNumLiteral cfg fuel radix pos) :=
  .of_held (.parseNumLiteral cfg radix pos (.refl fuel))
theorem parseRadixLiteral_inv {cfg : Cfg} {fuel radix : Nat} :
    Inv I (parseRadixLiteral cfg fuel radix) :=
  .of_held (.parseRadixLiteral cfg radix (.refl fuel))
theorem expectNumberEnd_inv {n : Number} : Inv I (expectNumberEnd n) :=
  .of_held (.expectNumberEnd n)
theorem byteListLoop_inv {cfg : Cfg} {close : UInt8} {fuel : Nat} {acc : List UInt8} :
    Inv I (byteListLoop cfg close fuel acc) :=
  .of_held (.byteListLoop cfg close (.refl fuel) acc)

theorem value_invs (cfg : Cfg) (fuel : Nat) :
    Inv I (nextValue cfg fuel) ∧
    (∀ term acc, Inv I (parseList cfg fuel term acc)) ∧
    (∀ term acc, Inv I (parseVector cfg fuel term acc)) :=
  have h := Lexes.value_all cfg fuel
  ⟨h.1.inv, fun term acc => (h.2.1 term acc).inv, fun term acc => (h.2.2 term acc).inv⟩

theorem datum_invs (cfg : Cfg) (fuel : Nat) :
    Inv I (nextDatum cfg fuel) ∧
    (∀ term acc ms, Inv I (parseListMeta cfg fuel term acc ms)) ∧
    (∀ term acc ms, Inv I (parseVectorMeta cfg fuel term acc ms)) :=
  have h := Lexes.datum_all cfg fuel
  ⟨h.1.inv, fun term acc ms => (h.2.1 term acc ms).inv, fun term acc ms => (h.2.2 term acc ms).inv⟩

theorem nextValueTop_inv {cfg : Cfg} : Inv I (nextValueTop cfg) := Lexes.nextValueTop.inv
theorem nextDatumTop_inv {cfg : Cfg} : Inv I (nextDatumTop cfg) := Lexes.nextDatumTop.inv
theorem expectValue_inv {cfg : Cfg} : Inv I (expectValue cfg) := Lexes.expectValue.inv
theorem expectDatum_inv {cfg : Cfg} : Inv I (expectDatum cfg) := Lexes.expectDatum.inv
theorem fromTrait_inv {cfg : Cfg} : Inv I (fromTrait cfg) := Lexes.fromTrait.inv
theorem fromTraitDatum_inv {cfg : Cfg} : Inv I (fromTraitDatum cfg) := Lexes.fromTraitDatum.inv

end lex

instance track_stable (base : Pos) (whole : List UInt8) : Stable (Track base whole) where
  consume := by
    rintro s n ⟨pre, e, p⟩
    refine ⟨pre ++ s.rd.rest.take n, ?_, ?_⟩
    · show (pre ++ s.rd.rest.take n) ++ (s.rd.consume n).rest = whole
      rw [Rd.consume_rest, List.append_assoc, List.take_append_drop, e]
    · show (s.rd.consume n).position = _
      rw [consume_position, p, posFrom_append]
  peeked := by
    rintro s b ⟨pre, e, p⟩
    exact ⟨pre, e, p⟩
  depth := by
    rintro s d ⟨pre, e, p⟩
    exact ⟨pre, e, p⟩

instance at_stable (input : List UInt8) : Stable (At input) := track_stable _ _
instance reach_stable (s0 : St) : Stable (Reach s0) := track_stable _ _

theorem Inv.reach {α : Type} {m : P α} (hm : ∀ I [Stable I], Inv I m) (s : St) :
    Sat (m s) (fun _ s' => Reach s s') (fun _ s' => Reach s s') True :=
  hm (Reach s) s (Reach.refl s)

end Spans
end Parse
end Lexpr
