/-
  C06, read faults on the stream source, lifted through the whole parser: the relation `GRel`
  and the lexer.

  `FRes` (Fault.lean) is what `Loc` leaves with the same fuel on both sides and below `next_value`;
  the public entry points compute their fuel from the length of the unread input, which is
  shorter on the faulty side.  `GRes` is what `Loc` says of the whole parser (`Loc True`): it is
    * fuel-heterogeneous: the faulty side may run with less fuel than the fault-free side and is
      then allowed to run out of fuel (first disjunct; excluded for the entry points by the fuel
      theorems of `Progress.lean`),
    * explicit about the parser state after the fault: an `Err.io` result leaves the faulty parser
      `FDead` (nothing left, reader failing), from where every later call reports `Err.io` again,
    * explicit about *when* the fault is hit: only if the fault-free run reads beyond the cut
      (`FBeyond`: the fault-free run stops with at most `|tail|` unread bytes),
    * closed under the error-capturing blocks of `next_value` (`match (ret, self.end_seq(close))`):
      when both runs fail with the same syntax error the faulty parser may already be `FDead`
      (the read error that `end_seq` hit is dropped by the code in favour of the earlier error).
  `GRel` / `GRelNE` are `Loc True` without / with a held byte (`GRel.loc`, `Loc.grel`); their
  rules are those of `Loc`.
-/
import LexprModel.Proofs.Fault
import LexprModel.Proofs.PrefixDet
namespace Lexpr
namespace Parse

open PrefixDet (scan)

section
variable {α β : Type}

theorem RestNonInc.pure {a : α} : RestNonInc (pure a : P α) := (Lexes.pure a).restNonInc
theorem RestNonInc.peekErr {c : Code} : RestNonInc (peekErr c : P α) := (Lexes.peekErr c).restNonInc

theorem RestNonInc.ite {c : Prop} [Decidable c] {a b : P α} (ha : c → RestNonInc a) (hb : ¬c → RestNonInc b) :
    RestNonInc (if c then a else b) := by
  split
  · exact ha ‹_›
  · exact hb ‹_›

end

/-- Outcome of the faulty run (right, possibly with less fuel) against the fault-free run (left):
    it ran out of its smaller fuel, or it stopped with `Err.io` at the fault (and then the
    fault-free run reads beyond the cut), or it is the same outcome (same value, same error with
    the same position, same panic). -/
def GRes (tail : List UInt8) {α : Type} (r₁ r₂ : Res α) : Prop :=
  r₂ = .fuel ∨ (∃ t', r₂ = .err .io t' ∧ FDead t' ∧ FBeyond tail r₁) ∨
  match r₁, r₂ with
  | .ok a s, .ok b t => a = b ∧ FSim tail s t
  | .err e s, .err e' t =>
    e = e' ∧ (FSim tail s t ∨ (FDead t ∧ s.rd.rest.length ≤ tail.length))
  | .panic p, .panic q => p = q
  | _, _ => False

structure GRel (tail : List UInt8) {α : Type} (m₁ m₂ : P α) : Prop where
  app : ∀ s t, FSim tail s t → GRes tail (m₁ s) (m₂ t)
  mono : RestNonInc m₁

theorem dead_consume {t : St} (hf : t.rd.faulty = true) (n : Nat) (hn : t.rd.rest.length ≤ n) :
    FDead { t with rd := t.rd.consume n } :=
  ⟨by show (t.rd.consume n).rest = []
      rw [Rd.consume_rest]; exact List.drop_eq_nil_of_le hn,
   by show (t.rd.consume n).faulty = true
      rw [Rd.consume_faulty]; exact hf⟩

section
variable {tail : List UInt8} {α β : Type}

theorem LocRes.gres {c : Bool} {r₁ r₂ : Res α} (h : LocRes True tail c r₁ r₂) : GRes tail r₁ r₂ := by
  rcases h with ⟨h, _⟩ | h | hc
  · exact .inl h
  · exact .inr (.inl h)
  · refine .inr (.inr ?_)
    cases hc with
    | ok hs _ => exact ⟨rfl, hs⟩
    | err hd => exact ⟨rfl, hd.imp id fun h => h.2⟩
    | panic => exact rfl

theorem GRes.locRes {r₁ r₂ : Res α} (h : GRes tail r₁ r₂) : LocRes True tail false r₁ r₂ := by
  rcases h with h | h | hc
  · exact .inl ⟨h, .inl trivial⟩
  · exact .inr (.inl h)
  · refine .inr (.inr ?_)
    revert hc
    cases r₁ <;> cases r₂ <;> intro hc <;> simp only at hc
    all_goals first | exact hc.elim | skip
    · exact hc.1 ▸ .ok hc.2 nofun
    · exact hc.1 ▸ .err (hc.2.imp id fun h => ⟨trivial, h⟩)
    · exact hc ▸ .panic

theorem Loc.grel {c : Bool} {m₁ m₂ : P α} (h : Loc True tail false c m₁ m₂) : GRel tail m₁ m₂ :=
  ⟨fun s t hs => (h.1 s t hs nofun).gres, h.2⟩

theorem GRel.loc {b : Bool} {m₁ m₂ : P α} (h : GRel tail m₁ m₂) : Loc True tail b false m₁ m₂ :=
  ⟨fun s t hs _ => (h.app s t hs).locRes, h.mono⟩

theorem GRel.pure (a : α) : GRel tail (pure a : P α) (pure a) := (Loc.leaf (.pure a)).grel

theorem GRel.bind {m₁ m₂ : P α} {f₁ f₂ : α → P β} (hm : GRel tail m₁ m₂)
    (hf : ∀ a, GRel tail (f₁ a) (f₂ a)) : GRel tail (m₁ >>= f₁) (m₂ >>= f₂) :=
  (Loc.bind (hm.loc (b := false)) fun a => (hf a).loc).grel

theorem GRel.panicAt (p : Site) : GRel tail (panicAt p : P α) (Parse.panicAt p) :=
  (Loc.leaf (c := false) (.panicAt p)).grel

theorem GRel.fuel0 {m : P α} (hm : RestNonInc m) : GRel tail m Parse.outOfFuel :=
  ⟨fun _ _ _ => .inl rfl, hm⟩

theorem RestNonInc.outOfFuel : RestNonInc (outOfFuel : P α) := (Lexes.logic.prim .outOfFuel).restNonInc

theorem GRel.outOfFuel : GRel tail (outOfFuel : P α) Parse.outOfFuel := GRel.fuel0 .outOfFuel

theorem GRel.peekErr (c : Code) : GRel tail (peekErr c : P α) (Parse.peekErr c) :=
  (Loc.leaf (c := false) (.peekErr c)).grel

theorem GRel.getPos : GRel tail getPos getPos := Loc.getPos.grel

theorem GRel.enter : GRel tail enter enter := Loc.enter.grel

theorem GRel.leave : GRel tail leave leave := Loc.leave.grel

end

section
variable {tail : List UInt8} {α β : Type}

/-- related on states where the faulty reader still holds a byte (e.g. right after a
    successful `peek`) -/
structure GRelNE (tail : List UInt8) {α : Type} (m₁ m₂ : P α) : Prop where
  app : ∀ s t, FSim tail s t → t.rd.rest ≠ [] → GRes tail (m₁ s) (m₂ t)
  mono : RestNonInc m₁

theorem Loc.grelNE {c : Bool} {m₁ m₂ : P α} (h : Loc True tail true c m₁ m₂) : GRelNE tail m₁ m₂ :=
  ⟨fun s t hs hne => (h.1 s t hs fun _ => hne).gres, h.2⟩

theorem GRelNE.loc {m₁ m₂ : P α} (h : GRelNE tail m₁ m₂) : Loc True tail true false m₁ m₂ :=
  ⟨fun s t hs hb => (h.app s t hs (hb rfl)).locRes, h.mono⟩

theorem GRelNE.of_GRel {m₁ m₂ : P α} (h : GRel tail m₁ m₂) : GRelNE tail m₁ m₂ :=
  ⟨fun s t hs _ => h.app s t hs, h.mono⟩

theorem GRelNE.discard : GRelNE tail discard discard := (Loc.leaf .discard).grelNE

theorem GRelNE.bind {m₁ m₂ : P α} {f₁ f₂ : α → P β} (hm : GRelNE tail m₁ m₂)
    (hf : ∀ a, GRel tail (f₁ a) (f₂ a)) : GRelNE tail (m₁ >>= f₁) (m₂ >>= f₂) :=
  (Loc.bind hm.loc fun a => (hf a).loc).grelNE

theorem GRelNE.ite {c : Prop} [Decidable c] {a b a' b' : P α}
    (ha : c → GRelNE tail a a') (hb : ¬c → GRelNE tail b b') :
    GRelNE tail (if c then a else b) (if c then a' else b') := by
  split
  · exact ha ‹_›
  · exact hb ‹_›

/-- a step that leaves the reader alone keeps the byte -/
theorem GRelNE.bind_getPos {f₁ f₂ : Pos → P β} (hf : ∀ a, GRelNE tail (f₁ a) (f₂ a)) :
    GRelNE tail (Parse.getPos >>= f₁) (Parse.getPos >>= f₂) := by
  refine ⟨?_, (Lexes.get _).restNonInc.bind fun a => (hf a).mono⟩
  intro s t h hne
  show GRes tail (f₁ _ s) (f₂ _ t)
  rw [h.position]
  exact (hf _).app s t h hne

theorem RestNonInc.tokenFuel : RestNonInc Parse.tokenFuel := (Lexes.get _).restNonInc
theorem RestNonInc.apiFuel : RestNonInc Parse.apiFuel := (Lexes.get _).restNonInc

/-- `token_fuel`: the faulty side computes a smaller fuel -/
theorem GRelNE.bind_tokenFuel {f₁ f₂ : Nat → P β}
    (hf : ∀ n n', n' ≤ n → GRelNE tail (f₁ n) (f₂ n')) :
    GRelNE tail (Parse.tokenFuel >>= f₁) (Parse.tokenFuel >>= f₂) := by
  refine ⟨?_, RestNonInc.tokenFuel.bind fun n => (hf n n (Nat.le_refl n)).mono⟩
  intro s t h hne
  show GRes tail (f₁ _ s) (f₂ _ t)
  exact (hf _ _ (by rw [h.rest]; simp)).app s t h hne

/-- `api_fuel`: the faulty side computes a smaller fuel -/
theorem GRel.bind_apiFuel {f₁ f₂ : Nat → P β}
    (hf : ∀ n n', n' ≤ n → GRel tail (f₁ n) (f₂ n')) :
    GRel tail (Parse.apiFuel >>= f₁) (Parse.apiFuel >>= f₂) := by
  refine ⟨?_, RestNonInc.apiFuel.bind fun n => (hf n n (Nat.le_refl n)).mono⟩
  intro s t h
  show GRes tail (f₁ _ s) (f₂ _ t)
  exact (hf _ _ (by rw [h.rest]; simp; omega)).app s t h

theorem RestNonInc.optCases {f : Option UInt8 → P β} (hn : RestNonInc (f none))
    (hs : ∀ c, RestNonInc (f (some c))) : ∀ o, RestNonInc (f o)
  | none => hn
  | some c => hs c

theorem ge_rel {f f' : Nat} (h : f' ≤ f) : Kind.Rel (Kind.shorter True) f f' := by
  rcases Nat.eq_or_lt_of_le h with h | h
  · exact .inl h.symm
  · exact .inr (.inr ⟨trivial, h⟩)

/-- after `Parse.peek` returned a byte the faulty reader holds one; `Parse.peek` never reports end of
    input on the faulty reader -/
theorem GRel.peek_bind {f₁ f₂ : Option UInt8 → P β}
    (hf : ∀ c, GRelNE tail (f₁ (some c)) (f₂ (some c))) (hn : RestNonInc (f₁ none)) :
    GRel tail (Parse.peek >>= f₁) (Parse.peek >>= f₂) := by
  have hm : ∀ o, RestNonInc (f₁ o) := RestNonInc.optCases hn fun c => (hf c).mono
  refine ⟨fun s t h => ?_, RestNonInc.peek.bind hm⟩
  refine (((Loc.leaf (less := True) (b := false) .peek).1 s t h nofun).bind (d := false) hm fun o s' t' e hs hh => ?_).gres
  obtain ⟨⟨c, rfl⟩, _⟩ := peek_ok_faulty h.faulty₂ e
  exact (hf c).loc.1 s' t' hs hh

theorem GRel.peekOrNull_bind {f₁ f₂ : UInt8 → P β} (hf : ∀ c, GRelNE tail (f₁ c) (f₂ c)) :
    GRel tail (Parse.peekOrNull >>= f₁) (Parse.peekOrNull >>= f₂) :=
  (Loc.bind (Loc.of_held .peekOrNull) fun c => (hf c).loc).grel

theorem RestNonInc.parseWhitespace : RestNonInc parseWhitespace := .of_held .parseWhitespace

theorem GRel.parseWhitespace_bind {f₁ f₂ : Option UInt8 → P β}
    (hf : ∀ c, GRelNE tail (f₁ (some c)) (f₂ (some c))) (hn : RestNonInc (f₁ none)) :
    GRel tail (Parse.parseWhitespace >>= f₁) (Parse.parseWhitespace >>= f₂) := by
  have hp := GRel.peek_bind hf hn
  refine ⟨fun s t h => ?_, RestNonInc.parseWhitespace.bind (RestNonInc.optCases hn fun c => (hf c).mono)⟩
  obtain ⟨tk, s', tk', t', e₁, e₂, hc⟩ := h.scan Scans.wsLen
  rw [PrefixDet.parseWhitespace_eq]
  simp only [bind_apply, e₁, e₂]
  rcases hc with ⟨_, hs'⟩ | ⟨hr, hd, hl⟩
  · exact hp.app s' t' hs'
  · rw [peek_dead hr hd]
    exact .inr (.inl ⟨t', rfl, ⟨hr, hd⟩, FBeyond.of_nonInc hp.mono hl⟩)

theorem GRelNE.peek_bind {f₁ f₂ : Option UInt8 → P β}
    (hf : ∀ c, GRelNE tail (f₁ (some c)) (f₂ (some c))) (hn : RestNonInc (f₁ none)) :
    GRelNE tail (Parse.peek >>= f₁) (Parse.peek >>= f₂) := .of_GRel (GRel.peek_bind hf hn)
theorem GRelNE.peekOrNull_bind {f₁ f₂ : UInt8 → P β} (hf : ∀ c, GRelNE tail (f₁ c) (f₂ c)) :
    GRelNE tail (Parse.peekOrNull >>= f₁) (Parse.peekOrNull >>= f₂) := .of_GRel (GRel.peekOrNull_bind hf)
theorem GRelNE.parseWhitespace_bind {f₁ f₂ : Option UInt8 → P β}
    (hf : ∀ c, GRelNE tail (f₁ (some c)) (f₂ (some c))) (hn : RestNonInc (f₁ none)) :
    GRelNE tail (Parse.parseWhitespace >>= f₁) (Parse.parseWhitespace >>= f₂) :=
  .of_GRel (GRel.parseWhitespace_bind hf hn)

theorem GRel.peekOrNull : GRel tail peekOrNull peekOrNull := (Loc.of_held .peekOrNull).grel
theorem GRel.nextOrNull : GRel tail nextOrNull nextOrNull := (Loc.of_held .nextOrNull).grel
theorem GRel.parseWhitespace : GRel tail parseWhitespace parseWhitespace :=
  (Loc.of_held .parseWhitespace).grel
theorem GRel.parseSymbolBytes (scratch : List UInt8) :
    GRel tail (parseSymbolBytes scratch) (parseSymbolBytes scratch) :=
  (Loc.of_held (.parseSymbolBytes scratch trivial)).grel
theorem GRel.endSeq (close : UInt8) : GRel tail (endSeq close) (endSeq close) :=
  (Loc.of_held (.endSeq close)).grel
theorem GRel.expectEnd : GRel tail expectEnd expectEnd := (Loc.of_held .expectEnd).grel
theorem GRel.parseByteList (cfg : Cfg) {f f' : Nat} (h : f' ≤ f) (close : UInt8) :
    GRel tail (parseByteList cfg f close) (parseByteList cfg f' close) :=
  (Loc.of_held (.parseByteList cfg close (ge_rel h))).grel

/-- `parse_token` after `parse_whitespace` returned `pk` (so the faulty reader holds a byte);
    the faulty side may have less fuel. -/
theorem GRelNE.parseToken (cfg : Cfg) {f f' : Nat} (h : f' ≤ f) (pk : UInt8) :
    GRelNE tail (parseToken cfg f pk) (parseToken cfg f' pk) :=
  (Loc.of_held (.parseToken trivial cfg pk (ge_rel h))).grelNE

end

end Parse
end Lexpr
