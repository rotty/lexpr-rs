/-
  Utf8InputAll — C17, input clause, for WHOLE inputs (slice and stream sources): the invariant of
  the readers, the whole-input theorem for every option set
  (`InAllOpts.C17_whole_input_valid_all_num`), and the statements under the R6RS string syntax
  (every other option, the character syntax included, is arbitrary):

    `C17_whole_input_valid`: if `from_slice` / `from_reader` accepts `bytes` (the whole input was
    read) and every run of trivia in `bytes` is well-formed (`TV bytes`: wherever a run of
    whitespace and `;` comments starts, the bytes it spans are valid UTF-8), then `bytes` is valid
    UTF-8.  `C17_whole_input_valid_no_comment`: in particular when `bytes` contains no `;`
    (byte 59) at all — the rule the differential oracle checks: "input that is not UTF-8, has no
    comment and is read to the end is never accepted".

  Comments are the one place where the reader skips bytes without looking at them
  (`comment_may_hide_ill_formed_bytes` in `Utf8InputAllEx`: `1;` FF is accepted), so some
  hypothesis about them is necessary; `TV` is the weakest one of this shape: it is implied by the conclusion
  (`TV.of_valid`), so for accepted inputs `valid bytes ↔ TV bytes` (`C17_whole_input_valid_iff`).
  The model has no block comments and no datum comments (`#|…|#`, `#;`): `#|` and `#;` are
  errors of `parse_token`.

  Route: `Inv s0 s` ("`s` is reached from `s0` by consuming a valid chunk, what is left has
  well-formed trivia, the source validates") is an invariant of the readers in the sense of
  `Parse.U8.EatsInv` (`TokH.reader`) over any token scanner that consumes valid chunks at the
  states reached from `s0` (`TokH`); under the R6RS string syntax
  `parse_token` is such a scanner unconditionally (`tokH_of_r6rs`), under the Emacs Lisp syntax a
  syntactic condition on the input is needed (`tokH_of_noNumEsc`; the other statements for every
  option set are in `Utf8InputAllOpts`), and the R6RS statements below are the case in which it is
  void.  Peeked-but-unconsumed bytes do not matter: everything is stated on `rd.rest`.
-/
import LexprModel.Proofs.Utf8InputTok
namespace Lexpr
namespace Parse
namespace InAll
open Utf8 Utf8.U8 Parse.U8 InLoop InTok

/-- every run of trivia (whitespace and `;` comments up to the line feed), wherever it starts, is
    valid UTF-8 -/
def TV (l : List UInt8) : Prop := ∀ t, t <:+ l → valid (t.take (wsLen t)) = true

theorem TV.suffix {l l' : List UInt8} (h : TV l) (hs : l' <:+ l) : TV l' :=
  fun t ht => h t (ht.trans hs)

theorem wsLen_ascii_of_no59 : ∀ t : List UInt8, (∀ b ∈ t, b ≠ 59) → Ascii (t.take (wsLen t))
  | [], _ => by simp only [wsLen, List.take_nil]; exact Ascii.nil
  | b :: bs, h => by
    simp only [wsLen]
    split
    · rename_i hb
      exact absurd (eq_of_beq hb) (h b (List.mem_cons_self ..))
    · split
      · rename_i hb
        simp only [List.take_succ_cons]
        exact Ascii.cons (isTrivia_ascii hb)
          (wsLen_ascii_of_no59 bs (fun x hx => h x (List.mem_cons_of_mem _ hx)))
      · simp only [List.take_zero]; exact Ascii.nil

/-- without a `;` the trivia are ASCII whitespace -/
theorem TV.of_no59 {l : List UInt8} (h : ∀ b ∈ l, b ≠ 59) : TV l :=
  fun t ht => valid_ascii (wsLen_ascii_of_no59 t (fun b hb => h b (ht.subset hb)))

structure Inv (s0 s : St) : Prop where
  vc : VC s0 s
  tv : TV s.rd.rest
  mode : s.rd.mode ≠ .str

theorem Inv.step {s0 s s' : St} (h : Inv s0 s) (hv : VC s s') : Inv s0 s' := by
  obtain ⟨hm, w, _, hr⟩ := hv
  exact ⟨h.vc.trans ⟨hm, w, ‹_›, hr⟩, h.tv.suffix ⟨w, hr.symm⟩, by rw [hm]; exact h.mode⟩

theorem Inv.asuf {s0 s s' : St} (h : Inv s0 s) (ha : ASuf s s') : Inv s0 s' :=
  h.step (VC.of_asuf ha)

theorem Inv.of_rd {s0 s s' : St} (h : Inv s0 s) (hrd : s'.rd = s.rd) : Inv s0 s' :=
  h.step (VC.same (by rw [hrd]) (by rw [hrd]))

theorem Inv.sv {s0 s : St} (h : Inv s0 s) : SV s := fun hm => absurd hm h.mode

theorem parseWhitespace_inv {s0 s s' : St} {a : Option UInt8} (h : parseWhitespace s = .ok a s')
    (hs : Inv s0 s) : Inv s0 s' := by
  obtain ⟨hm, hr, _⟩ := parseWhitespace_ok h
  refine hs.step (VC.chunk (w := s.rd.rest.take (wsLen s.rd.rest)) hm ?_
    (hs.tv _ (List.suffix_refl _)))
  rw [hr, List.take_append_drop]

theorem discard_inv {s0 s s' : St} {c : UInt8} {u : Unit} (h : discard s = .ok u s')
    (hhead : s.rd.rest.head? = some c) (hc : c < 0x80) (hs : Inv s0 s) : Inv s0 s' :=
  hs.asuf (discard_asuf h fun b hb => by rw [hhead] at hb; cases hb; exact hc)

end InAll

namespace InAllOpts
open Utf8 Utf8.U8 Parse.U8 InLoop InTok InAll

def TokH (cfg : Cfg) (s0 : St) : Prop :=
  ∀ {fuel : Nat} {pk : UInt8} {s s' : St} {tok : Token},
    parseToken cfg fuel pk s = .ok tok s' → s.rd.rest.head? = some pk → Inv s0 s → VC s s'

theorem tokH_of_r6rs {cfg : Cfg} (hr6 : cfg.opts.string = .r6rs) (s0 : St) : TokH cfg s0 :=
  fun ht hpk hs => parseToken_vc ht hpk hs.mode hr6

/-- over a token scanner that meets `TokH`, `Inv s0` is an invariant of the readers
    (`EatsInv`): trivia by `TV`, chunks because the source validates -/
theorem TokH.reader {cfg : Cfg} {s0 : St} (htok : TokH cfg s0) : EatsInv cfg (Inv s0) where
  sv h := h.sv
  eats h he := h.step (he.vc h.mode)
  ws hw hs := parseWhitespace_inv hw hs
  tok h hh hs := hs.step (htok h hh hs)

theorem tokH_of_noNumEsc {cfg : Cfg} {s0 : St}
    (h : cfg.opts.string = .elisp → NoNumEsc s0.rd.rest) : TokH cfg s0 := by
  intro fuel pk s s' tok ht hpk hs
  refine parseToken_vc_all_num ht hpk hs.mode (fun hel w hw => ?_)
  obtain ⟨_, p, _, hp⟩ := hs.vc
  have hnb := h hel
  rw [hp, hw] at hnb
  exact hnb.suffix.prefix

theorem nextValueTop_inv {cfg : Cfg} {s s' : St} {v : Option Value}
    (h : nextValueTop cfg s = .ok v s') (hm : s.rd.mode ≠ .str) (htv : TV s.rd.rest)
    (hnb : cfg.opts.string = .elisp → NoNumEsc s.rd.rest) : Inv s s' :=
  ((TokH.reader (tokH_of_noNumEsc hnb)).nextValueTop h ⟨VC.refl s, htv, hm⟩).1

theorem fromTrait_inv_all_num {cfg : Cfg} {s s' : St} {v : Value}
    (h : fromTrait cfg s = .ok v s') (hm : s.rd.mode ≠ .str) (htv : TV s.rd.rest)
    (hnb : cfg.opts.string = .elisp → NoNumEsc s.rd.rest) :
    Inv s s' ∧ s'.rd.rest = [] :=
  have hr := (TokH.reader (tokH_of_noNumEsc hnb)).fromTrait h ⟨VC.refl s, htv, hm⟩
  ⟨hr.1, hr.2.1⟩

/-- **C17, input clause, whole inputs, EVERY option set**: if `from_slice` / `from_reader`
    accepts `bytes`, the trivia of `bytes` are well-formed and — only needed under the Emacs Lisp
    string syntax — no backslash of `bytes` is directly followed by `x` or an octal
    digit, then `bytes` is valid UTF-8.  (`faulty`: whether the stream ends in a failing `read`;
    an accepted input never got there.) -/
theorem C17_whole_input_valid_all_num {cfg : Cfg} {mode : Mode} {bytes : List UInt8} {faulty : Bool}
    {v : Value} {S' : St} (h : fromTrait cfg (initSt mode bytes faulty) = .ok v S')
    (hm : mode ≠ .str) (htv : TV bytes) (hnb : cfg.opts.string = .elisp → NoNumEsc bytes) :
    Utf8.valid bytes = true := by
  obtain ⟨hinv, hrest⟩ := fromTrait_inv_all_num (s := initSt mode bytes faulty) h hm htv hnb
  exact hinv.vc.valid_of (w := bytes) (by rw [hrest]; simp [initSt])

end InAllOpts

namespace InAll
open Utf8 Utf8.U8 Parse.U8 InLoop InTok

/-- **`next_value` consumes a valid chunk** (one call of `Parser::next_value` / one item of the
    value iterator), from any state of a slice or stream reader whose remaining trivia are
    well-formed. -/
theorem C17_next_value_input_valid {cfg : Cfg} {S S' : St} {v : Option Value} {w : List UInt8}
    (h : nextValueTop cfg S = .ok v S') (hr6 : cfg.opts.string = .r6rs)
    (hm : S.rd.mode ≠ .str) (htv : TV S.rd.rest) (hw : S.rd.rest = w ++ S'.rd.rest) :
    Utf8.valid w = true :=
  (InAllOpts.nextValueTop_inv h hm htv (fun hel => by rw [hr6] at hel; cases hel)).vc.valid_of hw

/-- **C17, input clause, whole inputs**: if `from_slice` / `from_reader` (R6RS string syntax, any
    other options) accepts `bytes` and the trivia of `bytes` are well-formed, then `bytes` is valid
    UTF-8.  (`faulty`: whether the stream ends in a failing `read`; an accepted input never got
    there.) -/
theorem C17_whole_input_valid {cfg : Cfg} {mode : Mode} {bytes : List UInt8} {faulty : Bool}
    {v : Value} {S' : St} (h : fromTrait cfg (initSt mode bytes faulty) = .ok v S')
    (hr6 : cfg.opts.string = .r6rs) (hm : mode ≠ .str) (htv : TV bytes) :
    Utf8.valid bytes = true :=
  InAllOpts.C17_whole_input_valid_all_num h hm htv (fun hel => by rw [hr6] at hel; cases hel)

/-- **The rule of the differential oracle**: input that is not UTF-8, contains no `;` and is read
    to the end is never accepted (slice and stream sources, R6RS string syntax). -/
theorem C17_whole_input_valid_no_comment {cfg : Cfg} {mode : Mode} {bytes : List UInt8}
    {faulty : Bool} {v : Value} {S' : St}
    (h : fromTrait cfg (initSt mode bytes faulty) = .ok v S')
    (hr6 : cfg.opts.string = .r6rs) (hm : mode ≠ .str) (hno : ∀ b ∈ bytes, b ≠ 59) :
    Utf8.valid bytes = true :=
  C17_whole_input_valid h hr6 hm (TV.of_no59 hno)

/-- the contrapositive, as the oracle states it -/
theorem C17_ill_formed_input_rejected {cfg : Cfg} {mode : Mode} {bytes : List UInt8}
    {faulty : Bool} (hr6 : cfg.opts.string = .r6rs) (hm : mode ≠ .str)
    (hno : ∀ b ∈ bytes, b ≠ 59) (hbad : Utf8.valid bytes = false) :
    ∀ v S', fromTrait cfg (initSt mode bytes faulty) ≠ .ok v S' :=
  fun _ _ h => Bool.noConfusion ((C17_whole_input_valid_no_comment h hr6 hm hno).symm.trans hbad)

/-- valid input has well-formed trivia: the hypothesis of `C17_whole_input_valid` is implied by
    its conclusion -/
theorem TV.of_valid {l : List UInt8} (hl : valid l = true) : TV l := by
  intro t ht
  cases t with
  | nil => simp [wsLen, valid_nil]
  | cons b tl =>
    by_cases hstart : (b == 59 || isTrivia b) = true
    · have hba : b < 0x80 := by
        simp only [Bool.or_eq_true] at hstart
        rcases hstart with h | h
        · rw [eq_of_beq h]; decide
        · exact isTrivia_ascii h
      have hvt : valid (b :: tl) = true := by
        obtain ⟨p, hp⟩ := ht
        exact (valid_split_ascii (hp ▸ hl) hba).2
      have hd := valid_drop_wsLen (b :: tl) hvt
      have hsplit : valid ((b :: tl).take (wsLen (b :: tl)) ++ (b :: tl).drop (wsLen (b :: tl))) = true := by
        rw [List.take_append_drop]; exact hvt
      exact valid_left_of_append hsplit hd
    · have h0 : wsLen (b :: tl) = 0 := by
        simp only [Bool.or_eq_true, not_or] at hstart
        simp only [wsLen]
        rw [if_neg hstart.1, if_neg hstart.2]
      rw [h0]; simp [valid_nil]

/-- for an accepted input: valid UTF-8 exactly when its trivia are well-formed — ill-formed bytes
    can hide in comments and nowhere else -/
theorem C17_whole_input_valid_iff {cfg : Cfg} {mode : Mode} {bytes : List UInt8} {faulty : Bool}
    {v : Value} {S' : St} (h : fromTrait cfg (initSt mode bytes faulty) = .ok v S')
    (hr6 : cfg.opts.string = .r6rs) (hm : mode ≠ .str) :
    Utf8.valid bytes = true ↔ TV bytes :=
  ⟨TV.of_valid, C17_whole_input_valid h hr6 hm⟩

/-! ### the datum reader

  `datum::from_slice` / `datum::from_reader`, `Parser::next_datum`: the same statements, transferred
  along the lock-step simulation of the datum readers by the value readers (`Parse.sim_*`). -/

/-- **`next_datum` consumes a valid chunk** (one call of `Parser::next_datum` / one item of the
    datum iterator). -/
theorem C17_next_datum_input_valid {cfg : Cfg} {S S' : St} {d : Option Datum} {w : List UInt8}
    (h : nextDatumTop cfg S = .ok d S') (hr6 : cfg.opts.string = .r6rs)
    (hm : S.rd.mode ≠ .str) (htv : TV S.rd.rest) (hw : S.rd.rest = w ++ S'.rd.rest) :
    Utf8.valid w = true :=
  C17_next_value_input_valid ((Parse.sim_nextTop cfg).ok h) hr6 hm htv hw

/-- **C17, input clause, whole inputs, datum reader**: if `datum::from_slice` /
    `datum::from_reader` (R6RS string syntax) accepts `bytes` and the trivia of `bytes` are
    well-formed, then `bytes` is valid UTF-8. -/
theorem C17_whole_input_valid_datum {cfg : Cfg} {mode : Mode} {bytes : List UInt8} {faulty : Bool}
    {d : Datum} {S' : St} (h : fromTraitDatum cfg (initSt mode bytes faulty) = .ok d S')
    (hr6 : cfg.opts.string = .r6rs) (hm : mode ≠ .str) (htv : TV bytes) :
    Utf8.valid bytes = true :=
  C17_whole_input_valid ((Parse.sim_fromTrait cfg).ok h) hr6 hm htv

/-- the rule of the differential oracle, datum reader -/
theorem C17_whole_input_valid_datum_no_comment {cfg : Cfg} {mode : Mode} {bytes : List UInt8}
    {faulty : Bool} {d : Datum} {S' : St}
    (h : fromTraitDatum cfg (initSt mode bytes faulty) = .ok d S')
    (hr6 : cfg.opts.string = .r6rs) (hm : mode ≠ .str) (hno : ∀ b ∈ bytes, b ≠ 59) :
    Utf8.valid bytes = true :=
  C17_whole_input_valid_datum h hr6 hm (TV.of_no59 hno)

end InAll
end Parse
end Lexpr
