/-
  C11 — the re-parse clause.

  "For every successfully parsed datum and every sub-datum reachable through the list and vector
   iterators, the input text its span covers, parsed on its own with the same options, yields
   that sub-datum's value" — exempt: the head of a quote shorthand, whose span covers just the
   shorthand characters, and the synthesised tail cells of a shorthand (which the iterators do
   not yield).

  The end of the input acts like a delimiter (`C11_trunc`, ReparseParse.lean), so the text of one
  datum re-parses (`reparsesTo_datum`, ReparseTop.lean); this file follows `next_datum` through
  all elements (`rep_all`, `C11_reparse`) and says what the iterators yield.
-/
import LexprModel.Proofs.ReparseElems
namespace Lexpr
namespace Parse
namespace Reparse
open Progress Spans

mutual
/-- `RepV E v info`: following the value `v` alongside its span tree `info`, every element — the
    cars along a list, a final cdr other than `Null` (a dotted tail), the entries of a vector —
    satisfies `E value span`, and recursively so inside each element.  (The spans of inner cons
    cells are not elements; a final cdr `Null` carries a placeholder span and is not yielded.) -/
def RepV (E : Value → Span → Prop) : Value → SpanInfo → Prop
  | _, .prim _ => True
  | v, .cons _ car cdr =>
    match v with
    | .cons a b => (E a car.span ∧ RepV E a car) ∧ RepTail E b cdr
    | _ => False
  | v, .vec _ xs =>
    match v with
    | .vector vs => RepElems E vs xs
    | _ => False
/-- the rest of a list -/
def RepTail (E : Value → Span → Prop) : Value → SpanInfo → Prop
  | v, .prim sp => v = .null ∨ E v sp
  | v, .cons _ car cdr =>
    match v with
    | .cons a b => (E a car.span ∧ RepV E a car) ∧ RepTail E b cdr
    | _ => False
  | v, .vec sp xs =>
    E v sp ∧
      match v with
      | .vector vs => RepElems E vs xs
      | _ => False
/-- the entries of a vector -/
def RepElems (E : Value → Span → Prop) : List Value → List SpanInfo → Prop
  | vs, [] => vs = []
  | vs, x :: xs =>
    match vs with
    | v :: vs' => (E v x.span ∧ RepV E v x) ∧ RepElems E vs' xs
    | [] => False
end

variable {E : Value → Span → Prop}

/-- a list cell with value `v` whose car and cdr infos are `c`, `d` -/
def RepCell (E : Value → Span → Prop) (v : Value) (c d : SpanInfo) : Prop :=
  match v with
  | .cons a b => (E a c.span ∧ RepV E a c) ∧ RepTail E b d
  | _ => False

theorem repV_prim (v : Value) (sp : Span) : RepV E v (.prim sp) := by simp [RepV]
theorem repV_cons (v : Value) (sp : Span) (c d : SpanInfo) :
    RepV E v (.cons sp c d) ↔ RepCell E v c d := by
  cases v <;> simp [RepV, RepCell]
theorem repV_vec (v : Value) (sp : Span) (xs : List SpanInfo) :
    RepV E v (.vec sp xs) ↔ ∃ vs, v = .vector vs ∧ RepElems E vs xs := by
  cases v <;> simp [RepV]
theorem repTail_prim (v : Value) (sp : Span) : RepTail E v (.prim sp) ↔ (v = .null ∨ E v sp) := by
  simp [RepTail]
theorem repTail_cons (v : Value) (sp : Span) (c d : SpanInfo) :
    RepTail E v (.cons sp c d) ↔ RepCell E v c d := by
  cases v <;> simp [RepTail, RepCell]
theorem repTail_vec (v : Value) (sp : Span) (xs : List SpanInfo) :
    RepTail E v (.vec sp xs) ↔ E v sp ∧ ∃ vs, v = .vector vs ∧ RepElems E vs xs := by
  cases v <;> simp [RepTail]
theorem repElems_nil (vs : List Value) : RepElems E vs [] ↔ vs = [] := by simp [RepElems]
theorem repElems_cons (vs : List Value) (x : SpanInfo) (xs : List SpanInfo) :
    RepElems E vs (x :: xs) ↔
      ∃ v vs', vs = v :: vs' ∧ (E v x.span ∧ RepV E v x) ∧ RepElems E vs' xs := by
  cases vs with
  | nil => simp [RepElems]
  | cons v vs' =>
    simp only [RepElems]
    constructor
    · intro h; exact ⟨v, vs', rfl, h⟩
    · rintro ⟨_, _, h, h'⟩; cases h; exact h'
theorem repCell_cons (a b : Value) (c d : SpanInfo) :
    RepCell E (.cons a b) c d ↔ (E a c.span ∧ RepV E a c) ∧ RepTail E b d := Iff.rfl

/-- a whole datum is a legal dotted tail -/
theorem RepTail.of_datum (v : Value) (t : SpanInfo) (he : E v t.span) (hr : RepV E v t) :
    RepTail E v t := by
  cases t with
  | prim sp => rw [repTail_prim]; exact Or.inr he
  | cons sp c d => rw [repTail_cons]; rw [repV_cons] at hr; exact hr
  | vec sp xs => rw [repTail_vec]; rw [repV_vec] at hr; exact ⟨he, hr⟩

theorem RepElems.snoc : ∀ (acc : List Value) (ms : List SpanInfo) {a : Value} {m : SpanInfo},
    RepElems E acc ms → (E a m.span ∧ RepV E a m) → RepElems E (acc ++ [a]) (ms ++ [m])
  | acc, [], a, m, h, hm => by
    rw [repElems_nil] at h
    subst h
    simp only [List.nil_append]
    rw [repElems_cons]
    exact ⟨a, [], rfl, hm, (repElems_nil _).mpr rfl⟩
  | acc, x :: xs, a, m, h, hm => by
    rw [repElems_cons] at h
    obtain ⟨v, vs', rfl, hv, hrest⟩ := h
    simp only [List.cons_append]
    rw [repElems_cons]
    exact ⟨v, vs' ++ [a], rfl, hv, RepElems.snoc vs' xs hrest hm⟩

/-- `buildMeta` lays the elements and the final cdr out as the car and cdr infos of the first
    cell of `Value.append acc tv` -/
theorem rep_buildMeta : ∀ (ms : List SpanInfo) (acc : List Value) (tv : Value) (t : SpanInfo),
    acc ≠ [] → RepElems E acc ms → RepTail E tv t →
    RepCell E (Value.append acc tv) (buildMeta ms t).1 (buildMeta ms t).2
  | [], _, _, _, hne, h, _ => absurd ((repElems_nil _).mp h) hne
  | [m], acc, tv, t, _, h, ht => by
    obtain ⟨a, _, rfl, hv, h2⟩ := (repElems_cons _ _ _).mp h
    cases (repElems_nil _).mp h2
    exact ⟨hv, ht⟩
  | m :: m' :: ms, acc, tv, t, _, h, ht => by
    obtain ⟨a, acc', rfl, hv, h2⟩ := (repElems_cons _ _ _).mp h
    have hne : acc' ≠ [] := by
      obtain ⟨_, _, rfl, _⟩ := (repElems_cons _ _ _).mp h2
      exact List.cons_ne_nil _ _
    have ih := rep_buildMeta (m' :: ms) acc' tv t hne h2 ht
    cases acc' with
    | nil => exact absurd rfl hne
    | cons b acc'' => exact ⟨hv, (repTail_cons _ _ _ _).mpr ih⟩

/-- an element is in order: its text re-parses to its value, or it is the head of a quote
    shorthand -/
def ElemOK (cfg : Cfg) (mode : Mode) (input : List UInt8) (v : Value) (sp : Span) : Prop :=
  ReparsesTo cfg mode input v sp ∨ QuoteHead input v sp

/-- the states of the run: on the track of `input`, the given kind of source, and a depth budget
    that a fresh parser also has -/
def Good (input : List UInt8) (mode : Mode) (s : St) : Prop :=
  At input s ∧ s.rd.mode = mode ∧ s.depth ≤ 128

section tri
variable {α β : Type} {input : List UInt8} {mode : Mode} {s : St}

theorem tri_good {m : P α} (hinv : ∀ (I : St → Prop) [Stable I], Spans.Inv I m) (hfr : FrOk m)
    (hs : Good input mode s) :
    Tri m s (fun a s' => Good input mode s' ∧ m s = .ok a s') := by
  refine Tri.of_ok fun a s' hm => ?_
  have h1 := hinv (At input) s hs.1
  have h2 := hinv (fun t : St => t.rd.mode = mode) s hs.2.1
  rw [hm] at h1 h2
  exact ⟨⟨h1, h2, by rw [(hfr s a s' hm).2]; exact hs.2.2⟩, hm⟩

theorem Tri.pure_some {Q : α → Prop} {a : α} (h : Q a) :
    Tri (pure (some a) : P (Option α)) s (fun o _ => ∀ x, o = some x → Q x) :=
  Tri.pure fun _ hx => by cases hx; exact h

theorem tri_enter (hs : Good input mode s) : Tri enter s (fun _ s' => Good input mode s') := by
  refine Tri.of_ok fun _ s' hm => ?_
  obtain ⟨_, rfl⟩ := enter_ok hm
  exact ⟨Stable.depth s _ hs.1, hs.2.1, by show s.depth - 1 ≤ 128; have := hs.2.2; omega⟩

end tri

theorem nextDatum_frame (cfg : Cfg) (f : Nat) : FrOk (nextDatum cfg f) := by
  intro S od S' h
  have := (sim_all cfg f).1 S
  rw [h] at this
  exact nextValue_frame cfg f S _ S' this.symm

/-- the element read by `parse_list_meta` at a dot that is not followed by a delimiter -/
theorem elemOK_dotSymbol {cfg : Cfg} {input : List UInt8} {mode : Mode} {S1 S2 S3 S4 : St}
    {nxt : UInt8} {name : List UInt8} (hg1 : Good input mode S1) (hg4 : Good input mode S4)
    (hhead : S1.rd.rest.head? = some 46) (hd : discard S1 = .ok () S2)
    (hp : peekOrNull S2 = .ok nxt S3) (hs : parseSymbolBytes [46] S3 = .ok name S4) :
    ElemOK cfg mode input (symbolValue cfg.opts name) ⟨S1.rd.position, S4.rd.position⟩ := by
  cases h1 : S1.rd.rest with
  | nil => rw [h1] at hhead; cases hhead
  | cons c t =>
    rw [h1] at hhead
    obtain rfl : c = 46 := by simpa using hhead
    obtain ⟨S4', hrun, hr4⟩ := dotSymbol_run (cfg := cfg) (F := 0) h1 hd hp hs
    have hat4' : At input S4' := by
      have := (value_invs (I := At input) cfg 1).1 S1 hg1.1
      rwa [hrun] at this
    have hws : wsLen S1.rd.rest = 0 := by rw [h1]; exact wsLen_head (by decide) (by decide)
    have := reparsesTo_of_run hrun hg1.1 hg1.2.2 (Reach.refl S1) (by rw [hws]; rfl)
    rw [hg1.2.1, at_pos_eq hat4' hg4.1 hr4] at this
    exact Or.inl this

/-- Every element of what `next_datum` and the two loops return re-parses.  By induction on the
    fuel, for the three functions together, as a Hoare proof over `nextDatum_succ` from states that
    are `Good` (on the track of `input`, so that a span found there speaks of `input`).  A nested
    call returns a datum that is an element by `reparsesTo_datum` and whose own elements are in
    order by the induction hypothesis (`callD`); the loops carry `RepElems` of what they have
    collected; the two elements not returned by a call of their own, a symbol that starts with a
    dot and the head of a quote shorthand, come from ReparseElems.lean. -/
theorem rep_all (cfg : Cfg) (input : List UInt8) (mode : Mode) : ∀ fuel : Nat,
    (∀ s, Good input mode s →
      Tri (nextDatum cfg fuel) s
        (fun od _ => ∀ d, od = some d → RepV (ElemOK cfg mode input) d.value d.info)) ∧
    (∀ term acc ms s, Good input mode s → RepElems (ElemOK cfg mode input) acc ms →
      Tri (parseListMeta cfg fuel term acc ms) s
        (fun r _ => ∀ v c d, r = some (v, c, d) → RepCell (ElemOK cfg mode input) v c d)) ∧
    (∀ term acc ms s, Good input mode s → RepElems (ElemOK cfg mode input) acc ms →
      Tri (parseVectorMeta cfg fuel term acc ms) s
        (fun r _ => RepElems (ElemOK cfg mode input) r.1 r.2)) := by
  intro fuel
  induction fuel with
  | zero =>
    refine ⟨?_, ?_, ?_⟩
    · intro s _; rw [nextDatum]; exact Tri.outOfFuel
    · intro term acc ms s _ _; rw [parseListMeta]; exact Tri.outOfFuel
    · intro term acc ms s _ _; rw [parseVectorMeta]; exact Tri.outOfFuel
  | succ f ih =>
    obtain ⟨ihD, ihL, ihV⟩ := ih
    -- a call of `next_datum` one level down: the datum is an element in order
    have callD : ∀ s, Good input mode s → Tri (nextDatum cfg f) s (fun od s' =>
        Good input mode s' ∧ ∀ d, od = some d →
          ElemOK cfg mode input d.value d.info.span ∧ RepV (ElemOK cfg mode input) d.value d.info) := by
      intro s hs
      refine Tri.conseq (Tri.and (ihD s hs)
        (tri_good (fun _ _ => (datum_invs cfg f).1) (nextDatum_frame cfg f) hs)) ?_
      rintro od s' ⟨hod, hg', heq⟩
      refine ⟨hg', fun d hd => ?_⟩
      subst hd
      have := reparsesTo_datum heq hs.1 hs.2.2
      rw [hs.2.1] at this
      exact ⟨Or.inl this, hod d rfl⟩
    -- the trivia in front of a datum or an element
    have ws : ∀ s, Good input mode s → Tri parseWhitespace s (fun o s1 =>
        Good input mode s1 ∧ o = s1.rd.rest.head?) := fun s hs =>
      Tri.conseq (Tri.and (tri_good (fun _ _ => parseWhitespace_inv) parseWhitespace_t1.frame hs)
        (parseWhitespace_tri s)) fun _ _ h => ⟨h.1.1, h.2.2.2⟩
    refine ⟨?_, ?_, ?_⟩
    · intro s hs
      rw [nextDatum_succ]
      refine Tri.bind (ws s hs) ?_
      rintro o s1 ⟨hg1, ho⟩
      cases o with
      | none => exact Tri.pure (fun d hd => by cases hd)
      | some pk =>
        refine Tri.bind_getPos (Tri.bind_tokenFuel (Tri.bind
          (tri_good (fun _ _ => parseToken_inv) (parseToken_t (f' := 0)).frame hg1) ?_))
        rintro tok s2 ⟨hg2, heq2⟩
        cases tok with
        | byteVecOpen close =>
          exact Tri.bind Tri.any fun _ _ _ => Tri.bind_getPos (Tri.pure_some (repV_prim _ _))
        | vecOpen close =>
          exact Tri.deeperSeq (tri_enter hg2)
            (fun s3 hs3 => ihV close [] [] s3 hs3 ((repElems_nil _).mpr rfl))
            fun _ r _ _ _ hrep _ =>
              Tri.bind_getPos (Tri.pure_some ((repV_vec _ _ _).mpr ⟨r.1, rfl, hrep⟩))
        | listOpen close =>
          refine Tri.deeperSeq (tri_enter hg2)
            (fun s3 hs3 => ihL close [] [] s3 hs3 ((repElems_nil _).mpr rfl))
            fun _ r _ _ _ hr _ => ?_
          rcases r with _ | ⟨v, c, d⟩
          · exact Tri.bind_getPos (Tri.pure_some (repV_prim _ _))
          · exact Tri.bind_getPos (Tri.pure_some ((repV_cons _ _ _ _).mpr (hr v c d rfl)))
        | quotation q =>
          refine Tri.bind_getPos (Tri.deeper (tri_enter hg2)
            (fun s3 hs3 => Tri.conseq (callD s3 hs3) fun _ _ h => h.2) fun _ od _ s5 _ hod _ => ?_)
          cases od with
          | none => exact Tri.peekErr
          | some d =>
            obtain ⟨hE, hR⟩ := hod d rfl
            refine Tri.pure_some ?_
            show RepV _ (.cons (.symbol q.name) (.cons d.value .null))
              (.cons _ (.prim ⟨s1.rd.position, s2.rd.position⟩)
                (.cons d.info.span d.info (.prim ⟨d.info.span.stop, d.info.span.stop⟩)))
            rw [repV_cons, repCell_cons, repTail_cons, repCell_cons, repTail_prim]
            exact ⟨⟨Or.inr (quoteHead_of_token heq2 ho.symm hg1.1 hg2.1), repV_prim _ _⟩,
              ⟨hE, hR⟩, Or.inl rfl⟩
        | _ => exact Tri.bind_getPos (Tri.pure_some (repV_prim _ _))
    · intro term acc ms s hs hrep
      rw [parseListMeta]
      refine Tri.bind (ws s hs) ?_
      rintro o s1 ⟨hg1, ho⟩
      cases o with
      | none => exact Tri.peekErr
      | some c =>
        refine Tri.ite
          (fun _ => Tri.ite (fun _ => Tri.peekErr) (fun _ => Tri.ite (fun _ => ?_) (fun hne => ?_)))
          (fun _ => Tri.ite (fun h46 => ?_) (fun _ => ?_))
        · exact Tri.pure (fun v c d h => by cases h)
        · have hacc : acc ≠ [] := by
            intro h; subst h; simp at hne
          refine Tri.pure ?_
          intro v c d h
          cases h
          exact rep_buildMeta ms acc Value.null _ hacc hrep ((repTail_prim _ _).mpr (Or.inl rfl))
        · refine Tri.bind_getPos ?_
          refine Tri.bind (tri_good (fun _ _ => Spans.Inv.discard) (discard_t (k := 0)).frame hg1) ?_
          rintro _ s2 ⟨hg2, heq2⟩
          refine Tri.bind (tri_good (fun _ _ => peekOrNull_inv) peekOrNull_t1.frame hg2) ?_
          rintro nxt s3 ⟨hg3, heq3⟩
          refine Tri.ite
            (fun _ => Tri.ite (fun _ => Tri.of_neverOk never_peek_err) (fun hne => ?_)) (fun _ => ?_)
          · have hacc : acc ≠ [] := by
              intro h; subst h; simp at hne
            refine Tri.bind (Q1 := fun (tail : Datum) _ =>
              ElemOK cfg mode input tail.value tail.info.span ∧
                RepV (ElemOK cfg mode input) tail.value tail.info) ?_ ?_
            · refine Tri.bind (callD s3 hg3) ?_
              rintro od s4 ⟨_, hod⟩
              cases od with
              | none => exact Tri.peekErr
              | some d => exact Tri.pure (hod d rfl)
            · intro tail s4 htail
              refine Tri.bind Tri.any ?_
              rintro o s5 _
              cases o with
              | none => exact Tri.peekErr
              | some c' =>
                refine Tri.ite (fun _ => Tri.pure ?_) (fun _ => Tri.peekErr)
                intro v c d h
                cases h
                exact rep_buildMeta ms acc tail.value _ hacc hrep
                  (RepTail.of_datum tail.value tail.info htail.1 htail.2)
          · refine Tri.bind
              (tri_good (fun _ _ => parseSymbolBytes_inv) parseSymbolBytes_t.frame hg3) ?_
            rintro name s4 ⟨hg4, heq4⟩
            refine Tri.bind_getPos ?_
            obtain rfl : c = 46 := eq_of_beq h46
            exact ihL term _ _ s4 hg4 (RepElems.snoc acc ms hrep
              ⟨elemOK_dotSymbol hg1 hg4 ho.symm heq2 heq3 heq4, repV_prim _ _⟩)
        · refine Tri.bind (callD s1 hg1) ?_
          rintro od s2 ⟨hg2, hod⟩
          cases od with
          | none => exact Tri.peekErr
          | some d => exact ihL term _ _ s2 hg2 (RepElems.snoc acc ms hrep (hod d rfl))
    · intro term acc ms s hs hrep
      rw [parseVectorMeta]
      refine Tri.bind (ws s hs) ?_
      rintro o s1 ⟨hg1, _⟩
      cases o with
      | none => exact Tri.peekErr
      | some c =>
        refine Tri.ite (fun _ => Tri.ite (fun _ => Tri.peekErr) (fun _ => Tri.pure hrep)) (fun _ => ?_)
        refine Tri.bind (callD s1 hg1) ?_
        rintro od s2 ⟨hg2, hod⟩
        cases od with
        | none => exact Tri.peekErr
        | some d => exact ihV term _ _ s2 hg2 (RepElems.snoc acc ms hrep (hod d rfl))

/-- **C11_reparse** (the re-parse clause).  Let `next_datum` return the datum `d` from a state
    that is `At input` (it has consumed a prefix of `input` and stands at the position of that
    prefix — e.g. a freshly initialised parser, or the same parser after any number of calls) with
    a depth budget of at most 128 (what a fresh parser has).  Then
     * the span of `d` is `⟨posOf p, posOf q⟩` for prefixes `p ≤ q` of `input`, and the text between
       them, parsed on its own by `from_trait` with the same options and the same kind of source,
       yields exactly `d.value`;
     * recursively (`RepV`), the same holds for every element reachable through the list and vector
       iterators: the cars along a list, a dotted tail, the entries of a vector, at every depth —
       except that the *head* of a quote shorthand is instead the symbol `quote` / `quasiquote` /
       `unquote` / `unquote-splicing` with a span covering exactly the shorthand characters
       (`QuoteHead`); the quoted datum itself re-parses. -/
theorem C11_reparse (cfg : Cfg) (fuel : Nat) (s s' : St) (d : Datum) (input : List UInt8)
    (h : nextDatum cfg fuel s = .ok (some d) s') (hat : At input s) (hd : s.depth ≤ 128) :
    ReparsesTo cfg s.rd.mode input d.value d.info.span ∧
      RepV (ElemOK cfg s.rd.mode input) d.value d.info := by
  refine ⟨reparsesTo_datum h hat hd, ?_⟩
  exact ((rep_all cfg input s.rd.mode fuel).1 s ⟨hat, rfl, hd⟩).ok h d rfl

/-- the prefixes in `ReparsesTo` are determined by the span: for *any* two prefixes `p`, `q` of the
    input whose positions are the ends of the span, the text between them re-parses to the value -/
theorem ReparsesTo.forall {cfg : Cfg} {mode : Mode} {input : List UInt8} {v : Value} {sp : Span}
    (h : ReparsesTo cfg mode input v sp) (p q : List UInt8) (hp : p <+: input) (hq : q <+: input)
    (hsp : sp = ⟨posOf p, posOf q⟩) :
    p <+: q ∧ ∃ sF, fromTrait cfg (initSt mode (q.drop p.length)) = .ok v sF := by
  obtain ⟨p', q', hpq, hq', hsp', sF, hre⟩ := h
  rw [hsp] at hsp'
  have hp' : p' <+: input := hpq.trans hq'
  obtain rfl : p = p' := posOf_inj hp hp' (by injection hsp' with h1 h2)
  obtain rfl : q = q' := posOf_inj hq hq' (by injection hsp' with h1 h2)
  exact ⟨hpq, sF, hre⟩

/-- what is left to iterate -/
def CurRep (E : Value → Span → Prop) : DCursor → Prop
  | .cons car cdr cm dm => (E car cm.span ∧ RepV E car cm) ∧ RepTail E cdr dm
  | .dot v m => E v m.span ∧ RepV E v m
  | .rest v m => E v m.span ∧ RepV E v m
  | .exhausted => True

theorem CurRep.next {c : DCursor} (h : CurRep E c) {item : Option Datum} {c' : DCursor}
    (hn : c.next = some (item, c')) :
    (∀ e, item = some e → E e.value e.info.span ∧ RepV E e.value e.info) ∧ CurRep E c' := by
  cases c with
  | cons car cdr cm dm =>
    obtain ⟨h1, h2⟩ := h
    cases dm with
    | cons sp c d =>
      rw [repTail_cons] at h2
      cases cdr with
      | cons a b =>
        simp only [DCursor.next, Option.some.injEq, Prod.mk.injEq] at hn
        obtain ⟨rfl, rfl⟩ := hn
        exact ⟨fun e he => by cases he; exact h1, h2⟩
      | _ => exact h2.elim
    | prim sp =>
      rw [repTail_prim] at h2
      by_cases hnull : cdr.isNull = true
      · simp only [DCursor.next, hnull, if_true, Option.some.injEq, Prod.mk.injEq] at hn
        obtain ⟨rfl, rfl⟩ := hn
        exact ⟨fun e he => by cases he; exact h1, trivial⟩
      · simp only [DCursor.next, hnull] at hn
        cases hn
        refine ⟨fun e he => by cases he; exact h1, ?_, repV_prim _ _⟩
        rcases h2 with hv | hv
        · subst hv; exact absurd rfl hnull
        · exact hv
    | vec sp xs =>
      rw [repTail_vec] at h2
      simp only [DCursor.next, Option.some.injEq, Prod.mk.injEq] at hn
      obtain ⟨rfl, rfl⟩ := hn
      refine ⟨fun e he => by cases he; exact h1, h2.1, ?_⟩
      show RepV E cdr (.vec sp xs)
      rw [repV_vec]
      exact h2.2
  | dot v m =>
    simp only [DCursor.next, Option.some.injEq, Prod.mk.injEq] at hn
    obtain ⟨rfl, rfl⟩ := hn
    exact ⟨(fun e he => by cases he), h⟩
  | rest v m =>
    simp only [DCursor.next, Option.some.injEq, Prod.mk.injEq] at hn
    obtain ⟨rfl, rfl⟩ := hn
    exact ⟨fun e he => by cases he; exact h, trivial⟩
  | exhausted =>
    simp only [DCursor.next, Option.some.injEq, Prod.mk.injEq] at hn
    obtain ⟨rfl, rfl⟩ := hn
    exact ⟨(fun e he => by cases he), trivial⟩

theorem listIter_curRep {d : Datum} (h : RepV E d.value d.info) {c : DCursor}
    (hc : d.listIter = some c) : CurRep E c := by
  rcases d with ⟨v, i⟩
  cases v <;> cases i <;> simp [Datum.listIter] at hc <;> subst hc <;> first | trivial | exact h

/-- **C11_reparse_list_iter**: every datum that `Datum::list_iter` yields, at any step, is an
    element in order (`E`: its text re-parses to its value, or it is the head of a quote shorthand)
    and satisfies `RepV` again, so the statement applies recursively to everything reachable. -/
theorem C11_reparse_list_iter (E : Value → Span → Prop) (d : Datum) (h : RepV E d.value d.info)
    (c : DCursor) (hc : d.listIter = some c) (n : Nat) (l : List (Option Datum))
    (hl : takeN n c = some l) :
    ∀ e ∈ l.filterMap id, E e.value e.info.span ∧ RepV E e.value e.info := by
  have hcur := listIter_curRep h hc
  clear hc h
  induction n generalizing c l with
  | zero =>
    simp only [takeN, Option.some.injEq] at hl
    subst hl
    intro e he; simp at he
  | succ n ih =>
    simp only [takeN] at hl
    cases hn : c.next with
    | none => rw [hn] at hl; cases hl
    | some p =>
      obtain ⟨item, c'⟩ := p
      rw [hn] at hl
      simp only [Option.map_eq_some_iff] at hl
      obtain ⟨l', hl', rfl⟩ := hl
      obtain ⟨hitem, hcur'⟩ := hcur.next hn
      intro e he
      cases item with
      | none => exact ih c' l' hl' hcur' e (by simpa using he)
      | some x =>
        simp only [List.filterMap_cons, id, List.mem_cons] at he
        rcases he with rfl | he
        · exact hitem _ rfl
        · exact ih c' l' hl' hcur' e he

theorem repElems_zip : ∀ (vs : List Value) (ms : List SpanInfo), RepElems E vs ms →
    ∀ e ∈ (vs.zip ms).map (fun (v, m) => (⟨v, m⟩ : Datum)), E e.value e.info.span ∧ RepV E e.value e.info
  | vs, [], h => by
    rw [repElems_nil] at h
    subst h
    intro e he; simp at he
  | vs, m :: ms, h => by
    rw [repElems_cons] at h
    obtain ⟨v, vs', rfl, h1, h2⟩ := h
    intro e he
    simp only [List.zip_cons_cons, List.map_cons, List.mem_cons] at he
    rcases he with rfl | he
    · exact h1
    · exact repElems_zip vs' ms h2 e he

/-- **C11_reparse_vector_iter**: the same for `Datum::vector_iter`. -/
theorem C11_reparse_vector_iter (E : Value → Span → Prop) (d : Datum) (h : RepV E d.value d.info)
    (l : List Datum) (hv : d.vectorIter = some l) :
    ∀ e ∈ l, E e.value e.info.span ∧ RepV E e.value e.info := by
  rcases d with ⟨v, i⟩
  cases v <;> cases i <;> simp [Datum.vectorIter] at hv
  subst hv
  simp only at h
  rw [repV_vec] at h
  obtain ⟨vs, hvs, h⟩ := h
  cases hvs
  exact repElems_zip _ _ h

/-! ### examples (non-vacuity) -/

/-- a multi-line input with nested lists, a vector, a string that contains `)`, a quote
    shorthand, a symbol that starts with a dot, and a dotted tail -/
def exInput : List UInt8 := asc "(a (b \"x)y\")\n  #(1 (2)) 'q .d . c)"

/-- the hypotheses of `C11_reparse` hold for it: the parser returns a datum … -/
example : ∃ d s', nextDatum Progress.exCfg 80 (initSt .slice exInput) = .ok (some d) s' :=
  okSome_elim (by decide +kernel)

/-- … whose elements are the six of the outer list: `a`, `(b "x)y")`, `#(1 (2))` on the second
    line, `'q`, `.d` and the dotted tail `c` -/
example : topCarSpans (nextDatum Progress.exCfg 80 (initSt .slice exInput)) =
    [⟨⟨1, 1⟩, ⟨1, 2⟩⟩, ⟨⟨1, 3⟩, ⟨1, 12⟩⟩, ⟨⟨2, 2⟩, ⟨2, 10⟩⟩, ⟨⟨2, 11⟩, ⟨2, 13⟩⟩, ⟨⟨2, 14⟩, ⟨2, 16⟩⟩,
      ⟨⟨2, 19⟩, ⟨2, 20⟩⟩] := by decide +kernel

/-- … so the theorem applies: the whole datum and every reachable element re-parse -/
example (d : Datum) (s' : St)
    (h : nextDatum Progress.exCfg 80 (initSt .slice exInput) = .ok (some d) s') :
    ReparsesTo Progress.exCfg .slice exInput d.value d.info.span ∧
      RepV (ElemOK Progress.exCfg .slice exInput) d.value d.info :=
  C11_reparse _ _ _ _ _ exInput h (at_initSt _ _ _) (by decide)

/-- the text of the second element, which contains a `)` inside a string, on its own -/
example : okAny (fromTrait Progress.exCfg (initSt .slice (asc "(b \"x)y\")"))) = true := by
  decide +kernel

/-- the hypothesis on the depth budget cannot be dropped: a parser state with a budget of 130
    (no fresh parser has one) accepts 128 nested lists, which a fresh parser rejects -/
example : okSome (nextDatum Progress.exCfg 600
      { rd := { mode := .slice, rest := List.replicate 128 40 ++ List.replicate 128 41 },
        depth := 130 }) = true ∧
    okAny (fromTrait Progress.exCfg
      (initSt .slice (List.replicate 128 40 ++ List.replicate 128 41))) = false := by
  decide +kernel

/-- what is left unread after a run, for the examples -/
def restAfter {α : Type} : Res α → Option (List UInt8)
  | .ok _ s => some s.rd.rest
  | _ => none

/-- `C11_trunc` on a concrete run: `(a b)` read from `(a b) c` at line 3, with depth budget 5,
    against a fresh parser over `(a b)` alone -/
example : restAfter (nextValue Progress.exCfg 20
    { rd := { mode := .slice, rest := asc "(a b) c", line := 3, col := 7 }, depth := 5 }) =
    some (asc " c") := by decide +kernel

example (v : Option Value) (S' : St)
    (h : nextValue Progress.exCfg 20
      { rd := { mode := .slice, rest := asc "(a b) c", line := 3, col := 7 }, depth := 5 } = .ok v S')
    (hS' : S'.rd.rest = asc " c") :
    nextValue Progress.exCfg 14 (initSt .slice (asc "(a b)")) = .fuel ∨
      ∃ s', nextValue Progress.exCfg 14 (initSt .slice (asc "(a b)")) = .ok v s' ∧ s'.rd.rest = [] ∧
        s'.rd.mode = .slice ∧ s'.rd.faulty = false ∧ S'.depth ≤ s'.depth :=
  C11_trunc _ 20 14 _ S' (initSt .slice (asc "(a b)")) v (asc "(a b)") (asc " c") h rfl hS' rfl rfl rfl
    (by decide)

/-- `C11_depth_mono` on the same run: same unread input, other position, larger depth budget -/
example (v : Option Value) (S' : St)
    (h : nextValue Progress.exCfg 20
      { rd := { mode := .slice, rest := asc "(a b) c", line := 3, col := 7 }, depth := 5 } = .ok v S') :
    nextValue Progress.exCfg 30 (initSt .slice (asc "(a b) c")) = .fuel ∨
      ∃ s', nextValue Progress.exCfg 30 (initSt .slice (asc "(a b) c")) = .ok v s' ∧
        s'.rd.rest = S'.rd.rest :=
  C11_depth_mono _ 20 30 _ S' (initSt .slice (asc "(a b) c")) v h rfl rfl rfl (by decide)

end Reparse
end Parse
end Lexpr

#print axioms Lexpr.Parse.Reparse.C11_trunc
#print axioms Lexpr.Parse.Reparse.C11_trunc_fuel
#print axioms Lexpr.Parse.Reparse.C11_depth_mono
#print axioms Lexpr.Parse.Reparse.nextValue_t
#print axioms Lexpr.Parse.Reparse.reparsesTo_datum
#print axioms Lexpr.Parse.Reparse.C11_reparse
#print axioms Lexpr.Parse.Reparse.ReparsesTo.forall
#print axioms Lexpr.Parse.Reparse.C11_reparse_list_iter
#print axioms Lexpr.Parse.Reparse.C11_reparse_vector_iter
