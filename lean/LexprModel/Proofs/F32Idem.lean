/-
  `f64 as f32` (the model's `roundToF32`) is idempotent.
-/
import LexprModel.Serde
import LexprModel.Proofs.Numbers
namespace Lexpr
namespace Serde
open F64 Numbers

theorem decode_bits (E : Int) (M sign : Nat) (hE1 : -1022 ≤ E) (hE2 : E ≤ 1022)
    (hM1 : 2 ^ 52 ≤ M) (hM2 : M < 2 ^ 53) (hs : sign = 0 ∨ sign = signBit) :
    decode (sign + ((E + 1022).toNat * two52 + M)) = (M, E - 52) ∧
    isNaN (sign + ((E + 1022).toNat * two52 + M)) = false ∧
    isInf (sign + ((E + 1022).toNat * two52 + M)) = false ∧
    (if sign + ((E + 1022).toNat * two52 + M) ≥ signBit then signBit else 0) = sign := by
  obtain ⟨K, hK⟩ : ∃ K : Nat, (E + 1022).toNat = K := ⟨_, rfl⟩
  have hK2 : K ≤ 2044 := by omega
  have hKE : E = (K : Int) - 1022 := by omega
  rw [hK]
  have hmod : (sign + (K * two52 + M)) % signBit = K * two52 + M := by
    rcases hs with rfl | rfl <;> simp only [two52, signBit] at * <;> omega
  have hlt : K * two52 + M < infBits := by simp only [two52, infBits]; omega
  have hlt2 : infBits < signBit := by decide
  refine ⟨?_, ?_, ?_, ?_⟩
  · rw [decode_mod, hmod, Numbers.decode_bits (by omega) (by simp only [two52] at *; omega)
      (Or.inr (by simp only [two52] at *; omega))]
    simp only [Prod.mk.injEq, true_and]
    omega
  · unfold isNaN; rw [hmod]; exact decide_eq_false (by omega)
  · unfold isInf; rw [hmod]; simp only [beq_eq_false_iff_ne, ne_eq]; omega
  · rcases hs with rfl | rfl
    · rw [if_neg (by omega)]
    · rw [if_pos (by omega)]

theorem roundToF32_nan {b : Nat} (h : isNaN b = true) : roundToF32 b = b := by
  unfold roundToF32; simp [h]

theorem roundToF32_inf {b : Nat} (h : isInf b = true) : roundToF32 b = b := by
  unfold roundToF32; simp [h]

theorem roundToF32_zero {b : Nat} {p : Int} (h : decode b = (0, p)) : roundToF32 b = b := by
  unfold roundToF32; simp [h]

/-! ### the finite, non-zero branch of `roundToF32` -/

def nOf (m : Nat) (p : Int) : Nat := if p ≥ 0 then m * 2 ^ p.toNat else m
def dOf (p : Int) : Nat := if p ≥ 0 then 1 else 2 ^ (-p).toNat
def qOf (m : Nat) (p : Int) : Int :=
  (if (m.log2 : Int) + p < -126 then -126 else (m.log2 : Int) + p) - 23
def coreR (n d : Nat) (q : Int) : Nat :=
  if q ≥ 0 then rne n (d * 2 ^ q.toNat) else rne (n * 2 ^ (-q).toNat) d
def coreOut (sign r : Nat) (q : Int) : Nat :=
  if (if q ≥ 0 then r * 2 ^ q.toNat ≥ 2 ^ 128 else false) then sign + infBits else sign + rnScaled r q

theorem nOf_dOf (m : Nat) (p : Int) : nOf m p = m * 2 ^ p.toNat ∧ dOf p = 2 ^ (-p).toNat := by
  unfold nOf dOf
  by_cases hp : p ≥ 0
  · rw [if_pos hp, if_pos hp, show (-p).toNat = 0 by omega, Nat.pow_zero]; exact ⟨rfl, rfl⟩
  · rw [if_neg hp, if_neg hp, show p.toNat = 0 by omega, Nat.pow_zero, Nat.mul_one]; exact ⟨rfl, rfl⟩

theorem ilog2_scaled (m : Nat) (p : Int) (hm : m ≠ 0) : ilog2 (nOf m p) (dOf p) = (m.log2 : Int) + p := by
  rw [(nOf_dOf m p).1, (nOf_dOf m p).2]
  exact ilog2_eq (Nat.mul_pos (Nat.pos_of_ne_zero hm) (Nat.two_pow_pos _)) (Nat.two_pow_pos _)
    (bracket_scaled hm p)

theorem roundToF32_finite (b m : Nat) (p : Int) (h1 : isNaN b = false) (h2 : isInf b = false)
    (hdec : decode b = (m, p)) (hm : m ≠ 0) :
    roundToF32 b = coreOut (if b ≥ signBit then signBit else 0)
      (coreR (nOf m p) (dOf p) (qOf m p)) (qOf m p) := by
  have hl := ilog2_scaled m p hm
  unfold roundToF32
  simp only [h1, h2, hdec, hm, if_false, Bool.false_eq_true]
  unfold coreOut coreR qOf
  unfold nOf dOf at hl ⊢
  by_cases hp : p ≥ 0
  · simp only [hp, if_true] at hl ⊢
    simp only [hl, Bool.false_eq_true]
  · simp only [hp, if_false] at hl ⊢
    simp only [hl, Bool.false_eq_true]

theorem scaled_le (m a b : Nat) (h : m.log2 + 1 + a ≤ 24 + b) : m * 2 ^ a ≤ 2 ^ 24 * 2 ^ b := by
  calc m * 2 ^ a ≤ 2 ^ (m.log2 + 1) * 2 ^ a := Nat.mul_le_mul_right _ (Nat.le_of_lt Nat.lt_log2_self)
    _ = 2 ^ (m.log2 + 1 + a) := (Nat.pow_add 2 (m.log2 + 1) a).symm
    _ ≤ 2 ^ (24 + b) := Nat.pow_le_pow_right (by omega) h
    _ = 2 ^ 24 * 2 ^ b := by rw [Nat.pow_add]

theorem decode_snd_ge {b m : Nat} {p : Int} (h : decode b = (m, p)) : -1074 ≤ p := by
  rw [← show (decode b).2 = p from congrArg Prod.snd h]
  unfold decode
  simp only []
  generalize (b % signBit) / two52 = k
  split
  · simp
  · simp only []; omega

theorem coreR_eq (n d : Nat) (q : Int) :
    coreR n d q = rne (n * 2 ^ (-q).toNat) (d * 2 ^ q.toNat) := by
  unfold coreR
  by_cases hq : q ≥ 0
  · rw [if_pos hq, show (-q).toNat = 0 by omega, Nat.pow_zero, Nat.mul_one]
  · rw [if_neg hq, show q.toNat = 0 by omega, Nat.pow_zero, Nat.mul_one]

/-- The binary32 mantissa rounding of `roundToF32`, on the magnitude scaled by `2^1074` (every
    finite double is a natural multiple of `2^-1074`): no case split on the signs of `p`, `q`. -/
theorem coreR_common (m : Nat) (p q : Int) (hp : -1074 ≤ p) (hq : -1074 ≤ q) :
    coreR (nOf m p) (dOf p) q = rne (m * 2 ^ (p + 1074).toNat) (2 ^ (q + 1074).toNat) := by
  rw [coreR_eq, (nOf_dOf m p).1, (nOf_dOf m p).2]
  apply rne_cross (Nat.mul_pos (Nat.two_pow_pos _) (Nat.two_pow_pos _)) (Nat.two_pow_pos _)
  have key : p.toNat + (-q).toNat + (q + 1074).toNat = (p + 1074).toNat + ((-p).toNat + q.toNat) := by
    have h1 := Int.toNat_sub_toNat_neg p
    have h2 := Int.toNat_sub_toNat_neg q
    have h3 := Int.toNat_of_nonneg (show 0 ≤ p + 1074 by omega)
    have h4 := Int.toNat_of_nonneg (show 0 ≤ q + 1074 by omega)
    generalize p.toNat = A at *
    generalize (-p).toNat = A' at *
    generalize q.toNat = B at *
    generalize (-q).toNat = B' at *
    generalize (p + 1074).toNat = C at *
    generalize (q + 1074).toNat = D at *
    omega
  rw [Nat.mul_assoc, Nat.mul_assoc, Nat.mul_assoc, ← Nat.pow_add, ← Nat.pow_add, ← Nat.pow_add,
    ← Nat.pow_add, ← Nat.add_assoc, key]

/-- the first rounding produces at most 24 bits -/
theorem coreR_le (m : Nat) (p : Int) (hp : -1074 ≤ p) :
    coreR (nOf m p) (dOf p) (qOf m p) ≤ 2 ^ 24 ∧ -149 ≤ qOf m p := by
  have hq : (m.log2 : Int) + p - 23 ≤ qOf m p ∧ -149 ≤ qOf m p := by unfold qOf; split <;> omega
  refine ⟨?_, hq.2⟩
  generalize qOf m p = q at hq
  rw [coreR_common m p q hp (by omega)]
  apply rne_le (Nat.two_pow_pos _)
  apply scaled_le
  have h3 := Int.toNat_of_nonneg (show 0 ≤ p + 1074 by omega)
  have h4 := Int.toNat_of_nonneg (show 0 ≤ q + 1074 by omega)
  generalize (p + 1074).toNat = C at *
  generalize (q + 1074).toNat = D at *
  omega

theorem rnScaled_zero (q : Int) : rnScaled 0 q = 0 := by
  unfold rnScaled; split <;> simp [rn]

/-- the second rounding is exact -/
theorem coreR_exact (r : Nat) (q : Int) (hL : r.log2 ≤ 23) (hq : -149 ≤ q) :
    let M := r * 2 ^ (52 - r.log2)
    let P : Int := (r.log2 : Int) + q - 52
    let q2 : Int := (if (r.log2 : Int) + q < -126 then -126 else (r.log2 : Int) + q) - 23
    q2 ≤ q ∧ coreR (nOf M P) (dOf P) q2 = r * 2 ^ (q - q2).toNat := by
  intro M P q2
  have hq2 : q2 ≤ q ∧ ((r.log2 : Int) + q - 23 ≤ q2) := by
    show (if (r.log2 : Int) + q < -126 then -126 else (r.log2 : Int) + q) - 23 ≤ q ∧ _
    split <;> omega
  refine ⟨hq2.1, ?_⟩
  generalize q2 = q2 at hq2
  rw [coreR_common M P q2 (by omega) (by omega)]
  have key : (52 - r.log2) + (P + 1074).toNat = (q - q2).toNat + (q2 + 1074).toNat := by
    have h1 := Int.toNat_of_nonneg (show 0 ≤ P + 1074 by omega)
    have h2 := Int.toNat_of_nonneg (show 0 ≤ q - q2 by omega)
    have h3 := Int.toNat_of_nonneg (show 0 ≤ q2 + 1074 by omega)
    generalize (P + 1074).toNat = A at *
    generalize (q - q2).toNat = B at *
    generalize (q2 + 1074).toNat = C at *
    omega
  have : M * 2 ^ (P + 1074).toNat = r * 2 ^ (q - q2).toNat * 2 ^ (q2 + 1074).toNat := by
    show r * 2 ^ (52 - r.log2) * 2 ^ (P + 1074).toNat = _
    rw [Nat.mul_assoc, Nat.mul_assoc, ← Nat.pow_add, ← Nat.pow_add, key]
  rw [this]
  exact rne_exact _ _ (Nat.two_pow_pos _)

/-- `rnScaled` depends only on the value `m * 2^p` -/
theorem rnScaled_shift (r k : Nat) (q : Int) : rnScaled (r * 2 ^ k) q = rnScaled r (q + k) := by
  unfold rnScaled
  by_cases hq : q ≥ 0
  · have hq' : q + (k : Int) ≥ 0 := by omega
    simp only [hq, hq', if_true]
    congr 1
    rw [Nat.mul_assoc, ← Nat.pow_add]; congr 2; omega
  · simp only [hq, if_false]
    by_cases hq' : q + (k : Int) ≥ 0
    · simp only [hq', if_true]
      apply rn_quotient (Nat.two_pow_pos _) (by omega)
      rw [Nat.mul_one, Nat.mul_assoc, ← Nat.pow_add]; congr 2; omega
    · simp only [hq', if_false]
      apply rn_quotient (Nat.two_pow_pos _) (Nat.two_pow_pos _)
      rw [Nat.mul_assoc, ← Nat.pow_add]; congr 2; omega

theorem log2_le_23 {r : Nat} (hr : r ≠ 0) (hr24 : r < 2 ^ 24) : r.log2 ≤ 23 :=
  Nat.le_of_lt_succ ((Nat.log2_lt hr).mpr hr24)

/-- the binary exponent of a binary32 value `r·2^q < 2^128` -/
theorem log2_add_le {r : Nat} {q : Int} (hr : r ≠ 0) (hov : q ≥ 0 → r * 2 ^ q.toNat < 2 ^ 128) :
    q ≥ 0 → (r.log2 : Int) + q ≤ 127 := by
  intro hq0
  have h1 : 2 ^ (r.log2 + q.toNat) < 2 ^ 128 :=
    calc 2 ^ (r.log2 + q.toNat) = 2 ^ r.log2 * 2 ^ q.toNat := Nat.pow_add _ _ _
      _ ≤ r * 2 ^ q.toNat := Nat.mul_le_mul_right _ (Nat.log2_self_le hr)
      _ < 2 ^ 128 := hov hq0
  have := (Nat.pow_lt_pow_iff_right (by omega : 1 < 2)).mp h1
  omega

/-- a non-zero binary32 value `± r·2^q`, as a double: mantissa and exponent, flags, sign -/
theorem f32_decode (sign r : Nat) (q : Int) (hs : sign = 0 ∨ sign = signBit) (hr : r ≠ 0)
    (hr24 : r < 2 ^ 24) (hq : -149 ≤ q) (hov : q ≥ 0 → r * 2 ^ q.toNat < 2 ^ 128) :
    decode (sign + rnScaled r q) = (r * 2 ^ (52 - r.log2), (r.log2 : Int) + q - 52) ∧
    isNaN (sign + rnScaled r q) = false ∧ isInf (sign + rnScaled r q) = false ∧
    (if sign + rnScaled r q ≥ signBit then signBit else 0) = sign := by
  have hL := log2_le_23 hr hr24
  have hE : (r.log2 : Int) + q ≤ 127 := by
    by_cases hq0 : q ≥ 0
    · exact log2_add_le hr hov hq0
    · omega
  obtain ⟨hM1, hM2⟩ := mant_bounds r hr (by omega)
  rw [rnScaled_exact r q hr (by omega) (by omega) (by omega)]
  exact decode_bits ((r.log2 : Int) + q) _ sign (by omega) (by omega) hM1 hM2 hs

/-- a binary32 value `r·2^(q+k)` written with the smaller last place `2^q` -/
theorem coreOut_shift (sign r k : Nat) (q : Int)
    (hov : q + k ≥ 0 → r * 2 ^ (q + k).toNat < 2 ^ 128) :
    coreOut sign (r * 2 ^ k) q = sign + rnScaled r (q + k) := by
  unfold coreOut
  have hnov : ¬ (if q ≥ 0 then r * 2 ^ k * 2 ^ q.toNat ≥ 2 ^ 128 else false = true) := by
    by_cases hq0 : q ≥ 0
    · have := hov (by omega)
      rw [Int.toNat_add hq0 (Int.natCast_nonneg k), Int.toNat_natCast, Nat.add_comm, Nat.pow_add,
        ← Nat.mul_assoc] at this
      rw [if_pos hq0]; omega
    · simp [hq0]
  rw [if_neg hnov, rnScaled_shift]

/-- a representable binary32 value, encoded as a double, is a fixed point -/
theorem fixed_repr (sign r : Nat) (q : Int) (hs : sign = 0 ∨ sign = signBit) (hr : r ≠ 0)
    (hr24 : r < 2 ^ 24) (hq : -149 ≤ q) (hov : q ≥ 0 → r * 2 ^ q.toNat < 2 ^ 128) :
    roundToF32 (sign + rnScaled r q) = sign + rnScaled r q := by
  have hL := log2_le_23 hr hr24
  obtain ⟨hdec, hnan, hinf, hsign⟩ := f32_decode sign r q hs hr hr24 hq hov
  obtain ⟨hM1, hM2⟩ := mant_bounds r hr (by omega)
  have hM0 : r * 2 ^ (52 - r.log2) ≠ 0 := by have := Nat.two_pow_pos 52; omega
  have hlogM : (r * 2 ^ (52 - r.log2)).log2 = 52 := (Nat.log2_eq_iff hM0).mpr ⟨hM1, hM2⟩
  obtain ⟨hq2le, hex⟩ := coreR_exact r q hL hq
  have e : ((52 : Nat) : Int) + ((r.log2 : Int) + q - 52) = (r.log2 : Int) + q := by omega
  rw [roundToF32_finite _ _ _ hnan hinf hdec hM0, hsign, qOf, hlogM, e, hex]
  clear hdec hnan hinf hsign hex hlogM hM0 hM1 hM2 e
  generalize (if (r.log2 : Int) + q < -126 then -126 else (r.log2 : Int) + q) - 23 = q2 at *
  have e2 : q2 + ((q - q2).toNat : Int) = q := by rw [Int.toNat_of_nonneg (by omega)]; omega
  rw [coreOut_shift sign r _ q2 (by rw [e2]; exact hov), e2]

theorem fixed_zero_pos : roundToF32 0 = 0 := by decide +kernel
theorem fixed_zero_neg : roundToF32 signBit = signBit := by decide +kernel
theorem fixed_inf_pos : roundToF32 (0 + infBits) = 0 + infBits := by decide +kernel
theorem fixed_inf_neg : roundToF32 (signBit + infBits) = signBit + infBits := by decide +kernel

/-- the first rounding yields `r ≤ 2^24`; `2^24·2^q` is `2^23·2^(q+1)` -/
theorem norm24 {r : Nat} {q : Int} (hr0 : r ≠ 0) (hr : r ≤ 2 ^ 24) (hq : -149 ≤ q)
    (hov : q ≥ 0 → r * 2 ^ q.toNat < 2 ^ 128) :
    ∃ r' q', r' ≠ 0 ∧ r' < 2 ^ 24 ∧ -149 ≤ q' ∧ (q' ≥ 0 → r' * 2 ^ q'.toNat < 2 ^ 128) ∧
      rnScaled r q = rnScaled r' q' := by
  by_cases hr24 : r = 2 ^ 24
  · subst hr24
    have e : (2 : Nat) ^ 24 = 2 ^ 23 * 2 ^ 1 := by decide
    refine ⟨2 ^ 23, q + 1, by decide, by decide, by omega, fun _ => ?_,
      by rw [e]; exact rnScaled_shift (2 ^ 23) 1 q⟩
    by_cases hq0 : q ≥ 0
    · have := hov hq0
      rw [Int.toNat_add hq0 (by decide), Nat.pow_add, ← Nat.mul_assoc, Nat.mul_right_comm]
      exact this
    · rw [show (q + 1).toNat = 0 by omega]; decide
  · exact ⟨r, q, hr0, by omega, hq, hov, rfl⟩

theorem sign_cases (c : Prop) [Decidable c] :
    (if c then signBit else 0) = 0 ∨ (if c then signBit else 0) = signBit := by
  split <;> simp

theorem coreOut_zero (sign : Nat) (q : Int) : coreOut sign 0 q = sign := by
  unfold coreOut
  have : ¬ (if q ≥ 0 then 0 * 2 ^ q.toNat ≥ 2 ^ 128 else false = true) := by split <;> simp
  rw [if_neg this, rnScaled_zero, Nat.add_zero]

/-- what the finite, non-zero branch returns: an infinity, a zero, or `± r'·2^q'` in the form
    `fixed_repr` and `f32_decode` take -/
theorem coreOut_cases (sign : Nat) {r : Nat} {q : Int} (hr : r ≤ 2 ^ 24) (hq : -149 ≤ q) :
    coreOut sign r q = sign + infBits ∨ coreOut sign r q = sign ∨
    ∃ r' q', r' ≠ 0 ∧ r' < 2 ^ 24 ∧ -149 ≤ q' ∧ (q' ≥ 0 → r' * 2 ^ q'.toNat < 2 ^ 128) ∧
      coreOut sign r q = sign + rnScaled r' q' := by
  by_cases hr0 : r = 0
  · subst hr0
    exact .inr (.inl (coreOut_zero sign q))
  unfold coreOut
  by_cases hov : (if q ≥ 0 then r * 2 ^ q.toNat ≥ 2 ^ 128 else false = true)
  · exact .inl (if_pos hov)
  · rw [if_neg hov]
    have hov' : q ≥ 0 → r * 2 ^ q.toNat < 2 ^ 128 := by
      intro hq0; simp only [hq0, if_true] at hov; omega
    obtain ⟨r', q', h1, h2, h3, h4, h5⟩ := norm24 hr0 hr hq hov'
    exact .inr (.inr ⟨r', q', h1, h2, h3, h4, by rw [h5]⟩)

/-- `f64 as f32` is idempotent. -/
theorem roundToF32_idem (b : Nat) : roundToF32 (roundToF32 b) = roundToF32 b := by
  by_cases hnan : isNaN b = true
  · rw [roundToF32_nan hnan, roundToF32_nan hnan]
  by_cases hinf : isInf b = true
  · rw [roundToF32_inf hinf, roundToF32_inf hinf]
  cases hdec : decode b with
  | mk m p =>
  by_cases hm : m = 0
  · subst hm
    rw [roundToF32_zero hdec, roundToF32_zero hdec]
  rw [roundToF32_finite b m p (by simpa using hnan) (by simpa using hinf) hdec hm]
  have hs := sign_cases (b ≥ signBit)
  generalize (if b ≥ signBit then signBit else 0) = sign at hs
  obtain ⟨hr, hq⟩ := coreR_le m p (decode_snd_ge hdec)
  rcases coreOut_cases sign hr hq with h | h | ⟨r', q', h1, h2, h3, h4, h⟩
  · rw [h]
    rcases hs with rfl | rfl
    · exact fixed_inf_pos
    · exact fixed_inf_neg
  · rw [h]
    rcases hs with rfl | rfl
    · exact fixed_zero_pos
    · exact fixed_zero_neg
  · rw [h]
    exact fixed_repr sign r' q' hs h1 h2 h3 h4

end Serde
end Lexpr
