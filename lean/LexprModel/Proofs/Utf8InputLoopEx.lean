/-
  Utf8InputLoopEx — C17, Emacs Lisp strings: the witnesses, evaluated by the kernel.  The
  hypotheses of the theorems of `Utf8InputLoop` are met by concrete inputs, each of the
  exceptions they make is a behaviour of the model (and of the code), and the two arms of
  `parse_elisp_escape` that look for a continuation byte reject it.
-/
import LexprModel.Proofs.ImageExamples
import LexprModel.Proofs.Utf8InputLoop
namespace Lexpr
namespace Parse
open Utf8 Image

/-- a backslash in front of the last continuation byte of a sequence (`"` F3 9F BB `\` 96 `"`) -/
theorem ex_backslash_continuation_rejected :
    rejectsWith cfgEl [0x22, 0xF3, 0x9F, 0xBB, 0x5C, 0x96, 0x22] .invalidUnicodeCodePoint = true := by
  decide +kernel

/-- the recorded finding: a truncated sequence completed by a numeric escape is accepted -/
theorem numeric_escape_completes_sequence :
    Utf8.valid [0x22, 0xC3, 0x5C, 0x78, 0x61, 0x39, 0x22] = false ∧
    parsesTo cfgEl [0x22, 0xC3, 0x5C, 0x78, 0x61, 0x39, 0x22] (.string [0xC3, 0xA9]) = true ∧
    parsesTo cfgEl [0x22, 0xC3, 0xA9, 0x22] (.string [0xC3, 0xA9]) = true := by
  decide +kernel

namespace InLoop
open Utf8 Utf8.U8 Parse.U8 Image

/-- run the instrumented loop on a body (the text after the opening quote), slice source -/
def runBody (body : List UInt8) (p : ElispStr → Flags → List UInt8 → Bool) : Bool :=
  match parseElispStrT 100 [] false false false {} (initSt .slice body) with
  | .ok (r, fl) S' => p r fl S'.rd.rest
  | _ => false

theorem runBody_spec {body : List UInt8} {p : ElispStr → Flags → List UInt8 → Bool}
    (h : runBody body p = true) :
    ∃ r fl S', parseElispStrT 100 [] false false false {} (initSt .slice body) = .ok (r, fl) S' ∧
      p r fl S'.rd.rest = true := by
  unfold runBody at h
  split at h
  · rename_i r fl S' heq
    exact ⟨r, fl, S', heq, h⟩
  · cases h

/-- a multibyte result with the two flags down, everything consumed -/
def cleanString (out : List UInt8) : ElispStr → Flags → List UInt8 → Bool
  | .multibyte s, fl, rest => s == out && !fl.hi && !fl.bl && rest == []
  | _, _, _ => false

/-- a unibyte result with `nc` down, everything consumed -/
def cleanBytes (out : List UInt8) : ElispStr → Flags → List UInt8 → Bool
  | .unibyte b, fl, rest => b == out && !fl.nc && rest == []
  | _, _, _ => false

/-- the hypotheses of `C17_elisp_input_valid` hold of the body `λ\n\x41 z"` (raw two-byte
    sequence, a simple escape, a numeric escape below 0x80) … -/
theorem ex_clean_string :
    runBody [0xCE, 0xBB, 0x5C, 0x6E, 0x5C, 0x78, 0x34, 0x31, 0x20, 0x7A, 0x22]
      (cleanString [0xCE, 0xBB, 0x0A, 0x41, 0x20, 0x7A]) = true := by decide +kernel

/-- … and the theorem applies to it -/
example : Utf8.valid [0xCE, 0xBB, 0x5C, 0x6E, 0x5C, 0x78, 0x34, 0x31, 0x20, 0x7A, 0x22] = true := by
  obtain ⟨r, fl, S', h, hp⟩ := runBody_spec ex_clean_string
  cases r with
  | unibyte b => simp [cleanString] at hp
  | multibyte s =>
    simp only [cleanString, Bool.and_eq_true, Bool.not_eq_true', beq_iff_eq] at hp
    obtain ⟨⟨⟨_, hhi⟩, hbl⟩, hrest⟩ := hp
    exact C17_elisp_input_valid h valid_nil (by rw [hrest]; simp [initSt]) hhi hbl

/-- more shapes that meet the hypotheses: `\u`, `\N{U+…}`, `\^a`, an escaped blank at a complete
    buffer, the catch-all arm with a lead byte (`\é`), a numeric escape above 0xFF -/
theorem ex_clean_string2 :
    runBody ([0x5C, 0x75, 0x30, 0x30, 0x65, 0x39] ++ asc "\\N{U+3bb}" ++ asc "\\^a" ++
        [0xC3, 0xA9, 0x5C, 0x20, 0x5C, 0xC3, 0xA9] ++ asc "\\x3bb\\ " ++ asc "\"")
      (cleanString [0xC3, 0xA9, 0xCE, 0xBB, 0x00, 0xC3, 0xA9, 0xC3, 0xA9, 0xCE, 0xBB]) = true := by
  decide +kernel

/-- the hypotheses of `C17_elisp_input_valid_unibyte` hold of the body `a\xff\ \101"` -/
theorem ex_clean_bytes :
    runBody (asc "a\\xff\\ \\101\"") (cleanBytes [0x61, 0xFF, 0x41]) = true := by decide +kernel

example : Utf8.valid (asc "a\\xff\\ \\101\"") = true := by
  obtain ⟨r, fl, S', h, hp⟩ := runBody_spec ex_clean_bytes
  cases r with
  | multibyte s => simp [cleanBytes] at hp
  | unibyte b =>
    simp only [cleanBytes, Bool.and_eq_true, Bool.not_eq_true', beq_iff_eq] at hp
    obtain ⟨⟨_, hnc⟩, hrest⟩ := hp
    exact (C17_elisp_input_valid_unibyte h (by rw [hrest]; simp [initSt]) hnc).2

/-- the recorded finding, seen by the instrumented loop: the body C3 `\xa9"` is not valid
    UTF-8, is accepted as `é`, and raises `hi` only.  (Whole reader:
    `numeric_escape_completes_sequence`.) -/
theorem hi_is_needed :
    Utf8.valid [0xC3, 0x5C, 0x78, 0x61, 0x39, 0x22] = false ∧
    runBody [0xC3, 0x5C, 0x78, 0x61, 0x39, 0x22] (fun r fl rest =>
      cleanString [0xC3, 0xA9] r { fl with hi := false } rest && fl.hi) = true := by
  decide +kernel

/-- the escaped blank is ignored, so it could stand INSIDE a sequence; the reader rejects a
    continuation byte after an escaped blank (/repo c74523a): the instrumented loop fails on the
    body C3 `\ ` A9 `"`, which is not valid UTF-8, and the whole reader rejects
    `"` C3 `\ ` A9 `"` with `InvalidUnicodeCodePoint`. -/
theorem escaped_blank_inside_sequence_rejected :
    Utf8.valid [0xC3, 0x5C, 0x20, 0xA9, 0x22] = false ∧
    runBody [0xC3, 0x5C, 0x20, 0xA9, 0x22] (fun _ _ _ => true) = false ∧
    Utf8.valid [0x22, 0xC3, 0x5C, 0x20, 0xA9, 0x22] = false ∧
    rejectsWith cfgEl [0x22, 0xC3, 0x5C, 0x20, 0xA9, 0x22] .invalidUnicodeCodePoint = true := by
  decide +kernel

/-- `bl` can rise on a successful run with a STRING result — together with `hi`: the body
    C3 `\ \xa9"` (the blank is followed by a backslash, the numeric escape completes the
    sequence) is accepted as `é`.  So "`bl` is never set" is false; what holds is
    `C17_elisp_input_valid_noblank`. -/
theorem bl_still_set_string :
    runBody [0xC3, 0x5C, 0x20, 0x5C, 0x78, 0x61, 0x39, 0x22] (fun r fl rest =>
      cleanString [0xC3, 0xA9] r { fl with hi := false, bl := false } rest && fl.bl && fl.hi) = true := by
  decide +kernel

/-- `bl` is needed in `C17_elisp_input_sync` for a BYTE string: the body `\x41\` C3 `\ "`
    is accepted as the bytes 41 C3 with `hi` down and `bl` up; the body in front of the closing
    quote kills the automaton, the bytes returned leave it inside a sequence. -/
theorem bl_needed_for_sync :
    runBody [0x5C, 0x78, 0x34, 0x31, 0x5C, 0xC3, 0x5C, 0x20, 0x22] (fun r fl rest =>
      cleanBytes [0x41, 0xC3] r { fl with nc := false } rest && !fl.hi && fl.bl) = true ∧
    (Utf8.run .idle [0x5C, 0x78, 0x34, 0x31, 0x5C, 0xC3, 0x5C, 0x20]).isNone = true ∧
    (Utf8.run .idle [0x41, 0xC3]).isSome = true := by
  decide +kernel

/-- `C17_elisp_input_valid_noblank` applies to a body with an escaped blank behind a complete
    buffer; nothing is asked of `bl` -/
example : Utf8.valid [0xC3, 0xA9, 0x5C, 0x20, 0x7A, 0x22] = true := by
  have hrun : runBody [0xC3, 0xA9, 0x5C, 0x20, 0x7A, 0x22] (cleanString [0xC3, 0xA9, 0x7A]) = true := by
    decide +kernel
  obtain ⟨r, fl, S', h, hp⟩ := runBody_spec hrun
  cases r with
  | unibyte b => simp [cleanString] at hp
  | multibyte s =>
    simp only [cleanString, Bool.and_eq_true, Bool.not_eq_true', beq_iff_eq] at hp
    obtain ⟨⟨⟨_, hhi⟩, _⟩, hrest⟩ := hp
    exact C17_elisp_input_valid_noblank h valid_nil (by rw [hrest]; simp [initSt]) hhi

/-- the catch-all escape arm consumes a byte ≥ 0xC0 after the backslash
    without setting `seen_non_ascii`, so with a numeric escape elsewhere the result is a byte
    string, which is never validated.  The body `\` C3 `\x41"` is not valid UTF-8 and is accepted
    as the bytes C3 41, raising `nc` only.  Confirmed on the real code (c74523a), slice and
    reader: `Ok(Bytes([195, 65]))`. -/
theorem unibyte_catchall_raw_byte :
    Utf8.valid [0x5C, 0xC3, 0x5C, 0x78, 0x34, 0x31, 0x22] = false ∧
    runBody [0x5C, 0xC3, 0x5C, 0x78, 0x34, 0x31, 0x22] (fun r fl rest =>
      cleanBytes [0xC3, 0x41] r { fl with nc := false } rest && fl.nc && !fl.hi && !fl.bl) = true ∧
    parsesTo cfgEl [0x22, 0x5C, 0xC3, 0x5C, 0x78, 0x34, 0x31, 0x22] (.bytes [0xC3, 0x41]) = true := by
  decide +kernel

/-- the hypotheses of `C17_elisp_token_input_valid` are met by the token `"λ\n\x41 z"` under the
    Emacs Lisp options -/
example :
    (match parseToken cfgEl 100 34
        (initSt .slice [0x22, 0xCE, 0xBB, 0x5C, 0x6E, 0x5C, 0x78, 0x34, 0x31, 0x20, 0x7A, 0x22]) with
      | .ok (.string s) S' => s == [0xCE, 0xBB, 0x0A, 0x41, 0x20, 0x7A] && S'.rd.rest == []
      | _ => false) = true ∧ cfgEl.opts.string = .elisp :=
  ⟨by decide +kernel, rfl⟩

/-- a backslash followed by a continuation byte is an error -/
example : rejectsWith cfgEl [0x22, 0xC3, 0x5C, 0xA9, 0x22] .invalidUnicodeCodePoint = true := by
  decide +kernel

end InLoop
end Parse
end Lexpr
