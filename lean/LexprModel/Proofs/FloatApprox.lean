/-
  FloatApprox — round trip of floats that are not exactly readable (C01 / C13 / C12 / C04 "to the
  accuracy of C05").

  `Value.approxEq` relates values of the same shape whose float leaves are equal or `floatClose`
  (within `2^-50` relative, `2^-1073` absolute; `cRel`, `cAbs` of `FloatApproxNum`).
  `RyuSpecOnly` is what is asked of the formatter in place of the exactness window of
  `Decimals.FloatOK`; in the build with `fast-float-parsing` it includes that the decimal printed
  does not exceed `f64::MAX` (true of the shortest form of every finite double), because `RyuSpec`
  alone allows `1.7976931348623158e308` for `f64::MAX`, which the fast path rejects
  (`ryuSpecOnly_range_needed`).  `atomRT_float_approx`: the printed text is read back by
  `parse_token`, under every parser option set and in every follow context, as a float within
  `floatClose` of the one printed; `atomRT_float_approx_1em23` is the case `1e-23` of
  `Decimals.atomRT_float_window_needed`, read back one ulp up in the default build.
-/
import LexprModel.Proofs.FloatApproxNum
import LexprModel.Proofs.AccuracyEx
import LexprModel.Proofs.FullRT
namespace Lexpr

namespace FloatApprox
open Parse F64 Numbers Decimals Accuracy

/-- `a`, `b` bit patterns of finite doubles with the same sign whose magnitudes
    differ by at most `2^-50 * |a| + 2^-1073`. -/
def floatClose (a b : Nat) : Prop :=
  isFinite a = true ∧ isFinite b = true ∧ isNeg a = isNeg b ∧ b < 2 ^ 64 ∧
    closeMag (val a) (val b)

/-- the relation on float leaves: equal bits (any double, NaN and infinities included) or
    `floatClose` -/
def floatApprox (a b : Nat) : Prop := a = b ∨ floatClose a b

theorem floatApprox_refl (a : Nat) : floatApprox a a := Or.inl rfl

end FloatApprox

open FloatApprox in
mutual
/-- Same structure, identical leaves, except that float leaves are related by
    `floatApprox` (equal, or both finite and within `2^-50` relative + `2^-1073` absolute). -/
def Value.approxEq : Value → Value → Prop
  | .cons a d, w => ∃ a' d', w = .cons a' d' ∧ Value.approxEq a a' ∧ Value.approxEq d d'
  | .vector xs, w => ∃ ys, w = .vector ys ∧ Value.approxEqList xs ys
  | .number (.flt a), w => ∃ b, w = .number (.flt b) ∧ floatApprox a b
  | .number (.pos n), w => w = .number (.pos n)
  | .number (.neg i), w => w = .number (.neg i)
  | .nil, w => w = .nil
  | .null, w => w = .null
  | .bool b, w => w = .bool b
  | .char c, w => w = .char c
  | .string x, w => w = .string x
  | .symbol x, w => w = .symbol x
  | .keyword x, w => w = .keyword x
  | .bytes x, w => w = .bytes x
def Value.approxEqList : List Value → List Value → Prop
  | [], ys => ys = []
  | x :: xs, ys => ∃ y ys', ys = y :: ys' ∧ Value.approxEq x y ∧ Value.approxEqList xs ys'
end

namespace FloatApprox
open Parse F64 Numbers Decimals Accuracy

mutual
theorem approxEq_refl : ∀ v : Value, Value.approxEq v v
  | .cons a d => by
    simp only [Value.approxEq]; exact ⟨a, d, rfl, approxEq_refl a, approxEq_refl d⟩
  | .vector xs => by simp only [Value.approxEq]; exact ⟨xs, rfl, approxEqList_refl xs⟩
  | .number (.flt a) => by simp only [Value.approxEq]; exact ⟨a, rfl, Or.inl rfl⟩
  | .number (.pos n) => by simp only [Value.approxEq]
  | .number (.neg i) => by simp only [Value.approxEq]
  | .nil => by simp only [Value.approxEq]
  | .null => by simp only [Value.approxEq]
  | .bool _ => by simp only [Value.approxEq]
  | .char _ => by simp only [Value.approxEq]
  | .string _ => by simp only [Value.approxEq]
  | .symbol _ => by simp only [Value.approxEq]
  | .keyword _ => by simp only [Value.approxEq]
  | .bytes _ => by simp only [Value.approxEq]
theorem approxEqList_refl : ∀ xs : List Value, Value.approxEqList xs xs
  | [] => by simp only [Value.approxEqList]
  | x :: xs => by
    simp only [Value.approxEqList]; exact ⟨x, xs, rfl, approxEq_refl x, approxEqList_refl xs⟩
end

theorem approxEq_atom (v w : Value) (h1 : v.isCons = false) (h2 : v.isVector = false)
    (h3 : ∀ b, v ≠ .number (.flt b)) (h : Value.approxEq v w) : w = v := by
  cases v with
  | cons a d => simp [Value.isCons] at h1
  | vector xs => simp [Value.isVector] at h2
  | number n =>
    cases n with
    | flt b => exact absurd rfl (h3 b)
    | pos n => simpa only [Value.approxEq] using h
    | neg i => simpa only [Value.approxEq] using h
  | _ => simpa only [Value.approxEq] using h

theorem approxEqList_append {xs ys xs' ys' : List Value} (h1 : Value.approxEqList xs xs')
    (h2 : Value.approxEqList ys ys') : Value.approxEqList (xs ++ ys) (xs' ++ ys') := by
  induction xs generalizing xs' with
  | nil => simp only [Value.approxEqList] at h1; subst h1; simpa using h2
  | cons x xs ih =>
    simp only [Value.approxEqList] at h1
    obtain ⟨y, t, rfl, hxy, ht⟩ := h1
    simp only [List.cons_append, Value.approxEqList]
    exact ⟨y, t ++ ys', rfl, hxy, ih ht⟩

theorem approxEqList_length {xs ys : List Value} (h : Value.approxEqList xs ys) :
    xs.length = ys.length := by
  induction xs generalizing ys with
  | nil => simp only [Value.approxEqList] at h; subst h; rfl
  | cons x xs ih =>
    simp only [Value.approxEqList] at h
    obtain ⟨y, t, rfl, _, ht⟩ := h
    simp [ih ht]

theorem approxEqList_map {α : Type} (f g : α → Value) :
    ∀ xs : List α, (∀ x ∈ xs, Value.approxEq (f x) (g x)) →
      Value.approxEqList (xs.map f) (xs.map g)
  | [], _ => by simp only [List.map_nil, Value.approxEqList]
  | x :: xs, h => by
    simp only [List.map_cons, Value.approxEqList]
    exact ⟨_, _, rfl, h x (by simp), approxEqList_map f g xs fun y hy => h y (by simp [hy])⟩

/-- `b` is a finite double and ryu's text for it meets `RyuSpec` (the layout of
    a decimal `(m, e)`, 1–17 digits, whose correctly rounded value is `b`).  In the build with
    `fast-float-parsing`, additionally: the `POW10` table holds the correctly rounded powers of ten
    (true of the real table, `Accuracy.tab_rounded`) and the decimal does not exceed `f64::MAX`. -/
def RyuSpecOnly (cfg : Cfg) (ryu : Nat → List UInt8) (b : Nat) : Prop :=
  b < 2 ^ 64 ∧ isFinite b = true ∧ ∃ d : RyuDec, RyuSpec ryu b d ∧
    (cfg.fast = true → (∀ k, k ≤ 308 → cfg.pow10 k = rn (10 ^ k) 1) ∧ InRange d.m d.e)

theorem ryuSpecOnly_of_floatOK (cfg : Cfg) (ryu : Nat → List UInt8) (b : Nat)
    (h : FloatOK cfg ryu b) (hfin : isFinite b = true)
    (hp : cfg.fast = true → ∀ k, k ≤ 308 → cfg.pow10 k = rn (10 ^ k) 1)
    (hr : cfg.fast = true → ∀ d, RyuSpec ryu b d → InRange d.m d.e) : RyuSpecOnly cfg ryu b := by
  obtain ⟨hb, d, hspec, _⟩ := h
  exact ⟨hb, hfin, d, hspec, fun hf => ⟨hp hf, hr hf d hspec⟩⟩

theorem ryuSpecOnly_congr {cfg : Cfg} {ryu ryu' : Nat → List UInt8} {b : Nat}
    (e : ryu' b = ryu b) (h : RyuSpecOnly cfg ryu b) : RyuSpecOnly cfg ryu' b :=
  let ⟨hb, hfin, d, ⟨hwf, htext, hsign, hround⟩, hfast⟩ := h
  ⟨hb, hfin, d, ⟨hwf, e.trans htext, hsign, hround⟩, hfast⟩

theorem inRange_SE (d : RyuDec) (h : d.WF) (hr : InRange d.m d.e) : InRange d.S d.E := by
  obtain ⟨neg, m, e, layout⟩ := d
  obtain ⟨_, _, hl⟩ := h
  cases layout with
  | intDot0 =>
    have he : 0 ≤ e := hl.1
    unfold InRange at hr ⊢
    simp only [RyuDec.S, RyuDec.E] at hr ⊢
    have h0 : (-e).toNat = 0 := by omega
    rw [h0] at hr
    simpa using hr
  | mid => exact hr
  | small => exact hr
  | sci => exact hr
  | sci1 => exact hr

theorem val_mod (b : Nat) : val (b % signBit) = val b := by
  unfold val decode
  rw [Nat.mod_mod]

theorem finite_mod {b : Nat} (h : isFinite b = true) : b % signBit < infBits := by
  unfold isFinite at h; simpa using h

theorem decode_add_sign (g : Nat) : decode (g + signBit) = decode g := by
  unfold decode
  simp only [Nat.add_mod_right]

theorem val_add_sign (g : Nat) : val (g + signBit) = val g := by
  unfold val; rw [decode_add_sign]

theorem signed_props (pos : Bool) {g : Nat} (hg : g < infBits) :
    isNeg (signed pos g) = !pos ∧ signed pos g < 2 ^ 64 ∧ val (signed pos g) = val g := by
  cases pos
  · have h1 : ¬ (g ≥ signBit) := by simp only [infBits, signBit] at *; omega
    have e : signed false g = g + signBit := by
      unfold signed F64.neg; simp only [Bool.false_eq_true, if_false, h1]
    rw [e]
    refine ⟨?_, by simp only [infBits, signBit] at *; omega, val_add_sign g⟩
    unfold isNeg; simp
  · have e : signed true g = g := by unfold signed; simp
    rw [e]
    refine ⟨?_, by simp only [infBits] at *; omega, rfl⟩
    unfold isNeg; simp only [infBits, signBit] at *; simp; omega

/-- For a finite double `b` with `RyuSpecOnly` there is a double `b'`
    with `floatClose b b'` (and `b' = b` in the build without `fast-float-parsing`) such that,
    under every parser option set, in every follow context, from every source mode and state,
    `parse_token` consumes exactly the text ryu wrote and returns `Float(b')` — never an error,
    an integer or a symbol.  (`b'` does not depend on the context.) -/
theorem atomRT_float_approx (cfg : Cfg) (ryu : Nat → List UInt8) (b : Nat)
    (h : RyuSpecOnly cfg ryu b) :
    ∃ b', floatClose b b' ∧ (cfg.fast = false → b' = b) ∧
      ∀ (fuel : Nat) (s : St) (rest : List UInt8) (pk : UInt8),
        s.rd.rest = ryu b ++ rest → (ryu b).head? = some pk → (ryu b).length + 1 ≤ fuel →
        Follow rest → (rest = [] → s.rd.faulty = false) →
        parseToken cfg fuel pk s =
          .ok (.number (.flt b')) (adv s (ryu b).length (endPeek s rest)) := by
  obtain ⟨hb, hfinb, d, ⟨hwf, htext, hsign, hround⟩, hfastc⟩ := h
  have hS17 := d.S_lt hwf
  have hrn : decRn d.S d.E = b % signBit := by rw [d.decRn_SE hwf, hround]
  have hBfin := finite_mod hfinb
  obtain ⟨g, hok, hgfin, hclose, hslow⟩ :=
    parts_close cfg (!d.neg) d.S d.E (b % signBit) hS17 hrn hBfin
      (fun hfast => (hfastc hfast).1) (fun hfast => inRange_SE d hwf (hfastc hfast).2)
  obtain ⟨sp1, sp2, sp3⟩ := signed_props (!d.neg) hgfin
  have hcl : floatClose b (signed (!d.neg) g) := by
    refine ⟨hfinb, (signed_finite (!d.neg) hgfin).1, ?_, sp2, ?_⟩
    · rw [sp1, Bool.not_not, hsign]
    · rw [sp3, ← val_mod b]; exact hclose
  refine ⟨signed (!d.neg) g, hcl, fun hfast => ?_, ?_⟩
  · rw [hslow hfast, hsign, signed_bits hb]
  · intro fuel s rest pk hrest hpk hfuel hF hf
    exact atomRT_float_parts cfg ryu fuel s rest b _ d pk hwf htext hok hrest hpk hfuel hF hf

/-- the first byte of what ryu writes: a digit or `-` -/
theorem float_head (cfg : Cfg) (ryu : Nat → List UInt8) (b : Nat) (h : RyuSpecOnly cfg ryu b) :
    ListRT.ElemHead (ryu b) :=
  let ⟨_, _, _, hspec, _⟩ := h; FullRT.ryuSpec_head hspec

theorem ryuSpecOnly_ascii (cfg : Cfg) (ryu : Nat → List UInt8) (b : Nat)
    (h : RyuSpecOnly cfg ryu b) : ∀ x ∈ ryu b, x < 0x80 :=
  let ⟨_, _, _, hspec, _⟩ := h; FullRT.ryuSpec_ascii hspec

/-- a stand-in for ryu on four doubles outside the exactness window of the default build:
    `1e-23`, `2.5`, `f64::MAX`, `-1.2345678901234568e17` -/
def ryuAx (b : Nat) : List UInt8 :=
  if b = 0x3B282DB34012B251 then asc "1e-23"
  else if b = 0x4004000000000000 then asc "2.5"
  else if b = 0x7FEFFFFFFFFFFFFF then asc "1.7976931348623157e308"
  else if b = 0xC37B69B4BA630F35 then asc "-1.2345678901234568e17"
  else []

/-- the real table is correctly rounded -/
theorem exTab : exCfgFast.fast = true → ∀ k, k ≤ 308 → exCfgFast.pow10 k = rn (10 ^ k) 1 :=
  fun _ => tab_rounded

set_option exponentiation.threshold 2048 in
theorem ryuAx_1em23 : RyuSpecOnly exCfgFast ryuAx 0x3B282DB34012B251 :=
  ⟨by decide, by decide, ⟨false, 1, -23, .sci1⟩,
    ⟨by decide, by decide +kernel, by decide, fast_1em23.2⟩, fun h => ⟨exTab h, by decide +kernel⟩⟩

theorem ryuAx_25 : RyuSpecOnly exCfgFast ryuAx 0x4004000000000000 :=
  ⟨by decide, by decide, ⟨false, 25, -1, .mid⟩,
    ⟨by decide, by decide +kernel, by decide, by decide +kernel⟩, fun h => ⟨exTab h, by decide +kernel⟩⟩

set_option exponentiation.threshold 2048 in
theorem ryuAx_max : RyuSpecOnly exCfgFast ryuAx 0x7FEFFFFFFFFFFFFF :=
  ⟨by decide, by decide, ⟨false, 17976931348623157, 292, .sci⟩,
    ⟨by decide, by decide +kernel, by decide, fast_total_needed.2.2.2.2⟩,
    fun h => ⟨exTab h, fast_total_needed.2.2.2.1⟩⟩

theorem ryuAx_17 : RyuSpecOnly exCfgFast ryuAx 0xC37B69B4BA630F35 :=
  ⟨by decide, by decide, ⟨true, 12345678901234568, 1, .sci⟩,
    ⟨by decide, by decide +kernel, by decide, by decide +kernel⟩, fun h => ⟨exTab h, by decide +kernel⟩⟩

/-- non-vacuity: `f64::MAX` followed by `)`, default build -/
example : ∃ b', floatClose 0x7FEFFFFFFFFFFFFF b' ∧
    parseToken exCfgFast 30 49 (exSt (asc "1.7976931348623157e308)")) =
      .ok (.number (.flt b')) (adv (exSt (asc "1.7976931348623157e308)")) 22
        (endPeek (exSt (asc "1.7976931348623157e308)")) (asc ")"))) := by
  obtain ⟨b', h1, _, h3⟩ := atomRT_float_approx exCfgFast ryuAx 0x7FEFFFFFFFFFFFFF ryuAx_max
  -- what is needed of the text, evaluated once by the kernel (the unifier is much slower at it)
  have ht : (ryuAx 0x7FEFFFFFFFFFFFFF).head? = some 49 ∧ (ryuAx 0x7FEFFFFFFFFFFFFF).length = 22 ∧
      asc "1.7976931348623157e308)" = ryuAx 0x7FEFFFFFFFFFFFFF ++ asc ")" := by decide +kernel
  have := h3 30 (exSt (asc "1.7976931348623157e308)")) (asc ")") 49 ht.2.2 ht.1
    (by rw [ht.2.1]; decide) (Follow.cons (by decide)) (fun _ => rfl)
  rw [ht.2.1] at this
  exact ⟨b', h1, this⟩

/-- The double of `Decimals.atomRT_float_window_needed`: in the
    default build `1e-23` is read back as the next double up.  `atomRT_float_approx` covers it:
    the double read is `0x3B282DB34012B252`, it is `floatClose` to the original, and it is not
    equal to it. -/
theorem atomRT_float_approx_1em23 (rest : List UInt8) (hF : Follow rest) :
    parseToken exCfgFast (rest.length + 7) 49 (exSt (ryuAx 0x3B282DB34012B251 ++ rest)) =
      .ok (.number (.flt 0x3B282DB34012B252))
        (adv (exSt (ryuAx 0x3B282DB34012B251 ++ rest)) 5
          (endPeek (exSt (ryuAx 0x3B282DB34012B251 ++ rest)) rest)) ∧
    floatClose 0x3B282DB34012B251 0x3B282DB34012B252 ∧
    (0x3B282DB34012B251 : Nat) ≠ 0x3B282DB34012B252 := by
  have hspec : RyuSpec ryuAx 0x3B282DB34012B251 ⟨false, 1, -23, .sci1⟩ :=
    ⟨by decide, by decide +kernel, by decide, fast_1em23.2⟩
  have hw := (atomRT_float_window_needed ryuAx hspec rest hF).2
  obtain ⟨b', h2, _, h3⟩ := atomRT_float_approx exCfgFast ryuAx 0x3B282DB34012B251 ryuAx_1em23
  have h1 := h3 (rest.length + 7) (exSt (ryuAx 0x3B282DB34012B251 ++ rest)) rest 49 rfl rfl
    (by simp [ryuAx, asc]) hF (fun _ => rfl)
  rw [hw] at h1
  have : b' = 0x3B282DB34012B252 := (Number.flt.inj (Token.number.inj (Res.ok.inj h1).1)).symm
  subst this
  exact ⟨hw, h2, by decide⟩

/-- a formatter that meets `RyuSpec` on `f64::MAX` with the 17-digit decimal just above it -/
def ryuBad (b : Nat) : List UInt8 :=
  if b = 0x7FEFFFFFFFFFFFFF then asc "1.7976931348623158e308" else []

/-- The range condition in `RyuSpecOnly` cannot be dropped in the
    build with `fast-float-parsing`: `ryuBad` meets `RyuSpec` on `f64::MAX`
    (`1.7976931348623158e308` rounds to it), yet the text is rejected with `NumberOutOfRange`
    by `f64_from_parts` (the real `from_str` answers "number out of range" as well). -/
theorem ryuSpecOnly_range_needed :
    RyuSpec ryuBad 0x7FEFFFFFFFFFFFFF ⟨false, 17976931348623158, 292, .sci⟩ ∧
    (∀ s, f64FromParts exCfgFast true 17976931348623158 292 s = errAt .numberOutOfRange s) := by
  refine ⟨⟨by decide, by decide +kernel, by decide, fast_total_needed.1⟩, fun s => ?_⟩
  unfold f64FromParts
  simp only [exCfgFast, if_true]
  rw [fast_total_needed.2.2.1]
  rfl

#print axioms approxEq_refl
#print axioms atomRT_float_approx
#print axioms atomRT_float_approx_1em23
#print axioms ryuSpecOnly_range_needed

end FloatApprox
end Lexpr
