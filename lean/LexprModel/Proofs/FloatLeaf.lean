/-
  The float leaves of the round trips.  What `ryu` prints for a double (`Decimals.RyuSpec`) is read
  back by `parse_token` under every parser option set (`atomRT_float_parts`, `atomRT_float_any`),
  bit for bit where `f64_from_parts` is exact on the scanned pair (`FloatOK`); such a float is a
  good leaf for the structure theorems of `ListRT` (`atomOKP_float`, `C01_roundtrip_floats`).
-/
import LexprModel.Proofs.Decimals
import LexprModel.Proofs.ListRTGlue
namespace Lexpr

namespace Decimals
open Parse F64 Numbers

/-- a double whose ryu text is read back exactly by the configuration `cfg` -/
def FloatOK (cfg : Cfg) (ryu : Nat → List UInt8) (b : Nat) : Prop :=
  b < 2 ^ 64 ∧ ∃ d : RyuDec, RyuSpec ryu b d ∧
    ((cfg.fast = true ∧ (∀ k, k ≤ 22 → Exact (cfg.pow10 k) (10 ^ k)) ∧
        d.S < 2 ^ 53 ∧ -22 ≤ d.E ∧ d.E ≤ 22) ∨
     (cfg.fast = false ∧ isInf b = false))

theorem digit_head_facts (c : UInt8) (h : isDigit c = true) : symTermSlice c = false ∧ c ≠ 46 :=
  ⟨(isDigit_facts2 c h).1, (isDigit_facts2 c h).2.2⟩

mutual
/-- every atom leaf is a supported atom of `ListRTGlue` or a float with `FloatOK` -/
def AllSupportedF (cfg : Cfg) (ryu : Nat → List UInt8) : Value → Prop
  | .cons a d => AllSupportedF cfg ryu a ∧ AllSupportedF cfg ryu d
  | .vector xs => AllSupportedFSeq cfg ryu xs
  | .null => True
  | .nil => True
  | .bool _ => True
  | .number (.flt b) => FloatOK cfg ryu b
  | .number (.pos n) => ListRT.SupportedAtom (.number (.pos n))
  | .number (.neg i) => ListRT.SupportedAtom (.number (.neg i))
  | .char c => ListRT.SupportedAtom (.char c)
  | .string x => ListRT.SupportedAtom (.string x)
  | .symbol x => ListRT.SupportedAtom (.symbol x)
  | .keyword x => ListRT.SupportedAtom (.keyword x)
  | .bytes _ => False
def AllSupportedFSeq (cfg : Cfg) (ryu : Nat → List UInt8) : List Value → Prop
  | [] => True
  | x :: xs => AllSupportedF cfg ryu x ∧ AllSupportedFSeq cfg ryu xs
end

end Decimals

namespace FullRT
open Parse F64 Numbers Decimals Spec

/-! ### a decimal literal under the leading-digit option -/

/-- the bytes a decimal literal is made of -/
def litByte (b : UInt8) : Bool :=
  isDigit b || b == 46 || b == 101 || b == 69 || b == 43 || b == 45

theorem litByte_facts : ∀ b : UInt8, litByte b = true → symTermSlice b = false ∧ b < 0x80 := by
  apply byte_forall; decide +kernel

theorem litByte_digit {b : UInt8} (h : isDigit b = true) : litByte b = true := by
  simp [litByte, h]

theorem ExpPart.text_bytes (e : ExpPart) (h : e.WF) : ∀ b ∈ e.text, litByte b = true := by
  obtain ⟨hm, hs, -, hd⟩ := h
  intro b hb
  simp only [ExpPart.text, List.mem_cons, List.mem_append] at hb
  rcases hb with rfl | hb | hb
  · rcases hm with h | h <;> rw [h] <;> decide
  · rcases hs with h | h | h <;> rw [h] at hb <;> simp at hb <;> subst hb <;> decide
  · exact litByte_digit (hd b hb)

theorem DecLit.text_bytes (L : DecLit) (h : L.WF) : ∀ b ∈ L.text, litByte b = true := by
  obtain ⟨ip, fp, ex⟩ := L
  obtain ⟨-, hip, hfp, hex, -⟩ := h
  intro b hb
  simp only [DecLit.text, List.mem_append] at hb
  rcases hb with hb | hb | hb
  · exact litByte_digit (hip b hb)
  · cases fp with
    | none => simp [fracText] at hb
    | some f =>
      simp only [fracText, List.mem_cons] at hb
      rcases hb with rfl | hb
      · decide
      · exact litByte_digit ((hfp f rfl).2 b hb)
  · cases ex with
    | none => simp [expText] at hb
    | some e => exact ExpPart.text_bytes e (hex e rfl) b hb

/-- the sub-parser of the leading-digit path recognises a whole literal -/
theorem wholeNumber_lit (cfg : Cfg) (L : DecLit) (g : Nat) (hwf : L.WF) (hS : L.sig ≤ u64Max)
    (hsmall : L.Small) (hparts : ∀ u, f64FromParts cfg true L.sig L.exp10 u = .ok g u) :
    wholeNumber cfg L.text = some (.flt g) := by
  unfold wholeNumber
  simp only
  rw [scan_lit cfg (L.text.length + 1) true L [] { rd := { mode := .slice, rest := L.text } } hwf
    (by simp) (by simp [ScanStop, isDigit]) (fun _ => rfl) hS hsmall (Nat.le_refl _)]
  simp [hparts, Number.ofF64]

/-- an unsigned literal as a token, for every parser option set -/
theorem token_lit_pos_any (cfg : Cfg) (fuel : Nat) (L : DecLit) (rest : List UInt8)
    (s : St) (g : Nat) (pk : UInt8)
    (hwf : L.WF) (hrest : s.rd.rest = L.text ++ rest) (hpk : L.text.head? = some pk)
    (hF : Follow rest)
    (hf : rest = [] → s.rd.faulty = false) (hS : L.sig ≤ u64Max) (hsmall : L.Small)
    (hfuel : L.text.length + 1 ≤ fuel)
    (hparts : ∀ u, f64FromParts cfg true L.sig L.exp10 u = .ok g u) :
    parseToken cfg fuel pk s =
      .ok (.number (.flt g)) (adv s L.text.length (endPeek s rest)) := by
  obtain ⟨c, tl, htx, hc⟩ := L.text_head hwf
  have : pk = c := by rw [htx] at hpk; simpa using hpk.symm
  subst this
  rw [parseToken_isDigit cfg fuel pk hc]
  cases hl : cfg.opts.leadingDigit
  · simp only [Bool.false_eq_true, if_false, numArm, bind_apply, numToken_lit cfg fuel true L rest s g
      hwf hrest (delimStop_of_follow hF) hf hS hsmall hfuel hparts, pure_apply]
  · have hb := DecLit.text_bytes L hwf
    have hnt : ∀ b ∈ L.text, symTermSlice b = false := fun b h => (litByte_facts b (hb b h)).1
    have hval : Utf8.valid L.text = true := Utf8.U8.valid_ascii (fun b h => (litByte_facts b (hb b h)).2)
    have hdot : [] ++ L.text ≠ [46] := by
      rw [htx]; intro h
      have : pk = 46 := by simpa using (List.cons.inj h).1
      subst this; exact absurd hc (by decide)
    have hsym := parseSymbolBytes_reads [] L.text rest s hrest hF hf hnt hdot
      (Or.inr (by simpa using hval))
    simp only [if_true, wholeArm, bind_apply, hsym, List.nil_append,
      wholeNumber_lit cfg L g hwf hS hsmall hparts, pure_apply]

/-- a literal with its optional minus sign as a token, for every parser option set -/
theorem token_lit_signed (cfg : Cfg) (fuel : Nat) (neg : Bool) (L : DecLit) (rest : List UInt8)
    (s : St) (g : Nat) (pk : UInt8) (hwf : L.WF)
    (hrest : s.rd.rest = ((if neg then [45] else []) ++ L.text) ++ rest)
    (hpk : ((if neg then [45] else []) ++ L.text).head? = some pk) (hF : Follow rest)
    (hf : rest = [] → s.rd.faulty = false) (hS : L.sig ≤ u64Max) (hsmall : L.Small)
    (hfuel : ((if neg then [45] else []) ++ L.text).length + 1 ≤ fuel)
    (hparts : ∀ u, f64FromParts cfg (!neg) L.sig L.exp10 u = .ok g u) :
    parseToken cfg fuel pk s =
      .ok (.number (.flt g))
        (adv s ((if neg then [45] else []) ++ L.text).length (endPeek s rest)) := by
  cases neg with
  | false =>
    simp only [Bool.false_eq_true, if_false, List.nil_append, Bool.not_false] at hrest hpk hfuel hparts ⊢
    exact token_lit_pos_any cfg fuel L rest s g pk hwf hrest hpk hF hf hS hsmall hfuel hparts
  | true =>
    simp only [if_true, List.cons_append, List.nil_append, Bool.not_true, List.length_cons,
      List.head?_cons, Option.some.injEq] at hrest hpk hfuel hparts ⊢
    subst hpk
    exact token_lit_neg cfg fuel L rest s g hwf hrest (delimStop_of_follow hF) hf hS hsmall
      (by omega) hparts

/-- the first byte of a literal with its optional minus sign: a digit or `-` -/
theorem lit_signed_head (neg : Bool) (L : DecLit) (hwf : L.WF) :
    ListRT.ElemHead ((if neg then [45] else []) ++ L.text) := by
  obtain ⟨c, tl, hc, hdig⟩ := L.text_head hwf
  cases neg with
  | false =>
    simp only [Bool.false_eq_true, if_false, List.nil_append, hc]
    exact ListRT.head_of_nonterm c tl (digit_head_facts c hdig).1 (digit_head_facts c hdig).2
  | true =>
    simp only [if_true, List.cons_append, List.nil_append]
    exact ListRT.head_of_nonterm 45 _ (by decide) (by decide)

/-! ### float leaves for every parser option set -/

theorem atomTextP_flt (p : Print.Options) (ryu : Nat → List UInt8) (b : Nat) :
    atomTextP p ryu (.number (.flt b)) = ryu b := by
  simp [atomTextP, Print.atomEmits, Print.flatten, Print.Emit.bytes, Print.numberText]

/-- The token step of a float leaf: if `f64_from_parts` yields the bits `g` for the pair the
    scanner extracts from what ryu wrote for `b`, then under every parser option set
    `parse_token` consumes exactly that text and returns `Float(g)`.  With
    `leading_digit_symbols` a digit-initial text is first scanned as a symbol and then recognised
    by the sub-parser. -/
theorem _root_.Lexpr.Decimals.atomRT_float_parts (cfg : Cfg) (ryu : Nat → List UInt8) (fuel : Nat)
    (s : St) (rest : List UInt8) (b g : Nat) (d : RyuDec) (pk : UInt8)
    (hwf : d.WF) (htext : ryu b = d.text)
    (hparts : ∀ u, f64FromParts cfg (!d.neg) d.S d.E u = .ok g u)
    (hrest : s.rd.rest = ryu b ++ rest) (hpk : (ryu b).head? = some pk)
    (hfuel : (ryu b).length + 1 ≤ fuel) (hF : Follow rest) (hf : rest = [] → s.rd.faulty = false) :
    parseToken cfg fuel pk s = .ok (.number (.flt g)) (adv s (ryu b).length (endPeek s rest)) := by
  have hfacts := d.litFacts hwf
  have hSle : d.S ≤ u64Max := Nat.le_of_lt (Nat.lt_of_lt_of_le (d.S_lt hwf) (by decide))
  rw [← hfacts.sig, ← hfacts.exp] at hparts
  rw [htext] at hrest hpk hfuel ⊢
  exact token_lit_signed cfg fuel d.neg d.lit rest s g pk hfacts.wf hrest hpk hF hf
    (by rw [hfacts.sig]; exact hSle) hfacts.small hfuel hparts

/-- What ryu writes for a double `b` (`RyuSpec`), inside the exact window of the build, is read back
    by `parse_token` as `Float(b)` bit for bit under every parser option set (the text does not
    depend on the printer options).  `Decimals.atomRT_float` says it of the default atom text. -/
theorem atomRT_float_any (cfg : Cfg) (ryu : Nat → List UInt8) (fuel : Nat) (s : St)
    (rest : List UInt8) (b : Nat) (d : RyuDec) (pk : UInt8)
    (hb : b < 2 ^ 64) (hspec : RyuSpec ryu b d)
    (hbuild : (cfg.fast = true ∧ (∀ k, k ≤ 22 → Exact (cfg.pow10 k) (10 ^ k)) ∧
                d.S < 2 ^ 53 ∧ -22 ≤ d.E ∧ d.E ≤ 22) ∨
              (cfg.fast = false ∧ isInf b = false))
    (hrest : s.rd.rest = ryu b ++ rest)
    (hpk : (ryu b).head? = some pk)
    (hfuel : (ryu b).length + 1 ≤ fuel)
    (hF : Follow rest) (hf : rest = [] → s.rd.faulty = false) :
    parseToken cfg fuel pk s =
      .ok (.number (.flt b)) (adv s (ryu b).length (endPeek s rest)) := by
  obtain ⟨hwf, htext, hsign, hround⟩ := hspec
  have hSle : d.S ≤ u64Max := Nat.le_of_lt (Nat.lt_of_lt_of_le (d.S_lt hwf) (by decide))
  have hrn : decRn d.S d.E = b % signBit := by rw [d.decRn_SE hwf, hround]
  have hEB : ExactBuild cfg d.S d.E := by
    rcases hbuild with h | ⟨hfast, hinf⟩
    · exact Or.inl h
    · refine Or.inr ⟨hfast, hSle, ?_⟩
      rw [hrn]
      exact lt_inf_of_not_isInf (by rw [← hrn]; exact rn_le_inf _ _) (by rw [isInf_mod]; exact hinf)
  exact atomRT_float_parts cfg ryu fuel s rest b b d pk hwf htext
    (fun u => by rw [hEB.parts, hrn, hsign, signed_bits hb]) hrest hpk hfuel hF hf

/-- the first byte of what ryu writes: a digit or `-` -/
theorem ryuSpec_head {ryu : Nat → List UInt8} {b : Nat} {d : RyuDec} (hspec : RyuSpec ryu b d) :
    ListRT.ElemHead (ryu b) := by
  rw [hspec.text_eq]
  exact lit_signed_head d.neg d.lit (d.litFacts hspec.wf).wf

theorem float_head (cfg : Cfg) (ryu : Nat → List UInt8) (b : Nat) (h : FloatOK cfg ryu b) :
    ListRT.ElemHead (ryu b) :=
  let ⟨_, _, hspec, _⟩ := h; ryuSpec_head hspec

/-- From the token to `next_value`: if `parse_token` reads what ryu wrote for `b` as `Float(g)`,
    `next_value` reads the printed float as `Float(g)` in every follow context. -/
theorem ryuSpec_runs (p : Print.Options) (cfg : Cfg) (ryu : Nat → List UInt8) (b g : Nat)
    {d : RyuDec} (hspec : RyuSpec ryu b d)
    (htok : ∀ (fuel : Nat) (s : St) (rest : List UInt8) (pk : UInt8),
      s.rd.rest = ryu b ++ rest → (ryu b).head? = some pk → (ryu b).length + 1 ≤ fuel →
      Follow rest → (rest = [] → s.rd.faulty = false) →
      parseToken cfg fuel pk s =
        .ok (.number (.flt g)) (adv s (ryu b).length (endPeek s rest)))
    (s : St) (rest : List UInt8) (fuel : Nat) (hf : ListRT.Follow rest) (hg : ListRT.Good s)
    (hr : s.rd.rest = atomTextP p ryu (.number (.flt b)) ++ rest)
    (hfu : fuel ≥ s.rd.rest.length + 2) :
    ListRT.Runs (nextValue cfg fuel) s (some (.number (.flt g))) rest := by
  obtain ⟨F, rfl⟩ : ∃ F, fuel = F + 1 := ⟨fuel - 1, by omega⟩
  rw [atomTextP_flt] at hr
  obtain ⟨c, tl, ht, h1, h2, -⟩ := ryuSpec_head hspec
  have hr1 : (adv s 0 (s.rd.mode == .io)).rd.rest = ryu b ++ rest := by simp [hr]
  have hl : LexesAs cfg ((ryu b ++ rest).length + 1) (adv s 0 (s.rd.mode == .io)) (ryu b)
      (.number (.flt g)) :=
    ⟨c, endPeek (adv s 0 (s.rd.mode == .io)) rest, by rw [ht]; rfl, h1, h2,
      htok ((ryu b ++ rest).length + 1) (adv s 0 (s.rd.mode == .io)) rest c hr1
        (by rw [ht]; rfl) (by simp) ((ListRT.follow_iff rest).mp hf)
        (by simpa using fun _ => hg.2)⟩
  obtain ⟨q, hq⟩ := nextValue_of_lexes cfg F s _ rest _ _ hr hl rfl
  exact ListRT.runs_of_adv _ s _ _ q rest hg hq (by simp [hr])

/-- A float with `FloatOK` is a good leaf for the structure theorem
    `ListRT.reads_textP` under every printer / parser pair (no compatibility needed). -/
theorem atomOKP_float (p : Print.Options) (cfg : Cfg) (ryu : Nat → List UInt8) (b : Nat)
    (h : FloatOK cfg ryu b) : ListRT.AtomOKP p cfg ryu (.number (.flt b)) := by
  refine ⟨rfl, rfl, by simp, by rw [atomTextP_flt]; exact float_head cfg ryu b h, ?_⟩
  obtain ⟨hb, d, hspec, hbuild⟩ := h
  intro s rest fuel hf hg hr hfu _
  rw [show fold p cfg.opts (.number (.flt b)) = .number (.flt b) by simp [fold]]
  exact ryuSpec_runs p cfg ryu b b hspec
    (fun fuel s rest pk => atomRT_float_any cfg ryu fuel s rest b d pk hb hspec hbuild)
    s rest fuel hf hg hr hfu

end FullRT

namespace Decimals
open Parse F64 Numbers

theorem atomText_flt (ryu : Nat → List UInt8) (b : Nat) : atomText ryu (.number (.flt b)) = ryu b :=
  FullRT.atomTextP_flt Print.Options.default ryu b

/-- Float leaves of the round trip.  If `ryu b` is one of ryu's five layouts
    of a decimal `d` that rounds to the double `b` (`RyuSpec`), and `f64_from_parts` is exact on
    the pair `(d.S, d.E)` the scanner extracts from that text — fast build: `d.S < 2^53` and
    `|d.E| ≤ 22`, where `(d.S, d.E) = (m, e)` except `(m * 10^e, 0)` for the layout `d…d0…0.0`;
    build without `fast-float-parsing`: always, for finite `b` — then `parse_token` on
    `ryu b ++ rest` (`Follow rest`) consumes exactly the text and returns `Float(b)`, bit for bit
    (the sign of zero included).  All source modes, every parser option set
    (`FullRT.atomRT_float_any` on the default atom text). -/
theorem atomRT_float (cfg : Cfg) (ryu : Nat → List UInt8) (fuel : Nat) (s : St)
    (rest : List UInt8) (b : Nat) (d : RyuDec) (pk : UInt8)
    (hb : b < 2 ^ 64) (hspec : RyuSpec ryu b d)
    (hbuild : (cfg.fast = true ∧ (∀ k, k ≤ 22 → Exact (cfg.pow10 k) (10 ^ k)) ∧
                d.S < 2 ^ 53 ∧ -22 ≤ d.E ∧ d.E ≤ 22) ∨
              (cfg.fast = false ∧ isInf b = false))
    (hrest : s.rd.rest = atomText ryu (.number (.flt b)) ++ rest)
    (hpk : (atomText ryu (.number (.flt b))).head? = some pk)
    (hfuel : (atomText ryu (.number (.flt b))).length + 1 ≤ fuel)
    (hF : Follow rest) (hf : rest = [] → s.rd.faulty = false) :
    parseToken cfg fuel pk s =
      .ok (.number (.flt b))
        (adv s (atomText ryu (.number (.flt b))).length (endPeek s rest)) := by
  rw [atomText_flt] at hrest hpk hfuel ⊢
  exact FullRT.atomRT_float_any cfg ryu fuel s rest b d pk hb hspec hbuild hrest hpk hfuel hF hf

/-- fast build: `1.5`, `-100.0`, `0.001`, `1.2345e-7`, `1e22` read back bit for bit -/
example := atomRT_float exCfgFast ryuEx 9 (exSt (asc "1.5)")) (asc ")") 0x3FF8000000000000
  ⟨false, 15, -1, .mid⟩ 49 (by decide)
  ⟨by decide, by decide +kernel, by decide, by decide +kernel⟩
  (Or.inl ⟨rfl, exTable, by decide, by decide, by decide⟩) (by decide +kernel) (by decide +kernel)
  (by decide +kernel)
  (Follow.cons (by decide)) (fun _ => rfl)
example := atomRT_float exCfgFast ryuEx 9 (exSt (asc "-100.0 1")) (asc " 1") 0xC059000000000000
  ⟨true, 1, 2, .intDot0⟩ 45 (by decide)
  ⟨by decide, by decide +kernel, by decide, by decide +kernel⟩
  (Or.inl ⟨rfl, exTable, by decide, by decide, by decide⟩) (by decide +kernel) (by decide +kernel)
  (by decide +kernel)
  (Follow.cons (by decide)) (fun _ => rfl)
example := atomRT_float exCfgFast ryuEx 9 (exSt (asc "0.001")) [] 0x3F50624DD2F1A9FC
  ⟨false, 1, -3, .small⟩ 48 (by decide)
  ⟨by decide, by decide +kernel, by decide, by decide +kernel⟩
  (Or.inl ⟨rfl, exTable, by decide, by decide, by decide⟩) (by decide +kernel) (by decide +kernel)
  (by decide +kernel)
  Follow.nil (fun _ => rfl)
example := atomRT_float exCfgFast ryuEx 12 (exSt (asc "1.2345e-7)")) (asc ")") 0x3E8091B5AEFFDB8E
  ⟨false, 12345, -11, .sci⟩ 49 (by decide)
  ⟨by decide, by decide +kernel, by decide, by decide +kernel⟩
  (Or.inl ⟨rfl, exTable, by decide, by decide, by decide⟩) (by decide +kernel) (by decide +kernel)
  (by decide +kernel)
  (Follow.cons (by decide)) (fun _ => rfl)
example := atomRT_float exCfgFast ryuEx 9 (exSt (asc "1e22)")) (asc ")") 0x4480F0CF064DD592
  ⟨false, 1, 22, .sci1⟩ 49 (by decide)
  ⟨by decide, by decide +kernel, by decide, by decide +kernel⟩
  (Or.inl ⟨rfl, exTable, by decide, by decide, by decide⟩) (by decide +kernel) (by decide +kernel)
  (by decide +kernel)
  (Follow.cons (by decide)) (fun _ => rfl)
/-- build without `fast-float-parsing`: 17 digits, `f64::MAX`, the smallest subnormal, `-0.0` -/
example := atomRT_float exCfgSlow ryuEx 30 (exSt (asc "1.2345678901234568e17)")) (asc ")")
  0x437B69B4BA630F35 ⟨false, 12345678901234568, 1, .sci⟩ 49 (by decide)
  ⟨by decide, by decide +kernel, by decide, by decide +kernel⟩
  (Or.inr ⟨rfl, by decide⟩) (by decide +kernel) (by decide +kernel)
  (by decide +kernel) (Follow.cons (by decide)) (fun _ => rfl)
example := atomRT_float exCfgSlow ryuEx 30 (exSt (asc "1.7976931348623157e308)")) (asc ")")
  0x7FEFFFFFFFFFFFFF ⟨false, 17976931348623157, 292, .sci⟩ 49 (by decide)
  ⟨by decide, by decide +kernel, by decide, by decide +kernel⟩
  (Or.inr ⟨rfl, by decide⟩) (by decide +kernel) (by decide +kernel)
  (by decide +kernel) (Follow.cons (by decide)) (fun _ => rfl)
example := atomRT_float exCfgSlow ryuEx 30 (exSt (asc "5e-324)")) (asc ")")
  0x0000000000000001 ⟨false, 5, -324, .sci1⟩ 53 (by decide)
  ⟨by decide, by decide +kernel, by decide, by decide +kernel⟩
  (Or.inr ⟨rfl, by decide⟩) (by decide +kernel) (by decide +kernel)
  (by decide +kernel) (Follow.cons (by decide)) (fun _ => rfl)
example := atomRT_float exCfgSlow ryuEx 30 (exSt (asc "-0.0)")) (asc ")")
  0x8000000000000000 ⟨true, 0, 0, .intDot0⟩ 45 (by decide)
  ⟨by decide, by decide +kernel, by decide, by decide +kernel⟩
  (Or.inr ⟨rfl, by decide⟩) (by decide +kernel) (by decide +kernel)
  (by decide +kernel) (Follow.cons (by decide)) (fun _ => rfl)
example : RyuSpec (fun _ => asc "1e-23") 0x3B282DB34012B251 ⟨false, 1, -23, .sci1⟩ :=
  ⟨by decide, by decide, by decide, fast_1em23.2⟩

/-- the hypothesis on the scanned pair matters in the fast build: outside the window the fast
    path is not correctly rounded (`3e23` and `1e-23` do not read as the nearest double) -/
example : fastParts pow10Tab 2 (F64.ofNat 3) 23 ≠ some (decRn 3 23) ∧
    fastParts pow10Tab 2 (F64.ofNat 1) (-23) ≠ some (decRn 1 (-23)) := by decide +kernel

/-- The window hypothesis of `atomRT_float` cannot be dropped in
    the build with `fast-float-parsing`: the double `1e-23` (bits `0x3B282DB34012B251`) is printed
    by any ryu satisfying `RyuSpec` as `1e-23` (one digit, exponent -23: outside `|E| ≤ 22`), and
    that text is read back as the next double up, `0x3B282DB34012B252`, because `1.0 / POW10[23]`
    divides by an inexact power of ten.  So `from_str(to_string(v)) = v` fails for this float leaf
    in the fast build. -/
theorem atomRT_float_window_needed (ryu : Nat → List UInt8)
    (hspec : RyuSpec ryu 0x3B282DB34012B251 ⟨false, 1, -23, .sci1⟩) (rest : List UInt8)
    (hF : Follow rest) :
    ryu 0x3B282DB34012B251 = asc "1e-23" ∧
    parseToken exCfgFast (rest.length + 7) 49 (exSt (ryu 0x3B282DB34012B251 ++ rest)) =
      .ok (.number (.flt 0x3B282DB34012B252))
        (adv (exSt (ryu 0x3B282DB34012B251 ++ rest)) 5 (endPeek (exSt (ryu 0x3B282DB34012B251 ++ rest)) rest)) := by
  have htext : ryu 0x3B282DB34012B251 = asc "1e-23" := by rw [hspec.text_eq]; decide
  refine ⟨htext, ?_⟩
  have := atomRT_float_parts exCfgFast ryu (rest.length + 7) (exSt (ryu 0x3B282DB34012B251 ++ rest))
    rest 0x3B282DB34012B251 0x3B282DB34012B252 ⟨false, 1, -23, .sci1⟩ 49 hspec.wf hspec.text_eq
    (fun u => f64FromParts_some (by rw [partsMag_fast rfl]; exact fast_1em23.1) true u) rfl
    (by rw [htext]; rfl) (by rw [htext]; simp [asc]) hF (fun _ => rfl)
  rw [this, htext]
  rfl

/-! ### float leaves in the structural round trip (`ListRT`) -/

/-- `atomRT_float` in the form `ListRT` wants for the leaves of a value: a float with `FloatOK`
    satisfies `ListRT.AtomOK`. -/
theorem atomOK_float (cfg : Cfg) (ryu : Nat → List UInt8)
    (b : Nat) (h : FloatOK cfg ryu b) : ListRT.AtomOK cfg ryu (.number (.flt b)) :=
  ListRT.atomOK_of_P cfg ryu _ (FullRT.atomOKP_float Print.Options.default cfg ryu b h)

mutual
theorem allAtomsOK_of_supportedF (cfg : Cfg) (ho : cfg.opts = Options.default)
    (ryu : Nat → List UInt8) : ∀ v : Value, AllSupportedF cfg ryu v → ListRT.AllAtomsOK cfg ryu v
  | .cons a d, h =>
    ⟨allAtomsOK_of_supportedF cfg ho ryu a h.1, allAtomsOK_of_supportedF cfg ho ryu d h.2⟩
  | .vector xs, h => allAtomsOKSeq_of_supportedF cfg ho ryu xs h
  | .null, _ => trivial
  | .nil, _ => ListRT.atomOK_nil cfg ryu
  | .bool b, _ => ListRT.atomOK_bool cfg ryu b
  | .number (.flt b), h => atomOK_float cfg ryu b h
  | .number (.pos _), h => ListRT.atomOK_supported cfg ho ryu _ h
  | .number (.neg _), h => ListRT.atomOK_supported cfg ho ryu _ h
  | .char _, h => ListRT.atomOK_supported cfg ho ryu _ h
  | .string _, h => ListRT.atomOK_supported cfg ho ryu _ h
  | .symbol _, h => ListRT.atomOK_supported cfg ho ryu _ h
  | .keyword _, h => ListRT.atomOK_supported cfg ho ryu _ h
  | .bytes _, h => h.elim
theorem allAtomsOKSeq_of_supportedF (cfg : Cfg) (ho : cfg.opts = Options.default)
    (ryu : Nat → List UInt8) :
    ∀ xs : List Value, AllSupportedFSeq cfg ryu xs → ListRT.AllAtomsOKSeq cfg ryu xs
  | [], _ => trivial
  | x :: xs, h =>
    ⟨allAtomsOK_of_supportedF cfg ho ryu x h.1, allAtomsOKSeq_of_supportedF cfg ho ryu xs h.2⟩
end

/-- `from_slice(to_string(v)) = Ok(v)` (default options on both sides)
    for every value of nesting at most 127 whose atoms are those of `C01_roundtrip_supported` or
    floats whose ryu text satisfies `RyuSpec` and lies in the exact window of the build
    (`FloatOK`). -/
theorem C01_roundtrip_floats (cfg : Cfg) (ho : cfg.opts = Options.default)
    (ryu : Nat → List UInt8) (v : Value) (h : AllSupportedF cfg ryu v) (hn : ListRT.nesting v ≤ 127) :
    ∃ s', fromTrait cfg (initSt .slice (Print.text Print.Options.default ryu v)) = .ok v s' ∧
      s'.rd.rest = [] ∧ s'.depth = 128 :=
  ListRT.C01_roundtrip_partial cfg ho ryu v (allAtomsOK_of_supportedF cfg ho ryu v h) hn

theorem floatOK_ex_15 : FloatOK exCfgFast ryuEx 0x3FF8000000000000 :=
  ⟨by decide, ⟨false, 15, -1, .mid⟩, ⟨by decide, by decide, by decide, by decide +kernel⟩,
   Or.inl ⟨rfl, exTable, by decide, by decide, by decide⟩⟩

theorem floatOK_ex_m100 : FloatOK exCfgFast ryuEx 0xC059000000000000 :=
  ⟨by decide, ⟨true, 1, 2, .intDot0⟩, ⟨by decide, by decide, by decide, by decide +kernel⟩,
   Or.inl ⟨rfl, exTable, by decide, by decide, by decide⟩⟩

/-- `(1.5 #(-100.0 x) . 1.5)` -/
example :
    let v : Value := .cons (.number (.flt 0x3FF8000000000000))
      (.cons (.vector [.number (.flt 0xC059000000000000), .symbol (asc "x")])
        (.number (.flt 0x3FF8000000000000)))
    ∃ s', fromTrait exCfgFast (initSt .slice (Print.text Print.Options.default ryuEx v)) = .ok v s' ∧
      s'.rd.rest = [] ∧ s'.depth = 128 := by
  intro v
  refine C01_roundtrip_floats exCfgFast rfl ryuEx v ?_ ?_
  · simp only [v, AllSupportedF, AllSupportedFSeq, ListRT.SupportedAtom, and_true]
    exact ⟨floatOK_ex_15, ⟨floatOK_ex_m100, by decide⟩, floatOK_ex_15⟩
  · simp [v, ListRT.nesting, ListRT.nestingTail, ListRT.nestingSeq]

#print axioms atomRT_float
#print axioms atomRT_float_window_needed
#print axioms atomOK_float
#print axioms C01_roundtrip_floats

end Decimals
end Lexpr

