/-
  Truncation (C19): the parser, part 2 (`next_datum`, `parse_list_meta`, `parse_vector_meta`).
-/
import LexprModel.Proofs.TruncParse
namespace Lexpr
namespace Parse
namespace Trunc
open PrefixDet (Sim ext Scanner digitsLen scan ext_rest ext_consume)

section datum
variable {X : Err → Prop} {s : St} {q : List UInt8}

theorem nextDatum_eo {cfg : Cfg} {f : Nat} (h0 : s.rd.rest = []) :
    EO X (nextDatum cfg f) s (fun a s1 => a = none ∧ s1.depth = s.depth) := by
  cases f with
  | zero => exact EO.outOfFuel
  | succ f =>
    unfold nextDatum
    exact EO.bind_ws h0 fun s1 h1 hd => EO.pure h1 ⟨rfl, hd⟩

theorem TE.bind_nextDatum {β : Type} {cfg : Cfg} {f : Nat} {k : Option Datum → P β}
    {Q : β → St → Res β → Prop} {r' : Res β} (h0 : s.rd.rest = [])
    (h : ∀ s1, s1.rd.rest = [] → s1.depth = s.depth → TE X Q (k none) r' s1) :
    TE X Q (nextDatum cfg f >>= k) r' s :=
  TE.bind (nextDatum_eo h0) (fun _ s1 h1 ha => ha.1 ▸ h s1 h1 ha.2)

theorem parseListMeta_eo {cfg : Cfg} {f : Nat} {term : UInt8} {acc : List Value}
    {ms : List SpanInfo} (h0 : s.rd.rest = []) :
    EO X (parseListMeta cfg f term acc ms) s (fun _ _ => False) := by
  cases f with
  | zero => exact EO.outOfFuel
  | succ f =>
    unfold parseListMeta
    exact EO.bind_ws h0 fun _ _ _ => EO.peekErrSoft (by decide)

theorem parseVectorMeta_eo {cfg : Cfg} {f : Nat} {term : UInt8} {acc : List Value}
    {ms : List SpanInfo} (h0 : s.rd.rest = []) :
    EO X (parseVectorMeta cfg f term acc ms) s (fun _ _ => False) := by
  cases f with
  | zero => exact EO.outOfFuel
  | succ f =>
    unfold parseVectorMeta
    exact EO.bind_ws h0 fun _ _ _ => EO.peekErrSoft (by decide)

theorem TE.of_QTok {β : Type} {m : P β} {k' : Token → P β} {Q : β → St → Res β → Prop}
    {tok : Token} {r' : Res Token} (hqt : QTok tok s r')
    (ha : tok.atom.isSome = true → TE X Q m (rbind r' k') s)
    (hq : ∀ qt qt' s', tok = .quotation qt → s'.depth = s.depth →
      TE X Q m (k' (.quotation qt') s') s) :
    TE X Q m (rbind r' k') s := by
  rcases hqt with h | ⟨qt, qt', s', h, hr, hd⟩
  · exact ha h
  · rw [hr]; exact hq qt qt' s' h hd

/-- The three functions together, by induction on the fuel of the truncated run.  The walk (`ts`,
    with the rules for `parse_whitespace`, the token fuel and the `enter … leave` brackets in
    front) leaves the goals at the end of the truncated input: after a token (`TE.of_QTok`) and
    after a quoted datum. -/
theorem datum_ts (cfg : Cfg) (hq : q ≠ []) (hB : ∀ l k, X (.syntax .numberOutOfRange l k)) :
    ∀ f f' : Nat, f ≤ f' →
    (∀ s, TS X QT (nextDatum cfg f) (nextDatum cfg f') s q) ∧
    (∀ s term acc ms, TS X QF (parseListMeta cfg f term acc ms)
      (parseListMeta cfg f' term acc ms) s q) ∧
    (∀ s term acc ms, TS X QF (parseVectorMeta cfg f term acc ms)
      (parseVectorMeta cfg f' term acc ms) s q) := by
  intro f
  induction f with
  | zero => exact fun _ _ => ⟨fun _ => TS.outOfFuel, fun _ _ _ _ => TS.outOfFuel, fun _ _ _ _ => TS.outOfFuel⟩
  | succ f ih =>
    intro f' h
    cases f' with
    | zero => exact absurd h (Nat.not_succ_le_zero f)
    | succ g =>
      obtain ⟨ihD, ihL, ihV⟩ := ih g (Nat.le_of_succ_le_succ h)
      refine ⟨fun s => ?_, fun s term acc ms => ?_, fun s term acc ms => ?_⟩
      · rw [nextDatum_succ, nextDatum_succ]
        repeat' first
          | (with_reducible apply TS.bind_ws hq) <;> intros
          | ((with_reducible apply TS.bind_tokenFuel); intro tf tf' htf;
             refine TS.bind (parseToken_t hq hB htf) (fun tok s2 _ _ => ?_) (fun tok s2 _ h0 hqt =>
               TE.of_QTok hqt (fun hat => ?_) (fun qt qt' s' hqt hd => ?_)))
          | (with_reducible apply TS.deeperSeq hq (fun s => ihL s _ _ _)) <;> intros
          | (with_reducible apply TS.deeperSeq hq (fun s => ihV s _ _ _)) <;> intros
          | (with_reducible apply TS.deeper ihD) <;> intros
          | ts_step hq [getPos_t, parseByteList_t hq hB htf]
        · -- the quoted datum runs to the end of the input
          rename_i d s4 _ h0
          cases d with
          | none => exact TE.peekErrSoft (by decide)
          | some d => exact TE.pure h0 trivial
        · cases tok <;> first
            | exact Bool.noConfusion hat
            | exact TE.bind_getPos (TE.pure h0 trivial)
        · -- a quotation mark at the end of the input; the other run may exceed the depth budget
          subst hqt
          exact TE.bind_getPos (TE.deeper (Pa := fun d _ => d = none)
            (fun hd0 h1 => enter_notOk (hd ▸ hd0) (hd ▸ h1))
            (fun s3 h3 => (nextDatum_eo (h3.trans h0)).weaken fun _ _ _ h => h.1)
            fun d _ _ hd4 _ => hd4 ▸ TE.peekErrSoft (by decide))
        · exact TE.pure ‹_› trivial
      · unfold parseListMeta
        simp only [bind_assoc]
        repeat' first
          | (with_reducible apply TS.bind_ws hq) <;> intros
          | ts_step hq [getPos_t, parseSymbolBytes_t hq, ihD _, ihL _ _ _ _]
          | rw [peekErr_bind]
        all_goals repeat' first
          | (with_reducible apply TE.bind_ws (by assumption)) <;> intros
          | (with_reducible apply TE.bind_nextDatum (by assumption)) <;> intros
          | with_reducible apply TE.bind_getPos
          | te_step [parseListMeta_eo ‹_›]
          | rw [peekErr_bind]
      · unfold parseVectorMeta
        repeat' first
          | (with_reducible apply TS.bind_ws hq) <;> intros
          | ts_step hq [ihD _, ihV _ _ _ _]
        te [parseVectorMeta_eo ‹_›]

end datum
end Trunc
end Parse
end Lexpr
