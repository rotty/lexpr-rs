/-
  FullRT — the round trip `print → parse` with *every* leaf kind: `#nil`, booleans, integers,
  floats (`Decimals.FloatOK`; the float leaves themselves are in `FloatLeaf.lean`),
  characters, strings, symbols, keywords and byte vectors, in any nesting of lists, dotted lists and
  vectors of depth at most 127.  `C02_roundtrip_full` (every compatible printer / parser pair) comes
  from `ListRT.reads_textP`; `roundtrip_master` is the same for every trivia variant of the printed
  text and every source; `C01_roundtrip_full` is the default pair, stated with the predicates of
  `ListRTGlue.lean` (`SupportedAtom`) and `FloatLeaf.lean` (`FloatOK`), byte vectors unrestricted.
  The `&str` and stream sources follow from the slice through `Sources.lean`, the `&str` one because
  the printed text is well-formed UTF-8 (`C01_text_valid` / `C02_text_valid`; ryu is only required
  to write ASCII for the float leaves of the value, which `FloatOK` implies).
-/
import LexprModel.Proofs.DialectStructRT
import LexprModel.Proofs.TriviaRel
import LexprModel.Proofs.FloatLeaf
import LexprModel.Proofs.Sources
import LexprModel.Proofs.Utf8Valid
namespace Lexpr
namespace FullRT
open Parse F64 Numbers Decimals Spec

theorem allLeavesSeq_iff {P : Value → Prop} (xs : List Value) :
    AllLeavesSeq P xs ↔ ∀ x ∈ xs, AllLeaves P x := by
  induction xs with
  | nil => simp [AllLeavesSeq]
  | cons x xs ih => simp [AllLeavesSeq, ih]

theorem allLeaves_list {P : Value → Prop} (xs : List Value) :
    AllLeaves P (Value.list xs) ↔ ∀ x ∈ xs, AllLeaves P x := by
  induction xs with
  | nil => simp [Value.list, Value.append, AllLeaves]
  | cons x xs ih =>
    have : Value.list (x :: xs) = .cons x (Value.list xs) := by simp [Value.list, Value.append]
    rw [this]
    simp only [AllLeaves, List.mem_cons, forall_eq_or_imp]
    exact and_congr_right fun _ => ih

theorem allAtomsOK_of_leaves (cfg : Cfg) (ryu : Nat → List UInt8) :
    ∀ v : Value, AllLeaves (ListRT.AtomOK cfg ryu) v → ListRT.AllAtomsOK cfg ryu v :=
  fun v => ((ListRT.allAtomsOK_iff_leaves cfg ryu).1 v).2

theorem allAtomsOKSeq_of_leaves (cfg : Cfg) (ryu : Nat → List UInt8) :
    ∀ xs : List Value, AllLeavesSeq (ListRT.AtomOK cfg ryu) xs → ListRT.AllAtomsOKSeq cfg ryu xs :=
  fun xs => ((ListRT.allAtomsOK_iff_leaves cfg ryu).2 xs).2

theorem allAtomsOKP_of_leaves (p : Print.Options) (cfg : Cfg) (ryu : Nat → List UInt8) :
    ∀ v : Value, AllLeaves (ListRT.AtomOKP p cfg ryu) v → ListRT.AllAtomsOKP p cfg ryu v :=
  fun v => ((ListRT.allAtomsOKP_iff_leaves p cfg ryu).1 v).2

theorem allAtomsOKSeqP_of_leaves (p : Print.Options) (cfg : Cfg) (ryu : Nat → List UInt8) :
    ∀ xs : List Value, AllLeavesSeq (ListRT.AtomOKP p cfg ryu) xs →
      ListRT.AllAtomsOKSeqP p cfg ryu xs :=
  fun xs => ((ListRT.allAtomsOKP_iff_leaves p cfg ryu).2 xs).2

/-- A leaf that is plain for the pair `p`, `cfg`: `ListRT.LeafPlainFor` (`#nil`, booleans, `u64` /
    negative `i64` integers, scalar characters, valid UTF-8 strings, byte vectors with any content,
    names that are `symbolPlainFor` / `keywordPlainFor` without a misleading leading dot) or a
    float with `Decimals.FloatOK` (ryu meets `RyuSpec` for that double and — fast build — the
    text lies in the exact window; build without `fast-float-parsing`: the double is finite). -/
def LeafPlainForF (p : Print.Options) (cfg : Cfg) (ryu : Nat → List UInt8) : Value → Prop
  | .number (.flt b) => FloatOK cfg ryu b
  | v => ListRT.LeafPlainFor p cfg v

/-- `ListRT.AllPlainFor` extended by float leaves. -/
def AllPlainForF (p : Print.Options) (cfg : Cfg) (ryu : Nat → List UInt8) (v : Value) : Prop :=
  AllLeaves (LeafPlainForF p cfg ryu) v

theorem atomOKP_of_leafF (p : Print.Options) (cfg : Cfg) (ryu : Nat → List UInt8)
    (hc : Compatible p cfg.opts = true) (v : Value) (hl : IsLeaf v)
    (h : LeafPlainForF p cfg ryu v) : ListRT.AtomOKP p cfg ryu v := by
  cases v with
  | number n =>
    cases n with
    | flt b => exact atomOKP_float p cfg ryu b h
    | pos n => exact ListRT.atomOKP_of_leaf p cfg ryu _ hc hl.2.2 h
    | neg i => exact ListRT.atomOKP_of_leaf p cfg ryu _ hc hl.2.2 h
  | _ => exact ListRT.atomOKP_of_leaf p cfg ryu _ hc hl.2.2 h

theorem allAtomsOKP_of_plainF (p : Print.Options) (cfg : Cfg) (ryu : Nat → List UInt8)
    (hc : Compatible p cfg.opts = true) (v : Value) (h : AllPlainForF p cfg ryu v) :
    ListRT.AllAtomsOKP p cfg ryu v :=
  allAtomsOKP_of_leaves p cfg ryu v (AllLeaves.mono (atomOKP_of_leafF p cfg ryu hc) v h)

theorem leafPlainForF_of_plain (p : Print.Options) (cfg : Cfg) (ryu : Nat → List UInt8) (v : Value)
    (h : ListRT.LeafPlainFor p cfg v) : LeafPlainForF p cfg ryu v := by
  cases v with
  | number n =>
    cases n with
    | flt b => exact absurd h.1 id
    | _ => exact h
  | _ => exact h

theorem allPlainForF_of_plain (p : Print.Options) (cfg : Cfg) (ryu : Nat → List UInt8) :
    ∀ v : Value, ListRT.AllPlainFor p cfg v → AllLeaves (LeafPlainForF p cfg ryu) v :=
  (allLeaves_imp (ListRT.allPlainFor_iff_leaves p cfg) ⟨fun _ => .rfl, fun _ => .rfl⟩
    fun w _ hw => leafPlainForF_of_plain p cfg ryu w hw).1

theorem allPlainForFSeq_of_plain (p : Print.Options) (cfg : Cfg) (ryu : Nat → List UInt8) :
    ∀ xs : List Value, ListRT.AllPlainForSeq p cfg xs → AllLeavesSeq (LeafPlainForF p cfg ryu) xs :=
  (allLeaves_imp (ListRT.allPlainFor_iff_leaves p cfg) ⟨fun _ => .rfl, fun _ => .rfl⟩
    fun w _ hw => leafPlainForF_of_plain p cfg ryu w hw).2

/-- **C02_structure_full**: `ListRT.dialectRT_structure` with float leaves — `next_value` in any
    non-faulty slice state, in any follow context. -/
theorem C02_structure_full (cfg : Cfg) (p : Print.Options) (ryu : Nat → List UInt8)
    (hc : Compatible p cfg.opts = true) (v : Value) (h : AllPlainForF p cfg ryu v)
    (s : St) (rest : List UInt8) (fuel : Nat) (hf : ListRT.Follow rest)
    (hm : s.rd.mode = .slice) (hfa : s.rd.faulty = false)
    (hr : s.rd.rest = Print.text p ryu v ++ rest)
    (hfu : fuel ≥ 2 * s.rd.rest.length + 3) (hn : ListRT.nestingP p v + 1 ≤ s.depth) :
    ∃ s', nextValue cfg fuel s = .ok (some (fold p cfg.opts v)) s' ∧ s'.rd.rest = rest ∧
      s'.rd.mode = .slice ∧ s'.rd.faulty = false ∧ s'.depth = s.depth :=
  ((ListRT.reads_textP p cfg ryu (ListRT.compatible_brackets p cfg.opts hc)).1 v
    (allAtomsOKP_of_plainF p cfg ryu hc v h)).run [] .nil s rest fuel (.inr hf) hm hfa hr hfu hn

/-- **C02_roundtrip_full_exact** (exact depth measure): `from_slice_custom(to_string_custom(v, p), r) =
    Ok(fold p r v)` for every compatible pair `p`, `r = cfg.opts`, every value whose leaves are
    plain for the pair, floats with `FloatOK` and byte vectors included, `nestingP p v ≤ 127`. -/
theorem C02_roundtrip_full_exact (cfg : Cfg) (p : Print.Options) (ryu : Nat → List UInt8)
    (hc : Compatible p cfg.opts = true) (v : Value) (h : AllPlainForF p cfg ryu v)
    (hn : ListRT.nestingP p v ≤ 127) :
    ∃ s', fromTrait cfg (initSt .slice (Print.text p ryu v)) = .ok (fold p cfg.opts v) s' ∧
      s'.rd.rest = [] ∧ s'.depth = 128 :=
  ((ListRT.reads_textP p cfg ryu (ListRT.compatible_brackets p cfg.opts hc)).1 v
    (allAtomsOKP_of_plainF p cfg ryu hc v h)).fromTrait_plain hn

/-- **C02_roundtrip_full**: the same with the nesting measure of `Spec/Dialect.lean` (`()` costs
    one level that `Spec.nesting` does not count, hence `< 127`). -/
theorem C02_roundtrip_full (cfg : Cfg) (p : Print.Options) (ryu : Nat → List UInt8)
    (hc : Compatible p cfg.opts = true) (v : Value) (h : AllPlainForF p cfg ryu v)
    (hn : Spec.nesting v < 127) :
    ∃ s', fromTrait cfg (initSt .slice (Print.text p ryu v)) = .ok (fold p cfg.opts v) s' ∧
      s'.rd.rest = [] ∧ s'.depth = 128 :=
  C02_roundtrip_full_exact cfg p ryu hc v h (by have := ListRT.nestingP_le p v; omega)

/-- The leaves of `C01_roundtrip_full`: `ListRT.SupportedAtom` (`#nil`, booleans, `u64` / negative
    `i64` integers, scalar characters, valid UTF-8 strings, plain-identifier symbols and keywords),
    floats with `Decimals.FloatOK`, and byte vectors (any bytes). -/
def LeafFull (cfg : Cfg) (ryu : Nat → List UInt8) : Value → Prop
  | .number (.flt b) => FloatOK cfg ryu b
  | .bytes _ => True
  | v => ListRT.SupportedAtom v

def AllSupportedFull (cfg : Cfg) (ryu : Nat → List UInt8) (v : Value) : Prop :=
  AllLeaves (LeafFull cfg ryu) v

theorem leafPlainForF_of_full (cfg : Cfg) (ho : cfg.opts = Options.default) (ryu : Nat → List UInt8)
    (v : Value) (h : LeafFull cfg ryu v) : LeafPlainForF Print.Options.default cfg ryu v := by
  cases v with
  | number n =>
    cases n with
    | flt b => exact h
    | _ => exact ListRT.leafPlainFor_of_supported cfg ho _ h
  | bytes x => exact ⟨trivial, rfl⟩
  | _ => exact ListRT.leafPlainFor_of_supported cfg ho _ h

theorem atomOK_of_leafFull (cfg : Cfg) (ho : cfg.opts = Options.default) (ryu : Nat → List UInt8)
    (v : Value) (hl : IsLeaf v) (h : LeafFull cfg ryu v) : ListRT.AtomOK cfg ryu v :=
  ListRT.atomOK_of_P cfg ryu v (atomOKP_of_leafF _ cfg ryu (by rw [ho]; decide) v hl
    (leafPlainForF_of_full cfg ho ryu v h))

theorem allAtomsOK_of_supportedFull (cfg : Cfg) (ho : cfg.opts = Options.default)
    (ryu : Nat → List UInt8) (v : Value) (h : AllSupportedFull cfg ryu v) :
    ListRT.AllAtomsOK cfg ryu v :=
  allAtomsOK_of_leaves cfg ryu v
    (AllLeaves.mono (fun v hl hv => atomOK_of_leafFull cfg ho ryu v hl hv) v h)

theorem allSupportedFull_all_of_F (cfg : Cfg) (ryu : Nat → List UInt8) :
    (∀ v : Value, AllSupportedF cfg ryu v → AllLeaves (LeafFull cfg ryu) v) ∧
    (∀ xs : List Value, AllSupportedFSeq cfg ryu xs → AllLeavesSeq (LeafFull cfg ryu) xs) := by
  have H := allLeaves_of_unfold (A := AllSupportedF cfg ryu) (L := AllSupportedF cfg ryu)
    (AS := AllSupportedFSeq cfg ryu) (fun _ _ => by simp only [AllSupportedF])
    (fun _ => by simp only [AllSupportedF]) (by simp only [AllSupportedF])
    (by simp only [AllSupportedFSeq]) (fun _ _ => by simp only [AllSupportedFSeq])
    (fun _ _ _ _ => Iff.rfl)
  have hl : ∀ v, IsLeaf v → AllSupportedF cfg ryu v → LeafFull cfg ryu v := by
    intro v hv h
    cases v with
    | number n => cases n <;> exact h
    | _ => simp_all [IsLeaf, Value.isCons, Value.isVector, AllSupportedF, LeafFull,
        ListRT.SupportedAtom]
  exact allLeaves_imp H ⟨fun _ => .rfl, fun _ => .rfl⟩ hl

theorem allSupportedFull_of_F (cfg : Cfg) (ryu : Nat → List UInt8) :
    ∀ v : Value, AllSupportedF cfg ryu v → AllLeaves (LeafFull cfg ryu) v :=
  (allSupportedFull_all_of_F cfg ryu).1

theorem allSupportedFullSeq_of_F (cfg : Cfg) (ryu : Nat → List UInt8) :
    ∀ xs : List Value, AllSupportedFSeq cfg ryu xs → AllLeavesSeq (LeafFull cfg ryu) xs :=
  (allSupportedFull_all_of_F cfg ryu).2

/-- **C01_structure_full**: `next_value` reads the text of `v` back as `v` from any non-faulty
    slice state in any follow context, and restores the depth budget. -/
theorem C01_structure_full (cfg : Cfg) (ho : cfg.opts = Options.default)
    (ryu : Nat → List UInt8) (v : Value) (h : AllSupportedFull cfg ryu v)
    (s : St) (rest : List UInt8) (fuel : Nat) (hf : ListRT.Follow rest)
    (hm : s.rd.mode = .slice) (hfa : s.rd.faulty = false)
    (hr : s.rd.rest = Print.text Print.Options.default ryu v ++ rest)
    (hfu : fuel ≥ 2 * s.rd.rest.length + 3) (hn : ListRT.nesting v + 1 ≤ s.depth) :
    ∃ s', nextValue cfg fuel s = .ok (some v) s' ∧ s'.rd.rest = rest ∧
      s'.rd.mode = .slice ∧ s'.rd.faulty = false ∧ s'.depth = s.depth :=
  ListRT.C01_structure cfg ho ryu v (allAtomsOK_of_supportedFull cfg ho ryu v h) s rest fuel hf
    hm hfa hr hfu hn

/-- **C01_roundtrip_full.**  `from_slice(to_string(v)) = Ok(v)` with the default options on both
    sides, for every value of nesting at most 127 whose leaves are `#nil`, booleans, integers
    (`u64`, negative `i64`), floats with `FloatOK` (ryu meets `RyuSpec` for that double; default
    build: inside the exactness window; build without `fast-float-parsing`: every finite double),
    scalar characters, valid UTF-8 strings, plain-identifier symbols and keywords, and byte
    vectors with arbitrary content; all input is consumed and the recursion budget is back at
    128. -/
theorem C01_roundtrip_full (cfg : Cfg) (ho : cfg.opts = Options.default)
    (ryu : Nat → List UInt8) (v : Value) (h : AllSupportedFull cfg ryu v)
    (hn : ListRT.nesting v ≤ 127) :
    ∃ s', fromTrait cfg (initSt .slice (Print.text Print.Options.default ryu v)) = .ok v s' ∧
      s'.rd.rest = [] ∧ s'.depth = 128 :=
  ListRT.C01_roundtrip_partial cfg ho ryu v (allAtomsOK_of_supportedFull cfg ho ryu v h) hn

/-- the two float printers agree on the float leaf `v` (vacuous for every other leaf) -/
def SameFloat (ryu ryu' : Nat → List UInt8) (v : Value) : Prop :=
  ∀ b, v = .number (.flt b) → ryu b = ryu' b

theorem atomEmits_congr (o : Print.Options) (ryu ryu' : Nat → List UInt8) (v : Value)
    (h : SameFloat ryu ryu' v) : Print.atomEmits o ryu v = Print.atomEmits o ryu' v := by
  cases v with
  | number n =>
    cases n with
    | flt b => simp [Print.atomEmits, Print.numberText, h b rfl]
    | pos n => rfl
    | neg i => rfl
  | _ => rfl

theorem emits_all_congr (o : Print.Options) (ryu ryu' : Nat → List UInt8) :
    (∀ v : Value, AllLeaves (SameFloat ryu ryu') v → Print.emits o ryu v = Print.emits o ryu' v) ∧
    (∀ v : Value, AllLeaves (SameFloat ryu ryu') v →
      Print.emitsTail o ryu v = Print.emitsTail o ryu' v) ∧
    (∀ xs : List Value, AllLeavesSeq (SameFloat ryu ryu') xs → ∀ first : Bool,
      Print.emitsSeq o ryu first xs = Print.emitsSeq o ryu' first xs) := by
  refine ListRT.value_induction ?_ ?_ ?_ ?_ ?_ ?_ ?_ ?_ ?_
  · intro a d ha hd h
    simp only [AllLeaves] at h
    simp only [Print.emits]; rw [ha h.1, hd h.2]
  · intro xs hs h
    simp only [AllLeaves] at h
    simp only [Print.emits]; rw [hs h true]
  · intro _; rfl
  · intro v h1 h2 h3 h
    rw [Print.emits_leaf o ryu h1 h2, Print.emits_leaf o ryu' h1 h2]
    exact atomEmits_congr o ryu ryu' v ((allLeaves_leaf _ v h1 h2 h3).1 h)
  · intro a d ha hd h
    simp only [AllLeaves] at h
    simp only [Print.emitsTail]; rw [ha h.1, hd h.2]
  · intro _; rfl
  · intro d h1 h3 hd h
    rw [Print.emitsTail_dotted o ryu d h1 h3, Print.emitsTail_dotted o ryu' d h1 h3, hd h]
  · intro _ first; simp only [Print.emitsSeq]
  · intro x xs hx hs h first
    simp only [AllLeavesSeq] at h
    cases first <;> simp only [Print.emitsSeq] <;> rw [hx h.1, hs h.2 false]

/-- the printed text depends on the float printer only through the float leaves of the value -/
theorem emits_congr (o : Print.Options) (ryu ryu' : Nat → List UInt8) :
    ∀ v : Value, AllLeaves (SameFloat ryu ryu') v → Print.emits o ryu v = Print.emits o ryu' v :=
  (emits_all_congr o ryu ryu').1

theorem emitsTail_congr (o : Print.Options) (ryu ryu' : Nat → List UInt8) :
    ∀ v : Value, AllLeaves (SameFloat ryu ryu') v →
      Print.emitsTail o ryu v = Print.emitsTail o ryu' v :=
  (emits_all_congr o ryu ryu').2.1

theorem emitsSeq_congr (o : Print.Options) (ryu ryu' : Nat → List UInt8) :
    ∀ (first : Bool) (xs : List Value), AllLeavesSeq (SameFloat ryu ryu') xs →
      Print.emitsSeq o ryu first xs = Print.emitsSeq o ryu' first xs :=
  fun first xs h => (emits_all_congr o ryu ryu').2.2 xs h first

/-- `ryu` restricted to the doubles for which it writes ASCII -/
def ryuA (ryu : Nat → List UInt8) (b : Nat) : List UInt8 :=
  if (ryu b).all (fun x => decide (x < 0x80)) = true then ryu b else []

theorem ryuA_ascii (ryu : Nat → List UInt8) : ∀ b, ∀ x ∈ ryuA ryu b, x < 0x80 := by
  intro b x hx
  unfold ryuA at hx
  split at hx
  · rename_i h
    simpa using List.all_eq_true.mp h x hx
  · simp at hx

/-- a leaf whose text is well-formed: valid UTF-8 payload, ASCII float text -/
def LeafTextOK (ryu : Nat → List UInt8) (v : Value) : Prop :=
  Print.U8.TextValid v ∧ ∀ b, v = .number (.flt b) → ∀ x ∈ ryu b, x < 0x80

theorem textValid_all_of_leaves (ryu : Nat → List UInt8) :
    (∀ v : Value, AllLeaves (LeafTextOK ryu) v → Print.U8.TextValid v) ∧
    (∀ xs : List Value, AllLeavesSeq (LeafTextOK ryu) xs → Print.U8.TextValidList xs) := by
  have H := allLeaves_of_unfold (A := Print.U8.TextValid) (L := Print.U8.TextValid)
    (AS := Print.U8.TextValidList) (fun _ _ => by simp only [Print.U8.TextValid])
    (fun _ => by simp only [Print.U8.TextValid]) (by simp only [Print.U8.TextValid])
    (by simp only [Print.U8.TextValidList]) (fun _ _ => by simp only [Print.U8.TextValidList])
    (fun _ _ _ _ => Iff.rfl)
  exact allLeaves_imp ⟨fun _ => .rfl, fun _ => .rfl⟩ H fun _ _ hw => hw.1

theorem textValid_of_leaves (ryu : Nat → List UInt8) :
    ∀ v : Value, AllLeaves (LeafTextOK ryu) v → Print.U8.TextValid v :=
  (textValid_all_of_leaves ryu).1

theorem textValidList_of_leaves (ryu : Nat → List UInt8) :
    ∀ xs : List Value, AllLeavesSeq (LeafTextOK ryu) xs → Print.U8.TextValidList xs :=
  (textValid_all_of_leaves ryu).2

/-- ryu has to write ASCII only for the float leaves of the value: the text is that of `ryuA ryu`
    (`emits_congr`), to which `C17_print_valid_text` applies -/
theorem text_valid_of_leaves (o : Print.Options) (ryu : Nat → List UInt8) (v : Value)
    (h : AllLeaves (LeafTextOK ryu) v) : Utf8.valid (Print.text o ryu v) = true := by
  have hc : Print.emits o ryu v = Print.emits o (ryuA ryu) v :=
    emits_congr o ryu (ryuA ryu) v (AllLeaves.mono (fun w _ hw b hb => by
      have := hw.2 b hb
      unfold ryuA
      rw [if_pos (by simpa [List.all_eq_true] using this)]) v h)
  unfold Print.text
  rw [hc]
  exact (C17.C17_print_valid_text o (ryuA_ascii ryu) (textValid_of_leaves ryu v h)).1

theorem ryuSpec_ascii {ryu : Nat → List UInt8} {b : Nat} {d : RyuDec} (hspec : RyuSpec ryu b d) :
    ∀ x ∈ ryu b, x < 0x80 := by
  have hfacts := d.litFacts hspec.wf
  rw [hspec.text_eq]
  intro x hx
  unfold RyuDec.text at hx
  rcases List.mem_append.mp hx with hx | hx
  · split at hx
    · simp at hx; subst hx; decide
    · simp at hx
  · exact (litByte_facts x (DecLit.text_bytes d.lit hfacts.wf x hx)).2

theorem floatOK_ascii (cfg : Cfg) (ryu : Nat → List UInt8) (b : Nat) (h : FloatOK cfg ryu b) :
    ∀ x ∈ ryu b, x < 0x80 :=
  let ⟨_, _, hspec, _⟩ := h; ryuSpec_ascii hspec

theorem leafTextOK_of_full (cfg : Cfg) (ryu : Nat → List UInt8) (v : Value)
    (h : LeafFull cfg ryu v) : LeafTextOK ryu v := by
  cases v with
  | number n =>
    cases n with
    | flt b =>
      refine ⟨by simp only [Print.U8.TextValid], fun b' hb => ?_⟩
      cases hb; exact floatOK_ascii cfg ryu b h
    | pos n => exact ⟨by simp only [Print.U8.TextValid], fun b hb => by cases hb⟩
    | neg i => exact ⟨by simp only [Print.U8.TextValid], fun b hb => by cases hb⟩
  | string x => exact ⟨by simp only [Print.U8.TextValid]; exact h, fun b hb => by cases hb⟩
  | symbol x => exact ⟨by simp only [Print.U8.TextValid]; exact h.1.2, fun b hb => by cases hb⟩
  | keyword x => exact ⟨by simp only [Print.U8.TextValid]; exact h.2.2, fun b hb => by cases hb⟩
  | cons a d => exact False.elim h
  | vector xs => exact False.elim h
  | _ => exact ⟨by simp only [Print.U8.TextValid], fun b hb => by cases hb⟩

theorem leafTextOK_of_plainF (p : Print.Options) (cfg : Cfg) (ryu : Nat → List UInt8) (v : Value)
    (h : LeafPlainForF p cfg ryu v) : LeafTextOK ryu v := by
  cases v with
  | number n =>
    cases n with
    | flt b =>
      refine ⟨by simp only [Print.U8.TextValid], fun b' hb => ?_⟩
      cases hb; exact floatOK_ascii cfg ryu b h
    | pos n => exact ⟨by simp only [Print.U8.TextValid], fun b hb => by cases hb⟩
    | neg i => exact ⟨by simp only [Print.U8.TextValid], fun b hb => by cases hb⟩
  | string x => exact ⟨by simp only [Print.U8.TextValid]; exact h.1, fun b hb => by cases hb⟩
  | symbol x =>
    refine ⟨?_, fun b hb => by cases hb⟩
    have h1 : symbolPlainFor cfg x = true := h.1
    simp only [symbolPlainFor, Bool.and_eq_true] at h1
    simp only [Print.U8.TextValid]; exact h1.1.1.1.1.2
  | keyword x =>
    refine ⟨?_, fun b hb => by cases hb⟩
    have h1 : keywordPlainFor p cfg x = true := h.1
    simp only [keywordPlainFor, Bool.and_eq_true] at h1
    simp only [Print.U8.TextValid]; exact h1.1
  | cons a d => exact False.elim h.1
  | vector xs => exact False.elim h.1
  | _ => exact ⟨by simp only [Print.U8.TextValid], fun b hb => by cases hb⟩

/-- **C01_text_valid**: the text of a value with supported leaves is well-formed UTF-8. -/
theorem C01_text_valid (cfg : Cfg) (ryu : Nat → List UInt8) (o : Print.Options) (v : Value)
    (h : AllSupportedFull cfg ryu v) : Utf8.valid (Print.text o ryu v) = true :=
  text_valid_of_leaves o ryu v (AllLeaves.mono (fun w _ hw => leafTextOK_of_full cfg ryu w hw) v h)

/-- **C02_text_valid**: the same for leaves that are plain for a pair. -/
theorem C02_text_valid (cfg : Cfg) (p : Print.Options) (ryu : Nat → List UInt8) (v : Value)
    (h : AllPlainForF p cfg ryu v) : Utf8.valid (Print.text p ryu v) = true :=
  text_valid_of_leaves p ryu v
    (AllLeaves.mono (fun w _ hw => leafTextOK_of_plainF p cfg ryu w hw) v h)

/-- `from_str` agrees with `from_slice` on well-formed text (from `C06_str_slice_fromTrait`) -/
theorem str_of_slice (cfg : Cfg) (bytes : List UInt8) (v : Value) (s' : St)
    (hv : Utf8.valid bytes = true) (h : fromTrait cfg (initSt .slice bytes) = .ok v s') :
    ∃ s'', fromTrait cfg (initSt .str bytes) = .ok v s'' ∧ s''.rd.rest = s'.rd.rest ∧
      s''.depth = s'.depth := by
  have hr := (resEq_iff _ _).1
    (C06_str_slice_fromTrait cfg (StrSl.init bytes) (by simpa [initSt] using hv))
  rw [h] at hr
  obtain ⟨a, t, h1, rfl, hs⟩ := hr.of_ok_right
  exact ⟨t, h1, by rw [hs.rd], hs.depth⟩

/-- `from_reader` (a reader that never fails) agrees with `from_slice`
    (from `C06_slice_io_fromTrait`) -/
theorem io_of_slice (cfg : Cfg) (bytes : List UInt8) (v : Value) (s' : St)
    (h : fromTrait cfg (initSt .slice bytes) = .ok v s') :
    ∃ s'', fromTrait cfg (initSt .io bytes) = .ok v s'' ∧ s''.rd.rest = s'.rd.rest ∧
      s''.depth = s'.depth := by
  have hr := (resSim_iff _ _).1 (C06_slice_io_fromTrait cfg (Sim.init bytes))
  rw [h] at hr
  obtain ⟨a, t, h1, rfl, hs⟩ := hr.of_ok_left
  exact ⟨t, h1, hs.rest.symm, hs.depth.symm⟩

theorem all_sources (cfg : Cfg) (bytes : List UInt8) (v : Value)
    (h : ∃ s', fromTrait cfg (initSt .slice bytes) = .ok v s' ∧ s'.rd.rest = [] ∧ s'.depth = 128)
    (m : Mode) (hv : m = .str → Utf8.valid bytes = true) :
    ∃ s', fromTrait cfg (initSt m bytes) = .ok v s' ∧ s'.rd.rest = [] ∧ s'.depth = 128 := by
  obtain ⟨s', e, r, d⟩ := h
  cases m with
  | slice => exact ⟨s', e, r, d⟩
  | str =>
    obtain ⟨t, e', r', d'⟩ := str_of_slice cfg _ v s' (hv rfl) e
    exact ⟨t, e', r'.trans r, d'.trans d⟩
  | io =>
    obtain ⟨t, e', r', d'⟩ := io_of_slice cfg _ v s' e
    exact ⟨t, e', r'.trans r, d'.trans d⟩

/-- **C01_roundtrip_full_sources**: `C01_roundtrip_full` for all three sources — `from_str`,
    `from_slice`, `from_reader` (fault-free reader) on the text of `to_string`. -/
theorem C01_roundtrip_full_sources (cfg : Cfg) (ho : cfg.opts = Options.default)
    (ryu : Nat → List UInt8) (v : Value) (h : AllSupportedFull cfg ryu v)
    (hn : ListRT.nesting v ≤ 127) (m : Mode) :
    ∃ s', fromTrait cfg (initSt m (Print.text Print.Options.default ryu v)) = .ok v s' ∧
      s'.rd.rest = [] ∧ s'.depth = 128 :=
  all_sources cfg _ v (C01_roundtrip_full cfg ho ryu v h hn) m fun _ => C01_text_valid cfg ryu _ v h

/-- **roundtrip_master**: for every compatible printer / parser pair, every value whose leaves are
    plain for the pair (floats with `FloatOK`, byte vectors included) and whose nesting is at most
    127, every text obtained from the printed one by inserting trivia (`TVTop`), and each of the
    three sources (a `&str` has to be well-formed; comment bodies are arbitrary bytes): the parser
    returns `fold p cfg.opts v`, consumes everything and restores the depth budget. -/
theorem roundtrip_master (cfg : Cfg) (p : Print.Options) (ryu : Nat → List UInt8)
    (hc : Compatible p cfg.opts = true) (v : Value) (h : AllPlainForF p cfg ryu v)
    (hn : ListRT.nestingP p v ≤ 127) (t : List UInt8) (ht : ListRT.TVTop p ryu v t) (m : Mode)
    (hv : m = .str → Utf8.valid t = true) :
    ∃ s', fromTrait cfg (initSt m t) = .ok (fold p cfg.opts v) s' ∧
      s'.rd.rest = [] ∧ s'.depth = 128 :=
  all_sources cfg t _
    (ListRT.C12_trivia_atoms cfg p ryu hc v (allAtomsOKP_of_plainF p cfg ryu hc v h) hn t ht) m hv

/-- **C02_roundtrip_full_sources**: `C02_roundtrip_full_exact` for all three sources. -/
theorem C02_roundtrip_full_sources (cfg : Cfg) (p : Print.Options) (ryu : Nat → List UInt8)
    (hc : Compatible p cfg.opts = true) (v : Value) (h : AllPlainForF p cfg ryu v)
    (hn : ListRT.nestingP p v ≤ 127) (m : Mode) :
    ∃ s', fromTrait cfg (initSt m (Print.text p ryu v)) = .ok (fold p cfg.opts v) s' ∧
      s'.rd.rest = [] ∧ s'.depth = 128 :=
  roundtrip_master cfg p ryu hc v h hn _ (ListRT.tvTop_plain p ryu v) m
    fun _ => C02_text_valid cfg p ryu v h

/-! ## The default pair as an instance of the dialect-generic theorem

`SupportedAtom` (from `ListRTGlue.lean`) accepts ASCII-initial identifiers only; the dialect-generic
leaf predicate `LeafPlainFor` also accepts names that start with a non-ASCII alphabetic scalar
(`cfg.isAlphabetic`).  The default pair folds nothing, so `C02_roundtrip_full` specialises to a
second form of the C01 theorem with that larger set of names. -/

theorem nestingP_default : ∀ v : Value, ListRT.nestingP Print.Options.default v = ListRT.nesting v :=
  ListRT.nestingP_po.1

theorem nestingTailP_default :
    ∀ v : Value, ListRT.nestingTailP Print.Options.default v = ListRT.nestingTail v :=
  ListRT.nestingP_po.2.1

theorem nestingSeqP_default :
    ∀ xs : List Value, ListRT.nestingSeqP Print.Options.default xs = ListRT.nestingSeq xs :=
  ListRT.nestingP_po.2.2

/-- **C01_roundtrip_plain**: the default pair with the leaf predicate of the dialect-generic
    theorem (`LeafPlainForF Print.Options.default cfg ryu`): as `C01_roundtrip_full_sources`, and
    in addition symbols / keywords whose first character is a non-ASCII alphabetic scalar. -/
theorem C01_roundtrip_plain (cfg : Cfg) (ho : cfg.opts = Options.default)
    (ryu : Nat → List UInt8) (v : Value) (h : AllPlainForF Print.Options.default cfg ryu v)
    (hn : ListRT.nesting v ≤ 127) (m : Mode) :
    ∃ s', fromTrait cfg (initSt m (Print.text Print.Options.default ryu v)) = .ok v s' ∧
      s'.rd.rest = [] ∧ s'.depth = 128 := by
  have hc : Compatible Print.Options.default cfg.opts = true := by rw [ho]; decide
  have := C02_roundtrip_full_sources cfg Print.Options.default ryu hc v h
    (by rw [nestingP_default]; exact hn) m
  rwa [fold_default] at this

/-- `#((a #u8(1 2 255) 1.5 . -100.0) "s" #:k ())`: a byte vector and floats inside a (dotted)
    list inside a vector; default build, all three sources. -/
example (m : Mode) :
    let v : Value := .vector [.cons (.symbol (asc "a")) (.cons (.bytes [1, 2, 255])
      (.cons (.number (.flt 0x3FF8000000000000)) (.number (.flt 0xC059000000000000)))),
      .string (asc "s"), .keyword (asc "k"), .null]
    ∃ s', fromTrait exCfgFast (initSt m (Print.text Print.Options.default ryuEx v)) = .ok v s' ∧
      s'.rd.rest = [] ∧ s'.depth = 128 := by
  intro v
  refine C01_roundtrip_full_sources exCfgFast rfl ryuEx v ?_ ?_ m
  · simp only [v, AllSupportedFull, AllLeaves, AllLeavesSeq, LeafFull, ListRT.SupportedAtom,
      and_true, true_and]
    exact ⟨⟨by decide, floatOK_ex_15, floatOK_ex_m100⟩, by decide, by decide⟩
  · simp [v, ListRT.nesting, ListRT.nestingTail, ListRT.nestingSeq]

/-- the printed text of that value -/
example :
    Print.text Print.Options.default ryuEx (.vector [.cons (.symbol (asc "a"))
      (.cons (.bytes [1, 2, 255]) (.cons (.number (.flt 0x3FF8000000000000))
        (.number (.flt 0xC059000000000000)))), .string (asc "s"), .keyword (asc "k"), .null]) =
    asc "#((a #u8(1 2 255) 1.5 . -100.0) \"s\" #:k ())" := by decide +kernel

/-- the reader of `DialectRT.lean` with all keyword syntaxes, special `nil`, `t` = true, Emacs Lisp
    characters and *leading-digit symbols*, default (fast) build with the regenerated table -/
def mixCfgF : Cfg := { mixCfg with pow10 := pow10Tab }

theorem floatOK_mix_15 : FloatOK mixCfgF ryuEx 0x3FF8000000000000 :=
  ⟨by decide, ⟨false, 15, -1, .mid⟩, ⟨by decide, by decide, by decide, by decide +kernel⟩,
   Or.inl ⟨rfl, fun k hk => pow10Tab_exact k (by omega), by decide, by decide, by decide⟩⟩

theorem floatOK_mix_m100 : FloatOK mixCfgF ryuEx 0xC059000000000000 :=
  ⟨by decide, ⟨true, 1, 2, .intDot0⟩, ⟨by decide, by decide, by decide, by decide +kernel⟩,
   Or.inl ⟨rfl, fun k hk => pow10Tab_exact k (by omega), by decide, by decide, by decide⟩⟩

/-- `(a: [1.5 #vu8(1 2) nil] t . -100.0)` printed with `name:` keywords, bracket vectors and
    symbols for nil / booleans, read with leading-digit symbols enabled (so `1.5` goes through
    `parse_symbol` and the sub-parser): floats and byte vectors in a non-default pair. -/
example (m : Mode) :
    let v : Value := .cons (.keyword (asc "a")) (.cons (.vector [.number (.flt 0x3FF8000000000000),
      .bytes [1, 2], .nil]) (.cons (.bool true) (.number (.flt 0xC059000000000000))))
    ∃ s', fromTrait mixCfgF (initSt m (Print.text mixP ryuEx v)) = .ok (fold mixP mixOpts v) s' ∧
      s'.rd.rest = [] ∧ s'.depth = 128 := by
  intro v
  refine C02_roundtrip_full_sources mixCfgF mixP ryuEx (by decide) v ?_ ?_ m
  · simp only [v, AllPlainForF, AllLeaves, AllLeavesSeq, LeafPlainForF, ListRT.LeafPlainFor,
      AtomPlainFor, ListRT.dotOkP, and_true, true_and]
    exact ⟨by decide, floatOK_mix_15, floatOK_mix_m100⟩
  · simp [v, ListRT.nestingP, ListRT.nestingTailP, ListRT.nestingSeqP, mixP]

def elCfgSlow : Cfg := { elCfg with fast := false }

/-- build without `fast-float-parsing`, Emacs Lisp on both sides: a 17-digit double and
    `f64::MAX` next to a unibyte string -/
example :
    let v : Value := .vector [.number (.flt 0x437B69B4BA630F35), .bytes [1, 200],
      .number (.flt 0x7FEFFFFFFFFFFFFF)]
    ∃ s', fromTrait elCfgSlow (initSt .slice (Print.text Print.Options.elisp ryuEx v)) =
        .ok (fold Print.Options.elisp Options.elisp v) s' ∧ s'.rd.rest = [] ∧ s'.depth = 128 := by
  intro v
  refine C02_roundtrip_full_exact elCfgSlow Print.Options.elisp ryuEx (by decide) v ?_ ?_
  · simp only [v, AllPlainForF, AllLeaves, AllLeavesSeq, LeafPlainForF, ListRT.LeafPlainFor,
      AtomPlainFor, ListRT.dotOkP, and_true, true_and]
    exact ⟨⟨by decide, ⟨false, 12345678901234568, 1, .sci⟩,
        ⟨by decide, by decide, by decide, by decide +kernel⟩, Or.inr ⟨rfl, by decide⟩⟩,
      ⟨by decide, ⟨false, 17976931348623157, 292, .sci⟩,
        ⟨by decide, by decide, by decide, by decide +kernel⟩, Or.inr ⟨rfl, by decide⟩⟩⟩
  · simp [v, ListRT.nestingP, ListRT.nestingSeqP]

def exCfgLam : Cfg := { exCfgFast with isAlphabetic := fun c => c == 955 }

/-- default pair, a symbol with a Unicode-alphabetic initial (`λx`) next to a float and a byte
    vector: covered by `C01_roundtrip_plain` (not by `SupportedAtom`) -/
example (m : Mode) :
    let v : Value := .cons (.symbol [0xCE, 0xBB, 120]) (.cons (.bytes [0, 255])
      (.number (.flt 0x3FF8000000000000)))
    ∃ s', fromTrait exCfgLam (initSt m (Print.text Print.Options.default ryuEx v)) = .ok v s' ∧
      s'.rd.rest = [] ∧ s'.depth = 128 := by
  intro v
  refine C01_roundtrip_plain exCfgLam rfl ryuEx v ?_ ?_ m
  · simp only [v, AllPlainForF, AllLeaves, LeafPlainForF, ListRT.LeafPlainFor,
      AtomPlainFor, ListRT.dotOkP, and_true, true_and]
    exact ⟨by decide, by decide, ⟨false, 15, -1, .mid⟩,
      ⟨by decide, by decide, by decide, by decide +kernel⟩,
      Or.inl ⟨rfl, exTable, by decide, by decide, by decide⟩⟩
  · simp [v, ListRT.nesting, ListRT.nestingTail]

#print axioms atomRT_float_any
#print axioms atomOKP_float
#print axioms C02_structure_full
#print axioms C02_roundtrip_full_exact
#print axioms C02_roundtrip_full
#print axioms C01_structure_full
#print axioms C01_roundtrip_full
#print axioms C01_text_valid
#print axioms C02_text_valid
#print axioms C01_roundtrip_full_sources
#print axioms C02_roundtrip_full_sources
#print axioms C01_roundtrip_plain

end FullRT
end Lexpr
