/-
  C06 — the three input sources (str / slice / io) agree.  The statements, read off SliceIo.lean
  (slice against stream), StrSlice.lean (`&str` against slice) and Fault.lean (read faults on the
  stream, below `next_value`; the whole parser is in FaultParse3.lean), after the witnesses that
  show why they are not stronger.
-/
import LexprModel.Proofs.SliceIo
import LexprModel.Proofs.StrSlice
import LexprModel.Proofs.Fault
namespace Lexpr
namespace Parse

def witnessCfg : Cfg := { opts := Options.default, isAlphabetic := fun _ => false, pow10 := fun _ => 0 }

/-- Slice and stream source do *not* agree on error positions: on `#qz` the slice parser reports
    `ExpectedSomeIdent` at column 3 (`peek_position` looks one byte ahead), the stream parser at
    column 2 (nothing is in its lookahead slot).  Hence `ErrSim` compares codes only. -/
example :
    (match nextValue witnessCfg 3 (initSt .slice [35, 113, 122]) with | .err e _ => some e | _ => none)
      = some (.syntax .expectedSomeIdent 1 3) ∧
    (match nextValue witnessCfg 3 (initSt .io [35, 113, 122]) with | .err e _ => some e | _ => none)
      = some (.syntax .expectedSomeIdent 1 2) := by decide

/-- Without the UTF-8 hypothesis the `&str` source (whose model state may hold arbitrary bytes)
    and the slice source differ: `from_utf8_unchecked` returns what `as_str` rejects. -/
example :
    (match parseSymbolBytes [] (initSt .str [97, 255]) with | .ok n _ => some n | _ => none)
      = some [97, 255] ∧
    (match parseSymbolBytes [] (initSt .slice [97, 255]) with | .err e _ => some e | _ => none)
      = some (.syntax .invalidUnicodeCodePoint 1 2) := by decide

/-- `discard` on an exhausted reader panics even when the reader is faulty (the model has no
    `Err.io` there): the fault statements about computations that start with `discard` therefore
    assume that the faulty reader still holds a byte, as it does after a successful `peek`. -/
example : (match discard (initSt .io [] true) with | .panic p => some p | _ => none)
    = some .discardAtEof := by decide

/-- **symTerm_eq**: `SliceRead::parse_symbol_bytes` and `IoRead::parse_symbol_bytes` stop at the
    same bytes (in the model the two tables are literally the same expression). -/
theorem C06_symTerm_eq : ∀ b : UInt8, symTermSlice b = symTermIo b := symTermSlice_eq_io

example : symTermSlice 59 = true ∧ symTermIo 59 = true ∧ symTermSlice 97 = symTermIo 97 := by decide

/-- **C06 (slice/io), `next_value`**: on similar states the slice parser and the stream parser
    return the same value (or the same error code, the same panic, both run out of fuel) and
    end in similar states. -/
theorem C06_slice_io_value (cfg : Cfg) (fuel : Nat) {s₁ s₂ : St} (h : Sim s₁ s₂) :
    ResSim (nextValue cfg fuel s₁) (nextValue cfg fuel s₂) :=
  (resSim_iff _ _).2 ((Gen.nextValue cfg fuel).app _ _ h)

/-- **C06 (slice/io), `next_datum`**: values *and spans* are equal. -/
theorem C06_slice_io_datum (cfg : Cfg) (fuel : Nat) {s₁ s₂ : St} (h : Sim s₁ s₂) :
    ResSim (nextDatum cfg fuel s₁) (nextDatum cfg fuel s₂) :=
  (resSim_iff _ _).2 ((Gen.nextDatum cfg fuel).app _ _ h)

/-- **C06 (slice/io), `expect_end`**. -/
theorem C06_slice_io_expectEnd {s₁ s₂ : St} (h : Sim s₁ s₂) :
    ResSim (expectEnd s₁) (expectEnd s₂) :=
  (resSim_iff _ _).2 (Gen.expectEnd.app _ _ h)

/-- **C06 (slice/io), `from_trait`** (`from_slice` vs `from_reader`). -/
theorem C06_slice_io_fromTrait (cfg : Cfg) {s₁ s₂ : St} (h : Sim s₁ s₂) :
    ResSim (fromTrait cfg s₁) (fromTrait cfg s₂) :=
  (resSim_iff _ _).2 ((Gen.fromTrait cfg).app _ _ h)

/-- **C06 (slice/io), `datum::from_trait`**. -/
theorem C06_slice_io_fromTraitDatum (cfg : Cfg) {s₁ s₂ : St} (h : Sim s₁ s₂) :
    ResSim (fromTraitDatum cfg s₁) (fromTraitDatum cfg s₂) :=
  (resSim_iff _ _).2 ((Gen.fromTraitDatum cfg).app _ _ h)

/-- **C06 (slice/io), call histories**: any sequence of API calls on the two parsers returns
    the same items, up to the positions inside errors. -/
theorem C06_slice_io_history (cfg : Cfg) (ops : List Op) {s₁ s₂ : St} (h : Sim s₁ s₂) :
    HistRel ErrSim (runHistory cfg ops s₁) (runHistory cfg ops s₂) :=
  runHistory_rel cfg ops h

theorem Sim.init (bytes : List UInt8) : Sim (initSt .slice bytes) (initSt .io bytes) :=
  ⟨rfl, rfl, rfl, rfl, rfl, rfl, rfl, rfl⟩

example (cfg : Cfg) :
    ResSim (fromTrait cfg (initSt .slice (asc "(a . b)"))) (fromTrait cfg (initSt .io (asc "(a . b)"))) :=
  C06_slice_io_fromTrait cfg (Sim.init _)
example (cfg : Cfg) :
    ResSim (nextValue cfg 9 (initSt .slice (asc "#(1 2)"))) (nextValue cfg 9 (initSt .io (asc "#(1 2)"))) := by
  -- with the literal fuel in the goal, elaborating a term against it makes Lean run the parser
  generalize 9 = fuel
  exact C06_slice_io_value cfg fuel (Sim.init _)
example (cfg : Cfg) :
    ResSim (nextDatum cfg 9 (initSt .slice (asc "'x"))) (nextDatum cfg 9 (initSt .io (asc "'x"))) := by
  generalize 9 = fuel
  exact C06_slice_io_datum cfg fuel (Sim.init _)
example : ResSim (expectEnd (initSt .slice (asc " ; c"))) (expectEnd (initSt .io (asc " ; c"))) :=
  C06_slice_io_expectEnd (Sim.init _)
example (cfg : Cfg) :
    ResSim (fromTraitDatum cfg (initSt .slice (asc "(a"))) (fromTraitDatum cfg (initSt .io (asc "(a"))) :=
  C06_slice_io_fromTraitDatum cfg (Sim.init _)
example (cfg : Cfg) :
    HistRel ErrSim (runHistory cfg [.nextValue, .expectEnd] (initSt .slice (asc "1 #qz")))
      (runHistory cfg [.nextValue, .expectEnd] (initSt .io (asc "1 #qz"))) :=
  C06_slice_io_history cfg _ (Sim.init _)

/-- **C06 (str/slice), the two unchecked conversions**: `parse_symbol` (`from_utf8_unchecked`
    on the `&str` source, `as_str` on the slice source), at a character boundary and with a
    well-formed scratch prefix: equal results, including error positions. -/
theorem C06_str_slice_parseSymbolBytes (scratch : List UInt8) {s₁ s₂ : St} (h : StrSl s₁ s₂)
    (hv : Utf8.valid s₁.rd.rest = true) (hs : Utf8.valid scratch = true) :
    ResEq (parseSymbolBytes scratch s₁) (parseSymbolBytes scratch s₂) :=
  .of_HRes ((HR.parseSymbolBytes hs (h.rest ▸ hv)).app s₁ s₂ (StrB.of_valid h hv) rfl)

/-- ... and `parse_r6rs_str` (after the opening quote, with an empty scratch buffer). -/
theorem C06_str_slice_parseR6rsStr (fuel : Nat) {s₁ s₂ : St} (h : StrSl s₁ s₂)
    (hv : Utf8.valid s₁.rd.rest = true) :
    ResEq (parseR6rsStr fuel [] s₁) (parseR6rsStr fuel [] s₂) :=
  .of_HRes ((HR.parseR6rsStr fuel [] (Mid.of_valid rfl (h.rest ▸ hv))).app s₁ s₂
    (StrB.of_valid h hv) rfl)

/-- **C06 (str/slice), `next_value`**: on well-formed UTF-8 the `&str` parser (which skips
    validation) and the slice parser return *equal* results, error positions included. -/
theorem C06_str_slice_value (cfg : Cfg) (fuel : Nat) {s₁ s₂ : St} (h : StrSl s₁ s₂)
    (hv : Utf8.valid s₁.rd.rest = true) :
    ResEq (nextValue cfg fuel s₁) (nextValue cfg fuel s₂) :=
  ResEq.of_rel ((PrimsTop.nextValue cfg fuel).app _ _ (StrB.of_valid h hv))

/-- **C06 (str/slice), `next_datum`**. -/
theorem C06_str_slice_datum (cfg : Cfg) (fuel : Nat) {s₁ s₂ : St} (h : StrSl s₁ s₂)
    (hv : Utf8.valid s₁.rd.rest = true) :
    ResEq (nextDatum cfg fuel s₁) (nextDatum cfg fuel s₂) :=
  ResEq.of_rel ((PrimsTop.nextDatum cfg fuel).app _ _ (StrB.of_valid h hv))

/-- **C06 (str/slice), `from_trait`** (`from_str` vs `from_slice`). -/
theorem C06_str_slice_fromTrait (cfg : Cfg) {s₁ s₂ : St} (h : StrSl s₁ s₂)
    (hv : Utf8.valid s₁.rd.rest = true) :
    ResEq (fromTrait cfg s₁) (fromTrait cfg s₂) :=
  ResEq.of_rel ((Gen.fromTrait cfg).app _ _ (StrB.of_valid h hv))

/-- **C06 (str/slice), `datum::from_trait`**. -/
theorem C06_str_slice_fromTraitDatum (cfg : Cfg) {s₁ s₂ : St} (h : StrSl s₁ s₂)
    (hv : Utf8.valid s₁.rd.rest = true) :
    ResEq (fromTraitDatum cfg s₁) (fromTraitDatum cfg s₂) :=
  ResEq.of_rel ((Gen.fromTraitDatum cfg).app _ _ (StrB.of_valid h hv))

/-- **C06 (str/slice), call histories**: any sequence of API calls returns the same items
    (after an error the parser may sit inside a character; the invariant that survives is
    "suffix of well-formed text", which is all the proof needs). -/
theorem C06_str_slice_history (cfg : Cfg) (ops : List Op) {s₁ s₂ : St} (h : StrSl s₁ s₂)
    (hv : Utf8.valid s₁.rd.rest = true) :
    runHistory cfg ops s₁ = runHistory cfg ops s₂ :=
  (runHistory_rel (S := StrB) (E := Eq) cfg ops (StrB.of_valid h hv)).eq

theorem StrSl.init (bytes : List UInt8) : StrSl (initSt .str bytes) (initSt .slice bytes) :=
  ⟨rfl, rfl, rfl⟩

/-- **C06_str_slice**: the `&str` source and the slice source agree, positions included, on
    every sequence of calls, for well-formed input. -/
theorem C06_str_slice (cfg : Cfg) (ops : List Op) (bytes : List UInt8)
    (hv : Utf8.valid bytes = true) :
    runHistory cfg ops (initSt .str bytes) = runHistory cfg ops (initSt .slice bytes) :=
  C06_str_slice_history cfg ops (StrSl.init bytes) hv

example (cfg : Cfg) :
    ResEq (parseSymbolBytes [206, 187] (initSt .str [195, 169, 32])) (parseSymbolBytes [206, 187] (initSt .slice [195, 169, 32])) :=
  C06_str_slice_parseSymbolBytes _ (StrSl.init _) (by decide) (by decide)
example :
    ResEq (parseR6rsStr 9 [] (initSt .str [195, 169, 92, 120, 51, 98, 98, 59, 34]))
      (parseR6rsStr 9 [] (initSt .slice [195, 169, 92, 120, 51, 98, 98, 59, 34])) := by
  generalize 9 = fuel
  exact C06_str_slice_parseR6rsStr fuel (StrSl.init _) (by decide)
example (cfg : Cfg) :
    ResEq (nextValue cfg 9 (initSt .str [40, 206, 187, 41])) (nextValue cfg 9 (initSt .slice [40, 206, 187, 41])) := by
  generalize 9 = fuel
  exact C06_str_slice_value cfg fuel (StrSl.init _) (by decide)
example (cfg : Cfg) :
    ResEq (nextDatum cfg 9 (initSt .str [40, 206, 187, 41])) (nextDatum cfg 9 (initSt .slice [40, 206, 187, 41])) := by
  generalize 9 = fuel
  exact C06_str_slice_datum cfg fuel (StrSl.init _) (by decide)
example (cfg : Cfg) :
    ResEq (fromTrait cfg (initSt .str [34, 195, 169, 34])) (fromTrait cfg (initSt .slice [34, 195, 169, 34])) :=
  C06_str_slice_fromTrait cfg (StrSl.init _) (by decide)
example (cfg : Cfg) :
    ResEq (fromTraitDatum cfg (initSt .str [34, 195, 169, 34])) (fromTraitDatum cfg (initSt .slice [34, 195, 169, 34])) :=
  C06_str_slice_fromTraitDatum cfg (StrSl.init _) (by decide)
example (cfg : Cfg) (ops : List Op) :
    runHistory cfg ops (initSt .str [206, 187, 32, 35, 113]) = runHistory cfg ops (initSt .slice [206, 187, 32, 35, 113]) :=
  C06_str_slice cfg ops _ (by decide)

/-- the bytes of `(λx "é")` -/
example (cfg : Cfg) (ops : List Op) :
    runHistory cfg ops (initSt .str [40, 206, 187, 120, 32, 34, 195, 169, 34, 41]) =
      runHistory cfg ops (initSt .slice [40, 206, 187, 120, 32, 34, 195, 169, 34, 41]) :=
  C06_str_slice_history cfg ops (StrSl.init _) (by decide)

/-- **C06 (faults), primitives**: `peek` and `next` on a reader that fails after the bytes it
    holds either behave as on the fault-free reader or return `Err.io` (never end of input). -/
theorem C06_fault_peek_next {tail : List UInt8} {s₁ s₂ : St} (h : FSim tail s₁ s₂) :
    FRes tail (peek s₁) (peek s₂) ∧ FRes tail (next s₁) (next s₂) :=
  ⟨FRel.peek.app _ _ h, FRel.next.app _ _ h⟩

/-- **C06 (faults), scanners**: whitespace / comment skipping and symbol scanning stop where
    the fault-free reader stops, or run into the cut and report `Err.io`. -/
theorem C06_fault_scanners {tail : List UInt8} (scratch : List UInt8) {s₁ s₂ : St}
    (h : FSim tail s₁ s₂) :
    FRes tail (parseWhitespace s₁) (parseWhitespace s₂) ∧
    FRes tail (parseSymbolBytes scratch s₁) (parseSymbolBytes scratch s₂) ∧
    FRes tail (skipDigits s₁) (skipDigits s₂) :=
  ⟨FRel.parseWhitespace.app _ _ h, (FRel.parseSymbolBytes _).app _ _ h, FRel.skipDigits.app _ _ h⟩

/-- **C06 (faults), tokens**: `parse_token` (same fuel on both sides, called after
    `parse_whitespace` returned the byte `pk`, i.e. the faulty reader still holds a byte):
    the faulty run is the fault-free run or ends in `Err.io`. -/
theorem C06_fault_parseToken {tail : List UInt8} (cfg : Cfg) (fuel : Nat) (pk : UInt8)
    {s₁ s₂ : St} (h : FSim tail s₁ s₂) (hne : s₂.rd.rest ≠ []) :
    FRes tail (parseToken cfg fuel pk s₁) (parseToken cfg fuel pk s₂) :=
  (FRelNE.parseToken cfg fuel pk).app _ _ h hne

/-- **C06 (faults)**: `end_seq`, `expect_end` and byte lists (same fuel). -/
theorem C06_fault_endSeq_expectEnd {tail : List UInt8} (cfg : Cfg) (fuel : Nat) (close : UInt8)
    {s₁ s₂ : St} (h : FSim tail s₁ s₂) :
    FRes tail (endSeq close s₁) (endSeq close s₂) ∧ FRes tail (expectEnd s₁) (expectEnd s₂) ∧
    FRes tail (parseByteList cfg fuel close s₁) (parseByteList cfg fuel close s₂) :=
  ⟨(FRel.endSeq _).app _ _ h, FRel.expectEnd.app _ _ h, (FRel.parseByteList _ _ _).app _ _ h⟩

/-- Reading `FRes`: an `Ok` of the faulty run is the fault-free run's `Ok`; a syntax error of
    the faulty run (e.g. any `Eof*` code) is the fault-free run's error at the same position. -/
theorem C06_fault_reading {tail : List UInt8} {α : Type} {r₁ r₂ : Res α} (h : FRes tail r₁ r₂) :
    (∀ b t, r₂ = .ok b t → ∃ s, r₁ = .ok b s) ∧
    (∀ c l k t, r₂ = .err (.syntax c l k) t → ∃ s, r₁ = .err (.syntax c l k) s) := by
  constructor
  · rintro b t rfl; obtain ⟨s, hs, _⟩ := h.ok_inv; exact ⟨s, hs⟩
  · rintro c l k t rfl; obtain ⟨s, hs, _⟩ := h.syntax_inv; exact ⟨s, hs⟩

example :
    FRes ((asc "ab").drop 1) (peek (initSt .io (asc "ab"))) (peek (initSt .io ((asc "ab").take 1) true)) :=
  (C06_fault_peek_next (FSim.init _ 1)).1
example :
    FRes ((asc "  abc ").drop 4) (parseWhitespace (initSt .io (asc "  abc ")))
      (parseWhitespace (initSt .io ((asc "  abc ").take 4) true)) :=
  (C06_fault_scanners [] (FSim.init _ 4)).1
example (cfg : Cfg) :
    FRes ((asc " )").drop 1) (endSeq 41 (initSt .io (asc " )"))) (endSeq 41 (initSt .io ((asc " )").take 1) true)) :=
  (C06_fault_endSeq_expectEnd cfg 5 41 (FSim.init _ 1)).1
example (cfg : Cfg) :
    ∀ b t, parseToken cfg 10 40 (initSt .io ((asc "(abc def)").take 4) true) = .ok b t →
      ∃ s, parseToken cfg 10 40 (initSt .io (asc "(abc def)")) = .ok b s :=
  (C06_fault_reading (C06_fault_parseToken cfg 10 40 (FSim.init _ 4) (by decide))).1

example (cfg : Cfg) :
    FRes ((asc "(abc def)").drop 4)
      (parseToken cfg 10 40 (initSt .io (asc "(abc def)")))
      (parseToken cfg 10 40 (initSt .io ((asc "(abc def)").take 4) true)) :=
  C06_fault_parseToken cfg 10 40 (FSim.init _ 4) (by decide)

end Parse
end Lexpr
