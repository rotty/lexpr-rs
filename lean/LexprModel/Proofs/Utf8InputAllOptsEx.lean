/-
  Utf8InputAllOptsEx — C17, input clause for whole inputs and histories under every option set:
  the witnesses, evaluated by the kernel.  The hypotheses of `Utf8InputAllOpts`
  and `Utf8InputHist` are satisfiable and the theorems apply; a condition
  on numeric escapes is needed under the Emacs Lisp string syntax.
-/
import LexprModel.Proofs.Utf8InputTokEx
import LexprModel.Proofs.Utf8InputAllEx
import LexprModel.Proofs.Utf8InputHist
namespace Lexpr
namespace Parse
namespace InAllOpts
open Utf8 Utf8.U8 Parse.U8 InLoop InTok InAll Image

/-- `"` C3 `\xa9"` -/
def wHex : List UInt8 := [0x22, 0xC3, 0x5C, 0x78, 0x61, 0x39, 0x22]
/-- `"` C3 `\251"` -/
def wOct : List UInt8 := [0x22, 0xC3, 0x5C, 0x32, 0x35, 0x31, 0x22]
/-- `"` C3 `\ ` A9 `"` -/
def wBlank : List UInt8 := [0x22, 0xC3, 0x5C, 0x20, 0xA9, 0x22]

theorem not_noByteEsc_of {pre post : List UInt8} {c : UInt8} {l : List UInt8}
    (hl : l = pre ++ 92 :: c :: post) (hc : c = 32 ∨ c = 120 ∨ (48 ≤ c ∧ c ≤ 55)) :
    ¬ NoByteEsc l := by
  intro h
  obtain ⟨h1, h2, h3⟩ := h pre c post hl
  rcases hc with hc | hc | hc
  · exact h1 hc
  · exact h2 hc
  · exact h3 hc

/-- **a condition on numeric escapes is needed, `x`**: under the Emacs Lisp options the whole input `"` C3 `\xa9"` —
    no `;`, not UTF-8 — is accepted by `from_slice` and by `from_reader` as the string `é`; it
    fails `NoByteEsc` and nothing else. -/
theorem noByteEsc_needed_hex :
    cfgEl.opts.string = .elisp ∧ (∀ b ∈ wHex, b ≠ (59 : UInt8)) ∧ Utf8.valid wHex = false ∧
    parsesTo cfgEl wHex (.string [0xC3, 0xA9]) = true ∧ acceptsAll cfgEl .io wHex = true ∧
    ¬ NoByteEsc wHex :=
  ⟨r6rs_hypothesis_needed.1, r6rs_hypothesis_needed.2.1, r6rs_hypothesis_needed.2.2.1,
    r6rs_hypothesis_needed.2.2.2, by decide +kernel,
    not_noByteEsc_of (pre := [0x22, 0xC3]) (c := 0x78) (post := [0x61, 0x39, 0x22]) rfl
      (Or.inr (Or.inl rfl))⟩

/-- **a condition on numeric escapes is needed, octal digits**: `"` C3 `\251"` is accepted as `é` -/
theorem noByteEsc_needed_octal :
    (∀ b ∈ wOct, b ≠ (59 : UInt8)) ∧ Utf8.valid wOct = false ∧
    parsesTo cfgEl wOct (.string [0xC3, 0xA9]) = true ∧ acceptsAll cfgEl .io wOct = true ∧
    ¬ NoByteEsc wOct :=
  ⟨by decide, by decide +kernel, by decide +kernel, by decide +kernel,
    not_noByteEsc_of (pre := [0x22, 0xC3]) (c := 0x32) (post := [0x35, 0x31, 0x22]) rfl
      (Or.inr (Or.inr (by decide)))⟩

/-- **The blank**: `"` C3 `\ ` A9 `"` is rejected by both sources with `InvalidUnicodeCodePoint`,
    although it satisfies `NoNumEsc` — the exclusion of the blank in `NoByteEsc` is not needed
    (`C17_whole_input_valid_all_num`). -/
theorem escaped_blank_inside_sequence_rejected_whole :
    (∀ b ∈ wBlank, b ≠ (59 : UInt8)) ∧ Utf8.valid wBlank = false ∧
    rejectsWith cfgEl wBlank .invalidUnicodeCodePoint = true ∧
    acceptsAll cfgEl .slice wBlank = false ∧ acceptsAll cfgEl .io wBlank = false ∧
    noNumEscB wBlank = true ∧ ¬ NoByteEsc wBlank :=
  ⟨by decide, escaped_blank_inside_sequence_rejected.2.2.1,
    escaped_blank_inside_sequence_rejected.2.2.2, by decide +kernel, by decide +kernel,
    by decide +kernel,
    not_noByteEsc_of (pre := [0x22, 0xC3]) (c := 0x20) (post := [0xA9, 0x22]) rfl (Or.inl rfl)⟩

/-- an input with escaped blanks (behind a complete buffer, in front of a lead byte, of a
    backslash and of the closing quote) meets the hypotheses of the `_num` theorems and not those
    of the `NoByteEsc` ones: `("é\ é\ \n\ " a)` -/
def exInputElBlank : List UInt8 :=
  [0x28, 0x22, 0xC3, 0xA9, 0x5C, 0x20, 0xC3, 0xA9, 0x5C, 0x20, 0x5C, 0x6E, 0x5C, 0x20, 0x22, 0x20,
   0x61, 0x29]

theorem exInputElBlank_accepted :
    acceptsAll cfgEl .slice exInputElBlank = true ∧ acceptsAll cfgEl .io exInputElBlank = true ∧
    noNumEscB exInputElBlank = true ∧ noByteEscB exInputElBlank = false := by
  decide +kernel

example : Utf8.valid exInputElBlank = true := by
  obtain ⟨v, S', h⟩ := acceptsAll_spec exInputElBlank_accepted.1
  exact C17_whole_input_valid_all_no_comment_num h (by decide) (by decide)
    (noNumEscB_spec exInputElBlank_accepted.2.2.1)

/-- the third exception of `Utf8InputLoop` (a byte string whose text has a lead byte after a
    backslash: `"\` C3 `\x41"`) needs a numeric escape too, so `NoByteEsc` excludes it -/
theorem noByteEsc_excludes_unibyte :
    Utf8.valid [0x22, 0x5C, 0xC3, 0x5C, 0x78, 0x34, 0x31, 0x22] = false ∧
    parsesTo cfgEl [0x22, 0x5C, 0xC3, 0x5C, 0x78, 0x34, 0x31, 0x22] (.bytes [0xC3, 0x41]) = true ∧
    ¬ NoByteEsc [0x22, 0x5C, 0xC3, 0x5C, 0x78, 0x34, 0x31, 0x22] :=
  ⟨by decide +kernel, unibyte_catchall_raw_byte.2.2,
    not_noByteEsc_of (pre := [0x22, 0x5C, 0xC3]) (c := 0x78) (post := [0x34, 0x31, 0x22]) rfl
      (Or.inr (Or.inl rfl))⟩

/-- an input that meets the hypotheses under the Emacs Lisp options:
    `(λ "é\néé\^a\λ" ?λ ?\n nil)` — raw non-ASCII text in a symbol, a string and a character,
    simple, `\u`, control and catch-all escapes in the string, an escaped character -/
def exInputEl : List UInt8 :=
  [0x28, 0xCE, 0xBB, 0x20, 0x22, 0xC3, 0xA9, 0x5C, 0x6E, 0xC3, 0xA9, 0x5C, 0x75, 0x30, 0x30, 0x65,
   0x39, 0x5C, 0x5E, 0x61, 0x5C, 0xCE, 0xBB, 0x22, 0x20, 0x3F, 0xCE, 0xBB, 0x20, 0x3F, 0x5C, 0x6E,
   0x20, 0x6E, 0x69, 0x6C, 0x29]

theorem exInputEl_accepted :
    acceptsAll cfgEl .slice exInputEl = true ∧ acceptsAll cfgEl .io exInputEl = true ∧
    noByteEscB exInputEl = true ∧ cfgEl.opts.string = .elisp := by
  decide +kernel

/-- … and the theorem applies to it (no `;` in it) -/
example : Utf8.valid exInputEl = true := by
  obtain ⟨v, S', h⟩ := acceptsAll_spec exInputEl_accepted.1
  exact C17_whole_input_valid_all_no_comment h (by decide) (by decide)
    (noByteEscB_spec exInputEl_accepted.2.2.1)

/-- the general form, with a comment: `("é\n" ; é` LF `?λ)` -/
def exInputElComment : List UInt8 :=
  [0x28, 0x22, 0xC3, 0xA9, 0x5C, 0x6E, 0x22, 0x20, 0x3B, 0x20, 0xC3, 0xA9, 0x0A, 0x3F, 0xCE, 0xBB,
   0x29]

theorem exInputElComment_accepted :
    acceptsAll cfgEl .slice exInputElComment = true ∧ noByteEscB exInputElComment = true := by
  decide +kernel

/-- its trivia are well-formed because the whole of it is -/
example : TV exInputElComment := TV.of_valid (by decide +kernel)

/-- under the Emacs Lisp options, ill-formed input that satisfies `NoByteEsc` and has no comment
    is rejected wherever the bad byte stands: in a symbol, in a string (raw, behind a simple
    escape, a truncated sequence closed by the quote), in a character, between tokens, at the
    end -/
example :
    acceptsAll cfgEl .slice [0x28, 0x61, 0xFF, 0x29] = false ∧
    acceptsAll cfgEl .slice [0x22, 0xC3, 0x22] = false ∧
    acceptsAll cfgEl .slice [0x22, 0xC3, 0x5C, 0x6E, 0xA9, 0x22] = false ∧
    acceptsAll cfgEl .slice [0x22, 0x5C, 0xC3, 0x22] = false ∧
    acceptsAll cfgEl .slice [0x3F, 0xC3, 0x28, 0x29] = false ∧
    acceptsAll cfgEl .slice [0x28, 0x61, 0x20, 0x80, 0x20, 0x62, 0x29] = false ∧
    acceptsAll cfgEl .io [0x31, 0x20, 0xFF] = false := by
  decide +kernel

/-- the token theorem applies: the token `"é\né"` under the Emacs Lisp options -/
example : Utf8.valid [0x22, 0xC3, 0xA9, 0x5C, 0x6E, 0xC3, 0xA9, 0x22] = true := by
  have hrun : runTok cfgEl .slice [0x22, 0xC3, 0xA9, 0x5C, 0x6E, 0xC3, 0xA9, 0x22]
      (isString [0xC3, 0xA9, 0x0A, 0xC3, 0xA9]) = true := by decide +kernel
  obtain ⟨pk, tl, tok, S', htext, h, hp⟩ := runTok_spec hrun
  have hpk : pk = 34 := by cases htext; rfl
  subst hpk
  cases tok with
  | string s =>
    simp only [isString, Bool.and_eq_true, beq_iff_eq] at hp
    exact C17_token_input_valid_all h rfl (by decide) (by rw [hp.2]; simp [initSt])
      (fun _ => noByteEscB_spec (by decide))
  | _ => simp [isString] at hp

/-- the hypotheses are met under the Emacs Lisp options (`exInputEl`), slice and stream source,
    and the theorem applies -/
theorem exInputEl_accepted_datum :
    acceptsAllDatum cfgEl .slice exInputEl = true ∧ acceptsAllDatum cfgEl .io exInputEl = true := by
  decide +kernel

example : Utf8.valid exInputEl = true := by
  obtain ⟨d, S', h⟩ := acceptsAllDatum_spec exInputEl_accepted_datum.1
  exact C17_whole_input_valid_datum_all_no_comment h (by decide) (by decide)
    (noByteEscB_spec exInputEl_accepted.2.2.1)

/-- a condition is needed for the datum reader too: the two numeric witnesses are accepted; the
    blank witness is rejected -/
theorem noByteEsc_needed_datum :
    acceptsAllDatum cfgEl .slice wHex = true ∧ acceptsAllDatum cfgEl .slice wOct = true ∧
    acceptsAllDatum cfgEl .slice wBlank = false ∧ acceptsAllDatum cfgEl .io wBlank = false := by
  decide +kernel

/-- the `_num` theorem applies to the input with escaped blanks -/
example : Utf8.valid exInputElBlank = true := by
  obtain ⟨d, S', h⟩ := acceptsAllDatum_spec
    (by decide +kernel : acceptsAllDatum cfgEl .slice exInputElBlank = true)
  exact C17_whole_input_valid_datum_all_no_comment_num h (by decide) (by decide)
    (noNumEscB_spec exInputElBlank_accepted.2.2.1)

/-- two values read by two different kinds of call, then end of input: a non-trivial accepted history
    over a stream, Emacs Lisp string syntax -/
example : (match runAccepted cfgEl [.nextValue, .nextDatum, .expectEnd]
      (initSt .io (asc "(a \"b\") c ")) with
    | some S' => S'.rd.rest == []
    | none => false) = true := by decide +kernel

end InAllOpts
end Parse
end Lexpr
