/-
  The literal arms of `parse_token` on the texts the printer writes, for every parser option set
  and all three sources: `#`-tokens, integers, characters in both syntaxes, strings in both
  syntaxes, and byte vectors.  Conventions as in `TokenRT.lean`.
-/
import LexprModel.Proofs.TokenRT
import LexprModel.Proofs.ElispEscClass
namespace Lexpr
namespace Parse

/-! rows of `fixedTok_reads`, named where they have several users -/

theorem nil_aux (cfg : Cfg) (fuel : Nat) (s : St) (rest : List UInt8)
    (h : s.rd.rest = 35 :: 110 :: 105 :: 108 :: rest) :
    parseToken cfg fuel 35 s = .ok .nil (adv s 4 false) :=
  fixedTok_reads cfg fuel s [35, 110, 105, 108] rest (fixedTok_mem 9 rfl) (by decide) h

theorem true_aux (cfg : Cfg) (fuel : Nat) (s : St) (rest : List UInt8)
    (h : s.rd.rest = 35 :: 116 :: rest) :
    parseToken cfg fuel 35 s = .ok (.bool true) (adv s 2 false) :=
  fixedTok_reads cfg fuel s [35, 116] rest (fixedTok_mem 6 rfl) (by decide) h

theorem false_aux (cfg : Cfg) (fuel : Nat) (s : St) (rest : List UInt8)
    (h : s.rd.rest = 35 :: 102 :: rest) :
    parseToken cfg fuel 35 s = .ok (.bool false) (adv s 2 false) :=
  fixedTok_reads cfg fuel s [35, 102] rest (fixedTok_mem 7 rfl) (by decide) h

theorem u8open_aux (cfg : Cfg) (fuel : Nat) (s : St) (rest : List UInt8)
    (h : s.rd.rest = 35 :: 117 :: 56 :: rest) :
    parseToken cfg fuel 35 s = .ok (.byteVecOpen 41) (adv s 3 false) :=
  fixedTok_reads cfg fuel s [35, 117, 56] rest (fixedTok_mem 11 rfl) (by decide) h

theorem vu8open_aux (cfg : Cfg) (fuel : Nat) (s : St) (rest : List UInt8)
    (h : s.rd.rest = 35 :: 118 :: 117 :: 56 :: rest) :
    parseToken cfg fuel 35 s = .ok (.byteVecOpen 41) (adv s 4 false) :=
  fixedTok_reads cfg fuel s [35, 118, 117, 56] rest (fixedTok_mem 10 rfl) (by decide) h

theorem kw_octothorpe_aux (cfg : Cfg) (fuel : Nat) (name rest : List UInt8) (s : St)
    (ho : cfg.opts.kwOctothorpe = true)
    (hrest : s.rd.rest = 35 :: 58 :: (name ++ rest)) (hF : Follow rest)
    (hf : rest = [] → s.rd.faulty = false)
    (hn : ∀ b ∈ name, symTermSlice b = false)
    (hdot : name ≠ [46])
    (hv : s.rd.mode = .str ∨ Utf8.valid name = true) :
    parseToken cfg fuel 35 s = .ok (.keyword name) (adv s (name.length + 2) (endPeek s rest)) := by
  rw [hash_name_rows cfg fuel 58 _ [] _ (hashTail_colon cfg fuel) name rest s hrest hF hf hn
    (by simpa using hdot) (by simpa using hv), ho]
  rfl

theorem ch_digitChar : ∀ d, d < 16 → ch (Nat.digitChar d) = hexDigitLower d := by decide +kernel

theorem natDigits_lt {n : Nat} (h : n < 10) : natDigits n = [UInt8.ofNat (48 + n)] := by
  have := ch_digitChar n (by omega)
  simp only [natDigits, Nat.toDigits_of_lt_base h, List.map_cons, List.map_nil, this,
    hexDigitLower, h, if_true]

theorem natDigits_ge {n : Nat} (h : 10 ≤ n) :
    natDigits n = natDigits (n / 10) ++ [UInt8.ofNat (48 + n % 10)] := by
  have h10 : n % 10 < 10 := Nat.mod_lt _ (by omega)
  have := ch_digitChar (n % 10) (by omega)
  simp only [natDigits, Nat.toDigits_of_base_le (by omega : 1 < 10) h, List.map_append,
    List.map_cons, List.map_nil, this, hexDigitLower, h10, if_true]

theorem digit_facts : ∀ d, d < 10 →
    digitVal 10 (UInt8.ofNat (48 + d)) = some d ∧ isDigit (UInt8.ofNat (48 + d)) = true ∧
    (UInt8.ofNat (48 + d) == 0 || isDelimiter (UInt8.ofNat (48 + d)) ||
      isSignSubsequent (UInt8.ofNat (48 + d))) = false ∧
    (UInt8.ofNat (48 + d) == 46) = false ∧ (UInt8.ofNat (48 + d) == 35) = false ∧
    (UInt8.ofNat (48 + d) == 45) = false ∧ (UInt8.ofNat (48 + d) == 43) = false := by
  decide +kernel

theorem natDigits_head (n : Nat) : ∃ d tl, d < 10 ∧ natDigits n = UInt8.ofNat (48 + d) :: tl := by
  induction n using Nat.strongRecOn with
  | _ n ih =>
    by_cases h : n < 10
    · exact ⟨n, [], h, natDigits_lt h⟩
    · obtain ⟨d, tl, hd, he⟩ := ih (n / 10) (by omega)
      refine ⟨d, tl ++ [UInt8.ofNat (48 + n % 10)], hd, ?_⟩
      rw [natDigits_ge (by omega), he]; rfl

theorem overflow_false {n : Nat} (h : n ≤ u64Max) : overflow (n / 10) 10 (n % 10) u64Max = false := by
  simp only [overflow, u64Max, ge_iff_le, gt_iff_lt, Bool.and_eq_false_iff, decide_eq_false_iff_not,
    Bool.or_eq_false_iff]
  unfold u64Max at h
  omega

/-- A digit loop reads a number in positional notation, most significant digit first.  `text n`
    is the notation of `n` in base `base` with the digits `dig`.  `first` reads one digit `d` and
    enters the loop `L` with accumulator `d`; a turn of `L` in front of the last digit of `n`
    takes the accumulator from `n / base` to `n` (for `n ≤ bound`: the loops check for overflow).
    Each digit costs one unit of fuel.  Then `first` on the text of `n` arrives at `L` with
    accumulator `n`, behind the text. -/
theorem digit_loop {α : Type} (base : Nat) (hb : 1 < base) (text : Nat → List UInt8)
    (dig : Nat → UInt8) (hlt : ∀ n, n < base → text n = [dig n])
    (hge : ∀ n, base ≤ n → text n = text (n / base) ++ [dig (n % base)])
    (bound : Nat) (first : Nat → St → Res α) (L : Nat → Nat → St → Res α)
    (hfirst : ∀ f n s r, n < base → n ≤ bound → s.rd.rest = dig n :: r →
      first (f + 1) s = L f n (adv s 1 false))
    (hstep : ∀ f n s r, base ≤ n → n ≤ bound → s.rd.rest = dig (n % base) :: r →
      L (f + 1) (n / base) s = L f n (adv s 1 false)) :
    ∀ n, n ≤ bound → ∀ (f : Nat) (s : St) (rest : List UInt8), s.rd.rest = text n ++ rest →
      first (f + (text n).length) s = L f n (adv s (text n).length false) := by
  intro n
  induction n using Nat.strongRecOn with
  | _ n ih =>
    intro hn f s rest hrest
    by_cases h : n < base
    · rw [hlt n h] at hrest ⊢
      exact hfirst f n s rest h hn hrest
    · have hle : base ≤ n := Nat.not_lt.mp h
      have hr' : s.rd.rest = text (n / base) ++ (dig (n % base) :: rest) := by
        rw [hrest, hge n hle, List.append_assoc]; rfl
      rw [hge n hle, List.length_append, List.length_singleton, ← Nat.add_assoc,
        Nat.add_right_comm,
        ih (n / base) (Nat.div_lt_self (by omega) hb) (Nat.le_trans (Nat.div_le_self _ _) hn)
          (f + 1) s _ hr',
        hstep f n _ rest hle hn (by rw [adv_rest, hr', List.drop_left]), adv_adv]

theorem parseNumLiteral_digits (cfg : Cfg) (pos : Bool) (n : Nat) (hn : n ≤ u64Max) :
    ∀ (f : Nat) (s : St) (rest : List UInt8), s.rd.rest = natDigits n ++ rest →
      parseNumLiteral cfg (f + (natDigits n).length) 10 pos s =
        numLoop cfg 10 pos (f + 1) n (adv s (natDigits n).length false) := by
  refine digit_loop 10 (by decide) natDigits (fun d => UInt8.ofNat (48 + d))
    (fun _ => natDigits_lt) (fun _ => natDigits_ge) u64Max
    (fun f s => parseNumLiteral cfg f 10 pos s) (fun f acc s => numLoop cfg 10 pos (f + 1) acc s)
    ?_ ?_ n hn
  · intro f n s r h _ hrest
    obtain ⟨h1, -⟩ := digit_facts n h
    unfold parseNumLiteral
    simp only [bind_apply, next_eq, hrest, h1, ge_iff_le, Nat.not_le.mpr h, if_false]
  · intro f n s r h hn hrest
    have h10 : n % 10 < 10 := Nat.mod_lt _ (by omega)
    obtain ⟨h1, -⟩ := digit_facts (n % 10) h10
    rw [numLoop]
    simp only [bind_apply, peekOrNull, peek_eq, hrest, pure_apply, Option.getD_some, h1,
      ge_iff_le, Nat.not_le.mpr h10, if_false, discard_eq, adv_rest, List.drop_zero, adv_adv,
      Nat.zero_add, overflow_false hn, Bool.false_eq_true, Nat.div_add_mod']

/-- What `parse_num_tail` returns for an integer literal that is followed by a delimiter. -/
def numTailVal (pos : Bool) (sig : Nat) : Number :=
  if pos then Number.ofUnsigned sig
  else if wrappingNeg (asI64 sig) > 0 then Number.ofF64 (F64.neg (F64.ofNat sig))
  else Number.ofSigned (wrappingNeg (asI64 sig))

theorem numLoop_end (cfg : Cfg) (pos : Bool) (f n : Nat) (s : St) (rest : List UInt8)
    (h : s.rd.rest = rest) (hF : Follow rest) (hf : rest = [] → s.rd.faulty = false) :
    numLoop cfg 10 pos (f + 1) n s =
      .ok (numTailVal pos n) (adv s 0 (s.rd.peeked || endPeek s rest)) := by
  obtain ⟨-, -, h3, h4, h5, h6⟩ := follow_facts _ hF.headD
  rw [numLoop]
  simp only [bind_apply, peekOrNull_at s rest h hf, h3]
  unfold parseNumTail
  simp only [bind_apply, peekOrNull_at (adv s 0 (s.rd.peeked || endPeek s rest)) rest
    (by simp [h]) (by simpa using hf), h4, h5, h6]
  simp only [numTailVal]
  cases pos <;> simp <;> split <;> simp

theorem parseNumLiteral_ok (cfg : Cfg) (pos : Bool) (n : Nat) (hn : n ≤ u64Max)
    (fuel : Nat) (s : St) (rest : List UInt8) (hrest : s.rd.rest = natDigits n ++ rest)
    (hfuel : (natDigits n).length ≤ fuel)
    (hF : Follow rest) (hf : rest = [] → s.rd.faulty = false) :
    parseNumLiteral cfg fuel 10 pos s =
      .ok (numTailVal pos n) (adv s (natDigits n).length (endPeek s rest)) := by
  obtain ⟨f, rfl⟩ : ∃ f, fuel = f + (natDigits n).length := ⟨fuel - (natDigits n).length, by omega⟩
  rw [parseNumLiteral_digits cfg pos n hn f s rest hrest]
  rw [numLoop_end cfg pos f n _ rest (by simp [hrest]) hF (by simpa using hf)]
  simp

theorem Follow.delim {rest : List UInt8} (h : Follow rest) :
    ∀ b, rest.head? = some b → isDelimiter b = true :=
  fun b hb => isFollow_isDelimiter b (h.head b hb)

theorem expectNumberEnd_reads (n : Number) (s : St) (rest : List UInt8) (h : s.rd.rest = rest)
    (hd : ∀ b, rest.head? = some b → isDelimiter b = true) (hf : rest = [] → s.rd.faulty = false) :
    expectNumberEnd n s = .ok n (adv s 0 (s.rd.peeked || endPeek s rest)) := by
  unfold expectNumberEnd
  simp only [bind_apply, peek_at s rest h hf]
  cases hh : rest.head? with
  | none => simp
  | some c => simp [hd c hh]

theorem parseNumToken_digits (cfg : Cfg) (pos : Bool) (n : Nat) (hn : n ≤ u64Max)
    (fuel : Nat) (s : St) (rest : List UInt8) (hrest : s.rd.rest = natDigits n ++ rest)
    (hfuel : (natDigits n).length ≤ fuel)
    (hF : Follow rest) (hf : rest = [] → s.rd.faulty = false) :
    parseNumToken cfg fuel pos s =
      .ok (numTailVal pos n) (adv s (natDigits n).length (endPeek s rest)) := by
  unfold parseNumToken
  simp only [bind_apply, parseNumLiteral_ok cfg pos n hn fuel s rest hrest hfuel hF hf]
  rw [expectNumberEnd_reads _ _ rest (by simp [hrest]) hF.delim (by simpa using hf)]
  simp

theorem numTailVal_pos (n : Nat) : numTailVal true n = .pos n := by simp [numTailVal, Number.ofUnsigned]

theorem numTailVal_neg (i : Int) (h1 : i64Min ≤ i) (h2 : i < 0) :
    numTailVal false i.natAbs = .neg i := by
  unfold i64Min at h1
  simp only [numTailVal, Bool.false_eq_true, if_false, asI64, wrappingNeg, i64Min]
  by_cases hm : i.natAbs < 9223372036854775808
  · have e : ((i.natAbs : Nat) : Int) = -i := by omega
    simp only [hm, if_true, e]
    have : ¬ (-i = -9223372036854775808) := by omega
    simp only [beq_iff_eq, this, if_false, Int.neg_neg]
    have : ¬ (i > 0) := by omega
    simp only [this, if_false, Number.ofSigned]
    have : ¬ (i ≥ 0) := by omega
    simp only [this, if_false]
  · have e : ((i.natAbs : Nat) : Int) = 9223372036854775808 := by omega
    have e' : i = -9223372036854775808 := by omega
    simp only [hm, if_false, e]
    simp [Number.ofSigned, e']

theorem natDigits_isDigit (n : Nat) : ∀ b ∈ natDigits n, isDigit b = true := by
  induction n using Nat.strongRecOn with
  | _ n ih =>
    by_cases h : n < 10
    · rw [natDigits_lt h]
      intro b hb
      simp only [List.mem_singleton] at hb
      subst hb
      exact (digit_facts n h).2.1
    · rw [natDigits_ge (by omega)]
      intro b hb
      rcases List.mem_append.mp hb with hb | hb
      · exact ih (n / 10) (by omega) b hb
      · simp only [List.mem_singleton] at hb
        subst hb
        exact (digit_facts (n % 10) (Nat.mod_lt _ (by omega))).2.1

theorem isDigit_facts2 : ∀ b : UInt8, isDigit b = true →
    symTermSlice b = false ∧ b < 0x80 ∧ b ≠ 46 :=
  forall_of_mem isDigit_mem (by decide)

theorem wholeNumber_digits (cfg : Cfg) (n : Nat) (hn : n ≤ u64Max) :
    wholeNumber cfg (natDigits n) = some (.pos n) := by
  unfold wholeNumber
  simp only
  rw [parseNumLiteral_ok cfg true n hn ((natDigits n).length + 1)
    { rd := { mode := .slice, rest := natDigits n } } [] (by simp) (by omega) Follow.nil
    (fun _ => rfl)]
  simp [numTailVal_pos]

/-- The decimal digits of `n ≤ u64::MAX` read as `PosInt(n)` under both settings of the
    leading-digit option: with it the token is first read as a symbol, which the sub-parser then
    recognises as a number. -/
theorem posint_any (cfg : Cfg) (fuel : Nat) (pk : UInt8) (n : Nat) (rest : List UInt8) (s : St)
    (hn : n ≤ u64Max)
    (hrest : s.rd.rest = natDigits n ++ rest) (hpk : (natDigits n).head? = some pk)
    (hfuel : (natDigits n).length ≤ fuel)
    (hF : Follow rest) (hf : rest = [] → s.rd.faulty = false) :
    parseToken cfg fuel pk s =
      .ok (.number (.pos n)) (adv s (natDigits n).length (endPeek s rest)) := by
  have hdig : isDigit pk = true :=
    natDigits_isDigit n pk (List.mem_of_mem_head? hpk)
  rw [parseToken_isDigit cfg fuel pk hdig]
  cases hl : cfg.opts.leadingDigit
  · simp only [Bool.false_eq_true, if_false, numArm, bind_apply,
      parseNumToken_digits cfg true n hn fuel s rest hrest hfuel hF hf, numTailVal_pos, pure_apply]
  · have hnt : ∀ b ∈ natDigits n, symTermSlice b = false :=
      fun b hb => (isDigit_facts2 b (natDigits_isDigit n b hb)).1
    have hval : Utf8.valid (natDigits n) = true :=
      Utf8.U8.valid_ascii (fun b hb => (isDigit_facts2 b (natDigits_isDigit n b hb)).2.1)
    have hdot : natDigits n ≠ [46] := by
      intro h
      have : (46 : UInt8) ∈ natDigits n := by rw [h]; simp
      exact (isDigit_facts2 46 (natDigits_isDigit n 46 this)).2.2 rfl
    simp only [if_true, wholeArm, bind_apply,
      parseSymbol_ok (natDigits n) rest s hrest hF hf hnt hdot (Or.inr hval),
      wholeNumber_digits cfg n hn, pure_apply]

/-- `-` and the decimal digits of any `n`: the integer token `numTailVal false n` (`negint_aux` is
    the case of the digits of a negative `i64`; `-0` gives the integer `0`) -/
theorem minus_digits_token (cfg : Cfg) (fuel n : Nat) (hn : n ≤ u64Max) (rest : List UInt8) (s : St)
    (hrest : s.rd.rest = (45 :: natDigits n) ++ rest)
    (hfuel : (45 :: natDigits n).length ≤ fuel + 1)
    (hF : Follow rest) (hf : rest = [] → s.rd.faulty = false) :
    parseToken cfg fuel 45 s =
      .ok (.number (numTailVal false n)) (adv s (45 :: natDigits n).length (endPeek s rest)) := by
  obtain ⟨d, tl, hd, he⟩ := natDigits_head n
  obtain ⟨-, -, g3, g4, -⟩ := digit_facts d hd
  rw [parseToken_minus]
  unfold parseSignToken
  rw [discard_peekOrNull _ s 45 (natDigits n ++ rest) hrest (by rw [he]; intro h; cases h)]
  have hnxt : (natDigits n ++ rest).head?.getD 0 = UInt8.ofNat (48 + d) := by rw [he]; rfl
  simp only [hnxt, g3, g4, Bool.false_eq_true, if_false, bind_apply]
  rw [parseNumToken_digits cfg false n hn fuel _ rest (by simp [hrest]) (by simpa using hfuel) hF
    (by simpa using hf)]
  simp only [pure_apply, adv_adv, endPeek_adv, List.length_cons, Nat.add_comm]

theorem negint_aux (cfg : Cfg) (fuel : Nat) (i : Int) (rest : List UInt8) (s : St)
    (h1 : i64Min ≤ i) (h2 : i < 0)
    (hrest : s.rd.rest = intDigits i ++ rest)
    (hfuel : (intDigits i).length ≤ fuel + 1)
    (hF : Follow rest) (hf : rest = [] → s.rd.faulty = false) :
    parseToken cfg fuel 45 s =
      .ok (.number (.neg i)) (adv s (intDigits i).length (endPeek s rest)) := by
  have hi : intDigits i = 45 :: natDigits i.natAbs := by
    simp only [intDigits, h2, if_true]; rfl
  rw [hi] at hrest hfuel ⊢
  rw [minus_digits_token cfg fuel i.natAbs (by unfold u64Max; unfold i64Min at h1; omega) rest s
    hrest hfuel hF hf, numTailVal_neg i h1 h2]

theorem natHexLower_lt {n : Nat} (h : n < 16) : natHexLower n = [hexDigitLower n] := by
  simp only [natHexLower, Nat.toDigits_of_lt_base h, List.map_cons, List.map_nil,
    ch_digitChar n h]

theorem natHexLower_ge {n : Nat} (h : 16 ≤ n) :
    natHexLower n = natHexLower (n / 16) ++ [hexDigitLower (n % 16)] := by
  have h16 : n % 16 < 16 := Nat.mod_lt _ (by omega)
  simp only [natHexLower, Nat.toDigits_of_base_le (by omega : 1 < 16) h, List.map_append,
    List.map_cons, List.map_nil, ch_digitChar _ h16]

theorem hexDigit_facts : ∀ d, d < 16 →
    hexVal (hexDigitLower d) = some d ∧ isCharDelimiter (hexDigitLower d) = false := by
  decide +kernel

theorem isScalar_lt {c : Nat} (h : isScalar c = true) : c < maxCp := by
  simp [isScalar] at h; unfold maxCp; omega

theorem charHex_digits (c : Nat) (hc : c < maxCp) :
    ∀ (f : Nat) (s : St) (rest : List UInt8), s.rd.rest = natHexLower c ++ rest →
      decodeR6rsCharHexEscape (f + (natHexLower c).length) 0 true s =
        decodeR6rsCharHexEscape f c false (adv s (natHexLower c).length false) := by
  refine digit_loop 16 (by decide) natHexLower hexDigitLower
    (fun _ => natHexLower_lt) (fun _ => natHexLower_ge) maxCp
    (fun f s => decodeR6rsCharHexEscape f 0 true s)
    (fun f acc s => decodeR6rsCharHexEscape f acc false s) ?_ ?_ c (Nat.le_of_lt hc)
  · intro f n s r h _ hrest
    obtain ⟨h1, h2⟩ := hexDigit_facts n h
    have hlt : ¬ (0 ≥ maxCp) := by decide
    rw [decodeR6rsCharHexEscape]
    simp only [bind_apply, peek_eq, hrest, h2, Bool.false_eq_true, if_false, discard_eq,
      adv_rest, List.drop_zero, h1, adv_adv, hlt, Nat.zero_mul, Nat.zero_add]
  · intro f n s r h hn hrest
    obtain ⟨h1, h2⟩ := hexDigit_facts (n % 16) (Nat.mod_lt _ (by omega))
    have hlt : ¬ (n / 16 ≥ maxCp) := by omega
    rw [decodeR6rsCharHexEscape]
    simp only [bind_apply, peek_eq, hrest, h2, Bool.false_eq_true, if_false, discard_eq,
      adv_rest, List.drop_zero, h1, adv_adv, hlt, Nat.zero_add, Nat.div_add_mod']

theorem charHex_end (f c : Nat) (s : St) (rest : List UInt8)
    (h : s.rd.rest = rest) (hF : Follow rest) (hf : rest = [] → s.rd.faulty = false)
    (first : Bool) :
    decodeR6rsCharHexEscape (f + 1) c first s =
      .ok (if first then none else some c) (adv s 0 (s.rd.peeked || endPeek s rest)) := by
  rw [decodeR6rsCharHexEscape]
  exact peek_bind_follow _ _ s rest h hF hf rfl
    (fun b hb => by simp only [isFollow_isCharDelimiter b hb, if_true])

theorem parseToken_char (cfg : Cfg) (fuel : Nat) (s : St) (r : List UInt8)
    (hrest : s.rd.rest = 35 :: 92 :: r) :
    parseToken cfg fuel 35 s = (parseR6rsChar fuel (adv s 2 false)).map Token.char := by
  rw [parseToken_hash cfg fuel 92 r s hrest]
  show (parseR6rsChar fuel >>= fun c => pure (Token.char c)) (adv s 2 false) = _
  rw [bind_apply]
  cases parseR6rsChar fuel (adv s 2 false) <;> rfl

theorem printable_facts : ∀ c, c < 127 → 32 ≤ c →
    ((UInt8.ofNat c == 120) = decide (c = 120)) ∧ ¬ (UInt8.ofNat c > 127) ∧
    (UInt8.ofNat c).toNat = c := by
  decide +kernel

theorem r6rsChar_printable (f c : Nat) (s : St) (rest : List UInt8) (hp : 32 ≤ c ∧ c < 127)
    (hrest : s.rd.rest = UInt8.ofNat c :: rest)
    (hF : Follow rest) (hf : rest = [] → s.rd.faulty = false) :
    parseR6rsChar (f + 1) s = .ok c (adv s 1 (endPeek s rest)) := by
  obtain ⟨p1, p2, p3⟩ := printable_facts c hp.2 hp.1
  unfold parseR6rsChar
  simp only [bind_apply, nextOrEofChar, next_eq, hrest, pure_apply, p1]
  by_cases hx : c = 120
  · subst hx
    simp only [decide_true, if_true, bind_apply]
    rw [charHex_end f 0 _ rest (by simp [hrest]) hF (by simpa using hf)]
    simp
  · simp only [hx, decide_false, Bool.false_eq_true, if_false, p2, p3]
    rw [peek_bind_follow _ c _ rest (by simp [hrest]) hF (by simpa using hf) rfl
      (fun b hb => by simp only [isFollow_isCharDelimiter b hb, if_true])]
    simp

theorem r6rsChar_hex (f c : Nat) (s : St) (rest : List UInt8) (hc : isScalar c = true)
    (hrest : s.rd.rest = 120 :: (natHexLower c ++ rest))
    (hF : Follow rest) (hf : rest = [] → s.rd.faulty = false) :
    parseR6rsChar (f + 1 + (natHexLower c).length) s =
      .ok c (adv s (1 + (natHexLower c).length) (endPeek s rest)) := by
  unfold parseR6rsChar
  simp only [bind_apply, nextOrEofChar, next_eq, hrest, pure_apply, beq_self_eq_true, if_true]
  rw [charHex_digits c (isScalar_lt hc) (f + 1) _ rest (by simp [hrest])]
  rw [charHex_end f c _ rest (by rw [adv_adv, adv_rest]; exact drop_add_left (by simp [hrest]))
    hF (by simpa using hf)]
  simp [hc]

theorem char_aux (cfg : Cfg) (fuel : Nat) (c : Nat) (rest : List UInt8) (s : St)
    (hc : isScalar c = true)
    (hrest : s.rd.rest = Print.schemeChar c ++ rest)
    (hfuel : (Print.schemeChar c).length ≤ fuel + 2)
    (hF : Follow rest) (hf : rest = [] → s.rd.faulty = false) :
    parseToken cfg fuel 35 s =
      .ok (.char c) (adv s (Print.schemeChar c).length (endPeek s rest)) := by
  unfold Print.schemeChar at hrest hfuel ⊢
  split at hrest
  · rename_i hp
    rw [if_pos hp] at hfuel ⊢
    have hrest' : s.rd.rest = 35 :: 92 :: (UInt8.ofNat c :: rest) := by rw [hrest]; rfl
    rw [parseToken_char cfg fuel s _ hrest']
    obtain ⟨f, rfl⟩ : ∃ f, fuel = f + 1 := ⟨fuel - 1, by simp at hfuel; omega⟩
    rw [r6rsChar_printable f c _ rest hp (by simp [hrest']) hF (by simpa using hf)]
    simp [Res.map]
  · rename_i hp
    rw [if_neg hp] at hfuel ⊢
    have hrest' : s.rd.rest = 35 :: 92 :: (120 :: (natHexLower c ++ rest)) := by rw [hrest]; rfl
    rw [parseToken_char cfg fuel s _ hrest']
    have hl : (asc "#\\x" ++ natHexLower c).length = (natHexLower c).length + 3 := by
      simp [asc]
    rw [hl] at hfuel ⊢
    obtain ⟨f, rfl⟩ : ∃ f, fuel = f + 1 + (natHexLower c).length :=
      ⟨fuel - 1 - (natHexLower c).length, by omega⟩
    rw [r6rsChar_hex f c _ rest hc (by simp [hrest']) hF (by simpa using hf)]
    simp only [Res.map, adv_adv, endPeek_adv]
    rw [show 2 + (1 + (natHexLower c).length) = (natHexLower c).length + 3 by omega]

theorem nextOrEofChar_bind {α} (k : UInt8 → P α) (c : UInt8) (r : List UInt8) (s : St)
    (hrest : s.rd.rest = c :: r) : (nextOrEofChar >>= k) s = k c (adv s 1 false) := by
  simp only [bind_apply, nextOrEofChar, next_eq, hrest, pure_apply]

/-- The twelve bytes `write_elisp_char` writes behind a backslash are none of the escape
    letters: `decode_elisp_char_escape` returns them unchanged. -/
theorem elispCharEscape_listed (fuel : Nat) (b : UInt8) (r : List UInt8) (s : St)
    (hb : b ∈ Print.elispEscapeChars) (hrest : s.rd.rest = b :: r) :
    decodeElispCharEscape fuel s = .ok b.toNat (adv s 1 false) := by
  unfold decodeElispCharEscape
  rw [nextOrEofChar_bind _ b r s hrest]
  rw [show Print.elispEscapeChars = [40, 41, 91, 93, 92, 59, 124, 39, 96, 35, 46, 44] by decide]
    at hb
  simp only [List.mem_cons, List.not_mem_nil, or_false] at hb
  rcases hb with rfl | rfl | rfl | rfl | rfl | rfl | rfl | rfl | rfl | rfl | rfl | rfl <;> rfl

theorem parseElispChar_backslash (f : Nat) (r : List UInt8) (s : St)
    (hrest : s.rd.rest = 92 :: r) :
    parseElispChar f s = decodeElispCharEscape f (adv s 1 false) := by
  unfold parseElispChar
  simp only [bind_apply, next_eq, hrest]
  rfl

theorem elisp_printable_facts : ∀ c, c < 127 → 32 ≤ c →
    (Print.elispEscapeChars.contains (UInt8.ofNat c) = false →
      ¬ (UInt8.ofNat c > 0x7F) ∧
      (UInt8.ofNat c == 40 || UInt8.ofNat c == 41 || UInt8.ofNat c == 91 || UInt8.ofNat c == 93 ||
        UInt8.ofNat c == 59) = false ∧ (UInt8.ofNat c == 92) = false) ∧
    (UInt8.ofNat c).toNat = c := by
  decide +kernel

theorem elispChar_plain (f c : Nat) (s : St) (rest : List UInt8) (hp : 32 ≤ c ∧ c < 127)
    (he : Print.elispEscapeChars.contains (UInt8.ofNat c) = false)
    (hrest : s.rd.rest = UInt8.ofNat c :: rest) :
    parseElispChar f s = .ok c (adv s 1 false) := by
  obtain ⟨p2, p3⟩ := elisp_printable_facts c hp.2 hp.1
  obtain ⟨q1, q2, q3⟩ := p2 he
  unfold parseElispChar
  simp only [bind_apply, next_eq, hrest, q1, q2, q3, if_false, Bool.false_eq_true, p3, pure_apply]

theorem elispChar_escaped (f c : Nat) (s : St) (rest : List UInt8) (hp : 32 ≤ c ∧ c < 127)
    (he : Print.elispEscapeChars.contains (UInt8.ofNat c) = true)
    (hrest : s.rd.rest = 92 :: UInt8.ofNat c :: rest) :
    parseElispChar f s = .ok c (adv s 2 false) := by
  obtain ⟨-, p3⟩ := elisp_printable_facts c hp.2 hp.1
  rw [parseElispChar_backslash f _ s hrest,
    elispCharEscape_listed f (UInt8.ofNat c) rest (adv s 1 false) (List.contains_iff_mem.mp he)
      (by simp [hrest]),
    adv_adv, p3]

theorem elispHex_digits (c : Nat) (hc : c < maxCp) :
    ∀ (f : Nat) (s : St) (rest : List UInt8), s.rd.rest = natHexLower c ++ rest →
      decodeElispHexEscape (f + (natHexLower c).length) 0 s =
        decodeElispHexEscape f c (adv s (natHexLower c).length false) := by
  have hstep : ∀ f acc d (s : St) r, d < 16 → ¬ acc ≥ maxCp → s.rd.rest = hexDigitLower d :: r →
      decodeElispHexEscape (f + 1) acc s = decodeElispHexEscape f (acc * 16 + d) (adv s 1 false) := by
    intro f acc d s r hd hacc hrest
    obtain ⟨h1, -⟩ := hexDigit_facts d hd
    rw [decodeElispHexEscape]
    simp only [bind_apply, peek_eq, hrest, h1, discard_eq, adv_rest, List.drop_zero, adv_adv,
      hacc, if_false, Nat.zero_add]
  refine digit_loop 16 (by decide) natHexLower hexDigitLower
    (fun _ => natHexLower_lt) (fun _ => natHexLower_ge) maxCp
    (fun f s => decodeElispHexEscape f 0 s) (fun f acc s => decodeElispHexEscape f acc s)
    ?_ ?_ c (Nat.le_of_lt hc)
  · intro f n s r h _ hrest
    simpa using hstep f 0 n s r h (by decide) hrest
  · intro f n s r h hn hrest
    simpa [Nat.div_add_mod'] using
      hstep f (n / 16) (n % 16) s r (Nat.mod_lt _ (by omega)) (by unfold maxCp at hn ⊢; omega) hrest

theorem elispHex_end (f c : Nat) (s : St) (rest : List UInt8)
    (h : s.rd.rest = rest) (hF : Follow rest) (hf : rest = [] → s.rd.faulty = false) :
    decodeElispHexEscape (f + 1) c s = .ok c (adv s 0 (s.rd.peeked || endPeek s rest)) := by
  rw [decodeElispHexEscape]
  exact peek_bind_follow _ c s rest h hF hf rfl
    (fun b hb => by simp only [(follow_not_hex b hb).1])

theorem elispChar_hex (f c : Nat) (s : St) (rest : List UInt8) (hc : isScalar c = true)
    (hrest : s.rd.rest = 92 :: 120 :: (natHexLower c ++ rest))
    (hF : Follow rest) (hf : rest = [] → s.rd.faulty = false) :
    parseElispChar (f + 1 + (natHexLower c).length) s =
      .ok c (adv s (2 + (natHexLower c).length) (endPeek s rest)) := by
  have hx : decodeElispCharEscape (f + 1 + (natHexLower c).length) (adv s 1 false) =
      (decodeElispHexEscape (f + 1 + (natHexLower c).length) 0 >>= asEscapedChar)
        (adv s 2 false) := by
    unfold decodeElispCharEscape
    rw [nextOrEofChar_bind _ 120 (natHexLower c ++ rest) (adv s 1 false) (by simp [hrest]),
      adv_adv]
    simp (config := { decide := true }) only [↓reduceIte]
  rw [parseElispChar_backslash _ _ s hrest, hx, bind_apply,
    elispHex_digits c (isScalar_lt hc) (f + 1) _ rest (by simp [hrest]),
    elispHex_end f c _ rest (by rw [adv_adv, adv_rest]; exact drop_add_left (by simp [hrest]))
      hF (by simpa using hf)]
  have hsur : Utf8.isSurrogate c = false := by
    unfold isScalar at hc
    simp only [Bool.and_eq_true, Bool.not_eq_true'] at hc
    exact hc.2
  simp [asEscapedChar, asChar, hc, hsur]

theorem elispChar_aux (cfg : Cfg) (fuel : Nat) (c : Nat) (rest : List UInt8) (s : St)
    (ho : cfg.opts.char = .elisp) (hc : isScalar c = true)
    (hrest : s.rd.rest = Print.elispChar c ++ rest)
    (hfuel : (Print.elispChar c).length ≤ fuel + 2)
    (hF : Follow rest) (hf : rest = [] → s.rd.faulty = false) :
    ∃ p, parseToken cfg fuel 63 s = .ok (.char c) (adv s (Print.elispChar c).length p) := by
  rw [parseToken_qmark cfg fuel ho, charArm]
  unfold Print.elispChar at hrest hfuel ⊢
  by_cases hp : 32 ≤ c ∧ c < 127
  · rw [if_pos hp] at hrest hfuel ⊢
    cases he : Print.elispEscapeChars.contains (UInt8.ofNat c)
    · simp only [he, Bool.false_eq_true, if_false] at hrest ⊢
      have hrest' : s.rd.rest = 63 :: UInt8.ofNat c :: rest := by rw [hrest]; rfl
      refine ⟨false, ?_⟩
      simp only [bind_apply, discard_eq, hrest']
      rw [elispChar_plain fuel c _ rest hp he (by simp [hrest'])]
      simp
    · simp only [he, if_true] at hrest ⊢
      have hrest' : s.rd.rest = 63 :: 92 :: UInt8.ofNat c :: rest := by rw [hrest]; rfl
      refine ⟨false, ?_⟩
      simp only [bind_apply, discard_eq, hrest']
      rw [elispChar_escaped fuel c _ rest hp he (by simp [hrest'])]
      simp
  · rw [if_neg hp] at hrest hfuel ⊢
    have hrest' : s.rd.rest = 63 :: 92 :: 120 :: (natHexLower c ++ rest) := by rw [hrest]; rfl
    have hl : (asc "?\\x" ++ natHexLower c).length = (natHexLower c).length + 3 := by
      simp [asc]
    rw [hl] at hfuel ⊢
    obtain ⟨f, rfl⟩ : ∃ f, fuel = f + 1 + (natHexLower c).length :=
      ⟨fuel - 1 - (natHexLower c).length, by omega⟩
    refine ⟨endPeek s rest, ?_⟩
    simp only [bind_apply, discard_eq, hrest']
    rw [elispChar_hex f c _ rest hc (by simp [hrest']) hF (by simpa using hf)]
    simp only [pure_apply, adv_adv, endPeek_adv]
    rw [show 1 + (2 + (natHexLower c).length) = (natHexLower c).length + 3 by omega]

section Strings
open Print

theorem nextOrEof_bind {α} (k : UInt8 → P α) (c : UInt8) (r : List UInt8) (s : St)
    (hrest : s.rd.rest = c :: r) : (nextOrEof >>= k) s = k c (adv s 1 false) := by
  simp only [bind_apply, nextOrEof, next_eq, hrest, pure_apply]

/-- the characters `escapeText` writes around the hexadecimal digits of a control byte -/
theorem escTexts : ch '\\' = 92 ∧ ch 'x' = 120 ∧ ch ';' = 59 ∧ ch 'u' = 117 ∧ ch '0' = 48 := by
  decide +kernel

/-- The seven classes written as a backslash and one letter, in both string syntaxes: the byte
    of the class and the letter. -/
def escPair : EscClass → Option (UInt8 × UInt8)
  | .alert => some (7, 97)
  | .backspace => some (8, 98)
  | .tab => some (9, 116)
  | .lineFeed => some (10, 110)
  | .carriageReturn => some (13, 114)
  | .quote => some (34, 34)
  | .reverseSolidus => some (92, 92)
  | .none | .control => none

/-- the seven letter escapes apart, a byte is plain or a control character -/
theorem escPair_eq_none {k : EscClass} (h : escPair k = none) : k = .none ∨ k = .control := by
  cases k <;> first | exact .inl rfl | exact .inr rfl | cases h

/-- The escape classes byte by byte (one sweep): a class with a pair belongs to the byte of the
    pair; a byte of class `none` is neither `"` nor `\`; a control byte is written with two
    upper-case hexadecimal digits, neither of which is `;`, and is its own UTF-8 encoding. -/
theorem escClass_table : ∀ b : UInt8,
    (∀ p ∈ escPair (escClass b), p.1 = b) ∧ (escClass b = .none → b ≠ 34 ∧ b ≠ 92) ∧
    (escClass b = .control →
      hexVal (hexDigitUpper (b.toNat / 16)) = some (b.toNat / 16) ∧
      hexDigitUpper (b.toNat / 16) ≠ 59 ∧
      hexVal (hexDigitUpper (b.toNat % 16)) = some (b.toNat % 16) ∧
      hexDigitUpper (b.toNat % 16) ≠ 59 ∧
      isScalar b.toNat = true ∧ Utf8.encode b.toNat = [b]) := by
  apply byte_forall; decide +kernel

theorem escClass_pair (b : UInt8) : ∀ p ∈ escPair (escClass b), p.1 = b := (escClass_table b).1

theorem escClass_inv5 : ∀ b : UInt8, escClass b = .none → b ≠ 34 ∧ b ≠ 92 :=
  fun b => (escClass_table b).2.1

theorem escapeText_pair (syn : StringSyntax) (b : UInt8) (k : EscClass) (p : UInt8 × UInt8)
    (h : escPair k = some p) : escapeText syn b k = [92, p.2] := by
  cases k <;> cases h <;> rfl

theorem escapeText_length_pos (syn : StringSyntax) (b : UInt8) :
    1 ≤ (escapeText syn b (escClass b)).length := by
  cases hp : escPair (escClass b) with
  | some p => rw [escapeText_pair syn b _ p hp]; exact Nat.le_add_left 1 1
  | none => rcases escPair_eq_none hp with hk | hk <;> rw [hk] <;> cases syn <;> simp [escapeText]

theorem escapeStr_cons (syn : StringSyntax) (b : UInt8) (bs : List UInt8) :
    escapeStr syn (b :: bs) = escapeText syn b (escClass b) ++ escapeStr syn bs := by
  simp [escapeStr]

theorem escapeStr_length_ge (syn : StringSyntax) (bytes : List UInt8) :
    bytes.length ≤ (escapeStr syn bytes).length := by
  induction bytes with
  | nil => exact Nat.zero_le _
  | cons b bs ih =>
    have := escapeText_length_pos syn b
    rw [escapeStr_cons, List.length_append, List.length_cons]; omega

theorem parseR6rsEscape_pair (k : EscClass) (p : UInt8 × UInt8) (h : escPair k = some p)
    (f : Nat) (acc r : List UInt8) (s : St) (hrest : s.rd.rest = p.2 :: r) :
    parseR6rsEscape f acc s = .ok (acc ++ [p.1]) (adv s 1 false) := by
  unfold parseR6rsEscape
  rw [nextOrEof_bind _ p.2 r s hrest]
  cases k <;> cases h <;> rfl

theorem r6rsHexEscape_digit (f n d : Nat) (c : UInt8) (r : List UInt8) (s : St)
    (hrest : s.rd.rest = c :: r) (hc : c ≠ 59) (hv : hexVal c = some d) (hn : ¬ n ≥ maxCp) :
    decodeR6rsHexEscape (f + 1) n s = decodeR6rsHexEscape f (n * 16 + d) (adv s 1 false) := by
  rw [decodeR6rsHexEscape]
  simp only [bind_apply, nextOrEof, next_eq, hrest, pure_apply, beq_iff_eq, hc, if_false, hv, hn]

theorem r6rsHexEscape_end (f n : Nat) (r : List UInt8) (s : St) (hrest : s.rd.rest = 59 :: r) :
    decodeR6rsHexEscape (f + 1) n s = .ok n (adv s 1 false) := by
  rw [decodeR6rsHexEscape]
  simp only [bind_apply, nextOrEof, next_eq, hrest, pure_apply, beq_self_eq_true, if_true]

theorem parseR6rsEscape_x (f : Nat) (acc r : List UInt8) (s : St) (hrest : s.rd.rest = 120 :: r) :
    parseR6rsEscape f acc s =
      (decodeR6rsHexEscape f 0 >>= fun n =>
        if isScalar n then pure (acc ++ Utf8.encode n) else errAt .invalidUnicodeCodePoint)
        (adv s 1 false) := by
  unfold parseR6rsEscape
  rw [nextOrEof_bind _ 120 r s hrest]
  simp (config := { decide := true }) only [↓reduceIte]

/-- One source byte: `parse_r6rs_str` reads back what `format_escaped_str_contents` wrote. -/
theorem r6rsStr_step (b : UInt8) (f : Nat) (acc r : List UInt8) (s : St)
    (hrest : s.rd.rest = escapeText .r6rs b (escClass b) ++ r)
    (hfuel : (escapeText .r6rs b (escClass b)).length ≤ f + 1) :
    parseR6rsStr (f + 1) acc s =
      parseR6rsStr f (acc ++ [b]) (adv s (escapeText .r6rs b (escClass b)).length false) := by
  have h92 : ((92 : UInt8) == 34) = false := by decide
  rw [parseR6rsStr]
  cases hp : escPair (escClass b) with
  | some p =>
    rw [escapeText_pair .r6rs b _ p hp] at hrest ⊢
    simp only [bind_apply, nextOrEof, next_eq, hrest, List.cons_append, List.nil_append,
      pure_apply, h92, Bool.false_eq_true, if_false, beq_self_eq_true, if_true,
      parseR6rsEscape_pair _ p hp (f + 1) acc r (adv s 1 false) (by simp [hrest]), adv_adv,
      escClass_pair b p hp]
    rfl
  | none =>
    rcases escPair_eq_none hp with hcls | hcls <;> rw [hcls] at hrest hfuel ⊢
    · obtain ⟨h34, h92'⟩ := escClass_inv5 b hcls
      simp only [escapeText, List.cons_append, List.nil_append] at hrest
      simp only [bind_apply, nextOrEof, next_eq, hrest, pure_apply, beq_iff_eq, h34, h92',
        if_false, escapeText, List.length_singleton]
    · -- `\xHH;`
      obtain ⟨t8, t9, t10, -⟩ := escTexts
      obtain ⟨h1, h2, h3, h4, h5, h6⟩ := (escClass_table b).2.2 hcls
      simp only [escapeText, List.cons_append, List.nil_append, t8, t9, t10] at hrest hfuel ⊢
      obtain ⟨f', rfl⟩ : ∃ f', f = f' + 4 := ⟨f - 4, by simp at hfuel; omega⟩
      have hq : ¬ 0 * 16 + b.toNat / 16 ≥ maxCp := by
        have := UInt8.toNat_lt b; unfold maxCp; omega
      simp only [bind_apply, nextOrEof, next_eq, hrest, pure_apply, h92, Bool.false_eq_true,
        if_false, beq_self_eq_true, if_true]
      generalize hexDigitUpper (b.toNat / 16) = d1 at hrest h1 h2
      generalize hexDigitUpper (b.toNat % 16) = d2 at hrest h3 h4
      rw [parseR6rsEscape_x _ acc (d1 :: d2 :: 59 :: r) (adv s 1 false) (by simp [hrest]),
        bind_apply, adv_adv,
        r6rsHexEscape_digit _ 0 _ d1 (d2 :: 59 :: r) _ (by simp [hrest]) h2 h1 (by decide),
        r6rsHexEscape_digit _ _ _ d2 (59 :: r) _ (by simp [hrest]) h4 h3 hq,
        r6rsHexEscape_end _ _ r _ (by simp [hrest])]
      simp only [Nat.zero_mul, Nat.zero_add, Nat.div_add_mod', h5, h6, if_true, pure_apply, adv_adv]
      rfl

theorem r6rsStr_loop (bytes : List UInt8) :
    ∀ (acc : List UInt8) (fuel : Nat) (s : St) (rest : List UInt8),
      s.rd.rest = escapeStr .r6rs bytes ++ 34 :: rest →
      (escapeStr .r6rs bytes).length + 1 ≤ fuel →
      parseR6rsStr fuel acc s =
        finishStr false (acc ++ bytes) (adv s ((escapeStr .r6rs bytes).length + 1) false) := by
  induction bytes with
  | nil =>
    intro acc fuel s rest hrest hfuel
    obtain ⟨f, rfl⟩ : ∃ f, fuel = f + 1 := ⟨fuel - 1, by omega⟩
    simp only [escapeStr, List.flatMap_nil, List.nil_append] at hrest
    rw [parseR6rsStr]
    simp [nextOrEof, next_eq, hrest, escapeStr]
  | cons b bs ih =>
    intro acc fuel s rest hrest hfuel
    rw [escapeStr_cons] at hrest hfuel ⊢
    have hpos := escapeText_length_pos .r6rs b
    simp only [List.length_append] at hfuel ⊢
    obtain ⟨f, rfl⟩ : ∃ f, fuel = f + 1 := ⟨fuel - 1, by omega⟩
    rw [r6rsStr_step b f acc (escapeStr .r6rs bs ++ 34 :: rest) s (by rw [hrest]; simp)
      (by omega)]
    rw [ih (acc ++ [b]) f _ rest (by rw [adv_rest, hrest]; simp) (by omega)]
    simp [Nat.add_assoc]

theorem string_r6rs_aux (cfg : Cfg) (fuel : Nat) (bytes rest : List UInt8) (s : St)
    (ho : cfg.opts.string = .r6rs)
    (hrest : s.rd.rest = 34 :: (escapeStr .r6rs bytes ++ 34 :: rest))
    (hfuel : (escapeStr .r6rs bytes).length + 1 ≤ fuel)
    (hv : s.rd.mode = .str ∨ Utf8.valid bytes = true) :
    parseToken cfg fuel 34 s =
      .ok (.string bytes) (adv s ((escapeStr .r6rs bytes).length + 2) false) := by
  rw [parseToken_dquote, ho, stringArm]
  simp only [bind_apply, discard_eq, hrest]
  rw [r6rsStr_loop bytes [] fuel _ rest (by simp [hrest]) hfuel]
  simp only [finishStr, bind_apply, getMode_eq, adv_mode, List.nil_append, adv_adv]
  rcases hv with hm | hv
  · simp [hm]; congr 1; omega
  · simp [hv]; congr 1; omega

theorem parseElispEscape_pair (k : EscClass) (p : UInt8 × UInt8) (h : escPair k = some p)
    (f : Nat) (acc r : List UInt8) (s : St) (hrest : s.rd.rest = p.2 :: r) :
    parseElispEscape f acc s = .ok (acc ++ [p.1], .indeterminate) (adv s 1 false) := by
  unfold parseElispEscape
  rw [nextOrEof_bind _ p.2 r s hrest]
  cases k <;> cases h <;> rfl

theorem elispUniEscape_digit (k n d : Nat) (c : UInt8) (r : List UInt8) (s : St)
    (hrest : s.rd.rest = c :: r) (hv : hexVal c = some d) (hn : ¬ n ≥ maxCp) :
    decodeElispUniEscape (k + 1) n s = decodeElispUniEscape k (n * 16 + d) (adv s 1 false) := by
  rw [decodeElispUniEscape]
  simp only [bind_apply, nextOrEof, next_eq, hrest, pure_apply, hv, hn, if_false]

theorem parseElispEscape_u (f : Nat) (acc r : List UInt8) (s : St) (hrest : s.rd.rest = 117 :: r) :
    parseElispEscape f acc s =
      (decodeElispUniEscape 4 0 >>= elispUniCharEscape acc) (adv s 1 false) := by
  rw [parseElispEscape_eq, nextOrEof_bind _ 117 r s hrest, show escArmClass 117 = .u4 by decide]
  rfl

/-- One source byte: `parse_elisp_str` reads back what `format_escaped_str_contents` wrote with
    the Emacs Lisp escapes; the unibyte flag stays clear. -/
theorem elispStr_step (b : UInt8) (f : Nat) (acc r : List UInt8) (mb na : Bool) (s : St)
    (hrest : s.rd.rest = escapeText .elisp b (escClass b) ++ r) :
    ∃ mb' na', parseElispStr (f + 1) acc false mb na s =
      parseElispStr f (acc ++ [b]) false mb' na'
        (adv s (escapeText .elisp b (escClass b)).length false) := by
  have h92 : ((92 : UInt8) == 34) = false := by decide
  rw [parseElispStr]
  cases hp : escPair (escClass b) with
  | some p =>
    rw [escapeText_pair .elisp b _ p hp] at hrest ⊢
    refine ⟨mb, na, ?_⟩
    simp only [bind_apply, nextOrEof, next_eq, hrest, List.cons_append, List.nil_append,
      pure_apply, h92, Bool.false_eq_true, if_false, beq_self_eq_true, if_true,
      parseElispEscape_pair _ p hp (f + 1) acc r (adv s 1 false) (by simp [hrest]), adv_adv,
      escClass_pair b p hp]
    rfl
  | none =>
    rcases escPair_eq_none hp with hcls | hcls <;> rw [hcls] at hrest ⊢
    · obtain ⟨h34, h92'⟩ := escClass_inv5 b hcls
      simp only [escapeText, List.cons_append, List.nil_append] at hrest
      refine ⟨mb, na || decide (b > 127), ?_⟩
      simp only [bind_apply, nextOrEof, next_eq, hrest, pure_apply, beq_iff_eq, h34, h92',
        if_false, escapeText, List.length_singleton]
    · -- `\u00HH`
      obtain ⟨t8, -, -, t11, t12⟩ := escTexts
      obtain ⟨h1, -, h3, -, h5, h6⟩ := (escClass_table b).2.2 hcls
      simp only [escapeText, List.cons_append, List.nil_append, t8, t11, t12] at hrest ⊢
      have hq : ¬ (0 * 16 + 0) * 16 + 0 ≥ maxCp := by decide
      have hq' : ¬ ((0 * 16 + 0) * 16 + 0) * 16 + b.toNat / 16 ≥ maxCp := by
        have := UInt8.toNat_lt b; unfold maxCp; omega
      generalize hexDigitUpper (b.toNat / 16) = d1 at hrest h1
      generalize hexDigitUpper (b.toNat % 16) = d2 at hrest h3
      refine ⟨true, na, ?_⟩
      simp only [bind_apply, nextOrEof, next_eq, hrest, pure_apply, h92, Bool.false_eq_true,
        if_false, beq_self_eq_true, if_true]
      rw [parseElispEscape_u _ acc (48 :: 48 :: d1 :: d2 :: r) (adv s 1 false) (by simp [hrest]),
        bind_apply, adv_adv,
        elispUniEscape_digit 3 0 0 48 (48 :: d1 :: d2 :: r) _ (by simp [hrest]) (by decide)
          (by decide),
        elispUniEscape_digit 2 _ 0 48 (d1 :: d2 :: r) _ (by simp [hrest]) (by decide) (by decide),
        elispUniEscape_digit 1 _ _ d1 (d2 :: r) _ (by simp [hrest]) h1 hq,
        elispUniEscape_digit 0 _ _ d2 r _ (by simp [hrest]) h3 hq']
      simp only [decodeElispUniEscape, pure_apply, Nat.zero_mul, Nat.zero_add, Nat.div_add_mod',
        elispUniCharEscape, h5, h6, if_true, adv_adv]
      rfl

/-- The loop of `parse_elisp_str` over the escaped text of `bytes` and the closing quote: no
    unibyte escape occurs, so the result is the multibyte string that `as_str` validates. -/
theorem elispStr_loop (bytes : List UInt8) :
    ∀ (acc : List UInt8) (mb na : Bool) (fuel : Nat) (s : St) (rest : List UInt8),
      s.rd.rest = escapeStr .elisp bytes ++ 34 :: rest →
      bytes.length + 1 ≤ fuel →
      parseElispStr fuel acc false mb na s =
        (finishStr true (acc ++ bytes) >>= fun x => pure (ElispStr.multibyte x))
          (adv s ((escapeStr .elisp bytes).length + 1) false) := by
  induction bytes with
  | nil =>
    intro acc mb na fuel s rest hrest hfuel
    obtain ⟨f, rfl⟩ : ∃ f, fuel = f + 1 := ⟨fuel - 1, by omega⟩
    simp only [escapeStr, List.flatMap_nil, List.nil_append] at hrest
    rw [parseElispStr]
    simp [nextOrEof, next_eq, hrest, escapeStr]
  | cons b bs ih =>
    intro acc mb na fuel s rest hrest hfuel
    rw [escapeStr_cons] at hrest ⊢
    simp only [List.length_cons] at hfuel
    obtain ⟨f, rfl⟩ : ∃ f, fuel = f + 1 := ⟨fuel - 1, by omega⟩
    obtain ⟨mb', na', hstep⟩ := elispStr_step b f acc (escapeStr .elisp bs ++ 34 :: rest) mb na s
      (by rw [hrest]; simp)
    rw [hstep]
    rw [ih (acc ++ [b]) mb' na' f _ rest (by rw [adv_rest, hrest]; simp) (by omega)]
    simp [Nat.add_assoc]

theorem string_elisp_aux (cfg : Cfg) (fuel : Nat) (bytes rest : List UInt8) (s : St)
    (ho : cfg.opts.string = .elisp)
    (hrest : s.rd.rest = 34 :: (escapeStr .elisp bytes ++ 34 :: rest))
    (hfuel : bytes.length + 1 ≤ fuel)
    (hv : Utf8.valid bytes = true) :
    parseToken cfg fuel 34 s =
      .ok (.string bytes) (adv s ((escapeStr .elisp bytes).length + 2) false) := by
  rw [parseToken_dquote, ho, stringArm]
  simp only [bind_apply, discard_eq, hrest]
  rw [elispStr_loop bytes [] false false fuel _ rest (by simp [hrest]) hfuel]
  simp only [finishStr, bind_apply, getMode_eq, adv_mode, List.nil_append, adv_adv]
  simp [hv]; congr 1; omega

theorem octal_facts : ∀ b : UInt8,
    (48 ≤ octalDigit (b.toNat / 64 % 8) && octalDigit (b.toNat / 64 % 8) ≤ 55) = true ∧
    octVal (octalDigit (b.toNat / 8 % 8)) = some (b.toNat / 8 % 8) ∧
    octVal (octalDigit (b.toNat % 8)) = some (b.toNat % 8) ∧
    (((octalDigit (b.toNat / 64 % 8)).toNat - 48) * 8 + b.toNat / 8 % 8) * 8 + b.toNat % 8
      = b.toNat := by
  apply byte_forall; decide +kernel

theorem parseElispEscape_octal (f : Nat) (acc : List UInt8) (c : UInt8) (r : List UInt8) (s : St)
    (hc : (48 ≤ c && c ≤ 55) = true) (hrest : s.rd.rest = c :: r) :
    parseElispEscape f acc s =
      (decodeElispOctalEscape f (c.toNat - 48) >>= elispCharEscape acc) (adv s 1 false) := by
  rw [parseElispEscape_eq, nextOrEof_bind _ c r s hrest, escArmClass_octal c hc]
  rfl

theorem elispOctalEscape_digit (f n d : Nat) (c : UInt8) (r : List UInt8) (s : St)
    (hrest : s.rd.rest = c :: r) (hv : octVal c = some d) (hn : ¬ n ≥ maxCp) :
    decodeElispOctalEscape (f + 1) n s = decodeElispOctalEscape f (n * 8 + d) (adv s 1 false) := by
  rw [decodeElispOctalEscape]
  simp only [bind_apply, peek_eq, hrest, hv, discard_eq, adv_rest, List.drop_zero, hn, if_false,
    adv_adv]

theorem elispOctalEscape_end (f n : Nat) (x : UInt8) (r : List UInt8) (s : St)
    (hrest : s.rd.rest = x :: r) (hx : octVal x = none) :
    decodeElispOctalEscape (f + 1) n s = .ok n (adv s 0 (s.rd.peeked || s.rd.mode == .io)) := by
  rw [decodeElispOctalEscape]
  simp only [bind_apply, peek_eq, hrest, hx, pure_apply]

/-- One `\ooo` escape followed by a byte that is not an octal digit: one byte is appended and
    the unibyte flag is set. -/
theorem elispBytes_step (b : UInt8) (f : Nat) (acc : List UInt8) (ub : Bool) (x : UInt8)
    (r : List UInt8) (s : St)
    (hrest : s.rd.rest = 92 :: octalDigit (b.toNat / 64 % 8) :: octalDigit (b.toNat / 8 % 8) ::
      octalDigit (b.toNat % 8) :: x :: r)
    (hx : octVal x = none) :
    parseElispStr (f + 3) acc ub false false s =
      parseElispStr (f + 2) (acc ++ [b]) true false false (adv s 4 (s.rd.mode == .io)) := by
  obtain ⟨o1, o2, o3, o4⟩ := octal_facts b
  generalize octalDigit (b.toNat / 64 % 8) = d1 at hrest o1 o4
  generalize octalDigit (b.toNat / 8 % 8) = d2 at hrest o2
  generalize octalDigit (b.toNat % 8) = d3 at hrest o3
  have hd1 : d1.toNat - 48 < 8 := by
    simp only [Bool.and_eq_true, decide_eq_true_eq] at o1
    have h2 : d1.toNat ≤ 55 := by simpa using UInt8.le_iff_toNat_le.mp o1.2
    omega
  have hb := UInt8.toNat_lt b
  have hm1 : ¬ (d1.toNat - 48 ≥ maxCp) := by unfold maxCp; omega
  have hm2 : ¬ ((d1.toNat - 48) * 8 + b.toNat / 8 % 8 ≥ maxCp) := by unfold maxCp; omega
  have hsc : isScalar b.toNat = true := by
    simp [isScalar, Utf8.isSurrogate]; omega
  have h255 : ¬ (b.toNat > 255) := by omega
  rw [parseElispStr, nextOrEof_bind _ 92 _ s hrest]
  simp only [show ((92 : UInt8) == 34) = false by decide, Bool.false_eq_true, if_false,
    beq_self_eq_true, if_true, bind_apply]
  rw [parseElispEscape_octal _ acc d1 (d2 :: d3 :: x :: r) (adv s 1 false) o1 (by simp [hrest]),
    bind_apply, adv_adv,
    elispOctalEscape_digit _ _ _ d2 (d3 :: x :: r) _ (by simp [hrest]) o2 hm1, adv_adv,
    elispOctalEscape_digit _ _ _ d3 (x :: r) _ (by simp [hrest]) o3 hm2, adv_adv,
    elispOctalEscape_end _ _ x r _ (by simp [hrest]) hx, o4]
  simp only [elispCharEscape, hsc, if_true, h255, if_false, pure_apply, adv_adv, adv_peeked,
    adv_mode, Bool.false_or, UInt8.ofNat_toNat]

theorem elispBytesText_cons (b : UInt8) (bs : List UInt8) :
    elispBytesText (b :: bs) = 92 :: octalDigit (b.toNat / 64 % 8) ::
      octalDigit (b.toNat / 8 % 8) :: octalDigit (b.toNat % 8) :: elispBytesText bs := by
  simp [elispBytesText, ch]

theorem elispBytesText_length (bs : List UInt8) : (elispBytesText bs).length = 4 * bs.length := by
  induction bs with
  | nil => rfl
  | cons b bs ih => rw [elispBytesText_cons]; simp only [List.length_cons, ih]; omega

theorem elispBytesText_head (bs rest : List UInt8) :
    ∃ x r, elispBytesText bs ++ 34 :: rest = x :: r ∧ octVal x = none := by
  cases bs with
  | nil => exact ⟨34, rest, rfl, by decide⟩
  | cons b bs => exact ⟨92, _, by rw [elispBytesText_cons]; rfl, by decide⟩

/-- The loop of `parse_elisp_str` over `\ooo` escapes and the closing quote, once the unibyte
    flag is set. -/
theorem elispBytes_loop (bs : List UInt8) :
    ∀ (acc : List UInt8) (fuel : Nat) (s : St) (rest : List UInt8),
      s.rd.rest = elispBytesText bs ++ 34 :: rest →
      bs.length + 2 ≤ fuel →
      parseElispStr fuel acc true false false s =
        .ok (.unibyte (acc ++ bs)) (adv s ((elispBytesText bs).length + 1) false) := by
  induction bs with
  | nil =>
    intro acc fuel s rest hrest hfuel
    obtain ⟨f, rfl⟩ : ∃ f, fuel = f + 1 := ⟨fuel - 1, by omega⟩
    simp only [elispBytesText, List.flatMap_nil, List.nil_append] at hrest
    rw [parseElispStr]
    simp [nextOrEof, next_eq, hrest, elispBytesText]
  | cons b bs ih =>
    intro acc fuel s rest hrest hfuel
    simp only [List.length_cons] at hfuel
    obtain ⟨f, rfl⟩ : ∃ f, fuel = f + 3 := ⟨fuel - 3, by omega⟩
    obtain ⟨x, r, hxr, hx⟩ := elispBytesText_head bs rest
    rw [elispBytesText_cons] at hrest ⊢
    rw [elispBytes_step b f acc true x r s (by rw [hrest]; simp [hxr]) hx]
    rw [ih (acc ++ [b]) (f + 2) _ rest (by rw [adv_rest, hrest]; simp) (by omega)]
    simp only [adv_adv, List.append_assoc, List.cons_append, List.nil_append, List.length_cons]
    congr 2; omega

theorem bytes_elisp_aux (cfg : Cfg) (fuel : Nat) (bs rest : List UInt8) (s : St)
    (ho : cfg.opts.string = .elisp)
    (hrest : s.rd.rest = 34 :: (elispBytesText bs ++ 34 :: rest))
    (hfuel : bs.length + 2 ≤ fuel) :
    parseToken cfg fuel 34 s =
      .ok (if bs.isEmpty then .string [] else .bytes bs)
        (adv s ((elispBytesText bs).length + 2) false) := by
  rw [parseToken_dquote, ho, stringArm]
  simp only [bind_apply, discard_eq, hrest]
  cases bs with
  | nil =>
    obtain ⟨f, rfl⟩ : ∃ f, fuel = f + 1 := ⟨fuel - 1, by omega⟩
    rw [parseElispStr]
    simp [nextOrEof, next_eq, hrest, elispBytesText, finishStr, Utf8.valid, Utf8.run]
  | cons b bs =>
    simp only [List.length_cons] at hfuel
    obtain ⟨f, rfl⟩ : ∃ f, fuel = f + 3 := ⟨fuel - 3, by omega⟩
    obtain ⟨x, r, hxr, hx⟩ := elispBytesText_head bs rest
    rw [elispBytesText_cons] at hrest ⊢
    rw [elispBytes_step b f [] false x r _ (by rw [adv_rest, hrest]; simp [hxr]) hx]
    rw [elispBytes_loop bs ([] ++ [b]) (f + 2) _ rest (by rw [adv_rest, adv_rest, hrest]; simp)
      (by omega)]
    simp only [adv_adv, List.nil_append, List.cons_append, List.length_cons, pure_apply,
      List.isEmpty_cons, Bool.false_eq_true, if_false]
    rw [show 1 + 4 + ((elispBytesText bs).length + 1) =
      (elispBytesText bs).length + 1 + 1 + 1 + 1 + 2 by omega]

end Strings

/-- Text of the elements of a byte vector; every element but the first is preceded by a space. -/
def elemsText : Bool → List UInt8 → List UInt8
  | _, [] => []
  | first, b :: bs => (if first then [] else [32]) ++ natDigits b.toNat ++ elemsText false bs

theorem octetsText_eq (bs : List UInt8) : Print.octetsText bs = elemsText true bs := by
  have key : ∀ (b : UInt8) (bs : List UInt8),
      Print.octetsText (b :: bs) = natDigits b.toNat ++ elemsText false bs := by
    intro b bs
    induction bs generalizing b with
    | nil => simp [Print.octetsText, elemsText]
    | cons c cs ih =>
      rw [Print.octetsText, ih c]
      · simp [elemsText, ch]
      · simp
  cases bs with
  | nil => rfl
  | cons b bs => rw [key]; simp [elemsText]

theorem digit_facts2 : ∀ d, d < 10 →
    isTrivia (UInt8.ofNat (48 + d)) = false ∧ (UInt8.ofNat (48 + d) == 59) = false ∧
    (UInt8.ofNat (48 + d) == 41) = false := by
  decide +kernel

/-- The text between the parentheses of a byte vector: a separator from `Sep` in front of every
    octet, which may be empty only in front of the first, and one more in front of the closing
    parenthesis. -/
def BElems (Sep : List UInt8 → Prop) : Bool → List UInt8 → List UInt8 → Prop
  | _, [], t => Sep t
  | first, b :: bs, t => ∃ w tl, Sep w ∧ (first = false → w ≠ []) ∧ BElems Sep false bs tl ∧
      t = w ++ (natDigits b.toNat ++ tl)

/-- What `parse_byte_list` needs of the separators: `parse_whitespace` skips exactly them, and a
    non-empty one begins with a byte that ends a number. -/
structure Skips (Sep : List UInt8 → Prop) : Prop where
  wsLen : ∀ {w}, Sep w → ∀ (c : UInt8) (tl : List UInt8), isTrivia c = false → c ≠ 59 →
    Parse.wsLen (w ++ c :: tl) = w.length
  follow : ∀ {w}, Sep w → w ≠ [] → ∀ rest, Follow (w ++ rest)

theorem BElems.follow {Sep : List UInt8 → Prop} (hS : Skips Sep) (bs tl rest : List UInt8)
    (h : BElems Sep false bs tl) : Follow (tl ++ 41 :: rest) := by
  cases bs with
  | nil =>
    simp only [BElems] at h
    by_cases hne : tl = []
    · subst hne; exact .cons (by decide)
    · exact hS.follow h hne _
  | cons b bs =>
    simp only [BElems] at h
    obtain ⟨w, tl', hw, hne, -, rfl⟩ := h
    have := hS.follow hw (hne trivial) (natDigits b.toNat ++ tl' ++ 41 :: rest)
    simpa using this

/-- The element loop of `parse_byte_list`, by induction on the octets: a round skips the separator,
    reads the digits of the octet as a number, which the follow context behind them ends
    (`BElems.follow`), and goes on with one unit of fuel less. -/
theorem byteListLoop_sep {Sep : List UInt8 → Prop} (hS : Skips Sep) (cfg : Cfg) (bs : List UInt8) :
    ∀ (first : Bool) (acc : List UInt8) (fuel : Nat) (s : St) (te rest : List UInt8),
      BElems Sep first bs te → s.rd.rest = te ++ 41 :: rest → te.length + 1 ≤ fuel →
      byteListLoop cfg 41 fuel acc s = .ok (acc ++ bs) (adv s (te.length + 1) false) := by
  induction bs with
  | nil =>
    intro first acc fuel s te rest hte hrest hfuel
    obtain ⟨f, rfl⟩ : ∃ f, fuel = f + 1 := ⟨fuel - 1, by omega⟩
    simp only [BElems] at hte
    have hws := hS.wsLen hte 41 rest (by decide) (by decide)
    rw [byteListLoop]
    simp only [bind_apply, parseWhitespace_skip s te 41 rest hrest hws]
    simp [discard_eq, hrest]
  | cons b bs ih =>
    intro first acc fuel s te rest hte hrest hfuel
    obtain ⟨f, rfl⟩ : ∃ f, fuel = f + 1 := ⟨fuel - 1, by omega⟩
    simp only [BElems] at hte
    obtain ⟨w, tl, hw, -, htl, rfl⟩ := hte
    obtain ⟨d, dtl, hd, he⟩ := natDigits_head b.toNat
    obtain ⟨g1, g2, g3⟩ := digit_facts2 d hd
    obtain ⟨-, -, -, -, g4, g5, g6⟩ := digit_facts d hd
    simp only [beq_eq_false_iff_ne, ne_eq] at g2 g3 g4 g5 g6
    generalize UInt8.ofNat (48 + d) = c at he g1 g2 g3 g4 g5 g6
    have hb : b.toNat ≤ u64Max := by have := UInt8.toNat_lt b; unfold u64Max; omega
    have hrest' : s.rd.rest = w ++ c :: (dtl ++ (tl ++ 41 :: rest)) := by
      rw [hrest, he]; simp
    have hws : wsLen s.rd.rest = w.length := by
      rw [hrest']; exact hS.wsLen hw c _ g1 g2
    have hdrop : s.rd.rest.drop w.length = natDigits b.toNat ++ (tl ++ 41 :: rest) := by
      rw [hrest]; simp
    have hlen : (w ++ (natDigits b.toNat ++ tl)).length =
        w.length + (natDigits b.toNat).length + tl.length := by
      simp only [List.length_append]; omega
    rw [hlen] at hfuel ⊢
    have hnl : (natDigits b.toNat).length = dtl.length + 1 := by rw [he]; rfl
    rw [byteListLoop]
    have hr1 : (adv s w.length false).rd.rest = c :: (dtl ++ (tl ++ 41 :: rest)) := by
      rw [adv_rest, hdrop, he]; rfl
    simp only [bind_apply, parseWhitespace_eq, hws, peek_eq, hr1, g3, if_false,
      parseNumber, peekOrNull, pure_apply, Option.getD_some, g4, beq_iff_eq, adv_adv,
      parseRadixLiteral, g5, g6, adv_rest, hdrop, he, List.cons_append, Nat.add_zero]
    have hF := BElems.follow hS bs tl rest htl
    rw [parseNumLiteral_ok cfg true b.toNat hb (f + 1) _ _
      (by rw [adv_rest, hdrop]) (by omega) hF (by simp)]
    simp only [adv_adv, endPeek_adv]
    rw [expectNumberEnd_reads _ _ (tl ++ 41 :: rest)
      (by rw [adv_rest]; exact drop_add_left hdrop) hF.delim (by simp)]
    simp only [numTailVal_pos, Number.asU64, adv_adv, Nat.add_zero]
    have h255 : ¬ b.toNat > 255 := by have := UInt8.toNat_lt b; omega
    simp only [h255, if_false]
    rw [ih false (acc ++ [UInt8.ofNat b.toNat]) f _ tl rest htl
      (by rw [adv_rest]; exact drop_add_left hdrop) (by omega)]
    simp only [adv_adv, UInt8.ofNat_toNat, List.append_assoc, List.cons_append, List.nil_append]
    rw [show w.length + (natDigits b.toNat).length + (tl.length + 1) =
      w.length + (natDigits b.toNat).length + tl.length + 1 by omega]
    rw [he]

/-- `parse_byte_list` behind a separator `w`: the opening parenthesis, the elements, the closing one -/
theorem parseByteList_sep {Sep : List UInt8 → Prop} (hS : Skips Sep) (cfg : Cfg) (fuel : Nat)
    (bs w te rest : List UInt8) (s : St) (hw : Sep w) (hte : BElems Sep true bs te)
    (hrest : s.rd.rest = w ++ 40 :: (te ++ 41 :: rest))
    (hfuel : te.length + 1 ≤ fuel) :
    parseByteList cfg fuel 41 s = .ok bs (adv s (w.length + (te.length + 2)) false) := by
  unfold parseByteList
  have hws := hS.wsLen hw 40 (te ++ 41 :: rest) (by decide) (by decide)
  simp only [bind_apply, parseWhitespace_skip s w 40 _ hrest hws, beq_self_eq_true, if_true,
    discard_eq, adv_rest, hrest, List.drop_left', adv_adv]
  rw [byteListLoop_sep hS cfg bs true [] fuel _ te rest hte (by simp [hrest]) hfuel]
  simp only [adv_adv, List.nil_append]
  rw [show w.length + 1 + (te.length + 1) = w.length + (te.length + 2) by omega]

/-- the separators the printer writes: none, or one space -/
def spaceSep (w : List UInt8) : Prop := w = [] ∨ w = [32]

theorem spaceSep_skips : Skips spaceSep where
  wsLen := by
    rintro w (rfl | rfl) c tl h1 h2
    · exact wsLen_nontrivia c tl h1 h2
    · rw [List.singleton_append, wsLen_space, wsLen_nontrivia c tl h1 h2]; rfl
  follow := by
    rintro w (rfl | rfl) hne rest
    · exact absurd rfl hne
    · exact .cons (by decide)

theorem bElems_plain (bs : List UInt8) (first : Bool) :
    BElems spaceSep first bs (elemsText first bs) := by
  induction bs generalizing first with
  | nil => exact .inl rfl
  | cons b bs ih =>
    simp only [BElems, elemsText]
    refine ⟨if first then [] else [32], elemsText false bs, ?_, ?_, ih false, by simp⟩
    · cases first
      · exact .inr rfl
      · exact .inl rfl
    · intro h; simp [h]

theorem parseByteList_ok (cfg : Cfg) (fuel : Nat) (bs rest : List UInt8) (s : St)
    (hrest : s.rd.rest = 40 :: (Print.octetsText bs ++ 41 :: rest))
    (hfuel : (Print.octetsText bs).length + 1 ≤ fuel) :
    parseByteList cfg fuel 41 s = .ok bs (adv s ((Print.octetsText bs).length + 2) false) := by
  rw [octetsText_eq] at hrest hfuel ⊢
  rw [parseByteList_sep spaceSep_skips cfg fuel bs [] _ rest s (.inl rfl) (bElems_plain bs true)
    hrest hfuel, List.length_nil, Nat.zero_add]

/-- The same behind a prefix `pre` (`#u8` or `#vu8`) that has been read already. -/
theorem parseByteList_after (cfg : Cfg) (fuel : Nat) (pre bs rest : List UInt8) (s : St)
    (hrest : s.rd.rest = pre ++ 40 :: (Print.octetsText bs ++ [41] ++ rest))
    (hfuel : (pre ++ 40 :: (Print.octetsText bs ++ [41])).length ≤ fuel) :
    parseByteList cfg fuel 41 (adv s pre.length false) =
      .ok bs (adv s (pre ++ 40 :: (Print.octetsText bs ++ [41])).length false) := by
  rw [parseByteList_ok cfg fuel bs rest (adv s pre.length false) (by simp [hrest])
    (by simp at hfuel; omega), adv_adv]
  congr 2; simp

/-- The text `Printer::print` writes for an atom with the printer options `p`. -/
def atomTextP (p : Print.Options) (ryu : Nat → List UInt8) (v : Value) : List UInt8 :=
  Print.flatten (Print.atomEmits p ryu v)

theorem asc_consts :
    asc "nil" = [110, 105, 108] ∧ asc "t" = [116] ∧ asc "#nil" = [35, 110, 105, 108] ∧
    asc "#t" = [35, 116] ∧ asc "#f" = [35, 102] ∧ asc "()" = [40, 41] ∧ asc ":" = [58] ∧
    asc "#:" = [35, 58] ∧ asc "\"" = [34] ∧ asc "#vu8(" = [35, 118, 117, 56, 40] ∧
    asc "#u8(" = [35, 117, 56, 40] ∧ asc ")" = [41] := by decide +kernel

theorem atomTextP_nil (p ryu) : atomTextP p ryu .nil = Print.nilText p := by
  simp [atomTextP, Print.atomEmits, Print.flatten, Print.Emit.bytes]
theorem atomTextP_null (p ryu) : atomTextP p ryu .null = [40, 41] := by
  simp [atomTextP, Print.atomEmits, Print.flatten, Print.Emit.bytes, asc_consts]
theorem atomTextP_bool (p ryu) (b : Bool) : atomTextP p ryu (.bool b) = Print.boolText p b := by
  simp [atomTextP, Print.atomEmits, Print.flatten, Print.Emit.bytes]
theorem atomTextP_char (p ryu) (c : Nat) : atomTextP p ryu (.char c) = Print.charText p c := by
  simp [atomTextP, Print.atomEmits, Print.flatten, Print.Emit.bytes]
theorem atomTextP_symbol (p ryu) (n : List UInt8) : atomTextP p ryu (.symbol n) = n := by
  simp [atomTextP, Print.atomEmits, Print.flatten, Print.Emit.bytes]
theorem atomTextP_pos (p ryu) (n : Nat) : atomTextP p ryu (.number (.pos n)) = natDigits n := by
  simp [atomTextP, Print.atomEmits, Print.flatten, Print.Emit.bytes, Print.numberText]
theorem atomTextP_neg (p ryu) (i : Int) : atomTextP p ryu (.number (.neg i)) = intDigits i := by
  simp [atomTextP, Print.atomEmits, Print.flatten, Print.Emit.bytes, Print.numberText]
theorem atomTextP_string (p ryu) (b : List UInt8) :
    atomTextP p ryu (.string b) = 34 :: (Print.escapeStr p.string b ++ [34]) := by
  simp [atomTextP, Print.atomEmits, Print.flatten, Print.Emit.bytes, asc_consts]
theorem atomTextP_keyword (p : Print.Options) (ryu) (n : List UInt8) :
    atomTextP p ryu (.keyword n) =
      match p.keyword with
      | .colonPostfix => n ++ [58]
      | .colonPrefix => 58 :: n
      | .octothorpe => 35 :: 58 :: n := by
  cases h : p.keyword <;>
    simp [atomTextP, Print.atomEmits, Print.flatten, Print.Emit.bytes, Print.keywordEmits, h,
      asc_consts]
theorem atomTextP_bytes (p : Print.Options) (ryu) (b : List UInt8) :
    atomTextP p ryu (.bytes b) =
      match p.bytes with
      | .r6rs => 35 :: 118 :: 117 :: 56 :: 40 :: (Print.octetsText b ++ [41])
      | .r7rs => 35 :: 117 :: 56 :: 40 :: (Print.octetsText b ++ [41])
      | .elisp => 34 :: (Print.elispBytesText b ++ [34]) := by
  cases h : p.bytes <;>
    simp [atomTextP, Print.atomEmits, Print.flatten, Print.Emit.bytes, Print.bytesEmits, h,
      asc_consts]

end Parse
end Lexpr
