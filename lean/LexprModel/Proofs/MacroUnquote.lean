/-
  C09 — the unquote clause: "An unquoted Rust expression contributes exactly `Value::from(expr)` at
  its position, including as a dotted tail."

  `C09_expand` (MacroSpec) already covers a tree with `,expr` at ANY position and depth, because
  `unq` is a constructor of `Doc` and `valueOf env (.unq t) = env t`.  Here the clause is made
  explicit — replacing every `,expr` by a documented tree that denotes `Value::from(expr)` does not
  change the value (`plug`) — and tied to the text side: `sexp!(… ,expr …)` is what the parser reads
  from the text of the plugged tree (`(a . ,tail)` with `tail = (1 2)` against `(a 1 2)`).  The
  dotted-tail cases are then spelled out: the elements are consed onto `Value::from(expr)` as
  `Value::append` does.
-/
import LexprModel.Proofs.MacroText
namespace Lexpr
namespace Macro
open Print
open Parse.ListRT

/-! ## Plugging trees for the unquoted expressions -/

mutual
/-- replace every `,expr` by the tree `σ expr` -/
def plug (σ : Tok → Doc) : Doc → Doc
  | .unq t => σ t
  | .list xs => .list (plugL σ xs)
  | .dotted xs t => .dotted (plugL σ xs) (plug σ t)
  | .vec xs => .vec (plugL σ xs)
  | .int n => .int n
  | .negInt n => .negInt n
  | .float s e => .float s e
  | .negFloat s e => .negFloat s e
  | .str src val => .str src val
  | .chr c => .chr c
  | .tru => .tru
  | .fls => .fls
  | .nil => .nil
  | .sym name => .sym name
  | .psym cs => .psym cs
  | .qsym src val => .qsym src val
  | .kw name => .kw name
  | .ckw name => .ckw name
  | .qkw src val => .qkw src val
  | .cqkw src val => .cqkw src val
  | .pkw cs => .pkw cs
def plugL (σ : Tok → Doc) : List Doc → List Doc
  | [] => []
  | x :: xs => plug σ x :: plugL σ xs
end

mutual
theorem valueOf_plug (env : Tok → Value) (σ : Tok → Doc) (hσ : ∀ t, env t = valueOf env (σ t)) :
    ∀ d : Doc, valueOf env (plug σ d) = valueOf env d
  | .unq t => by simp only [plug, valueOf, hσ t]
  | .list xs => by simp only [plug, valueOf, valueOfL_plug env σ hσ xs]
  | .dotted xs t => by
    simp only [plug, valueOf, valueOfL_plug env σ hσ xs, valueOf_plug env σ hσ t]
  | .vec xs => by simp only [plug, valueOf, valueOfL_plug env σ hσ xs]
  | .int _ | .negInt _ | .float _ _ | .negFloat _ _ | .str _ _ | .chr _ | .tru | .fls | .nil
  | .sym _ | .psym _ | .qsym _ _ | .kw _ | .ckw _ | .qkw _ _ | .cqkw _ _ | .pkw _ => rfl
theorem valueOfL_plug (env : Tok → Value) (σ : Tok → Doc) (hσ : ∀ t, env t = valueOf env (σ t)) :
    ∀ xs : List Doc, valueOfL env (plugL σ xs) = valueOfL env xs
  | [] => by simp only [plugL]
  | x :: xs => by
    simp only [plugL, valueOfL, valueOf_plug env σ hσ x, valueOfL_plug env σ hσ xs]
end

/-- `sexp!` on a well-formed tree with unquotes at any positions (list and
    vector elements, dotted tails, any depth) builds the value of the tree in which every `,expr`
    is replaced by a tree denoting `Value::from(expr)`: each unquote contributes exactly
    `Value::from(expr)` at its position. -/
theorem C09_unquote_plug (env : Tok → Value) (σ : Tok → Doc)
    (hσ : ∀ t, env t = valueOf env (σ t)) (d : Doc) (hwf : WF d)
    (hfuel : need d ≤ 2 * (toks d).length + 1000) :
    expand env (toks d) = some (valueOf env (plug σ d)) := by
  rw [valueOf_plug env σ hσ d]
  exact C09_expand env d hwf hfuel

/-- The macro on a tree with unquotes and the parser on the text of the
    plugged tree agree: `sexp!(… ,expr …)` is what `from_slice` reads from the S-expression text
    in which each `,expr` is replaced by a text of `Value::from(expr)`; a list value in dotted-tail
    position appears merged in that text, as `stext` writes it. -/
theorem C09_unquote_agree (env : Tok → Value) (cfg : Parse.Cfg)
    (ho : cfg.opts = Parse.Options.default) (σ : Tok → Doc)
    (hσ : ∀ t, env t = valueOf env (σ t)) (d : Doc) (hwf : WF d) (hok : TextOK (plug σ d))
    (hn : dnest (plug σ d) ≤ 127) (hfuel : need d ≤ 2 * (toks d).length + 1000) :
    expand env (toks d) = some (valueOf env d) ∧
      ∃ s', Parse.fromTrait cfg (Parse.initSt .slice (stext (plug σ d))) = .ok (valueOf env d) s' ∧
        s'.rd.rest = [] ∧ s'.depth = 128 := by
  refine ⟨C09_expand env d hwf hfuel, ?_⟩
  rw [← valueOf_plug env σ hσ d]
  exact C09_text env cfg ho (plug σ d) hok hn

/-! ## The dotted tail, case by case -/

theorem append_list (xs ys : List Value) : Value.append xs (Value.list ys) = Value.list (xs ++ ys) := by
  simp only [Value.list, Value.C15_append_merge]

/-- `(x₁ … xₙ . ,expr)` where `expr` evaluates to the list `(y₁ … yₘ)`: the proper list
    `(x₁ … xₙ y₁ … yₘ)` -/
theorem C09_unquote_tail_list (env : Tok → Value) (xs : List Doc) (t : Tok) (ys : List Value)
    (ht : env t = Value.list ys) (hwf : wfSeq true xs = true) (hfuel : needSeq xs 2 ≤ 1001) :
    expand env (toks (.dotted xs (.unq t))) = some (Value.list (xs.map (valueOf env) ++ ys)) := by
  rw [C09_unquote_expand env xs t hwf hfuel, ht, append_list]

/-- … to the dotted list `(y₁ … yₘ . r)`: the dotted list `(x₁ … xₙ y₁ … yₘ . r)` -/
theorem C09_unquote_tail_improper (env : Tok → Value) (xs : List Doc) (t : Tok) (ys : List Value)
    (r : Value) (ht : env t = Value.append ys r) (hwf : wfSeq true xs = true)
    (hfuel : needSeq xs 2 ≤ 1001) :
    expand env (toks (.dotted xs (.unq t))) =
      some (Value.append (xs.map (valueOf env) ++ ys) r) := by
  rw [C09_unquote_expand env xs t hwf hfuel, ht, Value.C15_append_merge]

/-- … to anything: the elements consed onto it (for a value that is not a list this is the dotted
    list with that tail) -/
theorem C09_unquote_tail_atom (env : Tok → Value) (xs : List Doc) (t : Tok)
    (hwf : wfSeq true xs = true) (hfuel : needSeq xs 2 ≤ 1001) :
    expand env (toks (.dotted xs (.unq t))) = some (Value.append (xs.map (valueOf env)) (env t)) :=
  C09_unquote_expand env xs t hwf hfuel

/-- the literal nesting `(x₁ … . (y₁ … . ,expr))` is flattened by `parse_list` before the
    generated code conses onto `Value::from(expr)`: same value as `(x₁ … y₁ … . ,expr)` -/
theorem C09_unquote_tail_nested (env : Tok → Value) (xs ys : List Doc) (t : Tok) :
    mv (.dotted xs (.dotted ys (.unq t))) = .improper (mvL xs ++ mvL ys) (.unquoted t) ∧
    valueOf env (.dotted xs (.dotted ys (.unq t))) =
      Value.append (valueOfL env xs ++ valueOfL env ys) (env t) := by
  constructor
  · simp only [mv, flattenTail]
  · simp only [valueOf, Value.C15_append_merge]

/-- `(a . ,tail)` with `tail = (1 2)`: the macro gives `(a 1 2)`, the text of the plugged tree is
    `(a 1 2)`, and the parser reads it as the same value -/
example (env : Tok → Value) (cfg : Parse.Cfg) (ho : cfg.opts = Parse.Options.default) (tail : Tok)
    (h : env tail = Value.list [.number (.pos 1), .number (.pos 2)]) :
    expand env (toks (.dotted [.sym (asc "a")] (.unq tail))) =
      some (Value.list [.symbol (asc "a"), .number (.pos 1), .number (.pos 2)]) ∧
    ∃ s', Parse.fromTrait cfg (Parse.initSt .slice (asc "(a 1 2)")) =
        .ok (Value.list [.symbol (asc "a"), .number (.pos 1), .number (.pos 2)]) s' ∧
      s'.rd.rest = [] ∧ s'.depth = 128 := by
  have e1 := C09_unquote_tail_list env [.sym (asc "a")] tail _ h (by decide) (by decide)
  refine ⟨by simpa [valueOf] using e1, ?_⟩
  have := C09_text env cfg ho (.list [.sym (asc "a"), .int 1, .int 2]) (by decide) (by decide)
  have ht : stext (.list [.sym (asc "a"), .int 1, .int 2]) = asc "(a 1 2)" := by decide +kernel
  rw [ht] at this
  simpa [valueOf, valueOfL, Number.ofSigned] using this

/-- two unquoted identifiers -/
def tokX : Tok := .ident (asc "x")
def tokY : Tok := .ident (asc "y")
theorem tokX_ne_tokY : tokX ≠ tokY := by
  intro h; injection h with h; exact absurd h (by decide)

/-- unquotes nested in a vector and as the tail of an inner list:
    `(a #(b ,x) (c . ,y))` is the plugged tree's value whatever `x` and `y` denote -/
example (env : Tok → Value) :
    expand env (toks (.list [.sym (asc "a"), .vec [.sym (asc "b"), .unq tokX],
        .dotted [.sym (asc "c")] (.unq tokY)])) =
      some (Value.list [.symbol (asc "a"), .vector [.symbol (asc "b"), env tokX],
        .cons (.symbol (asc "c")) (env tokY)]) := by
  rw [C09_expand env _ (by decide) (by decide)]
  simp [valueOf, valueOfL, Value.list, Value.append]

/-- `C09_unquote_agree` on `(a #(b ,x) (c . ,y))` with `x = 5` and `y = (d)`:
    the text is `(a #(b 5) (c d))` -/
example (cfg : Parse.Cfg) (ho : cfg.opts = Parse.Options.default)
    (env : Tok → Value) (hx : env tokX = .number (.pos 5))
    (hy : env tokY = Value.list [.symbol (asc "d")])
    (hother : ∀ t, t ≠ tokX → t ≠ tokY → env t = .nil) :
    let d : Doc := .list [.sym (asc "a"), .vec [.sym (asc "b"), .unq tokX],
        .dotted [.sym (asc "c")] (.unq tokY)]
    expand env (toks d) = some (valueOf env d) ∧
      ∃ s', Parse.fromTrait cfg (Parse.initSt .slice (asc "(a #(b 5) (c d))")) =
          .ok (valueOf env d) s' ∧ s'.rd.rest = [] ∧ s'.depth = 128 := by
  intro d
  classical
  let σ : Tok → Doc := fun t =>
    if t = tokX then .int 5 else if t = tokY then .list [.sym (asc "d")] else .nil
  have hσ : ∀ t, env t = valueOf env (σ t) := by
    intro t
    by_cases h1 : t = tokX
    · subst h1; simp [σ, hx, valueOf, Number.ofSigned]
    · by_cases h2 : t = tokY
      · subst h2; simp [σ, h1, hy, valueOf, valueOfL]
      · simp [σ, h1, h2, hother t h1 h2, valueOf]
  have hp : plug σ d = .list [.sym (asc "a"), .vec [.sym (asc "b"), .int 5],
      .dotted [.sym (asc "c")] (.list [.sym (asc "d")])] := by
    simp [d, plug, plugL, σ, tokX_ne_tokY.symm]
  have ht : stext (plug σ d) = asc "(a #(b 5) (c d))" := by rw [hp]; decide +kernel
  have := C09_unquote_agree env cfg ho σ hσ d (by decide) (by rw [hp]; decide)
    (by rw [hp]; decide) (by decide)
  rw [ht] at this
  exact this

#print axioms C09_unquote_plug
#print axioms C09_unquote_agree
#print axioms C09_unquote_tail_list
#print axioms C09_unquote_tail_improper
#print axioms C09_unquote_tail_nested

end Macro
end Lexpr
