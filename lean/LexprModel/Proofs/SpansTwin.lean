/-
  Two sources that are both a `&str` or both not (byte slice, stream) behave alike.

  `Twin s1 s2`: same unread input, position, `faulty` flag and depth, and both sources are a `&str`
  or neither is (so both validate UTF-8 or neither does); the `peeked` flags may differ.
  `SRel m`: run from twin states, `m` gives the same outcome on both sides — the same value and
  twin states, or errors with the same code (the line/column attached to a `peek_error` may differ:
  that is the one thing `peeked` and the mode influence) and twin states, or the same panic, or
  both run out of fuel.  `SRelV V` is the relation `PRel Twin sameCode V` of Rel.lean
  (`srelV_iff`), and the reader primitives respect it (`Twin.base`, through `Prims.of_base` and
  `PrimsFull.of_str`): so every function of the model is `SRel`, by the generic theorems `Gen.*` of
  Rel.lean and Hist.lean.
-/
import LexprModel.Proofs.SpansRel
import LexprModel.Proofs.Hist
namespace Lexpr
namespace Parse
namespace Spans
open Progress

/-- same unread input, position, `faulty`, depth; both `&str` or neither -/
structure Twin (s1 s2 : St) : Prop where
  rest : s1.rd.rest = s2.rd.rest
  line : s1.rd.line = s2.rd.line
  col : s1.rd.col = s2.rd.col
  faulty : s1.rd.faulty = s2.rd.faulty
  depth : s1.depth = s2.depth
  str : s1.rd.mode = .str ↔ s2.rd.mode = .str

theorem Twin.same {s1 s2 : St} (h : Twin s1 s2) : Same s1 s2 := ⟨h.rest, h.line, h.col⟩

theorem Twin.position {s1 s2 : St} (h : Twin s1 s2) : s1.rd.position = s2.rd.position :=
  h.same.position

/-- errors that differ at most in the attached position -/
def sameCode : Err → Err → Prop
  | .syntax c _ _, .syntax c' _ _ => c = c'
  | .io, .io => True
  | _, _ => False

theorem sameCode_refl (e : Err) : sameCode e e := by cases e <;> simp [sameCode]

/-- the same outcome up to error positions, values related by `V` -/
def ResSim {α α' : Type} (V : α → α' → Prop) : Res α → Res α' → Prop
  | .ok a s1, .ok b s2 => V a b ∧ Twin s1 s2
  | .err e1 s1, .err e2 s2 => sameCode e1 e2 ∧ Twin s1 s2
  | .panic p, .panic q => p = q
  | .fuel, .fuel => True
  | _, _ => False

/-- two programs with the same outcome from twin states, values related by `V` -/
def SRelV {α α' : Type} (V : α → α' → Prop) (m : P α) (m' : P α') : Prop :=
  ∀ s1 s2, Twin s1 s2 → ResSim V (m s1) (m' s2)

def SRel2 {α : Type} (m m' : P α) : Prop := SRelV Eq m m'

def SRel {α : Type} (m : P α) : Prop := SRel2 m m

/-- results captured by `attempt`: equal values or errors with the same code -/
def ExRel {α : Type} : Except Err α → Except Err α → Prop
  | .ok a, .ok b => a = b
  | .error e1, .error e2 => sameCode e1 e2
  | _, _ => False

section rules
variable {α α' : Type}

theorem resSim_iff {V : α → α' → Prop} (r : Res α) (r' : Res α') :
    ResSim V r r' ↔ ResRel Twin sameCode V r r' := by
  cases r <;> cases r' <;> exact Iff.rfl

theorem srelV_iff {V : α → α' → Prop} {m : P α} {m' : P α'} :
    SRelV V m m' ↔ PRel Twin sameCode V m m' :=
  ⟨fun h => ⟨fun s t hs => (resSim_iff _ _).1 (h s t hs)⟩,
   fun h s t hs => (resSim_iff _ _).2 (h.app s t hs)⟩

theorem SRelV.attempt {m m' : P α} (hm : SRel2 m m') :
    SRelV ExRel (attempt m) (attempt m') := by
  intro s1 s2 hs
  have h := hm s1 s2 hs
  unfold Parse.attempt
  cases h1 : m s1 <;> cases h2 : m' s2 <;> simp only [h1, h2, ResSim] at h ⊢ <;> exact h

theorem SRel.pure {a : α} : SRel (Pure.pure a : P α) := fun _ _ hs => ⟨rfl, hs⟩
theorem SRel.outOfFuel : SRel (outOfFuel : P α) := fun _ _ _ => trivial
theorem SRel.rawErr {e : Err} : SRel (fun s' => Res.err e s' : P α) :=
  fun _ _ hs => ⟨sameCode_refl e, hs⟩
theorem SRel.liftExcept {r : Except Err α} : SRel (liftExcept r) := by
  cases r with
  | ok a => exact SRel.pure
  | error e => exact SRel.rawErr

theorem SRel.reader {g : St → α} (hg : ∀ s1 s2, Twin s1 s2 → g s1 = g s2) :
    SRel (fun s => Res.ok (g s) s : P α) := fun s1 s2 hs => ⟨hg s1 s2 hs, hs⟩

theorem Twin.consume {s1 s2 : St} (h : Twin s1 s2) (n : Nat) :
    Twin { s1 with rd := s1.rd.consume n } { s2 with rd := s2.rd.consume n } := by
  obtain ⟨h1, h2, h3⟩ := consume_same n _ _ h.rest h.line h.col
  exact ⟨h1, h2, h3, by simp only [Rd.consume_faulty]; exact h.faulty, h.depth,
    by simp only [Rd.consume_mode]; exact h.str⟩

end rules

theorem Twin.base : Prims.Base Twin sameCode where
  rest h := h.rest
  faulty h := h.faulty
  depth h := h.depth
  position h := h.position
  refl := sameCode_refl
  peekPosE _ _ := rfl
  consume := Twin.consume
  peeked h := ⟨h.rest, h.line, h.col, h.faulty, h.depth, h.str⟩
  setDepth h _ := ⟨h.rest, h.line, h.col, h.faulty, rfl, h.str⟩

instance : Prims Twin sameCode := .of_base Twin.base

theorem str_beq {m1 m2 : Mode} (h : m1 = .str ↔ m2 = .str) : (m1 == .str) = (m2 == .str) := by
  cases m1 <;> cases m2 <;> first | rfl | simp_all | decide

instance : PrimsFull Twin sameCode := .of_str fun _ _ h => str_beq h.str

theorem SRel.discard : SRel discard := srelV_iff.2 Prims.discard

theorem nextOrNull_srel : SRel nextOrNull := srelV_iff.2 Gen.nextOrNull

theorem datum_srels (cfg : Cfg) : ∀ fuel : Nat,
    SRel (nextDatum cfg fuel) ∧
    (∀ term acc ms, SRel (parseListMeta cfg fuel term acc ms)) ∧
    (∀ term acc ms, SRel (parseVectorMeta cfg fuel term acc ms)) := fun fuel =>
  have h := Gen.nextDatum_all (S := Twin) (E := sameCode) cfg fuel
  ⟨srelV_iff.2 h.1, fun _ _ _ => srelV_iff.2 (h.2.1 ..), fun _ _ _ => srelV_iff.2 (h.2.2 ..)⟩

theorem nextDatumTop_srel {cfg : Cfg} : SRel (nextDatumTop cfg) :=
  srelV_iff.2 (Gen.nextDatumTop cfg)

theorem expectDatum_srel {cfg : Cfg} : SRel (expectDatum cfg) := srelV_iff.2 (Gen.expectDatum cfg)

theorem fromTrait_srel {cfg : Cfg} : SRel (fromTrait cfg) := srelV_iff.2 (Gen.fromTrait cfg)

theorem fromTraitDatum_srel {cfg : Cfg} : SRel (fromTraitDatum cfg) :=
  srelV_iff.2 (Gen.fromTraitDatum cfg)

end Spans
end Parse
end Lexpr
