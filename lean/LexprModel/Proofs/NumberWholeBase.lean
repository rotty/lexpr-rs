/-
  C08 — "a token is read as a number only if the whole token is a numeric literal", the scanners:
  whenever one of the number scanners of `parse/mod.rs` (`parse_exponent`, `parse_decimal`,
  `parse_long_integer`, `parse_num_tail`, the digit loops, `parse_num_literal`,
  `parse_radix_literal`) succeeds, the bytes it consumed (`s.rd.rest = w ++ s'.rd.rest`) are cut
  into the pieces of a literal: `BodyW radix w` is digits of the radix and then a tail, `TailW` is
  nothing or (radix 10) a fraction and an exponent, each piece recognised by the specification
  (`fractionPart`, `exponentPart` of `Spec/NumericLiteral.lean`).  For every reader state, every
  source mode, every radix and both builds.  Last, `LitClass`: a class of bytes that holds the
  digits, the signs, the dot and the exponent letters holds every byte of such a `w`.  That the
  pieces make a `numericLiteralShape`, and the token level, are in `NumberWhole.lean`.
-/
import LexprModel.Spec.NumericLiteral
import LexprModel.Proofs.Tokens
import LexprModel.Proofs.Utf8Valid
namespace Lexpr
namespace Parse
namespace C08
open Spec

theorem takeWhile_split (p : UInt8 → Bool) : ∀ l : List UInt8,
    l = l.takeWhile p ++ l.drop (l.takeWhile p).length := by
  intro l
  induction l with
  | nil => rfl
  | cons x xs ih =>
    by_cases hx : p x = true
    · simp only [List.takeWhile_cons, hx, ↓reduceIte, List.length_cons, List.drop_succ_cons,
        List.cons_append]
      rw [← ih]
    · simp [hx]

theorem takeWhile_run (p : UInt8 → Bool) (ds t : List UInt8) (hd : ds.all p = true)
    (ht : ∀ b bs, t = b :: bs → p b = false) : (ds ++ t).takeWhile p = ds := by
  induction ds with
  | nil =>
    cases t with
    | nil => rfl
    | cons b bs => simp [ht b bs rfl]
  | cons x xs ih =>
    simp only [List.all_cons, Bool.and_eq_true] at hd
    simp only [List.cons_append, List.takeWhile_cons, hd.1, ↓reduceIte, ih hd.2]

theorem dropWhile_run (p : UInt8 → Bool) (ds t : List UInt8) (hd : ds.all p = true)
    (ht : ∀ b bs, t = b :: bs → p b = false) : (ds ++ t).dropWhile p = t := by
  induction ds with
  | nil =>
    cases t with
    | nil => rfl
    | cons b bs => simp [ht b bs rfl]
  | cons x xs ih =>
    simp only [List.all_cons, Bool.and_eq_true] at hd
    simp only [List.cons_append, List.dropWhile_cons, hd.1, ↓reduceIte, ih hd.2]

theorem discard_rest {s s' : St} {u : Unit} (h : discard s = .ok u s') :
    ∃ b, s.rd.rest = b :: s'.rd.rest := (discard_frame h).2

theorem peekOrNull_rest {s s1 : St} {c : UInt8} (hp : peekOrNull s = .ok c s1) :
    s1.rd.rest = s.rd.rest ∧ c = s.rd.rest.head?.getD 0 := (peekOrNull_frame hp).2

theorem peek_discard {s s1 s2 : St} {c : UInt8} {u : Unit} (hp : peekOrNull s = .ok c s1)
    (hd : discard s1 = .ok u s2) : s.rd.rest = c :: s2.rd.rest := by
  obtain ⟨hr1, rfl⟩ := peekOrNull_rest hp
  obtain ⟨b, hb⟩ := discard_rest hd
  rw [← hr1, hb]
  rfl

theorem f64FromParts_st {cfg : Cfg} {pos : Bool} {sig : Nat} {e : Int} {s s' : St} {r : Nat}
    (h : f64FromParts cfg pos sig e s = .ok r s') : s' = s := by
  unfold f64FromParts at h
  by_cases hf : cfg.fast = true
  · simp only [hf, ↓reduceIte] at h
    cases hfp : fastParts cfg.pow10 (e.natAbs / 308 + 2) (F64.ofNat sig) e with
    | some f => rw [hfp] at h; simp only [pure_apply, Res.ok.injEq] at h; exact h.2.symm
    | none => rw [hfp] at h; simp [errAt] at h
  · simp only [hf, Bool.false_eq_true, ↓reduceIte] at h
    by_cases hi : F64.isInf (F64.rnDec sig e) = true
    · simp [hi, errAt] at h
    · simp only [hi, Bool.false_eq_true, ↓reduceIte, pure_apply, Res.ok.injEq] at h
      exact h.2.symm

/-- the digit test of the scanners: `digit_val` finds a digit, and it is below the radix -/
def dOk (radix : Nat) (c : UInt8) : Bool :=
  match digitVal radix c with
  | some d => decide (d < radix)
  | none => false

theorem dOk_of {radix : Nat} {c : UInt8} {d : Nat} (h : digitVal radix c = some d)
    (hlt : ¬ d ≥ radix) : dOk radix c = true := by
  unfold dOk; rw [h]; simp; omega

/-- The bytes of a literal, for the four radixes at once: the scanners' digit test is the
    grammar's; a digit is no sign, no delimiter and no `#`; an exponent mark is no decimal digit
    and no delimiter. -/
theorem literalByte_table : ∀ b : UInt8,
    (∀ radix ∈ [2, 8, 10, 16], dOk radix b = isRadixDigit radix b ∧
      (isRadixDigit radix b = true →
        (b == 43 || b == 45) = false ∧ isDelimiter b = false ∧ (b == 35) = false)) ∧
    (isExpMark b = true → isDigit b = false ∧ isDelimiter b = false) := by
  apply byte_forall; decide +kernel

theorem dOk_radix {radix : Nat} (hr : radix ∈ [2, 8, 10, 16]) : dOk radix = isRadixDigit radix :=
  funext fun b => ((literalByte_table b).1 radix hr).1

theorem radixDigit_facts {radix : Nat} (hr : radix ∈ [2, 8, 10, 16]) {b : UInt8}
    (h : isRadixDigit radix b = true) :
    (b == 43 || b == 45) = false ∧ isDelimiter b = false ∧ (b == 35) = false :=
  ((literalByte_table b).1 radix hr).2 h

theorem digit_not_sign (b : UInt8) (h : isDigit b = true) : (b == 43 || b == 45) = false :=
  (radixDigit_facts (radix := 10) (by decide) h).1

theorem digit_not_expMark (b : UInt8) (h : isDigit b = true) : isExpMark b = false := by
  cases he : isExpMark b
  · rfl
  · rw [((literalByte_table b).2 he).1] at h; cases h

theorem dOk_not_sign_dot_exp : ∀ b : UInt8, isRadixDigit 10 b = true →
    (b == 43 || b == 45) = false ∧ (b == 46) = false ∧ isExpMark b = false := by
  apply byte_forall; decide +kernel

theorem skipDigits_eats {s s' : St} {u : Unit} (h : skipDigits s = .ok u s') :
    ∃ w, s.rd.rest = w ++ s'.rd.rest ∧ w.all isDigit = true := by
  unfold skipDigits at h
  simp only [bind_apply, getRest_eq, consumeN_eq] at h
  cases hp : peek (s.adv (List.takeWhile isDigit s.rd.rest).length) with
  | ok o s1 =>
    rw [hp] at h
    simp only [pure_apply, Res.ok.injEq] at h
    obtain ⟨_, hr, _⟩ := peek_frame hp
    refine ⟨s.rd.rest.takeWhile isDigit, ?_, List.all_takeWhile⟩
    rw [← h.2, hr, sadv_rest]
    exact takeWhile_split _ _
  | err e s1 => rw [hp] at h; cases h
  | panic p => rw [hp] at h; cases h
  | fuel => rw [hp] at h; cases h

theorem parseExponentOverflow_eats {pos : Bool} {sig : Nat} {posExp : Bool} {s s' : St} {r : Nat}
    (h : parseExponentOverflow pos sig posExp s = .ok r s') :
    ∃ w, s.rd.rest = w ++ s'.rd.rest ∧ w.all isDigit = true := by
  unfold parseExponentOverflow at h
  split at h
  · simp [errAt] at h
  · obtain ⟨u, s1, h1, h2⟩ := bind_ok h
    simp only [pure_apply, Res.ok.injEq] at h2
    rw [← h2.2]
    exact skipDigits_eats h1

theorem exponentLoop_eats {cfg : Cfg} {pos : Bool} {sig : Nat} {startExp : Int} {posExp : Bool} :
    ∀ (f exp : Nat) {s s' : St} {r : Nat},
      exponentLoop cfg pos sig startExp posExp f exp s = .ok r s' →
      ∃ w, s.rd.rest = w ++ s'.rd.rest ∧ w.all isDigit = true := by
  intro f
  induction f with
  | zero => intro exp s s' r h; cases h
  | succ f ih =>
    intro exp s s' r h
    unfold exponentLoop at h
    obtain ⟨c, s1, hp, h⟩ := bind_ok h
    split at h
    · rename_i hc
      obtain ⟨u, s2, hd, h⟩ := bind_ok h
      have hr := peek_discard hp hd
      simp only at h
      split at h
      · obtain ⟨w, hw, hall⟩ := parseExponentOverflow_eats h
        exact ⟨c :: w, by rw [hr, hw]; rfl, by simp [hc, hall]⟩
      · obtain ⟨w, hw, hall⟩ := ih _ h
        exact ⟨c :: w, by rw [hr, hw]; rfl, by simp [hc, hall]⟩
    · have := f64FromParts_st h
      subst this
      exact ⟨[], by simp [(peekOrNull_rest hp).1], rfl⟩

/-- the optional sign of the exponent -/
theorem signStep_eats {s s1 s2 : St} {c : UInt8} {pe : Bool} (hp : peekOrNull s = .ok c s1)
    (h : (if c == 43 then do discard; pure true
          else if c == 45 then do discard; pure false
          else pure true : P Bool) s1 = .ok pe s2) :
    ∃ sg, s.rd.rest = sg ++ s2.rd.rest ∧ (sg = [] ∨ sg = [43] ∨ sg = [45]) := by
  split at h
  · rename_i hc
    obtain ⟨u, s3, hd, h⟩ := bind_ok h
    simp only [pure_apply, Res.ok.injEq] at h
    have hr := peek_discard hp hd
    rw [h.2] at hr
    have : c = 43 := by simpa using hc
    subst this
    exact ⟨[43], hr, .inr (.inl rfl)⟩
  · split at h
    · rename_i _ hc
      obtain ⟨u, s3, hd, h⟩ := bind_ok h
      simp only [pure_apply, Res.ok.injEq] at h
      have hr := peek_discard hp hd
      rw [h.2] at hr
      have : c = 45 := by simpa using hc
      subst this
      exact ⟨[45], hr, .inr (.inr rfl)⟩
    · simp only [pure_apply, Res.ok.injEq] at h
      rw [← h.2]
      exact ⟨[], by simp [(peekOrNull_rest hp).1], .inl rfl⟩

theorem signed_digits1 {sg ds : List UInt8} {d : UInt8} (hsg : sg = [] ∨ sg = [43] ∨ sg = [45])
    (hd : isDigit d = true) (hall : ds.all isDigit = true) :
    digits1 isDigit (dropSign (sg ++ d :: ds)) = true := by
  rcases hsg with rfl | rfl | rfl
  · simp [dropSign, digit_not_sign d hd, digits1, hd, hall]
  · simp [dropSign, digits1, hd, hall]
  · simp [dropSign, digits1, hd, hall]

/-- `parse_exponent` is started at the `e`, which it consumes first -/
theorem parseExponent_eats {cfg : Cfg} {fuel : Nat} {pos : Bool} {sig : Nat} {se : Int} {s s' : St}
    {r : Nat} (h : parseExponent cfg fuel pos sig se s = .ok r s') :
    ∃ e w, s.rd.rest = e :: (w ++ s'.rd.rest) ∧ digits1 isDigit (dropSign w) = true := by
  unfold parseExponent at h
  obtain ⟨u, s1, hd, h⟩ := bind_ok h
  obtain ⟨e, he⟩ := discard_rest hd
  obtain ⟨c, s2, hp, h⟩ := bind_ok h
  obtain ⟨pe, s3, hs, h⟩ := bind_ok h
  obtain ⟨sg, hsg, hsg'⟩ := signStep_eats hp hs
  obtain ⟨o, s4, hn, h⟩ := bind_ok h
  cases o with
  | none => simp [errAt] at h
  | some d =>
    simp only at h
    split at h
    · rename_i hdig
      obtain ⟨ds, hds, hall⟩ := exponentLoop_eats _ _ h
      refine ⟨e, sg ++ d :: ds, ?_, signed_digits1 hsg' hdig hall⟩
      rw [he, hsg, (U8.next_some_frame hn).2, hds]
      simp
    · simp [errAt] at h

/-- the flag `r.2.2` says that a digit was seen, here or before (`any`) -/
theorem decimalLoop_eats : ∀ (f sig : Nat) (exp : Int) (zeros : Nat) (any : Bool) {s s' : St}
    {r : Nat × Int × Bool}, decimalLoop f sig exp zeros any s = .ok r s' →
    ∃ w, s.rd.rest = w ++ s'.rd.rest ∧ w.all isDigit = true ∧
      (r.2.2 = true → any = true ∨ w ≠ []) := by
  intro f
  induction f with
  | zero => intro sig exp zeros any s s' r h; cases h
  | succ f ih =>
    intro sig exp zeros any s s' r h
    unfold decimalLoop at h
    obtain ⟨c, s1, hp, h⟩ := bind_ok h
    split at h
    · rename_i hc
      obtain ⟨u, s2, hd, h⟩ := bind_ok h
      have hr := peek_discard hp hd
      split at h
      · obtain ⟨w, hw, hall, _⟩ := ih _ _ _ _ h
        exact ⟨c :: w, by rw [hr, hw]; rfl, by simp [hc, hall], fun _ => .inr (by simp)⟩
      · rcases hsh : shiftIn sig exp zeros (c.toNat - 48) with ⟨sg1, ex1, fl⟩
        rw [hsh] at h
        cases fl with
        | true =>
          obtain ⟨u', s3, hsk, h⟩ := bind_ok h
          simp only [pure_apply, Res.ok.injEq] at h
          obtain ⟨w, hw, hall⟩ := skipDigits_eats hsk
          rw [h.2] at hw
          exact ⟨c :: w, by rw [hr, hw]; rfl, by simp [hc, hall], fun _ => .inr (by simp)⟩
        | false =>
          obtain ⟨w, hw, hall, _⟩ := ih _ _ _ _ h
          exact ⟨c :: w, by rw [hr, hw]; rfl, by simp [hc, hall], fun _ => .inr (by simp)⟩
    · simp only [pure_apply, Res.ok.injEq] at h
      obtain ⟨rfl, rfl⟩ := h
      exact ⟨[], by simp [(peekOrNull_rest hp).1], rfl, fun ha => .inl ha⟩

/-- `parse_decimal` is started at the `.`, which it consumes first -/
theorem parseDecimal_eats {cfg : Cfg} {fuel : Nat} {pos : Bool} {sig : Nat} {exp : Int} {s s' : St}
    {r : Nat} (h : parseDecimal cfg fuel pos sig exp s = .ok r s') :
    ∃ d fs ex, s.rd.rest = d :: (fs ++ ex ++ s'.rd.rest) ∧ digits1 isDigit fs = true ∧
      (ex = [] ∨ exponentPart ex = true) := by
  unfold parseDecimal at h
  obtain ⟨u, s1, hd, h⟩ := bind_ok h
  obtain ⟨d, hdr⟩ := discard_rest hd
  obtain ⟨⟨sig', exp', any⟩, s2, hl, h⟩ := bind_ok h
  obtain ⟨fs, hfs, hall, hany⟩ := decimalLoop_eats _ _ _ _ _ hl
  simp only at h
  split at h
  · obtain ⟨o, s3, _, h⟩ := bind_ok h
    cases o <;> simp [peekErr] at h
  · rename_i hne
    have hany' : any = true := by simpa using hne
    have hfs1 : digits1 isDigit fs = true := by
      rcases hany hany' with h0 | h0
      · cases h0
      · cases fs with
        | nil => exact absurd rfl h0
        | cons x xs => simpa [digits1] using hall
    obtain ⟨c, s3, hp, h⟩ := bind_ok h
    obtain ⟨hr3, hc⟩ := peekOrNull_rest hp
    split at h
    · rename_i hce
      obtain ⟨e, w, hw, hwd⟩ := parseExponent_eats h
      refine ⟨d, fs, e :: w, ?_, hfs1, .inr ?_⟩
      · rw [hdr, hfs, ← hr3, hw]; simp
      · rw [← hr3, hw] at hc
        have : c = e := hc
        subst this
        simp only [exponentPart, isExpMark, hce, hwd, Bool.and_self]
    · have := f64FromParts_st h
      subst this
      exact ⟨d, fs, [], by rw [hdr, hfs, hr3]; simp, hfs1, .inl rfl⟩

/-- nothing, or (radix 10 only) a fraction and/or an exponent -/
def TailW (radix : Nat) (t : List UInt8) : Prop :=
  ∃ fr ex, t = fr ++ ex ∧ (fr = [] ∨ fractionPart fr = true) ∧
    (ex = [] ∨ exponentPart ex = true) ∧ (t ≠ [] → radix = 10)

theorem TailW.nil (radix : Nat) : TailW radix [] :=
  ⟨[], [], rfl, .inl rfl, .inl rfl, fun h => absurd rfl h⟩

theorem tailW_of_decimal {d : UInt8} {fs ex : List UInt8} (hd : d = 46)
    (hfs : digits1 isDigit fs = true) (hex : ex = [] ∨ exponentPart ex = true) :
    TailW 10 (d :: (fs ++ ex)) := by
  subst hd
  refine ⟨46 :: fs, ex, rfl, .inr ?_, hex, fun _ => rfl⟩
  simpa [fractionPart] using hfs

theorem tailW_of_exponent {e : UInt8} {w : List UInt8} (he : (e == 101 || e == 69) = true)
    (hw : digits1 isDigit (dropSign w) = true) : TailW 10 (e :: w) := by
  refine ⟨[], e :: w, rfl, .inl rfl, .inr ?_, fun _ => rfl⟩
  simp only [exponentPart, isExpMark, he, hw, Bool.and_self]

/-- What follows the digits of a number, in `parse_num_tail` and in `parse_long_integer` alike: a `.`
    or an exponent mark (radix 10 only) hands over to `parse_decimal` / `parse_exponent`, followed by
    what each of the two callers does with the float (`dec`, `ex`); anything else ends the integer
    and leaves the state alone (`int`). -/
theorem tailCascade_eats {α : Type} {cfg : Cfg} {fuel radix : Nat} {pos : Bool} {sig : Nat}
    {exp : Int} {dec ex int : P α} {s s1 s' : St} {c : UInt8} {r : α}
    (hp : peekOrNull s = .ok c s1)
    (hdec : dec s1 = .ok r s' → ∃ g, parseDecimal cfg fuel pos sig exp s1 = .ok g s')
    (hex : ex s1 = .ok r s' → ∃ g, parseExponent cfg fuel pos sig exp s1 = .ok g s')
    (hint : int s1 = .ok r s' → s' = s1)
    (h : (if c == 46 then if radix != 10 then peekErr .invalidNumber else dec
          else if c == 101 || c == 69 then if radix != 10 then peekErr .invalidNumber else ex
          else int) s1 = .ok r s') :
    ∃ t, s.rd.rest = t ++ s'.rd.rest ∧ TailW radix t := by
  obtain ⟨hr1, hc⟩ := peekOrNull_rest hp
  replace h := ite_ok h
  rcases h with ⟨hc46, h⟩ | ⟨-, h⟩
  · replace h := ite_ok h
    rcases h with ⟨_, h⟩ | ⟨hrad, h⟩
    · cases h
    · obtain rfl : radix = 10 := by simpa using hrad
      obtain ⟨g, hg⟩ := hdec h
      obtain ⟨d, fs, ex', hw, hfs, hex'⟩ := parseDecimal_eats hg
      rw [hr1] at hw
      have hd : d = 46 := by
        rw [hw] at hc
        have : c = d := hc
        subst this
        simpa using hc46
      exact ⟨d :: (fs ++ ex'), by rw [hw]; simp, tailW_of_decimal hd hfs hex'⟩
  replace h := ite_ok h
  rcases h with ⟨hce, h⟩ | ⟨-, h⟩
  · replace h := ite_ok h
    rcases h with ⟨_, h⟩ | ⟨hrad, h⟩
    · cases h
    · obtain rfl : radix = 10 := by simpa using hrad
      obtain ⟨g, hg⟩ := hex h
      obtain ⟨e, w, hw, hwd⟩ := parseExponent_eats hg
      rw [hr1] at hw
      have he : c = e := by rw [hw] at hc; exact hc
      subst he
      exact ⟨c :: w, by rw [hw]; simp, tailW_of_exponent hce hwd⟩
  · obtain rfl := hint h
    exact ⟨[], by simp [hr1], TailW.nil _⟩

theorem parseNumTail_eats {cfg : Cfg} {fuel radix : Nat} {pos : Bool} {sig : Nat} {s s' : St}
    {n : Number} (h : parseNumTail cfg fuel radix pos sig s = .ok n s') :
    ∃ t, s.rd.rest = t ++ s'.rd.rest ∧ TailW radix t := by
  unfold parseNumTail at h
  obtain ⟨c, s1, hp, h⟩ := bind_ok h
  refine tailCascade_eats (cfg := cfg) (fuel := fuel) (pos := pos) (sig := sig) (exp := 0) hp
    (fun h => (map_ok h).imp fun _ h => h.1) (fun h => (map_ok h).imp fun _ h => h.1)
    (fun h => ?_) h
  -- the number is an integer: every remaining arm is a `pure`
  split at h
  · exact (Res.ok.inj h).2.symm
  · simp only at h
    split at h <;> exact (Res.ok.inj h).2.symm

/-- the digits past the capacity of the accumulator: each turn peeks; a digit is consumed and the
    loop goes on (one more byte of `ds`), anything else is the cascade of `tailCascade_eats` -/
theorem parseLongInteger_eats {cfg : Cfg} {radix : Nat} {pos : Bool} {sig : Nat} :
    ∀ (f exp : Nat) {s s' : St} {r : Nat}, parseLongInteger cfg radix pos sig f exp s = .ok r s' →
      ∃ ds t, s.rd.rest = ds ++ t ++ s'.rd.rest ∧ ds.all (dOk radix) = true ∧ TailW radix t := by
  intro f
  induction f with
  | zero => intro exp s s' r h; cases h
  | succ f ih =>
    intro exp s s' r h
    unfold parseLongInteger at h
    obtain ⟨c, s1, hp, h⟩ := bind_ok h
    cases hdv : digitVal radix c with
    | some d =>
      rw [hdv] at h
      simp only at h
      by_cases hlt : d ≥ radix
      · rw [if_pos hlt] at h; cases h
      · rw [if_neg hlt] at h
        obtain ⟨u, s2, hd, h⟩ := bind_ok h
        have hr := peek_discard hp hd
        by_cases hov : exp + 1 > i32Max
        · rw [if_pos hov] at h; cases h
        · rw [if_neg hov] at h
          obtain ⟨ds, t, hw, hall, ht⟩ := ih _ h
          exact ⟨c :: ds, t, by rw [hr, hw]; simp, by simp [dOk_of hdv hlt, hall], ht⟩
    | none =>
      rw [hdv] at h
      simp only at h
      suffices ht : ∃ t, s.rd.rest = t ++ s'.rd.rest ∧ TailW radix t by
        obtain ⟨t, ht, htw⟩ := ht
        exact ⟨[], t, by simpa using ht, rfl, htw⟩
      refine tailCascade_eats (cfg := cfg) (fuel := f + 1) (pos := pos) (sig := sig) (exp := exp) hp
        (fun h => ⟨_, h⟩) (fun h => ⟨_, h⟩) (fun h => ?_) h
      -- the integer is over: the state is left alone
      by_cases hrad : (radix != 10) = true
      · rw [if_pos hrad] at h
        have key : ∀ g : Nat, (if F64.isInf g = true then errAt .numberOutOfRange
            else pure (if pos = true then g else F64.neg g) : P Nat) s1 = .ok r s' → s' = s1 := by
          intro g hg
          by_cases hi : F64.isInf g = true
          · rw [if_pos hi] at hg; cases hg
          · rw [if_neg hi] at hg; exact (Res.ok.inj hg).2.symm
        exact key _ h
      · rw [if_neg hrad] at h
        exact f64FromParts_st h

/-- `digit(radix)+` followed by a tail -/
def BodyW (radix : Nat) (w : List UInt8) : Prop :=
  ∃ ds t, w = ds ++ t ∧ ds ≠ [] ∧ ds.all (dOk radix) = true ∧ TailW radix t

theorem numLoop_eats {cfg : Cfg} {radix : Nat} {pos : Bool} :
    ∀ (f res : Nat) {s s' : St} {n : Number}, numLoop cfg radix pos f res s = .ok n s' →
      ∃ ds t, s.rd.rest = ds ++ t ++ s'.rd.rest ∧ ds.all (dOk radix) = true ∧ TailW radix t := by
  intro f
  induction f with
  | zero => intro res s s' n h; cases h
  | succ f ih =>
    intro res s s' n h
    unfold numLoop at h
    obtain ⟨c, s1, hp, h⟩ := bind_ok h
    cases hdv : digitVal radix c with
    | none =>
      rw [hdv] at h
      obtain ⟨t, ht, htw⟩ := parseNumTail_eats h
      exact ⟨[], t, by rw [← (peekOrNull_rest hp).1, ht]; simp, rfl, htw⟩
    | some d =>
      rw [hdv] at h
      simp only at h
      split at h
      · simp [peekErr] at h
      · rename_i hlt
        obtain ⟨u, s2, hd, h⟩ := bind_ok h
        have hr := peek_discard hp hd
        split at h
        · obtain ⟨g, s3, hl, h⟩ := bind_ok h
          simp only [pure_apply, Res.ok.injEq] at h
          rw [h.2] at hl
          obtain ⟨ds, t, hw, hall, ht⟩ := parseLongInteger_eats _ _ hl
          exact ⟨c :: ds, t, by rw [hr, hw]; simp, by simp [dOk_of hdv hlt, hall], ht⟩
        · obtain ⟨ds, t, hw, hall, ht⟩ := ih _ h
          exact ⟨c :: ds, t, by rw [hr, hw]; simp, by simp [dOk_of hdv hlt, hall], ht⟩

theorem parseNumLiteral_eats {cfg : Cfg} {fuel radix : Nat} {pos : Bool} {s s' : St} {n : Number}
    (h : parseNumLiteral cfg fuel radix pos s = .ok n s') :
    ∃ w, s.rd.rest = w ++ s'.rd.rest ∧ BodyW radix w := by
  unfold parseNumLiteral at h
  obtain ⟨o, s1, hn, h⟩ := bind_ok h
  cases o with
  | none => simp [peekErr] at h
  | some c =>
    simp only at h
    cases hdv : digitVal radix c with
    | none => rw [hdv] at h; simp [peekErr] at h
    | some d =>
      rw [hdv] at h
      simp only at h
      split at h
      · simp [peekErr] at h
      · rename_i hlt
        obtain ⟨ds, t, hw, hall, ht⟩ := numLoop_eats _ _ h
        refine ⟨c :: ds ++ t, ?_, c :: ds, t, rfl, by simp, by simp [dOk_of hdv hlt, hall], ht⟩
        rw [(U8.next_some_frame hn).2, hw]; simp

theorem parseRadixLiteral_eats {cfg : Cfg} {fuel radix : Nat} {s s' : St} {n : Number}
    (h : parseRadixLiteral cfg fuel radix s = .ok n s') :
    ∃ sg w, s.rd.rest = sg ++ w ++ s'.rd.rest ∧ (sg = [] ∨ sg = [43] ∨ sg = [45]) ∧
      BodyW radix w := by
  unfold parseRadixLiteral at h
  obtain ⟨c, s1, hp, h⟩ := bind_ok h
  split at h
  · rename_i hc
    obtain ⟨u, s2, hd, h⟩ := bind_ok h
    have hr := peek_discard hp hd
    have : c = 45 := by simpa using hc
    subst this
    obtain ⟨w, hw, hb⟩ := parseNumLiteral_eats h
    exact ⟨[45], w, by rw [hr, hw]; rfl, .inr (.inr rfl), hb⟩
  · split at h
    · rename_i hc
      obtain ⟨u, s2, hd, h⟩ := bind_ok h
      have hr := peek_discard hp hd
      have : c = 43 := by simpa using hc
      subst this
      obtain ⟨w, hw, hb⟩ := parseNumLiteral_eats h
      exact ⟨[43], w, by rw [hr, hw]; rfl, .inr (.inl rfl), hb⟩
    · obtain ⟨w, hw, hb⟩ := parseNumLiteral_eats h
      exact ⟨[], w, by rw [← (peekOrNull_rest hp).1, hw]; rfl, .inl rfl, hb⟩

/-- a class of bytes that holds everything a numeric literal of the radix is written with -/
structure LitClass (radix : Nat) (P : UInt8 → Bool) : Prop where
  digit : ∀ b, dOk radix b = true → P b = true
  dec : ∀ b, isDigit b = true → P b = true
  exp : ∀ b, isExpMark b = true → P b = true
  plus : P 43 = true
  minus : P 45 = true
  dot : P 46 = true

theorem all_class {p P : UInt8 → Bool} (h : ∀ b, p b = true → P b = true) {w : List UInt8}
    (hw : w.all p = true) : w.all P = true :=
  List.all_eq_true.mpr fun b hb => h b (List.all_eq_true.mp hw b hb)

section
variable {radix : Nat} {P : UInt8 → Bool} (L : LitClass radix P)
include L

theorem LitClass.dropSign {w : List UInt8} (h : (dropSign w).all P = true) : w.all P = true := by
  cases w with
  | nil => rfl
  | cons c r =>
    by_cases hc : (c == 43 || c == 45) = true
    · rw [Spec.dropSign, if_pos hc] at h
      have : P c = true := by
        rcases (by simpa using hc : c = 43 ∨ c = 45) with rfl | rfl
        · exact L.plus
        · exact L.minus
      rw [List.all_cons, this, h]; rfl
    · rwa [Spec.dropSign, if_neg hc] at h

theorem LitClass.digits1 {w : List UInt8} (h : digits1 isDigit w = true) : w.all P = true := by
  simp only [Spec.digits1, Bool.and_eq_true] at h
  exact all_class L.dec h.2

/-- one walk over the decomposition `BodyW`, the class a parameter -/
theorem LitClass.body {w : List UInt8} (h : BodyW radix w) : w.all P = true := by
  obtain ⟨ds, t, rfl, _, hds, fr, ex, rfl, hfr, hex, _⟩ := h
  rw [List.all_append, List.all_append, all_class L.digit hds]
  have h1 : fr.all P = true := by
    rcases hfr with rfl | hfr
    · rfl
    · cases fr with
      | nil => rfl
      | cons c r =>
        simp only [fractionPart, Bool.and_eq_true, beq_iff_eq] at hfr
        rw [List.all_cons, L.digits1 hfr.2, hfr.1, L.dot]; rfl
  have h2 : ex.all P = true := by
    rcases hex with rfl | hex
    · rfl
    · cases ex with
      | nil => rfl
      | cons c r =>
        simp only [exponentPart, Bool.and_eq_true] at hex
        rw [List.all_cons, L.exp c hex.1, L.dropSign (L.digits1 hex.2)]; rfl
  rw [h1, h2]; rfl

theorem LitClass.signed {sg w : List UInt8} (hsg : sg = [] ∨ sg = [43] ∨ sg = [45])
    (h : BodyW radix w) : (sg ++ w).all P = true := by
  rcases hsg with rfl | rfl | rfl <;> simp [L.body h, L.plus, L.minus]
end

end C08
end Parse
end Lexpr
