/-
  The default pair as an instance of the dialect-generic theorems of `DialectStructRT.lean`: the
  structural round trip (`C01_structure`, `C01_roundtrip_partial`; `tail_rt` / `seq_rt` for the loops)
  and `AtomOK` for the atoms `SupportedAtom` describes (`C01_roundtrip_supported`).
-/
import LexprModel.Proofs.DialectStructRT
namespace Lexpr
namespace Parse
namespace ListRT
open Print Spec

/-- the atoms other than floats and byte vectors (FullRT.lean adds those) -/
def SupportedAtom : Value → Prop
  | .nil => True
  | .bool _ => True
  | .number (.pos n) => n ≤ u64Max
  | .number (.neg i) => i64Min ≤ i ∧ i < 0
  | .number (.flt _) => False
  | .char c => isScalar c = true
  | .string x => Utf8.valid x = true
  | .symbol x => PlainIdent x ∧ dotHeadOk x = true
  | .keyword x => (∀ b ∈ x, symTermSlice b = false) ∧ x ≠ [46] ∧ Utf8.valid x = true
  | .bytes _ => False
  | .null => False
  | .cons _ _ => False
  | .vector _ => False

theorem symbolPlainFor_of_plain (cfg : Cfg) (ho : cfg.opts = Parse.Options.default) (x : List UInt8)
    (h : PlainIdent x) : symbolPlainFor cfg x = true := by
  cases x with
  | nil => exact absurd h.1 (by simp [plainShape])
  | cons b tl =>
    simp [symbolPlainFor, (nameShape_of_plainShape cfg ho b tl h.1).1, h.2, ho,
      Parse.Options.default]

theorem nestingP_po_leaf (v : Value) (h1 : v.isCons = false) (h2 : v.isVector = false)
    (h3 : v ≠ .null) : nestingP po v = 0 := by
  cases v <;> simp_all [Value.isCons, Value.isVector, nestingP, Print.Options.default]

theorem atomOK_of_P (cfg : Cfg) (ryu : Nat → List UInt8) (v : Value) (h : AtomOKP po cfg ryu v) :
    AtomOK cfg ryu v := by
  obtain ⟨h1, h2, h3, h4, h5⟩ := h
  refine ⟨h1, h2, h3, h4, fun s rest fuel hf hg hr hfu hd => ?_⟩
  have := h5 s rest fuel hf hg hr hfu (by rw [nestingP_po_leaf v h1 h2 h3]; exact hd)
  rwa [fold_id po cfg.opts rfl rfl (by decide) v] at this

theorem leafPlainFor_of_supported (cfg : Cfg) (ho : cfg.opts = Parse.Options.default) (v : Value)
    (h : SupportedAtom v) : LeafPlainFor po cfg v := by
  cases v with
  | symbol x => exact ⟨symbolPlainFor_of_plain cfg ho x h.1, h.2⟩
  | keyword x =>
    refine ⟨?_, rfl⟩
    show keywordPlainFor po cfg x = true
    have hall : (x.all fun b => !symTermSlice b) = true := by
      simpa [List.all_eq_true] using h.1
    simp [keywordPlainFor, Print.Options.default, h.2.2, h.2.1, hall]
  | number n =>
    cases n with
    | flt b => exact absurd h id
    | _ => exact ⟨h, rfl⟩
  | _ => first | exact ⟨h, rfl⟩ | exact absurd h id

theorem atomOK_supported (cfg : Cfg) (ho : cfg.opts = Parse.Options.default) (ryu : Nat → List UInt8)
    (v : Value) (h : SupportedAtom v) : AtomOK cfg ryu v :=
  atomOK_of_P cfg ryu v (atomOKP_of_leaf po cfg ryu v (by rw [ho]; decide)
    (fun hv => by subst hv; exact h) (leafPlainFor_of_supported cfg ho v h))

theorem atomOKP_of_OK (cfg : Cfg) (ryu : Nat → List UInt8) (v : Value) (h : AtomOK cfg ryu v) :
    AtomOKP po cfg ryu v :=
  ⟨h.1, h.2.1, h.2.2.1, h.2.2.2.1, fun s rest fuel hf hg hr hfu hd => by
    rw [fold_id po cfg.opts rfl rfl (by decide) v]
    exact h.2.2.2.2 s rest fuel hf hg hr hfu (by omega)⟩

theorem nestingP_po :
    (∀ v : Value, nestingP po v = nesting v) ∧ (∀ v : Value, nestingTailP po v = nestingTail v) ∧
    (∀ xs : List Value, nestingSeqP po xs = nestingSeq xs) := by
  refine value_induction ?_ ?_ ?_ ?_ ?_ ?_ ?_ ?_ ?_
  · intro a d ha hd; simp only [nestingP, nesting, ha, hd]
  · intro xs hs; simp only [nestingP, nesting, hs]
  · simp only [nestingP, nesting]
  · intro v h1 h2 h3; rw [nestingP_po_leaf v h1 h2 h3, (nesting_atom v h1 h2 h3).1]
  · intro a d ha hd; simp only [nestingTailP, nestingTail, ha, hd]
  · simp only [nestingTailP, nestingTail]
  · intro d h1 h3 hd; rw [nestingTailP_dotted _ d h1 h3, nestingTail_dotted d h1 h3, hd]
  · simp only [nestingSeqP, nestingSeq]
  · intro x xs hx hs; simp only [nestingSeqP, nestingSeq, hx, hs]

/-- `reads_textP` at the default options, where nothing is folded -/
theorem reads_text (cfg : Cfg) (ryu : Nat → List UInt8) :
    (∀ v, AllAtomsOK cfg ryu v → Reads cfg (Concat.closes v) (text po ryu v) v (nesting v)) ∧
    (∀ d, AllAtomsOK cfg ryu d →
      ReadsTail cfg (flatten (emitsTail po ryu d)) d (nestingTail d)) ∧
    (∀ xs, AllAtomsOKSeq cfg ryu xs → ∀ first,
      ReadsSeq cfg 41 first (flatten (emitsSeq po ryu first xs)) xs (nestingSeq xs)) := by
  have hP := reads_textP po cfg ryu (fun h => absurd h (by decide))
  have hid := fold_all_id po cfg.opts rfl rfl (by decide)
  have hOK := FullRT.allLeaves_imp (allAtomsOK_iff_leaves cfg ryu) (allAtomsOKP_iff_leaves po cfg ryu)
    fun w _ => atomOKP_of_OK cfg ryu w
  refine ⟨fun v h => ?_, fun d h => ?_, fun xs h first => ?_⟩
  · have := hP.1 v (hOK.1 v h); rwa [hid.1, nestingP_po.1] at this
  · have := hP.2.1 d (hOK.1 d h); rwa [hid.1, nestingP_po.2.1] at this
  · have := hP.2.2 xs (hOK.2 xs h) first; rwa [hid.2, nestingP_po.2.2] at this

theorem tail_rt (cfg : Cfg) (hopts : cfg.opts = Parse.Options.default) (ryu : Nat → List UInt8) :
    ∀ d : Value, AllAtomsOK cfg ryu d → TailRT cfg ryu d :=
  fun d h => ((reads_text cfg ryu).2.1 d h).2

theorem seq_rt (cfg : Cfg) (hopts : cfg.opts = Parse.Options.default) (ryu : Nat → List UInt8) :
    ∀ (first : Bool) (xs : List Value), AllAtomsOKSeq cfg ryu xs → SeqRT cfg ryu first xs :=
  fun first xs h => ((reads_text cfg ryu).2.2 xs h first).2

/-- **C01_structure.** Let every atom leaf of `v` round-trip (`AllAtomsOK`, the empty list needs
    nothing).  In any non-faulty slice state whose unread input is the default-options text of `v`
    followed by `rest` (empty or starting with a byte that ends every token), with a depth budget
    above the nesting of `v` and fuel at least `2 * (unread length) + 3`, `next_value` with default
    parser options returns `v`, leaves exactly `rest` unread, and restores the depth budget.
    Proper and dotted lists, vectors, `()` and any mixture of them are covered. -/
theorem C01_structure (cfg : Cfg) (hopts : cfg.opts = Parse.Options.default)
    (ryu : Nat → List UInt8) (v : Value) (h : AllAtomsOK cfg ryu v)
    (s : St) (rest : List UInt8) (fuel : Nat) (hf : Follow rest)
    (hm : s.rd.mode = .slice) (hfa : s.rd.faulty = false)
    (hr : s.rd.rest = text Print.Options.default ryu v ++ rest)
    (hfu : fuel ≥ 2 * s.rd.rest.length + 3) (hn : nesting v + 1 ≤ s.depth) :
    ∃ s', nextValue cfg fuel s = .ok (some v) s' ∧ s'.rd.rest = rest ∧ s'.rd.mode = .slice ∧
      s'.rd.faulty = false ∧ s'.depth = s.depth :=
  ((reads_text cfg ryu).1 v h).run [] .nil s rest fuel (.inr hf) hm hfa hr hfu hn

/-- **C01_structure_public.** The same through the public `next_value` (`nextValueTop`), whose
    fuel `2 * length + 4` suffices. -/
theorem C01_structure_public (cfg : Cfg) (hopts : cfg.opts = Parse.Options.default)
    (ryu : Nat → List UInt8) (v : Value) (h : AllAtomsOK cfg ryu v)
    (s : St) (rest : List UInt8) (hf : Follow rest)
    (hm : s.rd.mode = .slice) (hfa : s.rd.faulty = false)
    (hr : s.rd.rest = text Print.Options.default ryu v ++ rest) (hn : nesting v + 1 ≤ s.depth) :
    ∃ s', nextValueTop cfg s = .ok (some v) s' ∧ s'.rd.rest = rest ∧ s'.rd.mode = .slice ∧
      s'.rd.faulty = false ∧ s'.depth = s.depth := by
  obtain ⟨s', e, r⟩ := C01_structure cfg hopts ryu v h s rest (2 * s.rd.rest.length + 4) hf hm hfa hr
    (by omega) hn
  exact ⟨s', by simp [nextValueTop, apiFuel, e], r⟩

/-- **C01_roundtrip_partial.** `from_slice(to_string(v)) = Ok(v)` with default options on both
    sides, for every `v` whose atoms round-trip and whose nesting is at most 127 (the parser starts
    with `remaining_depth = 128` and every open list or vector, `()` included, takes one).
    Partial in that the atom round trips are a hypothesis. -/
theorem C01_roundtrip_partial (cfg : Cfg) (hopts : cfg.opts = Parse.Options.default)
    (ryu : Nat → List UInt8) (v : Value) (h : AllAtomsOK cfg ryu v) (hn : nesting v ≤ 127) :
    ∃ s', fromTrait cfg (initSt .slice (text Print.Options.default ryu v)) = .ok v s' ∧
      s'.rd.rest = [] ∧ s'.depth = 128 :=
  ((reads_text cfg ryu).1 v h).fromTrait_plain hn

mutual
def AllSupported : Value → Prop
  | .cons a d => AllSupported a ∧ AllSupported d
  | .vector xs => AllSupportedSeq xs
  | .null => True
  | .nil => True
  | .bool _ => True
  | .number n => SupportedAtom (.number n)
  | .char c => SupportedAtom (.char c)
  | .string x => SupportedAtom (.string x)
  | .symbol x => SupportedAtom (.symbol x)
  | .keyword x => SupportedAtom (.keyword x)
  | .bytes _ => False
def AllSupportedSeq : List Value → Prop
  | [] => True
  | x :: xs => AllSupported x ∧ AllSupportedSeq xs
end

theorem allSupported_iff_leaves :
    (∀ v, AllSupported v ↔ FullRT.AllLeaves SupportedAtom v) ∧
    (∀ xs, AllSupportedSeq xs ↔ FullRT.AllLeavesSeq SupportedAtom xs) :=
  FullRT.allLeaves_of_unfold (fun _ _ => by simp only [AllSupported])
    (fun _ => by simp only [AllSupported]) (by simp only [AllSupported])
    (by simp only [AllSupportedSeq]) (fun _ _ => by simp only [AllSupportedSeq])
    (fun v h1 h2 h3 => by
      cases v <;> simp_all [Value.isCons, Value.isVector, AllSupported, SupportedAtom])

theorem allAtomsOK_of_supported (cfg : Cfg) (ho : cfg.opts = Parse.Options.default)
    (ryu : Nat → List UInt8) : ∀ v : Value, AllSupported v → AllAtomsOK cfg ryu v :=
  (FullRT.allLeaves_imp allSupported_iff_leaves (allAtomsOK_iff_leaves cfg ryu)
    fun w _ hw => atomOK_supported cfg ho ryu w hw).1

theorem allAtomsOKSeq_of_supported (cfg : Cfg) (ho : cfg.opts = Parse.Options.default)
    (ryu : Nat → List UInt8) : ∀ xs : List Value, AllSupportedSeq xs → AllAtomsOKSeq cfg ryu xs :=
  (FullRT.allLeaves_imp allSupported_iff_leaves (allAtomsOK_iff_leaves cfg ryu)
    fun w _ hw => atomOK_supported cfg ho ryu w hw).2

/-- **C01_roundtrip_supported.** `from_slice(to_string(v)) = Ok(v)` (default options on both
    sides) for every value of nesting at most 127 whose atoms are `#nil`, booleans, integers,
    characters, strings (valid UTF-8), plain-identifier symbols (a leading `.` not followed by NUL,
    `|` or `"`) and keywords; floats and byte vectors: `FullRT.C01_roundtrip_full`. -/
theorem C01_roundtrip_supported (cfg : Cfg) (ho : cfg.opts = Parse.Options.default)
    (ryu : Nat → List UInt8) (v : Value) (h : AllSupported v) (hn : nesting v ≤ 127) :
    ∃ s', fromTrait cfg (initSt .slice (text Print.Options.default ryu v)) = .ok v s' ∧
      s'.rd.rest = [] ∧ s'.depth = 128 :=
  C01_roundtrip_partial cfg ho ryu v (allAtomsOK_of_supported cfg ho ryu v h) hn

/-- `(define (f x . rest) #(1 -2 "a\"b" #\x #:k))` -/
example (cfg : Cfg) (ho : cfg.opts = Parse.Options.default) (ryu : Nat → List UInt8) :
    let v : Value := Value.list [.symbol (asc "define"),
      .cons (.symbol (asc "f")) (.cons (.symbol (asc "x")) (.symbol (asc "rest"))),
      .vector [.number (.pos 1), .number (.neg (-2)), .string (asc "a\"b"), .char 120,
        .keyword (asc "k")]]
    ∃ s', fromTrait cfg (initSt .slice (text Print.Options.default ryu v)) = .ok v s' ∧
      s'.rd.rest = [] ∧ s'.depth = 128 := by
  intro v
  refine C01_roundtrip_supported cfg ho ryu v ?_ ?_
  · simp only [v, Value.list, Value.append, AllSupported, AllSupportedSeq, SupportedAtom]
    decide +kernel
  · simp [v, Value.list, Value.append, nesting, nestingTail, nestingSeq]

/-- `(#t () . #(#f (())))`: a dotted list with a vector tail; all hypotheses hold -/
example (cfg : Cfg) (hopts : cfg.opts = Parse.Options.default) (ryu : Nat → List UInt8) :
    let v : Value := .cons (.bool true) (.cons .null (.vector [.bool false, deep 1]))
    ∃ s', fromTrait cfg (initSt .slice (text Print.Options.default ryu v)) = .ok v s' ∧
      s'.rd.rest = [] ∧ s'.depth = 128 := by
  intro v
  refine C01_roundtrip_partial cfg hopts ryu v ?_ ?_
  · simp [v, AllAtomsOK, AllAtomsOKSeq, atomOK_bool, deep]
  · simp [v, nesting, nestingTail, nestingSeq, deep]

/-- the text of that value -/
example : text Print.Options.default (fun _ => [])
    (.cons (.bool true) (.cons .null (.vector [.bool false, deep 1]))) =
    asc "(#t () . #(#f (())))" := by decide +kernel

/-- `(#t . #f)` followed by `)` in a state with a depth budget of 2 -/
example (cfg : Cfg) (hopts : cfg.opts = Parse.Options.default) :
    let ryu : Nat → List UInt8 := fun _ => []
    ∃ s', nextValue cfg 100
        { initSt .slice (text Print.Options.default ryu (.cons (.bool true) (.bool false)) ++ [41])
          with depth := 2 } = .ok (some (.cons (.bool true) (.bool false))) s' ∧
      s'.rd.rest = [41] ∧ s'.rd.mode = .slice ∧ s'.rd.faulty = false ∧ s'.depth = 2 := by
  intro ryu
  refine C01_structure cfg hopts ryu _ ?_ _ [41] 100 (follow_cons _ _ (by decide)) rfl rfl rfl ?_ ?_
  · simp [AllAtomsOK, atomOK_bool]
  · have : text Print.Options.default ryu (.cons (.bool true) (.bool false)) = asc "(#t . #f)" := by
      decide
    simp [initSt, this]; decide
  · simp [nesting, nestingTail]

/-- the public `next_value` on `() #t`: returns `()` and leaves ` #t` -/
example (cfg : Cfg) (hopts : cfg.opts = Parse.Options.default) (ryu : Nat → List UInt8) :
    ∃ s', nextValueTop cfg (initSt .slice (text Print.Options.default ryu .null ++ [32, 35, 116])) =
      .ok (some .null) s' ∧ s'.rd.rest = [32, 35, 116] ∧ s'.rd.mode = .slice ∧
      s'.rd.faulty = false ∧ s'.depth = 128 := by
  refine C01_structure_public cfg hopts ryu .null (by simp [AllAtomsOK]) _ [32, 35, 116]
    (follow_cons _ _ (by decide)) rfl rfl rfl (by simp [nesting, initSt])

end ListRT
end Parse
end Lexpr
