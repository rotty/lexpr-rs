/-
  AtomRT — token-level round trip for atoms in the default dialect: the text the printer emits for
  an atom (`Print.atomEmits Print.Options.default`), followed by a token-ending context, is consumed
  exactly by `Parse.parseToken` and yields the token of that atom, on all three sources; the state
  after the token is given exactly (`adv s n p`).  What the lexer does on each kind of text is proved
  for every option set in `TokenRT.lean` and `TokenRTLit.lean`.  The kinds together (`atomRT`, up to
  the peek flag) are an instance of the table of `DialectRT.lean` and stand there.
-/
import LexprModel.Proofs.TokenRTLit
namespace Lexpr
namespace Parse

theorem symbolToken_default (cfg : Cfg) (ho : cfg.opts = Options.default) (name : List UInt8) :
    symbolToken cfg.opts name = .symbol name := by
  simp [symbolToken, ho, Options.default]

theorem nameTok_default (cfg : Cfg) (ho : cfg.opts = Options.default) (name : List UInt8) :
    nameTok cfg.opts name = .symbol name := by
  apply nameTok_symbol <;> simp [ho, Options.default]

/-- Shape of a name that the default reader returns verbatim as a symbol: no byte is a symbol
    terminator, and the name starts with an ASCII letter or one of `!$%&*./:<=>?@^_~` (but is not
    the lone dot), or is a peculiar identifier: `+`/`-` alone or followed by a sign-subsequent
    (or a NUL / `|` / `"`), or followed by a dot that is not followed by a digit. -/
def plainShape : List UInt8 → Bool
  | [] => false
  | b :: tl =>
    (b :: tl).all (fun x => !symTermSlice x) &&
    (((isAsciiAlpha b || isSymbolExtended b) && (b :: tl) != [46]) ||
     ((b == 43 || b == 45) && signTailOk tl))

def PlainIdent (name : List UInt8) : Prop := plainShape name = true ∧ Utf8.valid name = true

instance (name : List UInt8) : Decidable (PlainIdent name) := by
  unfold PlainIdent; infer_instance

theorem nameShape_of_plainShape (cfg : Cfg) (ho : cfg.opts = Options.default)
    (b : UInt8) (tl : List UInt8) (h : plainShape (b :: tl) = true) :
    nameShape cfg (b :: tl) = true ∧ ¬ b > 127 := by
  simp only [plainShape, Bool.and_eq_true] at h
  obtain ⟨hn, hcls⟩ := h
  simp only [nameShape, hn, Bool.true_and, Bool.or_eq_true]
  rcases Bool.or_eq_true_iff.mp hcls with h1 | h1
  · simp only [Bool.and_eq_true, Bool.or_eq_true, bne_iff_ne, ne_eq] at h1
    obtain ⟨ha | he, hdot⟩ := h1
    · exact ⟨.inl (.inl (.inl (.inl ha))), not_hi_of_tokClass (by rw [tokClass_alpha ha]; decide)⟩
    · refine ⟨.inl (.inl ?_), not_hi_of_ext he⟩
      by_cases h58 : b = 58
      · exact .inl (.inr (by simp [h58, ho, Options.default]))
      · exact .inr (by simp [he, h58, hdot, ho, Options.default])
  · refine ⟨.inl (.inr h1), ?_⟩
    rcases Bool.or_eq_true_iff.mp (Bool.and_eq_true_iff.mp h1).1 with h | h <;>
      rw [beq_iff_eq.mp h] <;> decide

/-- subsequent characters of the ASCII identifier class: letters, digits and
    `!$%&*./:<=>?@^_~+-` -/
def isIdentSubsequent (b : UInt8) : Bool :=
  isAsciiAlpha b || isDigit b || isSymbolExtended b || b == 43 || b == 45

/-- The simple ASCII identifiers: an ASCII letter or one of `!$%&*/:<=>?@^_~` followed by letters,
    digits and `!$%&*./:<=>?@^_~+-`. -/
def asciiIdent : List UInt8 → Bool
  | [] => false
  | b :: tl => (isAsciiAlpha b || (isSymbolExtended b && b != 46)) && tl.all isIdentSubsequent

theorem identSubsequent_facts : ∀ b : UInt8, isIdentSubsequent b = true →
    symTermSlice b = false ∧ b < 0x80 := by
  intro b h
  constructor
  · -- a terminator is one of the ten `Follow` bytes, none of which is an identifier byte
    cases ht : symTermSlice b
    · rfl
    · rw [forall_of_mem isFollow_mem (P := fun b => isIdentSubsequent b = false) (by decide) b
        (by rw [isFollow_eq_symTermSlice, ht])] at h
      cases h
  · have hle : ¬ b > 127 := by
      simp only [isIdentSubsequent, Bool.or_eq_true, beq_iff_eq] at h
      rcases h with (((ha | hd) | he) | rfl) | rfl
      · exact not_hi_of_tokClass (by rw [tokClass_alpha ha]; decide)
      · exact not_hi_of_tokClass (by rw [tokClass_digit hd]; decide)
      · exact not_hi_of_ext he
      · decide
      · decide
    simp only [gt_iff_lt, UInt8.lt_iff_toNat_lt, UInt8.toNat_ofNat] at hle ⊢
    omega

theorem asciiIdent_plain (name : List UInt8) (h : asciiIdent name = true) : PlainIdent name := by
  cases name with
  | nil => simp [asciiIdent] at h
  | cons b tl =>
    simp only [asciiIdent, Bool.and_eq_true, Bool.or_eq_true, List.all_eq_true, bne_iff_ne,
      ne_eq] at h
    obtain ⟨hinit, htl⟩ := h
    have hb : isIdentSubsequent b = true := by
      rcases hinit with h | h
      · simp [isIdentSubsequent, h]
      · simp [isIdentSubsequent, h.1]
    have hall : ∀ x ∈ b :: tl, isIdentSubsequent x = true := by
      intro x hx
      rcases List.mem_cons.mp hx with rfl | hx
      · exact hb
      · exact htl x hx
    refine ⟨?_, Utf8.U8.valid_ascii (fun x hx => (identSubsequent_facts x (hall x hx)).2)⟩
    simp only [plainShape, Bool.and_eq_true, Bool.or_eq_true, List.all_eq_true, Bool.not_eq_true',
      bne_iff_ne, ne_eq]
    refine ⟨fun x hx => (identSubsequent_facts x (hall x hx)).1, Or.inl ⟨?_, ?_⟩⟩
    · rcases hinit with h | h
      · exact Or.inl h
      · exact Or.inr h.1
    · intro he
      have hb46 : b = 46 := by simpa using (List.cons.inj he).1
      rcases hinit with h | h
      · subst hb46; simp [isAsciiAlpha] at h
      · exact h.2 hb46

theorem adv_rest_text (s : St) (text rest : List UInt8) (p : Bool)
    (h : s.rd.rest = text ++ rest) : (adv s text.length p).rd.rest = rest := by
  simp [h]

/-- The text `Printer::print` writes for an atom with the default options. -/
def atomText (ryu : Nat → List UInt8) (v : Value) : List UInt8 :=
  Print.flatten (Print.atomEmits Print.Options.default ryu v)

theorem atomText_nil (ryu) : atomText ryu .nil = [35, 110, 105, 108] := by rfl
theorem atomText_true (ryu) : atomText ryu (.bool true) = [35, 116] := by rfl
theorem atomText_false (ryu) : atomText ryu (.bool false) = [35, 102] := by rfl
theorem atomText_char (ryu) (c : Nat) : atomText ryu (.char c) = Print.schemeChar c :=
  atomTextP_char Print.Options.default ryu c
theorem atomText_symbol (ryu) (n : List UInt8) : atomText ryu (.symbol n) = n :=
  atomTextP_symbol Print.Options.default ryu n
theorem atomText_keyword (ryu) (n : List UInt8) : atomText ryu (.keyword n) = 35 :: 58 :: n :=
  atomTextP_keyword Print.Options.default ryu n
theorem atomText_string (ryu) (b : List UInt8) :
    atomText ryu (.string b) = 34 :: (Print.escapeStr .r6rs b ++ [34]) :=
  atomTextP_string Print.Options.default ryu b
theorem atomText_pos (ryu) (n : Nat) : atomText ryu (.number (.pos n)) = natDigits n :=
  atomTextP_pos Print.Options.default ryu n
theorem atomText_neg (ryu) (i : Int) : atomText ryu (.number (.neg i)) = intDigits i :=
  atomTextP_neg Print.Options.default ryu i
theorem atomText_bytes (ryu) (b : List UInt8) :
    atomText ryu (.bytes b) = 35 :: 117 :: 56 :: 40 :: (Print.octetsText b ++ [41]) :=
  atomTextP_bytes Print.Options.default ryu b

/-! ## Example configuration, and witnesses that the hypotheses matter -/

/-- example configuration: default dialect; only U+03BB is "alphabetic" -/
def exCfg : Cfg := { opts := Options.default, isAlphabetic := fun c => c == 955, pow10 := fun _ => 0 }
def exSt (bs : List UInt8) : St := { rd := { mode := .slice, rest := bs } }
def ryu0 : Nat → List UInt8 := fun _ => []

def tokIs (p : Token → Bool) : Res Token → Bool
  | .ok t _ => p t
  | _ => false
def isErr : Res Token → Bool
  | .err _ _ => true
  | _ => false

-- the symbol named `+1` is printed as `+1`, which reads as a number (not a `PlainIdent`)
example : tokIs (fun t => match t with | .number (.pos 1) => true | _ => false)
    (parseToken exCfg 3 43 (exSt (asc "+1"))) = true := by decide +kernel
-- the lone dot and a digit-initial name are errors
example : isErr (parseToken exCfg 3 46 (exSt (asc "."))) = true := by decide +kernel
example : isErr (parseToken exCfg 3 49 (exSt (asc "1+"))) = true := by decide +kernel
-- without `Follow`: a symbol runs on through `"` (not a symbol terminator)
example : tokIs (fun t => match t with | .symbol s => s == asc "foo\"bar\"" | _ => false)
    (parseToken exCfg 10 102 (exSt (asc "foo\"bar\""))) = true := by decide +kernel
-- without `Follow`: `#\x` followed by hex digits is a hex escape, not the letter x
example : tokIs (fun t => match t with | .char 65 => true | _ => false)
    (parseToken exCfg 10 35 (exSt (asc "#\\x41"))) = true := by decide +kernel
-- `#t` does not look at what follows
example : tokIs (fun t => match t with | .bool true => true | _ => false)
    (parseToken exCfg 10 35 (exSt (asc "#true"))) = true := by decide +kernel

/-! ## Main theorems

`s` is any parser state (any source, position and peek flag) whose unread input starts with the
text.  `Follow rest`: the text is followed by the end of the input or by a byte that ends every
token; `hf` excludes the one case where the end of the input is a failing stream read.  The result
state `adv s n p` is `s` advanced by exactly the `n` bytes of the text (line and column as
`Rd.consume` counts them) with peek flag `p`; mode, fault flag and depth are unchanged. -/

theorem atomRT_nil (cfg : Cfg) (ryu : Nat → List UInt8) (fuel : Nat) (s : St) (rest : List UInt8)
    (hrest : s.rd.rest = atomText ryu .nil ++ rest) :
    parseToken cfg fuel 35 s = .ok .nil (adv s (atomText ryu .nil).length false) := by
  rw [atomText_nil] at hrest ⊢
  exact nil_aux cfg fuel s rest hrest

/-- no condition on what follows: `#true` is `#t` followed by `rue` -/
theorem atomRT_bool (cfg : Cfg) (ryu : Nat → List UInt8) (fuel : Nat) (s : St) (rest : List UInt8)
    (b : Bool) (hrest : s.rd.rest = atomText ryu (.bool b) ++ rest) :
    parseToken cfg fuel 35 s = .ok (.bool b) (adv s (atomText ryu (.bool b)).length false) := by
  cases b
  · rw [atomText_false] at hrest ⊢; exact false_aux cfg fuel s rest hrest
  · rw [atomText_true] at hrest ⊢; exact true_aux cfg fuel s rest hrest

/-- the text of `write_scheme_char`: `#\c` for printable ASCII, `#\x` included, else `#\x<hex>` -/
theorem atomRT_char (cfg : Cfg) (ryu : Nat → List UInt8) (fuel : Nat) (s : St) (rest : List UInt8)
    (c : Nat) (hc : isScalar c = true)
    (hrest : s.rd.rest = atomText ryu (.char c) ++ rest)
    (hfuel : (atomText ryu (.char c)).length ≤ fuel)
    (hF : Follow rest) (hf : rest = [] → s.rd.faulty = false) :
    parseToken cfg fuel 35 s =
      .ok (.char c) (adv s (atomText ryu (.char c)).length (endPeek s rest)) := by
  rw [atomText_char] at hrest hfuel ⊢
  exact char_aux cfg fuel c rest s hc hrest (by omega) hF hf

theorem atomRT_string (cfg : Cfg) (ryu : Nat → List UInt8) (fuel : Nat) (s : St)
    (rest : List UInt8) (bytes : List UInt8)
    (ho : cfg.opts = Options.default)
    (hv : s.rd.mode = .str ∨ Utf8.valid bytes = true)
    (hrest : s.rd.rest = atomText ryu (.string bytes) ++ rest)
    (hfuel : (atomText ryu (.string bytes)).length ≤ fuel) :
    parseToken cfg fuel 34 s =
      .ok (.string bytes) (adv s (atomText ryu (.string bytes)).length false) := by
  rw [atomText_string] at hrest hfuel ⊢
  have := string_r6rs_aux cfg fuel bytes rest s (by rw [ho]; rfl) (by rw [hrest]; simp)
    (by simp at hfuel; omega) hv
  rw [this]; simp

theorem atomRT_symbol (cfg : Cfg) (ryu : Nat → List UInt8) (fuel : Nat) (s : St)
    (rest : List UInt8) (name : List UInt8) (pk : UInt8)
    (ho : cfg.opts = Options.default) (hid : PlainIdent name)
    (hrest : s.rd.rest = atomText ryu (.symbol name) ++ rest)
    (hpk : (atomText ryu (.symbol name)).head? = some pk)
    (hF : Follow rest) (hf : rest = [] → s.rd.faulty = false) :
    parseToken cfg fuel pk s =
      .ok (.symbol name) (adv s (atomText ryu (.symbol name)).length (endPeek s rest)) := by
  rw [atomText_symbol] at hrest hpk ⊢
  cases name with
  | nil => simp at hpk
  | cons b tl =>
    have : b = pk := by simpa using hpk
    subst this
    obtain ⟨hshape, hb⟩ := nameShape_of_plainShape cfg ho b tl hid.1
    rw [name_token_of cfg fuel b tl rest s hshape (Or.inl hid.2) hrest hF hf, nameTok_default cfg ho]
    rfl

theorem atomRT_symbol_unicode (cfg : Cfg) (ryu : Nat → List UInt8) (fuel : Nat) (s : St)
    (rest : List UInt8) (pk : UInt8) (tl : List UInt8) (c : Nat) (tl' : List UInt8)
    (ho : cfg.opts = Options.default) (hpk : pk > 127)
    (hdec : Utf8.decodeFirst (pk :: tl) = some (c, tl'))
    (halpha : cfg.isAlphabetic c = true)
    (hn : ∀ b ∈ tl', symTermSlice b = false)
    (hv : Utf8.valid (pk :: tl) = true)
    (hrest : s.rd.rest = atomText ryu (.symbol (pk :: tl)) ++ rest)
    (hF : Follow rest) (hf : rest = [] → s.rd.faulty = false) :
    parseToken cfg fuel pk s =
      .ok (.symbol (pk :: tl))
        (adv s (atomText ryu (.symbol (pk :: tl))).length (endPeek s rest)) := by
  rw [atomText_symbol] at hrest ⊢
  rw [unicode_arm cfg fuel pk tl rest s c tl' hpk hdec halpha hn hv hrest hF hf,
    symbolToken_default cfg ho]
  rfl

/-- `#:name`, the empty name included -/
theorem atomRT_keyword (cfg : Cfg) (ryu : Nat → List UInt8) (fuel : Nat) (s : St)
    (rest : List UInt8) (name : List UInt8)
    (ho : cfg.opts = Options.default)
    (hn : ∀ b ∈ name, symTermSlice b = false) (hdot : name ≠ [46])
    (hv : s.rd.mode = .str ∨ Utf8.valid name = true)
    (hrest : s.rd.rest = atomText ryu (.keyword name) ++ rest)
    (hF : Follow rest) (hf : rest = [] → s.rd.faulty = false) :
    parseToken cfg fuel 35 s =
      .ok (.keyword name) (adv s (atomText ryu (.keyword name)).length (endPeek s rest)) := by
  rw [atomText_keyword] at hrest ⊢
  have := kw_octothorpe_aux cfg fuel name rest s (by rw [ho]; rfl) (by rw [hrest]; simp) hF hf hn
    hdot hv
  rw [this]; simp

/-- the decimal digits of `n ≤ u64::MAX` read back as `PosInt(n)` -/
theorem atomRT_posint (cfg : Cfg) (ryu : Nat → List UInt8) (fuel : Nat) (s : St)
    (rest : List UInt8) (n : Nat) (pk : UInt8) (hn : n ≤ u64Max)
    (hrest : s.rd.rest = atomText ryu (.number (.pos n)) ++ rest)
    (hpk : (atomText ryu (.number (.pos n))).head? = some pk)
    (hfuel : (atomText ryu (.number (.pos n))).length ≤ fuel)
    (hF : Follow rest) (hf : rest = [] → s.rd.faulty = false) :
    parseToken cfg fuel pk s =
      .ok (.number (.pos n))
        (adv s (atomText ryu (.number (.pos n))).length (endPeek s rest)) := by
  rw [atomText_pos] at hrest hpk hfuel ⊢
  exact posint_any cfg fuel pk n rest s hn hrest hpk hfuel hF hf

/-- what `itoa` prints for `i64::MIN ≤ i < 0` reads back as `NegInt(i)` -/
theorem atomRT_negint (cfg : Cfg) (ryu : Nat → List UInt8) (fuel : Nat) (s : St)
    (rest : List UInt8) (i : Int) (h1 : i64Min ≤ i) (h2 : i < 0)
    (hrest : s.rd.rest = atomText ryu (.number (.neg i)) ++ rest)
    (hfuel : (atomText ryu (.number (.neg i))).length ≤ fuel)
    (hF : Follow rest) (hf : rest = [] → s.rd.faulty = false) :
    parseToken cfg fuel 45 s =
      .ok (.number (.neg i))
        (adv s (atomText ryu (.number (.neg i))).length (endPeek s rest)) := by
  rw [atomText_neg] at hrest hfuel ⊢
  exact negint_aux cfg fuel i rest s h1 h2 hrest (by omega) hF hf

/-- a byte vector is not one token: `byteVecOpen` after `#u8`, then `parse_byte_list` reads `(`,
    the octets and `)` -/
theorem atomRT_bytes (cfg : Cfg) (ryu : Nat → List UInt8) (fuel : Nat) (s : St)
    (rest : List UInt8) (bs : List UInt8)
    (hrest : s.rd.rest = atomText ryu (.bytes bs) ++ rest)
    (hfuel : (atomText ryu (.bytes bs)).length ≤ fuel) :
    parseToken cfg fuel 35 s = .ok (.byteVecOpen 41) (adv s 3 false) ∧
    parseByteList cfg fuel 41 (adv s 3 false) =
      .ok bs (adv s (atomText ryu (.bytes bs)).length false) := by
  rw [atomText_bytes] at hrest hfuel ⊢
  exact ⟨u8open_aux cfg fuel s _ (by rw [hrest]; rfl),
    parseByteList_after cfg fuel [35, 117, 56] bs rest s hrest hfuel⟩

/-! ### Instances: every main theorem applies to a non-trivial input -/

example := atomRT_nil exCfg ryu0 0 (exSt (atomText ryu0 .nil ++ asc ")")) (asc ")") rfl
example := atomRT_bool exCfg ryu0 0 (exSt (atomText ryu0 (.bool true) ++ asc "rue")) (asc "rue")
  true rfl
-- U+03BB is written `#\x3bb`; `x` itself is written `#\x`
example := atomRT_char exCfg ryu0 8 (exSt (atomText ryu0 (.char 955) ++ asc " x")) (asc " x") 955
  (by decide) rfl (by decide) (Follow.cons (by decide)) (fun _ => rfl)
example := atomRT_char exCfg ryu0 8 (exSt (atomText ryu0 (.char 120) ++ [])) [] 120
  (by decide) rfl (by decide) Follow.nil (fun _ => rfl)
-- quote, backslash, newline, a control byte and a two-byte scalar
example := atomRT_string exCfg ryu0 20
  (exSt (atomText ryu0 (.string [97, 34, 92, 10, 1, 0xC3, 0xA9]) ++ asc "tail"))
  (asc "tail") [97, 34, 92, 10, 1, 0xC3, 0xA9] rfl (Or.inr (by decide)) rfl (by decide)
example : PlainIdent (asc "hello-world!") ∧ PlainIdent (asc "+") ∧ PlainIdent (asc "-x") ∧
    PlainIdent (asc "...") ∧ PlainIdent (asc "+.x") ∧ PlainIdent (asc "<=?") ∧
    PlainIdent [104, 0xC3, 0xA9] ∧ ¬ PlainIdent (asc ".") ∧ ¬ PlainIdent (asc "+1") ∧
    ¬ PlainIdent (asc "1+") ∧ ¬ PlainIdent (asc "a b") ∧ ¬ PlainIdent (asc "#a") := by decide +kernel
example := atomRT_symbol exCfg ryu0 0 (exSt (atomText ryu0 (.symbol (asc "set-car!")) ++ asc ")"))
  (asc ")") (asc "set-car!") 115 rfl (by decide) rfl rfl (Follow.cons (by decide)) (fun _ => rfl)
example := atomRT_symbol exCfg ryu0 0 (exSt (atomText ryu0 (.symbol (asc "-.e")) ++ asc " 1"))
  (asc " 1") (asc "-.e") 45 rfl (by decide) rfl rfl (Follow.cons (by decide)) (fun _ => rfl)
-- `λx`
example := atomRT_symbol_unicode exCfg ryu0 0
  (exSt (atomText ryu0 (.symbol [0xCE, 0xBB, 120]) ++ [])) [] 0xCE [0xBB, 120] 955 [120]
  rfl (by decide) (by decide) rfl (by decide) (by decide) rfl Follow.nil (fun _ => rfl)
example := atomRT_keyword exCfg ryu0 0 (exSt (atomText ryu0 (.keyword (asc "key")) ++ asc "\n"))
  (asc "\n") (asc "key") rfl (by decide) (by decide) (Or.inr (by decide)) rfl
  (Follow.cons (by decide)) (fun _ => rfl)
example := atomRT_posint exCfg ryu0 20
  (exSt (atomText ryu0 (.number (.pos u64Max)) ++ asc ")")) (asc ")") u64Max 49
  (Nat.le_refl _) rfl (by decide) (by decide) (Follow.cons (by decide)) (fun _ => rfl)
example := atomRT_negint exCfg ryu0 20
  (exSt (atomText ryu0 (.number (.neg i64Min)) ++ asc " ")) (asc " ") i64Min
  (Int.le_refl _) (by decide) rfl (by decide) (Follow.cons (by decide)) (fun _ => rfl)
example := atomRT_bytes exCfg ryu0 20 (exSt (atomText ryu0 (.bytes [0, 255, 7]) ++ asc "x"))
  (asc "x") [0, 255, 7] rfl (by decide)

#print axioms atomRT_nil
#print axioms atomRT_bool
#print axioms atomRT_char
#print axioms atomRT_string
#print axioms atomRT_symbol
#print axioms atomRT_symbol_unicode
#print axioms atomRT_keyword
#print axioms atomRT_posint
#print axioms atomRT_negint
#print axioms atomRT_bytes

end Parse
end Lexpr
