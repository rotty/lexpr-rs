/-
  Utf8InputLoop — C17, the clause "input that is not valid UTF-8 inside a string is rejected",
  for the Emacs Lisp string syntax (`parse_elisp_str`, every source: the loop validates with
  `as_str` whatever the source).

  The clause is FALSE of the code and of the model, in two ways (`hi`, `nc`); a third way one
  would expect (`bl`) is closed by the code.  A flag of an instrumented copy of the loop records
  each, with a kernel-checked witness in `Utf8InputLoopEx` (all three behaviours confirmed on
  the real code, /repo c74523a, slice and reader sources):

  1. `hi` — a numeric escape `\xHH` / `\ooo` with a value 0x80..0xFF appends that raw byte, which
     can complete a sequence that the raw input leaves open: `"` C3 `\xa9"` is read as `é`
     (the recorded finding, `numeric_escape_completes_sequence`).
  2. `bl` — the escaped blank `\ ` is ignored (appends nothing), so a sequence could continue
     across it; the arm rejects a continuation byte behind the blank: `"` C3 `\ ` A9 `"` (bytes
     22 C3 5C 20 A9 22, not UTF-8) is an error (`escaped_blank_inside_sequence_rejected`), and a
     STRING result needs no hypothesis on `bl`: `C17_elisp_input_valid_noblank`,
     `C17_elisp_token_input_valid_noblank`.  The flag can rise on a successful run
     (`bl_still_set_string`, with `hi`), and the synchronisation statement needs it for a byte
     string (`bl_needed_for_sync`).
  3. `nc` (unibyte result only) — the catch-all escape arm consumes the byte after the
     backslash, which may be ≥ 0xC0, without setting `seen_non_ascii`; with a numeric escape
     elsewhere the result is a BYTE string and is never validated: `"\` C3 `\x41"` (bytes
     22 5C C3 5C 78 34 31 22, not UTF-8) is read as the bytes C3 41 (`unibyte_catchall_raw_byte`).

  The theorems say these are the ONLY ways.  `parseElispStrT` is `parseElispStr` instrumented with
  three flags (`parseElispStrT_agrees`: same result, same final state, same errors):

  * `C17_elisp_input_valid_noblank`: a `.multibyte` result with `hi = false` ⇒ the body bytes
    consumed (closing quote included) are valid UTF-8;
  * `C17_elisp_input_valid_unibyte`: a `.unibyte` result with `nc = false` ⇒ the body bytes
    consumed are all ASCII (hence valid UTF-8); `hi`/`bl` do not matter there;
  * `C17_elisp_input_sync`: for either result with `hi = false`, `bl = false`: the body without
    its closing quote drives the UTF-8 automaton to the same state as the bytes returned — in
    particular the body is valid iff the returned bytes are (`C17_elisp_input_valid_iff`).

  `C17_elisp_token_input_valid_noblank` carries both to `parse_token` (the text of the whole token).

  The invariant (`parseElispStrT_sync`): the automaton run over the consumed input and the run
  over the scratch buffer stay together (same state, or both dead), or — only with `bl` up — the
  run is pending (`Sync`); a pending run cannot reach the closing quote of a string.

  One escape is described by `EscShape` (what it consumes and appends), read off the dispatch
  `parseElispEscape_eq`.  A backslash followed by a UTF-8 continuation byte (0x80..0xBF) is an
  error in every state (`elisp_escape_continuation_rejected`, /repo c74523a); pushed as it is,
  such a byte could complete an ill-formed sequence in front of the backslash.
-/
import LexprModel.Proofs.Utf8Parse
import LexprModel.Proofs.ElispEscClass
namespace Lexpr
namespace Parse
namespace InLoop
open Utf8 Utf8.U8 Parse.U8

/-- What one escape does: `c` is the byte after the backslash, `t` the further bytes consumed,
    `out` what is appended to the buffer, `k` the kind it reports. -/
inductive EscShape : UInt8 → List UInt8 → List UInt8 → ElispEscape → Prop
  /-- `\ ` is ignored -/
  | blank : EscShape 32 [] [] .indeterminate
  /-- ASCII text that denotes a non-empty well-formed text -/
  | text {c : UInt8} {t out : List UInt8} {k : ElispEscape} : c < 0x80 → Ascii t → out ≠ [] →
      valid out = true → k ≠ .unibyte → EscShape c t out k
  /-- a numeric escape (ASCII text) that denotes one byte -/
  | byte {c : UInt8} {t : List UInt8} (b : UInt8) : c < 0x80 → Ascii t → EscShape c t [b] .unibyte
  /-- any other byte except a continuation byte stands for itself -/
  | raw {c : UInt8} : isCont c = false → EscShape c [] [c] .indeterminate

theorem elispCharEscape_ok {acc acc' : List UInt8} {n : Nat} {k : ElispEscape} {s s' : St}
    (h : elispCharEscape acc n s = .ok (acc', k) s') :
    s' = s ∧ ((k = .multibyte ∧ acc' = acc ++ encode n ∧ isScalar n = true) ∨
      (k = .unibyte ∧ acc' = acc ++ [UInt8.ofNat n])) := by
  unfold elispCharEscape at h
  rcases ite_ok h with ⟨hsc, h⟩ | ⟨_, h⟩
  · rcases ite_ok h with ⟨_, h⟩ | ⟨_, h⟩
    · obtain ⟨h1, h2⟩ := pure_ok h
      cases h1
      exact ⟨h2.symm, Or.inl ⟨rfl, rfl, hsc⟩⟩
    · obtain ⟨h1, h2⟩ := pure_ok h
      cases h1
      exact ⟨h2.symm, Or.inr ⟨rfl, rfl⟩⟩
  · rcases ite_ok h with ⟨_, h⟩ | ⟨_, h⟩
    · obtain ⟨o, s1, _, h⟩ := bind_ok h
      cases o <;> nomatch h
    · nomatch h

theorem elispUniCharEscape_ok {acc acc' : List UInt8} {n : Nat} {k : ElispEscape} {s s' : St}
    (h : elispUniCharEscape acc n s = .ok (acc', k) s') :
    s' = s ∧ k = .multibyte ∧ acc' = acc ++ encode n ∧ isScalar n = true := by
  unfold elispUniCharEscape at h
  rcases ite_ok h with ⟨hsc, h⟩ | ⟨_, h⟩
  · obtain ⟨h1, h2⟩ := pure_ok h
    cases h1
    exact ⟨h2.symm, rfl, rfl, hsc⟩
  · nomatch h

theorem EscShape.scalar {c : UInt8} {t : List UInt8} {n : Nat} (hc : c < 0x80) (ht : Ascii t)
    (hn : isScalar n = true) : EscShape c t (encode n) .multibyte :=
  .text hc ht (encode_ne_nil n) (valid_encode hn) (by decide)

theorem EscShape.charEscape {c : UInt8} {t acc acc' : List UInt8} {n : Nat} {k : ElispEscape}
    (hc : c < 0x80) (ht : Ascii t)
    (h : (k = .multibyte ∧ acc' = acc ++ encode n ∧ isScalar n = true) ∨
      (k = .unibyte ∧ acc' = acc ++ [UInt8.ofNat n])) :
    ∃ out, acc' = acc ++ out ∧ EscShape c t out k := by
  rcases h with ⟨rfl, rfl, hn⟩ | ⟨rfl, rfl⟩
  · exact ⟨_, rfl, .scalar hc ht hn⟩
  · exact ⟨_, rfl, .byte _ hc ht⟩

theorem not_range_cont {b : UInt8} (h : ¬ (128 ≤ b && b ≤ 191) = true) : isCont b = false := by
  cases hcc : isCont b with
  | false => rfl
  | true =>
    obtain ⟨h1, h2⟩ := isCont_iff.mp hcc
    refine absurd ?_ h
    simp only [Bool.and_eq_true, decide_eq_true_eq, UInt8.le_iff_toNat_le]
    exact ⟨h1, Nat.le_of_lt_succ h2⟩

theorem blank_arm_ok {acc acc' : List UInt8} {k : ElispEscape} {s s' : St}
    (h : blankArm acc s = .ok (acc', k) s') :
    (acc, ElispEscape.indeterminate) = (acc', k) ∧ s'.rd.rest = s.rd.rest ∧
      (s'.rd.rest = [] ∨ Head s'.rd.rest) := by
  unfold blankArm at h
  obtain ⟨o, s2, hp, h⟩ := bind_ok h
  obtain ⟨_, hr2, ho⟩ := peek_frame hp
  cases o with
  | none =>
    obtain ⟨h1, h2⟩ := pure_ok h
    subst h2
    refine ⟨h1, hr2, Or.inl ?_⟩
    cases hrs : s.rd.rest with
    | nil => rw [hr2, hrs]
    | cons x xs => rw [hrs] at ho; cases ho
  | some b =>
    dsimp only at h
    rcases ite_ok h with ⟨_, h⟩ | ⟨hb, h⟩
    · nomatch h
    · obtain ⟨h1, h2⟩ := pure_ok h
      subst h2
      refine ⟨h1, hr2, Or.inr ?_⟩
      cases hrs : s.rd.rest with
      | nil => rw [hrs] at ho; cases ho
      | cons x xs =>
        rw [hrs] at ho
        cases ho
        exact ⟨b, xs, by rw [hr2, hrs], not_range_cont hb⟩


/-- the control character `\^k` denotes -/
theorem ctrl_ascii {k : UInt8} (h : isAsciiLower k = true) : k - 97 < 0x80 := by
  simp only [isAsciiLower, Bool.and_eq_true, decide_eq_true_eq, UInt8.le_iff_toNat_le] at h
  rw [UInt8.lt_iff_toNat_lt, UInt8.toNat_sub]
  have := h.1; have := h.2
  simp at *
  omega

/-- a one-character escape: an ASCII byte that stands for an ASCII byte -/
theorem EscShape.one {c b : UInt8} (hc : c < 0x80) (hb : b < 0x80) :
    EscShape c [] [b] .indeterminate :=
  .text hc Ascii.nil (List.cons_ne_nil _ _) (valid_ascii (Ascii.cons hb Ascii.nil)) nofun

/-- what every arm of `parse_elisp_escape` is shown to do -/
def EscDid (acc acc' : List UInt8) (k : ElispEscape) (s s' : St) : Prop :=
  ∃ c t out, s.rd.rest = c :: (t ++ s'.rd.rest) ∧ acc' = acc ++ out ∧ EscShape c t out k ∧
    (k = .unibyte → c = 120 ∨ (48 ≤ c ∧ c ≤ 55))

/-- `next_or_eof` followed by the test for one expected byte: that byte is consumed -/
theorem nextOrEof_expect {α : Type} {k : UInt8} {code : Code} {m : P α} {s s' : St} {a : α}
    (h : (nextOrEof >>= fun b => if b != k then errAt code else m) s = .ok a s') :
    ∃ s1, s.rd.rest = k :: s1.rd.rest ∧ m s1 = .ok a s' := by
  obtain ⟨b, s1, hn, h⟩ := bind_ok h
  obtain ⟨_, hr⟩ := nextOrEof_ok hn
  rcases ite_ok h with ⟨_, h⟩ | ⟨hb, h⟩
  · nomatch h
  · exact ⟨s1, by rw [hr, ne_false_eq hb], h⟩

/-- `\N{U+…}`: `c` is the `N`, consumed from `s` -/
theorem namedArm_did {fuel : Nat} {acc acc' : List UInt8} {k : ElispEscape} {c : UInt8}
    {s s1 s' : St} (hr1 : s.rd.rest = c :: s1.rd.rest) (hcA : c < 0x80)
    (h : namedArm fuel acc s1 = .ok (acc', k) s') : EscDid acc acc' k s s' := by
  unfold namedArm at h
  -- `{U+`
  obtain ⟨s2, hr2, h⟩ := nextOrEof_expect h
  obtain ⟨s3, hr3, h⟩ := nextOrEof_expect h
  obtain ⟨s4, hr4, h⟩ := nextOrEof_expect h
  obtain ⟨n, s5, hx, h⟩ := bind_ok h
  obtain ⟨_, pre, hpre, hr5⟩ := decodeElispHexEscape_asuf _ hx
  -- the closing brace, from a state with the same unread input as `s5`
  have close : ∀ {s6 : St}, s6.rd.rest = s5.rd.rest → namedClose acc n s6 = .ok (acc', k) s' →
      EscDid acc acc' k s s' := by
    intro s6 h6 h
    unfold namedClose at h
    obtain ⟨⟨a1, k1⟩, s7, hu, h⟩ := bind_ok h
    obtain ⟨rfl, rfl, rfl, hsc⟩ := elispUniCharEscape_ok hu
    obtain ⟨s8, hr8, h⟩ := nextOrEof_expect h
    obtain ⟨h1, h2⟩ := pure_ok h
    cases h1; subst h2
    refine ⟨c, [123, 85, 43] ++ (pre ++ [125]), _, ?_, rfl, .scalar hcA
      (Ascii.append (a := [123, 85, 43]) (by decide) (hpre.append (b := [125]) (by decide))) hsc,
      nofun⟩
    rw [hr1, hr2, hr3, hr4, hr5, ← h6, hr8]
    simp
  rcases ite_ok h with ⟨_, h⟩ | ⟨_, h⟩
  · obtain ⟨o, s6, hp, h⟩ := bind_ok h
    obtain ⟨_, hr6, _⟩ := peek_frame hp
    cases o with
    | none => nomatch h
    | some x => exact close hr6 h
  · exact close rfl h

/-- `\uXXXX` and `\UXXXXXXXX`: `count` hex digits, then the encoding of the scalar value they
    denote; `c` is the letter, consumed from `s` -/
theorem uniArm_did {count : Nat} {acc acc' : List UInt8} {k : ElispEscape} {c : UInt8}
    {s s1 s' : St} (hr1 : s.rd.rest = c :: s1.rd.rest) (hcA : c < 0x80)
    (h : (decodeElispUniEscape count 0 >>= elispUniCharEscape acc) s1 = .ok (acc', k) s') :
    EscDid acc acc' k s s' := by
  obtain ⟨n, s2, hx, h⟩ := bind_ok h
  obtain ⟨_, pre, hpre, hr2⟩ := decodeElispUniEscape_asuf _ hx
  obtain ⟨rfl, rfl, rfl, hsc⟩ := elispUniCharEscape_ok h
  exact ⟨c, pre, _, by rw [hr1, hr2], rfl, .scalar hcA hpre hsc, nofun⟩

/-- `\x…` and `\ooo`: the digits `d` reads are ASCII text, and `parse_elisp_char_escape` makes one
    byte or the encoding of a scalar value of their value; `c` is `x` or the first octal digit -/
theorem numArm_did {d : P Nat} {acc acc' : List UInt8} {k : ElispEscape} {c : UInt8} {s s1 s' : St}
    (hr1 : s.rd.rest = c :: s1.rd.rest) (hcA : c < 0x80) (hc : c = 120 ∨ (48 ≤ c ∧ c ≤ 55))
    (hd : ∀ {s s' : St} {n : Nat}, d s = .ok n s' → ASuf s s')
    (h : (d >>= elispCharEscape acc) s1 = .ok (acc', k) s') : EscDid acc acc' k s s' := by
  obtain ⟨n, s2, hx, h⟩ := bind_ok h
  obtain ⟨_, pre, hpre, hr2⟩ := hd hx
  obtain ⟨rfl, hk⟩ := elispCharEscape_ok h
  obtain ⟨out, ho, hsh⟩ := EscShape.charEscape hcA hpre hk
  exact ⟨c, pre, out, by rw [hr1, hr2], ho, hsh, fun _ => hc⟩

/-- **One escape, all arms**: the bytes consumed after the backslash are `c :: t`, the buffer
    grows by `out`, and the four are related by `EscShape`; the kind `Unibyte` is reported only by
    the arms dispatched on `x` or on an octal digit. -/
theorem parseElispEscape_shape {fuel : Nat} {acc acc' : List UInt8} {k : ElispEscape} {s s' : St}
    (h : parseElispEscape fuel acc s = .ok (acc', k) s') :
    ∃ c t out, s.rd.rest = c :: (t ++ s'.rd.rest) ∧ acc' = acc ++ out ∧ EscShape c t out k ∧
      (k = .unibyte → c = 120 ∨ (48 ≤ c ∧ c ≤ 55)) := by
  rw [parseElispEscape_eq] at h
  obtain ⟨c, s1, hn, h⟩ := bind_ok h
  obtain ⟨hm1, hr1⟩ := nextOrEof_ok hn
  have hb := escArmClass_byte c
  cases hcl : escArmClass c <;> rw [hcl] at h hb
  case lit b =>
    obtain ⟨h1, rfl⟩ := pure_ok h
    cases h1
    exact ⟨c, [], [b], hr1, rfl, .one hb.1 hb.2, nofun⟩
  case blank =>
    obtain ⟨hk, hs2, _⟩ := blank_arm_ok h
    cases hk
    rw [show c = 32 from hb, ← hs2] at hr1
    exact ⟨32, [], [], hr1, by simp, .blank, nofun⟩
  case ctrl =>
    obtain ⟨k0, s2, hk, h⟩ := bind_ok h
    obtain ⟨hm2, hr2⟩ := nextOrEof_ok hk
    rcases ite_ok h with ⟨hl, h⟩ | ⟨_, h⟩
    · obtain ⟨h1, h2⟩ := pure_ok h
      cases h1; subst h2
      exact ⟨c, [k0], _, by rw [hr1, hr2]; rfl, rfl,
        .text (by rw [show c = 94 from hb]; decide) (Ascii.cons (lower_ascii hl) Ascii.nil)
          (List.cons_ne_nil _ _) (valid_ascii (Ascii.cons (ctrl_ascii hl) Ascii.nil)) nofun, nofun⟩
    · nomatch h
  case named => exact namedArm_did hr1 (by rw [show c = 78 from hb]; decide) h
  case u4 => exact uniArm_did hr1 (by rw [show c = 117 from hb]; decide) h
  case u8 => exact uniArm_did hr1 (by rw [show c = 85 from hb]; decide) h
  case hex =>
    exact numArm_did hr1 (by rw [show c = 120 from hb]; decide) (.inl hb)
      (decodeElispHexEscape_asuf _) h
  case octal =>
    have hc : (48 ≤ c && c ≤ 55) = true := by
      simp only [Bool.and_eq_true, decide_eq_true_eq]; exact hb
    exact numArm_did hr1 (octal_range_ascii hc) (.inr hb) (decodeElispOctalEscape_asuf _) h
  case cont => nomatch h
  case self =>
    obtain ⟨h1, h2⟩ := pure_ok h
    cases h1; subst h2
    exact ⟨c, [], [c], hr1, rfl, .raw hb, nofun⟩

/-- the escaped blank: the arm `b' '` of `parse_elisp_escape` looks at the byte behind the blank and
    rejects a continuation byte -/
theorem parseElispEscape_blank_next {fuel : Nat} {acc acc' : List UInt8} {k : ElispEscape}
    {s s' : St} {r : List UInt8} (h : parseElispEscape fuel acc s = .ok (acc', k) s')
    (hb : s.rd.rest = 32 :: r) :
    acc' = acc ∧ k = .indeterminate ∧ s'.rd.rest = r ∧ (r = [] ∨ Head r) := by
  rw [parseElispEscape_eq] at h
  obtain ⟨c, s1, hn, h⟩ := bind_ok h
  obtain ⟨_, hr1⟩ := nextOrEof_ok hn
  rw [hb] at hr1
  cases hr1
  rw [show escArmClass 32 = .blank by decide] at h
  obtain ⟨hk, hs2, hhead⟩ := blank_arm_ok h
  cases hk
  rw [hs2] at hhead
  exact ⟨rfl, rfl, hs2, hhead⟩



structure Flags where
  /-- a numeric escape (kind `Unibyte`) appended a byte ≥ 0x80 -/
  hi : Bool := false
  /-- an escaped blank `\ ` was read while the scratch buffer ended inside a sequence
      (`Utf8.valid acc = false`) -/
  bl : Bool := false
  /-- the byte after a backslash was ≥ 0x80 (the catch-all arm: it stands for itself) -/
  nc : Bool := false
  deriving DecidableEq, Repr

def Flags.or (a b : Flags) : Flags := ⟨a.hi || b.hi, a.bl || b.bl, a.nc || b.nc⟩

def lastHigh (bs : List UInt8) : Bool :=
  match bs.getLast? with
  | some b => decide (128 ≤ b)
  | none => false

/-- The flags of one escape, from what can be seen around the call of `parse_elisp_escape`:
    `acc` the buffer before, `rest` the unread input after the backslash, `acc'` and `k` the
    result. -/
def escFlags (acc rest acc' : List UInt8) (k : ElispEscape) : Flags where
  hi := match k with
    | .unibyte => lastHigh acc'
    | _ => false
  bl := rest.head? == some 32 && !Utf8.valid acc
  nc := match rest.head? with
    | some c => decide (128 ≤ c)
    | none => false

/-- `parseElispStr` with the flags threaded through; nothing else is changed. -/
def parseElispStrT : Nat → List UInt8 → (ub mb na : Bool) → Flags → P (ElispStr × Flags)
  | 0, _, _, _, _, _ => outOfFuel
  | f + 1, acc, ub, mb, na, fl => do
    let c ← nextOrEof
    if c == 34 then
      if ub && !(mb || na) then pure (.unibyte acc, fl)
      else do
        let s ← finishStr true acc
        pure (.multibyte s, fl)
    else if c == 92 then do
      let rest ← getRest
      let (acc', k) ← parseElispEscape (f + 1) acc
      let fl' := fl.or (escFlags acc rest acc' k)
      match k with
      | .unibyte => parseElispStrT f acc' true mb na fl'
      | .multibyte => parseElispStrT f acc' ub true na fl'
      | .indeterminate => parseElispStrT f acc' ub mb na fl'
    else parseElispStrT f (acc ++ [c]) ub mb (na || c > 127) fl

def dropFlags {α β : Type} : Res (α × β) → Res α
  | .ok a s => .ok a.1 s
  | .err e s => .err e s
  | .panic p => .panic p
  | .fuel => .fuel

/-- **Agreement**: the instrumented loop is the loop (result, final state, errors, fuel). -/
theorem parseElispStrT_agrees (f : Nat) : ∀ (acc : List UInt8) (ub mb na : Bool) (fl : Flags)
    (S : St), dropFlags (parseElispStrT f acc ub mb na fl S) = parseElispStr f acc ub mb na S := by
  induction f with
  | zero => intro acc ub mb na fl S; rfl
  | succ f ih =>
    intro acc ub mb na fl S
    simp only [parseElispStrT, parseElispStr, bind_apply]
    cases hn : nextOrEof S with
    | err e s1 => rfl
    | panic p => rfl
    | fuel => rfl
    | ok c s1 =>
      simp only []
      by_cases h34 : (c == 34) = true
      · simp only [if_pos h34]
        by_cases hu : (ub && !(mb || na)) = true
        · simp only [if_pos hu]; rfl
        · simp only [if_neg hu, bind_apply]
          cases hf : finishStr true acc s1 <;> rfl
      · simp only [if_neg h34]
        by_cases h92 : (c == 92) = true
        · simp only [if_pos h92, bind_apply, getRest]
          cases he : parseElispEscape (f + 1) acc s1 with
          | err e s2 => rfl
          | panic p => rfl
          | fuel => rfl
          | ok p s2 =>
            obtain ⟨acc', k⟩ := p
            cases k <;> exact ih _ _ _ _ _ _
        · simp only [if_neg h92]
          exact ih _ _ _ _ _ _

theorem parseElispStrT_ok {f : Nat} {acc : List UInt8} {ub mb na : Bool} {fl0 fl : Flags}
    {S S' : St} {r : ElispStr} (h : parseElispStrT f acc ub mb na fl0 S = .ok (r, fl) S') :
    parseElispStr f acc ub mb na S = .ok r S' := by
  rw [← parseElispStrT_agrees f acc ub mb na fl0 S, h]; rfl

theorem parseElispStrT_of_ok {f : Nat} {acc : List UInt8} {ub mb na : Bool} (fl0 : Flags)
    {S S' : St} {r : ElispStr} (h : parseElispStr f acc ub mb na S = .ok r S') :
    ∃ fl, parseElispStrT f acc ub mb na fl0 S = .ok (r, fl) S' := by
  rw [← parseElispStrT_agrees f acc ub mb na fl0 S] at h
  cases ht : parseElispStrT f acc ub mb na fl0 S with
  | ok p s =>
    rw [ht] at h
    simp only [dropFlags, Res.ok.injEq] at h
    obtain ⟨rfl, rfl⟩ := h
    exact ⟨p.2, rfl⟩
  | err e s => rw [ht] at h; cases h
  | panic p => rw [ht] at h; cases h
  | fuel => rw [ht] at h; cases h

/-- **One round of the instrumented loop**: the closing quote (a byte string when only numeric
    escapes were seen, else a validated string), an escape (`EscShape`, and what is known of the
    arms that report `Unibyte` and of the escaped blank), or a raw byte. -/
theorem parseElispStrT_step {f : Nat} {acc : List UInt8} {ub mb na : Bool} {fl0 fl : Flags}
    {S S' : St} {r : ElispStr}
    (h : parseElispStrT (f + 1) acc ub mb na fl0 S = .ok (r, fl) S') :
    (S.rd.rest = 34 :: S'.rd.rest ∧ fl = fl0 ∧
      ((r = .unibyte acc ∧ ub = true ∧ na = false) ∨ (r = .multibyte acc ∧ valid acc = true))) ∨
    (∃ c t out k s2 ub' mb', S.rd.rest = 92 :: c :: (t ++ s2.rd.rest) ∧ EscShape c t out k ∧
      (k = .unibyte → c = 120 ∨ (48 ≤ c ∧ c ≤ 55)) ∧
      (c = 32 → s2.rd.rest = [] ∨ Head s2.rd.rest) ∧ (k ≠ .unibyte → ub' = ub) ∧
      parseElispStrT f (acc ++ out) ub' mb' na
        (fl0.or (escFlags acc (c :: (t ++ s2.rd.rest)) (acc ++ out) k)) s2 = .ok (r, fl) S') ∨
    (∃ c s1, S.rd.rest = c :: s1.rd.rest ∧
      parseElispStrT f (acc ++ [c]) ub mb (na || c > 127) fl0 s1 = .ok (r, fl) S') := by
  simp only [parseElispStrT] at h
  obtain ⟨c, s1, hn, h⟩ := bind_ok h
  obtain ⟨_, hr⟩ := nextOrEof_ok hn
  rcases ite_ok h with ⟨h34, h⟩ | ⟨_, h⟩
  · rw [eq_of_beq h34] at hr
    left
    rcases ite_ok h with ⟨hu, h⟩ | ⟨_, h⟩
    · obtain ⟨h1, rfl⟩ := pure_ok h
      cases h1
      simp only [Bool.and_eq_true, Bool.not_eq_true', Bool.or_eq_false_iff] at hu
      exact ⟨hr, rfl, Or.inl ⟨rfl, hu.1, hu.2.2⟩⟩
    · obtain ⟨o, s2, hf, h⟩ := bind_ok h
      obtain ⟨h1, rfl⟩ := pure_ok h
      cases h1
      obtain ⟨rfl, rfl, hv⟩ := finishStr_ok hf
      exact ⟨hr, rfl, Or.inr ⟨rfl, hv.resolve_right (fun hc => nomatch hc.1)⟩⟩
  rcases ite_ok h with ⟨h92, h⟩ | ⟨_, h⟩
  · rw [eq_of_beq h92] at hr
    right; left
    obtain ⟨rest, s1', hg, h⟩ := bind_ok h
    obtain ⟨rfl, rfl⟩ := getRest_ok hg
    obtain ⟨⟨acc', k⟩, s2, he, h⟩ := bind_ok h
    obtain ⟨c', t, out, hr1, rfl, hsh, hun⟩ := parseElispEscape_shape he
    have hbl : c' = 32 → s2.rd.rest = [] ∨ Head s2.rd.rest := by
      rintro rfl
      obtain ⟨_, _, hrr, hh⟩ := parseElispEscape_blank_next he hr1
      rw [hrr]; exact hh
    rw [hr1] at h hr
    cases k
    · exact ⟨c', t, out, _, s2, _, _, hr, hsh, hun, hbl, fun hk => absurd rfl hk, h⟩
    · exact ⟨c', t, out, _, s2, _, _, hr, hsh, hun, hbl, fun _ => rfl, h⟩
    · exact ⟨c', t, out, _, s2, _, _, hr, hsh, hun, hbl, fun _ => rfl, h⟩
  · exact Or.inr (Or.inr ⟨c, s1, hr, h⟩)

def _root_.Lexpr.Parse.ElispStr.bytes : ElispStr → List UInt8
  | .unibyte b => b
  | .multibyte s => s

def Flags.le (a b : Flags) : Prop :=
  (b.hi = false → a.hi = false) ∧ (b.bl = false → a.bl = false) ∧ (b.nc = false → a.nc = false)

theorem Flags.le_refl (a : Flags) : a.le a := ⟨id, id, id⟩

theorem Flags.le_of_or {a b c : Flags} (h : (a.or b).le c) : a.le c ∧ b.le c := by
  obtain ⟨h1, h2, h3⟩ := h
  simp only [Flags.or, Bool.or_eq_false_iff] at h1 h2 h3
  exact ⟨⟨fun x => (h1 x).1, fun x => (h2 x).1, fun x => (h3 x).1⟩,
    ⟨fun x => (h1 x).2, fun x => (h2 x).2, fun x => (h3 x).2⟩⟩

theorem not_ge_ascii {c : UInt8} (h : decide (128 ≤ c) = false) : c < 0x80 := by
  simp only [decide_eq_false_iff_not, UInt8.le_iff_toNat_le] at h
  rw [UInt8.lt_iff_toNat_lt]
  simp at h ⊢
  omega

theorem run_none_append {pre : List UInt8} (t : List UInt8) (h : run .idle pre = none) :
    run .idle (pre ++ t) = none := by
  rw [run_append, h]; rfl

theorem run_mid_append {acc u : List UInt8} {st : Utf8.St} (h : run .idle acc = some st)
    (hne : st ≠ .idle) (hu : Head u) : run .idle (acc ++ u) = none := by
  rw [run_append, h, Option.bind_some]
  exact run_mid_head (run_wf (st := .idle) trivial h) hne hu

/-- The consumed input `pre` and the buffer `acc` drive the automaton to the same state (or both
    kill it), or — only when the flag `bl` is up — the run is *pending*: an escaped blank was read
    inside a sequence, so the input is dead while the buffer is still inside the sequence, and the
    byte that follows (if there is one) is not a continuation byte. -/
def Sync (bl : Bool) (pre acc rest : List UInt8) : Prop :=
  run .idle pre = run .idle acc ∨
  (bl = true ∧ run .idle pre = none ∧ (∃ st, run .idle acc = some st ∧ st ≠ .idle) ∧
    (rest = [] ∨ Head rest))

theorem Sync.eq {pre acc rest : List UInt8} (h : Sync false pre acc rest) :
    run .idle pre = run .idle acc := h.resolve_right (fun h => nomatch h.1)

theorem Sync.mono {bl : Bool} (x : Bool) {pre acc rest : List UInt8} (h : Sync bl pre acc rest) :
    Sync (bl || x) pre acc [] :=
  h.imp_right fun ⟨hb, h1, h2, _⟩ => ⟨by rw [hb]; rfl, h1, h2, .inl rfl⟩

/-- a complete buffer is not pending -/
theorem Sync.of_valid {bl : Bool} {pre acc rest : List UInt8} (h : Sync bl pre acc rest)
    (hv : valid acc = true) : run .idle pre = run .idle acc := by
  rcases h with h | ⟨_, _, ⟨st, hst, hne⟩, _⟩
  · exact h
  · rw [valid_iff.mp hv] at hst; cases hst; exact absurd rfl hne

/-- one escape: the flag rises exactly where a pending run can arise -/
theorem escape_sync {c : UInt8} {t out acc tl rest0 rest' pre : List UInt8} {k : ElispEscape}
    {bl : Bool} (hsh : EscShape c t out k)
    (hhi : (escFlags acc (c :: tl) (acc ++ out) k).hi = false)
    (hnext : c = 32 → rest' = [] ∨ Head rest') (h : Sync bl pre acc rest0) :
    Sync (bl || (escFlags acc (c :: tl) (acc ++ out) k).bl) (pre ++ 92 :: c :: t) (acc ++ out) rest' := by
  have h92 : (92 : UInt8) < 0x80 := by decide
  have hbyte : ∀ b : UInt8, (escFlags acc (c :: tl) (acc ++ [b]) .unibyte).hi = false → b < 0x80 := by
    intro b hb
    simp only [escFlags, lastHigh, List.getLast?_concat] at hb
    exact not_ge_ascii hb
  rcases h with h | ⟨hb, hp, ⟨st, hst, hne⟩, _⟩
  · cases hsh with
    | blank =>
      rw [List.append_nil]
      cases hacc : run .idle acc with
      | none => exact Or.inl (by rw [run_none_append _ (h.trans hacc), hacc])
      | some st =>
        by_cases hi : st = .idle
        · subst hi
          exact Or.inl (sync_drop h (valid_iff.mpr hacc) (run_idle_ascii (by
            intro b hb; simp at hb; rcases hb with rfl | rfl <;> decide)))
        · have hnv : valid acc = false := by
            cases hv : valid acc with
            | false => rfl
            | true => rw [valid_iff.mp hv] at hacc; cases hacc; exact absurd rfl hi
          exact Or.inr ⟨by simp [escFlags, hnv],
            run_mid_append (h.trans hacc) hi (Head.ascii _ h92), ⟨st, hacc, hi⟩, hnext rfl⟩
    | text hc ht hne hv _ => exact Or.inl (sync_text h (Ascii.cons hc ht) hne hv)
    | byte b hc ht =>
      have hb' := hbyte b hhi
      exact Or.inl (sync_text h (Ascii.cons hc ht) (by simp)
        (valid_ascii (by intro x hx; simp at hx; subst hx; exact hb')))
    | raw hc => exact Or.inl (sync_raw h hc)
  · cases hsh with
    | blank =>
      rw [List.append_nil]
      exact Or.inr ⟨by rw [hb]; rfl, run_none_append _ hp, ⟨st, hst, hne⟩, hnext rfl⟩
    | text hc ht hne' hv _ =>
      exact Or.inl (by rw [run_none_append _ hp, run_mid_append hst hne (Head.of_valid hne' hv)])
    | byte b hc ht =>
      exact Or.inl (by rw [run_none_append _ hp, run_mid_append hst hne (Head.ascii [] (hbyte b hhi))])
    | raw hc =>
      exact Or.inl (by rw [run_none_append _ hp, run_mid_append hst hne ⟨c, [], rfl, hc⟩])

theorem escape_ascii {c : UInt8} {t out acc rest : List UInt8} {k : ElispEscape}
    (hsh : EscShape c t out k) (hrest : rest.head? = some c)
    (hnc : (escFlags acc rest (acc ++ out) k).nc = false) : Ascii (92 :: c :: t) := by
  simp only [escFlags, hrest] at hnc
  have hc : c < 0x80 := not_ge_ascii hnc
  have ht : Ascii t := by
    cases hsh with
    | blank => exact Ascii.nil
    | text _ ht _ _ _ => exact ht
    | byte _ _ ht => exact ht
    | raw _ => exact Ascii.nil
  exact Ascii.cons (by decide) (Ascii.cons hc ht)

/-- **What the loop keeps besides the synchronisation.**  `w` is the body consumed in front of
    the closing quote. -/
theorem parseElispStrT_inv (f : Nat) : ∀ {acc : List UInt8} {ub mb na : Bool} {fl0 fl : Flags}
    {S S' : St} {r : ElispStr}, parseElispStrT f acc ub mb na fl0 S = .ok (r, fl) S' →
    ∃ w, S.rd.rest = w ++ 34 :: S'.rd.rest ∧ fl0.le fl ∧
      (∀ b, r = .unibyte b → na = false ∧ (fl.nc = false → Ascii w)) ∧
      (∀ s, r = .multibyte s → valid s = true) := by
  induction f with
  | zero => intro acc ub mb na fl0 fl S S' r h; nomatch h
  | succ f ih =>
    intro acc ub mb na fl0 fl S S' r h
    rcases parseElispStrT_step h with ⟨hr, rfl, hq⟩ |
      ⟨c', t, out, k, s2, ub', mb', hr, hsh, _, _, _, hrec⟩ | ⟨c, s1, hr, hrec⟩
    · -- the closing quote
      rcases hq with ⟨rfl, _, hna⟩ | ⟨rfl, hv⟩
      · exact ⟨[], hr, Flags.le_refl _, fun b _ => ⟨hna, fun _ => Ascii.nil⟩, fun s hs => by cases hs⟩
      · exact ⟨[], hr, Flags.le_refl _, fun b hb => (by cases hb), fun s hs => by cases hs; exact hv⟩
    · -- an escape
      obtain ⟨w2, hr2, hle, huni, hmul⟩ := ih hrec
      obtain ⟨hle0, hleE⟩ := Flags.le_of_or hle
      refine ⟨92 :: c' :: t ++ w2, by rw [hr, hr2]; simp, hle0, fun b hb => ?_, hmul⟩
      obtain ⟨hna, hasc⟩ := huni b hb
      exact ⟨hna, fun hnc => (escape_ascii hsh rfl (hleE.2.2 hnc)).append (hasc hnc)⟩
    · -- a raw byte
      obtain ⟨w2, hr2, hle, huni, hmul⟩ := ih hrec
      refine ⟨c :: w2, by rw [hr, hr2]; rfl, hle, fun b hb => ?_, hmul⟩
      obtain ⟨hna, hasc⟩ := huni b hb
      simp only [Bool.or_eq_false_iff, decide_eq_false_iff_not] at hna
      exact ⟨hna.1, fun hnc => Ascii.cons (not_gt_ascii hna.2) (hasc hnc)⟩

/-- **The loop invariant**: the automaton run over the consumed input and the run over the
    scratch buffer stay together in the sense of `Sync`, unless `hi` rises. -/
theorem parseElispStrT_sync (f : Nat) : ∀ {acc : List UInt8} {ub mb na : Bool} {fl0 fl : Flags}
    {S S' : St} {r : ElispStr}, parseElispStrT f acc ub mb na fl0 S = .ok (r, fl) S' →
    fl.hi = false →
    ∃ w, S.rd.rest = w ++ 34 :: S'.rd.rest ∧
      ∀ pre bl, Sync bl pre acc S.rd.rest → Sync (bl || fl.bl) (pre ++ w) r.bytes [] := by
  induction f with
  | zero => intro acc ub mb na fl0 fl S S' r h; nomatch h
  | succ f ih =>
    intro acc ub mb na fl0 fl S S' r h hhi
    rcases parseElispStrT_step h with ⟨hr, rfl, hq⟩ |
      ⟨c', t, out, k, s2, ub', mb', hr, hsh, _, hnext, _, hrec⟩ | ⟨c, s1, hr, hrec⟩
    · refine ⟨[], hr, fun pre bl hs => ?_⟩
      rw [List.append_nil]
      rcases hq with ⟨rfl, _⟩ | ⟨rfl, _⟩ <;> exact hs.mono _
    · obtain ⟨w2, hr2, hsync⟩ := ih hrec hhi
      obtain ⟨_, _, hle, _⟩ := parseElispStrT_inv f hrec
      obtain ⟨_, hleE⟩ := Flags.le_of_or hle
      refine ⟨92 :: c' :: t ++ w2, by rw [hr, hr2]; simp, fun pre bl hs => ?_⟩
      have := hsync (pre ++ 92 :: c' :: t) _ (escape_sync hsh (hleE.1 hhi) hnext hs)
      rw [List.append_assoc] at this
      refine this.imp_right fun ⟨hb, rest⟩ => ⟨?_, rest⟩
      -- the flag of this escape is below the final flag
      cases hbl : fl.bl with
      | true => simp
      | false => rw [hbl, hleE.2.1 hbl] at hb; simpa using hb
    · obtain ⟨w2, hr2, hsync⟩ := ih hrec hhi
      refine ⟨c :: w2, by rw [hr, hr2]; rfl, fun pre bl hs => ?_⟩
      have hs' : Sync bl (pre ++ [c]) (acc ++ [c]) s1.rd.rest := by
        rcases hs with hs | ⟨_, hp, ⟨st, hst, hne⟩, hh⟩
        · exact Or.inl (sync_push c hs)
        · rw [hr] at hh
          rcases hh with hh | ⟨b, r, heq, hb⟩
          · cases hh
          · cases heq
            exact Or.inl (by rw [run_none_append _ hp, run_mid_append hst hne ⟨c, [], rfl, hb⟩])
      have := hsync (pre ++ [c]) bl hs'
      rw [List.append_assoc] at this
      exact this

theorem body_eq {S S' : St} {w w0 : List UInt8} (hw : S.rd.rest = w ++ S'.rd.rest)
    (h0 : S.rd.rest = w0 ++ 34 :: S'.rd.rest) : w = w0 ++ [34] := by
  have : w ++ S'.rd.rest = (w0 ++ [34]) ++ S'.rd.rest := by
    rw [← hw, h0]; simp
  exact List.append_cancel_right this

/-- **C17, input clause, Emacs Lisp strings, both results**: when no numeric escape appended a
    byte ≥ 0x80 (`hi`) and no escaped blank was read inside a sequence (`bl`), the body in front
    of the closing quote drives the UTF-8 automaton to the same state as the bytes returned
    (`acc` is the buffer at entry, empty or any well-formed text). -/
theorem C17_elisp_input_sync {fuel : Nat} {acc : List UInt8} {ub mb na : Bool} {fl0 fl : Flags}
    {S S' : St} {r : ElispStr} {w : List UInt8}
    (h : parseElispStrT fuel acc ub mb na fl0 S = .ok (r, fl) S')
    (hacc : Utf8.valid acc = true)
    (hw : S.rd.rest = w ++ S'.rd.rest) (hhi : fl.hi = false) (hbl : fl.bl = false) :
    ∃ w0, w = w0 ++ [34] ∧ Utf8.run .idle w0 = Utf8.run .idle r.bytes := by
  obtain ⟨w0, hr, hsync⟩ := parseElispStrT_sync fuel h hhi
  refine ⟨w0, body_eq hw hr, ?_⟩
  have := hsync [] false (.inl (by rw [valid_iff.mp hacc]; rfl))
  rw [hbl, List.nil_append] at this
  exact this.eq

/-- the body is well-formed exactly when the bytes returned are -/
theorem C17_elisp_input_valid_iff {fuel : Nat} {acc : List UInt8} {ub mb na : Bool}
    {fl0 fl : Flags} {S S' : St} {r : ElispStr} {w : List UInt8}
    (h : parseElispStrT fuel acc ub mb na fl0 S = .ok (r, fl) S')
    (hacc : Utf8.valid acc = true)
    (hw : S.rd.rest = w ++ S'.rd.rest) (hhi : fl.hi = false) (hbl : fl.bl = false) :
    Utf8.valid w = Utf8.valid r.bytes := by
  obtain ⟨w0, rfl, hrun⟩ := C17_elisp_input_sync h hacc hw hhi hbl
  rw [valid_snoc_ascii w0 (by decide)]
  simp only [Utf8.valid, hrun]

/-- **C17, input clause, Emacs Lisp strings** (`.multibyte` result, i.e. the token is a string):
    if the string is accepted and no numeric escape appended a byte ≥ 0x80, then the body
    consumed — the bytes after the opening quote up to and including the closing quote — is valid
    UTF-8.  Any source, any flags at entry.  Nothing is asked of `bl`: the reader rejects a
    continuation byte after an escaped blank and validates the buffer at the closing quote, so a
    pending run cannot get there. -/
theorem C17_elisp_input_valid_noblank {fuel : Nat} {acc : List UInt8} {ub mb na : Bool}
    {fl0 fl : Flags} {S S' : St} {s w : List UInt8}
    (h : parseElispStrT fuel acc ub mb na fl0 S = .ok (.multibyte s, fl) S')
    (hacc : Utf8.valid acc = true)
    (hw : S.rd.rest = w ++ S'.rd.rest) (hhi : fl.hi = false) :
    Utf8.valid w = true := by
  obtain ⟨w0, hr, hsync⟩ := parseElispStrT_sync fuel h hhi
  obtain ⟨_, _, _, _, hmul⟩ := parseElispStrT_inv fuel h
  have hrun := (hsync [] false (.inl (by rw [valid_iff.mp hacc]; rfl))).of_valid (hmul s rfl)
  rw [List.nil_append] at hrun
  rw [body_eq hw hr, valid_snoc_ascii w0 (by decide), valid_iff, hrun]
  exact valid_iff.mp (hmul s rfl)

/-- the same with `bl = false` as a further hypothesis -/
theorem C17_elisp_input_valid {fuel : Nat} {acc : List UInt8} {ub mb na : Bool} {fl0 fl : Flags}
    {S S' : St} {s w : List UInt8}
    (h : parseElispStrT fuel acc ub mb na fl0 S = .ok (.multibyte s, fl) S')
    (hacc : Utf8.valid acc = true)
    (hw : S.rd.rest = w ++ S'.rd.rest) (hhi : fl.hi = false) (_hbl : fl.bl = false) :
    Utf8.valid w = true :=
  C17_elisp_input_valid_noblank h hacc hw hhi

/-- **C17, input clause, Emacs Lisp byte strings** (`.unibyte` result): if no backslash was
    followed by a byte ≥ 0x80 (`nc`), every byte of the body consumed is ASCII, so the body is
    valid UTF-8.  (`hi` and `bl` do not matter: `"\xff"` is the byte string FF and its text is
    ASCII.) -/
theorem C17_elisp_input_valid_unibyte {fuel : Nat} {acc : List UInt8} {ub mb na : Bool}
    {fl0 fl : Flags} {S S' : St} {b w : List UInt8}
    (h : parseElispStrT fuel acc ub mb na fl0 S = .ok (.unibyte b, fl) S')
    (hw : S.rd.rest = w ++ S'.rd.rest) (hnc : fl.nc = false) :
    (∀ x ∈ w, x < 0x80) ∧ Utf8.valid w = true := by
  obtain ⟨w0, hr, _, huni, _⟩ := parseElispStrT_inv fuel h
  have hasc : Ascii w := by
    rw [body_eq hw hr]
    exact ((huni b rfl).2 hnc).append (Ascii.cons (by decide) Ascii.nil)
  exact ⟨hasc, valid_ascii hasc⟩

/-- The same through the un-instrumented loop: every accepted string has flags, and the
    statement holds of them. -/
theorem C17_elisp_input_valid_noblank' {fuel : Nat} {S S' : St} {s w : List UInt8}
    (h : parseElispStr fuel [] false false false S = .ok (.multibyte s) S')
    (hw : S.rd.rest = w ++ S'.rd.rest) :
    ∃ fl, parseElispStrT fuel [] false false false {} S = .ok (.multibyte s, fl) S' ∧
      (fl.hi = false → Utf8.valid w = true) := by
  obtain ⟨fl, ht⟩ := parseElispStrT_of_ok {} h
  exact ⟨fl, ht, fun hhi => C17_elisp_input_valid_noblank ht valid_nil hw hhi⟩

theorem C17_elisp_input_valid' {fuel : Nat} {S S' : St} {s w : List UInt8}
    (h : parseElispStr fuel [] false false false S = .ok (.multibyte s) S')
    (hw : S.rd.rest = w ++ S'.rd.rest) :
    ∃ fl, parseElispStrT fuel [] false false false {} S = .ok (.multibyte s, fl) S' ∧
      (fl.hi = false → fl.bl = false → Utf8.valid w = true) :=
  let ⟨fl, ht, hv⟩ := C17_elisp_input_valid_noblank' h hw
  ⟨fl, ht, fun hhi _ => hv hhi⟩

def tokOf : ElispStr → Token
  | .multibyte s => .string s
  | .unibyte b => .bytes b

/-- the Emacs Lisp string token is the opening quote and then the loop (the `"` arm of
    `parse_token`, the fifth of the cascade) -/
theorem elispToken {cfg : Cfg} {fuel : Nat} {S S' : St} {tok : Token}
    (h : parseToken cfg fuel 34 S = .ok tok S') (hel : cfg.opts.string = .elisp) :
    ∃ S1 r, discard S = .ok () S1 ∧
      parseElispStr fuel [] false false false S1 = .ok r S' ∧ tok = tokOf r := by
  rw [parseToken_eq] at h
  replace h : stringArm cfg.opts.string fuel S = .ok tok S' := h
  rw [hel] at h
  obtain ⟨_, S1, hd, h⟩ := bind_ok h
  obtain ⟨r, S2, hp, h⟩ := bind_ok h
  refine ⟨S1, r, hd, ?_⟩
  cases r <;> obtain ⟨rfl, rfl⟩ := pure_ok h <;> exact ⟨hp, rfl⟩

/-- **C17, input clause, at `parse_token`** (Emacs Lisp string syntax, the peeked byte is `"`):
    the token is read by the instrumented loop from the state behind the opening quote, and the
    text `w` of the whole token — opening quote to closing quote — is valid UTF-8 when the token
    is a string and `hi` is down (no hypothesis on `bl`: the escaped blank is checked), or a byte
    string and `nc` is down. -/
theorem C17_elisp_token_input_valid_noblank {cfg : Cfg} {fuel : Nat} {S S' : St} {tok : Token}
    {w : List UInt8} (h : parseToken cfg fuel 34 S = .ok tok S')
    (hel : cfg.opts.string = .elisp) (hpk : ∃ tl, S.rd.rest = 34 :: tl)
    (hw : S.rd.rest = w ++ S'.rd.rest) :
    ∃ S1 r fl, S.rd.rest = 34 :: S1.rd.rest ∧
      parseElispStrT fuel [] false false false {} S1 = .ok (r, fl) S' ∧
      tok = tokOf r ∧
      ((∃ s, tok = .string s) → fl.hi = false → Utf8.valid w = true) ∧
      ((∃ b, tok = .bytes b) → fl.nc = false → Utf8.valid w = true) := by
  obtain ⟨S1, r, hd, hp, rfl⟩ := elispToken h hel
  obtain ⟨tl, hpk⟩ := hpk
  obtain ⟨_, b, hr1⟩ := discard_frame hd
  obtain rfl : b = 34 := by rw [hpk] at hr1; cases hr1; rfl
  obtain ⟨fl, ht⟩ := parseElispStrT_of_ok {} hp
  obtain ⟨w0, hr0, _⟩ := parseElispStrT_inv fuel ht
  have hbody : S1.rd.rest = (w0 ++ [34]) ++ S'.rd.rest := by rw [hr0]; simp
  obtain rfl : w = 34 :: (w0 ++ [34]) :=
    List.append_cancel_right (by rw [← hw, hr1, hbody]; rfl)
  have h34 : (34 : UInt8) < 0x80 := by decide
  refine ⟨S1, r, fl, hr1, ht, rfl, fun ⟨s, hs⟩ hhi => ?_, fun ⟨b, hb⟩ hnc => ?_⟩
  · cases r <;> cases hs
    rw [valid_cons_ascii _ h34]
    exact C17_elisp_input_valid_noblank ht valid_nil hbody hhi
  · cases r <;> cases hb
    rw [valid_cons_ascii _ h34]
    exact (C17_elisp_input_valid_unibyte ht hbody hnc).2

/-- the same with `bl = false` as a further hypothesis for a string token -/
theorem C17_elisp_token_input_valid {cfg : Cfg} {fuel : Nat} {S S' : St} {tok : Token}
    {w : List UInt8} (h : parseToken cfg fuel 34 S = .ok tok S')
    (hel : cfg.opts.string = .elisp) (hpk : ∃ tl, S.rd.rest = 34 :: tl)
    (hw : S.rd.rest = w ++ S'.rd.rest) :
    ∃ S1 r fl, S.rd.rest = 34 :: S1.rd.rest ∧
      parseElispStrT fuel [] false false false {} S1 = .ok (r, fl) S' ∧
      tok = tokOf r ∧
      ((∃ s, tok = .string s) → fl.hi = false → fl.bl = false → Utf8.valid w = true) ∧
      ((∃ b, tok = .bytes b) → fl.nc = false → Utf8.valid w = true) :=
  let ⟨S1, r, fl, h1, h2, h3, h4, h5⟩ := C17_elisp_token_input_valid_noblank h hel hpk hw
  ⟨S1, r, fl, h1, h2, h3, fun hs hhi _ => h4 hs hhi, h5⟩

end InLoop

section
open Utf8 Parse.U8

theorem elisp_escape_continuation_rejected (fuel : Nat) (acc : List UInt8) (S : St) (c : UInt8)
    (t : List UInt8) (h : S.rd.rest = c :: t) (hc : 128 ≤ c ∧ c ≤ 191) :
    ∃ l k S', parseElispEscape fuel acc S = .err (.syntax .invalidUnicodeCodePoint l k) S' := by
  have hr : (128 ≤ c && c ≤ 191) = true := by simp [hc.1, hc.2]
  generalize hS1 : ({ S with rd := S.rd.consume 1 } : St) = S1
  have hn : nextOrEof S = .ok c S1 := by
    simp only [nextOrEof, bind_apply, next, h, pure_apply, hS1]
  refine ⟨S1.rd.position.line, S1.rd.position.col, S1, ?_⟩
  rw [parseElispEscape_eq, bind_apply, hn]
  show escArm fuel acc c (escArmClass c) S1 = _
  rw [escArmClass_cont c hr]
  rfl

end

end Parse
end Lexpr
