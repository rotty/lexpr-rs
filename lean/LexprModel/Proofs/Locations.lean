/-
  Error locations lie inside the input; EOF-category errors are raised at the end of the input.

  `posOf pre` is the position after a prefix of the input, with `posOf_bounds'` for its line and
  column; the ghost invariant `At input s` (for a text starting at any position: `AtG`) says that
  the reader stands there.  `LSpec o input K m s s0 Q`: `m` keeps the invariant, and every syntax
  error it raises carries the position of a prefix of the input (`LocG`) and satisfies a
  requirement `K` on its code and state.  For every function it is read off the function's
  statement in RunLexer.lean / RunParser.lean (`Run.lspec`): an error says in which state on the
  way its position was taken (`Raised`), and the requirement is `KOf` of Run.lean, which ties the
  code to what the function has just read (`eofValue` only after a `peek` that found nothing).
  `LSpec.outOfFuel`, `LSpec.errAt_bind`, `LSpec.start`, `LSpec.ok`, `Inv.consume`, `nextOrNull_l`
  say what `LSpec` is on the primitives.  Nothing is concluded from the reference state `s0` of
  `LSpec` or from the field `Inv.mono`, since `KOf` states its requirement from the start of the
  call.  `C19_prefix_det` and its companions at the end rest on PrefixDet.lean.
-/
import LexprModel.Proofs.SpansPos
import LexprModel.Proofs.PrefixDet
import LexprModel.Proofs.Progress
import LexprModel.Proofs.Run
namespace Lexpr
namespace Parse
namespace Locations
open Progress (Sat)
open PrefixDet (Sim ext Scanner digitsLen)

/-! ### positions of prefixes

  `step`, `posFrom`, `posOf` are `Pos.adv`, `Spans.posFrom`, `Spans.posOf` of SpansPos.lean under the
  names that the statements of this file use; what is proved there serves here. -/

/-- one byte further -/
def step (p : Pos) (b : UInt8) : Pos := ⟨(advance p.line p.col b).1, (advance p.line p.col b).2⟩

/-- position reached from `p` after the bytes `bs` -/
def posFrom (p : Pos) (bs : List UInt8) : Pos := bs.foldl step p

/-- position after the bytes `bs`, counted from the start of the input (line 1, column 0) -/
def posOf (bs : List UInt8) : Pos := posFrom ⟨1, 0⟩ bs

/-- number of lines: one more than the number of line feeds -/
def lines (input : List UInt8) : Nat := 1 + input.count 10

/-- number of bytes of the `l`-th line (1-based), without its line feed; 0 if there is no such line -/
def lineLen : List UInt8 → Nat → Nat
  | [], _ => 0
  | _ :: _, 0 => 0
  | b :: bs, 1 => if b == 10 then 0 else lineLen bs 1 + 1
  | b :: bs, l + 2 => if b == 10 then lineLen bs (l + 1) else lineLen bs (l + 2)

theorem step_lf (p : Pos) : step p 10 = ⟨p.line + 1, 0⟩ := by simp [step, advance]

theorem step_other (p : Pos) {b : UInt8} (h : (b == 10) = false) : step p b = ⟨p.line, p.col + 1⟩ := by
  simp [step, advance, h]

theorem posFrom_nil (p : Pos) : posFrom p [] = p := rfl
theorem posFrom_cons (p : Pos) (b : UInt8) (bs : List UInt8) :
    posFrom p (b :: bs) = posFrom (step p b) bs := rfl

theorem posFrom_append (p : Pos) (xs ys : List UInt8) :
    posFrom p (xs ++ ys) = posFrom (posFrom p xs) ys := Spans.posFrom_append p xs ys

theorem posFrom_snoc (o : Pos) (pre : List UInt8) (b : UInt8) :
    posFrom o (pre ++ [b]) = step (posFrom o pre) b := by
  simp [posFrom]

theorem posFrom_line (p : Pos) (bs : List UInt8) : (posFrom p bs).line = p.line + bs.count 10 := by
  induction bs generalizing p with
  | nil => simp [posFrom]
  | cons b bs ih =>
    rw [posFrom_cons, ih]
    by_cases hb : (b == 10) = true
    · have : b = 10 := by simpa using hb
      subst this
      simp [step_lf]; omega
    · have hb' : (b == 10) = false := by simpa using hb
      rw [step_other p hb']
      simp [List.count_cons, hb']

/-- the column reached from `p` after `pre`, against the line lengths of `pre ++ suf`; lines are
    counted from that of `p`, which `p.col` bytes precede -/
theorem posFrom_col (pre suf : List UInt8) (p : Pos) :
    (posFrom p pre).col ≤
      (if pre.count 10 = 0 then p.col else 0) + lineLen (pre ++ suf) (pre.count 10 + 1) := by
  induction pre generalizing p with
  | nil => simp [posFrom]
  | cons b pre ih =>
    have ih' := ih (step p b)
    rw [posFrom_cons]
    by_cases hb : (b == 10) = true
    · obtain rfl : b = 10 := by simpa using hb
      rw [step_lf] at ih' ⊢
      rw [List.count_cons_self, if_neg (Nat.succ_ne_zero _)]
      show _ ≤ 0 + lineLen (pre ++ suf) (pre.count 10 + 1)
      split at ih' <;> exact ih'
    · have hb' : (b == 10) = false := by simpa using hb
      rw [step_other p hb'] at ih' ⊢
      rw [List.count_cons, hb', if_neg Bool.false_ne_true, Nat.add_zero, List.cons_append]
      cases hk : pre.count 10 with
      | zero =>
        simp only [hk, if_true, Nat.zero_add, lineLen, hb', Bool.false_eq_true, if_false] at ih' ⊢
        omega
      | succ k => simpa only [hk, Nat.succ_ne_zero, if_false, lineLen, hb', Bool.false_eq_true] using ih'

/-- **posOf_bounds'**: for every prefix `pre` of `input` the position `posOf pre` has a line between
    1 and `lines input` and a column of at most the length of that line. -/
theorem posOf_bounds' (pre input : List UInt8) (h : pre <+: input) :
    1 ≤ (posOf pre).line ∧ (posOf pre).line ≤ lines input ∧
    (posOf pre).col ≤ lineLen input (posOf pre).line := by
  obtain ⟨suf, rfl⟩ := h
  have hl : (posOf pre).line = 1 + pre.count 10 := posFrom_line ⟨1, 0⟩ pre
  have hc : (posOf pre).col ≤ _ := posFrom_col pre suf ⟨1, 0⟩
  rw [hl, lines, List.count_append, Nat.add_comm 1]
  refine ⟨by omega, by omega, ?_⟩
  split at hc <;> simpa using hc

/-- The ghost invariant on parser states, for a text that starts at position `o`: what the reader
    has consumed is a prefix `pre` of `input`, what is left is the rest, and its line/column
    counters are the position after `pre`. -/
def AtG (o : Pos) (input : List UInt8) (s : St) : Prop :=
  ∃ pre, pre ++ s.rd.rest = input ∧ s.rd.position = posFrom o pre

/-- The ghost invariant on parser states (the text starts at line 1, column 0). -/
def At (input : List UInt8) (s : St) : Prop :=
  ∃ pre, pre ++ s.rd.rest = input ∧ s.rd.position = posOf pre

/-- `(l, k)` is the position after some prefix of the input (which starts at `o`) -/
def LocG (o : Pos) (input : List UInt8) (l k : Nat) : Prop :=
  ∃ pre, pre <+: input ∧ (⟨l, k⟩ : Pos) = posFrom o pre

/-- `(l, k)` is the position after some prefix of the input -/
def LocOK (input : List UInt8) (l k : Nat) : Prop :=
  ∃ pre, pre <+: input ∧ (⟨l, k⟩ : Pos) = posOf pre

theorem At.initSt (mode : Mode) (bytes : List UInt8) (faulty : Bool) :
    At bytes (initSt mode bytes faulty) := ⟨[], rfl, rfl⟩

/-- every state is at the start of its own unread input -/
theorem AtG.self (s : St) : AtG s.rd.position s.rd.rest s := ⟨[], rfl, rfl⟩

theorem AtG.consume {o : Pos} {input : List UInt8} {s : St} (h : AtG o input s) (n : Nat) :
    AtG o input { s with rd := s.rd.consume n } := by
  obtain ⟨pre, hpre, hpos⟩ := h
  refine ⟨pre ++ s.rd.rest.take n, ?_, ?_⟩
  · rw [Rd.consume_rest, List.append_assoc, List.take_append_drop, hpre]
  · rw [Spans.consume_position, hpos]; exact (posFrom_append o pre _).symm

theorem AtG.position {o : Pos} {input : List UInt8} {s : St} (h : AtG o input s) :
    LocG o input s.rd.position.line s.rd.position.col := by
  obtain ⟨pre, hpre, hpos⟩ := h
  exact ⟨pre, ⟨_, hpre⟩, hpos⟩

theorem AtG.peekPosition_cases {o : Pos} {input : List UInt8} {s : St} (h : AtG o input s) :
    ∃ pre, pre ++ s.rd.rest = input ∧
      (s.rd.peekPosition = posFrom o pre ∨
        ∃ b t, s.rd.rest = b :: t ∧ s.rd.peekPosition = posFrom o (pre ++ [b])) := by
  obtain ⟨pre, hpre, hpos⟩ := h
  refine ⟨pre, hpre, ?_⟩
  unfold Rd.peekPosition
  cases hr : s.rd.rest with
  | nil => exact Or.inl hpos
  | cons b t =>
    dsimp only
    split
    · exact Or.inl hpos
    · refine Or.inr ⟨b, t, rfl, ?_⟩
      rw [posFrom_snoc, ← hpos]
      rfl

theorem AtG.peekPosition {o : Pos} {input : List UInt8} {s : St} (h : AtG o input s) :
    LocG o input s.rd.peekPosition.line s.rd.peekPosition.col := by
  obtain ⟨pre, hpre, hc⟩ := h.peekPosition_cases
  rcases hc with hc | ⟨b, t, hr, hc⟩
  · exact ⟨pre, ⟨_, hpre⟩, hc⟩
  · refine ⟨pre ++ [b], ⟨t, ?_⟩, hc⟩
    rw [← hpre, hr]; simp

/-- **LocOK.bounds**: a position after a prefix of the input has a line between 1 and the number of
    lines and a column inside that line. -/
theorem LocOK.bounds {input : List UInt8} {l k : Nat} (h : LocOK input l k) :
    1 ≤ l ∧ l ≤ lines input ∧ k ≤ lineLen input l := by
  obtain ⟨pre, hpre, hpos⟩ := h
  have := posOf_bounds' _ _ hpre
  rw [← hpos] at this
  exact this

/-! ### the calculus

  `LSpec o input K m s s0 Q`: if the state `s` is inside `input` (and came from the reference state
  `s0` without un-consuming), then so is every state in which `m` stops; a result `a` satisfies
  `Q a s'`; a syntax error `(c, l, k)` raised in `s'` has `LocG o input l k` and `K c s'`. -/

structure Inv (o : Pos) (input : List UInt8) (s0 s : St) : Prop where
  at_ : AtG o input s
  mono : s0.rd.rest = [] → s.rd.rest = []

theorem Inv.ofAt {o : Pos} {input : List UInt8} {s : St} (h : AtG o input s) : Inv o input s s := ⟨h, id⟩

def EK (o : Pos) (input : List UInt8) (K : Code → St → Prop) : Err → St → Prop
  | .io, _ => True
  | .syntax c l k, s => LocG o input l k ∧ K c s

def LSpec {α : Type} (o : Pos) (input : List UInt8) (K : Code → St → Prop) (m : P α) (s s0 : St)
    (Q : α → St → Prop) : Prop :=
  Inv o input s0 s →
    Sat (m s) (fun a s' => Inv o input s0 s' ∧ Q a s') (fun e s' => Inv o input s0 s' ∧ EK o input K e s') True

def QT {α : Type} : α → St → Prop := fun _ _ => True

section rules
variable {α β : Type} {o : Pos} {input : List UInt8} {K : Code → St → Prop} {s0 s : St} {Q : β → St → Prop}

theorem LSpec.outOfFuel : LSpec o input K (outOfFuel : P β) s s0 Q := fun _ => trivial

theorem LSpec.errAt_bind {c : Code} {f : α → P β} (hk : K c s) :
    LSpec o input K ((Parse.errAt c : P α) >>= f) s s0 Q :=
  fun hi => ⟨hi, hi.at_.position, hk⟩

theorem LSpec.start {m : P β} (h : AtG o input s → LSpec o input K m s s0 Q) : LSpec o input K m s s0 Q :=
  fun hi => h hi.at_ hi

theorem LSpec.ok {m : P β} {a : β} {s' : St} (h : LSpec o input K m s s Q) (hs : AtG o input s)
    (hr : m s = .ok a s') : AtG o input s' ∧ Q a s' :=
  have := (Sat.iff_tri.1 (h (Inv.ofAt hs))).ok hr
  ⟨this.1.at_, this.2⟩

theorem LSpec.err {m : P β} {c : Code} {l k : Nat} {s' : St} (h : LSpec o input K m s s Q)
    (hs : AtG o input s) (hr : m s = .err (.syntax c l k) s') :
    AtG o input s' ∧ LocG o input l k ∧ K c s' :=
  have := (Sat.iff_tri.1 (h (Inv.ofAt hs))).err hr
  ⟨this.1.at_, this.2⟩

end rules

section run
variable {o : Pos} {input : List UInt8} {s : St}

theorem Inv.consume (h : Inv o input s s) (n : Nat) : Inv o input s { s with rd := s.rd.consume n } :=
  ⟨h.at_.consume n, fun h0 => by simp [Rd.consume_rest, h0]⟩

theorem _root_.Lexpr.Parse.Adv.atG {s' : St} (h : Adv s s') (hs : AtG o input s) : AtG o input s' := by
  cases h with | mk k b => exact hs.consume k

theorem _root_.Lexpr.Parse.Adv.inv {s0 s' : St} (h : Adv s s') (hi : Inv o input s0 s) :
    Inv o input s0 s' :=
  ⟨h.atG hi.at_, fun h0 => h.nil (hi.mono h0)⟩

/-- an error located in a state on the way is located in the input -/
theorem _root_.Lexpr.Parse.Raised.locG {s' : St} {c : Code} {l k : Nat}
    (h : Raised s s' (.syntax c l k)) (hs : AtG o input s) : LocG o input l k := by
  obtain ⟨s1, h1, -, hp | hp⟩ := h
  · have := (h1.atG hs).position; rwa [hp] at this
  · have := (h1.atG hs).peekPosition; rwa [hp] at this

/-- `LSpec` forgets the byte counts, the panic and the fuel; the requirement on the codes is the one
    of the level `lv`, seen from the start `s` of the call. -/
theorem _root_.Lexpr.Parse.Run.lspec {α : Type} {m : P α} {lv : Lv} {ko : α → Nat} {ke : Err → Nat}
    {Q : α → St → Prop} {N F : Prop} {s0 : St} (h : Run m lv s s ko ke Q N F) :
    LSpec o input (fun c s' => KOf lv c s s') m s s0 Q := fun hi =>
  Res.Tri.imp h (fun _ _ h => ⟨h.1.adv.inv hi, h.2⟩)
    (fun e _ h => ⟨h.1.adv.inv hi, by
      cases e with
      | io => trivial
      | «syntax» c l k => exact ⟨h.2.1.locG hi.at_, h.2.2 c l k rfl⟩⟩)
    (fun _ => trivial) (fun _ => trivial)

theorem nextOrNull_l {K : Code → St → Prop} : LSpec o input K nextOrNull s s QT := by
  intro h
  show Sat (P.bind next _ s) _ _ _
  unfold P.bind next
  cases hr : s.rd.rest with
  | nil => by_cases hf : s.rd.faulty = true <;> simp only [hf] <;> exact ⟨h, trivial⟩
  | cons b t => exact ⟨h.consume 1, trivial⟩

variable {cfg : Cfg}

/-- `none` only at the end of the input -/
def NoneNil {α : Type} : Option α → St → Prop := fun a s => a = none → s.rd.rest = []

theorem nextValue_p {fuel : Nat} :
    LSpec o input (fun c s' => KOf .parse c s s') (nextValue cfg fuel) s s NoneNil :=
  ((nextValue_run cfg fuel).post fun _ _ h => h.1).lspec

theorem nextDatum_p {fuel : Nat} :
    LSpec o input (fun c s' => KOf .parse c s s') (nextDatum cfg fuel) s s NoneNil :=
  ((nextDatum_run cfg fuel).post fun a _ h (ha : a = none) => h.1 (by rw [ha]; rfl)).lspec

theorem nextValueTop_p :
    LSpec o input (fun c s' => KOf .parse c s s') (nextValueTop cfg) s s NoneNil :=
  (nextValueTop_run.post fun _ _ h => h.1).lspec

theorem nextDatumTop_p :
    LSpec o input (fun c s' => KOf .parse c s s') (nextDatumTop cfg) s s NoneNil :=
  (nextDatumTop_run.post fun a _ h (ha : a = none) => h.1 (by rw [ha]; rfl)).lspec

theorem expectValue_p : LSpec o input (fun c s' => KOf .parse c s s') (expectValue cfg) s s QT :=
  (expectValue_run.post fun _ _ _ => trivial).lspec

theorem expectDatum_p : LSpec o input (fun c s' => KOf .parse c s s') (expectDatum cfg) s s QT :=
  (expectDatum_run.post fun _ _ _ => trivial).lspec

theorem expectEnd_p : LSpec o input (fun c s' => KOf .parse c s s') expectEnd s s QT :=
  expectEnd_run.lspec

theorem fromTrait_p : LSpec o input (fun c s' => KOf .parse c s s') (fromTrait cfg) s s QT :=
  (fromTrait_run.post fun _ _ _ => trivial).lspec

theorem fromTraitDatum_p :
    LSpec o input (fun c s' => KOf .parse c s s') (fromTraitDatum cfg) s s QT :=
  (fromTraitDatum_run.post fun _ _ _ => trivial).lspec

end run

/-- Some entry point, run in state `s`, stopped with the error `e` in state `s'`.  (`nextValue` and
    `nextDatum` with any amount of fuel; the others compute their own fuel.) -/
def Raises (cfg : Cfg) (s : St) (e : Err) (s' : St) : Prop :=
  (∃ fuel, nextValue cfg fuel s = .err e s') ∨ (∃ fuel, nextDatum cfg fuel s = .err e s') ∨
  nextValueTop cfg s = .err e s' ∨ nextDatumTop cfg s = .err e s' ∨
  expectValue cfg s = .err e s' ∨ expectDatum cfg s = .err e s' ∨ expectEnd s = .err e s' ∨
  fromTrait cfg s = .err e s' ∨ fromTraitDatum cfg s = .err e s'

theorem raises_spec {o : Pos} {input : List UInt8} {cfg : Cfg} {s s' : St} {c : Code} {l k : Nat}
    (h : AtG o input s) (hr : Raises cfg s (.syntax c l k) s') :
    AtG o input s' ∧ LocG o input l k ∧ KOf .parse c s s' := by
  rcases hr with ⟨f, hr⟩ | ⟨f, hr⟩ | hr | hr | hr | hr | hr | hr | hr
  · exact nextValue_p.err h hr
  · exact nextDatum_p.err h hr
  · exact nextValueTop_p.err h hr
  · exact nextDatumTop_p.err h hr
  · exact expectValue_p.err h hr
  · exact expectDatum_p.err h hr
  · exact expectEnd_p.err h hr
  · exact fromTrait_p.err h hr
  · exact fromTraitDatum_p.err h hr

theorem AtG.toAt {input : List UInt8} {s : St} (h : AtG ⟨1, 0⟩ input s) : At input s := h
theorem At.toG {input : List UInt8} {s : St} (h : At input s) : AtG ⟨1, 0⟩ input s := h
theorem LocG.toLoc {input : List UInt8} {l k : Nat} (h : LocG ⟨1, 0⟩ input l k) : LocOK input l k := h

/-- the position after a text that ends in a line feed: last line, column 0 -/
theorem posOf_final_lf (xs : List UInt8) : posOf (xs ++ [10]) = ⟨lines (xs ++ [10]), 0⟩ := by
  rw [posOf, posFrom_snoc, step_lf, posFrom_line, lines, List.count_append, List.count_singleton_self,
    Nat.add_assoc]

/-- a syntax error has its location inside the input -/
def LocItem (input : List UInt8) (it : Item) : Prop :=
  ∀ c l k, it = .err (.syntax c l k) → LocOK input l k

theorem LSpec.res {α : Type} {input : List UInt8} {K : Code → St → Prop} {m : P α} {s : St}
    {Q : α → St → Prop} (h : LSpec ⟨1, 0⟩ input K m s s Q) (hs : At input s) :
    (m s).Keeps (At input) (LocItem input) := by
  have := h (Inv.ofAt hs)
  revert this
  cases m s with
  | ok a s' => exact fun h => h.1.at_
  | err e s' =>
    intro h
    refine ⟨h.1.at_, fun c l k he => ?_⟩
    cases he
    exact h.2.1
  | panic p => exact fun _ => nofun
  | fuel => exact fun _ => nofun

theorem stepOp_at {input : List UInt8} (cfg : Cfg) : StepKeeps cfg (At input) (LocItem input) :=
  .of_run (fun _ => nofun) (fun _ => nofun) nofun nofun fun op s hs =>
    Op.run_forall (C := fun m => (m s).Keeps (At input) (LocItem input)) (nextValueTop_p.res hs)
      (nextDatumTop_p.res hs) (expectValue_p.res hs) (expectDatum_p.res hs) (expectEnd_p.res hs) op

theorem runHistory_at {input : List UInt8} (cfg : Cfg) (ops : List Op) (s : St) (h : At input s) :
    ∀ it ∈ runHistory cfg ops s, ∀ c l k, it = .err (.syntax c l k) → LocOK input l k :=
  runHistory_forall (stepOp_at cfg) ops s h

/-! helpers for the concrete examples (evaluated by the kernel) -/

/-- an EOF-category error with unread input left -/
def eofWithRest {α : Type} : Res α → Bool
  | .err (.syntax c _ _) s' => c.category == .eof && !s'.rd.rest.isEmpty
  | _ => false

theorem eofWithRest_elim {α : Type} {r : Res α} (h : eofWithRest r = true) :
    ∃ c l k s', r = .err (.syntax c l k) s' ∧ c.category = .eof ∧ s'.rd.rest ≠ [] := by
  rcases r with _ | ⟨_ | _, s'⟩ | _ | _ <;> try cases h
  rename_i c l k
  simp only [eofWithRest, Bool.and_eq_true, beq_iff_eq, Bool.not_eq_true', List.isEmpty_eq_false_iff] at h
  exact ⟨c, l, k, s', rfl, h.1, h.2⟩

/-- the error code `c` with nothing left to read -/
def errAtEnd {α : Type} (c : Code) : Res α → Bool
  | .err (.syntax c' _ _) s' => c' == c && s'.rd.rest.isEmpty
  | _ => false

/-- the error `(c, l, k)` with exactly `rest` left to read -/
def errIs {α : Type} (c : Code) (l k : Nat) (rest : List UInt8) : Res α → Bool
  | .err (.syntax c' l' k') s' => c' == c && l' == l && k' == k && s'.rd.rest == rest
  | _ => false

theorem errIs_elim {α : Type} {c : Code} {l k : Nat} {rest : List UInt8} {r : Res α}
    (h : errIs c l k rest r = true) : ∃ s', r = .err (.syntax c l k) s' ∧ s'.rd.rest = rest := by
  rcases r with _ | ⟨_ | _, s'⟩ | _ | _ <;> try cases h
  rename_i c' l' k'
  simp only [errIs, Bool.and_eq_true, beq_iff_eq] at h
  obtain ⟨⟨⟨rfl, rfl⟩, rfl⟩, hr⟩ := h
  exact ⟨s', rfl, hr⟩

/-- a value was returned and there is unread input left -/
def okWithRest {α : Type} : Res (Option α) → Bool
  | .ok (some _) s' => !s'.rd.rest.isEmpty
  | _ => false

open Progress (exCfg)

example : posOf (asc "ab\ncd") = ⟨2, 2⟩ ∧ lines (asc "ab\ncd\n") = 3 ∧
    lineLen (asc "ab\ncd\n") 2 = 2 ∧ lineLen (asc "ab\ncd\n") 3 = 0 ∧
    asc "ab\ncd" <+: asc "ab\ncd\n" := by decide

/-- **peekPosition_bounds**: in a state inside `input`, `peek_position()` is the position after the
    consumed prefix or after that prefix and the next byte; either way it is the position after a
    prefix of the input, so it obeys the same bounds as `posOf_bounds'` (no `+ 1` is needed: after a
    final line feed the position is line `lines input`, column 0, see `posOf_final_lf`). -/
theorem peekPosition_bounds (input : List UInt8) (s : St) (h : At input s) :
    (∃ pre, pre ++ s.rd.rest = input ∧
      (s.rd.peekPosition = posOf pre ∨
        ∃ b t, s.rd.rest = b :: t ∧ s.rd.peekPosition = posOf (pre ++ [b]))) ∧
    1 ≤ s.rd.peekPosition.line ∧ s.rd.peekPosition.line ≤ lines input ∧
    s.rd.peekPosition.col ≤ lineLen input s.rd.peekPosition.line :=
  ⟨h.toG.peekPosition_cases, LocOK.bounds h.toG.peekPosition.toLoc⟩

example : At (asc "a\n") (initSt .slice (asc "a\n")) ∧ posOf (asc "a\n") = ⟨lines (asc "a\n"), 0⟩ :=
  ⟨At.initSt _ _ _, by decide⟩

/-- **C19_location_strong**: a syntax (or EOF) error reported by any entry point, run in a state
    inside `input`, carries the position after some prefix of the input; hence its line is between
    1 and the number of lines and its column is at most the length of that line.  The state in
    which the parser stops is again inside `input`. -/
theorem C19_location_strong (cfg : Cfg) (input : List UInt8) (s s' : St) (c : Code) (l k : Nat)
    (h : At input s) (hr : Raises cfg s (.syntax c l k) s') :
    LocOK input l k ∧ 1 ≤ l ∧ l ≤ lines input ∧ k ≤ lineLen input l ∧ At input s' := by
  obtain ⟨hat, hloc, _⟩ := raises_spec h.toG hr
  obtain ⟨h1, h2, h3⟩ := LocOK.bounds hloc.toLoc
  exact ⟨hloc, h1, h2, h3, hat⟩

/-- **C19_location**: the bound of the property: line between 1 and `lines input + 1`, column at
    most the length of the line plus one. -/
theorem C19_location (cfg : Cfg) (input : List UInt8) (s s' : St) (c : Code) (l k : Nat)
    (h : At input s) (hr : Raises cfg s (.syntax c l k) s') :
    1 ≤ l ∧ l ≤ lines input + 1 ∧ k ≤ lineLen input l + 1 := by
  have := C19_location_strong cfg input s s' c l k h hr
  omega

example : At (asc "(a\n b]") (initSt .str (asc "(a\n b]")) ∧
    errIs .mismatchedParenthesis 2 3 (asc "]") (nextValueTop exCfg (initSt .str (asc "(a\n b]"))) = true :=
  ⟨At.initSt _ _ _, by decide +kernel⟩

/-- **C19_location_api**: the public functions (`from_str`, `from_slice`, `from_reader` and their
    datum variants, and the first call on a fresh parser) report locations inside their input. -/
theorem C19_location_api (cfg : Cfg) (mode : Mode) (input : List UInt8) (faulty : Bool) (s' : St)
    (c : Code) (l k : Nat)
    (hr : fromTrait cfg (initSt mode input faulty) = .err (.syntax c l k) s' ∨
      fromTraitDatum cfg (initSt mode input faulty) = .err (.syntax c l k) s' ∨
      nextValueTop cfg (initSt mode input faulty) = .err (.syntax c l k) s' ∨
      nextDatumTop cfg (initSt mode input faulty) = .err (.syntax c l k) s') :
    1 ≤ l ∧ l ≤ lines input ∧ k ≤ lineLen input l := by
  have key : Raises cfg (initSt mode input faulty) (.syntax c l k) s' := by
    unfold Raises
    rcases hr with hr | hr | hr | hr <;> simp only [hr, true_or, or_true]
  obtain ⟨_, h1, h2, h3, _⟩ := C19_location_strong cfg input _ s' c l k (At.initSt mode input faulty) key
  exact ⟨h1, h2, h3⟩

example : errIs .trailingCharacters 2 2 (asc "b") (fromTrait exCfg (initSt .io (asc "a\n b"))) = true := by
  decide +kernel

/-- **C19_location_history**: every syntax error reported anywhere in a sequence of calls on one
    parser over `input` (all three sources, faulty or not) has its location inside the input. -/
theorem C19_location_history (cfg : Cfg) (mode : Mode) (input : List UInt8) (faulty : Bool)
    (ops : List Op) (c : Code) (l k : Nat)
    (h : Item.err (.syntax c l k) ∈ runHistory cfg ops (initSt mode input faulty)) :
    1 ≤ l ∧ l ≤ lines input ∧ k ≤ lineLen input l :=
  LocOK.bounds (runHistory_at cfg ops _ (At.initSt mode input faulty) _ h c l k rfl)

example : (runHistory exCfg [.nextValue, .nextDatum, .expectEnd] (initSt .io (asc "a ) b"))).length = 3 := by
  decide +kernel

/-- **C19_eof_only_at_end_false**: the statement "every EOF-category error is raised with nothing
    left to read" is false: `"\xZ" 1` fails with `eofString` (the non-hex byte `Z` in an `\x`
    escape is reported by `decode_r6rs_hex_escape` as `EofWhileParsingString`) although `" 1` is
    still unread.  `#\xZ1` does the same with `eofChar`. -/
theorem C19_eof_only_at_end_false :
    ¬ (∀ (cfg : Cfg) (s s' : St) (c : Code) (l k : Nat),
        nextValueTop cfg s = .err (.syntax c l k) s' → c.category = .eof → s'.rd.rest = []) := by
  intro hall
  obtain ⟨c, l, k, s', hr, hc, hne⟩ :=
    eofWithRest_elim (r := nextValueTop exCfg (initSt .str (asc "\"\\xZ\" 1"))) (by decide +kernel)
  exact hne (hall _ _ _ _ _ _ hr hc)

example : errIs .eofString 1 4 (asc "\" 1") (nextValueTop exCfg (initSt .str (asc "\"\\xZ\" 1"))) = true := by
  decide +kernel
example : errIs .eofChar 1 4 (asc "1") (nextValueTop exCfg (initSt .str (asc "#\\xZ1"))) = true := by
  decide +kernel

/-- **C19_eof_only_at_end**: the true variant, for every state `s` (no invariant needed) and every
    entry point: `eofList`, `eofVector` and `eofValue` are reported only in a state with no unread
    input.  (For `eofString` / `eofChar` see `C19_eof_lexer`.) -/
theorem C19_eof_only_at_end (cfg : Cfg) (s s' : St) (c : Code) (l k : Nat)
    (hr : Raises cfg s (.syntax c l k) s') :
    (c.category = .eof → s'.rd.rest = [] ∨ c = .eofString ∨ c = .eofChar) ∧
    (c = .eofList ∨ c = .eofVector ∨ c = .eofValue → s'.rd.rest = []) := by
  have hk : KOf .parse c s s' := (raises_spec (AtG.self s) hr).2.2
  refine ⟨fun hc => ?_, fun hc => ?_⟩
  · cases c <;>
      first | exact Or.inl (hk rfl) | exact Or.inr (Or.inl rfl) | exact Or.inr (Or.inr rfl) | cases hc
  · rcases hc with rfl | rfl | rfl <;> exact hk rfl

example : errAtEnd .eofList (fromTrait exCfg (initSt .slice (asc "(a b "))) = true := by decide +kernel

/-- **C19_eof_lexer**: what `parse_token` (any fuel, any state `s`) can report.  The code is one of
    the eleven lexer codes; `eofValue` only with no unread input; `invalidSymbol` only with unread
    input; `eofString` / `eofChar` with no unread input or immediately after a consumed byte `b`
    that is not a hex digit (the two hex-escape scanners). -/
theorem C19_eof_lexer (cfg : Cfg) (fuel : Nat) (pk : UInt8) (s s' : St) (c : Code) (l k : Nat)
    (hr : parseToken cfg fuel pk s = .err (.syntax c l k) s') :
    lexCode c = true ∧
    (c = .eofValue → s'.rd.rest = []) ∧
    (c = .invalidSymbol → s'.rd.rest ≠ []) ∧
    (c = .eofString ∨ c = .eofChar → s'.rd.rest = [] ∨
      ∃ pre b, pre ++ b :: s'.rd.rest = s.rd.rest ∧ hexVal b = none) :=
  ((parseToken_run (c := 0) (Nat.zero_le 1) nofun).err hr).2.2 c l k rfl

/-- **C19_syntax_at_end**: the syntax-category codes that `parse_token` can report in a state with
    no unread input (the candidates for "a truncated text is reported as malformed instead of
    EOF") are these seven; each of them does occur (examples below). -/
theorem C19_syntax_at_end (cfg : Cfg) (fuel : Nat) (pk : UInt8) (s s' : St) (c : Code) (l k : Nat)
    (hr : parseToken cfg fuel pk s = .err (.syntax c l k) s') (hend : s'.rd.rest = [])
    (hc : c.category = .syntax) :
    c = .expectedSomeIdent ∨ c = .expectedSomeValue ∨ c = .invalidEscape ∨ c = .invalidNumber ∨
    c = .numberOutOfRange ∨ c = .invalidUnicodeCodePoint ∨ c = .invalidCharacterConstant := by
  obtain ⟨h1, _, h3, _⟩ := C19_eof_lexer cfg fuel pk s s' c l k hr
  cases c <;> first
    | exact absurd h1 (by decide) | exact absurd hc (by decide) | exact absurd hend (h3 rfl) | decide

example : errAtEnd .expectedSomeIdent (parseToken exCfg 9 35 (initSt .str (asc "#z"))) = true := by
  decide +kernel
example : errAtEnd .expectedSomeValue (parseToken exCfg 9 125 (initSt .str (asc "}"))) = true := by
  decide +kernel
example : errAtEnd .invalidEscape (parseToken exCfg 9 34 (initSt .str (asc "\"\\q"))) = true := by
  decide +kernel
example : errAtEnd .invalidNumber (parseToken exCfg 9 49 (initSt .str (asc "1ex"))) = true := by
  decide +kernel
example : errAtEnd .numberOutOfRange (parseToken exCfg 9 49 (initSt .str (asc "1e999"))) = true := by
  decide +kernel
example : errAtEnd .invalidUnicodeCodePoint (parseToken exCfg 12 35 (initSt .str (asc "#\\x1100000"))) = true := by
  decide +kernel
example : errAtEnd .invalidCharacterConstant (parseToken exCfg 9 35 (initSt .str (asc "#\\foo"))) = true := by
  decide +kernel

/-- **C19_eof_lexer_number**: the same classification for `parse_number` (byte-vector elements). -/
theorem C19_eof_lexer_number (cfg : Cfg) (fuel : Nat) (s s' : St) (c : Code) (l k : Nat)
    (hr : parseNumber cfg fuel s = .err (.syntax c l k) s') :
    lexCode c = true ∧
    (c = .eofValue → s'.rd.rest = []) ∧
    (c = .invalidSymbol → s'.rd.rest ≠ []) ∧
    (c = .eofString ∨ c = .eofChar → s'.rd.rest = [] ∨
      ∃ pre b, pre ++ b :: s'.rd.rest = s.rd.rest ∧ hexVal b = none) :=
  (parseNumber_run.err hr).2.2 c l k rfl

example : errAtEnd .eofValue (parseNumber exCfg 9 (initSt .str (asc "#x"))) = true := by decide +kernel

/-- **C19_prefix_det_scanners**: the structural scanners stop independently of what follows, if they
    stop before the end (`Scanner g`: `g p ≤ p.length` and `g p < p.length → g (p ++ q) = g p`);
    the reader primitives, `parse_whitespace`, `parse_symbol` and `parse_token` (with any larger
    amount of fuel on the longer input) are prefix-deterministic (`Sim`, see PrefixDet.lean). -/
theorem C19_prefix_det_scanners (cfg : Cfg) (m : Mode) (scratch : List UInt8) (pk : UInt8)
    (f f' : Nat) (hf : f ≤ f') :
    Scanner wsLen ∧ Scanner (symLen m) ∧ Scanner charNameLen ∧ Scanner digitsLen ∧
    Sim peek peek ∧ Sim next next ∧ Sim discard discard ∧ Sim parseWhitespace parseWhitespace ∧
    Sim (parseSymbolBytes scratch) (parseSymbolBytes scratch) ∧
    Sim (parseToken cfg f pk) (parseToken cfg f' pk) :=
  ⟨PrefixDet.wsLen_scanner, PrefixDet.symLen_scanner m, PrefixDet.charNameLen_scanner,
   PrefixDet.digits_scanner, PrefixDet.peek_s, PrefixDet.next_s, PrefixDet.discard_s,
   PrefixDet.parseWhitespace_s, PrefixDet.parseSymbolBytes_s, PrefixDet.parseToken_s hf⟩

example : wsLen (asc " ;c\n x") = 5 ∧ wsLen (asc " ;c\n x" ++ asc "yz") = 5 := by decide

/-- **C19_prefix_det**: if a run of an entry point on a state `s` ends in an error `e` in a state
    `s'` that still has unread input (it never looked at the end of the input), then the run on
    `s` with any `q` appended to the unread input (`ext q s`) ends in the same error, with `q`
    appended to what is left.  For `nextValue` / `nextDatum` any larger amount of fuel may be
    used on the longer input; the other entry points compute their own fuel. -/
theorem C19_prefix_det (cfg : Cfg) (s s' : St) (e : Err) (q : List UInt8) (hne : s'.rd.rest ≠ []) :
    (∀ f f', f ≤ f' → nextValue cfg f s = .err e s' → nextValue cfg f' (ext q s) = .err e (ext q s')) ∧
    (∀ f f', f ≤ f' → nextDatum cfg f s = .err e s' → nextDatum cfg f' (ext q s) = .err e (ext q s')) ∧
    (nextValueTop cfg s = .err e s' → nextValueTop cfg (ext q s) = .err e (ext q s')) ∧
    (nextDatumTop cfg s = .err e s' → nextDatumTop cfg (ext q s) = .err e (ext q s')) ∧
    (expectValue cfg s = .err e s' → expectValue cfg (ext q s) = .err e (ext q s')) ∧
    (expectDatum cfg s = .err e s' → expectDatum cfg (ext q s) = .err e (ext q s')) ∧
    (expectEnd s = .err e s' → expectEnd (ext q s) = .err e (ext q s')) ∧
    (fromTrait cfg s = .err e s' → fromTrait cfg (ext q s) = .err e (ext q s')) ∧
    (fromTraitDatum cfg s = .err e s' → fromTraitDatum cfg (ext q s) = .err e (ext q s')) :=
  ⟨fun _ _ h hr => (PrefixDet.nextValue_s h).err q hr hne,
   fun _ _ h hr => (PrefixDet.nextDatum_s h).err q hr hne,
   fun hr => PrefixDet.nextValueTop_s.err q hr hne, fun hr => PrefixDet.nextDatumTop_s.err q hr hne,
   fun hr => PrefixDet.expectValue_s.err q hr hne, fun hr => PrefixDet.expectDatum_s.err q hr hne,
   fun hr => PrefixDet.expectEnd_s.err q hr hne, fun hr => PrefixDet.fromTrait_s.err q hr hne,
   fun hr => PrefixDet.fromTraitDatum_s.err q hr hne⟩

example : errIs .invalidNumber 1 3 (asc "x 2)") (nextValueTop exCfg (initSt .str (asc "(1x 2)"))) = true ∧
    errIs .invalidNumber 1 3 (asc "x 2) 3") (nextValueTop exCfg (initSt .str (asc "(1x 2) 3"))) = true := by
  decide +kernel

/-- **C19_prefix_det_ok**: the same for successful results of `next_value` / `next_datum` that
    leave unread input. -/
theorem C19_prefix_det_ok (cfg : Cfg) (s s' : St) (q : List UInt8) (hne : s'.rd.rest ≠ []) :
    (∀ f f' v, f ≤ f' → nextValue cfg f s = .ok v s' → nextValue cfg f' (ext q s) = .ok v (ext q s')) ∧
    (∀ f f' d, f ≤ f' → nextDatum cfg f s = .ok d s' → nextDatum cfg f' (ext q s) = .ok d (ext q s')) ∧
    (∀ v, nextValueTop cfg s = .ok v s' → nextValueTop cfg (ext q s) = .ok v (ext q s')) ∧
    (∀ d, nextDatumTop cfg s = .ok d s' → nextDatumTop cfg (ext q s) = .ok d (ext q s')) :=
  ⟨fun _ _ _ h hr => (PrefixDet.nextValue_s h).ok q hr hne,
   fun _ _ _ h hr => (PrefixDet.nextDatum_s h).ok q hr hne,
   fun _ hr => PrefixDet.nextValueTop_s.ok q hr hne, fun _ hr => PrefixDet.nextDatumTop_s.ok q hr hne⟩

example : okWithRest (nextValueTop exCfg (initSt .str (asc "(a) b"))) = true := by decide +kernel

theorem _root_.Lexpr.Parse.PrefixDet.Sim.err_reads_all {α : Type} {m m' : P α} (h : Sim m m')
    {s s' s1 : St} {e : Err} {a : α} {q : List UInt8} (hr : m s = .err e s')
    (hok : m' (ext q s) = .ok a s1) : s'.rd.rest = [] := by
  apply Classical.byContradiction
  intro hne
  have := h.err q hr hne
  rw [hok] at this
  cases this

/-- **C19_truncation_reads_all** (towards the truncation clause): if the text `p ++ q` parses as a
    single datum (`from_str` / `from_slice` / `from_reader` succeed), then a failing parse of the
    truncated text `p` has consumed all of `p` when it reports its error: the error state has no
    unread input.  (By `C19_eof_only_at_end` and `C19_syntax_at_end` the only non-EOF codes that
    `parse_token` can report in such a state are the seven listed there.) -/
theorem C19_truncation_reads_all (cfg : Cfg) (mode : Mode) (faulty : Bool) (p q : List UInt8)
    (e : Err) (s' : St) :
    ((∃ v s1, fromTrait cfg (initSt mode (p ++ q) faulty) = .ok v s1) →
      fromTrait cfg (initSt mode p faulty) = .err e s' → s'.rd.rest = []) ∧
    ((∃ d s1, fromTraitDatum cfg (initSt mode (p ++ q) faulty) = .ok d s1) →
      fromTraitDatum cfg (initSt mode p faulty) = .err e s' → s'.rd.rest = []) :=
  ⟨fun ⟨_, _, hok⟩ hr =>
      PrefixDet.fromTrait_s.err_reads_all hr (PrefixDet.ext_initSt mode p q faulty ▸ hok),
   fun ⟨_, _, hok⟩ hr =>
      PrefixDet.fromTraitDatum_s.err_reads_all hr (PrefixDet.ext_initSt mode p q faulty ▸ hok)⟩

example : (∃ v s1, fromTrait exCfg (initSt .str (asc "(a \"bc\")")) = .ok v s1) ∧
    errAtEnd .eofString (fromTrait exCfg (initSt .str (asc "(a \"b"))) = true :=
  ⟨Progress.okAny_elim (by decide +kernel), by decide +kernel⟩

/-- **C19_truncation_u8_hash**: the site at which the truncation clause failed before the repair
    in /repo (`parse_number` took the end of the input after `#` for an unknown radix letter, so
    `#u8(#` was reported as `invalidNumber`).  The model follows the repaired code: `#u8(#xFF)`
    parses as a single datum and its proper prefix `#u8(#` is reported as `eofValue` (EOF category)
    with all input consumed. -/
theorem C19_truncation_u8_hash :
    (∃ v s1, fromTrait exCfg (initSt .str (asc "#u8(#xFF)")) = .ok v s1) ∧
    (∃ s', fromTrait exCfg (initSt .str (asc "#u8(#")) = .err (.syntax .eofValue 1 5) s' ∧
      s'.rd.rest = []) ∧
    Code.eofValue.category = .eof ∧ asc "#u8(#" <+: asc "#u8(#xFF)" :=
  ⟨Progress.okAny_elim (by decide +kernel), errIs_elim (by decide +kernel), rfl, by decide⟩

example : errIs .eofValue 1 7 [] (fromTrait exCfg (initSt .io (asc "#u8(1 #"))) = true := by
  decide +kernel

/-- a wrong radix letter is still a syntax error -/
example : errIs .invalidNumber 1 6 [] (fromTrait exCfg (initSt .io (asc "#u8(#q"))) = true := by
  decide +kernel

end Locations
end Parse
end Lexpr
