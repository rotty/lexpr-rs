/-
  Trivia — C12, "inserting or changing trivia between tokens never changes any value", in the form
  `parse R (printT τ P v) = parse R (bytes P v)` (`C12_trivia_printT`).  `textT τ p ryu v` is the
  printer that inserts `τ i` at the `i`-th token boundary (a space where `τ i` is empty and the
  plain printer writes one); its output is a trivia variant (`tv_textT`), so `TriviaRel.lean`
  applies.  Also `trivB`, a Boolean checker for `Triv`, and instances.
-/
import LexprModel.Proofs.TriviaRel
import LexprModel.Proofs.TriviaTwin
namespace Lexpr
namespace Parse
namespace ListRT
open Print Spec

mutual
/-- `trivB t`: `t` consists of whitespace bytes and complete comments -/
def trivB : List UInt8 → Bool
  | [] => true
  | b :: bs => if b == 59 then commB bs else (isTrivia b && trivB bs)
/-- inside a comment: a line feed must come, then trivia -/
def commB : List UInt8 → Bool
  | [] => false
  | b :: bs => if b == 10 then trivB bs else commB bs
end

/-- `trivB` is the checker `Concat.triviaB` (`TriviaTwin.lean`), whose soundness is proved there -/
theorem trivB_eq_scan : ∀ t : List UInt8,
    trivB t = Concat.scan false false t ∧ commB t = Concat.scan false true t
  | [] => ⟨rfl, rfl⟩
  | b :: bs => by
    obtain ⟨h1, h2⟩ := trivB_eq_scan bs
    constructor
    · simp only [trivB, Concat.scan, h1, h2]
    · simp only [commB, Concat.scan, h1, h2]

theorem triv_of_trivB (t : List UInt8) (h : trivB t = true) : Triv t :=
  (Concat.trivia_of_triviaB t (by rw [Concat.triviaB, ← (trivB_eq_scan t).1]; exact h)).triv

theorem trivEnd_of (w body : List UInt8) (hw : trivB w = true) (hb : body.all (· != 10) = true) :
    TrivEnd (w ++ 59 :: body) :=
  ⟨w, 59 :: body, triv_of_trivB w hw, Or.inr ⟨body, by
    intro x hx
    have := List.all_eq_true.1 hb x hx
    simpa using this, rfl⟩, rfl⟩

/-- what is written where the plain printer writes a space: the trivia string, or a space if it
    is empty -/
def sepT (w : List UInt8) : List UInt8 :=
  match w with
  | [] => [32]
  | _ => w

theorem sepT_triv {w : List UInt8} (h : Triv w) : Triv (sepT w) := by
  cases w with
  | nil => exact triv_space
  | cons b t => exact h

theorem sepT_ne (w : List UInt8) : sepT w ≠ [] := by
  cases w <;> simp [sepT]

/-- what is written before an element of a sequence: `w` itself before the first one, where the
    printer writes nothing, `sepT w` before the others -/
theorem sepT_first {w : List UInt8} (h : Triv w) (first : Bool) :
    Triv (if first then w else sepT w) ∧ (first = false → (if first then w else sepT w) ≠ []) := by
  cases first
  · exact ⟨sepT_triv h, fun _ => sepT_ne w⟩
  · exact ⟨h, nofun⟩

/-- the octets of a byte vector; returns the text and the next boundary index -/
def octetsT (τ : Nat → List UInt8) : Bool → List UInt8 → Nat → List UInt8 × Nat
  | _, [], n => (τ n, n + 1)
  | first, b :: bs, n =>
    let r := octetsT τ false bs (n + 1)
    ((if first then τ n else sepT (τ n)) ++ (natDigits b.toNat ++ r.1), r.2)

def bytesT (τ : Nat → List UInt8) (p : Print.Options) (bs : List UInt8) (n : Nat) :
    List UInt8 × Nat :=
  match p.bytes with
  | .r6rs =>
    let r := octetsT τ true bs (n + 1)
    (35 :: 118 :: 117 :: 56 :: (τ n ++ 40 :: (r.1 ++ [41])), r.2)
  | .r7rs =>
    let r := octetsT τ true bs (n + 1)
    (35 :: 117 :: 56 :: (τ n ++ 40 :: (r.1 ++ [41])), r.2)
  | .elisp => (34 :: (Print.elispBytesText bs ++ [34]), n)

/-- ` . tx` with the trivia `τ n`, `τ (n+1)` around the dot and `τ m` before the parenthesis -/
def dotT (τ : Nat → List UInt8) (n m : Nat) (tx : List UInt8) : List UInt8 :=
  sepT (τ n) ++ 46 :: (sepT (τ (n + 1)) ++ (tx ++ τ m))

mutual
/-- `emT τ p ryu v n`: the text of `v` with `τ n`, `τ (n+1)`, … inserted at its token boundaries
    in order, and the index of the next unused trivia string -/
def emT (τ : Nat → List UInt8) (p : Print.Options) (ryu : Nat → List UInt8) :
    Value → Nat → List UInt8 × Nat
  | .cons a d, n =>
    let ra := emT τ p ryu a (n + 1)
    let rd := emTailT τ p ryu d ra.2
    (40 :: (τ n ++ (ra.1 ++ (rd.1 ++ [41]))), rd.2)
  | .vector xs, n =>
    let r := emSeqT τ p ryu true xs n
    (vopen p ++ (r.1 ++ [vclose p]), r.2)
  | .null, n => (40 :: (τ n ++ [41]), n + 1)
  | .nil, n => (atomTextP p ryu .nil, n)
  | .bool b, n => (atomTextP p ryu (.bool b), n)
  | .number x, n => (atomTextP p ryu (.number x), n)
  | .char c, n => (atomTextP p ryu (.char c), n)
  | .string x, n => (atomTextP p ryu (.string x), n)
  | .symbol x, n => (atomTextP p ryu (.symbol x), n)
  | .keyword x, n => (atomTextP p ryu (.keyword x), n)
  | .bytes b, n => bytesT τ p b n
def emTailT (τ : Nat → List UInt8) (p : Print.Options) (ryu : Nat → List UInt8) :
    Value → Nat → List UInt8 × Nat
  | .null, n => (τ n, n + 1)
  | .cons a d, n =>
    let ra := emT τ p ryu a (n + 1)
    let rd := emTailT τ p ryu d ra.2
    (sepT (τ n) ++ (ra.1 ++ rd.1), rd.2)
  | .vector xs, n =>
    let r := emSeqT τ p ryu true xs (n + 2)
    (dotT τ n r.2 (vopen p ++ (r.1 ++ [vclose p])), r.2 + 1)
  | .nil, n => (dotT τ n (n + 2) (atomTextP p ryu .nil), n + 3)
  | .bool b, n => (dotT τ n (n + 2) (atomTextP p ryu (.bool b)), n + 3)
  | .number x, n => (dotT τ n (n + 2) (atomTextP p ryu (.number x)), n + 3)
  | .char c, n => (dotT τ n (n + 2) (atomTextP p ryu (.char c)), n + 3)
  | .string x, n => (dotT τ n (n + 2) (atomTextP p ryu (.string x)), n + 3)
  | .symbol x, n => (dotT τ n (n + 2) (atomTextP p ryu (.symbol x)), n + 3)
  | .keyword x, n => (dotT τ n (n + 2) (atomTextP p ryu (.keyword x)), n + 3)
  | .bytes b, n =>
    let r := bytesT τ p b (n + 2)
    (dotT τ n r.2 r.1, r.2 + 1)
def emSeqT (τ : Nat → List UInt8) (p : Print.Options) (ryu : Nat → List UInt8) :
    Bool → List Value → Nat → List UInt8 × Nat
  | _, [], n => (τ n, n + 1)
  | first, x :: xs, n =>
    let rx := emT τ p ryu x (n + 1)
    let rs := emSeqT τ p ryu false xs rx.2
    ((if first then τ n else sepT (τ n)) ++ (rx.1 ++ rs.1), rs.2)
end

/-- the `printT τ P v` of the header: the text of `v` with `τ i` at the `i`-th token boundary
    (counted from 0, in text order; where the plain printer writes a space and `τ i` is empty, a
    space is written) -/
def textT (τ : Nat → List UInt8) (p : Print.Options) (ryu : Nat → List UInt8) (v : Value) :
    List UInt8 :=
  (emT τ p ryu v 0).1

theorem octetsT_var (τ : Nat → List UInt8) (hτ : ∀ i, Triv (τ i)) (bs : List UInt8) :
    ∀ (first : Bool) (n : Nat), BElemsT first bs (octetsT τ first bs n).1 := by
  induction bs with
  | nil => intro first n; simp only [octetsT, BElemsT]; exact hτ n
  | cons b bs ih =>
    intro first n
    simp only [octetsT, BElemsT]
    obtain ⟨h1, h2⟩ := sepT_first (hτ n) first
    exact ⟨_, _, h1, h2, ih false (n + 1), rfl⟩

theorem bytesT_var (τ : Nat → List UInt8) (hτ : ∀ i, Triv (τ i)) (p : Print.Options)
    (bs : List UInt8) (n : Nat) : BytesVar p bs (bytesT τ p bs n).1 := by
  unfold BytesVar bytesT
  cases p.bytes <;> simp only
  · exact ⟨_, _, hτ n, octetsT_var τ hτ bs true (n + 1), rfl⟩
  · exact ⟨_, _, hτ n, octetsT_var τ hτ bs true (n + 1), rfl⟩

theorem dotT_shape (τ : Nat → List UInt8) (hτ : ∀ i, Triv (τ i)) (n m : Nat) (tx : List UInt8) :
    DotShape tx (dotT τ n m tx) :=
  ⟨_, _, _, sepT_triv (hτ n), sepT_ne _, sepT_triv (hτ (n + 1)), sepT_ne _, hτ m, rfl⟩

theorem emT_leaf_var (τ : Nat → List UInt8) (hτ : ∀ i, Triv (τ i)) (p : Print.Options)
    (ryu : Nat → List UInt8) (v : Value) (h1 : v.isCons = false) (h2 : v.isVector = false)
    (h3 : v ≠ .null) (n : Nat) : TV p ryu v (emT τ p ryu v n).1 := by
  cases v <;> simp_all [Value.isCons, Value.isVector, emT, TV, bytesT_var]

/-- a dotted tail is written ` . `, the tail as a value (from boundary `n + 2` on), trivia -/
theorem emTailT_dotted (τ : Nat → List UInt8) (p : Print.Options) (ryu : Nat → List UInt8)
    (d : Value) (h1 : d.isCons = false) (h3 : d ≠ .null) (n : Nat) :
    emTailT τ p ryu d n =
      (dotT τ n (emT τ p ryu d (n + 2)).2 (emT τ p ryu d (n + 2)).1, (emT τ p ryu d (n + 2)).2 + 1) := by
  cases d <;> simp_all [Value.isCons, emT, emTailT]

/-- The counter `n` of token boundaries threads through the value; each case is the constructor
    of `TV` / `TVTail` / `TVSeq` with `τ n`, or a space where `τ n` is empty and the printer writes
    one. -/
theorem emT_all_var (τ : Nat → List UInt8) (hτ : ∀ i, Triv (τ i)) (p : Print.Options)
    (ryu : Nat → List UInt8) :
    (∀ (v : Value) (n : Nat), TV p ryu v (emT τ p ryu v n).1) ∧
    (∀ (d : Value) (n : Nat), TVTail p ryu d (emTailT τ p ryu d n).1) ∧
    (∀ (xs : List Value) (first : Bool) (n : Nat),
      TVSeq p ryu first xs (emSeqT τ p ryu first xs n).1) := by
  refine value_induction ?_ ?_ ?_ ?_ ?_ ?_ ?_ ?_ ?_
  · intro a d ha hd n
    simp only [emT, TV]
    exact ⟨_, _, _, hτ n, ha (n + 1), hd _, rfl⟩
  · intro xs hs n
    simp only [emT, TV]
    exact ⟨_, hs true n, rfl⟩
  · intro n; simp only [emT, TV]; exact ⟨_, hτ n, rfl⟩
  · intro v h1 h2 h3 n; exact emT_leaf_var τ hτ p ryu v h1 h2 h3 n
  · intro a d ha hd n
    simp only [emTailT, TVTail]
    exact ⟨_, _, _, sepT_triv (hτ n), sepT_ne _, ha (n + 1), hd _, rfl⟩
  · intro n; simp only [emTailT, TVTail]; exact hτ n
  · intro d h1 h3 hd n
    rw [emTailT_dotted τ p ryu d h1 h3, tvTail_dotted p ryu d h1 h3]
    exact ⟨_, hd (n + 2), dotT_shape τ hτ _ _ _⟩
  · intro first n; simp only [emSeqT, TVSeq]; exact hτ n
  · intro x xs hx hs first n
    simp only [emSeqT, TVSeq]
    obtain ⟨h1, h2⟩ := sepT_first (hτ n) first
    exact ⟨_, _, _, h1, h2, hx (n + 1), hs false _, rfl⟩

theorem emT_var (τ : Nat → List UInt8) (hτ : ∀ i, Triv (τ i)) (p : Print.Options)
    (ryu : Nat → List UInt8) : ∀ (v : Value) (n : Nat), TV p ryu v (emT τ p ryu v n).1 :=
  (emT_all_var τ hτ p ryu).1

theorem emTailT_var (τ : Nat → List UInt8) (hτ : ∀ i, Triv (τ i)) (p : Print.Options)
    (ryu : Nat → List UInt8) : ∀ (d : Value) (n : Nat), TVTail p ryu d (emTailT τ p ryu d n).1 :=
  (emT_all_var τ hτ p ryu).2.1

theorem emSeqT_var (τ : Nat → List UInt8) (hτ : ∀ i, Triv (τ i)) (p : Print.Options)
    (ryu : Nat → List UInt8) :
    ∀ (first : Bool) (xs : List Value) (n : Nat), TVSeq p ryu first xs (emSeqT τ p ryu first xs n).1 :=
  fun first xs n => (emT_all_var τ hτ p ryu).2.2 xs first n

theorem tv_textT (τ : Nat → List UInt8) (hτ : ∀ i, Triv (τ i)) (p : Print.Options)
    (ryu : Nat → List UInt8) (v : Value) : TV p ryu v (textT τ p ryu v) :=
  emT_var τ hτ p ryu v 0

/-- **C12_trivia_printT** — C12 in the form `parse R (printT τ P v) = parse R (bytes P v)`, with
    `textT` for `printT` and `text` for `bytes`: for every compatible pair, every value that is
    plain for the pair with nesting at most 127, every assignment `τ` of trivia strings to token
    boundaries, any leading trivia and any final trivia: `from_slice_custom` on the text with
    trivia returns what it returns on the printed text, namely `fold p cfg.opts v`. -/
theorem C12_trivia_printT (cfg : Cfg) (p : Print.Options) (ryu : Nat → List UInt8)
    (hc : Compatible p cfg.opts = true) (v : Value) (h : AllPlainFor p cfg v)
    (hn : nestingP p v ≤ 127) (τ : Nat → List UInt8) (hτ : ∀ i, Triv (τ i))
    (lead trail : List UInt8) (hl : Triv lead) (ht : TrivEnd trail) :
    okValue (fromTrait cfg (initSt .slice (lead ++ (textT τ p ryu v ++ trail)))) =
      okValue (fromTrait cfg (initSt .slice (text p ryu v))) ∧
    okValue (fromTrait cfg (initSt .slice (lead ++ (textT τ p ryu v ++ trail)))) =
      some (fold p cfg.opts v) :=
  C12_trivia_plain cfg p ryu hc v h hn _ ⟨lead, _, trail, hl, tv_textT τ hτ p ryu v, ht, rfl⟩

/-- with no trivia at all the trivia-inserting printer writes single spaces where the plain
    printer does: instance check on a value with every kind of boundary -/
example : textT (fun _ => []) Print.Options.default ryu0
      (.cons (.symbol (asc "a")) (.cons (.vector [.null, .bytes [1, 2]]) (.number (.pos 7)))) =
    text Print.Options.default ryu0
      (.cons (.symbol (asc "a")) (.cons (.vector [.null, .bytes [1, 2]]) (.number (.pos 7)))) := by
  decide +kernel

def nthT : List (List UInt8) → Nat → List UInt8
  | [], _ => []
  | x :: _, 0 => x
  | _ :: xs, n + 1 => nthT xs n

theorem nthT_triv (l : List (List UInt8)) (h : l.all trivB = true) : ∀ i, Triv (nthT l i) := by
  induction l with
  | nil => intro i; simp only [nthT]; exact .nil
  | cons x xs ih =>
    simp only [List.all_cons, Bool.and_eq_true] at h
    intro i
    cases i with
    | zero => exact triv_of_trivB x h.1
    | succ i => exact ih h.2 i

/-- `(a (1 . "x;y") #(#t () #u8(1 2)) . z)`: nested list, dotted pairs, a string that contains
    `;`, a vector, `()`, a byte vector, a dotted tail -/
def exV1 : Value :=
  .cons (.symbol (asc "a")) (.cons (.cons (.number (.pos 1)) (.string (asc "x;y")))
    (.cons (.vector [.bool true, .null, .bytes [1, 2]]) (.symbol (asc "z"))))

/-- trivia for the 19 token boundaries of `exV1`: spaces, tabs, CR LF, form feeds, comments -/
def exTau1 : List (List UInt8) :=
  [asc " ", asc "\t", asc "", asc "\r\n", asc ";c\n\x0c", asc " ", asc "\n", asc ";v\n", asc " ",
   asc "\t", asc " ", asc " ", asc "", asc ";o\n", asc " ", asc " ", asc " ;d\n ", asc " ",
   asc "\x0c"]

example : text Print.Options.default ryu0 exV1 = asc "(a (1 . \"x;y\") #(#t () #u8(1 2)) . z)" := by
  decide +kernel

/-- the text with trivia: a comment glued to `.` and to an octet, CR LF after a number, a form
    feed before a string and before the last parenthesis, whitespace inside `()` and between
    `#u8` and `(` -/
example : textT (nthT exTau1) Print.Options.default ryu0 exV1 =
    asc "( a\t(1\r\n.;c\n\x0c\"x;y\" )\n#(;v\n#t (\t) #u8 (1;o\n2 ) ) ;d\n . z\x0c)" := by
  decide +kernel

/-- default options on both sides: the text above with a leading comment and an unterminated
    final comment is read back as `exV1` (`fold` is the identity here) -/
example :
    ∃ s', fromTrait cfg0 (initSt .slice (asc " ;lead\n\t" ++
        (textT (nthT exTau1) Print.Options.default ryu0 exV1 ++ (asc "\n" ++ 59 :: asc " end")))) =
      .ok exV1 s' ∧ s'.rd.rest = [] ∧ s'.depth = 128 := by
  have hfold : fold Print.Options.default cfg0.opts exV1 = exV1 := by rfl
  rw [← hfold]
  refine C12_trivia cfg0 Print.Options.default ryu0 (by decide) exV1 ?_ ?_ _
    ⟨asc " ;lead\n\t", _, _, triv_of_trivB _ (by decide),
      tv_textT _ (nthT_triv exTau1 (by decide)) _ _ _,
      trivEnd_of (asc "\n") (asc " end") (by decide) (by decide), rfl⟩
  · simp only [exV1, AllPlainFor, AllPlainForSeq, LeafPlainFor, AtomPlainFor, dotOkP]
    decide +kernel
  · simp [exV1, nestingP, nestingTailP, nestingSeqP, Print.Options.default]

/-- a successful result with the value `v` (compared with the model of the derived `==`, which is
    structural equality on values without floats) and nothing left unread -/
def readsAs (r : Res Value) (v : Value) : Bool :=
  match r with
  | .ok x s => Value.beq x v && s.rd.rest.isEmpty
  | _ => false

/-- the same instance by evaluating the model (independent of the theorems) -/
example : readsAs (fromTrait cfg0 (initSt .slice
    (asc " ;lead\n\t( a\t(1\r\n.;c\n\x0c\"x;y\" )\n#(;v\n#t (\t) #u8 (1;o\n2 ) ) ;d\n . z\x0c)\n; end")))
    exV1 = true := by
  decide +kernel

/-- `(setq x [1 "a\"b" ?x :k nil nil t (-3)] . "\001")` in Emacs Lisp syntax -/
def exV2 : Value :=
  .cons (.symbol (asc "setq")) (.cons (.symbol (asc "x"))
    (.cons (.vector [.number (.pos 1), .string (asc "a\"b"), .char 120, .keyword (asc "k"),
      .nil, .bool false, .bool true, .cons (.number (.neg (-3))) .null]) (.bytes [1])))

/-- trivia for the 17 token boundaries of `exV2` -/
def exTau2 : List (List UInt8) :=
  [asc "", asc "\n", asc "\t", asc " ", asc ";s\n", asc "\r\n", asc " ", asc "\x0c", asc " ",
   asc ";;\n", asc "", asc " ", asc "", asc "\t", asc " ; dot\n", asc ";\n", asc " "]

example : text Print.Options.elisp ryu0 exV2 =
    asc "(setq x [1 \"a\\\"b\" ?x :k nil nil t (-3)] . \"\\001\")" := by
  decide +kernel

example : textT (nthT exTau2) Print.Options.elisp ryu0 exV2 =
    asc "(setq\nx\t[ 1;s\n\"a\\\"b\"\r\n?x :k\x0cnil nil;;\nt ( -3)\t] ; dot\n.;\n\"\\001\" )" := by
  decide +kernel

/-- Emacs Lisp on both sides: the text with trivia reads back as `fold … exV2` (`Nil` and `false`
    folded to the empty list, `true` to the symbol `t`), as the plain text does -/
example :
    ∃ s', fromTrait elCfg (initSt .slice (asc "\x0c" ++
        (textT (nthT exTau2) Print.Options.elisp ryu0 exV2 ++ asc " \n"))) =
      .ok (fold Print.Options.elisp Options.elisp exV2) s' ∧ s'.rd.rest = [] ∧ s'.depth = 128 := by
  refine C12_trivia elCfg Print.Options.elisp ryu0 (by decide) exV2 ?_ ?_ _
    ⟨asc "\x0c", _, _, triv_of_trivB _ (by decide),
      tv_textT _ (nthT_triv exTau2 (by decide)) _ _ _,
      (triv_of_trivB (asc " \n") (by decide)).toEnd, rfl⟩
  · simp only [exV2, AllPlainFor, AllPlainForSeq, LeafPlainFor, AtomPlainFor, dotOkP]
    decide +kernel
  · simp [exV2, nestingP, nestingTailP, nestingSeqP, Print.Options.elisp]

/-- any two trivia placements give the same value (here: the plain text and the text with
    trivia, both option sets) -/
example :
    okValue (fromTrait elCfg (initSt .slice (textT (nthT exTau2) Print.Options.elisp ryu0 exV2))) =
      okValue (fromTrait elCfg (initSt .slice (text Print.Options.elisp ryu0 exV2))) := by
  refine C12_trivia_eq elCfg Print.Options.elisp ryu0 (by decide) exV2 ?_ ?_ _ _
    (tvTop_of_tv _ _ _ _ (tv_textT _ (nthT_triv exTau2 (by decide)) _ _ _)) (tvTop_plain _ _ _)
  · simp only [exV2, AllPlainFor, AllPlainForSeq, LeafPlainFor, AtomPlainFor, dotOkP]
    decide +kernel
  · simp [exV2, nestingP, nestingTailP, nestingSeqP, Print.Options.elisp]

/-- `trivia_structure` inside a larger input: bracket vectors, `#vu8`, `name:` keywords
    (`mixP` / `mixCfg` of `DialectRT.lean`); the variant is followed by `)` -/
example (s : St) (hm : s.rd.mode = .slice) (hfa : s.rd.faulty = false) (hd : 3 ≤ s.depth)
    (τ : Nat → List UInt8) (hτ : ∀ i, Triv (τ i)) :
    let v : Value := .cons (.keyword (asc "a")) (.cons (.vector [.number (.pos 1), .bytes [1, 2],
      .string (asc "s"), .char 955]) (.cons .nil (.cons (.bool true) (.number (.neg (-5))))))
    s.rd.rest = asc "\t;x\n" ++ (textT τ mixP ryu0 v ++ asc ")") →
    ∃ s', nextValue mixCfg (2 * s.rd.rest.length + 3) s = .ok (some (fold mixP mixOpts v)) s' ∧
      s'.rd.rest = asc ")" ∧ s'.rd.mode = .slice ∧ s'.rd.faulty = false ∧ s'.depth = s.depth := by
  intro v hr
  refine trivia_structure mixCfg mixP ryu0 (by decide) v ?_ (asc "\t;x\n") _
    (triv_of_trivB _ (by decide)) (tv_textT τ hτ mixP ryu0 v) s (asc ")") _
    (follow_cons _ _ (by decide)) hm hfa hr (Nat.le_refl _) ?_
  · refine allAtomsOKP_of_plain mixP mixCfg ryu0 (by decide) v ?_
    simp only [v, AllPlainFor, AllPlainForSeq, LeafPlainFor, AtomPlainFor, dotOkP]
    decide +kernel
  · have : nestingP mixP v = 2 := by
      simp [v, nestingP, nestingTailP, nestingSeqP, mixP]
    omega

#print axioms trivia_structure
#print axioms C12_trivia_atoms
#print axioms C12_trivia
#print axioms C12_trivia_plain
#print axioms C12_trivia_eq
#print axioms C12_trivia_spec
#print axioms C12_trivia_printT
#print axioms tv_plain
#print axioms tv_textT
#print axioms bytesOKT_of_compat

end ListRT
end Parse
end Lexpr
