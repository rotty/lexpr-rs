/-
  ReadsLeaves — induction over a `Value` along the cases that matter to the printer and the
  parser (pair, vector, `()`, any other leaf), and the generic predicate `AllLeaves P` ("every
  leaf satisfies `P`") with its monotonicity.  The per-kind leaf predicates of the development
  (`AllAtomsOK`, `AllSupported`, `AllAtomsOKP`, `AllPlainFor`, …) are instances of `AllLeaves`.
-/
import LexprModel.Value
namespace Lexpr
namespace Parse
namespace ListRT

/-- Induction over a value along the cases of the printer and of the parser loops: a statement
    `M` about a value (pair, vector, `()`, any other leaf), a statement `T` about the rest of a cdr
    chain (another pair, the end `()`, or a dotted tail, which is a value again) and a statement `S`
    about the elements of a vector. -/
theorem value_induction {M T : Value → Prop} {S : List Value → Prop}
    (cons : ∀ a d, M a → T d → M (.cons a d))
    (vector : ∀ xs, S xs → M (.vector xs))
    (null : M .null)
    (leaf : ∀ v, v.isCons = false → v.isVector = false → v ≠ .null → M v)
    (tcons : ∀ a d, M a → T d → T (.cons a d))
    (tnull : T .null)
    (tdot : ∀ d, d.isCons = false → d ≠ .null → M d → T d)
    (snil : S [])
    (scons : ∀ x xs, M x → S xs → S (x :: xs)) :
    (∀ v, M v) ∧ (∀ d, T d) ∧ (∀ xs, S xs) := by
  have hl : ∀ v, v.isCons = false → v.isVector = false → v ≠ .null → M v ∧ T v :=
    fun v h1 h2 h3 => ⟨leaf v h1 h2 h3, tdot v h1 h3 (leaf v h1 h2 h3)⟩
  -- the recursor of the nested type, leaves first in the order of the constructors
  have hv : ∀ v, M v ∧ T v := fun v =>
    Value.rec (motive_1 := fun v => M v ∧ T v) (motive_2 := S)
      (hl _ rfl rfl (by simp)) ⟨null, tnull⟩ (fun _ => hl _ rfl rfl (by simp))
      (fun _ => hl _ rfl rfl (by simp)) (fun _ => hl _ rfl rfl (by simp))
      (fun _ => hl _ rfl rfl (by simp)) (fun _ => hl _ rfl rfl (by simp))
      (fun _ => hl _ rfl rfl (by simp)) (fun _ => hl _ rfl rfl (by simp))
      (fun a d ha hd => ⟨cons a d ha.1 hd.2, tcons a d ha.1 hd.2⟩)
      (fun xs hs => ⟨vector xs hs, tdot _ rfl (by simp) (vector xs hs)⟩)
      snil (fun x xs hx hs => scons x xs hx.1 hs) v
  refine ⟨fun v => (hv v).1, fun v => (hv v).2, fun xs => ?_⟩
  induction xs with
  | nil => exact snil
  | cons x xs ih => exact scons x xs (hv x).1 ih

/-- the same for statements that treat car and cdr alike -/
theorem value_induction2 {M : Value → Prop} {S : List Value → Prop}
    (cons : ∀ a d, M a → M d → M (.cons a d))
    (vector : ∀ xs, S xs → M (.vector xs))
    (null : M .null)
    (leaf : ∀ v, v.isCons = false → v.isVector = false → v ≠ .null → M v)
    (snil : S [])
    (scons : ∀ x xs, M x → S xs → S (x :: xs)) :
    (∀ v, M v) ∧ (∀ xs, S xs) :=
  have h := value_induction (T := M) cons vector null leaf cons null (fun _ _ _ h => h) snil scons
  ⟨h.1, h.2.2⟩

end ListRT
end Parse

namespace FullRT
open Parse.ListRT

mutual
/-- every atom leaf of `v` (through car, cdr and vector elements; the empty list is not a leaf)
    satisfies `P` -/
def AllLeaves (P : Value → Prop) : Value → Prop
  | .cons a d => AllLeaves P a ∧ AllLeaves P d
  | .vector xs => AllLeavesSeq P xs
  | .null => True
  | .nil => P .nil
  | .bool b => P (.bool b)
  | .number n => P (.number n)
  | .char c => P (.char c)
  | .string x => P (.string x)
  | .symbol x => P (.symbol x)
  | .keyword x => P (.keyword x)
  | .bytes x => P (.bytes x)
def AllLeavesSeq (P : Value → Prop) : List Value → Prop
  | [] => True
  | x :: xs => AllLeaves P x ∧ AllLeavesSeq P xs
end

/-- the values `AllLeaves` applies its predicate to -/
def IsLeaf (v : Value) : Prop := v.isCons = false ∧ v.isVector = false ∧ v ≠ .null

theorem allLeaves_leaf (P : Value → Prop) (v : Value) (h1 : v.isCons = false)
    (h2 : v.isVector = false) (h3 : v ≠ .null) : AllLeaves P v ↔ P v := by
  cases v <;> simp_all [Value.isCons, Value.isVector, AllLeaves]

theorem allLeaves_mono {P Q : Value → Prop} (hpq : ∀ v, IsLeaf v → P v → Q v) :
    (∀ v : Value, AllLeaves P v → AllLeaves Q v) ∧
    (∀ xs : List Value, AllLeavesSeq P xs → AllLeavesSeq Q xs) := by
  refine value_induction2 ?_ ?_ ?_ ?_ ?_ ?_
  · intro a d ha hd h
    simp only [AllLeaves] at h ⊢
    exact ⟨ha h.1, hd h.2⟩
  · intro xs hs h
    simp only [AllLeaves] at h ⊢
    exact hs h
  · intro _; simp only [AllLeaves]
  · intro v h1 h2 h3 h
    rw [allLeaves_leaf _ v h1 h2 h3] at h ⊢
    exact hpq v ⟨h1, h2, h3⟩ h
  · intro _; simp only [AllLeavesSeq]
  · intro x xs hx hs h
    simp only [AllLeavesSeq] at h ⊢
    exact ⟨hx h.1, hs h.2⟩

/-- A pair of predicates with the unfolding equations of `AllLeaves` is `AllLeaves` of what it says
    on leaves. -/
theorem allLeaves_of_unfold {A L : Value → Prop} {AS : List Value → Prop}
    (cons : ∀ a d, A (.cons a d) ↔ A a ∧ A d) (vector : ∀ xs, A (.vector xs) ↔ AS xs)
    (null : A .null) (nil : AS []) (seq : ∀ x xs, AS (x :: xs) ↔ A x ∧ AS xs)
    (leaf : ∀ v, v.isCons = false → v.isVector = false → v ≠ .null → (A v ↔ L v)) :
    (∀ v, A v ↔ AllLeaves L v) ∧ (∀ xs, AS xs ↔ AllLeavesSeq L xs) := by
  refine value_induction2 ?_ ?_ ?_ ?_ ?_ ?_
  · intro a d ha hd; simp only [cons, AllLeaves, ha, hd]
  · intro xs hs; simp only [vector, AllLeaves, hs]
  · simp only [AllLeaves, null]
  · intro v h1 h2 h3; rw [leaf v h1 h2 h3, allLeaves_leaf _ v h1 h2 h3]
  · simp only [AllLeavesSeq, nil]
  · intro x xs hx hs; simp only [seq, AllLeavesSeq, hx, hs]

theorem AllLeaves.mono {P Q : Value → Prop} (hpq : ∀ v, IsLeaf v → P v → Q v) :
    ∀ v : Value, AllLeaves P v → AllLeaves Q v :=
  (allLeaves_mono hpq).1

theorem AllLeavesSeq.mono {P Q : Value → Prop} (hpq : ∀ v, IsLeaf v → P v → Q v) :
    ∀ xs : List Value, AllLeavesSeq P xs → AllLeavesSeq Q xs :=
  (allLeaves_mono hpq).2

/-- For predicates that are `AllLeaves L` and `AllLeaves M` (as `allLeaves_of_unfold` shows of the
    per-kind ones): the first implies the second when `L` implies `M` on leaves. -/
theorem allLeaves_imp {A B L M : Value → Prop} {AS BS : List Value → Prop}
    (hA : (∀ v, A v ↔ AllLeaves L v) ∧ (∀ xs, AS xs ↔ AllLeavesSeq L xs))
    (hB : (∀ v, B v ↔ AllLeaves M v) ∧ (∀ xs, BS xs ↔ AllLeavesSeq M xs))
    (h : ∀ v, IsLeaf v → L v → M v) : (∀ v, A v → B v) ∧ (∀ xs, AS xs → BS xs) :=
  ⟨fun v a => (hB.1 v).2 (AllLeaves.mono h v ((hA.1 v).1 a)),
    fun xs a => (hB.2 xs).2 (AllLeavesSeq.mono h xs ((hA.2 xs).1 a))⟩

theorem allLeaves_and {P Q R : Value → Prop} (hpqr : ∀ v, v ≠ .null → P v → Q v → R v) :
    (∀ v, AllLeaves P v → AllLeaves Q v → AllLeaves R v) ∧
    (∀ xs, AllLeavesSeq P xs → AllLeavesSeq Q xs → AllLeavesSeq R xs) := by
  refine value_induction2 ?_ ?_ ?_ ?_ ?_ ?_
  · intro a d ha hd h1 h2; exact ⟨ha h1.1 h2.1, hd h1.2 h2.2⟩
  · intro xs hs h1 h2; exact hs h1 h2
  · intro _ _; trivial
  · intro v h1 h2 h3 p q
    rw [allLeaves_leaf _ v h1 h2 h3] at p q ⊢
    exact hpqr v h3 p q
  · intro _ _; trivial
  · intro x xs hx hs h1 h2; exact ⟨hx h1.1 h2.1, hs h1.2 h2.2⟩

end FullRT
end Lexpr
