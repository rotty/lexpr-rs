/-
  C19, truncation clause: "If an input is a proper prefix of a text that parses as a single datum
  and the prefix itself does not parse, the error category is EOF."

  RESULT.  Two cases decide the clause (both confirmed on the real crate):

   (A) Emacs numeric escapes (`\x<hex digits>`, `\<octal digits>`, in strings also
       `\N{U+<hex digits>`): where the input ends after digits whose value is a surrogate
       (U+D800..U+DFFF), one more digit gives a scalar value (`"\xD800` is a prefix of
       `"\xD8000"`), so `InvalidUnicodeCodePoint` (syntax category) is the wrong answer there.
       /repo carries the repair `surrogate_at_end` (such an escape at the end of the input is
       `EofWhileParsingString` / `EofWhileParsingCharacterConstant`) and the model follows the
       repaired code (DESIGN.md section 9); TruncExamples.lean runs the witnesses.

   (B) Long decimal literals: an integer part of more than 308 digits is out of range for a
       double when the input ends (`NumberOutOfRange`, syntax category), but an exponent may follow:
       `2` followed by 308 zeros is a prefix of the same text followed by `e-1`, which is the
       number 2e307.  Both build features.  NOT repaired (known finding).  Witnesses:
       `C19_truncation_counterexample_long_*` in TruncExamples.lean.

  THEOREM (`C19_truncation`, `C19_truncation_datum`): for every parser option set, both build
  features, every source (str / slice / stream), if `p ++ q` (q ≠ []) parses as a single datum and
  `p` does not, the error on `p` is of EOF category (or the I/O error of a failing stream) unless
  it is `NumberOutOfRange`.  `C19_truncation_iff`: that exception is exactly the failure of the
  clause.  `C19_truncation_eof` (hypotheses form), the three sources by name, a failing stream,
  and call histories / the iterator API (TruncHistory.lean).
-/
import LexprModel.Proofs.TruncValue
import LexprModel.Proofs.Locations
namespace Lexpr
namespace Parse
namespace Trunc
open PrefixDet (Sim ext Scanner digitsLen scan ext_rest ext_consume)

section entry
variable {X : Err → Prop} {s : St} {q : List UInt8}

theorem nextDatumTop_t (cfg : Cfg) (hq : q ≠ []) (hB : ∀ l k, X (.syntax .numberOutOfRange l k)) :
    TS X QT (nextDatumTop cfg) (nextDatumTop cfg) s q := by
  unfold nextDatumTop
  exact TS.bind_apiFuel (fun n n' hn => (datum_ts cfg hq hB n n' hn).1 s)

theorem expectDatum_t (cfg : Cfg) (hq : q ≠ []) (hB : ∀ l k, X (.syntax .numberOutOfRange l k)) :
    TS X QT (expectDatum cfg) (expectDatum cfg) s q := by
  unfold expectDatum
  refine TS.bind (nextDatumTop_t cfg hq hB) (fun o s1 _ _ => ?_) (fun o s1 _ h0 _ => ?_)
  · cases o with
    | none => exact TS.peekErr
    | some v => exact TS.pure
  · cases o with
    | none => exact TE.peekErrSoft (by decide)
    | some v => exact TE.pure h0 trivial

theorem expectEnd_t {X : Err → Prop} (hq : q ≠ []) : TS X QT expectEnd expectEnd s q := by
  unfold expectEnd
  refine TS.bind_ws hq (fun o s1 _ => ?_) (fun s1 h0 => TE.pure h0 trivial)
  cases o with
  | none => exact TS.pure
  | some _ => exact TS.peekErr

theorem expectEnd_eo {X : Err → Prop} (h0 : s.rd.rest = []) :
    EO X expectEnd s (fun _ _ => True) := by
  unfold expectEnd
  exact EO.bind_ws h0 fun s1 h1 _ => EO.pure h1 trivial

theorem fromTraitDatum_t (cfg : Cfg) (hq : q ≠ []) (hB : ∀ l k, X (.syntax .numberOutOfRange l k)) :
    TS X QT (fromTraitDatum cfg) (fromTraitDatum cfg) s q := by
  unfold fromTraitDatum
  refine TS.bind (expectDatum_t cfg hq hB) (fun v s1 _ _ => ?_) (fun v s1 _ h0 _ => ?_)
  · exact TS.bind (expectEnd_t hq) (fun _ _ _ _ => TS.pure) (fun _ s2 _ h0 _ => TE.pure h0 trivial)
  · exact TE.bind (expectEnd_eo h0) (fun _ s2 h2 _ => TE.pure h2 trivial)

theorem nextValueTop_t (cfg : Cfg) (hq : q ≠ []) (hB : ∀ l k, X (.syntax .numberOutOfRange l k)) :
    TS X QT (nextValueTop cfg) (nextValueTop cfg) s q :=
  (nextDatumTop_t cfg hq hB).map (sim_nextTop cfg) (sim_nextTop cfg) (fun _ _ _ _ => trivial)

theorem expectValue_t (cfg : Cfg) (hq : q ≠ []) (hB : ∀ l k, X (.syntax .numberOutOfRange l k)) :
    TS X QT (expectValue cfg) (expectValue cfg) s q :=
  (expectDatum_t cfg hq hB).map (sim_expect cfg) (sim_expect cfg) (fun _ _ _ _ => trivial)

theorem fromTrait_t (cfg : Cfg) (hq : q ≠ []) (hB : ∀ l k, X (.syntax .numberOutOfRange l k)) :
    TS X QT (fromTrait cfg) (fromTrait cfg) s q :=
  (fromTraitDatum_t cfg hq hB).map (sim_fromTrait cfg) (sim_fromTrait cfg) (fun _ _ _ _ => trivial)

end entry
end Trunc

/-- the exception of the truncation clause: the error `e` is `NumberOutOfRange` (class B above) -/
def TruncExc (e : Err) : Prop := ∃ l k, e = .syntax .numberOutOfRange l k

theorem TruncExc.noor (l k : Nat) : TruncExc (.syntax .numberOutOfRange l k) := ⟨l, k, rfl⟩

open Trunc in
/-- **C19_truncation_gen**: the general form (any source, failing stream or not, value and datum
    API): the error on the truncated text is not of syntax category, or it is an exception. -/
theorem C19_truncation_gen (cfg : Cfg) (mode : Mode) (faulty : Bool) (p q : List UInt8)
    (hq : q ≠ []) (e : Err) (s' : St) :
    ((∃ v s1, fromTrait cfg (initSt mode (p ++ q) faulty) = .ok v s1) →
      fromTrait cfg (initSt mode p faulty) = .err e s' →
      e.category ≠ .syntax ∨ TruncExc e) ∧
    ((∃ d s1, fromTraitDatum cfg (initSt mode (p ++ q) faulty) = .ok d s1) →
      fromTraitDatum cfg (initSt mode p faulty) = .err e s' →
      e.category ≠ .syntax ∨ TruncExc e) := by
  refine ⟨fun ⟨v, s1, hok⟩ hfail => ?_, fun ⟨d, s1, hok⟩ hfail => ?_⟩
  · rw [← PrefixDet.ext_initSt] at hok
    exact (fromTrait_t cfg hq TruncExc.noor).err_of_ok hfail hok
  · rw [← PrefixDet.ext_initSt] at hok
    exact (fromTraitDatum_t cfg hq TruncExc.noor).err_of_ok hfail hok

theorem category_eof_of {e : Err} (h : e.category ≠ .syntax) (hio : e ≠ .io) : e.category = .eof := by
  rcases e with ⟨c, l, k⟩ | _
  · cases c <;> first | rfl | exact absurd rfl h
  · exact absurd rfl hio

/-- **C19_truncation** (the clause of C19, with its exceptions).  `t` parses as a single datum
    (`from_str` / `from_slice` / `from_reader`, according to `mode`), `p` is a proper prefix of `t`
    and does not parse: then the error is of EOF category, or it is `NumberOutOfRange`
    (`TruncExc`).  Every option set and both build features (`cfg` is arbitrary). -/
theorem C19_truncation (cfg : Cfg) (mode : Mode) (t p : List UInt8) (v : Value) (s : St) (e : Err)
    (s' : St) (hfull : fromTrait cfg (initSt mode t) = .ok v s) (hpre : p <+: t) (hne : p ≠ t)
    (hfail : fromTrait cfg (initSt mode p) = .err e s') :
    e.category = .eof ∨ TruncExc e := by
  obtain ⟨q, rfl⟩ := hpre
  have hq : q ≠ [] := fun h => hne (by simp [h])
  have hio : e ≠ .io := by
    intro h
    have := (Progress.fromTrait_spec.err hfail).2 h
    cases this
  exact ((C19_truncation_gen cfg mode false p q hq e s').1 ⟨v, s, hfull⟩ hfail).imp
    (fun h => category_eof_of h hio) id

/-- **C19_truncation_datum**: the same for `datum::from_str` / `from_slice` / `from_reader`. -/
theorem C19_truncation_datum (cfg : Cfg) (mode : Mode) (t p : List UInt8) (d : Datum) (s : St)
    (e : Err) (s' : St) (hfull : fromTraitDatum cfg (initSt mode t) = .ok d s) (hpre : p <+: t)
    (hne : p ≠ t) (hfail : fromTraitDatum cfg (initSt mode p) = .err e s') :
    e.category = .eof ∨ TruncExc e := by
  obtain ⟨q, rfl⟩ := hpre
  have hq : q ≠ [] := fun h => hne (by simp [h])
  have hio : e ≠ .io := by
    intro h
    have := (Progress.fromTraitDatum_spec.err hfail).2 h
    cases this
  exact ((C19_truncation_gen cfg mode false p q hq e s').2 ⟨d, s, hfull⟩ hfail).imp
    (fun h => category_eof_of h hio) id

/-- the exception is of syntax category: under the hypotheses of `C19_truncation` the clause
    of C19 fails exactly when `TruncExc` holds -/
theorem TruncExc_syntax {e : Err} (h : TruncExc e) : e.category = .syntax := by
  obtain ⟨l, k, rfl⟩ := h; rfl

/-- **C19_truncation_iff**: under the hypotheses of the clause, the error is of EOF category if and
    only if it is not `NumberOutOfRange` (so the exception is exactly the failure). -/
theorem C19_truncation_iff (cfg : Cfg) (mode : Mode) (t p : List UInt8) (v : Value) (s : St) (e : Err)
    (s' : St) (hfull : fromTrait cfg (initSt mode t) = .ok v s) (hpre : p <+: t) (hne : p ≠ t)
    (hfail : fromTrait cfg (initSt mode p) = .err e s') :
    e.category = .eof ↔ ¬ TruncExc e := by
  refine ⟨fun h hx => ?_, fun h => ?_⟩
  · rw [TruncExc_syntax hx] at h; cases h
  · exact (C19_truncation cfg mode t p v s e s' hfull hpre hne hfail).resolve_right h

/-- **C19_truncation_eof** (hypotheses form): if the error is not `NumberOutOfRange`, it is of EOF
    category. -/
theorem C19_truncation_eof (cfg : Cfg) (mode : Mode) (t p : List UInt8) (v : Value) (s : St) (e : Err)
    (s' : St) (hfull : fromTrait cfg (initSt mode t) = .ok v s) (hpre : p <+: t) (hne : p ≠ t)
    (hfail : fromTrait cfg (initSt mode p) = .err e s')
    (hB : ∀ l k, e ≠ .syntax .numberOutOfRange l k) : e.category = .eof := by
  rcases C19_truncation cfg mode t p v s e s' hfull hpre hne hfail with h | ⟨l, k, h⟩
  · exact h
  · exact absurd h (hB l k)

/-- **C19_truncation_sources**: the clause for `from_str`, `from_slice` and `from_reader` by name
    (instances of `C19_truncation`; the text of a `&str` is valid UTF-8, which is not needed). -/
theorem C19_truncation_sources (cfg : Cfg) (t p : List UInt8) (hpre : p <+: t) (hne : p ≠ t) :
    (∀ v s e s', fromTrait cfg (initSt .str t) = .ok v s → fromTrait cfg (initSt .str p) = .err e s' →
      e.category = .eof ∨ TruncExc e) ∧
    (∀ v s e s', fromTrait cfg (initSt .slice t) = .ok v s →
      fromTrait cfg (initSt .slice p) = .err e s' → e.category = .eof ∨ TruncExc e) ∧
    (∀ v s e s', fromTrait cfg (initSt .io t) = .ok v s → fromTrait cfg (initSt .io p) = .err e s' →
      e.category = .eof ∨ TruncExc e) :=
  ⟨fun v s e s' h1 h2 => C19_truncation cfg .str t p v s e s' h1 hpre hne h2,
   fun v s e s' h1 h2 => C19_truncation cfg .slice t p v s e s' h1 hpre hne h2,
   fun v s e s' h1 h2 => C19_truncation cfg .io t p v s e s' h1 hpre hne h2⟩

/-- **C19_truncation_faulty_stream**: a stream that delivers `p` and then fails (instead of
    ending), where `p ++ q` from an equally failing stream would parse: the error is the I/O error
    or of EOF category, with the same exceptions. -/
theorem C19_truncation_faulty_stream (cfg : Cfg) (p q : List UInt8) (hq : q ≠ []) (v : Value)
    (s : St) (e : Err) (s' : St) (hfull : fromTrait cfg (initSt .io (p ++ q) true) = .ok v s)
    (hfail : fromTrait cfg (initSt .io p true) = .err e s') :
    e = .io ∨ e.category = .eof ∨ TruncExc e := by
  rcases (C19_truncation_gen cfg .io true p q hq e s').1 ⟨v, s, hfull⟩ hfail with h | h
  · by_cases hio : e = .io
    · exact Or.inl hio
    · exact Or.inr (Or.inl (category_eof_of h hio))
  · exact Or.inr (Or.inr h)

end Parse
end Lexpr
