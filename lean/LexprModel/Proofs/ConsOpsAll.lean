/-
  The results on the hand-written `Clone` / `PartialEq` / `Drop` of `Cons` and `SpanInfo` and on
  `Value::append` as written (Proofs/ConsOps.lean, ConsOpsMut.lean, ConsOpsDepth.lean,
  ConsOpsDatum.lean) that C15 and C16 cite, under names of those properties.
-/
import LexprModel.Proofs.ConsOps
import LexprModel.Proofs.ConsOpsMut
import LexprModel.Proofs.ConsOpsDepth
import LexprModel.Proofs.ConsOpsDatum
namespace Lexpr
namespace ConsOps
open Value Parse

/-- the loop-implemented clone returns the value itself — for every value. -/
theorem C15_clone_identical (v : Value) : cloneV v = .ok v := clone_eq v

/-- the loop-implemented `==` is the derived structural comparison — for every pair of values. -/
theorem C15_eq_structural (a b : Value) : eqV a b = Value.beq a b := eqLoop_iff a b

/-- `Value::append` as written (with `set_car` / `set_cdr` / `cdr_mut` / `as_cons_mut`) builds the
    reference list. -/
theorem C15_append_impl (xs : List Value) (t : Value) : appendImpl xs t = .ok (append xs t) :=
  appendImpl_eq xs t

/-- the same for a datum: value and span tree. -/
theorem C15_datum_clone_identical (d : Datum) : cloneDatum d = .ok d := cloneDatum_eq d

/-- C16, from the loops themselves: clone and `==` stay within `nesting + 1` levels, drop within
    `2 * nesting + 2`, whatever the number of elements. -/
theorem C16_cons_loops_depth (v w : Value) :
    (cloneVI v).2 ≤ Spec.nesting v + 1 ∧ (eqVI v w).2 ≤ Spec.nesting v + 1 ∧
      dropD v ≤ 2 * Spec.nesting v + 2 :=
  ⟨clone_depth_le v, (eq_depth_le v w).1, drop_depth_le v⟩

end ConsOps
end Lexpr
