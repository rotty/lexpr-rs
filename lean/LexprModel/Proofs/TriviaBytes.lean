/-
  TriviaBytes — byte vectors with trivia.  `parse_byte_list` calls `parse_whitespace` before the
  opening parenthesis, before every octet and before the closing parenthesis, so every variant
  (`BytesVar`) of `#u8(…)` / `#vu8(…)` is read back as the byte vector, under EVERY parser option
  set (`bytesVar_runs`); the Emacs Lisp unibyte string is one token and has no variant but
  itself.  Then: the text the printer writes is one of its variants (`tv_plain`).
-/
import LexprModel.Proofs.TriviaBase
namespace Lexpr
namespace Parse
namespace ListRT
open Print Spec

theorem bElemsT_iff (bs : List UInt8) : ∀ (first : Bool) (t : List UInt8),
    BElemsT first bs t ↔ BElems Triv first bs t := by
  induction bs with
  | nil => intro first t; exact Iff.rfl
  | cons b bs ih => intro first t; simp only [BElemsT, BElems, ih]

/-- trivia are separators of `parse_byte_list` (`wsLen_triv`, `Triv.follow`) -/
theorem triv_skips : Skips Triv where
  wsLen := fun {w} hw c tl h1 h2 => by rw [wsLen_triv w _ hw, wsLen_nontrivia c tl h1 h2]; rfl
  follow := fun hw hne rest => (follow_iff _).1 (hw.follow hne rest)

/-- `parseByteList_sep` of `TokenRTLit.lean` at trivia; `parseByteList_ok` there is the case of
    single spaces. -/
theorem parseByteListT_ok (cfg : Cfg) (fuel : Nat) (bs w te rest : List UInt8) (s : St)
    (hw : Triv w) (hte : BElemsT true bs te)
    (hrest : s.rd.rest = w ++ 40 :: (te ++ 41 :: rest))
    (hfuel : te.length + 1 ≤ fuel) :
    parseByteList cfg fuel 41 s = .ok bs (adv s (w.length + (te.length + 2)) false) :=
  parseByteList_sep triv_skips cfg fuel bs w te rest s hw ((bElemsT_iff bs true te).1 hte) hrest hfuel

/-- `pre` is `#u8` or `#vu8` -/
theorem bytes_prefix_rt (cfg : Cfg) (pre : List UInt8) (hh : pre.head? = some 35)
    (hopen : ∀ (fuel : Nat) (s : St) (x : List UInt8), s.rd.rest = pre ++ x →
      parseToken cfg fuel 35 s = .ok (.byteVecOpen 41) (adv s pre.length false))
    (bs w te : List UInt8) (hw : Triv w) (hte : BElemsT true bs te)
    (s : St) (rest : List UInt8) (fuel : Nat) (hg : Good s)
    (hr : s.rd.rest = pre ++ (w ++ 40 :: (te ++ [41])) ++ rest) (hfu : fuel ≥ 1) :
    Runs (nextValue cfg fuel) s (some (.bytes bs)) rest := by
  obtain ⟨f, rfl⟩ : ∃ f, fuel = f + 1 := ⟨fuel - 1, by omega⟩
  have htl : (pre ++ (w ++ 40 :: (te ++ [41]))).length =
      pre.length + (w.length + (te.length + 2)) := by
    simp only [List.length_append, List.length_cons, List.length_nil]
  have hx : s.rd.rest = pre ++ (w ++ 40 :: (te ++ 41 :: rest)) := by rw [hr]; simp
  have hnv := nextValue_byteVec cfg f s (pre ++ (w ++ 40 :: (te ++ [41]))) rest bs pre.length hr
    (by cases pre <;> simp_all)
    (hopen _ _ (w ++ 40 :: (te ++ 41 :: rest)) (by simp [hx]))
    (by
      rw [parseByteListT_ok cfg _ bs w te rest _ hw hte (by simp [hx])
        (by simp only [List.length_append, List.length_cons]; omega)]
      rw [adv_adv, htl])
  exact runs_of_adv _ s _ _ _ rest hg hnv (by rw [hr]; simp)

/-- every variant of a `#u8(` / `#vu8(` byte vector is read as the byte vector, under EVERY option
    set (no `Compatible`); the Emacs Lisp spelling has no variant but the plain text -/
theorem bytesVar_runs (p : Print.Options) (cfg : Cfg) (ryu : Nat → List UInt8) (bs : List UInt8) :
    (p.bytes = .elisp ∧ ∀ t, BytesVar p bs t → t = atomTextP p ryu (.bytes bs)) ∨
    (p.bytes ≠ .elisp ∧ ∀ t, BytesVar p bs t →
      ∀ (s : St) (rest : List UInt8) (fuel : Nat), Good s → s.rd.rest = t ++ rest → fuel ≥ 1 →
        Runs (nextValue cfg fuel) s (some (.bytes bs)) rest) := by
  unfold BytesVar
  cases hp : p.bytes <;> simp only
  · right; refine ⟨nofun, ?_⟩; rintro t ⟨w, te, hw, hte, rfl⟩ s rest fuel hg hr hfu
    exact bytes_prefix_rt cfg [35, 118, 117, 56] rfl
      (fun fuel s x h => vu8open_aux cfg fuel s x (by simpa using h)) bs w te hw hte s rest fuel hg
      (by simpa using hr) hfu
  · right; refine ⟨nofun, ?_⟩; rintro t ⟨w, te, hw, hte, rfl⟩ s rest fuel hg hr hfu
    exact bytes_prefix_rt cfg [35, 117, 56] rfl
      (fun fuel s x h => u8open_aux cfg fuel s x (by simpa using h)) bs w te hw hte s rest fuel hg
      (by simpa using hr) hfu
  · left; refine ⟨trivial, ?_⟩; intro t ht; rw [atomTextP_bytes, hp]; exact ht

theorem bElemsT_plain (bs : List UInt8) (first : Bool) : BElemsT first bs (elemsText first bs) := by
  induction bs generalizing first with
  | nil => simp only [BElemsT, elemsText]; exact .nil
  | cons b bs ih =>
    simp only [BElemsT, elemsText]
    refine ⟨if first then [] else [32], elemsText false bs, ?_, ?_, ih false, by simp⟩
    · cases first
      · exact .ws 32 [] (by decide) .nil
      · exact .nil
    · intro h; simp [h]

theorem bytesVar_plain (p : Print.Options) (ryu : Nat → List UInt8) (bs : List UInt8) :
    BytesVar p bs (atomTextP p ryu (.bytes bs)) := by
  rw [atomTextP_bytes]
  unfold BytesVar
  cases hp : p.bytes <;> simp only
  · exact ⟨[], _, .nil, bElemsT_plain bs true, by simp [octetsText_eq]⟩
  · exact ⟨[], _, .nil, bElemsT_plain bs true, by simp [octetsText_eq]⟩

theorem tv_leaf_plain (p : Print.Options) (ryu : Nat → List UInt8) (v : Value)
    (h1 : v.isCons = false) (h2 : v.isVector = false) (h3 : v ≠ .null) :
    TV p ryu v (atomTextP p ryu v) := by
  cases v <;> simp_all [Value.isCons, Value.isVector, TV, bytesVar_plain]

theorem tv_all_plain (p : Print.Options) (ryu : Nat → List UInt8) :
    (∀ v : Value, TV p ryu v (text p ryu v)) ∧
    (∀ d : Value, TVTail p ryu d (flatten (emitsTail p ryu d))) ∧
    (∀ (xs : List Value) (first : Bool), TVSeq p ryu first xs (flatten (emitsSeq p ryu first xs))) := by
  refine value_induction ?_ ?_ ?_ ?_ ?_ ?_ ?_ ?_ ?_
  · intro a d ha hd
    rw [textP_cons]; simp only [TV]
    exact ⟨[], _, _, .nil, ha, hd, by simp⟩
  · intro xs hs
    rw [textP_vector]; simp only [TV]
    exact ⟨_, hs true, rfl⟩
  · rw [textP_null]; simp only [TV]; exact ⟨[], .nil, rfl⟩
  · intro v h1 h2 h3
    rw [textP_atom p ryu v h1 h2]; exact tv_leaf_plain p ryu v h1 h2 h3
  · intro a d ha hd
    rw [tailP_cons]; simp only [TVTail]
    exact ⟨[32], _, _, triv_space, by simp, ha, hd, by simp⟩
  · rw [tailP_null]; simp only [TVTail]; exact .nil
  · intro d h1 h3 hd
    rw [tailP_dotted p ryu d h1 h3, tvTail_dotted p ryu d h1 h3]
    exact ⟨_, hd, dotShape_plain _⟩
  · intro first; rw [seqP_nil]; simp only [TVSeq]; exact .nil
  · intro x xs hx hs first
    cases first
    · rw [seqP_false]; simp only [TVSeq]
      exact ⟨[32], _, _, triv_space, by simp, hx, hs false, by simp⟩
    · rw [seqP_true]; simp only [TVSeq]
      exact ⟨[], _, _, .nil, by simp, hx, hs false, by simp⟩

theorem tv_plain (p : Print.Options) (ryu : Nat → List UInt8) :
    ∀ v : Value, TV p ryu v (text p ryu v) :=
  (tv_all_plain p ryu).1

theorem tvTail_plain (p : Print.Options) (ryu : Nat → List UInt8) :
    ∀ d : Value, TVTail p ryu d (flatten (emitsTail p ryu d)) :=
  (tv_all_plain p ryu).2.1

theorem tvSeq_plain (p : Print.Options) (ryu : Nat → List UInt8) :
    ∀ (first : Bool) (xs : List Value), TVSeq p ryu first xs (flatten (emitsSeq p ryu first xs)) :=
  fun first xs => (tv_all_plain p ryu).2.2 xs first

theorem tvTop_plain (p : Print.Options) (ryu : Nat → List UInt8) (v : Value) :
    TVTop p ryu v (text p ryu v) :=
  ⟨[], text p ryu v, [], .nil, tv_plain p ryu v, Triv.nil.toEnd, by simp⟩

theorem tvTop_of_tv (p : Print.Options) (ryu : Nat → List UInt8) (v : Value) (t : List UInt8)
    (h : TV p ryu v t) : TVTop p ryu v t :=
  ⟨[], t, [], .nil, h, Triv.nil.toEnd, by simp⟩

end ListRT
end Parse
end Lexpr
