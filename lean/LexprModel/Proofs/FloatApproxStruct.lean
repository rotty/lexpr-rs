/-
  FloatApproxStruct — the structural round trip in relational form: the text of `v` (printer
  options `p`) is read back (parser options `cfg.opts`, any compatible pair) as some value `w`,
  and `w` is related to `fold p cfg.opts v` by `Value.approxEq`.

  The statements `ValueRTW` / `TailRTW` / `SeqRTW` are those of `ValueRTP` / `TailRTP` / `SeqRTP`
  with the value read back as a parameter.  The value read back is independent of the state and
  of the follow context: an atom has to come with one `w` that works everywhere
  (`atomRT_float_approx` provides it for floats).

  `struct_rtA` is the instance of `ListRT.reads_rel` for the relation "`approxEq` to the folded
  value" (`structural_approx`) and the hypothesis `AllOKA` (`hyp_allOKA`), which asks the
  leading-dot clause of `ElemHead` only of the text of cars, as `ImageStruct.lean` does (C13 needs
  that); `AllLeaves` of `AtomOKW` (C01, C02, C12) implies it.  Its conclusion `ListRT.ReadsAs`
  covers `next_value` with and — for pairs, vectors and `()`, which close themselves — without a
  condition on what follows (C12), and the tail of a list.
-/
import LexprModel.Proofs.FloatApprox
import LexprModel.Proofs.ImageStruct
namespace Lexpr
namespace FloatApprox
open Parse Parse.ListRT Print Spec F64 Numbers Decimals

/-- the text of `v` is read back as `w` by `next_value` in every follow context, from every
    non-faulty slice state with enough depth budget -/
def ValueRTW (p : Print.Options) (cfg : Cfg) (ryu : Nat → List UInt8) (v w : Value) : Prop :=
  ∀ (s : St) (rest : List UInt8) (fuel : Nat), ListRT.Follow rest → Good s →
    s.rd.rest = text p ryu v ++ rest → fuel ≥ 2 * s.rd.rest.length + 3 →
    nestingP p v + 1 ≤ s.depth → Runs (nextValue cfg fuel) s (some w) rest

def TailRTW (p : Print.Options) (cfg : Cfg) (ryu : Nat → List UInt8) (d w : Value) : Prop :=
  ∀ (s : St) (rest : List UInt8) (fuel : Nat) (acc : List Value), acc ≠ [] → Good s →
    s.rd.rest = flatten (emitsTail p ryu d) ++ 41 :: rest → fuel ≥ 2 * s.rd.rest.length + 3 →
    nestingTailP p d + 1 ≤ s.depth →
    Runs (parseList cfg fuel 41 acc) s (Value.append acc w) (41 :: rest)

def SeqRTW (p : Print.Options) (cfg : Cfg) (ryu : Nat → List UInt8) (first : Bool)
    (xs ws : List Value) : Prop :=
  ∀ (s : St) (rest : List UInt8) (fuel : Nat) (acc : List Value), Good s →
    s.rd.rest = flatten (emitsSeq p ryu first xs) ++ vclose p :: rest →
    fuel ≥ 2 * s.rd.rest.length + (if first then 4 else 3) →
    nestingSeqP p xs + 1 ≤ s.depth →
    Runs (parseVector cfg fuel (vclose p) acc) s (acc ++ ws) (vclose p :: rest)

/-- W for the witness `w`; `Image.AtomOKW`, with a weak head, is another notion.
    `v` is an atom whose text under `p` is read back, in every follow context and
    from every non-faulty slice state, as one and the same value `w` with
    `Value.approxEq (fold p cfg.opts v) w`. -/
def AtomOKW (p : Print.Options) (cfg : Cfg) (ryu : Nat → List UInt8) (v : Value) : Prop :=
  v.isCons = false ∧ v.isVector = false ∧ v ≠ .null ∧ ElemHead (atomTextP p ryu v) ∧
  ∃ w, Value.approxEq (fold p cfg.opts v) w ∧
    ∀ (s : St) (rest : List UInt8) (fuel : Nat), ListRT.Follow rest → Good s →
      s.rd.rest = atomTextP p ryu v ++ rest → fuel ≥ s.rd.rest.length + 2 →
      nestingP p v + 1 ≤ s.depth →
      Runs (nextValue cfg fuel) s (some w) rest

theorem atomOKW_of_P (p : Print.Options) (cfg : Cfg) (ryu : Nat → List UInt8) (v : Value)
    (h : AtomOKP p cfg ryu v) : AtomOKW p cfg ryu v :=
  ⟨h.1, h.2.1, h.2.2.1, h.2.2.2.1, fold p cfg.opts v, approxEq_refl _, h.2.2.2.2⟩

/-- `AtomOKW` with a `WeakHead` in place of the `ElemHead` -/
def AtomOKA (p : Print.Options) (cfg : Cfg) (ryu : Nat → List UInt8) (v : Value) : Prop :=
  v.isCons = false ∧ v.isVector = false ∧ v ≠ .null ∧ Image.WeakHead (atomTextP p ryu v) ∧
  ∃ w, Value.approxEq (fold p cfg.opts v) w ∧
    ∀ (s : St) (rest : List UInt8) (fuel : Nat), ListRT.Follow rest → Good s →
      s.rd.rest = atomTextP p ryu v ++ rest → fuel ≥ s.rd.rest.length + 2 →
      nestingP p v + 1 ≤ s.depth →
      Runs (nextValue cfg fuel) s (some w) rest

theorem atomOKA_of_W {p : Print.Options} {cfg : Cfg} {ryu : Nat → List UInt8} {v : Value}
    (h : AtomOKW p cfg ryu v) : AtomOKA p cfg ryu v :=
  ⟨h.1, h.2.1, h.2.2.1, Image.ElemHead.weak h.2.2.2.1, h.2.2.2.2⟩

/-- an atom that is read back exactly (in the sense of `ImageStruct.lean`) -/
theorem atomOKA_of_exact {p : Print.Options} {cfg : Cfg} {ryu : Nat → List UInt8} {v : Value}
    (h : Image.AtomOKW p cfg ryu v) : AtomOKA p cfg ryu v :=
  ⟨h.1, h.2.1, h.2.2.1, h.2.2.2.1, fold p cfg.opts v, approxEq_refl _, h.2.2.2.2⟩

mutual
/-- every atom is `AtomOKA`, and the text of every car is an `ElemHead` -/
def AllOKA (p : Print.Options) (cfg : Cfg) (ryu : Nat → List UInt8) : Value → Prop
  | .cons a d => AllOKA p cfg ryu a ∧ ElemHead (text p ryu a) ∧ AllOKA p cfg ryu d
  | .vector xs => AllOKASeq p cfg ryu xs
  | .null => True
  | .nil => AtomOKA p cfg ryu .nil
  | .bool b => AtomOKA p cfg ryu (.bool b)
  | .number n => AtomOKA p cfg ryu (.number n)
  | .char c => AtomOKA p cfg ryu (.char c)
  | .string x => AtomOKA p cfg ryu (.string x)
  | .symbol x => AtomOKA p cfg ryu (.symbol x)
  | .keyword x => AtomOKA p cfg ryu (.keyword x)
  | .bytes x => AtomOKA p cfg ryu (.bytes x)
def AllOKASeq (p : Print.Options) (cfg : Cfg) (ryu : Nat → List UInt8) : List Value → Prop
  | [] => True
  | x :: xs => AllOKA p cfg ryu x ∧ AllOKASeq p cfg ryu xs
end

theorem allOKA_leaf {p : Print.Options} {cfg : Cfg} {ryu : Nat → List UInt8} {v : Value}
    (hl : FullRT.IsLeaf v) : AllOKA p cfg ryu v ↔ AtomOKA p cfg ryu v := by
  cases v with
  | cons => cases hl.1
  | vector => cases hl.2.1
  | null => exact absurd rfl hl.2.2
  | _ => simp only [AllOKA]

theorem structural_approx (p : Print.Options) (r : Parse.Options) :
    Structural (fun v w => Value.approxEq (fold p r v) w)
      (fun xs ws => Value.approxEqList (foldList p r xs) ws) where
  cons := fun {a a' d d'} ha hd => by
    rw [fold_cons]; simp only [Value.approxEq]; exact ⟨a', d', rfl, ha, hd⟩
  vector := fun {xs ws} hs => by rw [fold_vector]; simp only [Value.approxEq]; exact ⟨ws, rfl, hs⟩
  null := by rw [fold_null]; simp only [Value.approxEq]
  nil := by rw [foldList_nil]; simp only [Value.approxEqList]
  seq := fun {x x' xs ws} hx hs => by
    rw [foldList_cons]; simp only [Value.approxEqList]; exact ⟨x', ws, rfl, hx, hs⟩

theorem hyp_allOKA (p : Print.Options) (cfg : Cfg) (ryu : Nat → List UInt8) :
    Hyp p cfg ryu (fun v w => Value.approxEq (fold p cfg.opts v) w) (AllOKA p cfg ryu)
      (AllOKASeq p cfg ryu) where
  cons := fun h => by simpa only [AllOKA] using h
  vector := fun h => by simpa only [AllOKA] using h
  seq := fun h => by simpa only [AllOKASeq] using h
  leaf := fun h1 h2 h3 h =>
    have ⟨_, _, _, hh, w, hw, hrun⟩ := (allOKA_leaf ⟨h1, h2, h3⟩).mp h
    ⟨w, hw, hh, fun s rest fuel hf hg hr hfu hd =>
      hrun s rest fuel (follow_of_open hf) hg hr (by omega) hd⟩

/-- The text of a value with `AllOKA` is read as one value `w`, `approxEq` to
    the folded original, by `next_value` — whatever follows, if the value closes itself — and,
    after the elements read so far, by the list loop; a vector body by the vector loop. -/
theorem struct_rtA (p : Print.Options) (cfg : Cfg) (ryu : Nat → List UInt8)
    (hb : p.vector = .brackets → cfg.opts.brackets = .vector) :
    (∀ v, AllOKA p cfg ryu v →
      ∃ w, Value.approxEq (fold p cfg.opts v) w ∧ ReadsAs p cfg ryu v w) ∧
    (∀ xs, AllOKASeq p cfg ryu xs → ∃ ws, Value.approxEqList (foldList p cfg.opts xs) ws ∧
      ∀ first, ReadsSeq cfg (vclose p) first (flatten (emitsSeq p ryu first xs)) ws
        (nestingSeqP p xs)) :=
  reads_rel p cfg ryu hb (structural_approx p cfg.opts) (hyp_allOKA p cfg ryu)

theorem value_rtA (p : Print.Options) (cfg : Cfg) (ryu : Nat → List UInt8)
    (hb : p.vector = .brackets → cfg.opts.brackets = .vector) (v : Value)
    (h : AllOKA p cfg ryu v) :
    ∃ w, Value.approxEq (fold p cfg.opts v) w ∧ ValueRTW p cfg ryu v w := by
  obtain ⟨w, r, A⟩ := (struct_rtA p cfg ryu hb).1 v h
  exact ⟨w, r, fun s rest fuel hf => A.value.2 s rest fuel (.inr hf)⟩

theorem tail_rtA (p : Print.Options) (cfg : Cfg) (ryu : Nat → List UInt8)
    (hb : p.vector = .brackets → cfg.opts.brackets = .vector) :
    ∀ d : Value, AllOKA p cfg ryu d →
      ∃ w, Value.approxEq (fold p cfg.opts d) w ∧ TailRTW p cfg ryu d w := by
  intro d h
  obtain ⟨w, r, A⟩ := (struct_rtA p cfg ryu hb).1 d h
  exact ⟨w, r, A.tail.2⟩

theorem seq_rtA (p : Print.Options) (cfg : Cfg) (ryu : Nat → List UInt8)
    (hb : p.vector = .brackets → cfg.opts.brackets = .vector) :
    ∀ (first : Bool) (xs : List Value), AllOKASeq p cfg ryu xs →
      ∃ ws, Value.approxEqList (foldList p cfg.opts xs) ws ∧ SeqRTW p cfg ryu first xs ws := by
  intro first xs h
  obtain ⟨ws, hw, hS⟩ := (struct_rtA p cfg ryu hb).2 xs h
  exact ⟨ws, hw, (hS first).2⟩

theorem text_headW (p : Print.Options) (cfg : Cfg) (ryu : Nat → List UInt8) (v : Value)
    (h : FullRT.AllLeaves (AtomOKW p cfg ryu) v) : ElemHead (text p ryu v) :=
  text_head_of_leaf p ryu v fun h1 h2 h3 =>
    ((FullRT.allLeaves_leaf _ v h1 h2 h3).mp h).2.2.2.1

/-- when every leaf has an `ElemHead` so has every text, the cars' included -/
theorem allOKA_of_leaves (p : Print.Options) (cfg : Cfg) (ryu : Nat → List UInt8) :
    ∀ v, FullRT.AllLeaves (AtomOKW p cfg ryu) v →
      AllOKA p cfg ryu v ∧ ElemHead (text p ryu v) := by
  refine fun v h => ⟨?_, text_headW p cfg ryu v h⟩
  revert v
  refine (value_induction2 (S := fun xs => FullRT.AllLeavesSeq (AtomOKW p cfg ryu) xs →
    AllOKASeq p cfg ryu xs) ?_ ?_ ?_ ?_ ?_ ?_).1
  · intro a d iha ihd h
    simp only [FullRT.AllLeaves] at h
    exact ⟨iha h.1, text_headW p cfg ryu a h.1, ihd h.2⟩
  · intro xs ih h
    simp only [FullRT.AllLeaves] at h
    exact ih h
  · intro _; trivial
  · intro v h1 h2 h3 h
    exact (allOKA_leaf ⟨h1, h2, h3⟩).mpr
      (atomOKA_of_W ((FullRT.allLeaves_leaf _ v h1 h2 h3).mp h))
  · intro _; trivial
  · intro x xs ihx ihs h
    simp only [FullRT.AllLeavesSeq] at h
    exact ⟨ihx h.1, ihs h.2⟩

/-- the round trip in the terms of `Reads.lean`, for the theorems about whole inputs -/
theorem readsAs_approx (p : Print.Options) (cfg : Cfg) (ryu : Nat → List UInt8)
    (hb : p.vector = .brackets → cfg.opts.brackets = .vector) (v : Value)
    (h : FullRT.AllLeaves (AtomOKW p cfg ryu) v) :
    ∃ w, Value.approxEq (fold p cfg.opts v) w ∧ ReadsAs p cfg ryu v w :=
  (struct_rtA p cfg ryu hb).1 v (allOKA_of_leaves p cfg ryu v h).1

theorem value_rtW (p : Print.Options) (cfg : Cfg) (ryu : Nat → List UInt8)
    (hb : p.vector = .brackets → cfg.opts.brackets = .vector) (v : Value)
    (h : FullRT.AllLeaves (AtomOKW p cfg ryu) v) :
    ∃ w, Value.approxEq (fold p cfg.opts v) w ∧ ValueRTW p cfg ryu v w :=
  value_rtA p cfg ryu hb v (allOKA_of_leaves p cfg ryu v h).1

theorem tail_rtW (p : Print.Options) (cfg : Cfg) (ryu : Nat → List UInt8)
    (hb : p.vector = .brackets → cfg.opts.brackets = .vector) :
    ∀ d : Value, FullRT.AllLeaves (AtomOKW p cfg ryu) d →
      ∃ w, Value.approxEq (fold p cfg.opts d) w ∧ TailRTW p cfg ryu d w :=
  fun d h => tail_rtA p cfg ryu hb d (allOKA_of_leaves p cfg ryu d h).1

theorem seq_rtW (p : Print.Options) (cfg : Cfg) (ryu : Nat → List UInt8)
    (hb : p.vector = .brackets → cfg.opts.brackets = .vector) :
    ∀ (first : Bool) (xs : List Value), FullRT.AllLeavesSeq (AtomOKW p cfg ryu) xs →
      ∃ ws, Value.approxEqList (foldList p cfg.opts xs) ws ∧ SeqRTW p cfg ryu first xs ws :=
  fun first xs h => seq_rtA p cfg ryu hb first xs (allOKA_of_leaves p cfg ryu (.vector xs) h).1

/-- A finite float with `RyuSpecOnly` is a good leaf for the relational
    structure theorem under every printer / parser pair. -/
theorem atomOKW_float (p : Print.Options) (cfg : Cfg) (ryu : Nat → List UInt8) (b : Nat)
    (h : RyuSpecOnly cfg ryu b) : AtomOKW p cfg ryu (.number (.flt b)) := by
  obtain ⟨b', hcl, _, htok⟩ := atomRT_float_approx cfg ryu b h
  refine ⟨rfl, rfl, by simp, by rw [FullRT.atomTextP_flt]; exact float_head cfg ryu b h,
    .number (.flt b'), ?_, ?_⟩
  · have : fold p cfg.opts (.number (.flt b)) = .number (.flt b) := by simp [fold]
    rw [this]; simp only [Value.approxEq]; exact ⟨b', rfl, Or.inr hcl⟩
  · obtain ⟨-, -, d, hspec, -⟩ := h
    exact fun s rest fuel hf hg hr hfu _ =>
      FullRT.ryuSpec_runs p cfg ryu b b' hspec htok s rest fuel hf hg hr hfu

#print axioms value_rtA
#print axioms value_rtW
#print axioms atomOKW_float

end FloatApprox
end Lexpr
