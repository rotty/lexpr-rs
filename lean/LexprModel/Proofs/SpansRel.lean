/-
  Positions do not depend on the kind of source.

  `Same s1 s2`: two parser states with the same unread input and the same (line, column); mode,
  `peeked`, `faulty` and depth may differ.  `Rel m`: run from `Same` states, *if both runs succeed*
  they return the same value and end in `Same` states.  Every function of the model is `Rel` (the
  lexer by `Rel.of_held`, the parser proper and the entry points by `Rel2.plogic`); the
  sources differ only in the position attached to some errors (`peek_position`), in UTF-8
  validation (`&str` skips it: an error on one side only) and in the `peeked` flag.
-/
import LexprModel.Proofs.SpansInv
import LexprModel.Proofs.Primitives
namespace Lexpr
namespace Parse
namespace Spans
open Progress

/-- same unread input and same position -/
def Same (s1 s2 : St) : Prop :=
  s1.rd.rest = s2.rd.rest ∧ s1.rd.line = s2.rd.line ∧ s1.rd.col = s2.rd.col

theorem Same.position {s1 s2 : St} (h : Same s1 s2) : s1.rd.position = s2.rd.position := by
  unfold Rd.position; rw [h.2.1, h.2.2]

theorem Same.refl (s : St) : Same s s := ⟨rfl, rfl, rfl⟩

/-- relational triple on successful runs -/
def RH {α β : Type} (Pre : St → St → Prop) (m : P α) (m' : P β)
    (Post : α → St → β → St → Prop) : Prop :=
  ∀ s1 s2, Pre s1 s2 → ∀ a s1' b s2', m s1 = .ok a s1' → m' s2 = .ok b s2' → Post a s1' b s2'

/-- two programs that agree on `Same` states whenever both succeed -/
def Rel2 {α : Type} (m m' : P α) : Prop := RH Same m m' (fun a s1 b s2 => a = b ∧ Same s1 s2)

def Rel {α : Type} (m : P α) : Prop := Rel2 m m

def NeverOk {α : Type} (m : P α) : Prop := ∀ s a s', m s ≠ .ok a s'

section rules
variable {α β : Type}

theorem Rel2.bind {m m' : P α} {f f' : α → P β} (hm : Rel2 m m') (hf : ∀ a, Rel2 (f a) (f' a)) :
    Rel2 (m >>= f) (m' >>= f') := by
  intro s1 s2 hs b1 t1 b2 t2 h1 h2
  obtain ⟨a1, u1, hm1, hf1⟩ := bind_ok h1
  obtain ⟨a2, u2, hm2, hf2⟩ := bind_ok h2
  obtain ⟨rfl, hu⟩ := hm s1 s2 hs _ _ _ _ hm1 hm2
  exact hf a1 u1 u2 hu _ _ _ _ hf1 hf2

theorem Rel.bind {m : P α} {f : α → P β} (hm : Rel m) (hf : ∀ a, Rel (f a)) : Rel (m >>= f) :=
  Rel2.bind hm hf

theorem Rel.pure {a : α} : Rel (Pure.pure a : P α) := by
  intro s1 s2 hs b1 t1 b2 t2 h1 h2
  cases h1; cases h2
  exact ⟨rfl, hs⟩

theorem Rel.of_neverOk {m : P α} (h : NeverOk m) : Rel m :=
  fun s1 _ _ a t1 _ _ h1 _ => absurd h1 (h s1 a t1)

theorem NeverOk.errAt {c : Code} : NeverOk (errAt c : P α) := fun _ _ _ h => by cases h
theorem NeverOk.peekErr {c : Code} : NeverOk (peekErr c : P α) := fun _ _ _ h => by cases h
theorem NeverOk.panicAt {p : Site} : NeverOk (panicAt p : P α) := fun _ _ _ h => by cases h
theorem NeverOk.outOfFuel : NeverOk (outOfFuel : P α) := fun _ _ _ h => by cases h
theorem NeverOk.liftErr {e : Err} : NeverOk (liftExcept (.error e) : P α) :=
  fun _ _ _ h => by cases h
theorem NeverOk.rawErr {e : Err} : NeverOk (fun s' => Res.err e s' : P α) :=
  fun _ _ _ h => by cases h

theorem NeverOk.bind {m : P α} {f : α → P β} (hf : ∀ a, NeverOk (f a)) : NeverOk (m >>= f) := by
  intro s b s' h
  obtain ⟨a, s1, _, hf1⟩ := bind_ok h
  exact hf a s1 b s' hf1

theorem NeverOk.ite {c : Prop} [Decidable c] {A B : P α} (hA : NeverOk A) (hB : NeverOk B) :
    NeverOk (if c then A else B) := by
  split
  · exact hA
  · exact hB

theorem Rel.errAt {c : Code} : Rel (errAt c : P α) := Rel.of_neverOk NeverOk.errAt
theorem Rel.peekErr {c : Code} : Rel (peekErr c : P α) := Rel.of_neverOk NeverOk.peekErr
theorem Rel.panicAt {p : Site} : Rel (panicAt p : P α) := Rel.of_neverOk NeverOk.panicAt
theorem Rel.outOfFuel : Rel (outOfFuel : P α) := Rel.of_neverOk NeverOk.outOfFuel
theorem Rel.rawErr {e : Err} : Rel (fun s' => Res.err e s' : P α) :=
  Rel.of_neverOk NeverOk.rawErr
theorem Rel.liftExcept {r : Except Err α} : Rel (liftExcept r) := by
  cases r with
  | ok a => exact Rel.pure
  | error e => exact Rel.of_neverOk NeverOk.liftErr

theorem Rel.reader {g : St → α} (hg : ∀ s1 s2, Same s1 s2 → g s1 = g s2) :
    Rel (fun s => Res.ok (g s) s : P α) := by
  intro s1 s2 hs b1 t1 b2 t2 h1 h2
  cases h1; cases h2
  exact ⟨hg s1 s2 hs, hs⟩

theorem Rel.getRest : Rel getRest := Rel.reader fun _ _ h => h.1
theorem Rel.getPos : Rel getPos := Rel.reader fun _ _ h => h.position

theorem consume_same (n : Nat) : ∀ rd1 rd2 : Rd,
    rd1.rest = rd2.rest → rd1.line = rd2.line → rd1.col = rd2.col →
    (rd1.consume n).rest = (rd2.consume n).rest ∧ (rd1.consume n).line = (rd2.consume n).line ∧
      (rd1.consume n).col = (rd2.consume n).col := by
  intro rd1 rd2 h1 h2 h3
  rw [Rd.consume_congr h1 h2 h3 n]
  exact ⟨rfl, rfl, rfl⟩

theorem Same.consume {s1 s2 : St} (h : Same s1 s2) (n : Nat) :
    Same { s1 with rd := s1.rd.consume n } { s2 with rd := s2.rd.consume n } :=
  consume_same n _ _ h.1 h.2.1 h.2.2

theorem Rel.consumeN {n : Nat} : Rel (consumeN n) := by
  intro s1 s2 hs b1 t1 b2 t2 h1 h2
  cases h1; cases h2
  exact ⟨rfl, hs.consume n⟩

theorem Rel.peek : Rel peek := by
  intro s1 s2 hs b1 t1 b2 t2 h1 h2
  unfold Parse.peek at h1 h2
  rw [← hs.1] at h2
  cases hr : s1.rd.rest with
  | nil =>
    simp only [hr] at h1 h2
    split at h1
    · cases h1
    · split at h2
      · cases h2
      · cases h1; cases h2; exact ⟨rfl, hs⟩
  | cons b bs =>
    simp only [hr] at h1 h2
    cases h1; cases h2
    exact ⟨rfl, hr.symm.trans hs.1, hs.2.1, hs.2.2⟩

theorem Rel.next : Rel next := by
  intro s1 s2 hs b1 t1 b2 t2 h1 h2
  unfold Parse.next at h1 h2
  rw [← hs.1] at h2
  cases hr : s1.rd.rest with
  | nil =>
    simp only [hr] at h1 h2
    split at h1
    · cases h1
    · split at h2
      · cases h2
      · cases h1; cases h2; exact ⟨rfl, hs⟩
  | cons b bs =>
    simp only [hr] at h1 h2
    cases h1; cases h2
    exact ⟨rfl, hs.consume 1⟩

theorem Rel.discard : Rel discard := by
  intro s1 s2 hs b1 t1 b2 t2 h1 h2
  unfold Parse.discard at h1 h2
  rw [← hs.1] at h2
  cases hr : s1.rd.rest with
  | nil => simp only [hr] at h1; cases h1
  | cons b bs =>
    simp only [hr] at h1 h2
    cases h1; cases h2
    exact ⟨rfl, hs.consume 1⟩

theorem Rel.enter : Rel enter := by
  intro s1 s2 hs b1 t1 b2 t2 h1 h2
  unfold Parse.enter at h1 h2
  split at h1
  · cases h1
  · split at h1
    · cases h1
    · split at h2
      · cases h2
      · split at h2
        · cases h2
        · cases h1; cases h2; exact ⟨rfl, hs⟩

theorem Rel.leave : Rel leave := by
  intro s1 s2 hs b1 t1 b2 t2 h1 h2
  cases h1; cases h2
  exact ⟨rfl, hs⟩

/-- `attempt m` followed by a continuation that re-raises a captured error -/
theorem Rel2.bind_attempt {m m' : P α} {f f' : Except Err α → P β} (hm : Rel2 m m')
    (hok : ∀ a, Rel2 (f (.ok a)) (f' (.ok a))) (herr : ∀ e, NeverOk (f (.error e)))
    (herr' : ∀ e, NeverOk (f' (.error e))) : Rel2 (attempt m >>= f) (attempt m' >>= f') := by
  intro s1 s2 hs b1 t1 b2 t2 h1 h2
  obtain ⟨r1, u1, hm1, hf1⟩ := bind_ok h1
  obtain ⟨r2, u2, hm2, hf2⟩ := bind_ok h2
  rcases attempt_ok hm1 with ⟨a1, rfl, hk1⟩ | ⟨e1, rfl, _⟩
  · rcases attempt_ok hm2 with ⟨a2, rfl, hk2⟩ | ⟨e2, rfl, _⟩
    · obtain ⟨rfl, hu⟩ := hm s1 s2 hs _ _ _ _ hk1 hk2
      exact hok a1 u1 u2 hu _ _ _ _ hf1 hf2
    · exact absurd hf2 (herr' e2 _ _ _)
  · exact absurd hf1 (herr e1 _ _ _)

/-- the mode is read: the continuations for any two modes must agree -/
theorem Rel.bind_getMode {f : Mode → P β} (hf : ∀ m1 m2, Rel2 (f m1) (f m2)) :
    Rel (getMode >>= f) := by
  intro s1 s2 hs b1 t1 b2 t2 h1 h2
  exact hf s1.rd.mode s2.rd.mode s1 s2 hs _ _ _ _ h1 h2

end rules

theorem symLen_mode (m : Mode) (l : List UInt8) : symLen m l = symLen .slice l :=
  Lexpr.Parse.symLen_mode m .slice l

theorem Rel.scan {g : List UInt8 → Nat} : Rel (PrefixDet.scan g) :=
  show Rel (Parse.getRest >>= fun r => Parse.consumeN (g r) >>= fun _ => Pure.pure (r.take (g r))) from
    .bind .getRest fun _ => .bind .consumeN fun _ => .pure

/-! ### the two places where the mode is read

Whatever the mode, `parseSymbolBytes` and `finishStr` end in a cascade of tests whose every arm
returns the bytes read or raises an error: so two sources that both succeed return the same. -/

def Returns {α : Type} (a : α) (m : P α) : Prop := ∀ s b s', m s = .ok b s' → b = a ∧ s' = s

theorem Returns.pure {α : Type} {a : α} : Returns a (Pure.pure a : P α) :=
  fun _ _ _ h => by cases h; exact ⟨rfl, rfl⟩

theorem Returns.of_neverOk {α : Type} {a : α} {m : P α} (h : NeverOk m) : Returns a m :=
  fun s b s' hm => absurd hm (h s b s')

theorem Returns.ite {α : Type} {a : α} {c : Prop} [Decidable c] {A B : P α}
    (hA : Returns a A) (hB : Returns a B) : Returns a (if c then A else B) := by
  split
  · exact hA
  · exact hB

theorem Rel2.of_returns {α : Type} {a : α} {m m' : P α} (h : Returns a m) (h' : Returns a m') :
    Rel2 m m' := by
  intro s1 s2 hs b1 t1 b2 t2 h1 h2
  obtain ⟨rfl, rfl⟩ := h _ _ _ h1
  obtain ⟨rfl, rfl⟩ := h' _ _ _ h2
  exact ⟨rfl, hs⟩

/-- a cascade of tests with arms `pure a` or `errAt _` -/
macro "returns" : tactic => `(tactic| repeat' first
  | exact Returns.pure
  | exact Returns.of_neverOk NeverOk.errAt
  | refine Returns.ite ?_ ?_)

theorem parseSymbolBytes_rel {scratch : List UInt8} : Rel (parseSymbolBytes scratch) := by
  rw [PrefixDet.parseSymbolBytes_eq]
  refine Rel.bind_getMode fun m1 m2 => ?_
  rw [funext (symLen_mode m1), funext (symLen_mode m2)]
  refine Rel2.bind Rel.scan fun tk => Rel2.bind Rel.peek fun nxt => ?_
  exact Rel2.of_returns (a := scratch ++ tk) (by returns) (by returns)

theorem finishStr_rel {c : Bool} {bs : List UInt8} : Rel (finishStr c bs) := by
  unfold finishStr
  exact Rel.bind_getMode fun m1 m2 => Rel2.of_returns (a := bs) (by returns) (by returns)

/-- `Rel2` holds of the leaves of the lexer and is closed under `>>=`. -/
theorem Rel2.logic : Built.Logic .same Rel2 where
  prim h := by
    cases h with
    | pure a => exact Rel.pure
    | errAt c => exact Rel.errAt
    | peekErr c => exact Rel.peekErr
    | peek => exact Rel.peek
    | next => exact Rel.next
    | discard => exact Rel.discard
    | panicAt p => exact Rel.panicAt
    | outOfFuel => exact Rel.outOfFuel
    | skipWs => exact Rel.scan
    | skipDigits => exact Rel.scan
    | charName => exact Rel.scan
    | finishChecked bytes => exact finishStr_rel
    -- the whole state is read only here, on a path that ends in an error
    | badByte => exact Rel.of_neverOk (NeverOk.bind fun _ => NeverOk.bind fun _ => NeverOk.rawErr)
    | parseSymbolBytes scratch _ => exact parseSymbolBytes_rel
    | finishUnchecked bytes _ => exact finishStr_rel
  bind := Rel2.bind
  outL h := h.elim
  outR h := h.elim

theorem Rel.of_held {c : Bool} {α : Type} {m : P α} (h : Held .same true c m m) : Rel m :=
  Rel2.logic.of_held h

theorem nextOrNull_rel : Rel nextOrNull := .of_held .nextOrNull
theorem endSeq_rel {close : UInt8} : Rel (endSeq close) := .of_held (.endSeq close)

/-- ... and of the parser proper: a run that throws a captured error again does not succeed. -/
theorem Rel2.plogic : Built.PLogic .same Rel2 where
  toLogic := Rel2.logic
  getPos := Rel.getPos
  tokenFuel h := fun s1 s2 hs => h _ _ (by rw [hs.1]; exact .refl _) s1 s2 hs
  apiFuel h := fun s1 s2 hs => h _ _ (by rw [hs.1]; exact .refl _) s1 s2 hs
  deeperSeq _ _ _ _ _ hm hk :=
    Rel2.bind Rel.enter fun _ => Rel2.bind_attempt hm
      (fun a => Rel2.bind Rel.leave fun _ => Rel2.bind_attempt endSeq_rel (fun _ => hk a)
        (fun _ => NeverOk.liftErr) fun _ => NeverOk.liftErr)
      (fun _ => NeverOk.bind fun _ => NeverOk.bind fun _ => NeverOk.liftErr)
      fun _ => NeverOk.bind fun _ => NeverOk.bind fun _ => NeverOk.liftErr
  deeper hm hk :=
    Rel2.bind Rel.enter fun _ => Rel2.bind_attempt hm (fun a => Rel2.bind Rel.leave fun _ => hk a)
      (fun _ => NeverOk.bind fun _ => NeverOk.liftErr) fun _ => NeverOk.bind fun _ => NeverOk.liftErr

theorem value_rels (cfg : Cfg) : ∀ fuel : Nat,
    Rel (nextValue cfg fuel) ∧
    (∀ term acc, Rel (parseList cfg fuel term acc)) ∧
    (∀ term acc, Rel (parseVector cfg fuel term acc)) :=
  fun f => Rel2.plogic.value_all trivial cfg f f (.refl f)

theorem datum_rels (cfg : Cfg) : ∀ fuel : Nat,
    Rel (nextDatum cfg fuel) ∧
    (∀ term acc ms, Rel (parseListMeta cfg fuel term acc ms)) ∧
    (∀ term acc ms, Rel (parseVectorMeta cfg fuel term acc ms)) :=
  fun f => Rel2.plogic.datum_all trivial cfg f f (.refl f)

theorem nextValueTop_rel {cfg : Cfg} : Rel (nextValueTop cfg) := Rel2.plogic.nextValueTop trivial cfg
theorem nextDatumTop_rel {cfg : Cfg} : Rel (nextDatumTop cfg) := Rel2.plogic.nextDatumTop trivial cfg
theorem expectValue_rel {cfg : Cfg} : Rel (expectValue cfg) := Rel2.plogic.expectValue trivial cfg
theorem expectDatum_rel {cfg : Cfg} : Rel (expectDatum cfg) := Rel2.plogic.expectDatum trivial cfg
theorem fromTrait_rel {cfg : Cfg} : Rel (fromTrait cfg) := Rel2.plogic.fromTrait trivial cfg
theorem fromTraitDatum_rel {cfg : Cfg} : Rel (fromTraitDatum cfg) :=
  Rel2.plogic.fromTraitDatum trivial cfg

end Spans
end Parse
end Lexpr
