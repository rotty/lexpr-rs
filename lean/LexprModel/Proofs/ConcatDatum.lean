/-
  ConcatDatum — C12, concatenation part, for the datum API: `Parser::next_datum` and
  `datum_iter().next()` on the concatenation of printed values return datums whose values are
  exactly those values (folded), then end of input.  From `Concat.lean` by the simulation of the
  datum parser by the value parser (`Op.toValue`, `runHistory_toValue`, `iterate_toValue` of
  `DatumSim.lean`).
-/
import LexprModel.Proofs.Concat
import LexprModel.Proofs.ConcatDatumCopy
namespace Lexpr
namespace Parse
namespace Concat
open Print Spec ListRT DV

/-- the two ways of asking a parser for the next datum -/
def DatumOp (op : Op) : Prop := op = .nextDatum ∨ op = .datumIterNext

theorem valueOp_toValue (op : Op) (h : DatumOp op) : ValueOp op.toValue := by
  rcases h with rfl | rfl
  · exact .inl rfl
  · exact .inr (.inl rfl)

theorem stepOp_datum_noValue (cfg : Cfg) (op : Op) (h : DatumOp op) (s : St) (v : Value) :
    (stepOp cfg op s).1 ≠ .value v := by
  rcases h with rfl | rfl <;> simp only [stepOp] <;>
    (cases nextDatumTop cfg s with
     | ok a s' => cases a <;> simp
     | err e s' => simp
     | panic p => simp
     | fuel => simp)

theorem runHistory_noValue (cfg : Cfg) (op : Op) (h : DatumOp op) :
    ∀ (n : Nat) (s : St), ∀ it ∈ runHistory cfg (List.replicate n op) s, ∀ v, it ≠ .value v
  | 0, _, it, hit, _ => by simp [runHistory] at hit
  | n + 1, s, it, hit, v => by
    have h0 := stepOp_datum_noValue cfg op h s
    simp only [List.replicate_succ, runHistory] at hit
    rcases hs : stepOp cfg op s with ⟨i, _ | s'⟩
    · rw [hs] at hit h0
      simp only [List.mem_cons, List.not_mem_nil, or_false] at hit
      subst hit; exact h0 v
    · rw [hs] at hit h0
      rcases List.mem_cons.1 hit with rfl | hit
      · exact h0 v
      · exact runHistory_noValue cfg op h n s' it hit v

theorem toValue_replicate_none : ∀ (k : Nat) (l : List Item),
    l.map Item.toValue = List.replicate k .none_ → l = List.replicate k .none_
  | 0, l, h => by simpa using h
  | k + 1, [], h => by simp [List.replicate_succ] at h
  | k + 1, i :: l, h => by
    simp only [List.map_cons, List.replicate_succ, List.cons.injEq] at h
    rw [(Item.toValue_eq_none i).1 h.1, toValue_replicate_none k l h.2, List.replicate_succ]

/-- `Item.toValue` sends a datum and its bare value to the same item: hence the second hypothesis -/
theorem datums_of_toValue : ∀ (vs : List Value) (k : Nat) (l : List Item),
    l.map Item.toValue = vs.map Item.value ++ List.replicate k .none_ →
    (∀ it ∈ l, ∀ v, it ≠ .value v) →
    ∃ ds : List Datum, l = ds.map Item.datum ++ List.replicate k .none_ ∧
      ds.map Datum.value = vs
  | [], k, l, h, _ => ⟨[], by simpa using toValue_replicate_none k l (by simpa using h), rfl⟩
  | v :: vs, k, [], h, _ => by simp at h
  | v :: vs, k, i :: l, h, hnv => by
    simp only [List.map_cons, List.cons_append, List.cons.injEq] at h
    obtain ⟨ds, hl, hv⟩ := datums_of_toValue vs k l h.2 (fun it hit => hnv it (by simp [hit]))
    have hi := hnv i (by simp)
    cases i with
    | datum d =>
      have : d.value = v := by simpa [Item.toValue] using h.1
      exact ⟨d :: ds, by simp [hl], by simp [this, hv]⟩
    | value w => exact absurd rfl (hi w)
    | _ => simp [Item.toValue] at h

/-- **C12_concat_datum.**  As `C12_concat`, for `next_datum` / `datum_iter().next()`: iterating
    to the end of input gives datums `d1 … dn` whose values are `fold p cfg.opts v1`, …,
    `fold p cfg.opts vn`, then the end mark and nothing else; `items.length + k + 1` calls give
    the same datums and `k + 1` end marks. -/
theorem C12_concat_datum (p : Print.Options) (cfg : Cfg) (ryu : Nat → List UInt8)
    (hc : Compatible p cfg.opts = true) (op : Op) (hop : DatumOp op)
    (items : List (List UInt8 × Value)) (tEnd : List UInt8)
    (hall : ∀ it ∈ items, AllPlainFor p cfg it.2 ∧ nestingP p it.2 ≤ 127)
    (hs : SepsOK p ryu true items) (hE : TriviaEnd tEnd) :
    let s0 := initSt .slice (concatText p ryu items ++ tEnd)
    (∀ cap, items.length + 1 ≤ cap →
      ∃ ds : List Datum, iterate cfg op cap s0 = ds.map Item.datum ++ [.none_] ∧
        ds.map Datum.value = items.map fun it => fold p cfg.opts it.2) ∧
    (∀ k, ∃ ds : List Datum,
      runHistory cfg (List.replicate (items.length + (k + 1)) op) s0 =
        ds.map Item.datum ++ List.replicate (k + 1) .none_ ∧
      ds.map Datum.value = items.map fun it => fold p cfg.opts it.2) := by
  intro s0
  have h := C12_concat p cfg ryu hc op.toValue (valueOp_toValue op hop) items tEnd hall hs hE
  have hv : valueItems p cfg.opts items =
      (items.map fun it => fold p cfg.opts it.2).map Item.value := by
    simp [valueItems, List.map_map]
  constructor
  · intro cap hcap
    have h1 := h.1 cap hcap
    rw [iterate_toValue, hv] at h1
    exact datums_of_toValue _ 1 _ h1 fun it hit =>
      runHistory_noValue cfg op hop cap s0 it (iterate_subset cfg op cap s0 it hit)
  · intro k
    have h2 := h.2.1 k
    rw [← List.map_replicate (f := Op.toValue), runHistory_toValue, hv] at h2
    exact datums_of_toValue _ (k + 1) _ h2 (runHistory_noValue cfg op hop _ s0)

/-- the instance of `Concat.lean`: ` ;first⏎(a 1)␌"s;x";c⏎⇥foo ; end` through `datum_iter()` -/
example (ryu : Nat → List UInt8) :
    ∃ ds : List Datum,
      iterate cfg0 .datumIterNext 4
        (initSt .slice (concatText Print.Options.default ryu exItems ++ asc " ; end")) =
        ds.map Item.datum ++ [.none_] ∧
      ds.map Datum.value = [.cons (.symbol (asc "a")) (.cons (.number (.pos 1)) .null),
        .string (asc "s;x"), .symbol (asc "foo")] := by
  obtain ⟨ds, h1, h2⟩ := (C12_concat_datum Print.Options.default cfg0 ryu (by decide) .datumIterNext
    (.inr rfl) exItems (asc " ; end") exItems_plain (exItems_seps ryu)
    (triviaEnd_of_triviaEndB _ (by decide))).1 4 (by decide)
  refine ⟨ds, h1, ?_⟩
  rw [h2]
  simp [exItems, cfg0, FullRT.fold_default]

#print axioms C12_concat_datum

end Concat
end Parse
end Lexpr
