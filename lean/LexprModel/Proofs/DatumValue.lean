/-
  C10 — the datum API agrees with the value API.  The simulation itself is DatumSim.lean's
  (`sim_all`); here are `Shaped` (the span tree of a datum mirrors its value), `shaped_all` (every
  datum the parser returns is shaped), the datum accessors on shaped datums, and the C10 statements.
-/
import LexprModel.Proofs.DatumSim
import LexprModel.Proofs.ReaderWalk
namespace Lexpr
namespace Parse

/-- `MapSim` of DatumSim.lean, under the name with which `Sim.outOfFuel` and `Sim.attempt` state it. -/
def Sim (h : α → β) (m : P α) (m' : P β) : Prop := ∀ s, Res.map h (m s) = m' s

theorem Sim.outOfFuel {h : α → β} : Sim h outOfFuel outOfFuel := MapSim.outOfFuel

theorem Sim.attempt {h : α → β} {m : P α} {m' : P β} (hm : Sim h m m') :
    Sim (Except.map h) (attempt m) (attempt m') := MapSim.attempt hm

def SpanInfo.isPrim : SpanInfo → Prop
  | .prim _ => True
  | _ => False

mutual
/-- The span tree mirrors the value tree: a pair carries `.cons` with shaped car and cdr, a
    vector carries `.vec` with as many shaped entries as elements, anything else `.prim`. -/
def Shaped : Value → SpanInfo → Prop
  | .cons a b, i =>
    match i with
    | .cons _ c d => Shaped a c ∧ Shaped b d
    | _ => False
  | .vector xs, i =>
    match i with
    | .vec _ ms => ShapedList xs ms
    | _ => False
  | .nil, i => i.isPrim
  | .null, i => i.isPrim
  | .bool _, i => i.isPrim
  | .number _, i => i.isPrim
  | .char _, i => i.isPrim
  | .string _, i => i.isPrim
  | .symbol _, i => i.isPrim
  | .keyword _, i => i.isPrim
  | .bytes _, i => i.isPrim
/-- element-wise `Shaped`, equal lengths -/
def ShapedList : List Value → List SpanInfo → Prop
  | [], ms => ms = []
  | x :: xs, ms =>
    match ms with
    | m :: ms => Shaped x m ∧ ShapedList xs ms
    | [] => False
end

theorem shapedList_iff (xs : List Value) (ms : List SpanInfo) :
    ShapedList xs ms ↔ xs.length = ms.length ∧ ∀ p ∈ xs.zip ms, Shaped p.1 p.2 := by
  induction xs generalizing ms with
  | nil => cases ms <;> simp [ShapedList]
  | cons x xs ih => cases ms <;> simp [ShapedList, ih] <;> grind

theorem ShapedList.length_eq {xs : List Value} {ms : List SpanInfo} (h : ShapedList xs ms) :
    xs.length = ms.length := ((shapedList_iff xs ms).mp h).1

theorem ShapedList.snoc {xs : List Value} {ms : List SpanInfo} {x : Value} {m : SpanInfo}
    (h : ShapedList xs ms) (hx : Shaped x m) : ShapedList (xs ++ [x]) (ms ++ [m]) := by
  induction xs generalizing ms with
  | nil =>
    cases ms with
    | nil => simpa [ShapedList] using hx
    | cons _ _ => simp [ShapedList] at h
  | cons y ys ih =>
    cases ms with
    | nil => simp [ShapedList] at h
    | cons m' ms' =>
      simp only [ShapedList] at h
      simp only [List.cons_append, ShapedList]
      exact ⟨h.1, ih h.2⟩

theorem Shaped.prim {v : Value} (hc : v.isCons = false) (hv : v.isVector = false) (sp : Span) :
    Shaped v (.prim sp) := by
  cases v <;> simp_all [Shaped, SpanInfo.isPrim, Value.isCons, Value.isVector]

theorem shaped_atom {t : Token} {v : Value} (h : t.atom = some v) (sp : Span) :
    Shaped v (.prim sp) := by
  cases t <;> simp [Token.atom] at h <;> subst h <;> simp [Shaped, SpanInfo.isPrim]

theorem shaped_symbolValue (o : Options) (name : List UInt8) (sp : Span) :
    Shaped (symbolValue o name) (.prim sp) := by
  unfold symbolValue
  split <;> simp [Shaped, SpanInfo.isPrim]

/-- the first cell built by `parse_list_meta` from shaped elements and a shaped tail -/
theorem shaped_buildMeta : ∀ (acc : List Value) (ms : List SpanInfo) (t : Value) (ti : SpanInfo)
    (sp : Span), acc ≠ [] → ShapedList acc ms → Shaped t ti →
    Shaped (Value.append acc t) (.cons sp (buildMeta ms ti).1 (buildMeta ms ti).2)
  | [], _, _, _, _, h, _, _ => absurd rfl h
  | _ :: _, [], _, _, _, _, h, _ => by simp [ShapedList] at h
  | [a], [m], t, ti, sp, _, h, ht => by
    simp only [ShapedList] at h
    simp only [Value.append, buildMeta, Shaped]
    exact ⟨h.1, ht⟩
  | [a], m :: m' :: ms, t, ti, sp, _, h, ht => by
    simp [ShapedList] at h
  | a :: b :: acc, [m], t, ti, sp, _, h, ht => by
    simp [ShapedList] at h
  | a :: b :: acc, m :: m' :: ms, t, ti, sp, _, h, ht => by
    simp only [ShapedList] at h
    have ih := shaped_buildMeta (b :: acc) (m' :: ms) t ti Span.empty (by simp)
      (by simp only [ShapedList]; exact h.2) ht
    simp only [Value.append, buildMeta, Shaped] at ih ⊢
    exact ⟨h.1, ih⟩

theorem Post.trivial {m : P α} : Post (fun _ => True) m := fun _ _ _ _ => True.intro

def ShapedOpt : Option Datum → Prop
  | none => True
  | some d => Shaped d.value d.info

/-- a `parse_list_meta` result: the two infos shape the first cell, whatever its span -/
def ShapedCell : Option (Value × SpanInfo × SpanInfo) → Prop
  | none => True
  | some (v, c, d) => ∀ sp, Shaped v (.cons sp c d)

/-- The accumulators stay `ShapedList` (`ShapedList.snoc`) and the cell a list ends in is shaped
    by `shaped_buildMeta`; atoms, byte vectors and the quotation are read off the definitions. -/
theorem shaped_all (cfg : Cfg) : ∀ fuel : Nat,
    Post ShapedOpt (nextDatum cfg fuel) ∧
    (∀ term acc ms, ShapedList acc ms → Post ShapedCell (parseListMeta cfg fuel term acc ms)) ∧
    (∀ term acc ms, ShapedList acc ms →
      Post (fun r => ShapedList r.1 r.2) (parseVectorMeta cfg fuel term acc ms)) := by
  intro fuel
  induction fuel with
  | zero =>
    refine ⟨?_, ?_, ?_⟩
    · rw [nextDatum]; exact Post.outOfFuel
    · intro term acc ms _; rw [parseListMeta]; exact Post.outOfFuel
    · intro term acc ms _; rw [parseVectorMeta]; exact Post.outOfFuel
  | succ f ih =>
    obtain ⟨ihD, ihL, ihV⟩ := ih
    refine ⟨?_, ?_, ?_⟩
    · rw [nextDatum_succ]
      refine Post.bind_any fun ws => ?_
      cases ws with
      | none => exact Post.pure True.intro
      | some pk =>
        refine Post.bind_any fun start => Post.bind_any fun tf => Post.bind_any fun tok => ?_
        cases tok with
        | byteVecOpen close =>
          exact Post.bind_any fun bs => Post.bind_any fun stop =>
            Post.pure (by simp [ShapedOpt, Shaped, SpanInfo.isPrim])
        | vecOpen close =>
          refine Post.deeperSeq (ihV close [] [] (by simp [ShapedList])) fun r hr =>
            Post.bind_any fun stop => Post.pure ?_
          simpa [ShapedOpt, Shaped] using hr
        | listOpen close =>
          refine Post.deeperSeq (ihL close [] [] (by simp [ShapedList])) fun r hr => ?_
          rcases r with _ | ⟨v, c, d⟩
          · exact Post.bind_any fun stop => Post.pure (by simp [ShapedOpt, Shaped, SpanInfo.isPrim])
          · exact Post.bind_any fun stop => Post.pure (hr _)
        | quotation q =>
          refine Post.bind_any fun tokenEnd => Post.deeper ihD fun od hd => ?_
          cases od with
          | none => exact Post.peekErr _
          | some d =>
            refine Post.pure ?_
            simp only [ShapedOpt] at hd
            simp only [ShapedOpt, Datum.quotation, Value.list, Value.append, Shaped,
              SpanInfo.isPrim, true_and, and_true]
            exact hd
        | _ =>
          dsimp only
          split
          · next v ht => exact Post.bind_any fun _ => Post.pure (shaped_atom ht _)
          · exact Post.panicAt _
    · intro term acc ms hacc
      rw [parseListMeta]
      refine Post.bind_any ?_
      intro ws
      cases ws with
      | none => exact Post.peekErr _
      | some c =>
        dsimp only
        refine Post.ite (fun _ => Post.ite (fun _ => Post.peekErr _) (fun _ => ?_))
          (fun _ => Post.ite (fun _ => ?_) (fun _ => ?_))
        · refine Post.ite (fun _ => Post.pure True.intro) (fun hne => Post.pure ?_)
          intro sp
          have hne' : acc ≠ [] := by simpa using hne
          exact shaped_buildMeta acc ms Value.null _ sp hne' hacc
            (by simp [Shaped, SpanInfo.isPrim])
        · refine Post.bind_any ?_
          intro start
          refine Post.bind_any ?_
          intro _
          refine Post.bind_any ?_
          intro nxt
          refine Post.ite (fun _ => Post.ite (fun _ => ?_) (fun hne => ?_)) (fun _ => ?_)
          · refine Post.bind_any ?_
            intro pk
            cases pk with
            | none => exact Post.peekErr _
            | some _ => exact Post.peekErr _
          · have hne' : acc ≠ [] := by simpa using hne
            refine Post.bind (R := fun d : Datum => Shaped d.value d.info) ?_ ?_
            · refine Post.bind ihD ?_
              intro od hod
              cases od with
              | none => exact Post.peekErr _
              | some d => exact Post.pure hod
            · intro tail htail
              refine Post.bind_any ?_
              intro ws
              cases ws with
              | none => exact Post.peekErr _
              | some c' =>
                refine Post.ite (fun _ => Post.pure ?_) (fun _ => Post.peekErr _)
                intro sp
                exact shaped_buildMeta acc ms tail.value tail.info sp hne' hacc htail
          · refine Post.bind_any ?_
            intro name
            refine Post.bind_any ?_
            intro stop
            exact ihL _ _ _ (ShapedList.snoc hacc (shaped_symbolValue _ _ _))
        · refine Post.bind ihD ?_
          intro od hod
          cases od with
          | none => exact Post.peekErr _
          | some d => exact ihL _ _ _ (ShapedList.snoc hacc hod)
    · intro term acc ms hacc
      rw [parseVectorMeta]
      refine Post.bind_any ?_
      intro ws
      cases ws with
      | none => exact Post.peekErr _
      | some c =>
        dsimp only
        refine Post.ite (fun _ => Post.ite (fun _ => Post.peekErr _) (fun _ => Post.pure hacc))
          (fun _ => ?_)
        refine Post.bind ihD ?_
        intro od hod
        cases od with
        | none => exact Post.peekErr _
        | some d => exact ihV _ _ _ (ShapedList.snoc hacc hod)

def DCursor.forget : DCursor → Value.ListCursor
  | .cons a b _ _ => .cons a b
  | .dot v _ => .dot v
  | .rest v _ => .rest v
  | .exhausted => .exhausted

def DCursor.Good : DCursor → Prop
  | .cons a b cm dm => Shaped a cm ∧ Shaped b dm
  | .dot v m => Shaped v m
  | .rest v m => Shaped v m
  | .exhausted => True

/-- The first `n` results of calling `next` repeatedly; `none` if the `expect` fires. -/
def DCursor.take : Nat → DCursor → Option (List (Option Datum))
  | 0, _ => some []
  | n + 1, c =>
    match c.next with
    | none => none
    | some (x, c') => (DCursor.take n c').map (x :: ·)

theorem DCursor.next_good (c : DCursor) (h : c.Good) :
    ∃ item c', c.next = some (item, c') ∧ c'.Good ∧ ShapedOpt item ∧
      c.forget.next = (item.map Datum.value, c'.forget) := by
  cases c with
  | cons car cdr cm dm =>
    obtain ⟨h1, h2⟩ := h
    cases dm with
    | cons sp c d =>
      cases cdr <;> simp only [Shaped, SpanInfo.isPrim] at h2
      exact ⟨_, _, rfl, h2, h1, rfl⟩
    | prim sp =>
      cases cdr <;> simp only [Shaped, SpanInfo.isPrim] at h2 <;>
        first
        | exact ⟨_, _, rfl, True.intro, h1, rfl⟩
        | exact ⟨_, _, rfl, by simp [DCursor.Good, Shaped, SpanInfo.isPrim], h1, rfl⟩
    | vec sp ms =>
      cases cdr <;> simp only [Shaped, SpanInfo.isPrim] at h2
      exact ⟨_, _, rfl, by simpa [DCursor.Good, Shaped] using h2, h1, rfl⟩
  | dot v m => exact ⟨_, _, rfl, h, True.intro, rfl⟩
  | rest v m => exact ⟨_, _, rfl, True.intro, h, rfl⟩
  | exhausted => exact ⟨_, _, rfl, True.intro, True.intro, rfl⟩

theorem DCursor.take_good (n : Nat) (c : DCursor) (h : c.Good) :
    ∃ l, DCursor.take n c = some l ∧
      l.map (Option.map Datum.value) = Value.ListCursor.take n c.forget ∧
      ∀ x ∈ l, ShapedOpt x := by
  induction n generalizing c with
  | zero => exact ⟨[], rfl, rfl, by simp⟩
  | succ n ih =>
    obtain ⟨item, c', hn, hg, hs, hf⟩ := DCursor.next_good c h
    obtain ⟨l, hl, hm, ha⟩ := ih c' hg
    refine ⟨item :: l, ?_, ?_, ?_⟩
    · simp only [DCursor.take, hn, hl, Option.map]
    · simp only [List.map_cons, Value.ListCursor.take, hf, hm]
    · intro x hx
      rcases List.mem_cons.mp hx with rfl | hx
      · exact hs
      · exact ha x hx

theorem listIter_shaped (d : Datum) (h : Shaped d.value d.info) :
    d.listIter.map DCursor.forget = d.value.listIter ∧ ∀ c, d.listIter = some c → c.Good := by
  rcases d with ⟨v, i⟩
  cases v <;> cases i <;> simp_all [Shaped, SpanInfo.isPrim, Datum.listIter, Value.listIter,
    DCursor.forget, DCursor.Good]

theorem zip_shaped (xs : List Value) (ms : List SpanInfo) (h : ShapedList xs ms) :
    ((xs.zip ms).map fun (v, m) => (⟨v, m⟩ : Datum)).map Datum.value = xs ∧
    ((xs.zip ms).map fun (v, m) => (⟨v, m⟩ : Datum)).map Datum.info = ms ∧
    ∀ e ∈ ((xs.zip ms).map fun (v, m) => (⟨v, m⟩ : Datum)), Shaped e.value e.info := by
  induction xs generalizing ms with
  | nil =>
    cases ms with
    | nil => simp
    | cons _ _ => simp [ShapedList] at h
  | cons x xs ih =>
    cases ms with
    | nil => simp [ShapedList] at h
    | cons m ms =>
      simp only [ShapedList] at h
      obtain ⟨h1, h2, h3⟩ := ih ms h.2
      refine ⟨?_, ?_, ?_⟩
      · simpa using h1
      · simpa using h2
      · intro e he
        simp only [List.zip_cons_cons, List.map_cons, List.mem_cons] at he
        rcases he with rfl | he
        · exact h.1
        · exact h3 e he

theorem post_nextDatumTop (cfg : Cfg) : Post ShapedOpt (nextDatumTop cfg) := by
  unfold nextDatumTop
  exact Post.bind_any (fun f => (shaped_all cfg f).1)

theorem post_expectDatum (cfg : Cfg) :
    Post (fun d : Datum => Shaped d.value d.info) (expectDatum cfg) := by
  unfold expectDatum
  refine Post.bind (post_nextDatumTop cfg) ?_
  intro od hod
  cases od with
  | none => exact Post.peekErr _
  | some d => exact Post.pure hod

theorem post_fromTraitDatum (cfg : Cfg) :
    Post (fun d : Datum => Shaped d.value d.info) (fromTraitDatum cfg) := by
  unfold fromTraitDatum
  refine Post.bind (post_expectDatum cfg) ?_
  intro d hd
  exact Post.bind_any (fun _ => Post.pure hd)

/-- a datum item is what `next_datum` or `expect_datum` returned -/
theorem stepOp_shaped (cfg : Cfg) (op : Op) (s : St) (d : Datum)
    (h : (stepOp cfg op s).1 = .datum d) : Shaped d.value d.info := by
  rw [stepOp_eq] at h
  cases hr : op.run cfg s with
  | ok a s' =>
    rw [hr] at h
    cases op
    case nextDatum | datumIterNext =>
      cases a <;> cases h
      exact post_nextDatumTop cfg s _ _ hr
    case expectDatum => cases h; exact post_expectDatum cfg s _ _ hr
    case expectValue | expectEnd => cases h
    all_goals cases a <;> cases h
  | _ => rw [hr] at h; cases h

theorem runHistory_shaped (cfg : Cfg) (ops : List Op) (s : St) (d : Datum)
    (h : Item.datum d ∈ runHistory cfg ops s) : Shaped d.value d.info :=
  runHistory_forall (I := fun _ => True) (Q := fun it => ∀ d, it = .datum d → Shaped d.value d.info)
    (fun op s _ => ⟨fun d => stepOp_shaped cfg op s d, fun _ _ => trivial⟩) ops s trivial _ h d rfl

/-- `impl From<Datum> for Value` (`Value::from(datum)`, `datum.into()`): drops the spans. -/
def Datum.intoValue (d : Datum) : Value := d.value

/-- a configuration for the examples (the two tables are not consulted by them) -/
def exCfg : Cfg := { opts := Options.default, isAlphabetic := fun _ => false, pow10 := fun _ => 0 }

/-- the datum the model returns for `(a b . c)` (`nextDatumTop exCfg` on the `&str` source) -/
def exDotted : Datum :=
  { value := .cons (.symbol [97]) (.cons (.symbol [98]) (.symbol [99])),
    info := .cons ⟨⟨1, 0⟩, ⟨1, 9⟩⟩ (.prim ⟨⟨1, 1⟩, ⟨1, 2⟩⟩)
      (.cons Span.empty (.prim ⟨⟨1, 3⟩, ⟨1, 4⟩⟩) (.prim ⟨⟨1, 7⟩, ⟨1, 8⟩⟩)) }

/-- the datum the model returns for `(a #(b) 'c)` -/
def exMixed : Datum :=
  { value := Value.list [.symbol [97], .vector [.symbol [98]],
      Value.list [.symbol Quote.quote.name, .symbol [99]]],
    info := .cons ⟨⟨1, 0⟩, ⟨1, 11⟩⟩ (.prim ⟨⟨1, 1⟩, ⟨1, 2⟩⟩)
      (.cons Span.empty (.vec ⟨⟨1, 3⟩, ⟨1, 7⟩⟩ [.prim ⟨⟨1, 5⟩, ⟨1, 6⟩⟩])
        (.cons Span.empty
          (.cons ⟨⟨1, 8⟩, ⟨1, 10⟩⟩ (.prim ⟨⟨1, 8⟩, ⟨1, 9⟩⟩)
            (.cons ⟨⟨1, 9⟩, ⟨1, 10⟩⟩ (.prim ⟨⟨1, 9⟩, ⟨1, 10⟩⟩) (.prim ⟨⟨1, 10⟩, ⟨1, 10⟩⟩)))
          (.prim Span.empty))) }

theorem exDotted_shaped : Shaped exDotted.value exDotted.info := by
  simp [exDotted, Shaped, SpanInfo.isPrim]

theorem exMixed_shaped : Shaped exMixed.value exMixed.info := by
  simp [exMixed, Value.list, Value.append, Shaped, ShapedList, SpanInfo.isPrim]

/-- **C10_sim.** `next_datum` and `next_value` run in lock step: from every configuration,
    fuel and parser state, forgetting the spans of the datum result gives exactly the result of
    `next_value` — the same value or end-of-input, or the same error (same code and same
    position) — with the same residual state (reader and depth), or the same panic site, or
    both run out of fuel. -/
theorem C10_sim (cfg : Cfg) (fuel : Nat) (s : St) :
    Res.map (Option.map Datum.value) (nextDatum cfg fuel s) = nextValue cfg fuel s :=
  (sim_all cfg fuel).1 s

/-- **C10_sim_list.** `parse_list_meta` against `parse_list`, for every accumulator: `None`
    stands for the empty list (`Value::Null` = `Value::list([])`), `Some((v, _, _))` for `v`
    (which is `Value::list(acc)` or `Value::append(acc, tail)`). -/
theorem C10_sim_list (cfg : Cfg) (fuel : Nat) (term : UInt8) (acc : List Value)
    (ms : List SpanInfo) (s : St) :
    Res.map listVal (parseListMeta cfg fuel term acc ms s) = parseList cfg fuel term acc s :=
  (sim_all cfg fuel).2.1 term acc ms s

/-- **C10_sim_vector.** `parse_vector_meta` against `parse_vector`, for every accumulator. -/
theorem C10_sim_vector (cfg : Cfg) (fuel : Nat) (term : UInt8) (acc : List Value)
    (ms : List SpanInfo) (s : St) :
    Res.map Prod.fst (parseVectorMeta cfg fuel term acc ms s) = parseVector cfg fuel term acc s :=
  (sim_all cfg fuel).2.2 term acc ms s

/-- **C10_sim_api.** The public entry points agree in the same sense: `Parser::next_datum` /
    `next_value`, `expect_datum` / `expect_value`, `datum::from_*` / `from_*`. -/
theorem C10_sim_api (cfg : Cfg) (s : St) :
    Res.map (Option.map Datum.value) (nextDatumTop cfg s) = nextValueTop cfg s ∧
    Res.map Datum.value (expectDatum cfg s) = expectValue cfg s ∧
    Res.map Datum.value (fromTraitDatum cfg s) = fromTrait cfg s :=
  ⟨sim_nextTop cfg s, sim_expect cfg s, sim_fromTrait cfg s⟩

/-- **C10_streams.** Any history of calls on one parser, with the datum calls replaced by the
    corresponding value calls (`next_datum` ↦ `next_value`, `datum_iter().next()` ↦
    `value_iter().next()`, `expect_datum` ↦ `expect_value`), returns the same items once the
    spans of datum items are forgotten; the same for iterating one kind of call to the end. -/
theorem C10_streams (cfg : Cfg) (s : St) :
    (∀ ops : List Op,
      runHistory cfg (ops.map Op.toValue) s = (runHistory cfg ops s).map Item.toValue) ∧
    (∀ (op : Op) (cap : Nat),
      iterate cfg op.toValue cap s = (iterate cfg op cap s).map Item.toValue) :=
  ⟨fun ops => runHistory_toValue cfg ops s, fun op cap => iterate_toValue cfg op cap s⟩

/-- **C10_into_value.** `Value::from(datum)` is the datum's value (by definition), so the value
    API is the datum API followed by `into()`. -/
theorem C10_into_value (d : Datum) (cfg : Cfg) (fuel : Nat) (s : St) :
    d.intoValue = d.value ∧
    Res.map (Option.map Datum.intoValue) (nextDatum cfg fuel s) = nextValue cfg fuel s :=
  ⟨rfl, C10_sim cfg fuel s⟩

/-- **C10_shaped.** Every datum returned by `next_datum` — and so by the public entry points and
    by every call of any history — has span information that mirrors its value. -/
theorem C10_shaped (cfg : Cfg) :
    (∀ fuel s d s', nextDatum cfg fuel s = .ok (some d) s' → Shaped d.value d.info) ∧
    (∀ s d s', nextDatumTop cfg s = .ok (some d) s' → Shaped d.value d.info) ∧
    (∀ s d s', expectDatum cfg s = .ok d s' → Shaped d.value d.info) ∧
    (∀ s d s', fromTraitDatum cfg s = .ok d s' → Shaped d.value d.info) ∧
    (∀ ops s d, Item.datum d ∈ runHistory cfg ops s → Shaped d.value d.info) :=
  ⟨fun fuel s d s' h => (shaped_all cfg fuel).1 s (some d) s' h,
   fun s d s' h => post_nextDatumTop cfg s (some d) s' h,
   fun s d s' h => post_expectDatum cfg s d s' h,
   fun s d s' h => post_fromTraitDatum cfg s d s' h,
   fun ops s d h => runHistory_shaped cfg ops s d h⟩

/-- **C10_shaped_spec.** What `Shaped` says, constructor by constructor: a pair carries `.cons`
    with shaped car and cdr, a vector carries `.vec` with as many entries as elements, shaped
    element-wise, and every other value carries `.prim`. -/
theorem C10_shaped_spec :
    (∀ a b i, Shaped (.cons a b) i ↔ ∃ sp c d, i = .cons sp c d ∧ Shaped a c ∧ Shaped b d) ∧
    (∀ xs i, Shaped (.vector xs) i ↔ ∃ sp ms, i = .vec sp ms ∧ xs.length = ms.length ∧
      ∀ p ∈ xs.zip ms, Shaped p.1 p.2) ∧
    (∀ v i, v.isCons = false → v.isVector = false → (Shaped v i ↔ ∃ sp, i = .prim sp)) := by
  refine ⟨?_, ?_, ?_⟩
  · intro a b i
    cases i with
    | cons sp c d =>
      simp only [Shaped]
      exact ⟨fun h => ⟨_, _, _, rfl, h⟩, fun ⟨_, _, _, he, h⟩ => by cases he; exact h⟩
    | prim _ => simp [Shaped]
    | vec _ _ => simp [Shaped]
  · intro xs i
    cases i with
    | vec sp ms =>
      simp only [Shaped, shapedList_iff]
      exact ⟨fun h => ⟨_, _, rfl, h⟩, fun ⟨_, _, he, h⟩ => by cases he; exact h⟩
    | prim _ => simp [Shaped]
    | cons _ _ _ => simp [Shaped]
  · intro v i hc hv
    cases v <;> cases i <;> simp_all [Shaped, SpanInfo.isPrim, Value.isCons, Value.isVector]

/-- **C10_list_iter.** For a shaped datum: `list_iter()` exists exactly when it does on the value
    and starts in the corresponding state; from there `next()` never hits the
    "badly shaped list span information" `expect` (every `DCursor.take n` is `some`), yields item
    for item the values that the value iterator yields, and every yielded datum is shaped again.
    In particular this holds when the value is a pair. -/
theorem C10_list_iter (d : Datum) (h : Shaped d.value d.info) :
    d.listIter.map DCursor.forget = d.value.listIter ∧
    (∀ a b, d.value = .cons a b → ∃ c, d.listIter = some c ∧ c.forget = .cons a b) ∧
    (∀ c, d.listIter = some c → ∀ n, ∃ l, DCursor.take n c = some l ∧
      l.map (Option.map Datum.value) = Value.ListCursor.take n c.forget ∧
      ∀ x ∈ l, ShapedOpt x) := by
  obtain ⟨h1, h2⟩ := listIter_shaped d h
  refine ⟨h1, ?_, fun c hc n => DCursor.take_good n c (h2 c hc)⟩
  intro a b hv
  rw [hv] at h1
  cases hl : d.listIter with
  | none => rw [hl] at h1; simp [Value.listIter] at h1
  | some c =>
    rw [hl] at h1
    simp only [Option.map, Value.listIter, Option.some.injEq] at h1
    exact ⟨c, rfl, h1⟩

/-- **C10_list_iter_step.** One step: from a cursor whose values are shaped by its infos,
    `next()` returns (never the failed `expect`), the item's value and the next state are those
    of the value iterator, and the next cursor is again good. -/
theorem C10_list_iter_step (c : DCursor) (h : c.Good) :
    ∃ item c', c.next = some (item, c') ∧ c'.Good ∧ ShapedOpt item ∧
      c.forget.next = (item.map Datum.value, c'.forget) :=
  DCursor.next_good c h

/-- **C10_as_pair.** On a shaped datum `as_pair` never reaches its `unreachable!`: it is
    `Some((car, cdr))` with shaped halves when the value is a pair, and `None` otherwise. -/
theorem C10_as_pair (d : Datum) (h : Shaped d.value d.info) :
    d.asPair ≠ some none ∧
    (∀ a b, d.value = .cons a b → ∃ cm dm,
      d.asPair = some (some (⟨a, cm⟩, ⟨b, dm⟩)) ∧ Shaped a cm ∧ Shaped b dm) ∧
    (d.value.asPair = none → d.asPair = none) := by
  rcases d with ⟨v, i⟩
  cases v <;> cases i <;>
    simp_all [Shaped, SpanInfo.isPrim, Datum.asPair, Value.asPair]
  exact ⟨_, _, ⟨rfl, rfl⟩, h⟩

/-- **C10_vector_iter.** On a shaped datum whose value is a vector, `vector_iter` yields exactly
    the elements of the vector, each with shaped span information. -/
theorem C10_vector_iter (d : Datum) (h : Shaped d.value d.info) (xs : List Value)
    (hv : d.value = .vector xs) :
    ∃ l, d.vectorIter = some l ∧ l.map Datum.value = xs ∧ l.length = xs.length ∧
      ∀ e ∈ l, Shaped e.value e.info := by
  rcases d with ⟨v, i⟩
  simp only at hv
  subst hv
  cases i with
  | prim _ => simp [Shaped] at h
  | cons _ _ _ => simp [Shaped] at h
  | vec sp ms =>
    simp only [Shaped] at h
    obtain ⟨h1, _, h3⟩ := zip_shaped xs ms h
    refine ⟨_, rfl, h1, ?_, h3⟩
    have := congrArg List.length h1
    simpa using this

/-- C10_sim on the input `()`: both sides are the empty list and the exhausted reader. -/
example :
    Res.map (Option.map Datum.value) (nextDatum exCfg 3 (initSt .str [40, 41])) =
      nextValue exCfg 3 (initSt .str [40, 41]) ∧
    nextValue exCfg 3 (initSt .str [40, 41]) =
      .ok (some .null) { rd := { mode := .str, rest := [], line := 1, col := 2 } } :=
  ⟨C10_sim _ _ _, rfl⟩

/-- C10_sim_list / C10_sim_vector with non-empty accumulators. -/
example (s : St) :
    Res.map listVal (parseListMeta exCfg 7 41 [.nil] [.prim Span.empty] s) =
      parseList exCfg 7 41 [.nil] s ∧
    Res.map Prod.fst (parseVectorMeta exCfg 7 41 [.nil] [.prim Span.empty] s) =
      parseVector exCfg 7 41 [.nil] s :=
  ⟨C10_sim_list _ _ _ _ _ _, C10_sim_vector _ _ _ _ _ _⟩

/-- C10_streams on a history that mixes all the datum calls. -/
example (s : St) :
    runHistory exCfg [.nextValue, .expectValue, .valueIterNext, .parserNext, .expectEnd] s =
      (runHistory exCfg [.nextDatum, .expectDatum, .datumIterNext, .parserNext, .expectEnd] s).map
        Item.toValue ∧
    iterate exCfg .valueIterNext 10 s = (iterate exCfg .datumIterNext 10 s).map Item.toValue :=
  ⟨(C10_streams exCfg s).1 [.nextDatum, .expectDatum, .datumIterNext, .parserNext, .expectEnd],
   (C10_streams exCfg s).2 .datumIterNext 10⟩

example : exDotted.intoValue = Value.append [.symbol [97], .symbol [98]] (.symbol [99]) :=
  (C10_into_value exDotted exCfg 0 (initSt .str [])).1

/-- C10_shaped: the hypothesis is satisfiable (`()` parses to a datum), and the conclusion holds
    for it. -/
example : ∃ d s', nextDatum exCfg 3 (initSt .str [40, 41]) = .ok (some d) s' ∧
    Shaped d.value d.info := by
  have h : nextDatum exCfg 3 (initSt .str [40, 41]) =
      .ok (some ⟨.null, .prim ⟨⟨1, 0⟩, ⟨1, 2⟩⟩⟩)
        { rd := { mode := .str, rest := [], line := 1, col := 2 } } := rfl
  exact ⟨_, _, h, (C10_shaped exCfg).1 _ _ _ _ h⟩

/-- C10_list_iter on `(a b . c)`: the datum is shaped, its value is a pair, and five calls of
    `next()` give `a`, `b`, `None`, `c`, `None`, as on the value. -/
example :
    (∃ c, exDotted.listIter = some c ∧
      DCursor.take 5 c = some [some ⟨.symbol [97], .prim ⟨⟨1, 1⟩, ⟨1, 2⟩⟩⟩,
        some ⟨.symbol [98], .prim ⟨⟨1, 3⟩, ⟨1, 4⟩⟩⟩, none,
        some ⟨.symbol [99], .prim ⟨⟨1, 7⟩, ⟨1, 8⟩⟩⟩, none]) ∧
    (∀ c, exDotted.listIter = some c → ∀ n, ∃ l, DCursor.take n c = some l ∧
      l.map (Option.map Datum.value) = Value.ListCursor.take n c.forget ∧ ∀ x ∈ l, ShapedOpt x) :=
  ⟨⟨_, rfl, rfl⟩, (C10_list_iter exDotted exDotted_shaped).2.2⟩

/-- C10_as_pair on `(a #(b) 'c)`. -/
example : ∃ cm dm, exMixed.asPair =
    some (some (⟨.symbol [97], cm⟩,
      ⟨Value.list [.vector [.symbol [98]], Value.list [.symbol Quote.quote.name, .symbol [99]]],
       dm⟩)) :=
  let ⟨cm, dm, h, _⟩ := (C10_as_pair exMixed exMixed_shaped).2.1 _ _ rfl
  ⟨cm, dm, h⟩

/-- C10_vector_iter on the `#(b)` inside `(a #(b) 'c)`. -/
example : ∃ l, (⟨.vector [.symbol [98]], .vec ⟨⟨1, 3⟩, ⟨1, 7⟩⟩ [.prim ⟨⟨1, 5⟩, ⟨1, 6⟩⟩]⟩ :
    Datum).vectorIter = some l ∧ l.map Datum.value = [.symbol [98]] :=
  let ⟨l, h1, h2, _⟩ := C10_vector_iter ⟨.vector [.symbol [98]], .vec ⟨⟨1, 3⟩, ⟨1, 7⟩⟩
    [.prim ⟨⟨1, 5⟩, ⟨1, 6⟩⟩]⟩ (by simp [Shaped, ShapedList, SpanInfo.isPrim]) _ rfl
  ⟨l, h1, h2⟩

end Parse
end Lexpr

open Lexpr.Parse in
#print axioms C10_sim
open Lexpr.Parse in
#print axioms C10_sim_list
open Lexpr.Parse in
#print axioms C10_sim_vector
open Lexpr.Parse in
#print axioms C10_sim_api
open Lexpr.Parse in
#print axioms C10_streams
open Lexpr.Parse in
#print axioms C10_into_value
open Lexpr.Parse in
#print axioms C10_shaped
open Lexpr.Parse in
#print axioms C10_shaped_spec
open Lexpr.Parse in
#print axioms C10_list_iter
open Lexpr.Parse in
#print axioms C10_list_iter_step
open Lexpr.Parse in
#print axioms C10_as_pair
open Lexpr.Parse in
#print axioms C10_vector_iter
