/-
  Concat — C12, concatenation part: parsing the concatenation of several printed values separated
  by trivia (space, tab, CR, LF, form feed, line comments) yields exactly those values, in order,
  followed by end of input.  Proved once for pieces of input — a separator and a text that
  `next_value` reads as a known value (`Piece`, `C12_pieces`) —, on top of the round trip of one
  value in an arbitrary follow context (`DialectStructRT.lean`); printed values are such pieces
  (`C12_concat_reads`).  Then examples, and witnesses showing which hypotheses are needed.
-/
import LexprModel.Proofs.ConcatBase
import LexprModel.Proofs.ParserProg
import LexprModel.Proofs.DialectStructRT
import LexprModel.Proofs.TriviaTwin
namespace Lexpr
namespace Parse
namespace Concat
open Print Spec ListRT

theorem nextValue_skipTrivia (cfg : Cfg) (s : St) (h : Good s) (tr : List UInt8) (c : UInt8)
    (tl : List UInt8) (hr : s.rd.rest = tr ++ c :: tl) (htr : Trivia tr)
    (h1 : isTrivia c = false) (h2 : (c == 59) = false) :
    ∃ s1, Good s1 ∧ s1.rd.rest = c :: tl ∧ s1.depth = s.depth ∧
      ∀ f, nextValue cfg f s = nextValue cfg f s1 :=
  nextValue_skipT cfg s h tr htr.triv c tl hr h1 h2

/-- Does a text start with a byte that ends every token (`(`, `[`; also trivia, `)`, `]`, `;`)? -/
def startsFollow : List UInt8 → Bool
  | b :: _ => isFollow b
  | [] => false

theorem follow_of_startsFollow (t rest : List UInt8) (h : startsFollow t = true) :
    Follow (t ++ rest) := by
  cases t with
  | nil => simp [startsFollow] at h
  | cons b tl => exact follow_cons _ _ h

theorem nextValueTop_eq (cfg : Cfg) (s : St) :
    nextValueTop cfg s = nextValue cfg (2 * s.rd.rest.length + 4) s := Parse.nextValueTop_eq cfg s

theorem end_step (cfg : Cfg) (s : St) (hg : Good s) (ht : TriviaEnd s.rd.rest) :
    Runs (nextValueTop cfg) s none [] := by
  have hw := parseWhitespace_good s hg
  rw [wsLen_trivEnd _ ht.trivEnd] at hw
  simp only [List.drop_length, List.head?_nil] at hw
  refine ⟨{ s with rd := s.rd.consume s.rd.rest.length }, ?_, by simp,
    ⟨by simp [hg.1], by simp [hg.2]⟩, rfl⟩
  show nextValue cfg ((2 * s.rd.rest.length + 3) + 1) s = _
  simp [nextValue, hw]

/-! ## Iteration over pieces of input

A piece is a separator and a text that `next_value` reads as a known value (`ReadsW`), whatever
produced the text: the printer, the printer with other trivia, a printer whose floats are read
back only approximately.  The concatenation clause is proved once, for pieces. -/

/-- a separator, a text, the value the text is read as, whether the text ends with its own closing
    delimiter (so that anything may follow it), the depth budget reading it needs -/
structure Piece where
  sep : List UInt8
  t : List UInt8
  w : Value
  closed : Bool
  n : Nat

def piecesText : List Piece → List UInt8
  | [] => []
  | x :: xs => x.sep ++ (x.t ++ piecesText xs)

/-- the unread input after each piece, given the trailing trivia -/
def piecesRests (tEnd : List UInt8) : List Piece → List (List UInt8)
  | [] => []
  | _ :: xs => (piecesText xs ++ tEnd) :: piecesRests tEnd xs

/-- Separators are trivia; one may be empty only at the very beginning (`free`), behind a text
    that closes itself, or in front of a text that starts with a byte ending every token. -/
def SepsP : Bool → List Piece → Prop
  | _, [] => True
  | free, x :: xs =>
    Trivia x.sep ∧ (free = true ∨ x.sep ≠ [] ∨ startsFollow x.t = true) ∧ SepsP x.closed xs

theorem sepsP_follow (tEnd : List UInt8) (hE : TriviaEnd tEnd) (free : Bool) (xs : List Piece)
    (h : SepsP free xs) : free = true ∨ Follow (piecesText xs ++ tEnd) := by
  cases xs with
  | nil => right; simpa [piecesText] using triviaEnd_follow tEnd hE
  | cons x xs =>
    obtain ⟨htr, hcond, -⟩ := h
    rcases hcond with hfree | hne | hst
    · exact .inl hfree
    · right
      simpa [piecesText] using trivia_follow x.sep (x.t ++ piecesText xs ++ tEnd) htr hne
    · right
      by_cases hne : x.sep = []
      · simpa [piecesText, hne] using follow_of_startsFollow x.t (piecesText xs ++ tEnd) hst
      · simpa [piecesText] using trivia_follow x.sep (x.t ++ piecesText xs ++ tEnd) htr hne

/-- One call per piece.  The history is stated with a continuation `ops'`, so that the calls at
    the end of the input (`end_history`) can be appended to it. -/
theorem concat_pieces (cfg : Cfg) (op : Op) (hop : ValueOp op) (tEnd : List UInt8)
    (hE : TriviaEnd tEnd) :
    ∀ (items : List Piece) (free : Bool) (s : St), Good s →
      s.rd.rest = piecesText items ++ tEnd →
      (∀ x ∈ items, ReadsW cfg x.closed x.t x.w x.n ∧ x.n + 1 ≤ s.depth) → SepsP free items →
      ∃ sN, Good sN ∧ sN.rd.rest = tEnd ∧ sN.depth = s.depth ∧
        ∀ ops' : List Op,
          runHistory cfg (List.replicate items.length op ++ ops') s =
            items.map (fun x => Item.value x.w) ++ runHistory cfg ops' sN ∧
          (runStates cfg (List.replicate items.length op ++ ops') s).map obs =
            (piecesRests tEnd items).map (fun r => (r, s.depth)) ++
              (runStates cfg ops' sN).map obs
  | [], _, s, hg, hr, _, _ => by
    refine ⟨s, hg, by simpa [piecesText] using hr, rfl, ?_⟩
    intro ops'
    simp [piecesRests]
  | x :: xs, free, s, hg, hr, hall, hs => by
    obtain ⟨htr, -, hs'⟩ := hs
    obtain ⟨hx, hdx⟩ := hall x (by simp)
    have hf := sepsP_follow tEnd hE x.closed xs hs'
    have hr' : s.rd.rest = x.sep ++ (x.t ++ (piecesText xs ++ tEnd)) := by
      rw [hr]; simp [piecesText]
    obtain ⟨s1, e1, r1, g1, d1⟩ :
        Runs (nextValueTop cfg) s (some x.w) (piecesText xs ++ tEnd) := by
      unfold Runs; rw [nextValueTop_eq]
      exact hx.lead x.sep htr.triv s _ _ hf hg hr' (by omega) hdx
    have hstep := stepOp_value cfg op hop s s1 _ e1
    obtain ⟨sN, gN, rN, dN, hN⟩ := concat_pieces cfg op hop tEnd hE xs x.closed s1 g1 r1
      (fun y hy => by rw [d1]; exact hall y (by simp [hy])) hs'
    refine ⟨sN, gN, rN, dN.trans d1, ?_⟩
    intro ops'
    obtain ⟨hH, hS⟩ := hN ops'
    constructor
    · simp only [List.length_cons, List.replicate_succ, List.cons_append, runHistory, hstep, hH]
      simp
    · simp only [List.length_cons, List.replicate_succ, List.cons_append, runStates, hstep,
        List.map_cons, hS, piecesRests, d1]
      simp [obs, r1, d1]

/-- After the end of the input every further call reports the end again. -/
theorem end_history (cfg : Cfg) (op : Op) (hop : ValueOp op) :
    ∀ (k : Nat) (s : St), Good s → TriviaEnd s.rd.rest →
      runHistory cfg (List.replicate k op) s = List.replicate k .none_ ∧
      (runStates cfg (List.replicate k op) s).map obs = List.replicate k ([], s.depth)
  | 0, _, _, _ => by simp [runHistory, runStates]
  | k + 1, s, hg, ht => by
    obtain ⟨s1, e1, r1, g1, d1⟩ := end_step cfg s hg ht
    have hstep := stepOp_none cfg op hop s s1 e1
    obtain ⟨hH, hS⟩ := end_history cfg op hop k s1 g1 (by rw [r1]; exact .nil)
    constructor
    · simp only [List.replicate_succ, runHistory, hstep, hH]
    · simp only [List.replicate_succ, runStates, hstep, List.map_cons, hS, d1]
      simp [obs, r1, d1]

/-- **The concatenation clause for pieces.**  In a non-faulty slice state whose unread input is
    the pieces followed by trailing trivia, `items.length + 1 + k` calls return the pieces' values
    in order and then `k + 1` times end of input; after the `i`-th call exactly the input behind
    the `i`-th piece is unread and the depth budget is what it was; iterating until the first end
    of input gives the values and the end marker. -/
theorem C12_pieces (cfg : Cfg) (op : Op) (hop : ValueOp op) (items : List Piece)
    (tEnd : List UInt8) (s : St) (hg : Good s) (hr : s.rd.rest = piecesText items ++ tEnd)
    (hall : ∀ x ∈ items, ReadsW cfg x.closed x.t x.w x.n ∧ x.n + 1 ≤ s.depth)
    (hs : SepsP true items) (hE : TriviaEnd tEnd) :
    (∀ k, runHistory cfg (List.replicate (items.length + (k + 1)) op) s =
        items.map (fun x => Item.value x.w) ++ List.replicate (k + 1) .none_) ∧
    (∀ k, (runStates cfg (List.replicate (items.length + (k + 1)) op) s).map obs =
        (piecesRests tEnd items).map (fun r => (r, s.depth)) ++
          List.replicate (k + 1) ([], s.depth)) ∧
    (∀ cap, items.length + 1 ≤ cap →
        iterate cfg op cap s = items.map (fun x => Item.value x.w) ++ [.none_]) := by
  obtain ⟨sN, gN, rN, dN, hN⟩ := concat_pieces cfg op hop tEnd hE items true s hg hr hall hs
  have hend := fun k => end_history cfg op hop (k + 1) sN gN (by rw [rN]; exact hE)
  have hhist : ∀ k, runHistory cfg (List.replicate (items.length + (k + 1)) op) s =
      items.map (fun x => Item.value x.w) ++ List.replicate (k + 1) .none_ := by
    intro k
    rw [← List.replicate_append_replicate, (hN _).1, (hend k).1]
  refine ⟨hhist, ?_, ?_⟩
  · intro k
    rw [← List.replicate_append_replicate, (hN _).2, (hend k).2, dN]
  · intro cap hcap
    have e : items.map (fun x => Item.value x.w) = (items.map fun x => x.w).map Item.value := by
      simp [List.map_map]
    rw [e]
    exact iterate_of_values cfg op _ s cap (by simpa [e] using hhist 0) (by simpa using hcap)

/-- The input: each value preceded by its separator (the first one by the leading trivia). -/
def concatText (p : Print.Options) (ryu : Nat → List UInt8) :
    List (List UInt8 × Value) → List UInt8
  | [] => []
  | (sep, v) :: xs => sep ++ (text p ryu v ++ concatText p ryu xs)

/-- The unread input after each value, given the trailing trivia. -/
def rests (p : Print.Options) (ryu : Nat → List UInt8) (tEnd : List UInt8) :
    List (List UInt8 × Value) → List (List UInt8)
  | [] => []
  | _ :: xs => (concatText p ryu xs ++ tEnd) :: rests p ryu tEnd xs

/-- Separators are trivia; a separator may be empty only at the very beginning (`free`), after
    a value that closes itself (pair, vector, `()`), or in front of a text that starts with a
    byte ending every token (`(`, `[`). -/
def SepsOK (p : Print.Options) (ryu : Nat → List UInt8) : Bool → List (List UInt8 × Value) → Prop
  | _, [] => True
  | free, (sep, v) :: xs =>
    Trivia sep ∧ (free = true ∨ sep ≠ [] ∨ startsFollow (text p ryu v) = true) ∧
      SepsOK p ryu (closes v) xs

/-- the piece for a printed value whose text is read as `g v` -/
def pieceOf (p : Print.Options) (ryu : Nat → List UInt8) (g : Value → Value)
    (it : List UInt8 × Value) : Piece :=
  ⟨it.1, text p ryu it.2, g it.2, closes it.2, nestingP p it.2⟩

theorem piecesText_of (p : Print.Options) (ryu : Nat → List UInt8) (g : Value → Value) :
    ∀ items, piecesText (items.map (pieceOf p ryu g)) = concatText p ryu items
  | [] => rfl
  | _ :: xs => by simp [piecesText, concatText, pieceOf, piecesText_of p ryu g xs]

theorem piecesRests_of (p : Print.Options) (ryu : Nat → List UInt8) (g : Value → Value)
    (tEnd : List UInt8) :
    ∀ items, piecesRests tEnd (items.map (pieceOf p ryu g)) = rests p ryu tEnd items
  | [] => rfl
  | _ :: xs => by simp [piecesRests, rests, piecesText_of, piecesRests_of p ryu g tEnd xs]

theorem sepsP_of (p : Print.Options) (ryu : Nat → List UInt8) (g : Value → Value) :
    ∀ (items : List (List UInt8 × Value)) (free : Bool), SepsOK p ryu free items →
      SepsP free (items.map (pieceOf p ryu g))
  | [], _, _ => trivial
  | (_, v) :: xs, _, ⟨h1, h2, h3⟩ => ⟨h1, h2, sepsP_of p ryu g xs (closes v) h3⟩

theorem seps_follow (p : Print.Options) (ryu : Nat → List UInt8) (tEnd : List UInt8)
    (hE : TriviaEnd tEnd) (free : Bool) (xs : List (List UInt8 × Value))
    (h : SepsOK p ryu free xs) : free = true ∨ Follow (concatText p ryu xs ++ tEnd) := by
  simpa [piecesText_of] using sepsP_follow tEnd hE free _ (sepsP_of p ryu id xs free h)

def valueItems (p : Print.Options) (r : Options) (items : List (List UInt8 × Value)) : List Item :=
  items.map fun it => Item.value (fold p r it.2)

/-- `valueItems` as a list of values wrapped in `Item.value` (the form used by the transfer
    lemmas of `ConcatSources.lean`) -/
theorem valueItems_eq_map (p : Print.Options) (r : Options) (items : List (List UInt8 × Value)) :
    valueItems p r items = (items.map fun it => fold p r it.2).map Item.value := by
  simp [valueItems, List.map_map]

/-- The clause for printed values whose texts are read as `g v` (`g` is `fold p cfg.opts` when
    the atoms are read back exactly), from any non-faulty slice state. -/
theorem C12_concat_reads (p : Print.Options) (cfg : Cfg) (ryu : Nat → List UInt8)
    (g : Value → Value) (op : Op) (hop : ValueOp op)
    (items : List (List UInt8 × Value)) (tEnd : List UInt8) (s : St) (hg : Good s)
    (hr : s.rd.rest = concatText p ryu items ++ tEnd)
    (hall : ∀ it ∈ items, ReadsW cfg (closes it.2) (text p ryu it.2) (g it.2) (nestingP p it.2) ∧
      nestingP p it.2 + 1 ≤ s.depth)
    (hs : SepsOK p ryu true items) (hE : TriviaEnd tEnd) :
    (∀ k, runHistory cfg (List.replicate (items.length + (k + 1)) op) s =
        items.map (fun it => Item.value (g it.2)) ++ List.replicate (k + 1) .none_) ∧
    (∀ k, (runStates cfg (List.replicate (items.length + (k + 1)) op) s).map obs =
        (rests p ryu tEnd items).map (fun r => (r, s.depth)) ++
          List.replicate (k + 1) ([], s.depth)) ∧
    (∀ cap, items.length + 1 ≤ cap →
        iterate cfg op cap s = items.map (fun it => Item.value (g it.2)) ++ [.none_]) := by
  have h := C12_pieces cfg op hop (items.map (pieceOf p ryu g)) tEnd s hg
    (by rw [piecesText_of]; exact hr)
    (fun x hx => by obtain ⟨it, hit, rfl⟩ := List.mem_map.1 hx; exact hall it hit)
    (sepsP_of p ryu g items true hs) hE
  simpa [piecesRests_of, pieceOf, List.map_map, Function.comp_def] using h

/-- **C12_concat_general**: `C12_concat` from any non-faulty slice state, with the atom round
    trips as a hypothesis (`AllAtomsOKP`) and nesting below the depth budget of the state. -/
theorem C12_concat_general (p : Print.Options) (cfg : Cfg) (ryu : Nat → List UInt8)
    (hb : p.vector = .brackets → cfg.opts.brackets = .vector) (op : Op) (hop : ValueOp op)
    (items : List (List UInt8 × Value)) (tEnd : List UInt8) (s : St)
    (hm : s.rd.mode = .slice) (hfa : s.rd.faulty = false)
    (hr : s.rd.rest = concatText p ryu items ++ tEnd)
    (hall : ∀ it ∈ items, AllAtomsOKP p cfg ryu it.2 ∧ nestingP p it.2 + 1 ≤ s.depth)
    (hs : SepsOK p ryu true items) (hE : TriviaEnd tEnd) :
    (∀ k, runHistory cfg (List.replicate (items.length + (k + 1)) op) s =
        valueItems p cfg.opts items ++ List.replicate (k + 1) .none_) ∧
    (∀ k, (runStates cfg (List.replicate (items.length + (k + 1)) op) s).map obs =
        (rests p ryu tEnd items).map (fun r => (r, s.depth)) ++
          List.replicate (k + 1) ([], s.depth)) ∧
    (∀ cap, items.length + 1 ≤ cap →
        iterate cfg op cap s = valueItems p cfg.opts items ++ [.none_]) :=
  C12_concat_reads p cfg ryu (fold p cfg.opts) op hop items tEnd s ⟨hm, hfa⟩ hr
    (fun it hit => ⟨((reads_textP p cfg ryu hb).1 it.2 (hall it hit).1).weak, (hall it hit).2⟩) hs hE

/-- **C12_concat.**  For every compatible printer / parser option pair, every ryu parameter, and
    values all of whose atom leaves are plain for the pair (`AllPlainFor`) and whose nesting is at
    most 127: a fresh slice parser on `t0 ++ text v1 ++ sep1 ++ text v2 ++ … ++ tEnd`
    (`concatText` of the (separator, value) pairs, then the trailing trivia), separators as in
    `SepsOK`, returns `fold p cfg.opts v1`, …, `fold p cfg.opts vn` and then end of input, for
    each of the three ways of asking for the next value; further calls keep reporting the end;
    the depth budget is 128 after every call and the unread input after the `i`-th call is
    exactly what follows the `i`-th value. -/
theorem C12_concat (p : Print.Options) (cfg : Cfg) (ryu : Nat → List UInt8)
    (hc : Compatible p cfg.opts = true) (op : Op) (hop : ValueOp op)
    (items : List (List UInt8 × Value)) (tEnd : List UInt8)
    (hall : ∀ it ∈ items, AllPlainFor p cfg it.2 ∧ nestingP p it.2 ≤ 127)
    (hs : SepsOK p ryu true items) (hE : TriviaEnd tEnd) :
    let s0 := initSt .slice (concatText p ryu items ++ tEnd)
    (∀ cap, items.length + 1 ≤ cap →
        iterate cfg op cap s0 = valueItems p cfg.opts items ++ [.none_]) ∧
    (∀ k, runHistory cfg (List.replicate (items.length + (k + 1)) op) s0 =
        valueItems p cfg.opts items ++ List.replicate (k + 1) .none_) ∧
    (∀ k, (runStates cfg (List.replicate (items.length + (k + 1)) op) s0).map obs =
        (rests p ryu tEnd items).map (fun r => (r, 128)) ++ List.replicate (k + 1) ([], 128)) := by
  intro s0
  have h := C12_concat_general p cfg ryu (compatible_brackets p cfg.opts hc) op hop items tEnd s0
    rfl rfl rfl
    (fun it hit => ⟨allAtomsOKP_of_plain p cfg ryu hc it.2 (hall it hit).1, by
      have := (hall it hit).2
      show nestingP p it.2 + 1 ≤ 128
      omega⟩) hs hE
  exact ⟨h.2.2, h.1, h.2.1⟩

/-- non-empty separators everywhere (the leading trivia may be empty) satisfy `SepsOK` -/
theorem sepsOK_of_nonempty (p : Print.Options) (ryu : Nat → List UInt8) :
    ∀ (free : Bool) (items : List (List UInt8 × Value)), (∀ it ∈ items, Trivia it.1) →
      (free = true ∨ ∀ it ∈ items.head?, it.1 ≠ []) → (∀ it ∈ items.tail, it.1 ≠ []) →
      SepsOK p ryu free items
  | _, [], _, _, _ => trivial
  | free, (sep, v) :: xs, htr, hhead, htail => by
    refine ⟨htr (sep, v) (by simp), ?_, ?_⟩
    · rcases hhead with h | h
      · exact .inl h
      · exact .inr (.inl (h (sep, v) (by simp)))
    · refine sepsOK_of_nonempty p ryu _ xs (fun it hit => htr it (by simp [hit])) (.inr ?_) ?_
      · intro it hit
        cases xs with
        | nil => simp at hit
        | cons x xs' =>
          simp only [List.head?_cons, Option.mem_def, Option.some.injEq] at hit
          subst hit
          exact htail x (by simp)
      · intro it hit
        exact htail it (by
          simp only [List.tail_cons]
          exact List.mem_of_mem_tail hit)

/-- **C12_concat_simple**: the statement with every separator between two values non-empty
    (leading trivia `items[0].1` and trailing trivia `tEnd` arbitrary). -/
theorem C12_concat_simple (p : Print.Options) (cfg : Cfg) (ryu : Nat → List UInt8)
    (hc : Compatible p cfg.opts = true) (op : Op) (hop : ValueOp op)
    (items : List (List UInt8 × Value)) (tEnd : List UInt8)
    (hall : ∀ it ∈ items, AllPlainFor p cfg it.2 ∧ nestingP p it.2 ≤ 127)
    (htr : ∀ it ∈ items, Trivia it.1) (hne : ∀ it ∈ items.tail, it.1 ≠ [])
    (hE : TriviaEnd tEnd) (cap : Nat) (hcap : items.length + 1 ≤ cap) :
    iterate cfg op cap (initSt .slice (concatText p ryu items ++ tEnd)) =
      valueItems p cfg.opts items ++ [.none_] :=
  (C12_concat p cfg ryu hc op hop items tEnd hall
    (sepsOK_of_nonempty p ryu true items htr (.inl rfl) hne) hE).1 cap hcap

/-- **C12_concat_default**: with the default printer and the default parser options the values
    come back unchanged. -/
theorem C12_concat_default (cfg : Cfg) (ho : cfg.opts = Parse.Options.default)
    (ryu : Nat → List UInt8) (op : Op) (hop : ValueOp op)
    (items : List (List UInt8 × Value)) (tEnd : List UInt8)
    (hall : ∀ it ∈ items, AllPlainFor Print.Options.default cfg it.2 ∧
      nestingP Print.Options.default it.2 ≤ 127)
    (hs : SepsOK Print.Options.default ryu true items) (hE : TriviaEnd tEnd) :
    let s0 := initSt .slice (concatText Print.Options.default ryu items ++ tEnd)
    (∀ cap, items.length + 1 ≤ cap →
        iterate cfg op cap s0 = items.map (fun it => Item.value it.2) ++ [.none_]) ∧
    (∀ k, runHistory cfg (List.replicate (items.length + (k + 1)) op) s0 =
        items.map (fun it => Item.value it.2) ++ List.replicate (k + 1) .none_) := by
  intro s0
  have hc : Compatible Print.Options.default cfg.opts = true := by rw [ho]; decide
  have h := C12_concat Print.Options.default cfg ryu hc op hop items tEnd hall hs hE
  have hv : valueItems Print.Options.default cfg.opts items =
      items.map (fun it => Item.value it.2) := by
    simp only [valueItems, ho, FullRT.fold_default]
  simp only [hv] at h
  exact ⟨h.1, h.2.1⟩

/-! ## Which texts may follow without a separator -/

theorem startsFollow_cons (p : Print.Options) (ryu : Nat → List UInt8) (a d : Value) :
    startsFollow (text p ryu (.cons a d)) = true := by rw [textP_cons]; rfl

theorem startsFollow_null (p : Print.Options) (ryu : Nat → List UInt8) :
    startsFollow (text p ryu .null) = true := by rw [textP_null]; rfl

theorem startsFollow_vector_brackets (p : Print.Options) (ryu : Nat → List UInt8) (xs : List Value)
    (h : p.vector = .brackets) : startsFollow (text p ryu (.vector xs)) = true := by
  rw [textP_vector]; simp only [vopen, h]; rfl

/-- a vector written `#(`…`)` does **not** start with a byte that ends every token: after an atom
    it needs a separator (witness `octothorpe_vector_needs_separator` below) -/
theorem startsFollow_vector_octothorpe (p : Print.Options) (ryu : Nat → List UInt8)
    (xs : List Value) (h : p.vector = .octothorpe) :
    startsFollow (text p ryu (.vector xs)) = false := by
  rw [textP_vector]; simp only [vopen, h]; rfl

/-- ` ;first⏎(a 1)␌"s;x";c⏎⇥foo` — a list, a string and a symbol; leading space and comment, a form
    feed, a comment followed by a tab as separators -/
def exItems : List (List UInt8 × Value) :=
  [ (asc " ;first\n", .cons (.symbol (asc "a")) (.cons (.number (.pos 1)) .null)),
    (asc "\x0c", .string (asc "s;x")),
    (asc ";c\n\t", .symbol (asc "foo")) ]

example (ryu : Nat → List UInt8) :
    concatText Print.Options.default ryu exItems ++ asc " ; end" =
      asc " ;first\n(a 1)\x0c\"s;x\";c\n\tfoo ; end" := by rfl

theorem exItems_plain : ∀ it ∈ exItems, AllPlainFor Print.Options.default cfg0 it.2 ∧
    nestingP Print.Options.default it.2 ≤ 127 := by
  intro it hit
  simp only [exItems, List.mem_cons, List.not_mem_nil, or_false] at hit
  rcases hit with rfl | rfl | rfl
  · refine ⟨?_, by simp [nestingP, nestingTailP]⟩
    simp only [AllPlainFor, LeafPlainFor, AtomPlainFor, dotOkP]; decide
  · refine ⟨?_, by simp [nestingP]⟩
    simp only [AllPlainFor, LeafPlainFor, AtomPlainFor, dotOkP]; decide
  · refine ⟨?_, by simp [nestingP]⟩
    simp only [AllPlainFor, LeafPlainFor, AtomPlainFor, dotOkP]; decide

theorem exItems_seps (ryu : Nat → List UInt8) : SepsOK Print.Options.default ryu true exItems :=
  ⟨trivia_of_triviaB _ (by decide), .inl rfl,
   trivia_of_triviaB _ (by decide), .inr (.inl (by decide)),
   trivia_of_triviaB _ (by decide), .inr (.inl (by decide)), trivial⟩

/-- the instance: three values, comment and form-feed separators, an unterminated comment at the
    very end; all three ways of asking, any ryu -/
example (ryu : Nat → List UInt8) (op : Op) (hop : ValueOp op) :
    iterate cfg0 op 4
        (initSt .slice (concatText Print.Options.default ryu exItems ++ asc " ; end")) =
      [.value (.cons (.symbol (asc "a")) (.cons (.number (.pos 1)) .null)),
       .value (.string (asc "s;x")), .value (.symbol (asc "foo")), .none_] :=
  (C12_concat_default cfg0 rfl ryu op hop exItems (asc " ; end") exItems_plain (exItems_seps ryu)
    (triviaEnd_of_triviaEndB _ (by decide))).1 4 (by decide)

/-- the same text, eight calls: the three values, then end of input five times; the depth budget
    is 128 after every call -/
example (ryu : Nat → List UInt8) :
    runHistory cfg0 (List.replicate 8 .nextValue)
        (initSt .slice (concatText Print.Options.default ryu exItems ++ asc " ; end")) =
      [.value (.cons (.symbol (asc "a")) (.cons (.number (.pos 1)) .null)),
       .value (.string (asc "s;x")), .value (.symbol (asc "foo")),
       .none_, .none_, .none_, .none_, .none_] ∧
    ((runStates cfg0 (List.replicate 8 .nextValue)
        (initSt .slice (concatText Print.Options.default ryu exItems ++ asc " ; end"))).map obs).map
          Prod.snd = List.replicate 8 128 := by
  have h := C12_concat Print.Options.default cfg0 ryu (by decide) .nextValue (.inl rfl) exItems
    (asc " ; end") exItems_plain (exItems_seps ryu) (triviaEnd_of_triviaEndB _ (by decide))
  refine ⟨?_, ?_⟩
  · have := h.2.1 4
    simp only [valueItems, exItems, FullRT.fold_default, cfg0, List.map_cons, List.map_nil,
      List.length_cons, List.length_nil] at this
    exact this
  · have := h.2.2 4
    rw [show exItems.length + (4 + 1) = 8 from rfl] at this
    rw [this]
    simp [rests, exItems]

/-- Emacs Lisp on both sides, no separators where none is needed: `(a)[1]x(b)` then a form feed,
    `nil`, a space and `t`; `Nil` is read back as the empty list and `true` as the symbol `t`. -/
def exElisp : List (List UInt8 × Value) :=
  [ ([], .cons (.symbol (asc "a")) .null),
    ([], .vector [.number (.pos 1)]),
    ([], .symbol (asc "x")),
    ([], .cons (.symbol (asc "b")) .null),
    (asc "\x0c", .nil),
    (asc " ", .bool true) ]

example (ryu : Nat → List UInt8) :
    concatText Print.Options.elisp ryu exElisp = asc "(a)[1]x(b)\x0cnil t" := by rfl

example (ryu : Nat → List UInt8) :
    iterate elCfg .valueIterNext 7 (initSt .slice (concatText Print.Options.elisp ryu exElisp ++ [])) =
      [.value (.cons (.symbol (asc "a")) .null), .value (.vector [.number (.pos 1)]),
       .value (.symbol (asc "x")), .value (.cons (.symbol (asc "b")) .null),
       .value .null, .value (.symbol (asc "t")), .none_] := by
  have h := (C12_concat Print.Options.elisp elCfg ryu (by decide) .valueIterNext (.inr (.inl rfl))
    exElisp [] ?_ ?_ TriviaEnd.nil).1 7 (by decide)
  · exact h
  · intro it hit
    simp only [exElisp, List.mem_cons, List.not_mem_nil, or_false] at hit
    rcases hit with rfl | rfl | rfl | rfl | rfl | rfl <;>
      refine ⟨?_, by simp [nestingP, nestingTailP, nestingSeqP, Print.Options.elisp]⟩ <;>
      simp only [AllPlainFor, AllPlainForSeq, LeafPlainFor, AtomPlainFor, dotOkP] <;> decide
  · exact ⟨.nil, .inl rfl, .nil, .inr (.inr (startsFollow_vector_brackets _ _ _ rfl)), .nil, .inl rfl,
      .nil, .inr (.inr (startsFollow_cons _ _ _ _)),
      trivia_of_triviaB _ (by decide), .inl rfl, trivia_of_triviaB _ (by decide), .inr (.inl (by decide)),
      trivial⟩

example : Trivia (asc " \t\r\n\x0c;c (\n") := trivia_of_triviaB _ (by decide)
example : TriviaEnd (asc "\x0c; last") := triviaEnd_of_triviaEndB _ (by decide)
example : ¬ Trivia (asc " ; last") := by rw [trivia_iff]; decide

/-! ## Witnesses: what the hypotheses exclude (all confirmed on the Rust code) -/

def ryu0 : Nat → List UInt8 := fun _ => []

/-- iterating `next_value` on a text returns exactly the expected items -/
def reads (bytes : List UInt8) (expected : List (Option Value)) : Bool :=
  itemsAre (iterate cfg0 .nextValue 10 (initSt .slice bytes)) expected

/-- `reads` is a genuine equality of item lists (`itemsAre_sound` of `ConcatBase.lean`) -/
theorem reads_sound (bytes : List UInt8) (expected : List (Option Value))
    (h : reads bytes expected = true) :
    iterate cfg0 .nextValue 10 (initSt .slice bytes) = expected.map expItem :=
  itemsAre_sound _ _ h

/-- Two symbols with an empty separator merge into one: `a` `b` ↦ `ab`. -/
theorem empty_separator_merges :
    reads (text po ryu0 (.symbol (asc "a")) ++ text po ryu0 (.symbol (asc "b")))
      [some (.symbol (asc "ab")), none] = true := by decide

/-- An atom followed without separator by a vector written `#(1)`: the `#` is swallowed by the
    symbol, what comes back is the symbol `a#` and the *list* `(1)`.  So "the next text starts with
    an opening delimiter" allows an empty separator only for `(` and `[`, not for `#(`. -/
theorem octothorpe_vector_needs_separator :
    reads (text po ryu0 (.symbol (asc "a")) ++ text po ryu0 (.vector [.number (.pos 1)]))
      [some (.symbol (asc "a#")), some (.cons (.number (.pos 1)) .null), none] = true := by
  decide +kernel

/-- A symbol followed without separator by a string: one symbol `x"s"`. -/
theorem string_after_symbol_needs_separator :
    reads (text po ryu0 (.symbol (asc "x")) ++ text po ryu0 (.string (asc "s")))
      [some (.symbol (asc "x\"s\"")), none] = true := by decide

/-- A separator that ends in a comment without line feed swallows the next value
    (`a ;c b` ↦ `a`): such a separator is not `Trivia`. -/
theorem open_comment_swallows :
    reads (text po ryu0 (.symbol (asc "a")) ++ asc " ;c " ++ text po ryu0 (.symbol (asc "b")))
      [some (.symbol (asc "a")), none] = true ∧ ¬ Trivia (asc " ;c ") := by
  refine ⟨by decide, ?_⟩
  rw [trivia_iff]; decide

/-- A carriage return does not end a comment: `a;c⏎(CR)b` ↦ `a`. -/
theorem cr_does_not_end_comment :
    reads (text po ryu0 (.symbol (asc "a")) ++ asc ";c\r" ++ text po ryu0 (.symbol (asc "b")))
      [some (.symbol (asc "a")), none] = true ∧ ¬ Trivia (asc ";c\r") := by
  refine ⟨by decide, ?_⟩
  rw [trivia_iff]; decide

/-- A vertical tab is not trivia: `a␋b` is one symbol. -/
theorem vt_is_not_trivia :
    reads (text po ryu0 (.symbol (asc "a")) ++ [11] ++ text po ryu0 (.symbol (asc "b")))
      [some (.symbol [97, 11, 98]), none] = true ∧ ¬ Trivia [11] := by
  refine ⟨by decide, ?_⟩
  rw [trivia_iff]; decide

/-- Not needed, not covered: after a string, `#t`, a number or a character the model (and the
    Rust code) reads the next value correctly even with an empty separator. `SepsOK` demands a
    separator there all the same (only pairs, vectors and `()` count as self-closing). -/
example :
    reads (asc "\"s\"x") [some (.string (asc "s")), some (.symbol (asc "x")), none] = true ∧
    reads (asc "#t#f") [some (.bool true), some (.bool false), none] = true ∧
    reads (asc "1\"s\"") [some (.number (.pos 1)), some (.string (asc "s")), none] = true := by
  refine ⟨by decide +kernel, by decide +kernel, by decide +kernel⟩

/-- a comment only, or nothing at all: end of input at once -/
example : reads (asc ";only") [none] = true ∧ reads [] [none] = true := by
  constructor <;> decide

#print axioms C12_concat_general
#print axioms C12_concat
#print axioms C12_concat_simple
#print axioms C12_concat_default
#print axioms trivia_iff
#print axioms empty_separator_merges
#print axioms octothorpe_vector_needs_separator

end Concat
end Parse
end Lexpr

