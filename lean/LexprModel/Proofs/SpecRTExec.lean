/-
  The independent-reader theorems for the closed executable readers `Spec.readScheme` and
  `Spec.readElisp` (`alpha` := Unicode Alphabetic): the statements C01 and C02 end with.
-/
import LexprModel.Proofs.SpecRT
import LexprModel.Proofs.SpecRTElisp
import LexprModel.Spec.ReaderExec
namespace Lexpr
open Spec SpecRT

/-- For every value in the domain of `C01_roundtrip_all_sources` (default printer options;
    `FullRT.AllSupportedFull`) whose symbol and keyword names are identifiers of the grammar, at ANY
    nesting depth, the printed text is read by the independent reader of the documented grammar as
    exactly that value.  Of the float hypothesis `FloatOK` only `RyuSpec` is used (see
    `SpecRT.C01_independent_leaves` for the statement with that alone). -/
theorem C01_independent (cfg : Parse.Cfg) (ryu : Nat → List UInt8) (v : Value)
    (h : FullRT.AllSupportedFull cfg ryu v)
    (hid : FullRT.AllLeaves (SpecRT.IdentNames unicodeAlphabetic) v) :
    Spec.readScheme (Print.text Print.Options.default ryu v) = some v :=
  SpecRT.C01_independent unicodeAlphabetic cfg ryu v h hid

/-- For every value in the domain of the Emacs Lisp round trip (`FullRT.AllPlainForF` for
    `Print.Options.elisp` / `Parse.Options.elisp`) whose names are symbols of the documented subset,
    at ANY nesting depth, the printed text is read by the independent Emacs Lisp reader as the
    documented folding of the value. -/
theorem C02_independent_elisp (cfg : Parse.Cfg) (ho : cfg.opts = Parse.Options.elisp)
    (ryu : Nat → List UInt8) (v : Value)
    (h : FullRT.AllPlainForF Print.Options.elisp cfg ryu v)
    (hid : FullRT.AllLeaves (SpecRT.El.ElNames unicodeAlphabetic) v) :
    Spec.readElisp (Print.text Print.Options.elisp ryu v) =
      some (Spec.fold Print.Options.elisp Parse.Options.elisp v) :=
  SpecRT.El.C02_independent_elisp unicodeAlphabetic cfg ho ryu v h hid

#print axioms C01_independent
#print axioms C02_independent_elisp

end Lexpr
