/-
  C08 — each parser option governs exactly its tokens: what `parse_token` returns for a token
  followed by a terminator or the end of input (closed forms: `C08_letter`, `C08_nil`, `C08_t`,
  `C08_colon_*`, `C08_punct`, `C08_bracket`, …; the names on a slice source, `SliceAt`), and which
  options two configurations must share to return the same (`C08_frame_*`).  The state after `n`
  bytes is written `s.adv n` here; it is `adv s n false` (`sadv_eq`), and the closed forms of the
  fixed words are TokenRT's `fixedTok_reads`.  Sign-initial, non-ASCII-initial and `#`-initial
  tokens are in `Tokens2.lean`.  Two things stand here for the files above: what a successful
  `decode_utf8_sequence` read (`dus_inv`), and that numbers depend on the float configuration only
  (`NumCfgEq`).
-/
import LexprModel.Proofs.TokenRT
import LexprModel.Proofs.Utf8Valid
namespace Lexpr
namespace Parse

/-- The state after `n` more bytes have been consumed. -/
def St.adv (s : St) (n : Nat) : St := { s with rd := s.rd.consume n }

/-- consuming clears the peek flag, so this is `adv` with the flag down -/
theorem sadv_eq (s : St) (n : Nat) : s.adv n = adv s n false := (adv_false s n).symm

@[simp] theorem adv_depth (s : St) (n : Nat) : (s.adv n).depth = s.depth := rfl
@[simp] theorem sadv_mode (s : St) (n : Nat) : (s.adv n).rd.mode = s.rd.mode := Rd.consume_mode _ _
@[simp] theorem sadv_faulty (s : St) (n : Nat) : (s.adv n).rd.faulty = s.rd.faulty :=
  Rd.consume_faulty _ _
@[simp] theorem sadv_peeked (s : St) (n : Nat) : (s.adv n).rd.peeked = false := Rd.consume_peeked _ _
@[simp] theorem sadv_rest (s : St) (n : Nat) : (s.adv n).rd.rest = s.rd.rest.drop n :=
  Rd.consume_rest _ _

theorem sadv_adv (s : St) (m n : Nat) : (s.adv m).adv n = s.adv (m + n) := by
  rw [sadv_eq, sadv_eq, sadv_eq, adv_adv]

/-- on a slice nothing is ever marked as peeked -/
theorem adv_slice (s : St) (n : Nat) (rest : List UInt8) (hm : s.rd.mode = .slice) :
    adv s n (endPeek s rest) = s.adv n := by
  rw [sadv_eq, show endPeek s rest = false by simp [endPeek, hm]]

theorem peek_adv (s : St) (n : Nat) (hm : s.rd.mode = .slice) (hf : s.rd.faulty = false) :
    peek (s.adv n) = .ok (s.rd.rest.drop n).head? (s.adv n) := by
  rw [peek_at (s.adv n) _ (sadv_rest s n) (fun _ => by simp [hf]), sadv_peeked, Bool.false_or,
    adv_slice _ _ _ (by simp [hm]), sadv_adv, Nat.add_zero]

theorem consumeN_eq (n : Nat) (s : St) : consumeN n s = .ok () (s.adv n) := rfl

/-! the primitives of Primitives.lean with the state written `s.adv 1` -/

theorem C08.discard_cons (s : St) (b : UInt8) (bs : List UInt8) (h : s.rd.rest = b :: bs) :
    discard s = .ok () (s.adv 1) := Parse.discard_cons h

theorem C08.next_cons (s : St) (b : UInt8) (bs : List UInt8) (h : s.rd.rest = b :: bs) :
    next s = .ok (some b) (s.adv 1) := Parse.next_cons h

namespace Image
open Utf8

theorem isCont_hi (b : UInt8) (h : isCont b = true) : b > 127 := by
  simp only [isCont, Bool.and_eq_true, decide_eq_true_eq, UInt8.le_iff_toNat_le,
    UInt8.reduceToNat] at h
  simp only [gt_iff_lt, UInt8.lt_iff_toNat_lt, UInt8.reduceToNat]
  omega

theorem dus_inv {initial : UInt8} {s s' : St} {c : Nat} {bytes : List UInt8}
    (h : decodeUtf8Sequence initial s = .ok (c, bytes) s') (hi : ¬ initial < 0x80) :
    Utf8.valid bytes = true ∧ s'.rd.mode = s.rd.mode ∧
      ∃ cont, bytes = initial :: cont ∧ (∀ x ∈ cont, x > 127) ∧
        decodeFirst bytes = some (c, []) := by
  obtain ⟨hv, hm, hr, ⟨r, hd⟩, hsl⟩ := U8.decodeUtf8Sequence_inv h
  obtain ⟨-, b0, cont, rfl, hcont, hlen, -⟩ := decodeFirst_inv hd
  obtain rfl : initial = b0 := by simpa using congrArg List.head? hr
  -- the strict decoder takes as many bytes as `decode_utf8_sequence` has read
  obtain rfl : r = [] := by
    have := (hlen hi).symm.trans hsl
    simp only [List.length_cons, List.length_append, Nat.add_sub_cancel, Option.some.injEq] at this
    exact List.eq_nil_of_length_eq_zero (by omega)
  exact ⟨hv, hm, cont, by simp, fun x hx => isCont_hi x (hcont x hx), by simpa using hd⟩

theorem not_lt_of_hi {b : UInt8} (h : b > 0x7F) : ¬ b < 0x80 := (hi_not_ascii b h).1

end Image

namespace C08

theorem discard_ok {s s' : St} {u : Unit} (h : discard s = .ok u s') :
    ∃ b tl, s.rd.rest = b :: tl ∧ s' = s.adv 1 := Parse.discard_ok h

theorem next_ok {s s' : St} {o : Option UInt8} (h : next s = .ok o s') :
    (o = none ∧ s.rd.rest = [] ∧ s' = s) ∨ (∃ b tl, o = some b ∧ s.rd.rest = b :: tl ∧ s' = s.adv 1) :=
  Parse.next_ok h

theorem cons_of_head_some {l : List UInt8} {b : UInt8} (h : l.head? = some b) : ∃ tl, l = b :: tl :=
  List.head?_eq_some_iff.mp h

theorem parseWhitespace_ok {s s0 : St} {r : Option UInt8} (h : parseWhitespace s = .ok r s0) :
    s0.rd.rest = s.rd.rest.drop (wsLen s.rd.rest) ∧ r = s0.rd.rest.head? ∧
      s0.rd.mode = s.rd.mode :=
  let ⟨hm, hr, ho⟩ := parseWhitespace_frame h
  ⟨hr, ho, hm⟩

theorem parseWhitespace_some {s s0 : St} {pk : UInt8} (h : parseWhitespace s = .ok (some pk) s0) :
    s0.rd.rest.head? = some pk := (parseWhitespace_ok h).2.1.symm

end C08

/-- `body ++ rest` where `body` runs up to the next symbol terminator (or the end of input). -/
structure IsBody (body rest : List UInt8) : Prop where
  noTerm : ∀ b ∈ body, symTermSlice b = false
  restOk : rest = [] ∨ ∃ b bs, rest = b :: bs ∧ symTermSlice b = true

/-- A *token*: a non-empty, valid UTF-8 `name` without symbol terminators, followed by the end
    of input or a symbol terminator. -/
structure IsToken (name rest : List UInt8) : Prop extends IsBody name rest where
  ne : name ≠ []
  utf8 : Utf8.valid name = true

/-- Source mode `.slice`, reads do not fail, and the input is `inp`. -/
structure SliceAt (s : St) (inp : List UInt8) : Prop where
  mode : s.rd.mode = .slice
  faulty : s.rd.faulty = false
  rest : s.rd.rest = inp

/-- the ten bytes that end a symbol are the ten `Follow` bytes -/
theorem follow_of_term {rest : List UInt8}
    (h : rest = [] ∨ ∃ b bs, rest = b :: bs ∧ symTermSlice b = true) : Follow rest :=
  h.imp id fun ⟨b, bs, e, hb⟩ => ⟨b, bs, e, (isFollow_eq_symTermSlice b).symm ▸ hb⟩

theorem symLen_body (name rest : List UInt8) (h : IsBody name rest) :
    symLen .slice (name ++ rest) = name.length :=
  symLen_append .slice name rest h.noTerm (follow_of_term h.restOk)

/-- `TokenRT.parseSymbolBytes_reads` on a slice -/
theorem parseSymbolBytes_body (scratch name rest : List UInt8) (s : St)
    (hb : IsBody name rest) (hs : SliceAt s (name ++ rest))
    (hv : Utf8.valid (scratch ++ name) = true) (hdot : scratch ++ name ≠ [46]) :
    parseSymbolBytes scratch s = .ok (scratch ++ name) (s.adv name.length) := by
  rw [parseSymbolBytes_reads scratch name rest s hs.rest (follow_of_term hb.restOk)
    (fun _ => hs.faulty) hb.noTerm hdot (.inr hv), adv_slice _ _ _ hs.mode]

theorem SliceAt.adv {s : St} {a b : List UInt8} (h : SliceAt s (a ++ b)) :
    SliceAt (s.adv a.length) b := by
  refine ⟨by simp [h.mode], by simp [h.faulty], ?_⟩
  simp [h.rest]

theorem symbolToken_keyword (o : Options) (name k : List UInt8) :
    symbolToken o name = .keyword k ↔
      o.kwPostfix = true ∧ name.length > 1 ∧ name.getLast? = some 58 ∧ k = name.dropLast := by
  unfold symbolToken
  split
  · next h =>
    simp only [Bool.and_eq_true, decide_eq_true_eq, beq_iff_eq] at h
    simp only [Token.keyword.injEq, h, true_and]
    exact eq_comm
  · next h =>
    simp only [Bool.and_eq_true, decide_eq_true_eq, beq_iff_eq] at h
    simp only [reduceCtorEq, false_iff]
    intro ⟨h1, h2, h3, _⟩
    exact h ⟨⟨h1, h2⟩, h3⟩

theorem symbolToken_symbol (o : Options) (name k : List UInt8) :
    symbolToken o name = .symbol k ↔
      ¬ (o.kwPostfix = true ∧ name.length > 1 ∧ name.getLast? = some 58) ∧ k = name := by
  unfold symbolToken
  split
  · next h =>
    simp only [Bool.and_eq_true, decide_eq_true_eq, beq_iff_eq] at h
    simp [h]
  · next h =>
    simp only [Bool.and_eq_true, decide_eq_true_eq, beq_iff_eq] at h
    simp only [Token.symbol.injEq]
    constructor
    · intro e; exact ⟨fun ⟨h1, h2, h3⟩ => h ⟨⟨h1, h2⟩, h3⟩, e.symm⟩
    · intro ⟨_, e⟩; exact e.symm

theorem letterTail_eq (o : Options) (name : List UInt8) (s : St) :
    letterTail o name s = .ok (letterTok o name) s :=
  congrFun (letterTail_pure o name) s

/-- `TokenRT.letter_arm` on a slice -/
theorem letter_tok (cfg : Cfg) (fuel : Nat) (pk : UInt8) (name rest : List UInt8) (s : St)
    (ht : IsToken name rest) (hs : SliceAt s (name ++ rest)) (hpk : name.head? = some pk)
    (hl : isAsciiAlpha pk = true) :
    parseToken cfg fuel pk s = .ok (letterTok cfg.opts name) (s.adv name.length) := by
  obtain ⟨tl, rfl⟩ := C08.cons_of_head_some hpk
  rw [letter_arm cfg fuel pk tl rest s hs.rest (follow_of_term ht.restOk) (fun _ => hs.faulty)
    ht.noTerm (.inr ht.utf8) hl, adv_slice _ _ _ hs.mode]
  rfl

theorem discard_bind {β : Type} (f : Unit → P β) (s : St) (b : UInt8) (x : List UInt8)
    (hs : s.rd.rest = b :: x) : (discard >>= f) s = f () (s.adv 1) := by
  rw [bind_apply, C08.discard_cons s b x hs]

theorem symArm_congr (o1 o2 : Options) (scratch : List UInt8) (h : o1.kwPostfix = o2.kwPostfix) :
    symArm o1 scratch = symArm o2 scratch := by
  simp only [symArm, symbolToken, h]

/-- `TokenRT.extended_arm` on a slice -/
theorem extended_tok (cfg : Cfg) (fuel : Nat) (pk : UInt8) (name rest : List UInt8) (s : St)
    (ht : IsToken name rest) (hs : SliceAt s (name ++ rest)) (hpk : name.head? = some pk)
    (he : isSymbolExtended pk = true) (h58 : pk ≠ 58)
    (hq : pk = 63 → cfg.opts.char ≠ .elisp) (hdot : name ≠ [46]) :
    parseToken cfg fuel pk s = .ok (symbolToken cfg.opts name) (s.adv name.length) := by
  obtain ⟨tl, rfl⟩ := C08.cons_of_head_some hpk
  rw [extended_arm cfg fuel pk tl rest s he h58 hq hs.rest (follow_of_term ht.restOk)
    (fun _ => hs.faulty) ht.noTerm hdot (.inr ht.utf8), adv_slice _ _ _ hs.mode]
  rfl

/-! ### numbers depend on the float configuration only

The number scanners read `fast` and `pow10` of the configuration and no option: the part of the frame
theorem (Frame.lean) that is about numbers, used by the `C08_frame_*` here and in the files above. -/

/-- The two configurations agree on everything the number parser looks at. -/
def NumCfgEq (c1 c2 : Cfg) : Prop := c1.fast = c2.fast ∧ c1.pow10 = c2.pow10

theorem f64FromParts_congr {c1 c2 : Cfg} (h : NumCfgEq c1 c2) :
    f64FromParts c1 = f64FromParts c2 := by
  funext pos sig e
  simp only [f64FromParts, h.1, h.2]

theorem exponentLoop_congr {c1 c2 : Cfg} (h : NumCfgEq c1 c2) (pos : Bool) (sig : Nat)
    (startExp : Int) (posExp : Bool) (fuel : Nat) :
    exponentLoop c1 pos sig startExp posExp fuel = exponentLoop c2 pos sig startExp posExp fuel := by
  induction fuel with
  | zero => funext e; rfl
  | succ f ih =>
    funext e
    simp only [exponentLoop, ih, f64FromParts_congr h]

theorem parseExponent_congr {c1 c2 : Cfg} (h : NumCfgEq c1 c2) :
    parseExponent c1 = parseExponent c2 := by
  funext fuel pos sig startExp
  simp only [parseExponent, exponentLoop_congr h]

theorem parseDecimal_congr {c1 c2 : Cfg} (h : NumCfgEq c1 c2) :
    parseDecimal c1 = parseDecimal c2 := by
  funext fuel pos sig e
  simp only [parseDecimal, parseExponent_congr h, f64FromParts_congr h]

theorem parseLongInteger_congr {c1 c2 : Cfg} (h : NumCfgEq c1 c2) (radix : Nat) (pos : Bool)
    (sig : Nat) (fuel : Nat) :
    parseLongInteger c1 radix pos sig fuel = parseLongInteger c2 radix pos sig fuel := by
  induction fuel with
  | zero => funext e; rfl
  | succ f ih =>
    funext e
    simp only [parseLongInteger, ih, f64FromParts_congr h, parseDecimal_congr h,
      parseExponent_congr h]

theorem parseNumTail_congr {c1 c2 : Cfg} (h : NumCfgEq c1 c2) :
    parseNumTail c1 = parseNumTail c2 := by
  funext fuel radix pos sig
  simp only [parseNumTail, parseDecimal_congr h, parseExponent_congr h]

theorem numLoop_congr {c1 c2 : Cfg} (h : NumCfgEq c1 c2) (radix : Nat) (pos : Bool) (fuel : Nat) :
    numLoop c1 radix pos fuel = numLoop c2 radix pos fuel := by
  induction fuel with
  | zero => funext e; rfl
  | succ f ih =>
    funext e
    simp only [numLoop, ih, parseNumTail_congr h, parseLongInteger_congr h]

theorem parseNumLiteral_congr {c1 c2 : Cfg} (h : NumCfgEq c1 c2) :
    parseNumLiteral c1 = parseNumLiteral c2 := by
  funext fuel radix pos
  simp only [parseNumLiteral, numLoop_congr h]

theorem parseNumToken_congr {c1 c2 : Cfg} (h : NumCfgEq c1 c2) :
    parseNumToken c1 = parseNumToken c2 := by
  funext fuel pos
  simp only [parseNumToken, parseNumLiteral_congr h]

theorem wholeNumber_congr {c1 c2 : Cfg} (h : NumCfgEq c1 c2) :
    wholeNumber c1 = wholeNumber c2 := by
  funext sym
  simp only [wholeNumber, parseNumLiteral_congr h]

/-! the radix literals and the byte-vector reader, which reads its elements with them -/

theorem parseRadixLiteral_congr {c1 c2 : Cfg} (h : NumCfgEq c1 c2) :
    parseRadixLiteral c1 = parseRadixLiteral c2 := by
  funext fuel radix
  simp only [parseRadixLiteral, parseNumLiteral_congr h]

theorem parseRadixToken_congr {c1 c2 : Cfg} (h : NumCfgEq c1 c2) :
    parseRadixToken c1 = parseRadixToken c2 := by
  funext fuel radix
  simp only [parseRadixToken, parseRadixLiteral_congr h]

theorem parseNumber_congr {c1 c2 : Cfg} (h : NumCfgEq c1 c2) : parseNumber c1 = parseNumber c2 := by
  funext fuel
  simp only [parseNumber, parseRadixLiteral_congr h]

theorem byteListLoop_congr {c1 c2 : Cfg} (h : NumCfgEq c1 c2) (close : UInt8) (fuel : Nat) :
    byteListLoop c1 close fuel = byteListLoop c2 close fuel := by
  induction fuel with
  | zero => funext acc; rfl
  | succ f ih =>
    funext acc
    simp only [byteListLoop, ih, parseNumber_congr h]

theorem parseByteList_congr {c1 c2 : Cfg} (h : NumCfgEq c1 c2) :
    parseByteList c1 = parseByteList c2 := by
  funext fuel close
  simp only [parseByteList, byteListLoop_congr h]

/-- `parseWhitespace_token` on a slice -/
theorem parseWhitespace_nontrivia (s : St) (b : UInt8) (x : List UInt8)
    (hm : s.rd.mode = .slice) (hs : s.rd.rest = b :: x) (h59 : b ≠ 59) (ht : isTrivia b = false) :
    parseWhitespace s = .ok (some b) (s.adv 0) := by
  rw [parseWhitespace_token s b x hs ht h59, hm, sadv_eq]
  rfl

theorem comma_plain (cfg : Cfg) (fuel : Nat) (s : St) (x : List UInt8)
    (hm : s.rd.mode = .slice) (hf : s.rd.faulty = false) (hs : s.rd.rest = 44 :: x)
    (hx : x.head? ≠ some 64) :
    parseToken cfg fuel 44 s = .ok (.quotation .unquote) (s.adv 1) := by
  rw [parseToken_eq]
  show commaArm s = _
  rw [commaArm, discard_bind _ s 44 _ hs]
  cases x with
  | nil => simp [peekOrNull, peek_adv s 1 hm hf, hs]
  | cons b bs =>
    have : b ≠ 64 := by simpa using hx
    simp [peekOrNull, peek_adv s 1 hm hf, hs, this]

/-- The quotation arm of `next_value`: a shorthand token of `k` bytes at the head of the input,
    then the quoted value (one unit of depth is charged while it is read). -/
theorem nextValue_shorthand (cfg : Cfg) (f : Nat) (s s2 : St) (pk : UInt8) (x : List UInt8)
    (q : Quote) (k : Nat) (v : Value)
    (hm : s.rd.mode = .slice) (hf : s.rd.faulty = false) (hd : 2 ≤ s.depth)
    (hs : s.rd.rest = pk :: x) (h59 : pk ≠ 59) (htr : isTrivia pk = false)
    (ht : ∀ fuel (s0 : St), s0.rd.mode = .slice → s0.rd.faulty = false → s0.rd.rest = pk :: x →
      parseToken cfg fuel pk s0 = .ok (.quotation q) (s0.adv k))
    (hv : nextValue cfg f { s.adv k with depth := s.depth - 1 } = .ok (some v) s2) :
    nextValue cfg (f + 1) s =
      .ok (some (Value.list [.symbol q.name, v])) { s2 with depth := s2.depth + 1 } := by
  have hd1 : (s.depth == 0) = false := by simp; omega
  have hd2 : (s.depth - 1 == 0) = false := by simp; omega
  have ht' := ht ((s.adv 0).rd.rest.length + 1) (s.adv 0) (by simp [hm]) (by simp [hf])
    (by simp [hs])
  rw [sadv_adv, Nat.zero_add] at ht'
  rw [nextValue]
  simp only [bind_apply, parseWhitespace_nontrivia s pk x hm hs h59 htr, tokenFuel, ht', enter,
    adv_depth, hd1, hd2, Bool.false_eq_true, ↓reduceIte, attempt, hv, leave, pure_apply]

/-- What may follow a token: nothing, or a symbol terminator. -/
def RestOk (rest : List UInt8) : Prop := rest = [] ∨ ∃ b bs, rest = b :: bs ∧ symTermSlice b = true

/-- A configuration for the examples. -/
def cfgOf (o : Options) : Cfg := { opts := o, isAlphabetic := fun _ => false, pow10 := fun _ => 0 }

theorem sliceAt_init (inp : List UInt8) : SliceAt (initSt .slice inp) inp := ⟨rfl, rfl, rfl⟩

theorem nil_ne_t : asc "nil" ≠ asc "t" := by decide
theorem nil_last : (asc "nil").getLast? ≠ some 58 := by decide
theorem t_last : (asc "t").getLast? ≠ some 58 := by decide

theorem letterTok_frame (o1 o2 : Options) (name : List UInt8)
    (hk : o1.kwPostfix = o2.kwPostfix ∨ name.getLast? ≠ some 58)
    (hn : o1.nil = o2.nil ∨ name ≠ asc "nil") (ht : o1.t = o2.t ∨ name ≠ asc "t") :
    letterTok o1 name = letterTok o2 name := by
  unfold letterTok
  by_cases h1 : name.getLast? = some 58
  · have hk' : o1.kwPostfix = o2.kwPostfix := hk.resolve_right (by simp [h1])
    have n1 : name ≠ asc "nil" := by intro e; subst e; exact nil_last h1
    have n2 : name ≠ asc "t" := by intro e; subst e; exact t_last h1
    simp [h1, hk', n1, n2]
  · by_cases h2 : name = asc "nil"
    · have hn' : o1.nil = o2.nil := hn.resolve_right (by simp [h2])
      subst h2
      simp [nil_last, nil_ne_t, hn']
    · by_cases h3 : name = asc "t"
      · have ht' : o1.t = o2.t := ht.resolve_right (by simp [h3])
        subst h3
        simp [t_last, Ne.symm nil_ne_t, ht']
      · simp [h1, h2, h3]

theorem letter_frame (c1 c2 : Cfg) (fuel : Nat) (pk : UInt8) (name rest : List UInt8) (s : St)
    (ht : IsToken name rest) (hs : SliceAt s (name ++ rest)) (hpk : name.head? = some pk)
    (hl : isAsciiAlpha pk = true)
    (hk : c1.opts.kwPostfix = c2.opts.kwPostfix ∨ name.getLast? ≠ some 58)
    (hn : c1.opts.nil = c2.opts.nil ∨ name ≠ asc "nil")
    (htt : c1.opts.t = c2.opts.t ∨ name ≠ asc "t") :
    parseToken c1 fuel pk s = parseToken c2 fuel pk s := by
  rw [letter_tok c1 fuel pk name rest s ht hs hpk hl, letter_tok c2 fuel pk name rest s ht hs hpk hl,
    letterTok_frame c1.opts c2.opts name hk hn htt]

/-- `symLen` on a token: the scanner stops exactly at the end of the name. -/
theorem C08_symLen (name rest : List UInt8) (h : IsBody name rest) :
    symLen .slice (name ++ rest) = name.length := symLen_body name rest h

/-- `parse_symbol_bytes` on a token returns the scratch prefix followed by the name and leaves
    the input at `rest`; the name is not the lone dot. -/
theorem C08_parseSymbolBytes (scratch name rest : List UInt8) (s : St)
    (ht : IsToken name rest) (hs : SliceAt s (name ++ rest))
    (hv : Utf8.valid scratch = true) (hdot : scratch ++ name ≠ [46]) :
    ∃ s', parseSymbolBytes scratch s = .ok (scratch ++ name) s' ∧ s'.rd.rest = rest ∧
      s' = s.adv name.length := by
  refine ⟨_, parseSymbolBytes_body scratch name rest s ht.toIsBody hs
    (Utf8.valid_append hv ht.utf8) hdot, ?_, rfl⟩
  simp [hs.rest]

example : IsToken (asc "foo:") (asc " x") ∧ asc "#%" ++ asc "foo:" ≠ [46] :=
  ⟨⟨⟨by decide, .inr ⟨32, asc "x", rfl, rfl⟩⟩, by decide, by decide⟩, by decide⟩

/-- `symbol_token` yields a keyword exactly for postfix-keyword syntax on a name of at least
    two bytes that ends in a colon. -/
theorem C08_symbol_token_spec (o : Options) (name k : List UInt8) :
    symbolToken o name = .keyword k ↔
      o.kwPostfix = true ∧ name.length > 1 ∧ name.getLast? = some 58 ∧ k = name.dropLast :=
  symbolToken_keyword o name k

example : symbolToken { Options.default with kwPostfix := true } (asc "a:") = .keyword (asc "a") :=
  by rfl

/-- A letter-initial token, for every option set: the closed form `letterTok`, and the input
    is left at `rest`. -/
theorem C08_letter (cfg : Cfg) (fuel : Nat) (pk : UInt8) (name rest : List UInt8) (s : St)
    (ht : IsToken name rest) (hs : SliceAt s (name ++ rest)) (hpk : name.head? = some pk)
    (hl : isAsciiAlpha pk = true) :
    ∃ s', parseToken cfg fuel pk s = .ok
        (if cfg.opts.kwPostfix = true ∧ name.getLast? = some 58 then .keyword name.dropLast
         else if cfg.opts.nil ≠ .default ∧ name = asc "nil" then
           (match cfg.opts.nil with | .emptyList => .null | _ => .nil)
         else if cfg.opts.t ≠ .default ∧ name = asc "t" then .bool true
         else .symbol name) s' ∧
      s'.rd.rest = rest ∧ s' = s.adv name.length := by
  refine ⟨_, letter_tok cfg fuel pk name rest s ht hs hpk hl, ?_, rfl⟩
  simp [hs.rest]

example : IsToken (asc "nil:") (asc ")") ∧ (asc "nil:").head? = some 110 ∧
    isAsciiAlpha 110 = true :=
  ⟨⟨⟨by decide, .inr ⟨41, [], rfl, rfl⟩⟩, by decide, by decide⟩, by decide, by decide⟩

/-- The three readings of `nil`; neither `kwPostfix` nor `t` nor any other option matters. -/
theorem C08_nil (cfg : Cfg) (fuel : Nat) (rest : List UInt8) (s : St) (hr : RestOk rest)
    (hs : SliceAt s (asc "nil" ++ rest)) :
    parseToken cfg fuel 110 s = .ok
      (match cfg.opts.nil with
       | .default => .symbol (asc "nil")
       | .emptyList => .null
       | .special => .nil) (s.adv 3) := by
  rw [letter_tok cfg fuel 110 (asc "nil") rest s ⟨⟨by decide, hr⟩, by decide, by decide⟩ hs
    (by decide) (by decide)]
  show Res.ok (letterTok cfg.opts (asc "nil")) (s.adv 3) = _
  cases h : cfg.opts.nil <;> simp [letterTok, nil_last, h, nil_ne_t]

example : RestOk (asc " nil") := .inr ⟨32, asc "nil", rfl, rfl⟩

/-- A letter-initial token other than `nil` (for instance `nil:` or `nilx`) is not affected by
    the `nil` option. -/
theorem C08_nil_frame (c1 c2 : Cfg) (fuel : Nat) (pk : UInt8) (name rest : List UInt8) (s : St)
    (ht : IsToken name rest) (hs : SliceAt s (name ++ rest)) (hpk : name.head? = some pk)
    (hl : isAsciiAlpha pk = true) (hne : name ≠ asc "nil")
    (hk : c1.opts.kwPostfix = c2.opts.kwPostfix) (htt : c1.opts.t = c2.opts.t) :
    parseToken c1 fuel pk s = parseToken c2 fuel pk s :=
  letter_frame c1 c2 fuel pk name rest s ht hs hpk hl (.inl hk) (.inr hne) (.inl htt)

example : asc "nil:" ≠ asc "nil" ∧ asc "nilx" ≠ asc "nil" := by decide

/-- The two readings of `t`. -/
theorem C08_t (cfg : Cfg) (fuel : Nat) (rest : List UInt8) (s : St) (hr : RestOk rest)
    (hs : SliceAt s (asc "t" ++ rest)) :
    parseToken cfg fuel 116 s = .ok
      (match cfg.opts.t with
       | .default => .symbol (asc "t")
       | .true_ => .bool true) (s.adv 1) := by
  rw [letter_tok cfg fuel 116 (asc "t") rest s ⟨⟨by decide, hr⟩, by decide, by decide⟩ hs
    (by decide) (by decide)]
  show Res.ok (letterTok cfg.opts (asc "t")) (s.adv 1) = _
  cases h : cfg.opts.t <;> simp [letterTok, t_last, Ne.symm nil_ne_t, h]

/-- A letter-initial token other than `t` is not affected by the `t` option. -/
theorem C08_t_frame (c1 c2 : Cfg) (fuel : Nat) (pk : UInt8) (name rest : List UInt8) (s : St)
    (ht : IsToken name rest) (hs : SliceAt s (name ++ rest)) (hpk : name.head? = some pk)
    (hl : isAsciiAlpha pk = true) (hne : name ≠ asc "t")
    (hk : c1.opts.kwPostfix = c2.opts.kwPostfix) (hn : c1.opts.nil = c2.opts.nil) :
    parseToken c1 fuel pk s = parseToken c2 fuel pk s :=
  letter_frame c1 c2 fuel pk name rest s ht hs hpk hl (.inl hk) (.inl hn) (.inr hne)

/-- A letter-initial token that ends in a colon is a keyword (without the colon) exactly under
    `kwPostfix`, and the symbol `name` otherwise, whatever `nil` and `t` say. -/
theorem C08_colon_postfix (cfg : Cfg) (fuel : Nat) (pk : UInt8) (name rest : List UInt8) (s : St)
    (ht : IsToken name rest) (hs : SliceAt s (name ++ rest)) (hpk : name.head? = some pk)
    (hl : isAsciiAlpha pk = true) (hc : name.getLast? = some 58) :
    parseToken cfg fuel pk s =
      .ok (if cfg.opts.kwPostfix = true then .keyword name.dropLast else .symbol name)
        (s.adv name.length) := by
  rw [letter_tok cfg fuel pk name rest s ht hs hpk hl]
  have n1 : name ≠ asc "nil" := by intro e; subst e; exact nil_last hc
  have n2 : name ≠ asc "t" := by intro e; subst e; exact t_last hc
  simp [letterTok, hc, n1, n2]

/-- A letter-initial token that does not end in a colon is not affected by `kwPostfix`. -/
theorem C08_colon_postfix_frame (c1 c2 : Cfg) (fuel : Nat) (pk : UInt8) (name rest : List UInt8)
    (s : St) (ht : IsToken name rest) (hs : SliceAt s (name ++ rest))
    (hpk : name.head? = some pk) (hl : isAsciiAlpha pk = true) (hc : name.getLast? ≠ some 58)
    (hn : c1.opts.nil = c2.opts.nil) (htt : c1.opts.t = c2.opts.t) :
    parseToken c1 fuel pk s = parseToken c2 fuel pk s :=
  letter_frame c1 c2 fuel pk name rest s ht hs hpk hl (.inr hc) (.inl hn) (.inl htt)

/-- Letter-initial tokens depend on `kwPostfix`, `nil` and `t` only. -/
theorem C08_frame_letter (c1 c2 : Cfg) (fuel : Nat) (pk : UInt8) (name rest : List UInt8) (s : St)
    (ht : IsToken name rest) (hs : SliceAt s (name ++ rest)) (hpk : name.head? = some pk)
    (hl : isAsciiAlpha pk = true) (hk : c1.opts.kwPostfix = c2.opts.kwPostfix)
    (hn : c1.opts.nil = c2.opts.nil) (htt : c1.opts.t = c2.opts.t) :
    parseToken c1 fuel pk s = parseToken c2 fuel pk s :=
  letter_frame c1 c2 fuel pk name rest s ht hs hpk hl (.inl hk) (.inl hn) (.inl htt)

/-- A token that starts with `:`.  With prefix keywords it is the keyword named by the
    remainder (which may be empty, but must not be the lone dot); otherwise `symbol_token`
    decides. -/
theorem C08_colon_prefix (cfg : Cfg) (fuel : Nat) (tl rest : List UInt8) (s : St)
    (ht : IsToken (58 :: tl) rest) (hs : SliceAt s (58 :: tl ++ rest)) (hdot : tl ≠ [46]) :
    parseToken cfg fuel 58 s =
      .ok (if cfg.opts.kwPrefix = true then .keyword tl else symbolToken cfg.opts (58 :: tl))
        (s.adv (tl.length + 1)) := by
  have hF := follow_of_term ht.restOk
  have hn : ∀ b ∈ tl, symTermSlice b = false := fun b hb => ht.noTerm b (by simp [hb])
  cases hk : cfg.opts.kwPrefix
  · rw [colon_noprefix_arm cfg fuel tl rest s hk hs.rest hF (fun _ => hs.faulty) hn (.inr ht.utf8),
      adv_slice _ _ _ hs.mode]
    rfl
  · rw [colon_prefix_arm cfg fuel tl rest s hk hs.rest hF (fun _ => hs.faulty) hn hdot
      (.inr (valid_tail58 tl ht.utf8)), adv_slice _ _ _ hs.mode]
    rfl

/-- `:.` under prefix keywords is an error (the name after the colon is the lone dot). -/
theorem C08_colon_prefix_dot (cfg : Cfg) (fuel : Nat) (rest : List UInt8) (s : St)
    (hr : RestOk rest) (hs : SliceAt s (58 :: 46 :: rest)) (hk : cfg.opts.kwPrefix = true) :
    ∃ l c, parseToken cfg fuel 58 s =
      .err (.syntax (if rest = [] then .eofValue else .invalidSymbol) l c) (s.adv 2) := by
  have hs1 : SliceAt (s.adv 1) ([46] ++ rest) := SliceAt.adv (a := [58]) hs
  rw [parseToken_eq]
  show ∃ l c, colonArm cfg.opts s = _
  rw [colonArm, if_pos hk, discard_bind _ s 58 _ hs.rest]
  simp only [parseSymbolBytes, bind_apply, getRest_eq, getMode_eq, hs1.mode, hs1.rest,
    symLen_body [46] rest ⟨by decide, hr⟩, consumeN_eq, List.take_left', sadv_adv]
  simp only [List.length_cons, List.length_nil, peek_adv s 2 hs.mode hs.faulty, hs.rest]
  cases rest <;> simp [errAt, invalidDot]

example : IsToken (asc ":key") [] ∧ asc "key" ≠ [46] :=
  ⟨⟨⟨by decide, .inl rfl⟩, by decide, by decide⟩, by decide⟩

/-- `(`, `'`, `` ` `` and `,` consult no option at all. -/
theorem C08_frame_punct (c1 c2 : Cfg) (fuel : Nat) (pk : UInt8)
    (h : pk = 40 ∨ pk = 39 ∨ pk = 96 ∨ pk = 44) :
    parseToken c1 fuel pk = parseToken c2 fuel pk := by
  rw [parseToken_eq, parseToken_eq]
  rcases h with rfl | rfl | rfl | rfl <;> rfl

/-- What `(`, `'`, `` ` ``, `,@` and `,` read as. -/
theorem C08_punct (cfg : Cfg) (fuel : Nat) (s : St) (x : List UInt8)
    (hm : s.rd.mode = .slice) (hf : s.rd.faulty = false) :
    (s.rd.rest = 40 :: x → parseToken cfg fuel 40 s = .ok (.listOpen 41) (s.adv 1)) ∧
    (s.rd.rest = 39 :: x → parseToken cfg fuel 39 s = .ok (.quotation .quote) (s.adv 1)) ∧
    (s.rd.rest = 96 :: x → parseToken cfg fuel 96 s = .ok (.quotation .quasiquote) (s.adv 1)) ∧
    (s.rd.rest = 44 :: 64 :: x →
      parseToken cfg fuel 44 s = .ok (.quotation .unquoteSplicing) (s.adv 2)) ∧
    (s.rd.rest = 44 :: x → x.head? ≠ some 64 →
      parseToken cfg fuel 44 s = .ok (.quotation .unquote) (s.adv 1)) := by
  simp only [sadv_eq]
  exact ⟨fixedTok_reads cfg fuel s [40] x (fixedTok_mem 0 rfl) (by decide),
    fixedTok_reads cfg fuel s [39] x (fixedTok_mem 2 rfl) (by decide),
    fixedTok_reads cfg fuel s [96] x (fixedTok_mem 3 rfl) (by decide),
    fixedTok_reads cfg fuel s [44, 64] x (fixedTok_mem 5 rfl) (by decide),
    by simpa only [sadv_eq] using comma_plain cfg fuel s x hm hf⟩

/-- `[` consults `brackets` only, and reads as the corresponding opening token. -/
theorem C08_frame_bracket (c1 c2 : Cfg) (fuel : Nat)
    (h : c1.opts.brackets = c2.opts.brackets) :
    parseToken c1 fuel 91 = parseToken c2 fuel 91 := by
  rw [parseToken_eq, parseToken_eq]
  show punct (bracketTok c1.opts.brackets) = punct (bracketTok c2.opts.brackets)
  rw [h]

theorem C08_bracket (cfg : Cfg) (fuel : Nat) (s : St) (x : List UInt8)
    (hs : s.rd.rest = 91 :: x) :
    parseToken cfg fuel 91 s =
      .ok (match cfg.opts.brackets with | .vector => .vecOpen 93 | .list => .listOpen 93)
        (s.adv 1) := by
  rw [sadv_eq]
  exact fixedTok_reads cfg fuel s [91] x (fixedTok_mem 1 rfl) (by decide) hs

/-- `"` consults `string` only. -/
theorem C08_frame_string (c1 c2 : Cfg) (fuel : Nat) (h : c1.opts.string = c2.opts.string) :
    parseToken c1 fuel 34 = parseToken c2 fuel 34 := by
  rw [parseToken_eq, parseToken_eq]
  show stringArm c1.opts.string fuel = stringArm c2.opts.string fuel
  rw [h]

/-- `?` consults `char`, and when that is not Emacs Lisp also `kwPostfix` (the token is then a
    symbol read by `symbol_token`). -/
theorem C08_frame_qmark (c1 c2 : Cfg) (fuel : Nat) (hc : c1.opts.char = c2.opts.char)
    (hk : c1.opts.char = .elisp ∨ c1.opts.kwPostfix = c2.opts.kwPostfix) :
    parseToken c1 fuel 63 = parseToken c2 fuel 63 := by
  cases h : c1.opts.char
  · have h1 : (63 : UInt8) = 63 → c1.opts.char ≠ .elisp := by intro _; rw [h]; decide
    rw [parseToken_ext c1 fuel 63 (by decide) (by decide) h1,
      parseToken_ext c2 fuel 63 (by decide) (by decide) (hc ▸ h1)]
    exact symArm_congr _ _ _ (hk.resolve_left (by rw [h]; decide))
  · rw [parseToken_qmark c1 fuel h, parseToken_qmark c2 fuel (by rw [← hc, h])]

/-- `#%` consults `racket` only. -/
theorem C08_frame_hash_percent (c1 c2 : Cfg) (fuel : Nat) (s : St) (x : List UInt8)
    (hs : s.rd.rest = 35 :: 37 :: x) (h : c1.opts.racket = c2.opts.racket) :
    parseToken c1 fuel 35 s = parseToken c2 fuel 35 s := by
  rw [parseToken_hash c1 fuel 37 x s hs, parseToken_hash c2 fuel 37 x s hs, hashTail_percent,
    hashTail_percent, h]

/-- `#%name`: the symbol `#%name` under `racket`, an error otherwise. -/
theorem C08_hash_percent (cfg : Cfg) (fuel : Nat) (s : St) (name rest : List UInt8)
    (hb : IsBody name rest) (hv : Utf8.valid name = true)
    (hs : SliceAt s (35 :: 37 :: name ++ rest)) :
    parseToken cfg fuel 35 s =
      if cfg.opts.racket = true then .ok (.symbol (asc "#%" ++ name)) (s.adv (name.length + 2))
      else .err (.syntax .expectedSomeIdent (s.adv 2).rd.peekPosition.line
        (s.adv 2).rd.peekPosition.col) (s.adv 2) := by
  rw [hash_name_rows cfg fuel 37 _ _ _ (hashTail_percent cfg fuel) name rest s hs.rest
    (follow_of_term hb.restOk) (fun _ => hs.faulty) hb.noTerm (by simp [asc, ch])
    (.inr (Utf8.valid_append (by decide) hv)), adv_slice _ _ _ hs.mode, ← sadv_eq]
  rfl

/-- Digit-initial input consults `leadingDigit` and `kwPostfix` only (and the float
    configuration of the build). -/
theorem C08_frame_digit (c1 c2 : Cfg) (fuel : Nat) (pk : UInt8) (hd : isDigit pk = true)
    (hn : c1.fast = c2.fast ∧ c1.pow10 = c2.pow10)
    (h1 : c1.opts.leadingDigit = c2.opts.leadingDigit)
    (h2 : c1.opts.kwPostfix = c2.opts.kwPostfix) :
    parseToken c1 fuel pk = parseToken c2 fuel pk := by
  have hn' : NumCfgEq c1 c2 := hn
  rw [parseToken_eq, parseToken_eq, tokClass_digit hd]
  simp only [tokArm, h1, wholeArm, numArm, parseNumToken_congr hn', wholeNumber_congr hn',
    symbolToken, h2]

/-- A digit-initial token under `leadingDigit`: a number if the whole token is a decimal
    literal, else what `symbol_token` makes of it; without `leadingDigit` the number parser
    runs. -/
theorem C08_digit (cfg : Cfg) (fuel : Nat) (pk : UInt8) (name rest : List UInt8) (s : St)
    (ht : IsToken name rest) (hs : SliceAt s (name ++ rest)) (hpk : name.head? = some pk)
    (hd : isDigit pk = true) :
    parseToken cfg fuel pk s =
      if cfg.opts.leadingDigit = true then
        .ok (match wholeNumber cfg name with
             | some n => .number n
             | none => symbolToken cfg.opts name) (s.adv name.length)
      else (do let n ← parseNumToken cfg fuel true; pure (.number n) : P Token) s := by
  obtain ⟨tl, rfl⟩ := C08.cons_of_head_some hpk
  rw [digit_rows cfg fuel pk tl rest s hd ht.noTerm (.inr ht.utf8) hs.rest
    (follow_of_term ht.restOk) (fun _ => hs.faulty), adv_slice _ _ _ hs.mode]
  rfl

/-- The quotation shorthands: `'x`, `` `x``, `,@x` and `,x` read as the two-element list
    `(quote x)` etc. whenever the rest reads as `x` (one unit of depth is charged while it is
    read, so at least two must remain). -/
theorem C08_quote_shorthand (cfg : Cfg) (f : Nat) (s s2 : St) (x : List UInt8) (v : Value)
    (hm : s.rd.mode = .slice) (hf : s.rd.faulty = false) (hd : 2 ≤ s.depth) :
    (s.rd.rest = 39 :: x →
      nextValue cfg f { s.adv 1 with depth := s.depth - 1 } = .ok (some v) s2 →
      nextValue cfg (f + 1) s =
        .ok (some (Value.list [.symbol (asc "quote"), v])) { s2 with depth := s2.depth + 1 }) ∧
    (s.rd.rest = 96 :: x →
      nextValue cfg f { s.adv 1 with depth := s.depth - 1 } = .ok (some v) s2 →
      nextValue cfg (f + 1) s =
        .ok (some (Value.list [.symbol (asc "quasiquote"), v]))
          { s2 with depth := s2.depth + 1 }) ∧
    (s.rd.rest = 44 :: 64 :: x →
      nextValue cfg f { s.adv 2 with depth := s.depth - 1 } = .ok (some v) s2 →
      nextValue cfg (f + 1) s =
        .ok (some (Value.list [.symbol (asc "unquote-splicing"), v]))
          { s2 with depth := s2.depth + 1 }) ∧
    (s.rd.rest = 44 :: x → x.head? ≠ some 64 →
      nextValue cfg f { s.adv 1 with depth := s.depth - 1 } = .ok (some v) s2 →
      nextValue cfg (f + 1) s =
        .ok (some (Value.list [.symbol (asc "unquote"), v])) { s2 with depth := s2.depth + 1 }) := by
  have hp := fun (fuel : Nat) (s0 : St) => C08_punct cfg fuel s0 x
  exact ⟨fun hs hv => nextValue_shorthand cfg f s s2 39 x .quote 1 v hm hf hd hs (by decide)
      (by decide) (fun fuel s0 h1 h2 => (hp fuel s0 h1 h2).2.1) hv,
    fun hs hv => nextValue_shorthand cfg f s s2 96 x .quasiquote 1 v hm hf hd hs (by decide)
      (by decide) (fun fuel s0 h1 h2 => (hp fuel s0 h1 h2).2.2.1) hv,
    fun hs hv => nextValue_shorthand cfg f s s2 44 (64 :: x) .unquoteSplicing 2 v hm hf hd hs
      (by decide) (by decide) (fun fuel s0 h1 h2 => (hp fuel s0 h1 h2).2.2.2.1) hv,
    fun hs hx hv => nextValue_shorthand cfg f s s2 44 x .unquote 1 v hm hf hd hs (by decide)
      (by decide) (fun fuel s0 h1 h2 h3 => (hp fuel s0 h1 h2).2.2.2.2 h3 hx) hv⟩

/-- `?` followed by a plain ASCII byte starts a character exactly under Emacs Lisp character
    syntax; otherwise the token is a symbol (or postfix keyword) that starts with `?`. -/
theorem C08_elisp_char (cfg : Cfg) (fuel : Nat) (b : UInt8) (tl rest : List UInt8) (s : St)
    (ht : IsToken (63 :: b :: tl) rest) (hs : SliceAt s (63 :: b :: tl ++ rest))
    (hb : b ≤ 127) (h92 : b ≠ 92) :
    parseToken cfg fuel 63 s =
      if cfg.opts.char = .elisp then .ok (.char b.toNat) (s.adv 2)
      else .ok (symbolToken cfg.opts (63 :: b :: tl)) (s.adv (tl.length + 2)) := by
  cases h : cfg.opts.char
  · exact extended_tok cfg fuel 63 (63 :: b :: tl) rest s ht hs rfl (by decide) (by decide)
      (by intro _; rw [h]; decide) (by simp)
  · have hb' : symTermSlice b = false := ht.noTerm b (by simp)
    have hne : b ≠ 40 ∧ b ≠ 41 ∧ b ≠ 91 ∧ b ≠ 93 ∧ b ≠ 59 ∧ b ≠ 92 := by
      refine ⟨?_, ?_, ?_, ?_, ?_, h92⟩ <;> (intro e; subst e; revert hb'; decide)
    have hb'' : ¬ (b > 127) := fun h' => absurd hb (UInt8.not_le.mpr h')
    rw [parseToken_qmark cfg fuel h, charArm, discard_bind _ s 63 _ hs.rest]
    simp [parseElispChar, C08.next_cons (s.adv 1) b (tl ++ rest) (by simp [hs.rest]), hb'', hne,
      sadv_adv]

/-- Under Emacs Lisp character syntax `?` never starts a symbol or keyword: whatever follows,
    a successful result is a character. -/
theorem C08_elisp_char_only (cfg : Cfg) (fuel : Nat) (h : cfg.opts.char = .elisp) (s s' : St)
    (tok : Token) (hr : parseToken cfg fuel 63 s = .ok tok s') : ∃ c, tok = .char c := by
  rw [parseToken_qmark cfg fuel h] at hr
  obtain ⟨_, s1, _, hr⟩ := bind_ok hr
  obtain ⟨c, s2, _, hr⟩ := bind_ok hr
  exact ⟨c, (Res.ok.inj hr).1.symm⟩

/-- Any other token that starts with an extended symbol character `!$%&*./<=>?@^_~` (for `?`:
    when characters are not Emacs Lisp) is read by `symbol_token`: only `kwPostfix` matters. -/
theorem C08_extended (cfg : Cfg) (fuel : Nat) (pk : UInt8) (name rest : List UInt8) (s : St)
    (ht : IsToken name rest) (hs : SliceAt s (name ++ rest)) (hpk : name.head? = some pk)
    (he : isSymbolExtended pk = true) (h58 : pk ≠ 58)
    (hq : pk = 63 → cfg.opts.char ≠ .elisp) (hdot : name ≠ [46]) :
    parseToken cfg fuel pk s = .ok (symbolToken cfg.opts name) (s.adv name.length) :=
  extended_tok cfg fuel pk name rest s ht hs hpk he h58 hq hdot

/-- `char` alone does not determine how `?:` reads: with R6RS characters `kwPostfix` matters. -/
theorem C08_qmark_needs_kwPostfix :
    ∃ (c1 c2 : Cfg) (s : St), c1.opts.char = c2.opts.char ∧
      parseToken c1 3 63 s ≠ parseToken c2 3 63 s := by
  refine ⟨cfgOf Options.default, cfgOf { Options.default with kwPostfix := true },
    initSt .slice (asc "?:"), rfl, ?_⟩
  have ht : IsToken (asc "?:") [] := ⟨⟨by decide, .inl rfl⟩, by decide, by decide⟩
  have e := fun cfg hq => extended_tok cfg 3 63 (asc "?:") [] (initSt .slice (asc "?:")) ht
    ⟨rfl, rfl, rfl⟩ rfl (by decide) (by decide) hq (by decide)
  rw [e _ (by intro _; decide), e _ (by intro _; decide)]
  intro h
  injection h with h _
  rw [show symbolToken (cfgOf Options.default).opts (asc "?:") = .symbol (asc "?:") from rfl] at h
  cases h

/-! ### instances: the hypotheses are satisfiable and the closed forms compute -/

example : IsBody (asc "foo") (asc ")") ∧ symLen .slice (asc "foo" ++ asc ")") = 3 :=
  ⟨⟨by decide, .inr ⟨41, [], rfl, rfl⟩⟩, C08_symLen _ _ ⟨by decide, .inr ⟨41, [], rfl, rfl⟩⟩⟩

example : parseToken (cfgOf Options.elisp) 5 110 (initSt .slice (asc "nil" ++ asc ")")) =
    .ok .null ((initSt .slice (asc "nil" ++ asc ")")).adv 3) :=
  C08_nil (cfgOf Options.elisp) 5 (asc ")") _ (.inr ⟨41, [], rfl, rfl⟩) (sliceAt_init _)

example : parseToken (cfgOf { Options.default with t := .true_ }) 2 116
      (initSt .slice (asc "t" ++ [])) = .ok (.bool true) ((initSt .slice (asc "t" ++ [])).adv 1) :=
  C08_t (cfgOf { Options.default with t := .true_ }) 2 [] _ (.inl rfl) (sliceAt_init _)

example : IsToken (asc "nilx") [] ∧ (asc "nilx").head? = some 110 ∧ isAsciiAlpha 110 = true ∧
    asc "nilx" ≠ asc "nil" ∧ asc "nilx" ≠ asc "t" ∧ (asc "nilx").getLast? ≠ some 58 :=
  ⟨⟨⟨by decide, .inl rfl⟩, by decide, by decide⟩, by decide, by decide, by decide, by decide,
   by decide⟩

example : parseToken (cfgOf { Options.default with kwPostfix := true }) 5 102
      (initSt .slice (asc "foo:" ++ [])) =
    .ok (.keyword (asc "foo")) ((initSt .slice (asc "foo:" ++ [])).adv 4) :=
  C08_colon_postfix (cfgOf { Options.default with kwPostfix := true }) 5 102 (asc "foo:") [] _
    ⟨⟨by decide, .inl rfl⟩, by decide, by decide⟩ (sliceAt_init _) rfl (by decide) (by decide)

example : Options.default.kwPostfix = Options.elisp.kwPostfix ∧
    Options.default.t = Options.elisp.t ∧
    Options.default.brackets ≠ Options.elisp.brackets ∧
    Options.default.kwPrefix ≠ Options.elisp.kwPrefix := by decide

example : parseToken (cfgOf Options.elisp) 5 58 (initSt .slice (58 :: asc "key" ++ [])) =
    .ok (.keyword (asc "key")) ((initSt .slice (58 :: asc "key" ++ [])).adv 4) :=
  C08_colon_prefix (cfgOf Options.elisp) 5 (asc "key") [] _
    ⟨⟨by decide, .inl rfl⟩, by decide, by decide⟩ (sliceAt_init _) (by decide)

example : RestOk [] ∧ SliceAt (initSt .slice (58 :: 46 :: [])) (58 :: 46 :: []) :=
  ⟨.inl rfl, sliceAt_init _⟩

example : (initSt .slice (asc ",@x")).rd.rest = 44 :: 64 :: asc "x" ∧
    (initSt .slice (asc ",x")).rd.rest = 44 :: asc "x" ∧ (asc "x").head? ≠ some 64 := by decide

example : (initSt .slice (asc "[1]")).rd.rest = 91 :: asc "1]" := by decide

example : parseToken (cfgOf { Options.default with racket := true }) 6 35
      (initSt .slice (35 :: 37 :: asc "app" ++ [])) =
    .ok (.symbol (asc "#%app")) ((initSt .slice (35 :: 37 :: asc "app" ++ [])).adv 5) :=
  C08_hash_percent (cfgOf { Options.default with racket := true }) 6 _ (asc "app") []
    ⟨by decide, .inl rfl⟩ (by decide) (sliceAt_init _)

example : IsToken (asc "1+") (asc " ") ∧ (asc "1+").head? = some 49 ∧ isDigit 49 = true :=
  ⟨⟨⟨by decide, .inr ⟨32, [], rfl, rfl⟩⟩, by decide, by decide⟩, by decide, by decide⟩

/-- `?a` is the character `a` under the Emacs Lisp options and the symbol `?a` otherwise -/
example : parseToken (cfgOf Options.elisp) 3 63 (initSt .slice (63 :: 97 :: [] ++ [])) =
    .ok (.char 97) ((initSt .slice (63 :: 97 :: [] ++ [])).adv 2) :=
  C08_elisp_char (cfgOf Options.elisp) 3 97 [] [] _
    ⟨⟨by decide, .inl rfl⟩, by decide, by decide⟩ (sliceAt_init _) (by decide) (by decide)

example : parseToken (cfgOf Options.default) 3 63 (initSt .slice (63 :: 97 :: [] ++ [])) =
    .ok (.symbol (asc "?a")) ((initSt .slice (63 :: 97 :: [] ++ [])).adv 2) :=
  C08_elisp_char (cfgOf Options.default) 3 97 [] [] _
    ⟨⟨by decide, .inl rfl⟩, by decide, by decide⟩ (sliceAt_init _) (by decide) (by decide)

example : IsToken (asc "...") [] ∧ isSymbolExtended 46 = true ∧ asc "..." ≠ [46] :=
  ⟨⟨⟨by decide, .inl rfl⟩, by decide, by decide⟩, by decide, by decide⟩

example : ∃ s', nextValue (cfgOf Options.default) 2 (initSt .slice (asc "'a")) =
    .ok (some (Value.list [.symbol (asc "quote"), .symbol (asc "a")])) s' := by
  obtain ⟨s2, hv⟩ : ∃ s2, nextValue (cfgOf Options.default) 1
      { (initSt .slice (asc "'a")).adv 1 with depth := (initSt .slice (asc "'a")).depth - 1 } =
      .ok (some (.symbol (asc "a"))) s2 := ⟨_, rfl⟩
  exact ⟨_, (C08_quote_shorthand (cfgOf Options.default) 1 (initSt .slice (asc "'a")) s2 (asc "a")
    (.symbol (asc "a")) rfl rfl (by decide)).1 rfl hv⟩

end Parse
end Lexpr

#print axioms Lexpr.Parse.C08_symLen
#print axioms Lexpr.Parse.C08_parseSymbolBytes
#print axioms Lexpr.Parse.C08_symbol_token_spec
#print axioms Lexpr.Parse.C08_letter
#print axioms Lexpr.Parse.C08_nil
#print axioms Lexpr.Parse.C08_nil_frame
#print axioms Lexpr.Parse.C08_t
#print axioms Lexpr.Parse.C08_t_frame
#print axioms Lexpr.Parse.C08_colon_postfix
#print axioms Lexpr.Parse.C08_colon_postfix_frame
#print axioms Lexpr.Parse.C08_frame_letter
#print axioms Lexpr.Parse.C08_colon_prefix
#print axioms Lexpr.Parse.C08_colon_prefix_dot
#print axioms Lexpr.Parse.C08_frame_punct
#print axioms Lexpr.Parse.C08_punct
#print axioms Lexpr.Parse.C08_frame_bracket
#print axioms Lexpr.Parse.C08_bracket
#print axioms Lexpr.Parse.C08_frame_string
#print axioms Lexpr.Parse.C08_frame_qmark
#print axioms Lexpr.Parse.C08_frame_hash_percent
#print axioms Lexpr.Parse.C08_hash_percent
#print axioms Lexpr.Parse.C08_frame_digit
#print axioms Lexpr.Parse.C08_digit
#print axioms Lexpr.Parse.C08_quote_shorthand
#print axioms Lexpr.Parse.C08_elisp_char
#print axioms Lexpr.Parse.C08_elisp_char_only
#print axioms Lexpr.Parse.C08_extended
#print axioms Lexpr.Parse.C08_qmark_needs_kwPostfix
