/-
  Utf8InputAllEx — C17, input clause for whole inputs under the R6RS string syntax: the
  witnesses, evaluated by the kernel.  The hypotheses of `Utf8InputAll` (value and datum reader) are
  satisfiable and the theorems apply; both hypotheses (no ill-formed comment, R6RS strings) are
  needed.
-/
import LexprModel.Proofs.Utf8InputLoopEx
import LexprModel.Proofs.Utf8InputAll
namespace Lexpr
namespace Parse
namespace InAll
open Utf8 Utf8.U8 Parse.U8 InLoop InTok Image

/-- the hypothesis about comments is necessary: `1;` FF is not valid UTF-8 and is accepted as 1
    (the comment is skipped without being looked at) -/
theorem comment_may_hide_ill_formed_bytes :
    Utf8.valid [0x31, 0x3B, 0xFF] = false ∧
    parsesTo cfgD [0x31, 0x3B, 0xFF] (.number (Number.ofUnsigned 1)) = true := by
  decide +kernel

/-- `(λ "é\x3bb;" #\λ 12 #u8(1 2))`: raw non-ASCII text in a symbol, a string and a character;
    the `;` that ends the hex escape keeps it outside `C17_whole_input_valid_no_comment` -/
def exInput : List UInt8 :=
  [0x28, 0xCE, 0xBB, 0x20, 0x22, 0xC3, 0xA9] ++ asc "\\x3bb" ++ [0x3B] ++ asc "\" #\\" ++ [0xCE, 0xBB] ++
    asc " 12 #u8(1 2))"

def acceptsAll (cfg : Cfg) (mode : Mode) (bytes : List UInt8) : Bool :=
  match fromTrait cfg (initSt mode bytes) with
  | .ok _ _ => true
  | _ => false

theorem acceptsAll_spec {cfg : Cfg} {mode : Mode} {bytes : List UInt8}
    (h : acceptsAll cfg mode bytes = true) : ∃ v S', fromTrait cfg (initSt mode bytes) = .ok v S' := by
  unfold acceptsAll at h
  split at h
  · rename_i v S' heq; exact ⟨v, S', heq⟩
  · cases h

/-- an input with a comment whose trivia are well-formed: `(a ; é` LF `b)` -/
def exInputComment : List UInt8 := asc "(a ; " ++ [0xC3, 0xA9, 0x0A] ++ asc "b)"

theorem ex_accepts :
    acceptsAll cfgD .slice [0x28, 0xCE, 0xBB, 0x20, 0x22, 0xC3, 0xA9, 0x22, 0x20, 0x23, 0x5C, 0xCE, 0xBB,
      0x20, 0x31, 0x32, 0x20, 0x23, 0x75, 0x38, 0x28, 0x31, 0x20, 0x32, 0x29, 0x29] = true ∧
    acceptsAll cfgD .io [0x28, 0xCE, 0xBB, 0x20, 0x22, 0xC3, 0xA9, 0x22, 0x20, 0x23, 0x5C, 0xCE, 0xBB,
      0x20, 0x31, 0x32, 0x20, 0x23, 0x75, 0x38, 0x28, 0x31, 0x20, 0x32, 0x29, 0x29] = true ∧
    acceptsAll cfgD .slice exInputComment = true := by
  decide +kernel

/-- `C17_whole_input_valid_no_comment` applies to `(λ "é" #\λ 12 #u8(1 2))` (no `;` in it) -/
example : Utf8.valid [0x28, 0xCE, 0xBB, 0x20, 0x22, 0xC3, 0xA9, 0x22, 0x20, 0x23, 0x5C, 0xCE, 0xBB,
      0x20, 0x31, 0x32, 0x20, 0x23, 0x75, 0x38, 0x28, 0x31, 0x20, 0x32, 0x29, 0x29] = true := by
  obtain ⟨v, S', h⟩ := acceptsAll_spec ex_accepts.1
  exact C17_whole_input_valid_no_comment h rfl (by decide) (by decide)

/-- the input with a comment meets the hypothesis of the general theorem: its trivia are
    well-formed because the whole of it is -/
example : TV exInputComment := TV.of_valid (by decide +kernel)

/-- ill-formed input without comments is rejected wherever the bad byte stands: in a symbol, a
    string, a character, between tokens, inside a byte vector, at the very end -/
example :
    acceptsAll cfgD .slice [0x28, 0x61, 0xFF, 0x29] = false ∧
    acceptsAll cfgD .slice [0x22, 0xC3, 0x22] = false ∧
    acceptsAll cfgD .slice [0x23, 0x5C, 0xC3, 0x28, 0x29] = false ∧
    acceptsAll cfgD .slice [0x28, 0x61, 0x20, 0x80, 0x20, 0x62, 0x29] = false ∧
    acceptsAll cfgD .slice ([0x23, 0x75, 0x38, 0x28, 0x31, 0xFF, 0x29]) = false ∧
    acceptsAll cfgD .io [0x31, 0x20, 0xFF] = false := by
  decide +kernel

/-- the hypothesis on the string syntax is necessary: under the Emacs Lisp string syntax the input
    `"` C3 `\xa9"` — no `;`, not UTF-8 — is accepted as `é` (the recorded finding
    `numeric_escape_completes_sequence`; `C17_elisp_input_clause` says exactly when) -/
theorem r6rs_hypothesis_needed :
    cfgEl.opts.string = .elisp ∧
    (∀ b ∈ [0x22, 0xC3, 0x5C, 0x78, 0x61, 0x39, 0x22], b ≠ (59 : UInt8)) ∧
    Utf8.valid [0x22, 0xC3, 0x5C, 0x78, 0x61, 0x39, 0x22] = false ∧
    parsesTo cfgEl [0x22, 0xC3, 0x5C, 0x78, 0x61, 0x39, 0x22] (.string [0xC3, 0xA9]) = true :=
  ⟨rfl, by decide, numeric_escape_completes_sequence.1, numeric_escape_completes_sequence.2.1⟩

def acceptsAllDatum (cfg : Cfg) (mode : Mode) (bytes : List UInt8) : Bool :=
  match fromTraitDatum cfg (initSt mode bytes) with
  | .ok _ _ => true
  | _ => false

theorem acceptsAllDatum_spec {cfg : Cfg} {mode : Mode} {bytes : List UInt8}
    (h : acceptsAllDatum cfg mode bytes = true) :
    ∃ d S', fromTraitDatum cfg (initSt mode bytes) = .ok d S' := by
  unfold acceptsAllDatum at h
  split at h
  · rename_i d S' heq; exact ⟨d, S', heq⟩
  · cases h

/-- `(λ "é" #\λ 12 #u8(1 2))` is accepted by the datum reader, slice and stream source -/
theorem ex_accepts_datum :
    acceptsAllDatum cfgD .slice [0x28, 0xCE, 0xBB, 0x20, 0x22, 0xC3, 0xA9, 0x22, 0x20, 0x23, 0x5C, 0xCE,
      0xBB, 0x20, 0x31, 0x32, 0x20, 0x23, 0x75, 0x38, 0x28, 0x31, 0x20, 0x32, 0x29, 0x29] = true ∧
    acceptsAllDatum cfgD .io [0x28, 0xCE, 0xBB, 0x20, 0x22, 0xC3, 0xA9, 0x22, 0x20, 0x23, 0x5C, 0xCE,
      0xBB, 0x20, 0x31, 0x32, 0x20, 0x23, 0x75, 0x38, 0x28, 0x31, 0x20, 0x32, 0x29, 0x29] = true := by
  decide +kernel

example : Utf8.valid [0x28, 0xCE, 0xBB, 0x20, 0x22, 0xC3, 0xA9, 0x22, 0x20, 0x23, 0x5C, 0xCE,
      0xBB, 0x20, 0x31, 0x32, 0x20, 0x23, 0x75, 0x38, 0x28, 0x31, 0x20, 0x32, 0x29, 0x29] = true := by
  obtain ⟨d, S', h⟩ := acceptsAllDatum_spec ex_accepts_datum.1
  exact C17_whole_input_valid_datum_no_comment h rfl (by decide) (by decide)

end InAll
end Parse
end Lexpr
