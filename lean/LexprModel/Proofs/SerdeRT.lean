/-
  serde-lexpr: totality of the value deserializer (C18), shape facts (C14) and the value round trip (C04)
  over the model of `LexprModel/Serde.lean`.  Two inductions over the type universe carry the file: `de_sat`
  over `de` (any value), `Writes.induct` over what `ser` writes for a well-typed datum.
-/
import LexprModel.Serde
import LexprModel.Props.C15
import LexprModel.Proofs.F32Idem
namespace Lexpr
namespace Serde

@[simp] theorem DeRes.ok_bind {α β} (a : α) (f : α → DeRes β) : (DeRes.ok a >>= f) = f a := rfl
@[simp] theorem DeRes.dataErr_bind {α β} (f : α → DeRes β) : (DeRes.dataErr >>= f) = .dataErr := rfl
@[simp] theorem DeRes.panic_bind {α β} (f : α → DeRes β) : (DeRes.panic >>= f) = .panic := rfl
@[simp] theorem DeRes.pure_eq {α} (a : α) : (pure a : DeRes α) = .ok a := rfl

instance : LawfulMonad DeRes := LawfulMonad.mk'
  (id_map := by intro α x; cases x <;> rfl)
  (pure_bind := by intros; rfl)
  (bind_assoc := by intro α β γ x f g; cases x <;> rfl)

theorem DeRes.bind_eq_ok {α β} {m : DeRes α} {f : α → DeRes β} {b : β} :
    (m >>= f) = .ok b ↔ ∃ a, m = .ok a ∧ f a = .ok b := by
  cases m <;> simp

theorem DeRes.ok_or_dataErr {α} {m : DeRes α} (h : m ≠ .panic) : (∃ a, m = .ok a) ∨ m = .dataErr := by
  cases m <;> simp_all

/-- `r.Sat P`: the run `r` did not panic, and if it accepted, its result satisfies `P`.  Both halves of
    C18 (no panic, accepted data are well typed) are postconditions of this form, so one pass over
    `de` and its visitors proves them together. -/
def DeRes.Sat {α} (P : α → Prop) : DeRes α → Prop
  | .ok a => P a
  | .dataErr => True
  | .panic => False

namespace DeRes.Sat
variable {α β : Type} {P Q : α → Prop} {m : DeRes α} {a : α}

theorem ok (h : P a) : (DeRes.ok a).Sat P := h
theorem dataErr : (DeRes.dataErr : DeRes α).Sat P := trivial

theorem bind {R : β → Prop} {f : α → DeRes β} (hm : m.Sat Q) (hf : ∀ a, Q a → (f a).Sat R) :
    (m >>= f).Sat R := by
  cases m <;> first | exact hf _ hm | exact hm

theorem mono (h : m.Sat P) (hPQ : ∀ a, P a → Q a) : m.Sat Q := by
  cases m <;> first | exact hPQ _ h | exact h

theorem ne_panic (h : m.Sat P) : m ≠ .panic := by rintro rfl; exact h

theorem of_ok (h : m.Sat P) (e : m = .ok a) : P a := by subst e; exact h

theorem of_imp (hp : m ≠ .panic) (h : ∀ a, m = .ok a → P a) : m.Sat P := by
  cases m with
  | ok a => exact h a rfl
  | dataErr => trivial
  | panic => exact absurd rfl hp

/-- the visitors of sequence-like types wrap the collected list in `Data.seq` -/
theorem seq {Q : List Data → Prop} {m : DeRes (List Data)} (h : m.Sat Q) :
    (m >>= fun ds => Pure.pure (Data.seq ds)).Sat fun d => ∃ ds, d = Data.seq ds ∧ Q ds :=
  h.bind fun ds hds => .ok ⟨ds, rfl, hds⟩

end DeRes.Sat

/-! ### `de` as a function of the value, at the types whose arms end in the catch-all

`de` is defined by well-founded recursion, so nothing about it holds by `rfl`, and the equation of its
catch-all arm carries one hypothesis per earlier arm.  The composite types that reject some shapes get an
equation in the value here; the other arms are used through the equations Lean derives (`rw [de]`). -/

theorem de_option (t : Ty) (v : Value) : de (.option t) v =
    match v with
    | .null => .ok .none
    | .cons a .null => de t a >>= fun d => pure (.some d)
    | _ => .dataErr := by
  rw [de.eq_def]; cases v <;> try rfl
  rename_i a d; cases d <;> rfl

theorem de_map (k w : Ty) (v : Value) : de (.map k w) v =
    match v with
    | .null => .ok (.map [])
    | .cons a d => deEntries (de k) (de w) a d >>= fun kvs => pure (.map kvs)
    | _ => .dataErr := by
  rw [de.eq_def]; cases v <;> rfl

theorem de_enum (vs : VariantList) (v : Value) : de (.enum vs) v =
    match v with
    | .symbol name => deVariant vs 0 name none
    | .cons (.symbol name) p => deVariant vs 0 name (some p)
    | _ => .dataErr := by
  rw [de.eq_def]; cases v <;> try rfl
  rename_i a d; cases a <;> rfl

/-- one equation for the head of the variant list (those Lean derives for `deVariant` are per kind and payload) -/
theorem deVariant_cons (n : List UInt8) (var : Variant) (vs : VariantList) (i : Nat) (name : List UInt8)
    (p : Option Value) :
    deVariant (.cons n var vs) i name p =
      if n == name then
        match var, p with
        | .unit, _ => .ok (.variant i .unit)
        | .newtype t, some p => de t p >>= fun d => pure (.variant i d)
        | .tuple ts, some p => deTupleLike ts p >>= fun d => pure (.variant i d)
        | .struct fs, some p => deStructLike (deField fs) fs.optFlags p >>= fun d => pure (.variant i d)
        | _, none => .dataErr
      else deVariant vs (i + 1) name p := by
  rw [deVariant.eq_def]; rfl

theorem deVariant_hit (n : List UInt8) (var : Variant) (vs : VariantList) (k : Nat) (p : Option Value) :
    deVariant (.cons n var vs) k n p =
      match var, p with
      | .unit, _ => .ok (.variant k .unit)
      | .newtype t, some p => de t p >>= fun d => pure (.variant k d)
      | .tuple ts, some p => deTupleLike ts p >>= fun d => pure (.variant k d)
      | .struct fs, some p => deStructLike (deField fs) fs.optFlags p >>= fun d => pure (.variant k d)
      | _, none => .dataErr := by
  rw [deVariant_cons, if_pos (beq_iff_eq.2 rfl)]

@[simp] theorem list_nil : Value.list [] = .null := rfl
@[simp] theorem list_cons (x : Value) (xs : List Value) : Value.list (x :: xs) = .cons x (Value.list xs) := rfl

theorem isList_list (xs : List Value) : (Value.list xs).isList = true := Value.C15_is_list xs .null rfl

def BadTail (tl : Value) : Prop := tl.isNull = false ∧ tl.isCons = false

theorem deChain_list (f : Value → DeRes Data) : ∀ (xs : List Value) (x : Value),
    deChain f x (Value.list xs) = (x :: xs).mapM f
  | [], x => by simp [deChain]
  | y :: ys, x => by
    rw [list_cons, deChain, deChain_list f ys y, List.mapM_cons (a := x)]

theorem deSeqLike_list (f : Value → DeRes Data) (xs : List Value) :
    deSeqLike f (Value.list xs) = deSeqLike f (.vector xs) := by
  cases xs with
  | nil => simp [deSeqLike]
  | cons x xs => simp only [list_cons, deSeqLike, deChain_list]

def deEntry (fk fv : Value → DeRes Data) : Value → DeRes (Data × Data)
  | .cons a b => do let x ← fk a; let y ← fv b; pure (x, y)
  | _ => .dataErr

theorem deEntries_list (fk fv : Value → DeRes Data) : ∀ (xs : List Value) (x : Value),
    deEntries fk fv x (Value.list xs) = (x :: xs).mapM (deEntry fk fv)
  | [], x => by
    rw [List.mapM_cons]; cases x <;> try rfl
    simp only [list_nil, deEntries, deEntry, List.mapM_nil, bind_assoc, pure_bind]
  | y :: ys, x => by
    rw [List.mapM_cons, ← deEntries_list fk fv ys y]; cases x <;> try rfl
    simp only [list_cons, deEntries, deEntry, bind_assoc, pure_bind]

theorem de_map_list (k w : Ty) (xs : List Value) :
    de (.map k w) (Value.list xs) = xs.mapM (deEntry (de k) (de w)) >>= fun kvs => pure (.map kvs) := by
  cases xs with
  | nil => rw [list_nil, de_map]; rfl
  | cons x xs => rw [list_cons, de_map, ← deEntries_list]

theorem deChain_improper (f : Value → DeRes Data) (tl : Value) (htl : BadTail tl) :
    ∀ (xs : List Value) (x : Value) (ds : List Data), deChain f x (Value.append xs tl) ≠ .ok ds
  | [], x, ds => by
    show deChain f x tl ≠ .ok ds
    unfold deChain
    split
    · cases htl.1
    · cases htl.2
    · intro h
      obtain ⟨_, _, h⟩ := DeRes.bind_eq_ok.mp h
      cases h
  | y :: ys, x, ds => by
    simp only [Value.append, deChain]
    intro h
    obtain ⟨_, _, h⟩ := DeRes.bind_eq_ok.mp h
    obtain ⟨_, h, _⟩ := DeRes.bind_eq_ok.mp h
    exact deChain_improper f tl htl ys y _ h

theorem deSeqLike_improper (f : Value → DeRes Data) (tl : Value) (htl : BadTail tl)
    (xs : List Value) (hxs : xs ≠ []) (d : Data) : deSeqLike f (Value.append xs tl) ≠ .ok d := by
  cases xs with
  | nil => exact absurd rfl hxs
  | cons x xs =>
    simp only [Value.append, deSeqLike]
    intro h
    obtain ⟨_, h, _⟩ := DeRes.bind_eq_ok.mp h
    exact deChain_improper f tl htl xs x _ h

theorem deTupleList_none : ∀ ts : TyList, deTupleList ts none = deTupleVec ts []
  | .nil => by simp [deTupleList, deTupleVec]
  | .cons _ _ => by simp [deTupleList, deTupleVec]

theorem deTupleList_list : ∀ (ts : TyList) (x : Value) (xs : List Value),
    deTupleList ts (some (x, Value.list xs)) = deTupleVec ts (x :: xs)
  | .nil, _, _ => by simp [deTupleList, deTupleVec]
  | .cons t ts, x, [] => by simp [deTupleList, deTupleVec, deTupleList_none]
  | .cons t ts, x, y :: ys => by
    rw [list_cons, deTupleList, deTupleVec]
    simp only [deTupleList_list ts y ys]

theorem deTupleSeq_list (ts : TyList) (xs : List Value) :
    deTupleSeq ts (Value.list xs) = deTupleSeq ts (.vector xs) := by
  cases xs with
  | nil => simp [deTupleSeq]
  | cons x xs => simp only [list_cons, deTupleSeq, deTupleList_list]

theorem deTupleLike_list (ts : TyList) (xs : List Value) :
    deTupleLike ts (Value.list xs) = deTupleLike ts (.vector xs) := by
  cases xs with
  | nil => simp [deTupleLike]
  | cons x xs =>
    have := isList_list (x :: xs)
    simp only [list_cons] at this
    simp only [list_cons, deTupleLike, this, if_true, deTupleList_list]

theorem deTupleLike_improper (ts : TyList) (tl : Value) (htl : BadTail tl)
    (xs : List Value) (hxs : xs ≠ []) : deTupleLike ts (Value.append xs tl) = .dataErr := by
  cases xs with
  | nil => exact absurd rfl hxs
  | cons x xs =>
    have h := Value.C15_is_list (x :: xs) tl htl.2
    rw [htl.1] at h
    simp only [Value.append] at h
    simp [Value.append, deTupleLike, h]

def VariantList.names : VariantList → List (List UInt8)
  | .nil => []
  | .cons n _ vs => n :: vs.names

mutual
/-- `HasTy t d`: the datum `d` inhabits the type `t`. -/
def HasTy : Ty → Data → Prop
  | .int w, .int n => w.lo ≤ n ∧ n ≤ w.hi
  | .f32, .float b => roundToF32 b = b
  | .f64, .float _ => True
  | .bool, .bool _ => True
  | .char, .char _ => True
  | .str, .str _ => True
  | .bytes, .bytes _ => True
  | .unit, .unit => True
  | .unitStruct, .unit => True
  | .option _, .none => True
  | .option t, .some d => HasTy t d
  | .seq t, .seq ds => ∀ d ∈ ds, HasTy t d
  | .set t, .seq ds => ∀ d ∈ ds, HasTy t d
  | .tuple ts, .seq ds => HasTyTuple ts ds
  | .tupleStruct ts, .seq ds => HasTyTuple ts ds
  | .newtypeStruct t, d => HasTy t d
  | .map k v, .map kvs => ∀ p ∈ kvs, HasTy k p.1 ∧ HasTy v p.2
  | .struct fs, .seq ds => HasTyFields fs ds
  | .enum vs, .variant i p => HasTyVariant vs i p
  | _, _ => False
def HasTyTuple : TyList → List Data → Prop
  | .nil, [] => True
  | .cons t ts, d :: ds => HasTy t d ∧ HasTyTuple ts ds
  | _, _ => False
def HasTyFields : FieldList → List Data → Prop
  | .nil, [] => True
  | .cons _ t fs, d :: ds => HasTy t d ∧ HasTyFields fs ds
  | _, _ => False
def HasTyVariant : VariantList → Nat → Data → Prop
  | .nil, _, _ => False
  | .cons _ var _, 0, p =>
    match var, p with
    | .unit, .unit => True
    | .newtype t, p => HasTy t p
    | .tuple ts, .seq ds => HasTyTuple ts ds
    | .struct fs, .seq ds => HasTyFields fs ds
    | _, _ => False
  | .cons _ _ vs, i + 1, p => HasTyVariant vs i p
end

mutual
/-- `WellFormed t`: every struct type in `t` has distinct field names and every enum type distinct
    variant names (what `serde_derive` / rustc guarantee). -/
def WellFormed : Ty → Prop
  | .option t => WellFormed t
  | .seq t => WellFormed t
  | .set t => WellFormed t
  | .newtypeStruct t => WellFormed t
  | .map k v => WellFormed k ∧ WellFormed v
  | .tuple ts => WFTys ts
  | .tupleStruct ts => WFTys ts
  | .struct fs => fs.names.Nodup ∧ WFFields fs
  | .enum vs => vs.names.Nodup ∧ WFVariants vs
  | _ => True
def WFTys : TyList → Prop
  | .nil => True
  | .cons t ts => WellFormed t ∧ WFTys ts
def WFFields : FieldList → Prop
  | .nil => True
  | .cons _ t fs => WellFormed t ∧ WFFields fs
def WFVariants : VariantList → Prop
  | .nil => True
  | .cons _ var vs =>
    (match var with
     | .unit => True
     | .newtype t => WellFormed t
     | .tuple ts => WFTys ts
     | .struct fs => fs.names.Nodup ∧ WFFields fs) ∧ WFVariants vs
end

/-! ### C18: `de` never panics, and what it accepts is well typed -/

/-- `f64 as f32` is idempotent. -/
def F32Idem : Prop := ∀ b, roundToF32 (roundToF32 b) = roundToF32 b

theorem intTy_lo_nonpos (w : IntTy) : w.lo ≤ 0 := by cases w <;> simp [IntTy.lo]

theorem deNumber_sat (t : Ty) (n : Number) : (deNumber t n).Sat fun d => F32Idem → HasTy t d := by
  unfold deNumber
  split
  · rename_i w
    split
    · split
      · exact .ok fun _ => ⟨by have := intTy_lo_nonpos w; omega, ‹_›⟩
      · exact .dataErr
    · split
      · exact .ok fun _ => ‹_ ∧ _›
      · exact .dataErr
    · exact .dataErr
  · split <;> exact .ok fun _ => trivial
  · split <;> exact .ok fun hidem => hidem _
  · exact .dataErr

def Ty.prim : Ty → Bool
  | .int _ | .f32 | .f64 | .bool | .char | .str | .bytes | .unit | .unitStruct => true
  | _ => false

theorem de_prim_sat {t : Ty} (ht : t.prim = true) (v : Value) :
    (de t v).Sat fun d => F32Idem → HasTy t d := by
  -- the arms of `de`: numbers, the eight atoms accepted as they are, the composite types (excluded by
  -- `ht`), the catch-all
  rw [de.eq_def]
  split <;> first | exact deNumber_sat _ _ | exact .ok fun _ => trivial | exact .dataErr | cases ht

section
variable {f : Value → DeRes Data} {P : Data → Prop} (hf : ∀ x, (f x).Sat P)
include hf

theorem mapM_sat : ∀ xs : List Value, (xs.mapM f).Sat fun ds => ∀ d ∈ ds, P d
  | [] => .ok nofun
  | x :: xs => by
    rw [List.mapM_cons]
    exact (hf x).bind fun _ hd => (mapM_sat xs).bind fun _ hds => .ok (List.forall_mem_cons.2 ⟨hd, hds⟩)

theorem deChain_sat (a d : Value) : (deChain f a d).Sat fun ds => ∀ d ∈ ds, P d := by
  fun_induction deChain f a d with
  | case1 a => exact (hf a).bind fun _ hd => .ok (List.forall_mem_cons.2 ⟨hd, nofun⟩)
  | case2 a a' d' ih => exact (hf a).bind fun _ hd => ih.bind fun _ hds => .ok (List.forall_mem_cons.2 ⟨hd, hds⟩)
  | case3 t a => exact (hf a).bind fun _ _ => .dataErr

theorem deSeqLike_sat (v : Value) : (deSeqLike f v).Sat fun d => ∃ ds, d = .seq ds ∧ ∀ x ∈ ds, P x := by
  unfold deSeqLike
  split
  · exact .ok ⟨[], rfl, nofun⟩
  · exact (mapM_sat hf _).seq
  · exact (deChain_sat hf _ _).seq
  · exact .dataErr
end

theorem deEntries_sat {fk fv : Value → DeRes Data} {Pk Pv : Data → Prop} (hk : ∀ x, (fk x).Sat Pk)
    (hv : ∀ x, (fv x).Sat Pv) (a d : Value) :
    (deEntries fk fv a d).Sat fun kvs => ∀ p ∈ kvs, Pk p.1 ∧ Pv p.2 := by
  fun_induction deEntries fk fv a d with
  | case1 ka va rest ih =>
    refine (hk ka).bind fun _ hx => (hv va).bind fun _ hy => ?_
    split
    · exact .ok (List.forall_mem_cons.2 ⟨⟨hx, hy⟩, nofun⟩)
    · exact DeRes.Sat.bind ih fun _ hr => .ok (List.forall_mem_cons.2 ⟨⟨hx, hy⟩, hr⟩)
    · exact .dataErr
  | case2 => exact .dataErr


theorem deStructEntries_sat {field : List UInt8 → Value → Option (DeRes Data)} {Q : List UInt8 → Data → Prop}
    (hf : ∀ n va r, field n va = some r → r.Sat (Q n)) (a d : Value) (got : List (List UInt8 × Data))
    (hgot : ∀ e ∈ got, Q e.1 e.2) :
    (deStructEntries field a d got).Sat fun got' => ∀ e ∈ got', Q e.1 e.2 := by
  fun_induction deStructEntries field a d got with
  | case1 name va rest got ih =>
    refine DeRes.Sat.bind (Q := fun got' => ∀ e ∈ got', Q e.1 e.2) ?_ fun got' hgot' => ?_
    · split
      · split
        · exact .dataErr
        · exact (hf _ _ _ ‹_›).bind fun _ hd => .ok (List.forall_mem_append.2 ⟨hgot, List.forall_mem_singleton.2 hd⟩)
      · exact .ok hgot
    · split
      · exact .ok hgot'
      · exact ih got' hgot'
      · exact .dataErr
  | case2 => exact .dataErr

theorem lookupField_mem {n : List UInt8} {d : Data} : ∀ {got : List (List UInt8 × Data)},
    lookupField n got = some d → (n, d) ∈ got
  | [], h => by simp [lookupField] at h
  | (n', d') :: rest, h => by
    simp only [lookupField] at h
    split at h
    · rename_i heq
      simp only [beq_iff_eq] at heq
      cases h; subst heq; simp
    · exact List.mem_cons_of_mem _ (lookupField_mem h)

def FieldList.lookup : FieldList → List UInt8 → Option Ty
  | .nil, _ => none
  | .cons n t fs, name => if n == name then some t else fs.lookup name

def FieldList.toList : FieldList → List (List UInt8 × Ty)
  | .nil => []
  | .cons n t fs => (n, t) :: fs.toList

theorem FieldList.names_eq_map : ∀ fs : FieldList, fs.names = fs.toList.map (·.1)
  | .nil => rfl
  | .cons _ _ fs => by simp [FieldList.names, FieldList.toList, FieldList.names_eq_map fs]

theorem FieldList.lookup_of_mem : ∀ (fs : FieldList), fs.names.Nodup → ∀ n t, (n, t) ∈ fs.toList →
    fs.lookup n = some t
  | .nil, _, _, _, h => nomatch h
  | .cons n' t' fs, hnd, n, t, h => by
    obtain ⟨hn', hnd'⟩ := List.nodup_cons.1 hnd
    rcases List.mem_cons.1 h with e | h
    · cases e; exact if_pos (beq_iff_eq.2 rfl)
    · have hne : ¬ (n' == n) = true := fun heq => hn' (by
        rw [FieldList.names_eq_map, eq_of_beq heq]; exact List.mem_map_of_mem (f := (·.1)) h)
      exact (if_neg hne).trans (FieldList.lookup_of_mem fs hnd' n t h)

theorem hasTy_none_of_isOption {t : Ty} (h : t.isOption = true) : HasTy t .none := by
  unfold Ty.isOption at h
  split at h
  · trivial
  · cases h

/- `W` stands for the side hypotheses under which a field visitor types its result (`F32Idem ∧ WFFields fs` in
   `de_sat`); it stays abstract, so the two lemmas on the struct visitor mention neither. -/
theorem deStructFill_sat {W : Prop} {fsAll : FieldList} {got : List (List UInt8 × Data)}
    (hgot : ∀ e ∈ got, W → ∃ t, fsAll.lookup e.1 = some t ∧ HasTy t e.2) :
    ∀ fs : FieldList, (∀ p ∈ fs.toList, p ∈ fsAll.toList) →
      (deStructFill fs.optFlags got).Sat fun ds => W → fsAll.names.Nodup → HasTyFields fs ds
  | .nil, _ => .ok fun _ _ => trivial
  | .cons n t fs, hsub => by
    have ih := deStructFill_sat hgot fs fun p hp => hsub p (List.mem_cons_of_mem _ hp)
    rw [FieldList.optFlags, deStructFill]
    split
    · rename_i d hd
      refine ih.bind fun ds hds => .ok fun w hnd => ⟨?_, hds w hnd⟩
      obtain ⟨t', ht', hty⟩ := hgot _ (lookupField_mem hd) w
      rw [FieldList.lookup_of_mem fsAll hnd n t (hsub _ List.mem_cons_self)] at ht'
      cases ht'; exact hty
    · split
      · exact ih.bind fun ds hds => .ok fun w hnd => ⟨hasTy_none_of_isOption ‹_›, hds w hnd⟩
      · exact .dataErr

theorem deStructLike_sat {W : Prop} {fs : FieldList}
    (hfield : ∀ n va r, deField fs n va = some r →
      r.Sat fun d => W → ∃ t, fs.lookup n = some t ∧ HasTy t d) (v : Value) :
    (deStructLike (deField fs) fs.optFlags v).Sat fun d =>
      ∃ ds, d = .seq ds ∧ (W → fs.names.Nodup → HasTyFields fs ds) := by
  unfold deStructLike
  split
  · exact (deStructFill_sat (fun _ h => (List.not_mem_nil h).elim) fs fun _ h => h).seq
  · exact (deStructEntries_sat hfield _ _ [] fun _ h => (List.not_mem_nil h).elim).bind fun _ hgot =>
      (deStructFill_sat hgot fs fun _ h => h).seq
  · exact .dataErr

section
variable {ts : TyList} {Q : List Data → Prop} (h1 : ∀ xs, (deTupleVec ts xs).Sat Q)
  (h2 : ∀ o, (deTupleList ts o).Sat Q)
include h1 h2

theorem deTupleLike_sat (v : Value) : (deTupleLike ts v).Sat fun d => ∃ ds, d = .seq ds ∧ Q ds := by
  rw [deTupleLike.eq_def]
  split
  · exact (h1 _).seq
  · exact (h1 _).seq
  · split
    · exact (h2 _).seq
    · exact .dataErr
  · exact .dataErr

theorem deTupleSeq_sat (v : Value) : (deTupleSeq ts v).Sat fun d => ∃ ds, d = .seq ds ∧ Q ds := by
  rw [deTupleSeq.eq_def]
  split
  · exact (h1 _).seq
  · exact (h1 _).seq
  · exact (h2 _).seq
  · exact .dataErr
end

/- Typing needs two hypotheses that freedom from panics does not: `F32Idem` (for the `f32` visitor) and
   well-formedness (for structs).  They sit inside the postcondition, so the same pass yields both. -/
mutual
theorem de_sat : ∀ (t : Ty) (v : Value), (de t v).Sat fun d => F32Idem → WellFormed t → HasTy t d
  | .int _, v | .f32, v | .f64, v | .bool, v | .char, v | .str, v | .bytes, v | .unit, v | .unitStruct, v =>
    (de_prim_sat rfl v).mono fun _ h hi _ => h hi
  | .option t, v => by
    rw [de_option]; split
    · exact .ok fun _ _ => trivial
    · exact (de_sat t _).bind fun _ h => .ok h
    · exact .dataErr
  | .newtypeStruct t, v => by rw [de]; exact de_sat t v
  | .seq t, v | .set t, v => by
    rw [de]
    exact (deSeqLike_sat (de_sat t) v).mono fun _ ⟨ds, e, h⟩ hi wf => e ▸ fun x hx => h x hx hi wf
  | .tuple ts, v | .tupleStruct ts, v => by
    rw [de]
    exact (deTupleLike_sat (deTupleVec_sat ts) (deTupleList_sat ts) v).mono
      fun _ ⟨ds, e, h⟩ hi wf => e ▸ h hi wf
  | .map k w, v => by
    rw [de_map]; split
    · exact .ok fun _ _ => nofun
    · exact (deEntries_sat (de_sat k) (de_sat w) _ _).bind fun _ h =>
        .ok fun hi wf p hp => ⟨(h p hp).1 hi wf.1, (h p hp).2 hi wf.2⟩
    · exact .dataErr
  | .struct fs, v => by
    rw [de]
    exact (deStructLike_sat (W := F32Idem ∧ WFFields fs) (deField_sat fs) v).mono
      fun _ ⟨ds, e, h⟩ hi wf => e ▸ h ⟨hi, wf.2⟩ wf.1
  | .enum vs, v => by
    have enum name p :
        (deVariant vs 0 name p).Sat fun d => F32Idem → WellFormed (.enum vs) → HasTy (.enum vs) d :=
      (deVariant_sat vs 0 name p).mono fun d h hi wf => by
        obtain ⟨j, pl, rfl, hv⟩ := h hi wf.2
        rw [Nat.zero_add]; exact hv
    rw [de_enum]; split
    · exact enum _ _
    · exact enum _ _
    · exact .dataErr
theorem deTupleVec_sat : ∀ (ts : TyList) (xs : List Value),
    (deTupleVec ts xs).Sat fun ds => F32Idem → WFTys ts → HasTyTuple ts ds
  | .nil, _ => by rw [deTupleVec]; exact .ok fun _ _ => trivial
  | .cons _ _, [] => by rw [deTupleVec]; exact .dataErr
  | .cons t ts, x :: xs => by
    rw [deTupleVec]
    exact (de_sat t x).bind fun _ hd => (deTupleVec_sat ts xs).bind fun _ hds =>
      .ok fun hi wf => ⟨hd hi wf.1, hds hi wf.2⟩
theorem deTupleList_sat : ∀ (ts : TyList) (o : Option (Value × Value)),
    (deTupleList ts o).Sat fun ds => F32Idem → WFTys ts → HasTyTuple ts ds
  | .nil, _ => by rw [deTupleList]; exact .ok fun _ _ => trivial
  | .cons _ _, none => by rw [deTupleList]; exact .dataErr
  | .cons t ts, some (a, d) => by
    rw [deTupleList]
    refine (de_sat t a).bind fun _ hd => ?_
    split
    · exact (deTupleList_sat ts _).bind fun _ hds => .ok fun hi wf => ⟨hd hi wf.1, hds hi wf.2⟩
    · exact (deTupleList_sat ts _).bind fun _ hds => .ok fun hi wf => ⟨hd hi wf.1, hds hi wf.2⟩
    · exact .dataErr
theorem deField_sat : ∀ (fs : FieldList) (name : List UInt8) (va : Value) (r : DeRes Data),
    deField fs name va = some r →
    r.Sat fun d => F32Idem ∧ WFFields fs → ∃ t, fs.lookup name = some t ∧ HasTy t d
  | .nil, _, _, _, h => by rw [deField] at h; cases h
  | .cons n t fs, name, va, r, h => by
    rw [deField] at h
    split at h
    · cases h
      exact (de_sat t va).mono fun _ hd w => ⟨t, if_pos ‹_›, hd w.1 w.2.1⟩
    · exact (deField_sat fs name va r h).mono fun _ hd w =>
        (hd ⟨w.1, w.2.2⟩).imp fun t' ht' => ⟨(if_neg ‹_›).trans ht'.1, ht'.2⟩
theorem deVariant_sat : ∀ (vs : VariantList) (k : Nat) (name : List UInt8) (p : Option Value),
    (deVariant vs k name p).Sat fun d =>
      F32Idem → WFVariants vs → ∃ j pl, d = .variant (k + j) pl ∧ HasTyVariant vs j pl
  | .nil, _, _, _ => by rw [deVariant]; exact .dataErr
  | .cons n var vs, k, name, p => by
    rw [deVariant_cons]
    split
    · -- a `match` term, not `split`: the recursive calls must stay visible to the structural-recursion
      -- check (the fallback to well-founded recursion is slow to check)
      exact match var, p with
        | .unit, _ => .ok fun _ _ => ⟨0, .unit, rfl, trivial⟩
        | .newtype t, some p => (de_sat t p).bind fun x hx => .ok fun hi wf => ⟨0, x, rfl, hx hi wf.1⟩
        | .tuple ts, some p =>
          (deTupleLike_sat (deTupleVec_sat ts) (deTupleList_sat ts) p).bind
            fun x ⟨ds, e, h⟩ => .ok fun hi wf => ⟨0, x, rfl, e ▸ h hi wf.1⟩
        | .struct fs, some p =>
          (deStructLike_sat (W := F32Idem ∧ WFFields fs) (deField_sat fs) p).bind
            fun x ⟨ds, e, h⟩ => .ok fun hi wf => ⟨0, x, rfl, e ▸ h ⟨hi, wf.1.2⟩ wf.1.1⟩
        | .newtype _, none | .tuple _, none | .struct _, none => .dataErr
    · refine (deVariant_sat vs (k + 1) name p).mono fun _ h hi wf => ?_
      rw [WFVariants.eq_def] at wf  -- see `Writes.induct` on premise `vsucc`
      obtain ⟨j, pl, rfl, hv⟩ := h hi wf.2
      exact ⟨j + 1, pl, by rw [Nat.add_right_comm]; rfl, hv⟩
end

theorem deTupleVec_np (ts : TyList) (xs : List Value) : deTupleVec ts xs ≠ .panic :=
  (deTupleVec_sat ts xs).ne_panic

theorem deTupleList_np (ts : TyList) (o : Option (Value × Value)) : deTupleList ts o ≠ .panic :=
  (deTupleList_sat ts o).ne_panic

theorem deField_np : ∀ (fs : FieldList) (name : List UInt8) (va : Value) (r : DeRes Data),
    deField fs name va = some r → r ≠ .panic :=
  fun fs name va r h => (deField_sat fs name va r h).ne_panic

theorem deVariant_np : ∀ (vs : VariantList) (i : Nat) (name : List UInt8) (p : Option Value),
    deVariant vs i name p ≠ .panic :=
  fun vs i name p => (deVariant_sat vs i name p).ne_panic

theorem ty_tupleVec (hidem : F32Idem) : ∀ (ts : TyList) (xs : List Value) (ds : List Data), WFTys ts →
    deTupleVec ts xs = .ok ds → HasTyTuple ts ds :=
  fun ts xs _ wf h => (deTupleVec_sat ts xs).of_ok h hidem wf

theorem ty_tupleList (hidem : F32Idem) : ∀ (ts : TyList) (o : Option (Value × Value)) (ds : List Data),
    WFTys ts → deTupleList ts o = .ok ds → HasTyTuple ts ds :=
  fun ts o _ wf h => (deTupleList_sat ts o).of_ok h hidem wf

theorem ty_field (hidem : F32Idem) : ∀ (fs : FieldList) (n : List UInt8) (va : Value) (d : Data),
    WFFields fs → deField fs n va = some (.ok d) → ∃ t, fs.lookup n = some t ∧ HasTy t d :=
  fun fs n va _ wf h => (deField_sat fs n va _ h).of_ok rfl ⟨hidem, wf⟩

theorem ty_variant (hidem : F32Idem) : ∀ (vs : VariantList) (k : Nat) (name : List UInt8)
    (p : Option Value) (d : Data), WFVariants vs → deVariant vs k name p = .ok d →
    ∃ j pl, d = .variant (k + j) pl ∧ HasTyVariant vs j pl :=
  fun vs k name p _ wf h => (deVariant_sat vs k name p).of_ok h hidem wf

theorem deTupleSeq_np' {ts : TyList} (h1 : ∀ xs, deTupleVec ts xs ≠ .panic)
    (h2 : ∀ o, deTupleList ts o ≠ .panic) (v : Value) : deTupleSeq ts v ≠ .panic :=
  (deTupleSeq_sat (Q := fun _ => True) (fun xs => .of_imp (h1 xs) fun _ _ => trivial)
    (fun o => .of_imp (h2 o) fun _ _ => trivial) v).ne_panic

theorem tupleSeq_ty {ts : TyList} (h1 : ∀ xs ds, deTupleVec ts xs = .ok ds → HasTyTuple ts ds)
    (h2 : ∀ o ds, deTupleList ts o = .ok ds → HasTyTuple ts ds)
    (v : Value) (d : Data) (h : deTupleSeq ts v = .ok d) : ∃ ds, d = .seq ds ∧ HasTyTuple ts ds :=
  (deTupleSeq_sat (fun xs => .of_imp (deTupleVec_np ts xs) (h1 xs))
    (fun o => .of_imp (deTupleList_np ts o) (h2 o)) v).of_ok h

theorem lookupField_eq_none {n : List UInt8} : ∀ {got : List (List UInt8 × Data)},
    lookupField n got = none ↔ n ∉ got.map (·.1)
  | [] => by simp [lookupField]
  | (n', d) :: rest => by
    simp only [lookupField, List.map_cons, List.mem_cons, not_or]
    by_cases h : n' = n
    · simp [h]
    · simp [h, lookupField_eq_none (got := rest), Ne.symm h]

theorem lookupField_append_of_not_mem {n : List UInt8} {d : Data} :
    ∀ {pre post : List (List UInt8 × Data)}, n ∉ pre.map (·.1) →
      lookupField n (pre ++ (n, d) :: post) = some d
  | [], _, _ => by simp [lookupField]
  | (n', d') :: pre, post, h => by
    simp only [List.map_cons, List.mem_cons, not_or] at h
    simp [lookupField, Ne.symm h.1, lookupField_append_of_not_mem h.2]

theorem lookupField_of_nodup {n : List UInt8} {ns : List (List UInt8)} {got : List (List UInt8 × Data)}
    (hnd : (got.map (·.1) ++ n :: ns).Nodup) : lookupField n got = none :=
  lookupField_eq_none.mpr fun hmem => (List.nodup_append.mp hnd).2.2 _ hmem _ List.mem_cons_self rfl

/-- a serialised struct entry: field name, serialised value, datum -/
abbrev Entry := List UInt8 × Value × Data
def Entry.val (e : Entry) : Value := .cons (.symbol e.1) e.2.1
def Entry.got (e : Entry) : List UInt8 × Data := (e.1, e.2.2)

/-- The loop over the entries written for a struct, started with `got` collected: it returns `got` followed
    by what the entries hold.  No name occurs twice among `got` and the entries (`Nodup`), so the duplicate
    test `lookupField e.1 got` is `none` at every step. -/
theorem structEntries_rt {field : List UInt8 → Value → Option (DeRes Data)} :
    ∀ (es : List Entry) (e : Entry) (got : List (List UInt8 × Data)),
      (∀ e' ∈ e :: es, field e'.1 e'.2.1 = some (.ok e'.2.2)) →
      (got.map (·.1) ++ (e :: es).map (·.1)).Nodup →
      deStructEntries field e.val (Value.list (es.map Entry.val)) got =
        .ok (got ++ (e :: es).map Entry.got)
  | [], e, got, hf, hnd => by
    have h1 : lookupField e.1 got = none := lookupField_of_nodup hnd
    simp [Entry.val, deStructEntries, hf e (by simp), h1, Entry.got]
  | e2 :: es, e, got, hf, hnd => by
    have h1 : lookupField e.1 got = none := lookupField_of_nodup hnd
    have ih := structEntries_rt es e2 (got ++ [e.got]) (fun e' he' => hf e' (List.mem_cons_of_mem _ he'))
      (by simpa [Entry.got, List.append_assoc] using hnd)
    rw [List.map_cons, list_cons]
    conv => lhs; rw [Entry.val, deStructEntries]
    simp only [hf e (by simp), h1, Option.isSome_none, Bool.false_eq_true, if_false, DeRes.ok_bind, DeRes.pure_eq]
    rw [show (e.1, e.2.2) = e.got from rfl, ih]
    simp

theorem lookup_entries {es : List Entry} (hnd : (es.map (·.1)).Nodup) :
    ∀ e ∈ es, lookupField e.1 (es.map Entry.got) = some e.2.2 := by
  intro e he
  obtain ⟨pre, post, rfl⟩ := List.append_of_mem he
  have hnot : e.1 ∉ (pre.map Entry.got).map (·.1) := by
    simp only [List.map_append, List.map_cons] at hnd
    have := (List.nodup_append.mp hnd).2.2
    intro hmem
    simp only [List.map_map] at hmem
    exact this _ hmem _ (by simp) rfl
  simp only [List.map_append, List.map_cons, Entry.got]
  exact lookupField_append_of_not_mem hnot

theorem structFill_rt {got : List (List UInt8 × Data)} :
    ∀ (es : List Entry) (flags : List (List UInt8 × Bool)), flags.map (·.1) = es.map (·.1) →
      (∀ e ∈ es, lookupField e.1 got = some e.2.2) →
      deStructFill flags got = .ok (es.map (·.2.2))
  | [], [], _, _ => by simp [deStructFill]
  | [], _ :: _, h, _ => by simp at h
  | _ :: _, [], h, _ => by simp at h
  | e :: es, (n, o) :: flags, h, hl => by
    simp only [List.map_cons, List.cons.injEq] at h
    obtain ⟨rfl, h⟩ := h
    simp [deStructFill, hl e (by simp), structFill_rt es flags h fun e' he' => hl e' (by simp [he'])]

theorem struct_rt {field : List UInt8 → Value → Option (DeRes Data)} {flags : List (List UInt8 × Bool)}
    (es : List Entry) (hflags : flags.map (·.1) = es.map (·.1)) (hnd : (es.map (·.1)).Nodup)
    (hf : ∀ e ∈ es, field e.1 e.2.1 = some (.ok e.2.2)) :
    deStructLike field flags (Value.list (es.map Entry.val)) = .ok (.seq (es.map (·.2.2))) := by
  cases es with
  | nil =>
    cases flags with
    | nil => simp [deStructLike, deStructFill]
    | cons _ _ => simp at hflags
  | cons e es =>
    rw [List.map_cons, list_cons, deStructLike, structEntries_rt es e [] hf (by simpa using hnd)]
    simp only [List.nil_append, DeRes.ok_bind]
    rw [structFill_rt (e :: es) flags hflags (lookup_entries hnd)]
    rfl


/-! ### C04: the value round trip -/

theorem serInt_nonneg (w : IntTy) (n : Int) (hn : 0 ≤ n) : serInt w n = .number (.pos n.toNat) := by
  cases w <;> simp [serInt, Number.ofSigned, Number.ofUnsigned, hn]

theorem serInt_neg (w : IntTy) (n : Int) (hn : n < 0) (hw : w.lo ≤ n) : serInt w n = .number (.neg n) := by
  have hn' : ¬ (0 ≤ n) := by omega
  cases w <;> simp only [IntTy.lo] at hw <;> first | omega | simp [serInt, Number.ofSigned, hn']

theorem de_serInt (w : IntTy) (n : Int) (h1 : w.lo ≤ n) (h2 : n ≤ w.hi) :
    de (.int w) (serInt w n) = .ok (.int n) := by
  by_cases hn : 0 ≤ n
  · rw [serInt_nonneg w n hn, de, deNumber, Int.toNat_of_nonneg hn, if_pos h2]
  · rw [serInt_neg w n (by omega) h1, de, deNumber, if_pos ⟨h1, h2⟩]

theorem optFlags_names : ∀ fs : FieldList, fs.optFlags.map (·.1) = fs.names
  | .nil => rfl
  | .cons _ _ fs => by simp [FieldList.optFlags, FieldList.names, optFlags_names fs]

/-- what `ser` produces for an enum: a bare symbol or `(name . payload)` -/
def variantValue (name : List UInt8) : Option Value → Value
  | none => .symbol name
  | some x => .cons (.symbol name) x

theorem de_enum_variantValue (vs : VariantList) (name : List UInt8) (pl : Option Value) :
    de (.enum vs) (variantValue name pl) = deVariant vs 0 name pl := by
  cases pl <;> exact de_enum vs _

theorem deTupleSeq_vec_ok {ts : TyList} {vs : List Value} {ds : List Data}
    (h : deTupleVec ts vs = .ok ds) : deTupleSeq ts (Value.list vs) = .ok (.seq ds) := by
  rw [deTupleSeq_list, deTupleSeq, h]; rfl

theorem deTupleLike_vec_ok {ts : TyList} {vs : List Value} {ds : List Data}
    (h : deTupleVec ts vs = .ok ds) : deTupleLike ts (Value.list vs) = .ok (.seq ds) := by
  rw [deTupleLike_list, deTupleLike, h]; rfl

/-! ### what `ser` writes

`Writes t d v`: the value `v` is the serialisation of the datum `d` of type `t`.  This is the graph of `ser`
on well-typed data (`ser_total`, `writes_sound`), one constructor per documented shape.  A statement about
what `ser` wrote for well-typed data is proved by `Writes.induct`, and `ser_total` is then the only place
where `HasTy` and `ser` are taken apart together.  (The shape clauses of C14 have no typing hypothesis and
walk `ser` on their own, further down.)
The judgement is used through `Writes.induct` alone: case analysis on a derivation (`cases`, pattern
matching) has to unify three constructor-shaped indices against all its constructors and is very slow. -/

mutual
inductive Writes : Ty → Data → Value → Prop
  | int {w n} : w.lo ≤ n → n ≤ w.hi → Writes (.int w) (.int n) (serInt w n)
  | f32 {b} : roundToF32 b = b → Writes .f32 (.float b) (.number (.flt b))
  | f64 {b} : Writes .f64 (.float b) (.number (.flt b))
  | bool {b} : Writes .bool (.bool b) (.bool b)
  | char {c} : Writes .char (.char c) (.char c)
  | str {s} : Writes .str (.str s) (.string s)
  | bytes {s} : Writes .bytes (.bytes s) (.bytes s)
  | unit : Writes .unit .unit .null
  | unitStruct : Writes .unitStruct .unit .null
  | none {t} : Writes (.option t) .none .null
  | some {t d v} : Writes t d v → Writes (.option t) (.some d) (.cons v .null)
  | seq {t ds xs} : WritesList t ds xs → Writes (.seq t) (.seq ds) (Value.list xs)
  | set {t ds xs} : WritesList t ds xs → Writes (.set t) (.seq ds) (Value.list xs)
  | tuple {ts ds xs} : WritesTuple ts ds xs → Writes (.tuple ts) (.seq ds) (.vector xs)
  | tupleStruct {ts ds xs} : WritesTuple ts ds xs → Writes (.tupleStruct ts) (.seq ds) (.vector xs)
  | newtypeStruct {t d v} : Writes t d v → Writes (.newtypeStruct t) d v
  | map {k w kvs xs} : WritesPairs k w kvs xs → Writes (.map k w) (.map kvs) (Value.list xs)
  | struct {fs ds xs} : WritesFields fs ds xs → Writes (.struct fs) (.seq ds) (Value.list xs)
  | enum {vs i p v} : WritesVariant vs i p v → Writes (.enum vs) (.variant i p) v
inductive WritesList : Ty → List Data → List Value → Prop
  | nil {t} : WritesList t [] []
  | cons {t d v ds xs} : Writes t d v → WritesList t ds xs → WritesList t (d :: ds) (v :: xs)
inductive WritesPairs : Ty → Ty → List (Data × Data) → List Value → Prop
  | nil {k w} : WritesPairs k w [] []
  | cons {k w a b x y kvs xs} : Writes k a x → Writes w b y → WritesPairs k w kvs xs →
      WritesPairs k w ((a, b) :: kvs) (.cons x y :: xs)
inductive WritesTuple : TyList → List Data → List Value → Prop
  | nil : WritesTuple .nil [] []
  | cons {t ts d v ds xs} : Writes t d v → WritesTuple ts ds xs → WritesTuple (.cons t ts) (d :: ds) (v :: xs)
inductive WritesFields : FieldList → List Data → List Value → Prop
  | nil : WritesFields .nil [] []
  | cons {n t fs d v ds xs} : Writes t d v → WritesFields fs ds xs →
      WritesFields (.cons n t fs) (d :: ds) (.cons (.symbol n) v :: xs)
inductive WritesVariant : VariantList → Nat → Data → Value → Prop
  | unit {n vs} : WritesVariant (.cons n .unit vs) 0 .unit (.symbol n)
  | newtype {n t vs p v} : Writes t p v → WritesVariant (.cons n (.newtype t) vs) 0 p (.cons (.symbol n) v)
  | tuple {n ts vs ds xs} : WritesTuple ts ds xs →
      WritesVariant (.cons n (.tuple ts) vs) 0 (.seq ds) (.cons (.symbol n) (Value.list xs))
  | struct {n fs vs ds xs} : WritesFields fs ds xs →
      WritesVariant (.cons n (.struct fs) vs) 0 (.seq ds) (.cons (.symbol n) (Value.list xs))
  | succ {n var vs i p v} : WritesVariant vs i p v → WritesVariant (.cons n var vs) (i + 1) p v
end

theorem mapM_writes {t : Ty} (ih : ∀ d, HasTy t d → ∃ v, ser t d = some v ∧ Writes t d v) :
    ∀ ds : List Data, (∀ d ∈ ds, HasTy t d) → ∃ xs, ds.mapM (ser t) = some xs ∧ WritesList t ds xs
  | [], _ => ⟨[], rfl, .nil⟩
  | d :: ds, h => by
    obtain ⟨v, hv, r⟩ := ih d (h d List.mem_cons_self)
    obtain ⟨xs, hxs, rs⟩ := mapM_writes ih ds fun d hd => h d (List.mem_cons_of_mem _ hd)
    exact ⟨v :: xs, by simp [List.mapM_cons, hv, hxs], .cons r rs⟩

theorem mapM_writesPairs {k w : Ty} (ihk : ∀ d, HasTy k d → ∃ v, ser k d = some v ∧ Writes k d v)
    (ihw : ∀ d, HasTy w d → ∃ v, ser w d = some v ∧ Writes w d v) :
    ∀ kvs : List (Data × Data), (∀ p ∈ kvs, HasTy k p.1 ∧ HasTy w p.2) →
      ∃ xs, (kvs.mapM fun p => do let x ← ser k p.1; let y ← ser w p.2; pure (Value.cons x y)) = some xs ∧
        WritesPairs k w kvs xs
  | [], _ => ⟨[], rfl, .nil⟩
  | (a, b) :: kvs, h => by
    obtain ⟨x, hx, rx⟩ := ihk a (h _ List.mem_cons_self).1
    obtain ⟨y, hy, ry⟩ := ihw b (h _ List.mem_cons_self).2
    obtain ⟨xs, hxs, rs⟩ := mapM_writesPairs ihk ihw kvs fun p hp => h p (List.mem_cons_of_mem _ hp)
    exact ⟨.cons x y :: xs, by rw [List.mapM_cons, hxs]; simp [hx, hy], .cons rx ry rs⟩

-- the pairs of a type and a datum that are not listed do not inhabit `HasTy`
mutual
theorem ser_total : ∀ (t : Ty) (d : Data), HasTy t d → ∃ v, ser t d = some v ∧ Writes t d v
  | .int _, .int _, h => ⟨_, rfl, .int h.1 h.2⟩
  | .f32, .float _, h => ⟨_, rfl, .f32 h⟩
  | .f64, .float _, _ => ⟨_, rfl, .f64⟩
  | .bool, .bool _, _ => ⟨_, rfl, .bool⟩
  | .char, .char _, _ => ⟨_, rfl, .char⟩
  | .str, .str _, _ => ⟨_, rfl, .str⟩
  | .bytes, .bytes _, _ => ⟨_, rfl, .bytes⟩
  | .unit, .unit, _ => ⟨_, rfl, .unit⟩
  | .unitStruct, .unit, _ => ⟨_, rfl, .unitStruct⟩
  | .option _, .none, _ => ⟨_, rfl, .none⟩
  | .option t, .some d, h => by
    obtain ⟨v, hv, r⟩ := ser_total t d h
    exact ⟨_, by rw [ser, hv]; rfl, .some r⟩
  | .seq t, .seq ds, h | .set t, .seq ds, h => by
    obtain ⟨xs, hxs, r⟩ := mapM_writes (ser_total t) ds h
    exact ⟨_, by rw [ser, hxs]; rfl, by constructor; exact r⟩
  | .tuple ts, .seq ds, h | .tupleStruct ts, .seq ds, h => by
    obtain ⟨xs, hxs, r⟩ := serTuple_total ts ds h
    exact ⟨_, by rw [ser, hxs]; rfl, by constructor; exact r⟩
  | .newtypeStruct t, d, h => by
    obtain ⟨v, hv, r⟩ := ser_total t d h
    exact ⟨v, by rw [ser]; exact hv, .newtypeStruct r⟩
  | .map k w, .map kvs, h => by
    obtain ⟨xs, hxs, r⟩ := mapM_writesPairs (ser_total k) (ser_total w) kvs h
    exact ⟨_, congrArg (Option.map _) hxs, .map r⟩
  | .struct fs, .seq ds, h => by
    obtain ⟨xs, hxs, r⟩ := serFields_total fs ds h
    exact ⟨_, by rw [ser, hxs]; rfl, .struct r⟩
  | .enum vs, .variant i p, h => by
    obtain ⟨v, hv, r⟩ := serVariant_total vs i p h
    exact ⟨v, by rw [ser]; exact hv, .enum r⟩
theorem serTuple_total : ∀ (ts : TyList) (ds : List Data), HasTyTuple ts ds →
    ∃ xs, serTuple ts ds = some xs ∧ WritesTuple ts ds xs
  | .nil, [], _ => ⟨_, rfl, .nil⟩
  | .cons t ts, d :: ds, h => by
    obtain ⟨v, hv, r⟩ := ser_total t d h.1
    obtain ⟨xs, hxs, rs⟩ := serTuple_total ts ds h.2
    exact ⟨v :: xs, by rw [serTuple, hv, hxs]; rfl, .cons r rs⟩
theorem serFields_total : ∀ (fs : FieldList) (ds : List Data), HasTyFields fs ds →
    ∃ xs, serFields fs ds = some xs ∧ WritesFields fs ds xs
  | .nil, [], _ => ⟨_, rfl, .nil⟩
  | .cons n t fs, d :: ds, h => by
    obtain ⟨v, hv, r⟩ := ser_total t d h.1
    obtain ⟨xs, hxs, rs⟩ := serFields_total fs ds h.2
    exact ⟨_, by rw [serFields, hv, hxs]; rfl, .cons r rs⟩
theorem serVariant_total : ∀ (vs : VariantList) (i : Nat) (p : Data), HasTyVariant vs i p →
    ∃ v, serVariant vs i p = some v ∧ WritesVariant vs i p v
  | .cons n .unit vs, 0, .unit, _ => ⟨_, rfl, .unit⟩
  | .cons n (.newtype t) vs, 0, p, h => by
    obtain ⟨v, hv, r⟩ := ser_total t p h
    exact ⟨_, by rw [serVariant, hv]; rfl, .newtype r⟩
  | .cons n (.tuple ts) vs, 0, .seq ds, h => by
    obtain ⟨xs, hxs, r⟩ := serTuple_total ts ds h
    exact ⟨_, by rw [serVariant, hxs]; rfl, .tuple r⟩
  | .cons n (.struct fs) vs, 0, .seq ds, h => by
    obtain ⟨xs, hxs, r⟩ := serFields_total fs ds h
    exact ⟨_, by rw [serVariant, hxs]; rfl, .struct r⟩
  | .cons n var vs, i + 1, p, h => by
    obtain ⟨v, hv, r⟩ := serVariant_total vs i p h
    exact ⟨v, by rw [serVariant]; exact hv, .succ r⟩
end

/-- with `ser_total` and its companions: the value `ser` returned for a well-typed datum is the one `Writes`
    describes -/
theorem of_total {α : Type} {o : Option α} {P : α → Prop} {a : α} (h : ∃ a', o = some a' ∧ P a')
    (e : o = some a) : P a := by
  obtain ⟨a', e', p⟩ := h
  cases e.symm.trans e'; exact p

/-- The recursors of the six judgements applied to one list of premises: the statements about tuples,
    fields and variants come out of the same induction as the one about values.  (`PL`, `PP`: the lists
    of a sequence and of a map, which only occur inside.)

    A trap in premise `vsucc`: `var` is a variable there.  For a hypothesis `h : X (.cons n var vs)`, `X`
    defined by recursion on the variant list with a `match` on the variant, the elaborator accepts `h.2` as it
    stands and the kernel rejects it; the uses first `rw [X.eq_def] at h`. -/
theorem Writes.induct {P : Ty → Data → Value → Prop} {PL : Ty → List Data → List Value → Prop}
    {PP : Ty → Ty → List (Data × Data) → List Value → Prop} {PT : TyList → List Data → List Value → Prop}
    {PF : FieldList → List Data → List Value → Prop} {PV : VariantList → Nat → Data → Value → Prop}
    (int : ∀ {w n}, w.lo ≤ n → n ≤ w.hi → P (.int w) (.int n) (serInt w n))
    (f32 : ∀ {b}, roundToF32 b = b → P .f32 (.float b) (.number (.flt b)))
    (f64 : ∀ {b}, P .f64 (.float b) (.number (.flt b)))
    (bool : ∀ {b}, P .bool (.bool b) (.bool b))
    (char : ∀ {c}, P .char (.char c) (.char c))
    (str : ∀ {s}, P .str (.str s) (.string s))
    (bytes : ∀ {s}, P .bytes (.bytes s) (.bytes s))
    (unit : P .unit .unit .null)
    (unitStruct : P .unitStruct .unit .null)
    (none : ∀ {t}, P (.option t) .none .null)
    (some : ∀ {t d v}, Writes t d v → P t d v → P (.option t) (.some d) (.cons v .null))
    (seq : ∀ {t ds xs}, WritesList t ds xs → PL t ds xs → P (.seq t) (.seq ds) (Value.list xs))
    (set : ∀ {t ds xs}, WritesList t ds xs → PL t ds xs → P (.set t) (.seq ds) (Value.list xs))
    (tuple : ∀ {ts ds xs}, WritesTuple ts ds xs → PT ts ds xs → P (.tuple ts) (.seq ds) (.vector xs))
    (tupleStruct : ∀ {ts ds xs}, WritesTuple ts ds xs → PT ts ds xs →
      P (.tupleStruct ts) (.seq ds) (.vector xs))
    (newtypeStruct : ∀ {t d v}, Writes t d v → P t d v → P (.newtypeStruct t) d v)
    (map : ∀ {k w kvs xs}, WritesPairs k w kvs xs → PP k w kvs xs → P (.map k w) (.map kvs) (Value.list xs))
    (struct : ∀ {fs ds xs}, WritesFields fs ds xs → PF fs ds xs → P (.struct fs) (.seq ds) (Value.list xs))
    (enum : ∀ {vs i p v}, WritesVariant vs i p v → PV vs i p v → P (.enum vs) (.variant i p) v)
    (lnil : ∀ {t}, PL t [] [])
    (lcons : ∀ {t d v ds xs}, Writes t d v → WritesList t ds xs → P t d v → PL t ds xs →
      PL t (d :: ds) (v :: xs))
    (pnil : ∀ {k w}, PP k w [] [])
    (pcons : ∀ {k w a b x y kvs xs}, Writes k a x → Writes w b y → WritesPairs k w kvs xs → P k a x →
      P w b y → PP k w kvs xs → PP k w ((a, b) :: kvs) (.cons x y :: xs))
    (tnil : PT .nil [] [])
    (tcons : ∀ {t ts d v ds xs}, Writes t d v → WritesTuple ts ds xs → P t d v → PT ts ds xs →
      PT (.cons t ts) (d :: ds) (v :: xs))
    (fnil : PF .nil [] [])
    (fcons : ∀ {n t fs d v ds xs}, Writes t d v → WritesFields fs ds xs → P t d v → PF fs ds xs →
      PF (.cons n t fs) (d :: ds) (.cons (.symbol n) v :: xs))
    (vunit : ∀ {n vs}, PV (.cons n .unit vs) 0 .unit (.symbol n))
    (vnewtype : ∀ {n t vs p v}, Writes t p v → P t p v →
      PV (.cons n (.newtype t) vs) 0 p (.cons (.symbol n) v))
    (vtuple : ∀ {n ts vs ds xs}, WritesTuple ts ds xs → PT ts ds xs →
      PV (.cons n (.tuple ts) vs) 0 (.seq ds) (.cons (.symbol n) (Value.list xs)))
    (vstruct : ∀ {n fs vs ds xs}, WritesFields fs ds xs → PF fs ds xs →
      PV (.cons n (.struct fs) vs) 0 (.seq ds) (.cons (.symbol n) (Value.list xs)))
    (vsucc : ∀ {n var vs i p v}, WritesVariant vs i p v → PV vs i p v → PV (.cons n var vs) (i + 1) p v) :
    (∀ {t d v}, Writes t d v → P t d v) ∧ (∀ {ts ds xs}, WritesTuple ts ds xs → PT ts ds xs) ∧
    (∀ {fs ds xs}, WritesFields fs ds xs → PF fs ds xs) ∧
    (∀ {vs i p v}, WritesVariant vs i p v → PV vs i p v) :=
  ⟨fun r => Writes.rec (motive_1 := fun t d v _ => P t d v) (motive_2 := fun t ds xs _ => PL t ds xs)
      (motive_3 := fun k w kvs xs _ => PP k w kvs xs) (motive_4 := fun ts ds xs _ => PT ts ds xs)
      (motive_5 := fun fs ds xs _ => PF fs ds xs) (motive_6 := fun vs i p v _ => PV vs i p v)
      int f32 f64 bool char str bytes unit unitStruct none some seq set tuple tupleStruct newtypeStruct
      map struct enum lnil lcons pnil pcons tnil tcons fnil fcons vunit vnewtype vtuple vstruct vsucc r,
   fun r => WritesTuple.rec (motive_1 := fun t d v _ => P t d v) (motive_2 := fun t ds xs _ => PL t ds xs)
      (motive_3 := fun k w kvs xs _ => PP k w kvs xs) (motive_4 := fun ts ds xs _ => PT ts ds xs)
      (motive_5 := fun fs ds xs _ => PF fs ds xs) (motive_6 := fun vs i p v _ => PV vs i p v)
      int f32 f64 bool char str bytes unit unitStruct none some seq set tuple tupleStruct newtypeStruct
      map struct enum lnil lcons pnil pcons tnil tcons fnil fcons vunit vnewtype vtuple vstruct vsucc r,
   fun r => WritesFields.rec (motive_1 := fun t d v _ => P t d v) (motive_2 := fun t ds xs _ => PL t ds xs)
      (motive_3 := fun k w kvs xs _ => PP k w kvs xs) (motive_4 := fun ts ds xs _ => PT ts ds xs)
      (motive_5 := fun fs ds xs _ => PF fs ds xs) (motive_6 := fun vs i p v _ => PV vs i p v)
      int f32 f64 bool char str bytes unit unitStruct none some seq set tuple tupleStruct newtypeStruct
      map struct enum lnil lcons pnil pcons tnil tcons fnil fcons vunit vnewtype vtuple vstruct vsucc r,
   fun r => WritesVariant.rec (motive_1 := fun t d v _ => P t d v) (motive_2 := fun t ds xs _ => PL t ds xs)
      (motive_3 := fun k w kvs xs _ => PP k w kvs xs) (motive_4 := fun ts ds xs _ => PT ts ds xs)
      (motive_5 := fun fs ds xs _ => PF fs ds xs) (motive_6 := fun vs i p v _ => PV vs i p v)
      int f32 f64 bool char str bytes unit unitStruct none some seq set tuple tupleStruct newtypeStruct
      map struct enum lnil lcons pnil pcons tnil tcons fnil fcons vunit vnewtype vtuple vstruct vsucc r⟩

theorem writes_sound :
    (∀ {t d v}, Writes t d v → ser t d = some v ∧ HasTy t d) ∧
    (∀ {ts ds xs}, WritesTuple ts ds xs → serTuple ts ds = some xs ∧ HasTyTuple ts ds) ∧
    (∀ {fs ds xs}, WritesFields fs ds xs → serFields fs ds = some xs ∧ HasTyFields fs ds) ∧
    (∀ {vs i p v}, WritesVariant vs i p v → serVariant vs i p = some v ∧ HasTyVariant vs i p) := by
  apply Writes.induct
    (PL := fun t ds xs => ds.mapM (ser t) = some xs ∧ ∀ d ∈ ds, HasTy t d)
    (PP := fun k w kvs xs =>
      (kvs.mapM fun p => do let x ← ser k p.1; let y ← ser w p.2; pure (Value.cons x y)) = some xs ∧
        ∀ p ∈ kvs, HasTy k p.1 ∧ HasTy w p.2)
  case int => exact fun h1 h2 => ⟨rfl, h1, h2⟩
  case f32 => exact fun h => ⟨rfl, h⟩
  case f64 | bool | char | str | bytes | unit | unitStruct | none | tnil | fnil | vunit => exact ⟨rfl, trivial⟩
  case lnil | pnil => exact ⟨rfl, nofun⟩
  -- one component, under a constructor of the value
  case some | seq | set | tuple | tupleStruct | struct => exact fun _ ih => ⟨by rw [ser, ih.1]; rfl, ih.2⟩
  case vnewtype | vtuple | vstruct => exact fun _ ih => ⟨by rw [serVariant, ih.1]; rfl, ih.2⟩
  case map => exact fun _ ih => ⟨congrArg (Option.map _) ih.1, ih.2⟩
  -- one component, written as it is
  case newtypeStruct | enum => exact fun _ ih => ⟨by rw [ser]; exact ih.1, ih.2⟩
  case vsucc => exact fun _ ih => ⟨by rw [serVariant]; exact ih.1, ih.2⟩
  case lcons => exact fun _ _ ih ihs =>
    ⟨by rw [List.mapM_cons, ih.1, ihs.1]; rfl, List.forall_mem_cons.2 ⟨ih.2, ihs.2⟩⟩
  case pcons => exact fun _ _ _ ihx ihy ihs =>
    ⟨by rw [List.mapM_cons, ihs.1]; simp [ihx.1, ihy.1], List.forall_mem_cons.2 ⟨⟨ihx.2, ihy.2⟩, ihs.2⟩⟩
  case tcons => exact fun _ _ ih ihs => ⟨by rw [serTuple, ih.1, ihs.1]; rfl, ih.2, ihs.2⟩
  case fcons => exact fun _ _ ih ihs => ⟨by rw [serFields, ih.1, ihs.1]; rfl, ih.2, ihs.2⟩

theorem deField_entries_cons {n : List UInt8} {t : Ty} {fs : FieldList} {es : List Entry} {x : Value}
    {d : Data} (hn' : n ∉ fs.names) (hn : es.map (·.1) = fs.names) (hd : de t x = .ok d)
    (hf : ∀ e ∈ es, deField fs e.1 e.2.1 = some (.ok e.2.2)) :
    ∀ e ∈ (n, x, d) :: es, deField (.cons n t fs) e.1 e.2.1 = some (.ok e.2.2) := by
  intro e he
  rcases List.mem_cons.mp he with rfl | he
  · rw [deField, if_pos (beq_iff_eq.2 rfl), hd]
  · have hne : ¬ (n == e.1) = true := fun heq => hn' (by
      rw [← hn, eq_of_beq heq]; exact List.mem_map_of_mem he)
    rw [deField, if_neg hne, hf e he]

theorem deStructLike_entries {fs : FieldList} (es : List Entry) (hn : es.map (·.1) = fs.names)
    (hnd : fs.names.Nodup) (hf : ∀ e ∈ es, deField fs e.1 e.2.1 = some (.ok e.2.2)) :
    deStructLike (deField fs) fs.optFlags (Value.list (es.map Entry.val)) = .ok (.seq (es.map (·.2.2))) :=
  struct_rt es (by rw [optFlags_names, hn]) (by rw [hn]; exact hnd) hf

theorem deVariant_succ {n : List UInt8} {var : Variant} {vs : VariantList} {i : Nat} {p' : Data}
    {name : List UInt8} {pl : Option Value}
    (hnd : (VariantList.cons n var vs).names.Nodup) (hmem : name ∈ vs.names)
    (hd : ∀ k, deVariant vs k name pl = .ok (.variant (k + i) p')) :
    ∀ k, deVariant (.cons n var vs) k name pl = .ok (.variant (k + (i + 1)) p') := fun k => by
  rw [deVariant_cons, if_neg fun heq => (List.nodup_cons.1 hnd).1 ((eq_of_beq heq : n = name) ▸ hmem),
    hd (k + 1), Nat.add_right_comm]; rfl

/-- `de` reads back what `ser` wrote.  For fields the statement is what `deStructLike_entries` asks for; for variants
    it is about any start index `k` and says `name ∈ vs.names`, which is what `deVariant_succ` needs. -/
theorem writes_de :
    (∀ {t d v}, Writes t d v → WellFormed t → de t v = .ok d) ∧
    (∀ {ts ds xs}, WritesTuple ts ds xs → WFTys ts → deTupleVec ts xs = .ok ds) ∧
    (∀ {fs ds xs}, WritesFields fs ds xs → WFFields fs → fs.names.Nodup →
      ∃ es : List Entry, xs = es.map Entry.val ∧ es.map (·.1) = fs.names ∧
        es.map (·.2.2) = ds ∧ ∀ e ∈ es, deField fs e.1 e.2.1 = some (.ok e.2.2)) ∧
    (∀ {vs i p v}, WritesVariant vs i p v → WFVariants vs → vs.names.Nodup →
      ∃ name pl, v = variantValue name pl ∧ name ∈ vs.names ∧
        ∀ k, deVariant vs k name pl = .ok (.variant (k + i) p)) := by
  apply Writes.induct
    (PL := fun t ds xs => WellFormed t → xs.mapM (de t) = .ok ds)
    (PP := fun k w kvs xs => WellFormed k → WellFormed w → xs.mapM (deEntry (de k) (de w)) = .ok kvs)
  case int => exact fun h1 h2 _ => de_serInt _ _ h1 h2
  case f32 => exact fun h _ => by rw [de, deNumber, h]
  case f64 => exact fun _ => by rw [de]; rfl
  case bool | char | str | bytes | unit | unitStruct | none => exact fun _ => by rw [de]
  case some => exact fun _ ih wf => by rw [de, ih wf]; rfl
  case seq | set => exact fun _ ih wf => by rw [de, deSeqLike_list, deSeqLike, ih wf]; rfl
  case tuple | tupleStruct => exact fun _ ih wf => by rw [de, deTupleLike, ih wf]; rfl
  case newtypeStruct => exact fun _ ih wf => by rw [de]; exact ih wf
  case map => exact fun _ ih wf => by rw [de_map_list, ih wf.1 wf.2]; rfl
  case struct =>
    refine fun _ ih wf => ?_
    obtain ⟨es, rfl, hn, rfl, hf⟩ := ih wf.2 wf.1
    rw [de, deStructLike_entries es hn wf.1 hf]
  case enum =>
    refine fun _ ih wf => ?_
    obtain ⟨name, pl, rfl, -, hd⟩ := ih wf.2 wf.1
    rw [de_enum_variantValue, hd 0, Nat.zero_add]
  case lnil => exact fun _ => rfl
  case lcons => exact fun _ _ ih ihs wf => by rw [List.mapM_cons, ih wf, ihs wf]; rfl
  case pnil => exact fun _ _ => rfl
  case pcons =>
    exact fun _ _ _ ihx ihy ihs wk ww => by rw [List.mapM_cons, deEntry, ihx wk, ihy ww, ihs wk ww]; rfl
  case tnil => exact fun _ => by rw [deTupleVec]
  case tcons => exact fun _ _ ih ihs wf => by rw [deTupleVec, ih wf.1, ihs wf.2]; rfl
  case fnil => exact fun _ _ => ⟨[], rfl, rfl, rfl, nofun⟩
  case fcons =>
    refine fun _ _ ih ihs wf hnd => ?_
    obtain ⟨hn', hnd'⟩ := List.nodup_cons.1 hnd
    obtain ⟨es, rfl, hn, rfl, hf⟩ := ihs wf.2 hnd'
    exact ⟨(_, _, _) :: es, rfl, by simp [FieldList.names, hn], rfl,
      deField_entries_cons hn' hn (ih wf.1) hf⟩
  -- the head variant, by kind (`deVariant_hit`)
  case vunit => exact fun _ _ =>
    ⟨_, none, rfl, List.mem_cons_self, fun k => by rw [deVariant_hit]; rfl⟩
  case vnewtype => exact fun _ ih wf _ =>
    ⟨_, some _, rfl, List.mem_cons_self, fun k => by rw [deVariant_hit]; simp only [ih wf.1]; rfl⟩
  case vtuple => exact fun _ ih wf _ =>
    ⟨_, some _, rfl, List.mem_cons_self, fun k => by
      rw [deVariant_hit]; simp only [deTupleLike_vec_ok (ih wf.1)]; rfl⟩
  case vstruct =>
    refine fun _ ih wf _ => ?_
    obtain ⟨es, rfl, hn, rfl, hf⟩ := ih wf.1.2 wf.1.1
    exact ⟨_, some _, rfl, List.mem_cons_self, fun k => by
      rw [deVariant_hit]; simp only [deStructLike_entries es hn wf.1.1 hf]; rfl⟩
  case vsucc =>
    refine fun _ ih wf hnd => ?_
    rw [WFVariants.eq_def] at wf
    obtain ⟨name, pl, rfl, hmem, hd⟩ := ih wf.2 (List.nodup_cons.1 hnd).2
    exact ⟨name, pl, rfl, List.mem_cons_of_mem _ hmem, deVariant_succ hnd hmem hd⟩

theorem rt_tuple : ∀ (ts : TyList) (ds : List Data), WFTys ts → HasTyTuple ts ds →
    ∃ vs, serTuple ts ds = some vs ∧ deTupleVec ts vs = .ok ds := fun ts ds wf h =>
  let ⟨vs, hs, r⟩ := serTuple_total ts ds h; ⟨vs, hs, writes_de.2.1 r wf⟩

theorem rt_variant : ∀ (vs : VariantList) (i : Nat) (p : Data), WFVariants vs → vs.names.Nodup →
    HasTyVariant vs i p →
    ∃ name pl, serVariant vs i p = some (variantValue name pl) ∧ name ∈ vs.names ∧
      ∀ k, deVariant vs k name pl = .ok (.variant (k + i) p) := fun vs i p wf hnd h => by
  obtain ⟨v, hs, r⟩ := serVariant_total vs i p h
  obtain ⟨name, pl, rfl, hmem, hd⟩ := writes_de.2.2.2 r wf hnd
  exact ⟨name, pl, hs, hmem, hd⟩

theorem length_of_mapM_some {α β : Type} {f : α → Option β} : ∀ {xs : List α} {ys : List β},
    xs.mapM f = some ys → ys.length = xs.length
  | [], ys, h => by simp at h; simp [← h]
  | x :: xs, ys, h => by
    simp only [List.mapM_cons, Option.bind_eq_bind, Option.bind_eq_some_iff, Option.pure_def,
      Option.some.injEq] at h
    obtain ⟨_, _, zs, hzs, rfl⟩ := h
    simp [length_of_mapM_some hzs]

theorem serTuple_length : ∀ (ts : TyList) (ds : List Data) (vs : List Value),
    serTuple ts ds = some vs → vs.length = ts.length
  | .nil, [], vs, h => by simp [serTuple] at h; subst h; simp [TyList.length]
  | .nil, _ :: _, _, h => by simp [serTuple] at h
  | .cons _ _, [], _, h => by simp [serTuple] at h
  | .cons t ts, d :: ds, vs, h => by
    simp only [serTuple, Option.bind_eq_bind, Option.bind_eq_some_iff, Option.pure_def,
      Option.some.injEq] at h
    obtain ⟨v, _, vs', hvs', rfl⟩ := h
    have := serTuple_length ts ds vs' hvs'
    simp [TyList.length, this]

theorem serFields_shape : ∀ (fs : FieldList) (ds : List Data) (vs : List Value),
    serFields fs ds = some vs →
    ∃ vals : List Value, vals.length = fs.length ∧
      vs = List.zipWith (fun n x => Value.cons (.symbol n) x) fs.names vals
  | .nil, [], vs, h => by
    simp [serFields] at h; subst h; exact ⟨[], by simp [FieldList.length, FieldList.names]⟩
  | .nil, _ :: _, _, h => by simp [serFields] at h
  | .cons _ _ _, [], _, h => by simp [serFields] at h
  | .cons n t fs, d :: ds, vs, h => by
    simp only [serFields, Option.bind_eq_bind, Option.bind_eq_some_iff, Option.pure_def,
      Option.some.injEq] at h
    obtain ⟨v, hv, vs', hvs', rfl⟩ := h
    obtain ⟨vals, h1, h3⟩ := serFields_shape fs ds vs' hvs'
    exact ⟨v :: vals, by simp [FieldList.length, h1], by simp [FieldList.names, h3]⟩

theorem serVariant_unit : ∀ (vs : VariantList) (i : Nat) (name : List UInt8),
    vs.get i = some (name, .unit) → serVariant vs i .unit = some (.symbol name)
  | .nil, _, _, h => by simp [VariantList.get] at h
  | .cons n var vs, 0, name, h => by
    simp only [VariantList.get, Option.some.injEq, Prod.mk.injEq] at h
    obtain ⟨rfl, rfl⟩ := h
    simp [serVariant]
  | .cons n var vs, i + 1, name, h => by
    simp only [VariantList.get] at h
    simpa [serVariant] using serVariant_unit vs i name h

theorem intTy_bounds (w : IntTy) : i64Min ≤ w.lo ∧ w.hi ≤ (u64Max : Int) ∧ (w.lo < 0 → w.hi ≤ i64Max) := by
  cases w <;> simp [IntTy.lo, IntTy.hi, i64Min, i64Max, u64Max]

theorem serInt_shape (w : IntTy) (n : Int) (h1 : w.lo ≤ n) (h2 : n ≤ w.hi) :
    ∃ num, serInt w n = .number num ∧ num.Normal ∧ num.WF ∧
      (0 ≤ n → num = .pos n.toNat ∧ (serInt w n).asU64 = some n.toNat) ∧
      (n < 0 → num = .neg n ∧ (serInt w n).asU64 = none) ∧
      (n ≤ i64Max → (serInt w n).asI64 = some n) := by
  obtain ⟨b1, b2, b3⟩ := intTy_bounds w
  by_cases hn : 0 ≤ n
  · refine ⟨.pos n.toNat, serInt_nonneg w n hn, trivial, ?_, fun _ => ⟨rfl, ?_⟩, fun h => by omega, fun h => ?_⟩
    · simp only [Number.WF]; omega
    · simp [serInt_nonneg w n hn, Value.asU64, Value.asNumber, Number.asU64]
    · have : (n.toNat : Int) = n := Int.toNat_of_nonneg hn
      simp [serInt_nonneg w n hn, Value.asI64, Value.asNumber, Number.asI64, this, h]
  · have hn' : n < 0 := by omega
    have hs := serInt_neg w n hn' h1
    refine ⟨.neg n, hs, hn', ?_, fun h => by omega, fun _ => ⟨rfl, ?_⟩, fun _ => ?_⟩
    · simp only [Number.WF]; have := b3 (by omega); omega
    · simp [hs, Value.asU64, Value.asNumber, Number.asU64]
    · simp [hs, Value.asI64, Value.asNumber, Number.asI64]

/-- the value deserializer (composed with the visitor of any type) never panics. -/
theorem C18_total (t : Ty) (v : Value) : de t v ≠ .panic := (de_sat t v).ne_panic

/-- every outcome of `from_value` is a datum or a data error. -/
theorem C18_data_error (t : Ty) (v : Value) : (∃ d, de t v = .ok d) ∨ de t v = .dataErr :=
  DeRes.ok_or_dataErr (C18_total t v)

/-- the same for the tuple entry point -/
theorem C18_total_tuple (ts : TyList) (v : Value) : deTupleLike ts v ≠ .panic :=
  (deTupleLike_sat (deTupleVec_sat ts) (deTupleList_sat ts) v).ne_panic

/-- a well-typed datum of a well-formed type serialises, and the value deserialises
    back to the same datum. -/
theorem C04_value (t : Ty) (d : Data) (wf : WellFormed t) (h : HasTy t d) :
    ∃ v, ser t d = some v ∧ de t v = .ok d :=
  let ⟨v, hs, r⟩ := ser_total t d h; ⟨v, hs, writes_de.1 r wf⟩

/-- `f64 as f32` (widened back) is idempotent, so the `f32` typing condition
    `roundToF32 b = b` is exactly "is the image of some double". -/
theorem C04_f32_idem (b : Nat) : roundToF32 (roundToF32 b) = roundToF32 b := roundToF32_idem b

/-- whatever `de` accepts is well typed. -/
theorem C18_typing (t : Ty) (v : Value) (d : Data) (wf : WellFormed t)
    (h : de t v = .ok d) : HasTy t d := (de_sat t v).of_ok h roundToF32_idem wf

/-- `de` maps every accepted value to a well-typed datum whose serialisation
    deserialises to the same datum. -/
theorem C18_normalise (t : Ty) (v : Value) (d : Data) (h : de t v = .ok d) (wf : WellFormed t) :
    HasTy t d ∧ ∃ v', ser t d = some v' ∧ de t v' = .ok d :=
  ⟨C18_typing t v d wf h, C04_value t d wf (C18_typing t v d wf h)⟩

/-- a vector is accepted wherever a list is, with the same result. -/
theorem C14_accept_vector_for_seq (t : Ty) (xs : List Value) :
    de (.seq t) (.vector xs) = de (.seq t) (Value.list xs) := by
  rw [de, de, deSeqLike_list]

/-- a proper list is accepted wherever a vector is (tuples, tuple structs). -/
theorem C14_accept_list_for_tuple (ts : TyList) (xs : List Value) :
    deTupleLike ts (Value.list xs) = deTupleLike ts (.vector xs) := deTupleLike_list ts xs

/-- if the variant selected by `name` (the first one of that name, `VariantList.find`) is a tuple variant,
    `deVariant` is `deserialize_tuple` on the payload: `VariantAccess::tuple_variant` calls it, and not
    `deserialize_seq` (the model's `deTupleSeq`), which looks at the tail only up to the arity -/
theorem deVariant_find_tuple : ∀ (vs : VariantList) (k : Nat) (name : List UInt8) (j : Nat) (ts : TyList),
    vs.find name k = some (j, .tuple ts) → ∀ p : Value,
    deVariant vs k name (some p) = deTupleLike ts p >>= fun d => pure (.variant j d)
  | .nil, _, _, _, _, h, _ => by simp [VariantList.find] at h
  | .cons n var vs, k, name, j, ts, h, p => by
    rw [VariantList.find] at h
    by_cases hn : (n == name) = true
    · rw [if_pos hn] at h
      simp only [Option.some.injEq, Prod.mk.injEq] at h
      obtain ⟨rfl, rfl⟩ := h
      rw [deVariant_cons, if_pos hn]
    · rw [if_neg hn] at h
      rw [deVariant_cons, if_neg hn]
      exact deVariant_find_tuple vs (k + 1) name j ts h p

/-- a proper list is accepted wherever a vector is, also as the payload of a tuple variant -/
theorem C14_accept_list_for_tuple_variant (vs : VariantList) (k : Nat) (name : List UInt8) (j : Nat)
    (ts : TyList) (h : vs.find name k = some (j, .tuple ts)) (xs : List Value) :
    deVariant vs k name (some (Value.list xs)) = deVariant vs k name (some (.vector xs)) := by
  rw [deVariant_find_tuple vs k name j ts h, deVariant_find_tuple vs k name j ts h, deTupleLike_list]

/-- an improper list is never accepted for a sequence. -/
theorem C14_reject_improper_seq (t : Ty) (xs : List Value) (hxs : xs ≠ []) (tl : Value)
    (hnull : tl.isNull = false) (hcons : tl.isCons = false) (d : Data) :
    de (.seq t) (Value.append xs tl) ≠ .ok d := by
  rw [de]; exact deSeqLike_improper (de t) tl ⟨hnull, hcons⟩ xs hxs d

/-- an improper list is a data error for a tuple. -/
theorem C14_reject_improper_tuple (ts : TyList) (xs : List Value) (hxs : xs ≠ []) (tl : Value)
    (hnull : tl.isNull = false) (hcons : tl.isCons = false) :
    deTupleLike ts (Value.append xs tl) = .dataErr :=
  deTupleLike_improper ts tl ⟨hnull, hcons⟩ xs hxs

/-- the rejection clause covers tuple variants.  If the variant selected by `name` (the first one of that name,
    `VariantList.find`) is a tuple variant, an improper list as its items `(name x… . tl)` is a data
    error — whatever the arity `ts`, the number of items (fewer, as many, or MORE than the arity: the
    tail beyond the last item is seen too) and the non-list tail. -/
theorem C14_reject_improper_tuple_variant (vs : VariantList) (k : Nat) (name : List UInt8) (j : Nat)
    (ts : TyList) (h : vs.find name k = some (j, .tuple ts))
    (xs : List Value) (hxs : xs ≠ []) (tl : Value) (hnull : tl.isNull = false) (hcons : tl.isCons = false) :
    deVariant vs k name (some (Value.append xs tl)) = .dataErr := by
  rw [deVariant_find_tuple vs k name j ts h, deTupleLike_improper ts tl ⟨hnull, hcons⟩ xs hxs]
  rfl

/-- `VecAccess` ignores surplus items -/
theorem deTupleVec_append (ys : List Value) : ∀ (ts : TyList) (xs : List Value) (ds : List Data),
    deTupleVec ts xs = .ok ds → deTupleVec ts (xs ++ ys) = .ok ds
  | .nil, xs, ds, h => by simpa [deTupleVec] using h
  | .cons t ts, [], ds, h => by simp [deTupleVec] at h
  | .cons t ts, x :: xs, ds, h => by
    rw [List.cons_append, deTupleVec]
    rw [deTupleVec] at h
    obtain ⟨d, hd, h⟩ := DeRes.bind_eq_ok.mp h
    obtain ⟨ds', hds', h⟩ := DeRes.bind_eq_ok.mp h
    simp only [DeRes.pure_eq, DeRes.ok.injEq] at h
    simp [hd, deTupleVec_append ys ts xs ds' hds', h]

/-- a PROPER list that is longer than the arity is still accepted for a
    tuple variant, the surplus items being ignored (as for plain tuples): only the shape of the whole
    payload is checked up front. -/
theorem C14_tuple_variant_surplus (vs : VariantList) (k : Nat) (name : List UInt8) (j : Nat)
    (ts : TyList) (h : vs.find name k = some (j, .tuple ts))
    (xs ys : List Value) (ds : List Data) (hd : deTupleVec ts xs = .ok ds) :
    deVariant vs k name (some (Value.list (xs ++ ys))) = .ok (.variant j (.seq ds)) := by
  rw [deVariant_find_tuple vs k name j ts h, deTupleLike_vec_ok (deTupleVec_append ys ts xs ds hd)]
  rfl

/-- sequences serialise to proper lists of as many items (sets: `C14_seq_tuple` in Props/C14.lean) -/
theorem C14_shape_seq (t : Ty) (ds : List Data) (v : Value) (h : ser (.seq t) (.seq ds) = some v) :
    v.isList = true ∧ ∃ xs, v = Value.list xs ∧ xs.length = ds.length := by
  simp only [ser, Option.map_eq_some_iff] at h
  obtain ⟨xs, hxs, rfl⟩ := h
  exact ⟨isList_list xs, xs, rfl, length_of_mapM_some hxs⟩

/-- tuples serialise to vectors of the tuple's length (tuple structs: `C14_seq_tuple` in Props/C14.lean) -/
theorem C14_shape_tuple (ts : TyList) (d : Data) (v : Value) (h : ser (.tuple ts) d = some v) :
    ∃ xs, v = .vector xs ∧ xs.length = ts.length := by
  cases d <;> simp only [ser, Option.map_eq_some_iff, reduceCtorEq] at h
  obtain ⟨xs, hxs, rfl⟩ := h
  exact ⟨xs, rfl, serTuple_length ts _ xs hxs⟩

/-- a struct serialises to a proper list of `(name . value)` pairs, the names
    being the field names as symbols, in declaration order. -/
theorem C14_shape_struct (fs : FieldList) (d : Data) (v : Value) (h : ser (.struct fs) d = some v) :
    ∃ vals : List Value, vals.length = fs.length ∧
      v = Value.list (List.zipWith (fun n x => Value.cons (.symbol n) x) fs.names vals) := by
  cases d <;> simp only [ser, Option.map_eq_some_iff, reduceCtorEq] at h
  obtain ⟨xs, hxs, rfl⟩ := h
  obtain ⟨vals, h1, h3⟩ := serFields_shape fs _ xs hxs
  exact ⟨vals, h1, by rw [h3]⟩

/-- `None ↦ ()`, `Some x ↦ (x)`. -/
theorem C14_shape_option (t : Ty) (d : Data) :
    ser (.option t) .none = some .null ∧
    ser (.option t) (.some d) = (ser t d).map fun x => .cons x .null := by
  constructor <;> rw [ser]

/-- a unit variant serialises to its name as a symbol. -/
theorem C14_shape_unit_variant (vs : VariantList) (i : Nat) (name : List UInt8)
    (h : vs.get i = some (name, .unit)) : ser (.enum vs) (.variant i .unit) = some (.symbol name) := by
  rw [ser]; exact serVariant_unit vs i name h

/-- an in-range integer serialises to a well-formed number in normal form with
    the same mathematical value: `PosInt` for `n ≥ 0`, `NegInt` otherwise. -/
theorem C14_shape_int (w : IntTy) (n : Int) (h1 : w.lo ≤ n) (h2 : n ≤ w.hi) :
    ∃ num, ser (.int w) (.int n) = some (.number num) ∧ num.Normal ∧ num.WF ∧
      (0 ≤ n → num = .pos n.toNat ∧ (serInt w n).asU64 = some n.toNat) ∧
      (n < 0 → num = .neg n ∧ (serInt w n).asU64 = none) ∧
      (n ≤ i64Max → (serInt w n).asI64 = some n) := by
  obtain ⟨num, h, rest⟩ := serInt_shape w n h1 h2
  exact ⟨num, by rw [ser, h], rest⟩

/-! ### an instance of `C04_value`, `C18_total` and `C18_normalise` -/

/-- `struct S { a: Option<i8>, b: Vec<(bool, String)>, c: E }`,
    `enum E { x, y(f64), z((), char), w { k: Map<String, u64> } }` -/
def exTy : Ty :=
  .struct (.cons [97] (.option (.int .i8))
    (.cons [98] (.seq (.tuple (.cons .bool (.cons .str .nil))))
    (.cons [99] (.enum (.cons [120] .unit (.cons [121] (.newtype .f64)
      (.cons [122] (.tuple (.cons .unit (.cons .char .nil)))
      (.cons [119] (.struct (.cons [107] (.map .str (.int .u64)) .nil)) .nil))))) .nil)))

def exData : Data :=
  .seq [.some (.int (-5)), .seq [.seq [.bool true, .str [104]]],
        .variant 3 (.seq [.map [(.str [1], .int 7)]])]

theorem exTy_wf : WellFormed exTy := by
  simp only [exTy, WellFormed, WFFields, WFVariants, WFTys, FieldList.names, VariantList.names,
    and_true, true_and]
  decide +kernel

theorem exData_ty : HasTy exTy exData := by
  simp only [exTy, exData, HasTy, HasTyFields, HasTyTuple, HasTyVariant, List.mem_cons,
    List.not_mem_nil, or_false, forall_eq_or_imp, forall_eq, and_true, true_and]
  decide +kernel

example : ∃ v, ser exTy exData = some v ∧ de exTy v = .ok exData := C04_value _ _ exTy_wf exData_ty

example : de exTy (.vector []) = .dataErr ∧ de exTy (.vector []) ≠ .panic :=
  ⟨by simp [exTy, de, deStructLike], C18_total _ _⟩

/-- a non-canonical input: fields out of order, an unknown field, the `Option` field missing, a vector for
    the sequence and a list for the tuple -/
def exValue : Value :=
  Value.list [.cons (.symbol [99]) (.symbol [120]), .cons (.symbol [113]) (.bool true),
    .cons (.symbol [98]) (.vector [Value.list [.bool false, .string []]])]

theorem exValue_de : de exTy exValue = .ok (.seq [.none, .seq [.seq [.bool false, .str []]], .variant 0 .unit]) := by
  simp [exTy, exValue, Value.list, Value.append, de, deStructLike, deStructEntries, deField, lookupField,
    deStructFill, FieldList.optFlags, Ty.isOption, deVariant, deSeqLike, deTupleLike, Value.isList,
    Value.isList.isListTail, deTupleList]

example : HasTy exTy (.seq [.none, .seq [.seq [.bool false, .str []]], .variant 0 .unit]) ∧
    ∃ v', ser exTy (.seq [.none, .seq [.seq [.bool false, .str []]], .variant 0 .unit]) = some v' ∧
      de exTy v' = .ok (.seq [.none, .seq [.seq [.bool false, .str []]], .variant 0 .unit]) :=
  C18_normalise _ _ _ exValue_de exTy_wf

/-! ### the hypotheses are needed -/

/-- without distinct field names the round trip fails (duplicate field error) -/
example : HasTy (.struct (.cons [97] .bool (.cons [97] .bool .nil))) (.seq [.bool true, .bool false]) ∧
    ∃ v, ser (.struct (.cons [97] .bool (.cons [97] .bool .nil))) (.seq [.bool true, .bool false]) = some v ∧
      de (.struct (.cons [97] .bool (.cons [97] .bool .nil))) v = .dataErr := by
  refine ⟨by simp [HasTy, HasTyFields], _, rfl, ?_⟩
  simp [de, deStructLike, deStructEntries, deField, lookupField]

/-- without distinct variant names the round trip returns the first variant of that name -/
example : HasTy (.enum (.cons [97] .unit (.cons [97] .unit .nil))) (.variant 1 .unit) ∧
    ∃ v, ser (.enum (.cons [97] .unit (.cons [97] .unit .nil))) (.variant 1 .unit) = some v ∧
      de (.enum (.cons [97] .unit (.cons [97] .unit .nil))) v = .ok (.variant 0 .unit) := by
  refine ⟨by simp [HasTy, HasTyVariant], _, rfl, ?_⟩
  simp [de, deVariant]

/-- an integer outside the range of its type serialises but does not come back -/
example : ∃ v, ser (.int .u8) (.int 300) = some v ∧ de (.int .u8) v = .dataErr := by
  refine ⟨_, rfl, ?_⟩
  simp [serInt, Number.ofSigned, de, deNumber, IntTy.hi]
example : ∃ v, ser (.int .u64) (.int (-1)) = some v ∧ de (.int .u64) v = .ok (.int 0) := by
  refine ⟨_, rfl, ?_⟩
  simp [serInt, Number.ofUnsigned, de, deNumber, IntTy.hi]

/-- an `f32` datum that is not a binary32 value (here the double nearest 0.1) comes back rounded -/
example : ∃ v, ser .f32 (.float 0x3FB999999999999A) = some v ∧
    de .f32 v = .ok (.float 0x3FB99999A0000000) := by
  refine ⟨_, rfl, ?_⟩
  have : roundToF32 0x3FB999999999999A = 0x3FB99999A0000000 := by decide +kernel
  simp [de, deNumber, this]
/-- ... and the rounded value is well typed -/
example : HasTy .f32 (.float 0x3FB99999A0000000) := by
  have : roundToF32 0x3FB99999A0000000 = 0x3FB99999A0000000 := by decide +kernel
  simpa [HasTy] using this

/-! ### the subtle shapes round-trip -/

/-- `Some(())` is `(())`, `None` is `()` -/
example : ser (.option .unit) (.some .unit) = some (.cons .null .null) ∧
    de (.option .unit) (.cons .null .null) = .ok (.some .unit) ∧
    de (.option .unit) .null = .ok .none := by simp [ser, de]
/-- `Option<Option<bool>>`: `Some(None)` is `(())`, `None` is `()`, `Some(Some(#t))` is `((#t))` -/
example : ser (.option (.option .bool)) (.some .none) = some (.cons .null .null) ∧
    de (.option (.option .bool)) (.cons .null .null) = .ok (.some .none) ∧
    de (.option (.option .bool)) .null = .ok .none ∧
    de (.option (.option .bool)) (.cons (.cons (.bool true) .null) .null) = .ok (.some (.some (.bool true))) := by
  simp [ser, de]
/-- a newtype variant around a sequence and a tuple variant have the same shape `(name x y)` and are told
    apart by the name only -/
example :
    ser (.enum (.cons [121] (.newtype (.seq .bool)) (.cons [122] (.tuple (.cons .bool (.cons .bool .nil))) .nil)))
      (.variant 0 (.seq [.bool true, .bool false])) =
      some (.cons (.symbol [121]) (Value.list [.bool true, .bool false])) ∧
    ser (.enum (.cons [121] (.newtype (.seq .bool)) (.cons [122] (.tuple (.cons .bool (.cons .bool .nil))) .nil)))
      (.variant 1 (.seq [.bool true, .bool false])) =
      some (.cons (.symbol [122]) (Value.list [.bool true, .bool false])) := ⟨rfl, rfl⟩
/-- a newtype struct is transparent, also around an option -/
example : ser (.newtypeStruct (.option .bool)) .none = some .null ∧
    de (.newtypeStruct (.option .bool)) .null = .ok .none := by simp [ser, de]

/-- `deserialize_seq` (the helper `deTupleSeq` of the model) checks a payload for properness only up to the
    arity: `(z #t #f . 5)` is accepted for `z(bool)` while `(z #t . 5)` is not; a plain tuple rejects both.
    The witness of what the rejection clause of C14 would lose if `VariantAccess::tuple_variant` went through
    `deserialize_seq`. -/
example : deTupleSeq (.cons .bool .nil) (.cons (.bool true) (.cons (.bool false) (.number (.pos 5)))) =
      .ok (.seq [.bool true]) ∧
    deTupleSeq (.cons .bool .nil) (.cons (.bool true) (.number (.pos 5))) = .dataErr ∧
    deTupleLike (.cons .bool .nil) (.cons (.bool true) (.cons (.bool false) (.number (.pos 5)))) =
      .dataErr := by
  simp [deTupleSeq, deTupleList, deTupleLike, de, Value.isList, Value.isList.isListTail]
/-- through `deserialize_tuple` the tuple-variant arm rejects both `(z #t #f . 5)` and `(z #t . 5)` for
    `z(bool)`, and accepts the proper over-long `(z #t #f)` -/
example :
    de (.enum (.cons [122] (.tuple (.cons .bool .nil)) .nil))
      (.cons (.symbol [122]) (.cons (.bool true) (.cons (.bool false) (.number (.pos 5))))) = .dataErr ∧
    de (.enum (.cons [122] (.tuple (.cons .bool .nil)) .nil))
      (.cons (.symbol [122]) (.cons (.bool true) (.number (.pos 5)))) = .dataErr ∧
    de (.enum (.cons [122] (.tuple (.cons .bool .nil)) .nil))
      (.cons (.symbol [122]) (.cons (.bool true) (.cons (.bool false) .null))) =
      .ok (.variant 0 (.seq [.bool true])) := by
  simp [deVariant, deTupleList, deTupleLike, de, Value.isList, Value.isList.isListTail]
/-- extra tuple elements are ignored, a unit variant ignores its payload, `Nil` is accepted for unit -/
example : de (.tuple (.cons .bool .nil)) (.vector [.bool true, .null]) = .ok (.seq [.bool true]) ∧
    de (.enum (.cons [120] .unit .nil)) (.cons (.symbol [120]) (.bool true)) = .ok (.variant 0 .unit) ∧
    de .unit .nil = .ok .unit := by
  simp [de, deTupleLike, deTupleVec, deVariant]

example : de (.seq .bool) (.vector [.bool true]) = de (.seq .bool) (Value.list [.bool true]) :=
  C14_accept_vector_for_seq _ _
example : deTupleLike (.cons .bool .nil) (Value.list [.bool true]) =
    deTupleLike (.cons .bool .nil) (.vector [.bool true]) := C14_accept_list_for_tuple _ _
example (d : Data) : de (.seq .bool) (Value.append [.bool true] (.number (.pos 1))) ≠ .ok d :=
  C14_reject_improper_seq _ _ (by simp) _ rfl rfl d
example : deTupleLike (.cons .bool .nil) (Value.append [.bool true] (.number (.pos 1))) = .dataErr :=
  C14_reject_improper_tuple _ _ (by simp) _ rfl rfl

/-- `enum E { T(u8, u8) }` -/
def exTupleVariantTy : Ty := .enum (.cons [84] (.tuple (.cons (.int .u8) (.cons (.int .u8) .nil))) .nil)

/-- `(T 168 255 9 . 7)` is a data error (`deTupleSeq` gives `T(168, 255)`, below): by the theorem … -/
example : de exTupleVariantTy
    (.cons (.symbol [84]) (Value.append [.number (.pos 168), .number (.pos 255), .number (.pos 9)]
      (.number (.pos 7)))) = .dataErr :=
  (de_enum _ _).trans (C14_reject_improper_tuple_variant _ 0 [84] 0 _ rfl _ (by simp) _ rfl rfl)
/-- … and by unfolding the model on this input (no theorem involved) -/
example : de exTupleVariantTy
    (.cons (.symbol [84]) (.cons (.number (.pos 168)) (.cons (.number (.pos 255)) (.cons (.number (.pos 9))
      (.number (.pos 7)))))) = .dataErr := by
  simp [exTupleVariantTy, de, deVariant, deTupleLike, Value.isList, Value.isList.isListTail]
/-- the other improper payloads, as observed on the crate: `(T 168 255 . 7)`, `(T 168 255 T . 7)`,
    `(T 168 . 255)` -/
example :
    de exTupleVariantTy (.cons (.symbol [84]) (.cons (.number (.pos 168)) (.cons (.number (.pos 255))
      (.number (.pos 7))))) = .dataErr ∧
    de exTupleVariantTy (.cons (.symbol [84]) (.cons (.number (.pos 168)) (.cons (.number (.pos 255))
      (.cons (.symbol [84]) (.number (.pos 7)))))) = .dataErr ∧
    de exTupleVariantTy (.cons (.symbol [84]) (.cons (.number (.pos 168)) (.number (.pos 255)))) = .dataErr := by
  simp [exTupleVariantTy, de, deVariant, deTupleLike, Value.isList, Value.isList.isListTail]
/-- the proper over-long payload `(T 168 255 9)` is still accepted (surplus item ignored), like `(T 168 255)`
    and the vector payload `(T . #(168 255))`; `deTupleSeq` accepts `(T 168 255 9 . 7)` -/
example :
    de exTupleVariantTy (.cons (.symbol [84]) (Value.list [.number (.pos 168), .number (.pos 255),
      .number (.pos 9)])) = .ok (.variant 0 (.seq [.int 168, .int 255])) ∧
    de exTupleVariantTy (.cons (.symbol [84]) (Value.list [.number (.pos 168), .number (.pos 255)])) =
      .ok (.variant 0 (.seq [.int 168, .int 255])) ∧
    de exTupleVariantTy (.cons (.symbol [84]) (.vector [.number (.pos 168), .number (.pos 255)])) =
      .ok (.variant 0 (.seq [.int 168, .int 255])) ∧
    deTupleSeq (.cons (.int .u8) (.cons (.int .u8) .nil))
      (Value.append [.number (.pos 168), .number (.pos 255), .number (.pos 9)] (.number (.pos 7))) =
      .ok (.seq [.int 168, .int 255]) := by
  simp [exTupleVariantTy, Value.list, Value.append, de, deVariant, deTupleLike, deTupleSeq, deTupleList, deTupleVec,
    deNumber, IntTy.hi, Value.isList, Value.isList.isListTail]
/-- the same through `C14_tuple_variant_surplus` -/
example : deVariant (.cons [84] (.tuple (.cons (.int .u8) (.cons (.int .u8) .nil))) .nil) 0 [84]
    (some (Value.list ([.number (.pos 168), .number (.pos 255)] ++ [.number (.pos 9)]))) =
    .ok (.variant 0 (.seq [.int 168, .int 255])) :=
  C14_tuple_variant_surplus _ 0 [84] 0 _ rfl _ _ _ (by simp [deTupleVec, de, deNumber, IntTy.hi])
/-- an empty tuple variant `(ET)` -/
example : de (.enum (.cons [69, 84] (.tuple .nil) .nil)) (.cons (.symbol [69, 84]) .null) =
    .ok (.variant 0 (.seq [])) := by
  simp [de, deVariant, deTupleLike, deTupleVec]
example : deVariant (.cons [122] (.tuple (.cons .bool .nil)) .nil) 0 [122] (some (Value.list [.bool true])) =
    deVariant (.cons [122] (.tuple (.cons .bool .nil)) .nil) 0 [122] (some (.vector [.bool true])) :=
  C14_accept_list_for_tuple_variant _ 0 [122] 0 _ rfl _
example : ∃ num, ser (.int .i16) (.int (-300)) = some (.number num) ∧ num = .neg (-300) := by
  obtain ⟨num, h, _, _, _, hneg, _⟩ := C14_shape_int .i16 (-300) (by simp [IntTy.lo]) (by simp [IntTy.hi])
  exact ⟨num, h, (hneg (by omega)).1⟩
example : ser (.enum (.cons [120] .unit (.cons [121] .unit .nil))) (.variant 1 .unit) = some (.symbol [121]) :=
  C14_shape_unit_variant _ _ _ rfl

end Serde
end Lexpr
