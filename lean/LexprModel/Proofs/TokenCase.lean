/-
  What a successful `parse_token` did, said once: a lead-in of known bytes was consumed, and then
  at most one scanner was called; two after a non-ASCII initial (`TokenCase.hi`:
  `decode_utf8_sequence`, then `parse_symbol_bytes`), the one case where the lead-in, the peeked
  byte itself, is not ASCII.  `TokenCase cfg fuel pk s tok s'` lists the nine ways: a fixed word
  (table `fixedTok`), a name (`parse_symbol_bytes`; table `NameArm`), a non-ASCII initial,
  `#b #o #d #x`, a decimal number, `#\`, `?`, and the two string syntaxes.  `parseToken_cases` is the
  inversion, read off the dispatch `parseToken_eq`; a property of every token a successful call
  returns is a case analysis on it, one fact per scanner and per table row.
-/
import LexprModel.Spec.NumericLiteral
import LexprModel.Proofs.TokClass
import LexprModel.Proofs.Utf8Valid
namespace Lexpr
namespace Parse
open U8

/-- `s1` is `s` with the bytes `pre` consumed (same source) -/
structure Lead (s : St) (pre : List UInt8) (s1 : St) : Prop where
  mode : s1.rd.mode = s.rd.mode
  rest : s.rd.rest = pre ++ s1.rd.rest

namespace Lead
variable {s s1 s2 : St} {a b : List UInt8}

theorem refl (s : St) : Lead s [] s := ⟨rfl, rfl⟩

theorem trans (h1 : Lead s a s1) (h2 : Lead s1 b s2) : Lead s (a ++ b) s2 :=
  ⟨h2.mode.trans h1.mode, by rw [h1.rest, h2.rest, List.append_assoc]⟩

theorem discard {u : Unit} {pk : UInt8} (hpk : s.rd.rest.head? = some pk)
    (h : Parse.discard s = .ok u s1) : Lead s [pk] s1 := by
  obtain ⟨hm, c, hr⟩ := discard_frame h
  rw [hr] at hpk
  obtain rfl : c = pk := Option.some.inj hpk
  exact ⟨hm, hr⟩

theorem next {c : UInt8} (h : Parse.next s = .ok (some c) s1) : Lead s [c] s1 :=
  ⟨(next_some_frame h).1, (next_some_frame h).2⟩

theorem peek {c : UInt8} (h : peekOrNull s = .ok c s1) :
    Lead s [] s1 ∧ c = s.rd.rest.head?.getD 0 :=
  let ⟨hm, hr, hc⟩ := peekOrNull_frame h; ⟨⟨hm, hr.symm⟩, hc⟩

/-- the byte `peek_or_null` returned, when it is not the end-of-input mark -/
theorem head_of_peek {k : UInt8} (h : Lead s [] s1) (hc : (s.rd.rest.head?.getD 0 == k) = true)
    (hk : k ≠ 0) : s1.rd.rest.head? = some k := by
  rw [← show s.rd.rest = s1.rd.rest from h.rest]
  cases hr : s.rd.rest with
  | nil => rw [hr] at hc; exact absurd (by simpa using hc) hk.symm
  | cons x xs => rw [hr] at hc; simpa using hc

theorem expectIdent : ∀ (w : List UInt8) {s s1 : St} {u : Unit},
    Parse.expectIdent w s = .ok u s1 → Lead s w s1 := by
  intro w
  induction w with
  | nil => intro s s1 u h; obtain ⟨_, rfl⟩ := Res.ok.inj h; exact refl s
  | cons c cs ih =>
    intro s s1 u h
    rw [Parse.expectIdent] at h
    obtain ⟨o, s2, hn, h2⟩ := bind_ok h
    cases o with
    | none => cases h2
    | some x =>
      dsimp only at h2
      split at h2
      · rename_i hb
        obtain rfl : x = c := by simpa using hb
        exact (Lead.next hn).trans (ih h2)
      · cases h2

end Lead

/-- `Lead`, given that the caller has peeked `pk` (as every caller of `parse_token` has): which byte
    the first `discard` of an arm consumes is known only then -/
def LeadP (pk : UInt8) (s : St) (pre : List UInt8) (s1 : St) : Prop :=
  s.rd.rest.head? = some pk → Lead s pre s1

theorem LeadP.refl (pk : UInt8) (s : St) : LeadP pk s [] s := fun _ => Lead.refl s

theorem LeadP.trans {pk : UInt8} {s s1 s2 : St} {a b : List UInt8} (h1 : LeadP pk s a s1)
    (h2 : Lead s1 b s2) : LeadP pk s (a ++ b) s2 := fun h => (h1 h).trans h2

theorem LeadP.discard {pk : UInt8} {s s1 : St} {u : Unit} (h : Parse.discard s = .ok u s1) :
    LeadP pk s [pk] s1 := fun hpk => Lead.discard hpk h

/-- the arms that end in `parse_symbol_bytes`: the lead-in, the scratch prefix handed to it, what the
    arm knows of the byte behind the lead-in (0 at the end of input), how the name becomes a token,
    and the option (or class of the first byte) that selects the arm -/
inductive NameArm (cfg : Cfg) (pk : UInt8) :
    List UInt8 → List UInt8 → (UInt8 → Bool) → (List UInt8 → Token) → Prop
  | octothorpe : pk = 35 → cfg.opts.kwOctothorpe = true → NameArm cfg pk [35, 58] [] (fun _ => true) .keyword
  | racket : pk = 35 → cfg.opts.racket = true → NameArm cfg pk [35, 37] (asc "#%") (fun _ => true) .symbol
  | sign : pk = 45 ∨ pk = 43 →
      NameArm cfg pk [pk] [pk] (fun c => c == 0 || isDelimiter c || isSignSubsequent c)
        (symbolToken cfg.opts)
  | signDot : pk = 45 ∨ pk = 43 →
      NameArm cfg pk [pk, 46] [pk, 46] (fun c => !isDigit c) (symbolToken cfg.opts)
  | colonKw : pk = 58 → cfg.opts.kwPrefix = true → NameArm cfg pk [58] [] (fun _ => true) .keyword
  | sym : (pk = 58 ∧ cfg.opts.kwPrefix = false) ∨ (pk = 63 ∧ cfg.opts.char ≠ .elisp) ∨
        (isSymbolExtended pk = true ∧ pk ≠ 58 ∧ pk ≠ 63) →
      NameArm cfg pk [] [] (fun _ => true) (symbolToken cfg.opts)
  | letter : isAsciiAlpha pk = true → NameArm cfg pk [] [] (fun _ => true) (letterTok cfg.opts)
  | whole : isDigit pk = true → cfg.opts.leadingDigit = true →
      NameArm cfg pk [] [] (fun _ => true) (fun sym => match wholeNumber cfg sym with
        | some n => .number n
        | none => symbolToken cfg.opts sym)

inductive TokenCase (cfg : Cfg) (fuel : Nat) (pk : UInt8) (s : St) : Token → St → Prop
  | fixed {pre : List UInt8} {t : Token} {s' : St} (hm : (pre, t) ∈ fixedTok cfg.opts)
      (hp : pre.head? = some pk) (hl : LeadP pk s pre s') : TokenCase cfg fuel pk s t s'
  | name {pre sc name : List UInt8} {nx : UInt8 → Bool} {mk : List UInt8 → Token} {s1 s' : St}
      (ha : NameArm cfg pk pre sc nx mk) (hl : LeadP pk s pre s1)
      (hx : nx (s1.rd.rest.head?.getD 0) = true)
      (hn : parseSymbolBytes sc s1 = .ok name s') : TokenCase cfg fuel pk s (mk name) s'
  | hi {c : Nat} {bytes name : List UInt8} {s1 s2 s' : St} (hpk : pk > 127) (hl : LeadP pk s [pk] s1)
      (hd : decodeUtf8Sequence pk s1 = .ok (c, bytes) s2) (ha : cfg.isAlphabetic c = true)
      (hn : parseSymbolBytes bytes s2 = .ok name s') :
      TokenCase cfg fuel pk s (symbolToken cfg.opts name) s'
  | radix {c : UInt8} {radix : Nat} {n : Number} {s1 s' : St} (hp : pk = 35)
      (hl : LeadP pk s [35, c] s1)
      (hm : Spec.radixOfMark c = some radix) (hn : parseRadixToken cfg fuel radix s1 = .ok n s') :
      TokenCase cfg fuel pk s (.number n) s'
  | num {pre : List UInt8} {pos : Bool} {n : Number} {s1 s' : St}
      (ha : (pre = [] ∧ pos = true ∧ isDigit pk = true ∧ cfg.opts.leadingDigit = false) ∨
        (pre = [45] ∧ pos = false ∧ pk = 45) ∨ (pre = [43] ∧ pos = true ∧ pk = 43))
      (hl : LeadP pk s pre s1) (hn : parseNumToken cfg fuel pos s1 = .ok n s') :
      TokenCase cfg fuel pk s (.number n) s'
  | r6char {ch : Nat} {s1 s' : St} (hp : pk = 35) (hl : LeadP pk s [35, 92] s1)
      (hc : parseR6rsChar fuel s1 = .ok ch s') :
      TokenCase cfg fuel pk s (.char ch) s'
  | elchar {ch : Nat} {s1 s' : St} (ho : cfg.opts.char = .elisp) (hp : pk = 63)
      (hl : LeadP pk s [63] s1)
      (hc : parseElispChar fuel s1 = .ok ch s') : TokenCase cfg fuel pk s (.char ch) s'
  | r6str {b : List UInt8} {s1 s' : St} (ho : cfg.opts.string = .r6rs) (hp : pk = 34)
      (hl : LeadP pk s [34] s1)
      (hc : parseR6rsStr fuel [] s1 = .ok b s') : TokenCase cfg fuel pk s (.string b) s'
  | elstr {r : ElispStr} {s1 s' : St} (ho : cfg.opts.string = .elisp) (hp : pk = 34)
      (hl : LeadP pk s [34] s1)
      (hc : parseElispStr fuel [] false false false s1 = .ok r s') :
      TokenCase cfg fuel pk s (match r with | .multibyte b => .string b | .unibyte b => .bytes b) s'

/-- the four radix marks `b o d x` -/
theorem radixOfMark_some {c : UInt8} {radix : Nat} (h : Spec.radixOfMark c = some radix) :
    (c, radix) ∈ [((98 : UInt8), 2), (111, 8), (100, 10), (120, 16)] := by
  have key : ∀ {k : UInt8} {r : Nat} {o : Option Nat} {l : List (UInt8 × Nat)},
      (if (c == k) = true then some r else o) = some radix → (k, r) ∈ l →
      (o = some radix → (c, radix) ∈ l) → (c, radix) ∈ l := by
    intro k r o l h hm hn
    by_cases hk : (c == k) = true
    · rw [if_pos hk] at h; rw [eq_of_beq hk, ← Option.some.inj h]; exact hm
    · rw [if_neg hk] at h; exact hn h
  exact key h (.head _) fun h => key h (.tail _ (.head _)) fun h =>
    key h (.tail _ (.tail _ (.head _))) fun h =>
    key h (.tail _ (.tail _ (.tail _ (.head _)))) fun h => nomatch h

theorem radixOfMark_pos {c : UInt8} {radix : Nat} (h : Spec.radixOfMark c = some radix) :
    0 < radix := by
  have := radixOfMark_some h
  simp only [List.mem_cons, List.not_mem_nil, or_false, Prod.mk.injEq] at this
  rcases this with ⟨-, rfl⟩ | ⟨-, rfl⟩ | ⟨-, rfl⟩ | ⟨-, rfl⟩ <;> decide

variable {cfg : Cfg} {fuel : Nat} {pk : UInt8} {s s' : St} {tok : Token}

theorem symArm_ok {pre : List UInt8} {s1 : St}
    (ha : NameArm cfg pk pre [] (fun _ => true) (symbolToken cfg.opts))
    (hl : LeadP pk s pre s1) (h : symArm cfg.opts [] s1 = .ok tok s') :
    TokenCase cfg fuel pk s tok s' := by
  obtain ⟨name, hn, rfl⟩ := map_ok h
  exact .name ha hl rfl hn

/-- The cascade of `hashTail` taken apart arm by arm; `fixed`, `word` and `radix` are the three kinds
    of arm that occur more than once. -/
theorem hashTail_ok {c : UInt8} {s2 : St} (hp : pk = 35) (hl : LeadP pk s [35, c] s2)
    (h : hashTail cfg fuel c s2 = .ok tok s') : TokenCase cfg fuel pk s tok s' := by
  have fixed : ∀ {k : UInt8} {t : Token}, (c == k) = true → ([35, k], t) ∈ fixedTok cfg.opts →
      (pure t : P Token) s2 = .ok tok s' → TokenCase cfg fuel pk s tok s' := by
    intro k t hk hm h
    obtain rfl : c = k := by simpa using hk
    obtain ⟨rfl, rfl⟩ := pure_ok h
    exact .fixed hm (by rw [hp]; rfl) hl
  have word : ∀ {k : UInt8} {w : List UInt8} {t : Token}, (c == k) = true →
      (35 :: k :: w, t) ∈ fixedTok cfg.opts →
      (expectIdent w >>= fun _ => pure t) s2 = .ok tok s' → TokenCase cfg fuel pk s tok s' := by
    intro k w t hk hm h
    obtain rfl : c = k := by simpa using hk
    obtain ⟨u, s3, hw, h⟩ := bind_ok h
    obtain ⟨rfl, rfl⟩ := pure_ok h
    exact .fixed hm (by rw [hp]; rfl) (hl.trans (Lead.expectIdent w hw))
  have radix : ∀ {k : UInt8} {r : Nat}, (c == k) = true → Spec.radixOfMark k = some r →
      (parseRadixToken cfg fuel r >>= fun n => pure (Token.number n)) s2 = .ok tok s' →
      TokenCase cfg fuel pk s tok s' := by
    intro k r hk hm h
    obtain rfl : c = k := by simpa using hk
    obtain ⟨n, hn, rfl⟩ := map_ok h
    exact .radix hp hl hm hn
  unfold hashTail at h
  replace h := ite_ok h
  rcases h with ⟨hc, h⟩ | ⟨-, h⟩
  · exact fixed hc (fixedTok_mem 6 rfl) h
  replace h := ite_ok h
  rcases h with ⟨hc, h⟩ | ⟨-, h⟩
  · exact fixed hc (fixedTok_mem 7 rfl) h
  replace h := ite_ok h
  rcases h with ⟨hc, h⟩ | ⟨-, h⟩
  · exact word hc (fixedTok_mem 9 rfl) h
  replace h := ite_ok h
  rcases h with ⟨hc, h⟩ | ⟨-, h⟩
  · exact fixed hc (fixedTok_mem 8 rfl) h
  replace h := ite_ok h
  rcases h with ⟨hc, h⟩ | ⟨-, h⟩
  · simp only [Bool.and_eq_true, beq_iff_eq] at hc
    obtain ⟨rfl, ho⟩ := hc
    obtain ⟨name, hn, rfl⟩ := map_ok h
    exact .name (.octothorpe hp ho) hl rfl hn
  replace h := ite_ok h
  rcases h with ⟨hc, h⟩ | ⟨-, h⟩
  · exact word hc (fixedTok_mem 10 rfl) h
  replace h := ite_ok h
  rcases h with ⟨hc, h⟩ | ⟨-, h⟩
  · exact word hc (fixedTok_mem 11 rfl) h
  replace h := ite_ok h
  rcases h with ⟨hc, h⟩ | ⟨-, h⟩
  · exact radix hc rfl h
  replace h := ite_ok h
  rcases h with ⟨hc, h⟩ | ⟨-, h⟩
  · exact radix hc rfl h
  replace h := ite_ok h
  rcases h with ⟨hc, h⟩ | ⟨-, h⟩
  · exact radix hc rfl h
  replace h := ite_ok h
  rcases h with ⟨hc, h⟩ | ⟨-, h⟩
  · exact radix hc rfl h
  replace h := ite_ok h
  rcases h with ⟨hc, h⟩ | ⟨-, h⟩
  · obtain rfl : c = 92 := by simpa using hc
    obtain ⟨ch, hch, rfl⟩ := map_ok h
    exact .r6char hp hl hch
  replace h := ite_ok h
  rcases h with ⟨hc, h⟩ | ⟨-, h⟩
  · simp only [Bool.and_eq_true, beq_iff_eq] at hc
    obtain ⟨rfl, ho⟩ := hc
    obtain ⟨name, hn, rfl⟩ := map_ok h
    exact .name (.racket hp ho) hl rfl hn
  · cases h

/-- the sign arm: the lead-in is the sign, or the sign and `.`; what follows it is a name (rows
    `sign`, `signDot` of `NameArm`, with the byte the arm looked at) or a decimal number -/
theorem parseSignToken_ok {pos : Bool}
    (hsg : (pk = 45 ∧ pos = false) ∨ (pk = 43 ∧ pos = true))
    (h : parseSignToken cfg fuel pk pos s = .ok tok s') : TokenCase cfg fuel pk s tok s' := by
  have hsg' : pk = 45 ∨ pk = 43 := hsg.imp And.left And.left
  unfold parseSignToken at h
  obtain ⟨u, s1, hd, h⟩ := bind_ok h
  have l1 : LeadP pk s [pk] s1 := .discard hd
  obtain ⟨nxt, s2, hp, h⟩ := bind_ok h
  obtain ⟨l2, rfl⟩ := Lead.peek hp
  have l12 : LeadP pk s [pk] s2 := l1.trans l2
  split at h
  · rename_i hc
    obtain ⟨name, hn, rfl⟩ := map_ok h
    exact .name (.sign hsg') l12 (by rw [← show s1.rd.rest = s2.rd.rest from l2.rest]; exact hc) hn
  split at h
  · rename_i h46
    unfold parseSignDotSymbol at h
    obtain ⟨u, s3, hd3, h⟩ := bind_ok h
    have l3 := Lead.discard (l2.head_of_peek h46 (by decide)) hd3
    obtain ⟨c, s4, hp4, h⟩ := bind_ok h
    obtain ⟨l4, rfl⟩ := Lead.peek hp4
    split at h
    · cases h
    · rename_i hc
      obtain ⟨name, hn, rfl⟩ := map_ok h
      exact .name (.signDot hsg') ((l12.trans l3).trans l4)
        (by rw [← show s3.rd.rest = s4.rd.rest from l4.rest]; simpa using hc) hn
  · obtain ⟨n, hn, rfl⟩ := map_ok h
    refine .num ?_ l12 hn
    rcases hsg with ⟨rfl, rfl⟩ | ⟨rfl, rfl⟩
    · exact .inr (.inl ⟨rfl, rfl, rfl⟩)
    · exact .inr (.inr ⟨rfl, rfl, rfl⟩)

/-- One case per class of the first byte (`parseToken_eq`); for a class of a single byte
    `tokClass_table` says which byte it is, so the lead-in is known. -/
theorem parseToken_cases (h : parseToken cfg fuel pk s = .ok tok s') : TokenCase cfg fuel pk s tok s' := by
  obtain ⟨⟨bdig, -⟩, ⟨balpha, -⟩, ⟨bhi, -⟩, ⟨bext, -⟩, -, b35, b45, b43, b34, b40, b91, b58, b63,
    b39, b96, b44⟩ := tokClass_table pk
  rw [parseToken_eq] at h
  have one : ∀ {t : Token}, ([pk], t) ∈ fixedTok cfg.opts → punct t s = .ok tok s' →
      TokenCase cfg fuel pk s tok s' := by
    intro t hm h
    obtain ⟨u, s1, hd, h⟩ := bind_ok h
    obtain ⟨rfl, rfl⟩ := pure_ok h
    exact .fixed hm rfl (.discard hd)
  cases hc : tokClass pk <;> rw [hc] at h
  case hash =>
    obtain rfl := b35 hc
    obtain ⟨u, s1, hd, h⟩ := bind_ok h
    obtain ⟨o, s2, hn, h⟩ := bind_ok h
    cases o with
    | none => cases h
    | some c => exact hashTail_ok rfl ((LeadP.discard hd).trans (Lead.next hn)) h
  case minus => obtain rfl := b45 hc; exact parseSignToken_ok (.inl ⟨rfl, rfl⟩) h
  case plus => obtain rfl := b43 hc; exact parseSignToken_ok (.inr ⟨rfl, rfl⟩) h
  case digit =>
    change (if cfg.opts.leadingDigit = true then wholeArm cfg else numArm cfg fuel true) s = _ at h
    split at h
    · rename_i hld
      obtain ⟨sym, s1, hn, h⟩ := bind_ok h
      have := TokenCase.name (fuel := fuel) (.whole (bdig hc) hld) (LeadP.refl _ s) rfl hn
      cases hw : wholeNumber cfg sym <;> rw [hw] at h this <;> obtain ⟨rfl, rfl⟩ := pure_ok h <;>
        exact this
    · rename_i hld
      obtain ⟨n, hn, rfl⟩ := map_ok h
      exact .num (.inl ⟨rfl, rfl, bdig hc, by simpa using hld⟩) (LeadP.refl _ s) hn
  case dquote =>
    obtain rfl := b34 hc
    obtain ⟨u, s1, hd, h⟩ := bind_ok h
    have l1 : LeadP 34 s [34] s1 := .discard hd
    cases ho : cfg.opts.string <;> rw [ho] at h
    · obtain ⟨b, hb, rfl⟩ := map_ok h
      exact .r6str ho rfl l1 hb
    · obtain ⟨r, s2, hr, h⟩ := bind_ok h
      have := TokenCase.elstr (fuel := fuel) ho rfl l1 hr
      cases r <;> obtain ⟨rfl, rfl⟩ := pure_ok h <;> exact this
  case lparen =>
    obtain rfl := b40 hc
    exact one (fixedTok_mem 0 rfl) h
  case lbracket =>
    obtain rfl := b91 hc
    exact one (fixedTok_mem 1 rfl) h
  case quote =>
    obtain rfl := b39 hc
    exact one (fixedTok_mem 2 rfl) h
  case quasi =>
    obtain rfl := b96 hc
    exact one (fixedTok_mem 3 rfl) h
  case colon =>
    obtain rfl := b58 hc
    change colonArm cfg.opts s = _ at h
    unfold colonArm at h
    split at h
    · rename_i hk
      obtain ⟨u, s1, hd, h⟩ := bind_ok h
      obtain ⟨name, hn, rfl⟩ := map_ok h
      exact .name (.colonKw rfl hk) (.discard hd) rfl hn
    · rename_i hk
      exact symArm_ok (.sym (.inl ⟨rfl, by simpa using hk⟩)) (LeadP.refl _ s) h
  case alpha =>
    obtain ⟨name, s1, hn, h⟩ := bind_ok h
    rw [letterTail_pure] at h
    obtain ⟨rfl, rfl⟩ := pure_ok h
    exact .name (.letter (balpha hc)) (LeadP.refl _ s) rfl hn
  case qmark =>
    obtain rfl := b63 hc
    change (if (cfg.opts.char == .elisp) = true then charArm fuel else symArm cfg.opts []) s = _ at h
    split at h
    · rename_i ho
      obtain ⟨u, s1, hd, h⟩ := bind_ok h
      obtain ⟨ch, hch, rfl⟩ := map_ok h
      exact .elchar (by simpa using ho) rfl (.discard hd) hch
    · rename_i ho
      exact symArm_ok (.sym (.inr (.inl ⟨rfl, by simpa using ho⟩))) (LeadP.refl _ s) h
  case comma =>
    obtain rfl := b44 hc
    obtain ⟨u, s1, hd, h⟩ := bind_ok h
    have l1 : LeadP 44 s [44] s1 := .discard hd
    obtain ⟨c, s2, hp, h⟩ := bind_ok h
    obtain ⟨l2, rfl⟩ := Lead.peek hp
    split at h
    · rename_i h64
      obtain ⟨u, s3, hd3, h⟩ := bind_ok h
      obtain ⟨rfl, rfl⟩ := pure_ok h
      have l3 := Lead.discard (l2.head_of_peek h64 (by decide)) hd3
      exact .fixed (pre := [44, 64]) (fixedTok_mem 5 rfl) rfl ((l1.trans l2).trans l3)
    · obtain ⟨rfl, rfl⟩ := pure_ok h
      exact .fixed (pre := [44]) (fixedTok_mem 4 rfl) rfl (l1.trans l2)
  case hi =>
    have hhi : pk > 127 := bhi hc
    obtain ⟨u, s1, hd, h⟩ := bind_ok h
    obtain ⟨⟨c, bytes⟩, s2, hdec, h⟩ := bind_ok h
    dsimp only at h
    split at h
    · cases h
    · rename_i ha
      obtain ⟨name, hn, rfl⟩ := map_ok h
      exact .hi hhi (.discard hd) hdec (by simpa using ha) hn
  case ext => exact symArm_ok (.sym (.inr (.inr (bext hc)))) (LeadP.refl _ s) h
  case other =>
    obtain ⟨_, _, _, h⟩ := bind_ok h
    obtain ⟨_, _, _, h⟩ := bind_ok h
    cases h

namespace C08

/-- the three ways `parse_token` reads a number: `#b #o #d #x` and a literal of that radix; a
    decimal literal, behind a sign or not; under leading-digit symbols, a symbol that the
    sub-parser accepts as a whole -/
inductive NumArm (cfg : Cfg) (fuel : Nat) (pk : UInt8) (s s' : St) (n : Number) : Prop where
  | radix (c : UInt8) (radix : Nat) (s1 : St) (hpk : pk = 35) (hl : LeadP pk s [35, c] s1)
      (hm : Spec.radixOfMark c = some radix) (hn : parseRadixToken cfg fuel radix s1 = .ok n s')
  | num (sg : List UInt8) (pos : Bool) (s1 : St) (hsg : sg = [] ∨ sg = [43] ∨ sg = [45])
      (hl : LeadP pk s sg s1) (hn : parseNumToken cfg fuel pos s1 = .ok n s')
  | whole (sym : List UInt8) (s1 : St) (hl : LeadP pk s [] s1)
      (hs : parseSymbolBytes [] s1 = .ok sym s') (hw : wholeNumber cfg sym = some n)

/-- the constructors of `TokenCase` that yield a number -/
theorem parseToken_number {n : Number} (h : parseToken cfg fuel pk s = .ok (.number n) s') :
    NumArm cfg fuel pk s s' n := by
  generalize ht : Token.number n = t at h
  cases parseToken_cases h with
  | radix hp hl hm hn => cases ht; exact .radix _ _ _ hp hl hm hn
  | num ha hl hn =>
    cases ht
    refine .num _ _ _ ?_ hl hn
    rcases ha with ⟨rfl, _⟩ | ⟨rfl, _⟩ | ⟨rfl, _⟩
    · exact .inl rfl
    · exact .inr (.inr rfl)
    · exact .inr (.inl rfl)
  | @name _ _ sym _ _ _ _ ha hl _ hn =>
    -- of the name arms only the leading-digit one makes a number
    cases ha with
    | whole _ _ =>
      replace ht : Token.number n = match wholeNumber cfg sym with
        | some n => Token.number n | none => symbolToken cfg.opts sym := ht
      cases hw : wholeNumber cfg sym with
      | some m => rw [hw] at ht; cases ht; exact .whole _ _ hl hn hw
      | none =>
        rw [hw] at ht
        rcases symbolToken_cases cfg.opts sym with e | e <;> rw [e] at ht <;> cases ht
    | octothorpe _ _ | racket _ _ | colonKw _ _ => cases ht
    | sign _ | signDot _ | sym _ =>
      rcases symbolToken_cases cfg.opts _ with e | e <;> rw [e] at ht <;> cases ht
    | letter _ =>
      exfalso; revert ht; unfold letterTok
      split; · exact nofun
      split; · cases cfg.opts.nil <;> exact nofun
      split <;> exact nofun
  | fixed hm _ _ =>
    exfalso
    simp only [fixedTok, List.mem_cons, List.not_mem_nil, or_false, Prod.mk.injEq] at hm
    rcases hm with ⟨_, e⟩ | ⟨_, e⟩ | ⟨_, e⟩ | ⟨_, e⟩ | ⟨_, e⟩ | ⟨_, e⟩ | ⟨_, e⟩ | ⟨_, e⟩ | ⟨_, e⟩ |
      ⟨_, e⟩ | ⟨_, e⟩ | ⟨_, e⟩ <;> rw [e] at ht <;>
      first | cases ht | (revert ht; cases cfg.opts.brackets <;> exact nofun)
  | hi _ _ _ _ _ =>
    rcases symbolToken_cases cfg.opts _ with e | e <;> rw [e] at ht <;> cases ht
  | r6char _ _ _ | elchar _ _ _ _ | r6str _ _ _ _ => cases ht
  | @elstr r _ _ _ _ _ _ => cases r <;> cases ht

end C08

end Parse
end Lexpr
