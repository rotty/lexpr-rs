/-
  What the values that `next_value` returns are made of.  The parser proper builds a value from what
  `parse_token` returns (and the dot-initial symbol of a list tail) by `Token.atom`, `symbolValue`,
  byte vectors, lists, dotted tails, vectors and quotations.  `ReaderInv` lists what a state invariant
  `I`, a token postcondition `Q` and value predicates `V` / `T` / `S` (a value, the rest of a list, the
  elements read so far) have to satisfy for the readers to keep `I` and return values with `V`:
  `ReaderInv.readers`, one walk over `nextValue_succ`, `parseList`, `parseVector`.  The predicates are
  indexed (`ι`, `Up d D`: "one level down"), for statements that relate a value to the recursion budget.

  `Hoare pre m post` is the success-only triple these statements are written in; `Post Q m` is the
  triple that does not look at the state (no precondition, a postcondition on the value alone).
-/
import LexprModel.Proofs.ParserProg
import LexprModel.Proofs.Monad
import LexprModel.Proofs.Primitives
namespace Lexpr
namespace Parse

def Hoare {α : Type} (pre : St → Prop) (m : P α) (post : α → St → Prop) : Prop :=
  ∀ s a s', m s = .ok a s' → pre s → post a s'

namespace Hoare
variable {α β : Type} {pre : St → Prop} {post : α → St → Prop}

theorem bind {m : P β} {f : β → P α} {mid : β → St → Prop} (hm : Hoare pre m mid)
    (hf : ∀ b, Hoare (mid b) (f b) post) : Hoare pre (m >>= f) post := by
  intro s a s' h hs
  rw [bind_apply] at h
  cases hms : m s with
  | ok b s1 => rw [hms] at h; exact hf b s1 a s' h (hm s b s1 hms hs)
  | err e s1 => rw [hms] at h; cases h
  | panic p => rw [hms] at h; cases h
  | fuel => rw [hms] at h; cases h

theorem pure {a : α} (h : ∀ s, pre s → post a s) : Hoare pre (Pure.pure a : P α) post := by
  intro s b s' hb hs; rw [pure_apply] at hb; cases hb; exact h s hs

theorem imp {pre' : St → Prop} {post' : α → St → Prop} {m : P α} (hm : Hoare pre' m post')
    (h1 : ∀ s, pre s → pre' s) (h2 : ∀ a s, post' a s → post a s) : Hoare pre m post :=
  fun s a s' h hs => h2 a s' (hm s a s' h (h1 s hs))

/-- a fact in the precondition that does not depend on the state -/
theorem and_pure {p : Prop} {m : P α} (h : p → Hoare pre m post) :
    Hoare (fun s => pre s ∧ p) m post := fun s a s' hm hs => h hs.2 s a s' hm hs.1

theorem ite {c : Prop} [Decidable c] {A B : P α} (ht : c → Hoare pre A post)
    (he : ¬ c → Hoare pre B post) : Hoare pre (if c then A else B) post := by
  split
  · exact ht ‹_›
  · exact he ‹_›

theorem peekErr (c : Code) : Hoare pre (Parse.peekErr c : P α) post := fun _ _ _ h => nomatch h
theorem panicAt (p : Site) : Hoare pre (Parse.panicAt p : P α) post := fun _ _ _ h => nomatch h
theorem outOfFuel : Hoare pre (Parse.outOfFuel : P α) post := fun _ _ _ h => nomatch h
theorem liftError (e : Err) : Hoare pre (liftExcept (.error e) : P α) post := fun _ _ _ h => nomatch h

theorem tokenFuel : Hoare pre Parse.tokenFuel fun _ => pre := by
  intro s a s' h hs; cases h; exact hs

theorem apiFuel : Hoare pre Parse.apiFuel fun _ => pre := by
  intro s a s' h hs; cases h; exact hs

theorem attempt {m : P α} (hm : Hoare pre m post) :
    Hoare pre (Parse.attempt m) fun r s => ∀ a, r = .ok a → post a s := by
  intro s r s' h hs a hr
  simp only [Parse.attempt] at h
  cases hms : m s with
  | ok a' s1 => rw [hms] at h; cases h; cases hr; exact hm s _ _ hms hs
  | err e s1 => rw [hms] at h; cases h; cases hr
  | panic p => rw [hms] at h; cases h
  | fuel => rw [hms] at h; cases h

/-- `deeperSeq`: only the run in which nothing fails returns; `enter` may choose the index `d` of the
    precondition of the body -/
theorem deeperSeq {γ ι : Type} {close : UInt8} {body : P β} {k : β → P γ} {post : γ → St → Prop}
    {inner : ι → St → Prop} {m1 m2 m3 : ι → β → St → Prop}
    (he : Hoare pre enter fun _ s => ∃ d, inner d s) (hb : ∀ d, Hoare (inner d) body (m1 d))
    (hl : ∀ d b, Hoare (m1 d b) leave fun _ => m2 d b)
    (hs : ∀ d b, Hoare (m2 d b) (endSeq close) fun _ => m3 d b)
    (hk : ∀ d b, Hoare (m3 d b) (k b) post) : Hoare pre (Parse.deeperSeq close body k) post := by
  refine bind he fun _ s a s' h ⟨d, hd⟩ => ?_
  refine bind (pre := inner d) (attempt (hb d)) (fun ret => ?_) s a s' h hd
  refine bind (mid := fun _ s => ∀ b, ret = .ok b → m2 d b s) (fun s u s' h hr b hb => hl d b s u s' h (hr b hb))
    fun _ => ?_
  refine bind (mid := fun es s => ∀ b, ret = .ok b → es = .ok () → m3 d b s)
    (fun s es s' h hr b hb he => ?_) fun es => ?_
  · subst he
    exact (attempt (hs d b)) s _ s' h (hr b hb) () rfl
  · rcases ret with e | b <;> rcases es with e' | ⟨⟩ <;>
      first | exact liftError _ | exact fun s a s' h hm => hk d b s a s' h (hm b rfl rfl)

theorem deeper {γ ι : Type} {body : P β} {k : β → P γ} {post : γ → St → Prop}
    {inner : ι → St → Prop} {m1 m2 : ι → β → St → Prop}
    (he : Hoare pre enter fun _ s => ∃ d, inner d s) (hb : ∀ d, Hoare (inner d) body (m1 d))
    (hl : ∀ d b, Hoare (m1 d b) leave fun _ => m2 d b)
    (hk : ∀ d b, Hoare (m2 d b) (k b) post) : Hoare pre (Parse.deeper body k) post := by
  refine bind he fun _ s a s' h ⟨d, hd⟩ => ?_
  refine bind (pre := inner d) (attempt (hb d)) (fun ret => ?_) s a s' h hd
  refine bind (mid := fun _ s => ∀ b, ret = .ok b → m2 d b s) (fun s u s' h hr b hb => hl d b s u s' h (hr b hb))
    fun _ => ?_
  rcases ret with e | b <;>
    first | exact liftError _ | exact fun s a s' h hm => hk d b s a s' h (hm b rfl)

end Hoare

def Post (Q : α → Prop) (m : P α) : Prop := ∀ s a s', m s = .ok a s' → Q a

theorem Post.bind {R : α → Prop} {Q : β → Prop} {m : P α} {f : α → P β}
    (hm : Post R m) (hf : ∀ a, R a → Post Q (f a)) : Post Q (m >>= f) := fun s b s' h =>
  Hoare.bind (pre := fun _ => True) (mid := fun a _ => R a) (fun s a s' h _ => hm s a s' h)
    (fun a s b s' h hr => hf a hr s b s' h) s b s' h trivial

theorem Post.bind_any {Q : β → Prop} {m : P α} {f : α → P β}
    (hf : ∀ a, Post Q (f a)) : Post Q (m >>= f) :=
  Post.bind (R := fun _ => True) (fun _ _ _ _ => True.intro) (fun a _ => hf a)

theorem Post.pure {Q : α → Prop} {a : α} (h : Q a) : Post Q (pure a : P α) := by
  intro s b s' hb
  rw [pure_apply] at hb
  cases hb
  exact h

theorem Post.errAt {Q : α → Prop} (c : Code) : Post Q (errAt c) := by
  intro s b s' hb; simp [Parse.errAt] at hb
theorem Post.peekErr {Q : α → Prop} (c : Code) : Post Q (peekErr c) := by
  intro s b s' hb; cases hb
theorem Post.panicAt {Q : α → Prop} (p : Site) : Post Q (panicAt p) := by
  intro s b s' hb; cases hb
theorem Post.outOfFuel {Q : α → Prop} : Post Q outOfFuel := by
  intro s b s' hb; cases hb
theorem Post.liftError {Q : α → Prop} (e : Err) : Post Q (liftExcept (.error e)) := by
  intro s b s' hb; cases hb

theorem Post.ite {Q : α → Prop} {c : Prop} [Decidable c] {a b : P α}
    (ht : c → Post Q a) (he : ¬ c → Post Q b) : Post Q (if c then a else b) := by
  split
  · exact ht ‹_›
  · exact he ‹_›

/-- lift a predicate to a captured result: nothing is claimed about an error -/
def OkP (R : α → Prop) : Except Err α → Prop
  | .ok a => R a
  | .error _ => True

theorem Post.attempt {R : α → Prop} {m : P α} (hm : Post R m) : Post (OkP R) (attempt m) := by
  intro s r s' h
  have := Hoare.attempt (pre := fun _ => True) (post := fun a _ => R a) (fun s a s' h _ => hm s a s' h)
    s r s' h trivial
  cases r with
  | ok a => exact this a rfl
  | error _ => exact True.intro

theorem Post.deeperSeq {R : α → Prop} {Q : β → Prop} {close : UInt8} {m : P α} {k : α → P β}
    (hm : Post R m) (hk : ∀ a, R a → Post Q (k a)) : Post Q (deeperSeq close m k) :=
  bind_any fun _ => bind (attempt hm) fun ret hret => bind_any fun _ => bind_any fun es => by
    rcases ret with e | a <;> rcases es with e' | ⟨⟩ <;>
      first | exact liftError _ | exact hk a hret

theorem Post.deeper {R : α → Prop} {Q : β → Prop} {m : P α} {k : α → P β}
    (hm : Post R m) (hk : ∀ a, R a → Post Q (k a)) : Post Q (deeper m k) :=
  bind_any fun _ => bind (attempt hm) fun ret hret => bind_any fun _ => by
    rcases ret with e | a <;> first | exact liftError _ | exact hk a hret

theorem parseWhitespace_head_some {s s' : St} {c : UInt8}
    (h : parseWhitespace s = .ok (some c) s') : s'.rd.rest.head? = some c :=
  (parseWhitespace_frame h).2.2.symm

/-- What the readers need of a state invariant `I`, a token postcondition `Q` (`Cl`: what it says of a
    closing delimiter) and predicates on values (`V`), on the rest of a list (`T`) and on the elements
    read so far (`S`). -/
structure ReaderInv (cfg : Cfg) {ι : Type} (I : ι → St → Prop) (Up : ι → ι → Prop)
    (Q : Token → Prop) (Cl : UInt8 → Prop) (V T : ι → Value → Prop) (S : ι → List Value → Prop) :
    Prop where
  ws : ∀ D, Hoare (I D) parseWhitespace fun _ => I D
  tok : ∀ D fuel pk, Hoare (fun s => I D s ∧ s.rd.rest.head? = some pk) (parseToken cfg fuel pk)
    fun tok s => I D s ∧ Q tok
  clBytes : ∀ {c}, Q (.byteVecOpen c) → Cl c
  clVec : ∀ {c}, Q (.vecOpen c) → Cl c
  clList : ∀ {c}, Q (.listOpen c) → Cl c
  byteList : ∀ D fuel close, Cl close → Hoare (I D) (parseByteList cfg fuel close) fun _ => I D
  enter : ∀ D, Hoare (I D) enter fun _ s => ∃ d, Up d D ∧ I d s
  leave : ∀ d D, Up d D → Hoare (I d) leave fun _ => I D
  endSeq : ∀ D close, Cl close → Hoare (I D) (endSeq close) fun _ => I D
  dot : ∀ D, Hoare (fun s => I D s ∧ s.rd.rest.head? = some 46) discard fun _ => I D
  peek : ∀ D, Hoare (I D) peekOrNull fun _ => I D
  dotsym : ∀ D, Hoare (I D) (parseSymbolBytes [46]) fun name s => I D s ∧ V D (symbolValue cfg.opts name)
  atom : ∀ {D tok v}, Q tok → tok.atom = some v → V D v
  bytes : ∀ {D bs}, V D (.bytes bs)
  vector : ∀ {d D xs}, Up d D → S d xs → V D (.vector xs)
  list : ∀ {d D v}, Up d D → T d v → V D v
  quote : ∀ {d D x} (q : Quote), Up d D → V d x → V D (Value.list [.symbol q.name, x])
  nil : ∀ {D}, S D []
  snoc : ∀ {D acc v}, S D acc → V D v → S D (acc ++ [v])
  tnull : ∀ {D}, T D .null
  append : ∀ {D acc t}, S D acc → T D t → T D (Value.append acc t)
  tail : ∀ {D v}, V D v → T D v

namespace ReaderInv
variable {cfg : Cfg} {ι : Type} {I : ι → St → Prop} {Up : ι → ι → Prop} {Q : Token → Prop}
  {Cl : UInt8 → Prop} {V T : ι → Value → Prop} {S : ι → List Value → Prop}

/-- the byte `parse_whitespace` returns is the one `parse_token` and `discard` then find at the head -/
theorem wsHead (R : ReaderInv cfg I Up Q Cl V T S) (D : ι) : Hoare (I D) parseWhitespace
    fun a s => I D s ∧ ∀ c, a = some c → s.rd.rest.head? = some c :=
  fun s a s' h hs => ⟨R.ws D s a s' h hs, fun c hc => by subst hc; exact parseWhitespace_head_some h⟩

theorem readers (R : ReaderInv cfg I Up Q Cl V T S) : ∀ f,
    (∀ D, Hoare (I D) (nextValue cfg f) fun v s => I D s ∧ ∀ x, v = some x → V D x) ∧
    (∀ D term acc, S D acc → Hoare (I D) (parseList cfg f term acc) fun v s => I D s ∧ T D v) ∧
    (∀ D term acc, S D acc → Hoare (I D) (parseVector cfg f term acc) fun xs s => I D s ∧ S D xs) := by
  intro f
  induction f with
  | zero => exact ⟨fun _ => .outOfFuel, fun _ _ _ _ => .outOfFuel, fun _ _ _ _ => .outOfFuel⟩
  | succ f ih =>
    obtain ⟨ihV, ihL, ihX⟩ := ih
    -- an element read by `next_value`, then the loop again
    have elem {β : Type} {D : ι} {acc : List Value} {post : β → St → Prop} {loop : List Value → P β}
        (hacc : S D acc) (hloop : ∀ acc, S D acc → Hoare (I D) (loop acc) post) :
        Hoare (I D) (nextValue cfg f >>= fun
          | some v => loop (acc ++ [v])
          | none => Parse.peekErr .eofValue) post :=
      .bind (ihV D) fun
        | some v => fun s a s' h hs => hloop _ (R.snoc hacc (hs.2 v rfl)) s a s' h hs.1
        | none => .peekErr _
    refine ⟨fun D => ?_, fun D term acc hacc => ?_, fun D term acc hacc => ?_⟩
    · -- `next_value`
      rw [nextValue_succ]
      refine .bind (R.wsHead D) fun
        | none => .pure fun s hs => ⟨hs.1, nofun⟩
        | some pk => ?_
      refine .bind (.tokenFuel) fun tf => .bind (mid := fun tok s => I D s ∧ Q tok)
        ((R.tok D tf pk).imp (fun s hs => ⟨hs.1, hs.2 pk rfl⟩) fun _ _ h => h) fun tok => ?_
      cases tok with
      | byteVecOpen close =>
        exact .and_pure fun hq => .bind (R.byteList D tf close (R.clBytes hq)) fun bs =>
          .pure fun s hs => ⟨hs, fun x hx => by cases hx; exact R.bytes⟩
      | vecOpen close =>
        exact .and_pure fun hq => Hoare.deeperSeq (inner := fun d s => Up d D ∧ I d s)
          (m1 := fun d xs s => Up d D ∧ I d s ∧ S d xs) (m2 := fun d xs s => I D s ∧ Up d D ∧ S d xs)
          (m3 := fun d xs s => I D s ∧ Up d D ∧ S d xs)
          (R.enter D)
          (fun d s xs s' h hd => ⟨hd.1, (ihX d close [] R.nil) s xs s' h hd.2⟩)
          (fun d xs s u s' h hm => ⟨R.leave d D hm.1 s u s' h hm.2.1, hm.1, hm.2.2⟩)
          (fun d xs s u s' h hm => ⟨R.endSeq D close (R.clVec hq) s u s' h hm.1, hm.2⟩)
          (fun d xs => .pure fun s hm => ⟨hm.1, fun x hx => by cases hx; exact R.vector hm.2.1 hm.2.2⟩)
      | listOpen close =>
        exact .and_pure fun hq => Hoare.deeperSeq (inner := fun d s => Up d D ∧ I d s)
          (m1 := fun d v s => Up d D ∧ I d s ∧ T d v) (m2 := fun d v s => I D s ∧ Up d D ∧ T d v)
          (m3 := fun d v s => I D s ∧ Up d D ∧ T d v)
          (R.enter D)
          (fun d s v s' h hd => ⟨hd.1, (ihL d close [] R.nil) s v s' h hd.2⟩)
          (fun d v s u s' h hm => ⟨R.leave d D hm.1 s u s' h hm.2.1, hm.1, hm.2.2⟩)
          (fun d v s u s' h hm => ⟨R.endSeq D close (R.clList hq) s u s' h hm.1, hm.2⟩)
          (fun d v => .pure fun s hm => ⟨hm.1, fun x hx => by cases hx; exact R.list hm.2.1 hm.2.2⟩)
      | quotation q =>
        refine Hoare.imp (pre' := I D) ?_ (fun s hs => hs.1) fun _ _ h => h
        exact Hoare.deeper (inner := fun d s => Up d D ∧ I d s)
          (m1 := fun d ov s => Up d D ∧ I d s ∧ ∀ x, ov = some x → V d x)
          (m2 := fun d ov s => I D s ∧ Up d D ∧ ∀ x, ov = some x → V d x)
          (R.enter D)
          (fun d s ov s' h hd => ⟨hd.1, (ihV d) s ov s' h hd.2⟩)
          (fun d ov s u s' h hm => ⟨R.leave d D hm.1 s u s' h hm.2.1, hm.1, hm.2.2⟩)
          fun d ov => match ov with
            | none => .peekErr _
            | some x => .pure fun s hm => ⟨hm.1, fun y hy => by
                cases hy; exact R.quote q hm.2.1 (hm.2.2 x rfl)⟩
      | _ =>
        dsimp only
        split
        · next v ht => exact .pure fun s hs => ⟨hs.1, fun x hx => by cases hx; exact R.atom hs.2 ht⟩
        · exact .panicAt _
    · -- `parse_list`
      rw [parseList]
      refine .bind (R.wsHead D) fun
        | none => .peekErr _
        | some c => ?_
      dsimp only
      refine .ite (fun _ => .ite (fun _ => .peekErr _) fun _ =>
        .pure fun s hs => ⟨hs.1, R.append hacc R.tnull⟩) fun _ => .ite (fun h46 => ?_) fun _ => ?_
      · refine .bind ((R.dot D).imp (fun s hs => ⟨hs.1, by rw [← eq_of_beq h46]; exact hs.2 c rfl⟩)
          fun _ _ h => h) fun _ => .bind (R.peek D) fun nxt => .ite (fun _ => .ite (fun _ => ?_) fun _ => ?_)
          fun _ => .bind (R.dotsym D) fun name s a s' h hs =>
            ihL D term _ (R.snoc hacc hs.2) s a s' h hs.1
        · exact .bind (mid := fun _ _ => True) (fun _ _ _ _ _ => trivial) fun
            | some _ => .peekErr _
            | none => .peekErr _
        · refine .bind (mid := fun t s => I D s ∧ T D t) (.bind (ihV D) fun
            | some v => .pure fun s hs => ⟨hs.1, R.tail (hs.2 v rfl)⟩
            | none => .peekErr _) fun tail => ?_
          exact .and_pure fun ht => .bind (R.wsHead D) fun
            | some c' => .ite (fun _ => .pure fun s hs => ⟨hs.1, R.append hacc ht⟩) fun _ => .peekErr _
            | none => .peekErr _
      · exact (elem hacc fun acc h => ihL D term acc h).imp (fun s hs => hs.1) fun _ _ h => h
    · -- `parse_vector`
      rw [parseVector]
      refine .bind (R.wsHead D) fun
        | none => .peekErr _
        | some c => ?_
      dsimp only
      exact .ite (fun _ => .ite (fun _ => .peekErr _) fun _ => .pure fun s hs => ⟨hs.1, hacc⟩) fun _ =>
        (elem hacc fun acc h => ihX D term acc h).imp (fun s hs => hs.1) fun _ _ h => h

theorem nextValueTop (R : ReaderInv cfg I Up Q Cl V T S) (D : ι) :
    Hoare (I D) (nextValueTop cfg) fun v s => I D s ∧ ∀ x, v = some x → V D x :=
  .bind .apiFuel fun f => (R.readers f).1 D

theorem expectValue (R : ReaderInv cfg I Up Q Cl V T S) (D : ι) :
    Hoare (I D) (expectValue cfg) fun v s => I D s ∧ V D v :=
  .bind (R.nextValueTop D) fun
    | some v => .pure fun s hs => ⟨hs.1, hs.2 v rfl⟩
    | none => .peekErr _

theorem expectEnd (R : ReaderInv cfg I Up Q Cl V T S) (D : ι) : Hoare (I D) expectEnd fun _ => I D :=
  .bind (R.wsHead D) fun
    | some _ => .peekErr _
    | none => .pure fun _ hs => hs.1

end ReaderInv

end Parse
end Lexpr
