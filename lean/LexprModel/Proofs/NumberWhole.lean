/-
  C08 — "a token is read as a number only if the whole token is a numeric literal": whenever
  `parse_token` returns a number — for any input, option set, build, source and reader state whose
  next byte is the peeked byte `pk` — the bytes it consumed are a numeric literal of the C05 grammar
  (`Spec.numericLiteralShape`, `C08_number_whole_token`), and they are exactly the token, the maximal
  delimiter-free run at the head of the input (`C08_number_is_token`).  One case for each
  number-producing path of `parse_token`: `#b #o #d #x` (`parse_radix_token`), the sign arms and the
  digit arm (`parse_num_token`), and — under leading-digit symbols — the path where the token is
  first read as a symbol and its copy is re-read by the sub-parser (`wholeNumber`): there the
  consumed bytes are the symbol's, and the sub-parser succeeded on the whole copy.  The scanners
  are in `NumberWholeBase.lean`.
-/
import LexprModel.Proofs.NumberEnd
import LexprModel.Proofs.NumberWholeBase
namespace Lexpr
namespace Parse
namespace C08
open Spec

/-! ### from the decomposition of the consumed bytes to the recogniser

The scanners give the consumed bytes cut into pieces: digits `ds`, a fraction `fr`, an exponent
`ex` (`BodyW`, `TailW`).  The recogniser of the specification finds its pieces itself, with
`takeWhile` / `dropWhile`.  The two cuts are the same (`takeWhile_run`, `dropWhile_run`: a run of
bytes with `p`, then a byte without) because each piece ends where the next begins: a tail starts
with `.` or an exponent letter, which is no digit of radix 10, and it is empty in the other radices;
a fraction holds no exponent letter, and an exponent starts with one. -/

theorem fraction_noExp {fr : List UInt8} (h : fractionPart fr = true) :
    fr.all (fun c => !isExpMark c) = true ∧ ∃ r, fr = 46 :: r := by
  cases fr with
  | nil => cases h
  | cons c r =>
    simp only [fractionPart, digits1, Bool.and_eq_true, beq_iff_eq] at h
    obtain ⟨rfl, _, hall⟩ := h
    refine ⟨?_, r, rfl⟩
    rw [List.all_cons]
    simp only [Bool.and_eq_true]
    refine ⟨by decide, ?_⟩
    rw [List.all_eq_true] at hall ⊢
    intro x hx
    simp [digit_not_expMark x (hall x hx)]

theorem exponent_head {ex : List UInt8} (h : exponentPart ex = true) :
    ∃ e r, ex = e :: r ∧ isExpMark e = true := by
  cases ex with
  | nil => cases h
  | cons e r =>
    simp only [exponentPart, Bool.and_eq_true] at h
    exact ⟨e, r, rfl, h.1⟩

theorem tailW_suffix {radix : Nat} {t : List UInt8} (h : TailW radix t) :
    t = [] ∨ (radix = 10 ∧ decimalSuffix t = true ∧
      ∃ b bs, t = b :: bs ∧ isRadixDigit 10 b = false) := by
  obtain ⟨fr, ex, rfl, hfr, hex, hrad⟩ := h
  by_cases hnil : fr ++ ex = []
  · exact .inl hnil
  · refine .inr ⟨hrad hnil, ?_, ?_⟩
    · have hfa : fr.all (fun c => !isExpMark c) = true := by
        rcases hfr with rfl | hfr
        · rfl
        · exact (fraction_noExp hfr).1
      have hexh : ∀ b bs, ex = b :: bs → (fun c => !isExpMark c) b = false := by
        intro b bs hb
        rcases hex with rfl | hex
        · cases hb
        · obtain ⟨e, r, he, hm⟩ := exponent_head hex
          rw [he] at hb
          cases hb
          simp [hm]
      unfold decimalSuffix
      simp only [takeWhile_run _ fr ex hfa hexh, dropWhile_run _ fr ex hfa hexh]
      rcases hfr with rfl | hfr <;> rcases hex with rfl | hex <;> simp_all
    · rcases hfr with rfl | hfr
      · rcases hex with rfl | hex
        · exact absurd rfl hnil
        · obtain ⟨e, r, he, hm⟩ := exponent_head hex
          exact ⟨e, r, by simp [he], ((literalByte_table e).2 hm).1⟩
      · obtain ⟨_, r, rfl⟩ := fraction_noExp hfr
        exact ⟨46, r ++ ex, rfl, by decide⟩

theorem unsignedShape_of_body {radix : Nat} (hr : radix ∈ [2, 8, 10, 16])
    {w : List UInt8} (h : BodyW radix w) : unsignedShape radix w = true := by
  obtain ⟨ds, t, rfl, hne, hall, ht⟩ := h
  rw [dOk_radix hr] at hall
  have hth : ∀ b bs, t = b :: bs → isRadixDigit radix b = false := by
    intro b bs hb
    rcases tailW_suffix ht with h0 | ⟨h10, _, b', bs', hb', hnd⟩
    · rw [h0] at hb; cases hb
    · rw [hb'] at hb
      cases hb
      rw [h10]; exact hnd
  unfold unsignedShape
  simp only [takeWhile_run _ ds t hall hth, dropWhile_run _ ds t hall hth]
  have h1 : ds.isEmpty = false := by cases ds <;> simp_all
  rcases tailW_suffix ht with h0 | ⟨h10, hsuf, _⟩
  · simp [h1, h0]
  · simp [h1, h10, hsuf]

theorem body_head {radix : Nat} (hr : radix ∈ [2, 8, 10, 16])
    {w : List UInt8} (h : BodyW radix w) : ∃ d r, w = d :: r ∧ isRadixDigit radix d = true := by
  obtain ⟨ds, t, rfl, hne, hall, _⟩ := h
  rw [dOk_radix hr] at hall
  cases ds with
  | nil => exact absurd rfl hne
  | cons d r =>
    simp only [List.all_cons, Bool.and_eq_true] at hall
    exact ⟨d, r ++ t, rfl, hall.1⟩

theorem signedShape_of {radix : Nat} (hr : radix ∈ [2, 8, 10, 16])
    {sg w : List UInt8} (hsg : sg = [] ∨ sg = [43] ∨ sg = [45]) (h : BodyW radix w) :
    signedShape radix (sg ++ w) = true := by
  have hd : dropSign (sg ++ w) = w := by
    rcases hsg with rfl | rfl | rfl
    · obtain ⟨d, r, rfl, hdg⟩ := body_head hr h
      simp [dropSign, (radixDigit_facts hr hdg).1]
    · simp [dropSign]
    · simp [dropSign]
  unfold signedShape
  rw [hd]
  exact unsignedShape_of_body hr h

theorem radixMark_facts {c : UInt8} {radix : Nat} (h : radixOfMark c = some radix) :
    radix ∈ [2, 8, 10, 16] ∧ isDelimiter c = false := by
  have := Parse.radixOfMark_some h
  simp only [List.mem_cons, List.not_mem_nil, or_false, Prod.mk.injEq] at this
  rcases this with ⟨rfl, rfl⟩ | ⟨rfl, rfl⟩ | ⟨rfl, rfl⟩ | ⟨rfl, rfl⟩ <;> decide

/-- `#` mark `[sign] unsigned(radix)` -/
theorem shape_hash {c : UInt8} {radix : Nat} (hm : radixOfMark c = some radix) {sg w : List UInt8}
    (hsg : sg = [] ∨ sg = [43] ∨ sg = [45]) (h : BodyW radix w) :
    numericLiteralShape (35 :: c :: (sg ++ w)) = true := by
  simp only [numericLiteralShape, beq_self_eq_true, ↓reduceIte, hm]
  exact signedShape_of (radixMark_facts hm).1 hsg h

/-- no mark: `[sign] unsigned(10)` -/
theorem shape_plain {sg w : List UInt8} (hsg : sg = [] ∨ sg = [43] ∨ sg = [45]) (h : BodyW 10 w) :
    numericLiteralShape (sg ++ w) = true := by
  have hs := signedShape_of (radix := 10) (by decide) hsg h
  obtain ⟨d, r, rfl, hdg⟩ := body_head (radix := 10) (by decide) h
  have hd35 : (d == 35) = false := (radixDigit_facts (radix := 10) (by decide) hdg).2.2
  unfold numericLiteralShape
  split
  · rename_i h' c r' heq
    have hh : (h' == 35) = false := by
      rcases hsg with rfl | rfl | rfl
      · simp only [List.nil_append, List.cons.injEq] at heq
        rw [← heq.1]; exact hd35
      · simp only [List.cons_append, List.nil_append, List.cons.injEq] at heq
        rw [← heq.1]; decide
      · simp only [List.cons_append, List.nil_append, List.cons.injEq] at heq
        rw [← heq.1]; decide
    simp only [hh, Bool.false_eq_true, ↓reduceIte]
    exact hs
  · exact hs

def nonDelim (w : List UInt8) : Bool := w.all (fun b => !isDelimiter b)

theorem digit_nonDelim (b : UInt8) (h : isDigit b = true) : isDelimiter b = false :=
  (radixDigit_facts (radix := 10) (by decide) h).2.1

theorem nonDelim_class {radix : Nat} (hr : radix ∈ [2, 8, 10, 16]) :
    LitClass radix (fun b => !isDelimiter b) where
  digit b h := by rw [dOk_radix hr] at h; simp [(radixDigit_facts hr h).2.1]
  dec b h := by simp [digit_nonDelim b h]
  exp b h := by simp [((literalByte_table b).2 h).2]
  plus := by decide
  minus := by decide
  dot := by decide

theorem parseNumToken_eats {cfg : Cfg} {fuel : Nat} {pos : Bool} {s s' : St} {n : Number}
    (h : parseNumToken cfg fuel pos s = .ok n s') :
    ∃ w, s.rd.rest = w ++ s'.rd.rest ∧ BodyW 10 w := by
  unfold parseNumToken at h
  obtain ⟨m, s1, h1, h2⟩ := bind_ok h
  obtain ⟨w, hw, hb⟩ := parseNumLiteral_eats h1
  exact ⟨w, by rw [hw, (expectNumberEnd_ok h2).2.1], hb⟩

theorem parseRadixToken_eats {cfg : Cfg} {fuel radix : Nat} {s s' : St} {n : Number}
    (h : parseRadixToken cfg fuel radix s = .ok n s') :
    ∃ sg w, s.rd.rest = sg ++ w ++ s'.rd.rest ∧ (sg = [] ∨ sg = [43] ∨ sg = [45]) ∧
      BodyW radix w := by
  unfold parseRadixToken at h
  obtain ⟨m, s1, h1, h2⟩ := bind_ok h
  obtain ⟨sg, w, hw, hsg, hb⟩ := parseRadixLiteral_eats h1
  exact ⟨sg, w, by rw [hw, (expectNumberEnd_ok h2).2.1], hsg, hb⟩

/-- the sub-parser of the leading-digit path accepted the copy: the copy is a decimal literal -/
theorem wholeNumber_body {cfg : Cfg} {sym : List UInt8} {n : Number}
    (h : wholeNumber cfg sym = some n) : BodyW 10 sym := by
  unfold wholeNumber at h
  simp only at h
  cases hl : parseNumLiteral cfg (sym.length + 1) 10 true
      { rd := { mode := .slice, rest := sym } } with
  | ok m s1 =>
    rw [hl] at h
    obtain ⟨w, hw, hb⟩ := parseNumLiteral_eats hl
    by_cases he : s1.rd.rest.isEmpty = true
    · have : s1.rd.rest = [] := by simpa using he
      rw [this] at hw
      simp only [List.append_nil] at hw
      rw [hw]; exact hb
    · simp [he] at h
  | err e s1 => rw [hl] at h; cases h
  | panic p => rw [hl] at h; cases h
  | fuel => rw [hl] at h; cases h

/-- one case for each way `parse_token` reads a number (`parseToken_number`) -/
theorem parseToken_number_shape (cfg : Cfg) (fuel : Nat) (pk : UInt8) (tl : List UInt8) (s s' : St)
    (n : Number) (hr : s.rd.rest = pk :: tl)
    (h : parseToken cfg fuel pk s = .ok (.number n) s') :
    ∃ w, s.rd.rest = w ++ s'.rd.rest ∧ numericLiteralShape w = true ∧ nonDelim w = true := by
  have hpk : s.rd.rest.head? = some pk := by rw [hr]; rfl
  cases parseToken_number h with
  | radix c radix s1 _ hl hm hn =>
    obtain ⟨sg, w, hw, hsg, hbw⟩ := parseRadixToken_eats hn
    obtain ⟨hrx, hc⟩ := radixMark_facts hm
    refine ⟨35 :: c :: (sg ++ w), by rw [(hl hpk).rest, hw]; simp, shape_hash hm hsg hbw, ?_⟩
    simpa [nonDelim, hc, show isDelimiter 35 = false by decide] using (nonDelim_class hrx).signed hsg hbw
  | num sg pos s1 hsg hl hn =>
    obtain ⟨w, hw, hbw⟩ := parseNumToken_eats hn
    exact ⟨sg ++ w, by rw [(hl hpk).rest, hw]; simp, shape_plain hsg hbw,
      (nonDelim_class (by decide)).signed hsg hbw⟩
  | whole sym s1 hl hs hw =>
    obtain ⟨hname, hrest⟩ := parseSymbolBytes_ok hs
    have hb := wholeNumber_body hw
    refine ⟨sym, ?_, by simpa using shape_plain (.inl rfl) hb,
      (nonDelim_class (radix := 10) (by decide)).body hb⟩
    rw [(hl hpk).rest, List.nil_append, hname, hrest]
    exact (List.take_append_drop _ _).symm

theorem token_of_nonDelim {l w r : List UInt8} (hl : l = w ++ r) (hw : nonDelim w = true)
    (hr : r = [] ∨ ∃ b bs, r = b :: bs ∧ isDelimiter b = true) :
    l.takeWhile (fun b => !isDelimiter b) = w ∧ l.dropWhile (fun b => !isDelimiter b) = r := by
  have hrh : ∀ b bs, r = b :: bs → (fun b => !isDelimiter b) b = false := by
    intro b bs hb
    rcases hr with h0 | ⟨b', bs', hb', hd⟩
    · rw [h0] at hb; cases hb
    · rw [hb'] at hb; cases hb; simp [hd]
  subst hl
  exact ⟨takeWhile_run _ w r hw hrh, dropWhile_run _ w r hw hrh⟩

end C08

open C08 Spec

/-- **C08_number_whole_token** — "a token is read as a number only if the whole token is a
    numeric literal": whenever `parse_token` returns a number — whatever the input, the option
    set `cfg.opts`, the build, the source mode and the reader state, provided the next byte of
    the input is the byte `pk` the caller has peeked (`hr`; `parse_whitespace` returns exactly
    that byte) — the bytes it consumed, `w` with `s.rd.rest = w ++ s'.rd.rest` (the first byte of
    `w` is `pk`), are a numeric literal of the C05 grammar
    (`numericLiteralShape`: optional `#b #o #d #x`, optional sign, digits of the radix, and for
    radix 10 an optional `.digits` and an optional exponent), and the reader is then at the end
    of input or in front of a delimiter. -/
theorem C08_number_whole_token (cfg : Cfg) (fuel : Nat) (pk : UInt8) (tl : List UInt8) (s s' : St)
    (n : Number) (hr : s.rd.rest = pk :: tl)
    (h : parseToken cfg fuel pk s = .ok (.number n) s') :
    ∃ w, s.rd.rest = w ++ s'.rd.rest ∧ numericLiteralShape w = true ∧
      (s'.rd.rest = [] ∨ ∃ b bs, s'.rd.rest = b :: bs ∧ isDelimiter b = true) := by
  obtain ⟨w, hw, hs, -⟩ := parseToken_number_shape cfg fuel pk tl s s' n hr h
  exact ⟨w, hw, hs, C08_number_delimited cfg fuel pk s s' n h⟩

/-- **C08_number_is_token** — the same, in terms of the token: when `parse_token` returns a
    number, the TOKEN at the head of the input — the maximal run of non-delimiter bytes — is a
    numeric literal, and it is exactly what has been consumed. -/
theorem C08_number_is_token (cfg : Cfg) (fuel : Nat) (pk : UInt8) (tl : List UInt8) (s s' : St)
    (n : Number) (hr : s.rd.rest = pk :: tl)
    (h : parseToken cfg fuel pk s = .ok (.number n) s') :
    numericLiteralShape (s.rd.rest.takeWhile (fun b => !isDelimiter b)) = true ∧
      s'.rd.rest = s.rd.rest.dropWhile (fun b => !isDelimiter b) := by
  obtain ⟨w, hw, hs, hn⟩ := parseToken_number_shape cfg fuel pk tl s s' n hr h
  obtain ⟨h1, h2⟩ := token_of_nonDelim hw hn (C08_number_delimited cfg fuel pk s s' n h)
  rw [h1, h2]
  exact ⟨hs, rfl⟩

/-- the hypothesis `hr` holds where `parse_token` is called (`next_value`, `next_datum`, the list
    and vector readers): `pk` is the byte `parse_whitespace` has just peeked, the first byte of
    the input that is left -/
theorem parseWhitespace_peeked {s s1 : St} {pk : UInt8}
    (h : parseWhitespace s = .ok (some pk) s1) : ∃ tl, s1.rd.rest = pk :: tl :=
  cons_of_head_some (parseWhitespace_some h)

/-- `C08_number_is_token` where `parse_token` is called: after `parse_whitespace` -/
theorem C08_number_whole_token_ws (cfg : Cfg) (fuel : Nat) (pk : UInt8) (s s1 s' : St) (n : Number)
    (hw : parseWhitespace s = .ok (some pk) s1)
    (h : parseToken cfg fuel pk s1 = .ok (.number n) s') :
    numericLiteralShape (s1.rd.rest.takeWhile (fun b => !isDelimiter b)) = true ∧
      s'.rd.rest = s1.rd.rest.dropWhile (fun b => !isDelimiter b) := by
  obtain ⟨tl, hr⟩ := parseWhitespace_peeked hw
  exact C08_number_is_token cfg fuel pk tl s1 s' n hr h

/-! ### the hypotheses are satisfiable (non-vacuity), on each number-producing path -/

def numberRest (r : Res Token) : Option (List UInt8) :=
  match r with
  | .ok (.number _) s' => some s'.rd.rest
  | _ => none

theorem numberRest_some {r : Res Token} {l : List UInt8} (h : numberRest r = some l) :
    ∃ n s', r = .ok (.number n) s' ∧ s'.rd.rest = l := by
  unfold numberRest at h
  split at h
  · rename_i n s'
    exact ⟨n, s', rfl, by simpa using h⟩
  · cases h

/-- the sign arm, with a fraction and an exponent: `-12.5e3)` (both builds) -/
example : ∃ n s', parseToken (cfgOf Options.default) 9 45 (initSt .slice (asc "-12.5e3)")) =
    .ok (.number n) s' ∧ s'.rd.rest = asc ")" :=
  numberRest_some (by decide +kernel)
example : (initSt .slice (asc "-12.5e3)")).rd.rest = 45 :: asc "12.5e3)" := rfl
example : ∃ n s', parseToken { cfgOf Options.default with fast := false } 9 45
    (initSt .slice (asc "-12.5e3)")) = .ok (.number n) s' ∧ s'.rd.rest = asc ")" :=
  numberRest_some (by decide +kernel)

/-- the digit arm under the default options -/
example : ∃ n s', parseToken (cfgOf Options.default) 4 49 (initSt .slice (asc "17 x")) =
    .ok (.number n) s' ∧ s'.rd.rest = asc " x" := ⟨_, _, rfl, rfl⟩

/-- the leading-digit path (Emacs Lisp options): the token is read as a symbol, its copy is
    re-read by the sub-parser -/
example : ∃ n s', parseToken (cfgOf Options.elisp) 6 49 (initSt .io (asc "1e5 x")) =
    .ok (.number n) s' ∧ s'.rd.rest = asc " x" := ⟨_, _, rfl, rfl⟩

/-- the radix arm: `#x-1F)` -/
example : ∃ n s', parseToken (cfgOf Options.default) 7 35 (initSt .str (asc "#x-1F)")) =
    .ok (.number n) s' ∧ s'.rd.rest = asc ")" := ⟨_, _, rfl, rfl⟩

/-- the hypothesis `hr` (the next byte of the input is the peeked byte `pk`) is needed: called
    with `pk = '#'` on the input `xx5`, the model's `parse_token` discards an `x`, reads the
    second `x` as the radix mark and returns the number 5 — the consumed bytes `xx5` are not a
    numeric literal.  (The real `parse_token` peeks `pk` itself, so this state cannot arise.) -/
example : ∃ n s', parseToken (cfgOf Options.default) 4 35 (initSt .slice (asc "xx5")) =
    .ok (.number n) s' ∧ s'.rd.rest = [] ∧ numericLiteralShape (asc "xx5") = false :=
  ⟨_, _, rfl, rfl, by decide⟩

/-- `.5`, `-.5`, `1.`, `+5x`, `1+` are not number tokens (an error or a symbol), in agreement
    with the grammar -/
example : ∀ n s', parseToken (cfgOf Options.default) 4 46 (initSt .slice (asc ".5")) ≠
    .ok (.number n) s' := by
  intro n s' h
  have := (C08_number_is_token _ _ _ _ _ _ _ rfl h).1
  revert this; decide

end Parse
end Lexpr

#print axioms Lexpr.Parse.C08_number_whole_token
#print axioms Lexpr.Parse.C08_number_is_token
#print axioms Lexpr.Parse.C08_number_whole_token_ws
