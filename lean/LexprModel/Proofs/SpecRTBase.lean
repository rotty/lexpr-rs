/-
  SpecRTBase — the generic half of the "independent reader" theorems (C01 / C02 last clauses).

  `Spec/Reader.lean` reads in three stages (lexemes, their meaning, the tree).  This file proves, for
  ANY lexeme function `lx` and classifier `cl` that treat parentheses, the space, the dot and the
  vector brackets of the printer options `o` as expected (`Brackets`), that the structure the printer
  writes is read back by stages 1–3, given that the atoms at the leaves are (`ReadsAs`).
  The Scheme and the Emacs Lisp reader instantiate it (`read_text`; SpecRT.lean, SpecRTElisp.lean).
  No fuel, no nesting bound: stage 3 is a stack machine and the statement is for every stack.
-/
import LexprModel.Spec.Reader
import LexprModel.Spec.Dialect
import LexprModel.Print
import LexprModel.Proofs.DialectStructRT
namespace Lexpr
namespace SpecRT
open Spec Print

/-- `Parse.byte_forall` without the decidability it asks for -/
theorem forall_u8 (P : UInt8 → Prop) (h : ∀ n, n < 256 → P (UInt8.ofNat n)) : ∀ b, P b := by
  intro b
  simpa using h b.toNat (UInt8.toNat_lt b)

theorem chunks_skip {α : Type} (f : List UInt8 → Option (α × Nat)) (xs rest : List UInt8) :
    chunks f xs.length (xs ++ rest) = chunks f 0 rest := by
  induction xs with
  | nil => rfl
  | cons x xs ih => simpa [chunks] using ih

theorem chunks_one {α : Type} (f : List UInt8 → Option (α × Nat)) (x : UInt8) (xs rest : List UInt8)
    (a : α) (h : f (x :: xs ++ rest) = some (a, xs.length + 1)) :
    chunks f 0 (x :: xs ++ rest) = (chunks f 0 rest).map (a :: ·) := by
  have h' : f (x :: (xs ++ rest)) = some (a, xs.length + 1) := by simpa using h
  show chunks f 0 (x :: (xs ++ rest)) = _
  simp only [chunks, h', Nat.add_sub_cancel, chunks_skip]

/-! Stages 1 and 2 fused, for any lexeme function and classifier. -/

abbrev Lx := List UInt8 → Option (Option Tok × Nat)
abbrev Cl := Tok → Option Item

def lexItems (lx : Lx) (cl : Cl) (bs : List UInt8) : Option (List Item) :=
  ((chunks lx 0 bs).map fun ts => ts.filterMap id).bind fun ts => ts.mapM cl

theorem lexItems_nil (lx : Lx) (cl : Cl) : lexItems lx cl [] = some [] := rfl

theorem lexItems_tok (lx : Lx) (cl : Cl) (x : UInt8) (xs rest : List UInt8) (t : Tok) (it : Item)
    (h : lx (x :: xs ++ rest) = some (some t, xs.length + 1)) (hc : cl t = some it) :
    lexItems lx cl (x :: xs ++ rest) = (lexItems lx cl rest).map (it :: ·) := by
  unfold lexItems
  rw [chunks_one lx x xs rest _ h]
  cases chunks lx 0 rest with
  | none => rfl
  | some ts =>
    simp only [Option.map_some, Option.bind_some, List.filterMap_cons, id, List.mapM_cons, hc]
    cases List.mapM cl (List.filterMap id ts) <;> rfl

theorem lexItems_trivia (lx : Lx) (cl : Cl) (x : UInt8) (xs rest : List UInt8)
    (h : lx (x :: xs ++ rest) = some (none, xs.length + 1)) :
    lexItems lx cl (x :: xs ++ rest) = lexItems lx cl rest := by
  unfold lexItems
  rw [chunks_one lx x xs rest _ h]
  cases chunks lx 0 rest with
  | none => rfl
  | some ts => simp only [Option.map_some, Option.bind_some, List.filterMap_cons, id]

def run (st : List Frame × Option Value) (items : List Item) : Option (List Frame × Option Value) :=
  items.foldlM step st

theorem run_nil (st : List Frame × Option Value) : run st [] = some st := rfl

theorem run_cons (st : List Frame × Option Value) (it : Item) (items : List Item) :
    run st (it :: items) = (step st it).bind (run · items) := by
  simp [run, List.foldlM_cons, bind, Option.bind]

theorem run_append (st : List Frame × Option Value) (a b : List Item) :
    run st (a ++ b) = (run st a).bind (run · b) := by
  induction a generalizing st with
  | nil => simp [run_nil]
  | cons it a ih =>
    simp only [List.cons_append, run_cons]
    cases step st it with
    | none => rfl
    | some st' => simpa using ih st'

theorem build_eq (items : List Item) (w : Value)
    (h : run ([], none) items = some ([], some w)) : build items = some w := by
  unfold build; unfold run at h; rw [h]

/-- what may follow a lexeme that is not self-delimiting -/
def Follow (rest : List UInt8) : Prop := rest = [] ∨ ∃ b tl, rest = b :: tl ∧ isDelim b = true

theorem follow_cons (b : UInt8) (tl : List UInt8) (h : isDelim b = true) : Follow (b :: tl) :=
  Or.inr ⟨b, tl, rfl, h⟩

/-- `text` is read as the datum `w`: stages 1–2 turn it (in front of anything a lexeme may end at)
    into some items, which stage 3, on any stack, turns into the delivery of `w`. -/
def ReadsAs (lx : Lx) (cl : Cl) (text : List UInt8) (w : Value) : Prop :=
  ∃ items : List Item,
    (∀ rest, Follow rest → lexItems lx cl (text ++ rest) = (lexItems lx cl rest).map (items ++ ·)) ∧
    (∀ fs rest, run (fs, none) (items ++ rest) = (deliver w fs).bind (run · rest))

theorem read_of_readsAs (lx : Lx) (cl : Cl) (text : List UInt8) (w : Value)
    (h : ReadsAs lx cl text w) : (lexItems lx cl text).bind build = some w := by
  obtain ⟨items, h1, h2⟩ := h
  have a := h1 [] (Or.inl rfl)
  have b := h2 [] []
  simp only [List.append_nil, lexItems_nil, Option.map_some] at a b
  rw [a]
  exact build_eq items w (by rw [b]; rfl)

theorem readsAs_datum (lx : Lx) (cl : Cl) (x : UInt8) (xs : List UInt8) (t : Tok) (w : Value)
    (h : ∀ rest, Follow rest → lx (x :: xs ++ rest) = some (some t, xs.length + 1))
    (hc : cl t = some (.datum w)) : ReadsAs lx cl (x :: xs) w := by
  refine ⟨[.datum w], ?_, ?_⟩
  · intro rest hf
    rw [lexItems_tok lx cl x xs rest t _ (h rest hf) hc]
    rfl
  · intro fs rest
    rw [List.singleton_append, run_cons]
    rfl

/-! The printed text of composite values: the equations of `ListRT`, in terms of `tailT` and `seqT`. -/

theorem flatten_cons_all (bs : List UInt8) (es : List Emit) :
    flatten (.all bs :: es) = bs ++ flatten es :=
  Parse.ListRT.flatten_cons_all bs es
theorem flatten_nil : flatten [] = [] := rfl

/-- the text after an element of a list -/
def tailT (o : Print.Options) (ryu : Nat → List UInt8) (d : Value) : List UInt8 :=
  flatten (emitsTail o ryu d)
/-- the text of vector elements -/
def seqT (o : Print.Options) (ryu : Nat → List UInt8) (first : Bool) (xs : List Value) : List UInt8 :=
  flatten (emitsSeq o ryu first xs)

theorem text_cons (o : Print.Options) (ryu : Nat → List UInt8) (a d : Value) :
    text o ryu (.cons a d) = 40 :: (text o ryu a ++ (tailT o ryu d ++ [41])) :=
  Parse.ListRT.textP_cons o ryu a d

theorem text_vector (o : Print.Options) (ryu : Nat → List UInt8) (xs : List Value) :
    text o ryu (.vector xs) = vecOpen o ++ (seqT o ryu true xs ++ vecClose o) := by
  rw [Parse.ListRT.vecOpen_eq, Parse.ListRT.vecClose_eq]; exact Parse.ListRT.textP_vector o ryu xs

theorem tailT_null (o : Print.Options) (ryu : Nat → List UInt8) : tailT o ryu .null = [] :=
  Parse.ListRT.tailP_null o ryu

theorem tailT_cons (o : Print.Options) (ryu : Nat → List UInt8) (a d : Value) :
    tailT o ryu (.cons a d) = 32 :: (text o ryu a ++ tailT o ryu d) :=
  Parse.ListRT.tailP_cons o ryu a d

theorem tailT_dotted (o : Print.Options) (ryu : Nat → List UInt8) (d : Value)
    (h1 : d.isCons = false) (h2 : d ≠ .null) :
    tailT o ryu d = 32 :: 46 :: 32 :: text o ryu d :=
  Parse.ListRT.tailP_dotted o ryu d h1 h2

theorem seqT_nil (o : Print.Options) (ryu : Nat → List UInt8) (first : Bool) :
    seqT o ryu first [] = [] :=
  Parse.ListRT.seqP_nil o ryu first

theorem seqT_true (o : Print.Options) (ryu : Nat → List UInt8) (x : Value) (xs : List Value) :
    seqT o ryu true (x :: xs) = text o ryu x ++ seqT o ryu false xs :=
  Parse.ListRT.seqP_true o ryu x xs

theorem seqT_false (o : Print.Options) (ryu : Nat → List UInt8) (x : Value) (xs : List Value) :
    seqT o ryu false (x :: xs) = 32 :: (text o ryu x ++ seqT o ryu false xs) :=
  Parse.ListRT.seqP_false o ryu x xs

theorem seqT_false_eq (o : Print.Options) (ryu : Nat → List UInt8) (x : Value) (xs : List Value) :
    seqT o ryu false (x :: xs) = 32 :: seqT o ryu true (x :: xs) := by
  rw [seqT_false, seqT_true]

theorem tailT_head (o : Print.Options) (ryu : Nat → List UInt8) (d : Value) :
    tailT o ryu d = [] ∨ ∃ tl, tailT o ryu d = 32 :: tl := by
  by_cases hn : d = .null
  · subst hn; exact Or.inl (tailT_null o ryu)
  · cases hc : d.isCons with
    | false => exact Or.inr ⟨_, tailT_dotted o ryu d hc hn⟩
    | true =>
      cases d <;> simp [Value.isCons] at hc
      exact Or.inr ⟨_, tailT_cons o ryu _ _⟩

theorem seqT_false_head (o : Print.Options) (ryu : Nat → List UInt8) (xs : List Value) :
    seqT o ryu false xs = [] ∨ ∃ tl, seqT o ryu false xs = 32 :: tl := by
  cases xs with
  | nil => exact Or.inl (seqT_nil o ryu false)
  | cons x xs => exact Or.inr ⟨_, seqT_false o ryu x xs⟩

theorem isDelim_space : isDelim 32 = true := by decide

theorem follow_of_space (t rest : List UInt8) (ht : t = [] ∨ ∃ tl, t = 32 :: tl)
    (h : Follow rest) : Follow (t ++ rest) := by
  rcases ht with h0 | ⟨tl, h0⟩ <;> rw [h0]
  · simpa using h
  · exact follow_cons 32 _ isDelim_space

theorem follow_tail (o : Print.Options) (ryu : Nat → List UInt8) (d : Value) (rest : List UInt8)
    (h : Follow rest) : Follow (tailT o ryu d ++ rest) :=
  follow_of_space _ rest (tailT_head o ryu d) h

theorem follow_seq (o : Print.Options) (ryu : Nat → List UInt8) (xs : List Value) (rest : List UInt8)
    (h : Follow rest) : Follow (seqT o ryu false xs ++ rest) :=
  follow_of_space _ rest (seqT_false_head o ryu xs) h

/-! The printed text of an atom, for any printer options (`atomTextP_*` of `TokenRTLit`). -/

theorem text_null (o : Print.Options) (ryu : Nat → List UInt8) : text o ryu .null = [40, 41] :=
  Parse.ListRT.textP_null o ryu

theorem text_nil (o : Print.Options) (ryu : Nat → List UInt8) : text o ryu .nil = nilText o :=
  (Parse.ListRT.textP_atom o ryu _ rfl rfl).trans (Parse.atomTextP_nil o ryu)

theorem text_bool (o : Print.Options) (ryu : Nat → List UInt8) (b : Bool) :
    text o ryu (.bool b) = boolText o b :=
  (Parse.ListRT.textP_atom o ryu _ rfl rfl).trans (Parse.atomTextP_bool o ryu b)

theorem text_number (o : Print.Options) (ryu : Nat → List UInt8) (n : Number) :
    text o ryu (.number n) = numberText ryu n := by
  simp only [text, emits, atomEmits, flatten_cons_all, flatten_nil, List.append_nil]

theorem text_char (o : Print.Options) (ryu : Nat → List UInt8) (c : Nat) :
    text o ryu (.char c) = charText o c :=
  (Parse.ListRT.textP_atom o ryu _ rfl rfl).trans (Parse.atomTextP_char o ryu c)

theorem text_symbol (o : Print.Options) (ryu : Nat → List UInt8) (n : List UInt8) :
    text o ryu (.symbol n) = n :=
  (Parse.ListRT.textP_atom o ryu _ rfl rfl).trans (Parse.atomTextP_symbol o ryu n)

theorem text_keyword (o : Print.Options) (ryu : Nat → List UInt8) (n : List UInt8) :
    text o ryu (.keyword n) =
      match o.keyword with
      | .colonPostfix => n ++ [58]
      | .colonPrefix => 58 :: n
      | .octothorpe => 35 :: 58 :: n :=
  (Parse.ListRT.textP_atom o ryu _ rfl rfl).trans (Parse.atomTextP_keyword o ryu n)

theorem text_string (o : Print.Options) (ryu : Nat → List UInt8) (s : List UInt8) :
    text o ryu (.string s) = 34 :: (escapeStr o.string s ++ [34]) :=
  (Parse.ListRT.textP_atom o ryu _ rfl rfl).trans (Parse.atomTextP_string o ryu s)

theorem text_bytes (o : Print.Options) (ryu : Nat → List UInt8) (bs : List UInt8) :
    text o ryu (.bytes bs) =
      match o.bytes with
      | .r6rs => 35 :: 118 :: 117 :: 56 :: 40 :: (octetsText bs ++ [41])
      | .r7rs => 35 :: 117 :: 56 :: 40 :: (octetsText bs ++ [41])
      | .elisp => 34 :: (elispBytesText bs ++ [34]) :=
  (Parse.ListRT.textP_atom o ryu _ rfl rfl).trans (Parse.atomTextP_bytes o ryu bs)

/-- what the generic structure theorem needs to know about a reader for the printer options `o`:
    parentheses, the separating space, the dot of a dotted pair (always written ` . `), and the
    vector brackets of `o` -/
structure Brackets (lx : Lx) (cl : Cl) (o : Print.Options) : Prop where
  lpar : ∀ r, lx (40 :: r) = some (some .lpar, 1)
  rpar : ∀ r, lx (41 :: r) = some (some .rpar, 1)
  space : ∀ r, lx (32 :: r) = some (none, 1)
  dot : ∀ r, lx (46 :: 32 :: r) = some (some (.atom [46]), 1)
  cl_lpar : cl .lpar = some (.open (.list .rpar))
  cl_rpar : cl .rpar = some (.close .rpar)
  cl_dot : cl (.atom [46]) = some .dot
  vec : ∃ (ob : UInt8) (obs : List UInt8) (cb : UInt8) (to tc tcc : Tok) (k : Open),
    vecOpen o = ob :: obs ∧ vecClose o = [cb] ∧ isDelim cb = true ∧
    (∀ r, lx (ob :: obs ++ r) = some (some to, obs.length + 1)) ∧ cl to = some (.open k) ∧
    (∀ r, lx (cb :: r) = some (some tc, 1)) ∧ cl tc = some (.close tcc) ∧
    ∀ rev, finish tcc (.seq k rev none) = some (.vector rev.reverse)

/-- the text after a list element is read as the rest of a list whose tail is `W` -/
def TailReadsAs (lx : Lx) (cl : Cl) (text : List UInt8) (W : Value) : Prop :=
  ∃ items : List Item,
    (∀ rest, Follow rest → lexItems lx cl (text ++ rest) = (lexItems lx cl rest).map (items ++ ·)) ∧
    (∀ (c : Tok) (x : Value) (rev : List Value) fs rest, ∃ rev' tl',
      run (.seq (.list c) (x :: rev) none :: fs, none) (items ++ rest) =
        run (.seq (.list c) rev' tl' :: fs, none) rest ∧
      ∀ t, finish t (.seq (.list c) rev' tl') =
        if c = t then some ((x :: rev).reverse.foldr .cons W) else none)

/-- the text of vector elements is read as the elements `Ws` -/
def SeqReadsAs (lx : Lx) (cl : Cl) (text : List UInt8) (Ws : List Value) : Prop :=
  ∃ items : List Item,
    (∀ rest, Follow rest → lexItems lx cl (text ++ rest) = (lexItems lx cl rest).map (items ++ ·)) ∧
    (∀ (k : Open) (rev : List Value) fs rest,
      run (.seq k rev none :: fs, none) (items ++ rest) =
        run (.seq k (Ws.reverse ++ rev) none :: fs, none) rest)

theorem map_map_append {α : Type} (o : Option (List α)) (a b : List α) :
    (o.map (b ++ ·)).map (a ++ ·) = o.map ((a ++ b) ++ ·) := by
  cases o <;> simp

theorem map_map_cons {α : Type} (o : Option (List α)) (a : α) (b : List α) :
    (o.map (b ++ ·)).map (a :: ·) = o.map ((a :: b) ++ ·) :=
  map_map_append o [a] b

/-- `(`, the items of `a`, those of the tail, `)`.  Stage 3 opens a list frame, `a` delivers `A` into it
    as its first element, and `TailReadsAs` (at `x := A`, `rev := []`) says that the tail's items leave
    a frame which `)` finishes as `.cons A D`. -/
theorem readsAs_cons (lx : Lx) (cl : Cl) (o : Print.Options) (B : Brackets lx cl o)
    (ryu : Nat → List UInt8) (a d A D : Value)
    (ha : ReadsAs lx cl (text o ryu a) A) (hd : TailReadsAs lx cl (tailT o ryu d) D) :
    ReadsAs lx cl (text o ryu (.cons a d)) (.cons A D) := by
  obtain ⟨ia, ha1, ha2⟩ := ha
  obtain ⟨id, hd1, hd2⟩ := hd
  refine ⟨.open (.list .rpar) :: (ia ++ (id ++ [.close .rpar])), ?_, ?_⟩
  · intro rest hf
    have hf1 : Follow (41 :: rest) := follow_cons 41 _ (by decide)
    have hf2 : Follow (tailT o ryu d ++ 41 :: rest) := follow_tail o ryu d _ hf1
    have e : text o ryu (.cons a d) ++ rest =
        40 :: [] ++ (text o ryu a ++ (tailT o ryu d ++ (41 :: [] ++ rest))) := by
      simp [text_cons]
    rw [e, lexItems_tok lx cl 40 [] _ .lpar _ (B.lpar _) B.cl_lpar, ha1 _ (by simpa using hf2),
      hd1 _ (by simpa using hf1), lexItems_tok lx cl 41 [] rest .rpar _ (B.rpar _) B.cl_rpar]
    cases lexItems lx cl rest <;> simp
  · intro fs rest
    obtain ⟨rev', tl', h1, h2⟩ := hd2 .rpar A [] fs (.close .rpar :: rest)
    have e : (Item.open (.list .rpar) :: (ia ++ (id ++ [Item.close .rpar]))) ++ rest =
        Item.open (.list .rpar) :: (ia ++ (id ++ (Item.close .rpar :: rest))) := by simp
    rw [e, run_cons]
    show run (.seq (.list .rpar) [] none :: fs, none) _ = _
    rw [ha2]
    show run (.seq (.list .rpar) [A] none :: fs, none) _ = _
    rw [h1, run_cons]
    show ((finish .rpar (.seq (.list .rpar) rev' tl')).bind (deliver · fs)).bind _ = _
    rw [h2]
    simp

theorem tailReadsAs_null (lx : Lx) (cl : Cl) (o : Print.Options) (ryu : Nat → List UInt8) :
    TailReadsAs lx cl (tailT o ryu .null) .null := by
  refine ⟨[], ?_, ?_⟩
  · intro rest _
    rw [tailT_null, List.nil_append]
    cases lexItems lx cl rest <;> simp
  · intro c x rev fs rest
    refine ⟨x :: rev, none, rfl, ?_⟩
    intro t
    simp [finish]

theorem tailReadsAs_cons (lx : Lx) (cl : Cl) (o : Print.Options) (B : Brackets lx cl o)
    (ryu : Nat → List UInt8) (a d A D : Value)
    (ha : ReadsAs lx cl (text o ryu a) A) (hd : TailReadsAs lx cl (tailT o ryu d) D) :
    TailReadsAs lx cl (tailT o ryu (.cons a d)) (.cons A D) := by
  obtain ⟨ia, ha1, ha2⟩ := ha
  obtain ⟨id, hd1, hd2⟩ := hd
  refine ⟨ia ++ id, ?_, ?_⟩
  · intro rest hf
    have hf2 : Follow (tailT o ryu d ++ rest) := follow_tail o ryu d _ hf
    have e : tailT o ryu (.cons a d) ++ rest =
        32 :: [] ++ (text o ryu a ++ (tailT o ryu d ++ rest)) := by
      simp [tailT_cons]
    rw [e, lexItems_trivia lx cl 32 [] _ (B.space _), ha1 _ hf2, hd1 _ hf, map_map_append]
  · intro c x rev fs rest
    obtain ⟨rev', tl', h1, h2⟩ := hd2 c A (x :: rev) fs rest
    refine ⟨rev', tl', ?_, ?_⟩
    · rw [List.append_assoc, ha2]
      show run (.seq (.list c) (A :: x :: rev) none :: fs, none) _ = _
      exact h1
    · intro t
      rw [h2 t]
      simp

theorem tailReadsAs_dotted (lx : Lx) (cl : Cl) (o : Print.Options) (B : Brackets lx cl o)
    (ryu : Nat → List UInt8) (d D : Value) (h1 : d.isCons = false) (h2 : d ≠ .null)
    (hd : ReadsAs lx cl (text o ryu d) D) :
    TailReadsAs lx cl (tailT o ryu d) D := by
  obtain ⟨id, hd1, hd2⟩ := hd
  refine ⟨.dot :: id, ?_, ?_⟩
  · intro rest hf
    have e : tailT o ryu d ++ rest = 32 :: [] ++ (46 :: [] ++ (32 :: [] ++ (text o ryu d ++ rest))) := by
      simp [tailT_dotted o ryu d h1 h2]
    rw [e, lexItems_trivia lx cl 32 [] _ (B.space _),
      lexItems_tok lx cl 46 [] _ (.atom [46]) .dot (by simpa using B.dot _) B.cl_dot,
      lexItems_trivia lx cl 32 [] _ (B.space _), hd1 _ hf, map_map_cons]
  · intro c x rev fs rest
    refine ⟨x :: rev, some (some D), ?_, ?_⟩
    · rw [List.cons_append, run_cons]
      show run (.seq (.list c) (x :: rev) (some none) :: fs, none) _ = _
      rw [hd2]
      rfl
    · intro t
      simp [finish]

theorem seqReadsAs_nil (lx : Lx) (cl : Cl) (o : Print.Options) (ryu : Nat → List UInt8)
    (first : Bool) : SeqReadsAs lx cl (seqT o ryu first []) [] := by
  refine ⟨[], ?_, ?_⟩
  · intro rest _
    rw [seqT_nil, List.nil_append]
    cases lexItems lx cl rest <;> simp
  · intro k rev fs rest
    rfl

theorem seqReadsAs_cons (lx : Lx) (cl : Cl) (o : Print.Options) (B : Brackets lx cl o)
    (ryu : Nat → List UInt8) (first : Bool) (x X : Value) (xs Xs : List Value)
    (hx : ReadsAs lx cl (text o ryu x) X) (hs : SeqReadsAs lx cl (seqT o ryu false xs) Xs) :
    SeqReadsAs lx cl (seqT o ryu first (x :: xs)) (X :: Xs) := by
  obtain ⟨ix, hx1, hx2⟩ := hx
  obtain ⟨is, hs1, hs2⟩ := hs
  refine ⟨ix ++ is, ?_, ?_⟩
  · intro rest hf
    have hf2 : Follow (seqT o ryu false xs ++ rest) := follow_seq o ryu xs _ hf
    cases first with
    | true =>
      rw [seqT_true, List.append_assoc, hx1 _ hf2, hs1 _ hf, map_map_append]
    | false =>
      have e : seqT o ryu false (x :: xs) ++ rest =
          32 :: [] ++ (text o ryu x ++ (seqT o ryu false xs ++ rest)) := by
        simp [seqT_false]
      rw [e, lexItems_trivia lx cl 32 [] _ (B.space _), hx1 _ hf2, hs1 _ hf, map_map_append]
  · intro k rev fs rest
    rw [List.append_assoc, hx2]
    show run (.seq k (X :: rev) none :: fs, none) _ = _
    rw [hs2]
    simp

/-- a bracketed sequence: opening lexeme, elements, closing lexeme -/
theorem readsAs_bracketed (lx : Lx) (cl : Cl) (ob : UInt8) (obs : List UInt8) (cb : UInt8)
    (to tc tcc : Tok) (k : Open) (body : List UInt8) (Xs : List Value) (w : Value)
    (hcb : isDelim cb = true)
    (hlo : ∀ r, lx (ob :: obs ++ r) = some (some to, obs.length + 1)) (hco : cl to = some (.open k))
    (hlc : ∀ r, lx (cb :: r) = some (some tc, 1)) (hcc : cl tc = some (.close tcc))
    (hfin : finish tcc (.seq k (Xs.reverse ++ []) none) = some w)
    (hs : SeqReadsAs lx cl body Xs) :
    ReadsAs lx cl (ob :: obs ++ (body ++ [cb])) w := by
  obtain ⟨is, hs1, hs2⟩ := hs
  refine ⟨.open k :: (is ++ [.close tcc]), ?_, ?_⟩
  · intro rest hf
    have hf1 : Follow (cb :: rest) := follow_cons cb _ hcb
    have e : ob :: obs ++ (body ++ [cb]) ++ rest = ob :: obs ++ (body ++ (cb :: [] ++ rest)) := by
      simp
    rw [e, lexItems_tok lx cl ob obs _ to _ (hlo _) hco, hs1 _ (by simpa using hf1),
      lexItems_tok lx cl cb [] rest tc _ (hlc _) hcc]
    cases lexItems lx cl rest <;> simp
  · intro fs rest
    have e : (Item.open k :: (is ++ [Item.close tcc])) ++ rest =
        Item.open k :: (is ++ (Item.close tcc :: rest)) := by simp
    rw [e, run_cons]
    show run (.seq k [] none :: fs, none) _ = _
    rw [hs2, run_cons]
    show ((finish tcc (.seq k (Xs.reverse ++ []) none)).bind (deliver · fs)).bind _ = _
    rw [hfin]
    simp

theorem readsAs_vector (lx : Lx) (cl : Cl) (o : Print.Options) (B : Brackets lx cl o)
    (ryu : Nat → List UInt8) (xs Xs : List Value)
    (hs : SeqReadsAs lx cl (seqT o ryu true xs) Xs) :
    ReadsAs lx cl (text o ryu (.vector xs)) (.vector Xs) := by
  obtain ⟨ob, obs, cb, to, tc, tcc, k, hvo, hvc, hcb, hlo, hco, hlc, hcc, hfin⟩ := B.vec
  have e : text o ryu (.vector xs) = ob :: obs ++ (seqT o ryu true xs ++ [cb]) := by
    simp [text_vector, hvo, hvc]
  rw [e]
  exact readsAs_bracketed lx cl ob obs cb to tc tcc k _ Xs _ hcb hlo hco hlc hcc
    (by rw [hfin]; simp) hs

theorem readsAs_null (lx : Lx) (cl : Cl) (o : Print.Options) (B : Brackets lx cl o)
    (ryu : Nat → List UInt8) : ReadsAs lx cl (text o ryu .null) .null := by
  rw [text_null]
  exact readsAs_bracketed lx cl 40 [] 41 .lpar .rpar .rpar (.list .rpar) [] [] .null (by decide)
    B.lpar B.cl_lpar B.rpar B.cl_rpar rfl (seqT_nil o ryu true ▸ seqReadsAs_nil lx cl o ryu true)

mutual
/-- every atom leaf of `v` (through car, cdr and vector elements; the empty list is not a leaf)
    satisfies `P` (`leaves_iff`: this is `FullRT.AllLeaves`) -/
def Leaves (P : Value → Prop) : Value → Prop
  | .cons a d => Leaves P a ∧ Leaves P d
  | .vector xs => LeavesSeq P xs
  | .null => True
  | .nil => P .nil
  | .bool b => P (.bool b)
  | .number n => P (.number n)
  | .char c => P (.char c)
  | .string x => P (.string x)
  | .symbol x => P (.symbol x)
  | .keyword x => P (.keyword x)
  | .bytes x => P (.bytes x)
def LeavesSeq (P : Value → Prop) : List Value → Prop
  | [] => True
  | x :: xs => Leaves P x ∧ LeavesSeq P xs
end

/-- `Leaves` is `FullRT.AllLeaves` written out again: what is proved of the one holds of the other -/
theorem leaves_iff (P : Value → Prop) :
    (∀ v, Leaves P v ↔ FullRT.AllLeaves P v) ∧ (∀ xs, LeavesSeq P xs ↔ FullRT.AllLeavesSeq P xs) := by
  refine Parse.ListRT.value_induction2 ?_ ?_ ?_ ?_ ?_ ?_
  · intro a d ha hd; exact and_congr ha hd
  · intro xs hs; exact hs
  · exact Iff.rfl
  · intro v h1 h2 h3
    cases v <;>
      first | exact Iff.rfl | exact absurd rfl h3 | exact Bool.noConfusion h1 | exact Bool.noConfusion h2
  · exact Iff.rfl
  · intro x xs hx hs; exact and_congr hx hs

theorem leaves_of_allLeaves {P Q R : Value → Prop} (hpqr : ∀ v, v ≠ .null → P v → Q v → R v) :
    ∀ v : Value, FullRT.AllLeaves P v → FullRT.AllLeaves Q v → Leaves R v :=
  fun v h1 h2 => ((leaves_iff R).1 v).mpr ((FullRT.allLeaves_and hpqr).1 v h1 h2)

theorem leavesSeq_of_allLeaves {P Q R : Value → Prop} (hpqr : ∀ v, v ≠ .null → P v → Q v → R v) :
    ∀ xs : List Value, FullRT.AllLeavesSeq P xs → FullRT.AllLeavesSeq Q xs → LeavesSeq R xs :=
  fun xs h1 h2 => ((leaves_iff R).2 xs).mpr ((FullRT.allLeaves_and hpqr).2 xs h1 h2)

/-- If every atom leaf is read back (as its folding), so is the value: as a datum, as the rest of a
    list after an element, as the elements of a vector.  One statement for the three, so that the
    induction is on the structure of the value (the text of a dotted tail is the text of the same
    value, not of a part of it). -/
theorem reads_all (lx : Lx) (cl : Cl) (o : Print.Options) (B : Brackets lx cl o) (ryu : Nat → List UInt8)
    (r : Parse.Options) (P : Value → Prop)
    (hleaf : ∀ v, v.isCons = false → v.isVector = false → v ≠ .null → P v →
      ReadsAs lx cl (text o ryu v) (fold o r v)) :
    (∀ v, FullRT.AllLeaves P v → ReadsAs lx cl (text o ryu v) (fold o r v)) ∧
    (∀ d, FullRT.AllLeaves P d → TailReadsAs lx cl (tailT o ryu d) (fold o r d)) ∧
    (∀ xs, FullRT.AllLeavesSeq P xs → ∀ first, SeqReadsAs lx cl (seqT o ryu first xs) (foldList o r xs)) := by
  refine Parse.ListRT.value_induction ?_ ?_ ?_ ?_ ?_ ?_ ?_ ?_ ?_
  · intro a d ha hd h; exact readsAs_cons lx cl o B ryu a d _ _ (ha h.1) (hd h.2)
  · intro xs hs h; exact readsAs_vector lx cl o B ryu xs _ (hs h true)
  · intro _; exact readsAs_null lx cl o B ryu
  · intro v h1 h2 h3 h; exact hleaf v h1 h2 h3 ((FullRT.allLeaves_leaf P v h1 h2 h3).mp h)
  · intro a d ha hd h; exact tailReadsAs_cons lx cl o B ryu a d _ _ (ha h.1) (hd h.2)
  · intro _; exact tailReadsAs_null lx cl o ryu
  · intro d h1 h2 hd h; exact tailReadsAs_dotted lx cl o B ryu d _ h1 h2 (hd h)
  · intro _ first; exact seqReadsAs_nil lx cl o ryu first
  · intro x xs hx hs h first; exact seqReadsAs_cons lx cl o B ryu first x _ xs _ (hx h.1) (hs h.2 false)

section Structure
set_option linter.unusedSectionVars false
variable (lx : Lx) (cl : Cl) (o : Print.Options) (B : Brackets lx cl o) (ryu : Nat → List UInt8)
  (r : Parse.Options) (P : Value → Prop)
  (hleaf : ∀ v, v.isCons = false → v.isVector = false → v ≠ .null → P v →
    ReadsAs lx cl (text o ryu v) (fold o r v))
include B hleaf

theorem value_reads (v : Value) (h : Leaves P v) : ReadsAs lx cl (text o ryu v) (fold o r v) :=
  (reads_all lx cl o B ryu r P hleaf).1 v (((leaves_iff P).1 v).mp h)

theorem tail_reads : ∀ d : Value, Leaves P d → TailReadsAs lx cl (tailT o ryu d) (fold o r d) :=
  fun d h => (reads_all lx cl o B ryu r P hleaf).2.1 d (((leaves_iff P).1 d).mp h)

theorem seq_reads : ∀ (first : Bool) (xs : List Value), LeavesSeq P xs →
    SeqReadsAs lx cl (seqT o ryu first xs) (foldList o r xs) :=
  fun first xs h => (reads_all lx cl o B ryu r P hleaf).2.2 xs (((leaves_iff P).2 xs).mp h) first

/-- The independent-reader theorem, for any reader.  A three-stage reader that treats the
    brackets of the printer options `o` as expected and reads every atom leaf of `v` back as its
    folding reads the whole text of `v` as the folding of `v`: one datum, nothing left over, at any
    nesting depth. -/
theorem read_text (v : Value) (h : Leaves P v) :
    (lexItems lx cl (text o ryu v)).bind build = some (fold o r v) :=
  read_of_readsAs lx cl _ _ (value_reads lx cl o B ryu r P hleaf v h)

end Structure

end SpecRT
end Lexpr
