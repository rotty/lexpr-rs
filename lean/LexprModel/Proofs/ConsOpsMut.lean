/-
  Refinement of the mutation model of LexprModel/ConsOps.lean (cells reached by `cdr_mut` steps, the
  iterators as state machines, scripts) to the `(xs, t)` reference of C15 (Props/C15.lean): an element
  sequence `xs` and a tail `t` that is not a pair.  Every statement is for all lists, indices and values.

  The stores are the closed forms of Proofs/ConsOps.lean below the length of `xs`; what the traversals
  of C15 see after a store is the C15 theorem for the new element sequence.  The `script_*` theorems
  state a store followed by an observation, and `clone`, `append`, `into_pair`, `peek`, on the script
  interpreter `run`.
-/
import LexprModel.Proofs.ConsOps
import LexprModel.Props.C15
namespace Lexpr
namespace ConsOps
open Value

theorem cellAt_ref (xs : List Value) (t : Value) (i : Nat) (h : i < xs.length) :
    cellAt (append xs t) i = some (xs[i], append (xs.drop (i + 1)) t) := by
  rw [cellAt_append_eq, dif_pos h]

theorem cellAt_oob (xs : List Value) (t : Value) (ht : NotCons t) (i : Nat) (h : xs.length ≤ i) :
    cellAt (append xs t) i = none := by
  rw [cellAt_append_eq, dif_neg (Nat.not_lt.2 h)]
  exact cellAt.eq_3 t _ (fun a d e _ => ht.ne a d e) (fun a d _ e _ => ht.ne a d e)

/-- `car()` / `cdr()` of the i-th cell -/
theorem carAt_ref (xs : List Value) (t : Value) (i : Nat) (h : i < xs.length) :
    carAt (append xs t) i = some xs[i] := by rw [carAt, cellAt_ref xs t i h]; rfl

theorem cdrAt_ref (xs : List Value) (t : Value) (i : Nat) (h : i < xs.length) :
    cdrAt (append xs t) i = some (append (xs.drop (i + 1)) t) := by
  rw [cdrAt, cellAt_ref xs t i h]; rfl

/-- `set_car(x)` on cell `i < |xs|` replaces element `i`; the tail is untouched. -/
theorem setCarAt_ref (xs : List Value) (t : Value) (i : Nat) (x : Value) (h : i < xs.length) :
    setCarAt (append xs t) i x = some (append (xs.set i x) t) := by
  rw [setCarAt_append_eq, if_pos h]

theorem setCarAt_oob (xs : List Value) (t : Value) (ht : NotCons t) (i : Nat) (x : Value)
    (h : xs.length ≤ i) : setCarAt (append xs t) i x = none := by
  rw [setCarAt_append_eq, if_neg (Nat.not_lt.2 h),
    setCarAt.eq_3 t _ x (fun a d e _ => ht.ne a d e) (fun a d _ e _ => ht.ne a d e)]; rfl

/-- `set_cdr(x)` on cell `i < |xs|` keeps the first `i + 1` elements and replaces
    everything after them by `x`. -/
theorem setCdrAt_ref (xs : List Value) (t : Value) (i : Nat) (x : Value) (h : i < xs.length) :
    setCdrAt (append xs t) i x = some (append (xs.take (i + 1)) x) := by
  rw [setCdrAt_append_eq, if_pos h]

/-- a list stored with `set_cdr` merges into the chain -/
theorem setCdrAt_merge (xs : List Value) (t : Value) (i : Nat) (zs : List Value) (t' : Value)
    (h : i < xs.length) :
    setCdrAt (append xs t) i (append zs t') = some (append (xs.take (i + 1) ++ zs) t') := by
  rw [setCdrAt_ref xs t i _ h, C15_append_merge]

theorem setCdrAt_oob (xs : List Value) (t : Value) (ht : NotCons t) (i : Nat) (x : Value)
    (h : xs.length ≤ i) : setCdrAt (append xs t) i x = none := by
  rw [setCdrAt_append_eq, if_neg (Nat.not_lt.2 h),
    setCdrAt.eq_3 t _ x (fun a d e _ => ht.ne a d e) (fun a d _ e _ => ht.ne a d e)]; rfl

/-- `*c.car_mut() = x` and `*c.cdr_mut() = x` are the same stores -/
theorem carMutAssign_eq (v : Value) (i : Nat) (x : Value) : carMutAssign v i x = setCarAt v i x := rfl
theorem cdrMutAssign_eq (v : Value) (i : Nat) (x : Value) : cdrMutAssign v i x = setCdrAt v i x := rfl

theorem carAt_setCarAt (xs : List Value) (t : Value) (i : Nat) (x : Value) (h : i < xs.length) :
    (setCarAt (append xs t) i x).bind (carAt · i) = some x := by
  rw [setCarAt_ref xs t i x h]
  simp [carAt_ref (xs.set i x) t i (by simpa using h)]

theorem cdrAt_setCdrAt (xs : List Value) (t : Value) (i : Nat) (x : Value) (h : i < xs.length) :
    (setCdrAt (append xs t) i x).bind (cdrAt · i) = some x := by
  rw [setCdrAt_ref xs t i x h]
  have hl : i < (xs.take (i + 1)).length := by simp [List.length_take]; omega
  simp [cdrAt_ref (xs.take (i + 1)) x i hl, append]

/-! ### what the traversals of C15 see after a store (non-empty list, i.e. the owner is a pair)

  The C15 theorems speak of the head and the rest of a non-empty list; after a store the list is
  `xs.set i x` or `xs.take (i + 1) ++ zs`, so they are first restated for any non-empty `zs`. -/

theorem append_ne (zs : List Value) (t : Value) (h : zs ≠ []) :
    append zs t = .cons (zs.head h) (append zs.tail t) := by
  cases zs with
  | nil => exact absurd rfl h
  | cons z zs => rfl

theorem toVec_append (zs : List Value) (t : Value) (ht : NotCons t) (h : zs ≠ []) :
    ∃ a d, append zs t = .cons a d ∧ consToVec a d = (zs, t) := by
  cases zs with
  | nil => exact absurd rfl h
  | cons z zs => exact ⟨z, append zs t, rfl, C15_to_vec z zs t ht⟩

theorem index_append (zs : List Value) (t : Value) (ht : NotCons t) (h : zs ≠ []) (j : Nat) :
    (append zs t).getIdx j = zs[j]? := by
  cases zs with
  | nil => exact absurd rfl h
  | cons z zs => exact C15_index_usize z zs t ht j

theorem listIter_append (zs : List Value) (t : Value) (ht : NotCons t) (h : zs ≠ []) (k : Nat) :
    ∃ a d, append zs t = .cons a d ∧
      (ListCursor.cons a d).take (zs.length + 3 + k) =
        zs.map some ++
          (if t.isNull then List.replicate (3 + k) none
           else [none, some t] ++ List.replicate (1 + k) none) := by
  cases zs with
  | nil => exact absurd rfl h
  | cons z zs => exact ⟨z, append zs t, rfl, C15_list_iter z zs t ht k⟩

theorem set_cons_ne (x₀ : Value) (xs : List Value) (i : Nat) (x : Value) :
    (x₀ :: xs).set i x ≠ [] := by
  cases i <;> exact List.cons_ne_nil _ _

/-- `to_vec` / `into_vec` / `to_ref_vec` after `set_car` at cell `i`. -/
theorem after_setCar_to_vec (x₀ : Value) (xs : List Value) (t : Value) (ht : NotCons t) (i : Nat)
    (x : Value) (h : i < (x₀ :: xs).length) :
    ∃ a d, setCarAt (.cons x₀ (append xs t)) i x = some (.cons a d) ∧
      consToVec a d = ((x₀ :: xs).set i x, t) := by
  obtain ⟨a, d, e, hv⟩ := toVec_append _ t ht (set_cons_ne x₀ xs i x)
  exact ⟨a, d, (setCarAt_ref (x₀ :: xs) t i x h).trans (congrArg some e), hv⟩

/-- positional indexing after `set_car` at cell `i`. -/
theorem after_setCar_index (x₀ : Value) (xs : List Value) (t : Value) (ht : NotCons t) (i j : Nat)
    (x : Value) (h : i < (x₀ :: xs).length) :
    (setCarAt (.cons x₀ (append xs t)) i x).bind (·.getIdx j) = ((x₀ :: xs).set i x)[j]? := by
  rw [show Value.cons x₀ (append xs t) = append (x₀ :: xs) t from rfl, setCarAt_ref _ t i x h]
  exact index_append _ t ht (set_cons_ne x₀ xs i x) j

/-- `Value::to_vec` after `set_car`. -/
theorem after_setCar_value_to_vec (xs : List Value) (t : Value) (ht : NotCons t) (i : Nat)
    (x : Value) (h : i < xs.length) :
    (setCarAt (append xs t) i x).bind Value.toVec = if t.isNull then some (xs.set i x) else none := by
  rw [setCarAt_ref xs t i x h]
  exact C15_value_to_vec (xs.set i x) t ht

/-- the element iterator after `set_car` at cell `i`. -/
theorem after_setCar_list_iter (x₀ : Value) (xs : List Value) (t : Value) (ht : NotCons t) (i : Nat)
    (x : Value) (h : i < (x₀ :: xs).length) (k : Nat) :
    ∃ a d, setCarAt (.cons x₀ (append xs t)) i x = some (.cons a d) ∧
      (ListCursor.cons a d).take ((x₀ :: xs).length + 3 + k) =
        ((x₀ :: xs).set i x).map some ++
          (if t.isNull then List.replicate (3 + k) none
           else [none, some t] ++ List.replicate (1 + k) none) := by
  obtain ⟨a, d, e, hv⟩ := listIter_append _ t ht (set_cons_ne x₀ xs i x) k
  rw [List.length_set] at hv
  exact ⟨a, d, (setCarAt_ref (x₀ :: xs) t i x h).trans (congrArg some e), hv⟩

/-- the traversals after `set_cdr` at cell `i` with a value that decomposes
    as `(zs, t')`: the first `i + 1` elements, then `zs`, then the tail `t'`. -/
theorem after_setCdr_to_vec (x₀ : Value) (xs : List Value) (t : Value) (i : Nat)
    (zs : List Value) (t' : Value) (ht' : NotCons t') (h : i < (x₀ :: xs).length) :
    ∃ a d, setCdrAt (.cons x₀ (append xs t)) i (append zs t') = some (.cons a d) ∧
      consToVec a d = ((x₀ :: xs).take (i + 1) ++ zs, t') := by
  obtain ⟨a, d, e, hv⟩ := toVec_append ((x₀ :: xs).take (i + 1) ++ zs) t' ht' (List.cons_ne_nil _ _)
  exact ⟨a, d, (setCdrAt_merge (x₀ :: xs) t i zs t' h).trans (congrArg some e), hv⟩

theorem after_setCdr_index (x₀ : Value) (xs : List Value) (t : Value) (i j : Nat)
    (zs : List Value) (t' : Value) (ht' : NotCons t') (h : i < (x₀ :: xs).length) :
    (setCdrAt (.cons x₀ (append xs t)) i (append zs t')).bind (·.getIdx j)
      = ((x₀ :: xs).take (i + 1) ++ zs)[j]? := by
  rw [show Value.cons x₀ (append xs t) = append (x₀ :: xs) t from rfl, setCdrAt_merge _ t i zs t' h]
  exact index_append _ t' ht' (List.cons_ne_nil _ _) j

theorem after_setCdr_value_to_vec (xs : List Value) (t : Value) (i : Nat)
    (zs : List Value) (t' : Value) (ht' : NotCons t') (h : i < xs.length) :
    (setCdrAt (append xs t) i (append zs t')).bind Value.toVec
      = if t'.isNull then some (xs.take (i + 1) ++ zs) else none := by
  rw [setCdrAt_merge xs t i zs t' h]
  exact C15_value_to_vec _ t' ht'

/-- the element iterator after `set_cdr` at cell `i`. -/
theorem after_setCdr_list_iter (x₀ : Value) (xs : List Value) (t : Value) (i : Nat)
    (zs : List Value) (t' : Value) (ht' : NotCons t') (h : i < (x₀ :: xs).length) (k : Nat) :
    ∃ a d, setCdrAt (.cons x₀ (append xs t)) i (append zs t') = some (.cons a d) ∧
      (ListCursor.cons a d).take (((x₀ :: xs).take (i + 1) ++ zs).length + 3 + k) =
        ((x₀ :: xs).take (i + 1) ++ zs).map some ++
          (if t'.isNull then List.replicate (3 + k) none
           else [none, some t'] ++ List.replicate (1 + k) none) := by
  obtain ⟨a, d, e, hv⟩ :=
    listIter_append ((x₀ :: xs).take (i + 1) ++ zs) t' ht' (List.cons_ne_nil _ _) k
  exact ⟨a, d, (setCdrAt_merge (x₀ :: xs) t i zs t' h).trans (congrArg some e), hv⟩

/-- every stored value has such a decomposition, so the `set_cdr` theorems cover every argument -/
theorem setCdr_arg_decompose (x : Value) : ∃ zs t', NotCons t' ∧ x = append zs t' := C15_decompose x

/-- `into_pair` returns the two fields; what is left to drop is `(Nil . Nil)`. -/
theorem intoPair_eq (a d : Value) : intoPair a d = ((a, d), (.nil, .nil)) := rfl
theorem take_eq (a d : Value) : take a d = ((a, d), (.nil, .nil)) := rfl
theorem new_cellAt (a d : Value) : cellAt (new a d) 0 = some (a, d) := rfl
/-- `Cons::new(car, cdr)` then `into_pair` gives back both -/
theorem new_intoPair (a d : Value) :
    (match new a d with | .cons x y => some (intoPair x y).1 | _ => none) = some (a, d) := rfl

/-- `peek` returns what `next` will return; `peek` itself has no effect on the iterator -/
theorem iter_peek_next (c : CellCursor) : (Iter.next c).1 = c.peek := by
  cases c with
  | none => rfl
  | some p => obtain ⟨car, cdr⟩ := p; cases cdr <;> rfl

theorem intoIter_next (c : CellCursor) :
    IntoIter.next c = ((Iter.next c).1.map item, (Iter.next c).2) := by
  cases c with
  | none => rfl
  | some p => obtain ⟨car, cdr⟩ := p; cases cdr <;> rfl

/-- the consuming iterator yields the current cell's car, and its cdr exactly when that is the last cell -/
theorem intoIter_peek_next (c : CellCursor) :
    (IntoIter.next c).1 = c.peek.map fun p => (p.1, if p.2.isCons then none else some p.2) := by
  rw [intoIter_next, iter_peek_next]; rfl

theorem intoIter_iter_cursor (c : CellCursor) : (IntoIter.next c).2 = (Iter.next c).2 := by
  rw [intoIter_next]

theorem iter_take_none (n : Nat) : Iter.take n none = List.replicate n none := by
  induction n with
  | zero => rfl
  | succ n ih => rw [Iter.take, Iter.next, ih]; rfl

/-- the state machine `Iter` yields the cells of `consIter`, then `None` forever. -/
theorem iter_take : ∀ (d a : Value) (k : Nat),
    Iter.take ((consIter a d).length + k) (CellCursor.start a d)
      = (consIter a d).map some ++ List.replicate k none := by
  intro d
  induction d using cdr_induct with
  | stop t ht =>
    intro a k
    rw [consIter.eq_2 a t ht.ne, List.length_singleton, Nat.add_comm, CellCursor.start, Iter.take,
      Iter.next.eq_2 a t ht.ne, iter_take_none]; rfl
  | step x y ih =>
    intro a k
    rw [consIter, List.length_cons, Nat.add_right_comm, CellCursor.start, Iter.take, Iter.next]
    exact congrArg _ (ih x k)

theorem intoIter_take_map (n : Nat) (c : CellCursor) :
    IntoIter.take n c = (Iter.take n c).map (Option.map item) := by
  induction n generalizing c with
  | zero => rfl
  | succ n ih => rw [IntoIter.take, Iter.take, intoIter_next, ih]; rfl

/-- the state machine `IntoIter` yields the items of `consIntoIter`, then `None`. -/
theorem intoIter_take : ∀ (d a : Value) (k : Nat),
    IntoIter.take ((consIntoIter a d).length + k) (CellCursor.start a d)
      = (consIntoIter a d).map some ++ List.replicate k none := by
  intro d a k
  rw [intoIter_take_map, consIntoIter_map, List.length_map, iter_take]
  simp [Function.comp_def]

/-- against the reference: the consuming iterator on `(x :: xs, t)` -/
theorem intoIter_take_ref (x : Value) (xs : List Value) (t : Value) (ht : NotCons t) (k : Nat) :
    IntoIter.take ((x :: xs).length + k) (CellCursor.start x (append xs t)) =
      (((x :: xs).dropLast.map fun e => some (e, none)) ++
        [some ((x :: xs).getLast (by simp), some t)]) ++ List.replicate k none := by
  have hl : (consIntoIter x (append xs t)).length = (x :: xs).length := by
    rw [C15_into_iter x xs t ht]; simp
  have := intoIter_take (append xs t) x k
  rw [hl, C15_into_iter x xs t ht] at this
  rw [this]; simp [Function.comp_def]

/-- `peek_mut().set_cdr(x)`: the rest of the iteration is that of the cell `(car . x)`;
    `peek_mut().set_car(x)`: the current item becomes `x` -/
theorem peekSetCdr_eq (car cdr x : Value) :
    IntoIter.peekSetCdr (some (car, cdr)) x = (true, CellCursor.start car x) := rfl
theorem peekSetCar_eq (car cdr x : Value) :
    IntoIter.peekSetCar (some (car, cdr)) x = (true, CellCursor.start x cdr) := rfl
theorem peekSet_none (x : Value) :
    IntoIter.peekSetCdr none x = (false, none) ∧ IntoIter.peekSetCar none x = (false, none) := ⟨rfl, rfl⟩

/-- `peek` returns what `next` will return (for all four cursor states). -/
theorem listIter_peek_next (c : ListCursor) : c.next.1 = c.peek := by
  cases c with
  | cons car cdr => cases cdr <;> rfl
  | dot v => rfl
  | rest v => rfl
  | exhausted => rfl

/-- `is_empty` is true exactly when every later `next` returns `None`;
    two calls are enough to tell. -/
theorem listIter_isEmpty_iff (c : ListCursor) :
    c.isEmpty = true ↔ ∀ n, c.take n = List.replicate n none := by
  constructor
  · intro h
    cases c with
    | exhausted => exact ListCursor.take_exhausted
    | _ => cases h
  · intro h
    have h2 := h 2
    cases c with
    | cons car cdr => cases cdr <;> simp [ListCursor.take, ListCursor.next, List.replicate_succ] at h2
    | dot v => simp [ListCursor.take, ListCursor.next, List.replicate_succ] at h2
    | rest v => simp [ListCursor.take, ListCursor.next, List.replicate_succ] at h2
    | exhausted => rfl

/-- a `None` from `next` does not mean the iterator is empty: at the dot of an improper list
    `next` returns `None` and `is_empty` is false (as documented) -/
theorem listIter_dot (v : Value) :
    (ListCursor.dot v).next.1 = none ∧ (ListCursor.dot v).isEmpty = false := ⟨rfl, rfl⟩

theorem _root_.Lexpr.Value.ListCursor.after_exhausted (k : Nat) :
    ListCursor.after k .exhausted = .exhausted := by
  induction k with
  | zero => rfl
  | succ k ih => exact ih

theorem _root_.Lexpr.Value.ListCursor.after_rest (v : Value) (k : Nat) :
    (ListCursor.after k (.rest v)).isEmpty = decide (1 ≤ k) := by
  cases k with
  | zero => rfl
  | succ k =>
    simp [ListCursor.after, ListCursor.next, ListCursor.after_exhausted, ListCursor.isEmpty]

theorem _root_.Lexpr.Value.ListCursor.after_dot (v : Value) (k : Nat) :
    (ListCursor.after k (.dot v)).isEmpty = decide (2 ≤ k) := by
  cases k with
  | zero => rfl
  | succ k =>
    simp only [ListCursor.after, ListCursor.next, ListCursor.after_rest]
    simp only [decide_eq_decide]; omega

/-- on the list `(x :: xs, t)`, `is_empty` becomes true after `|x :: xs|`
    calls of `next` for a proper list, and after two more (the `None` at the dot and the tail) for an
    improper one — never earlier, and it stays true. -/
theorem listIter_isEmpty_ref (x : Value) (xs : List Value) (t : Value) (ht : NotCons t) (k : Nat) :
    (ListCursor.after k (.cons x (append xs t))).isEmpty =
      if t.isNull then decide ((x :: xs).length ≤ k) else decide ((x :: xs).length + 2 ≤ k) := by
  cases k with
  | zero => split <;> rfl
  | succ k =>
    induction xs generalizing x k with
    | nil =>
      rw [append, ListCursor.after, ListCursor.next_stop ht]
      split
      · rw [ListCursor.after_exhausted]; rfl
      · rw [ListCursor.after_dot, decide_eq_decide, List.length_singleton]; omega
    | cons y ys ih =>
      cases k with
      | zero =>
        rw [List.length_cons, List.length_cons]
        split <;> rfl
      | succ k =>
        rw [append, ListCursor.after, ListCursor.next, ih y k, List.length_cons (as := y :: ys)]
        split <;> rw [decide_eq_decide] <;> omega

/-- set_car at an existing cell, then `to_vec`: the reference with element `i` replaced -/
theorem script_setCar_toVec (x₀ : Value) (xs : List Value) (t : Value) (ht : NotCons t) (i : Nat)
    (x : Value) (h : i < (x₀ :: xs).length) :
    run { root := .cons x₀ (append xs t) } [.setCar i x, .toVec]
      = [.done, .vecTail ((x₀ :: xs).set i x) t] := by
  obtain ⟨a, d, hs, hv⟩ := after_setCar_to_vec x₀ xs t ht i x h
  simp [run, step, storeObs, hs, toVec_impl_eq, hv]

/-- `*car_mut() = x` behaves as `set_car(x)` -/
theorem script_carMut (s : MState) (i : Nat) (x : Value) : step s (.carMut i x) = step s (.setCar i x) := rfl
theorem script_cdrMut (s : MState) (i : Nat) (x : Value) : step s (.cdrMut i x) = step s (.setCdr i x) := rfl

/-- set_cdr at an existing cell, then `to_vec`: prefix, stored elements, stored tail -/
theorem script_setCdr_toVec (x₀ : Value) (xs : List Value) (t : Value) (i : Nat)
    (zs : List Value) (t' : Value) (ht' : NotCons t') (h : i < (x₀ :: xs).length) :
    run { root := .cons x₀ (append xs t) } [.setCdr i (append zs t'), .toVec]
      = [.done, .vecTail ((x₀ :: xs).take (i + 1) ++ zs) t'] := by
  obtain ⟨a, d, hs, hv⟩ := after_setCdr_to_vec x₀ xs t i zs t' ht' h
  simp [run, step, storeObs, hs, toVec_impl_eq, hv]

/-- a store beyond the last cell is reported and changes nothing -/
theorem script_oob (xs : List Value) (t : Value) (ht : NotCons t) (i : Nat) (x : Value)
    (h : xs.length ≤ i) :
    run { root := append xs t } [.setCar i x, .setCdr i x, .show] = [.oob, .oob, .val (append xs t)] := by
  simp [run, step, storeObs, setCarAt_oob xs t ht i x h, setCdrAt_oob xs t ht i x h]

/-- `into_pair` on a script: both fields, the script continues on the cdr -/
theorem script_intoPair (a d : Value) :
    run { root := .cons a d } [.intoPair, .show] = [.optPair (some (a, d)), .val d] := rfl

/-- `peek` between `next` calls does not advance any of the three iterators -/
theorem script_peek_idem (s : MState) : (step s .peek).1 = s := by
  obtain ⟨root, cur⟩ := s
  cases cur <;> rfl

/-- `clone` on a script returns the list itself -/
theorem script_clone (v : Value) : run { root := v } [.clone, .show] = [.val v, .val v] := by
  simp [run, step, clone_eq]

/-- `Value::append(xs, root)` on a script -/
theorem script_append (v : Value) (xs : List Value) :
    run { root := v } [.appendTo xs, .show] = [.done, .val (append xs v)] := by
  simp [run, step, appendImpl_eq]

/-! ### non-vacuity -/

example : NotCons (.symbol [122]) ∧ 1 < ([Value.null, .bool true, .nil] : List Value).length ∧
    setCarAt (append [.null, .bool true, .nil] (.symbol [122])) 1 (.char 65)
      = some (append [.null, .char 65, .nil] (.symbol [122])) :=
  ⟨rfl, by decide, setCarAt_ref _ _ _ _ (by decide)⟩

example : setCdrAt (append [.null, .bool true, .nil] .null) 0 (append [.char 65] (.symbol [122]))
      = some (append [.null, .char 65] (.symbol [122])) :=
  setCdrAt_merge _ _ _ _ _ (by decide)

end ConsOps
end Lexpr
