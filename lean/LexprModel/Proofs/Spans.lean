/-
  C11 — source spans of datums.

  What it means for a span tree to be well nested (`Inside`; `InsideV` follows the value alongside),
  the proof that every datum returned by `nextDatum` is, with the bounds of its own span
  (`spans_all`: a walk over `nextDatum` / `parseListMeta` / `parseVectorMeta` under the ghost
  invariant `Track` of SpansPos.lean), and the theorems of the property.
-/
import LexprModel.Proofs.SpansTwin
import LexprModel.Proofs.Progress
import LexprModel.Proofs.StepOp
import LexprModel.Proofs.TokClass
import LexprModel.Proofs.TokenRT
namespace Lexpr
namespace Parse
namespace Spans
open Progress

mutual
/-- `Inside outer info`: the element spans of `info` — the car infos along a list, the info of a
    dotted tail, the entries of a vector; not the spans of inner cons cells — are non-empty, lie
    within `outer`, follow each other without overlap, and each element is well nested in its own
    span. -/
def Inside (outer : Span) : SpanInfo → Prop
  | .prim _ => True
  | .cons _ car cdr =>
    (outer.start ≤ car.span.start ∧ car.span.start < car.span.stop ∧ car.span.stop ≤ outer.stop ∧
      Inside car.span car) ∧ Tail outer car.span.stop cdr
  | .vec _ xs => Elems outer outer.start xs
/-- the rest of a list after an element that stopped at `lo`: another cell (its car is the next
    element), or the final cdr: the `Span.empty` placeholder of a proper list (a degenerate or
    real span between `lo` and the end of `outer` is also accepted: `'x` and `(a . ())` put one
    there), or a dotted vector -/
def Tail (outer : Span) (lo : Pos) : SpanInfo → Prop
  | .prim sp => sp = Span.empty ∨ (lo ≤ sp.start ∧ sp.start ≤ sp.stop ∧ sp.stop ≤ outer.stop)
  | .cons _ car cdr =>
    (lo ≤ car.span.start ∧ car.span.start < car.span.stop ∧ car.span.stop ≤ outer.stop ∧
      Inside car.span car) ∧ Tail outer car.span.stop cdr
  | .vec sp xs => lo ≤ sp.start ∧ sp.start < sp.stop ∧ sp.stop ≤ outer.stop ∧ Elems sp sp.start xs
/-- the entries of a vector, from `lo` on -/
def Elems (outer : Span) (lo : Pos) : List SpanInfo → Prop
  | [] => True
  | x :: xs =>
    (lo ≤ x.span.start ∧ x.span.start < x.span.stop ∧ x.span.stop ≤ outer.stop ∧
      Inside x.span x) ∧ Elems outer x.span.stop xs
end

def Elem (outer : Span) (lo : Pos) (x : SpanInfo) : Prop :=
  lo ≤ x.span.start ∧ x.span.start < x.span.stop ∧ x.span.stop ≤ outer.stop ∧ Inside x.span x

theorem inside_prim (o sp : Span) : Inside o (.prim sp) := by simp [Inside]
theorem inside_cons (o sp : Span) (car cdr : SpanInfo) :
    Inside o (.cons sp car cdr) ↔ Elem o o.start car ∧ Tail o car.span.stop cdr := by
  simp [Inside, Elem]
theorem inside_vec (o sp : Span) (xs : List SpanInfo) :
    Inside o (.vec sp xs) ↔ Elems o o.start xs := by simp [Inside]
theorem tail_prim (o : Span) (lo : Pos) (sp : Span) :
    Tail o lo (.prim sp) ↔ sp = Span.empty ∨ (lo ≤ sp.start ∧ sp.start ≤ sp.stop ∧ sp.stop ≤ o.stop) := by
  simp [Tail]
theorem tail_cons (o : Span) (lo : Pos) (sp : Span) (car cdr : SpanInfo) :
    Tail o lo (.cons sp car cdr) ↔ Elem o lo car ∧ Tail o car.span.stop cdr := by
  simp [Tail, Elem]
theorem tail_vec (o : Span) (lo : Pos) (sp : Span) (xs : List SpanInfo) :
    Tail o lo (.vec sp xs) ↔
      lo ≤ sp.start ∧ sp.start < sp.stop ∧ sp.stop ≤ o.stop ∧ Elems sp sp.start xs := by
  simp [Tail]
theorem elems_nil (o : Span) (lo : Pos) : Elems o lo [] := by simp [Elems]
theorem elems_cons (o : Span) (lo : Pos) (x : SpanInfo) (xs : List SpanInfo) :
    Elems o lo (x :: xs) ↔ Elem o lo x ∧ Elems o x.span.stop xs := by
  simp [Elems, Elem]

theorem Elem.mono {o o' : Span} {lo lo' : Pos} {x : SpanInfo} (h : Elem o lo x)
    (hs : o.stop ≤ o'.stop) (hl : lo' ≤ lo) : Elem o' lo' x :=
  ⟨Pos.le_trans hl h.1, h.2.1, Pos.le_trans h.2.2.1 hs, h.2.2.2⟩

theorem Elem.start_le_stop {o : Span} {lo : Pos} {x : SpanInfo} (h : Elem o lo x) :
    lo ≤ x.span.stop := Pos.le_trans h.1 (Pos.le_of_lt h.2.1)

theorem Tail.mono {o o' : Span} (hs : o.stop ≤ o'.stop) :
    ∀ {lo lo' : Pos} (t : SpanInfo), Tail o lo t → lo' ≤ lo → Tail o' lo' t
  | lo, lo', .prim sp, h, hl => by
    rw [tail_prim] at *
    rcases h with h | ⟨h1, h2, h3⟩
    · exact Or.inl h
    · exact Or.inr ⟨Pos.le_trans hl h1, h2, Pos.le_trans h3 hs⟩
  | lo, lo', .cons sp car cdr, h, hl => by
    rw [tail_cons] at *
    exact ⟨h.1.mono hs hl, Tail.mono hs cdr h.2 (Pos.le_refl _)⟩
  | lo, lo', .vec sp xs, h, hl => by
    rw [tail_vec] at *
    exact ⟨Pos.le_trans hl h.1, h.2.1, Pos.le_trans h.2.2.1 hs, h.2.2.2⟩

theorem Elems.mono {o o' : Span} (hs : o.stop ≤ o'.stop) :
    ∀ {lo lo' : Pos} (xs : List SpanInfo), Elems o lo xs → lo' ≤ lo → Elems o' lo' xs
  | _, _, [], _, _ => elems_nil _ _
  | lo, lo', x :: xs, h, hl => by
    rw [elems_cons] at *
    exact ⟨h.1.mono hs hl, Elems.mono hs xs h.2 (Pos.le_refl _)⟩

/-- a whole datum with info `t`, standing after `lo` and ending within `o`, is a legal dotted tail -/
theorem Tail.of_datum {o : Span} {lo : Pos} (t : SpanInfo) (h1 : lo ≤ t.span.start)
    (h2 : t.span.start < t.span.stop) (h3 : t.span.stop ≤ o.stop) (hi : Inside t.span t) :
    Tail o lo t := by
  cases t with
  | prim sp => rw [tail_prim]; exact Or.inr ⟨h1, Pos.le_of_lt h2, h3⟩
  | cons sp car cdr =>
    rw [inside_cons] at hi
    rw [tail_cons]
    exact ⟨hi.1.mono h3 h1, Tail.mono h3 cdr hi.2 (Pos.le_refl _)⟩
  | vec sp xs =>
    rw [inside_vec] at hi
    rw [tail_vec]
    exact ⟨h1, h2, h3, hi⟩

/-! ### well-nested datums: the same, following the value alongside the span tree

`Datum.listIter` decides by the *value* whether the final cdr of a list is the end of a proper
list (`Null`: nothing more is yielded) or a dotted tail (yielded as the last element), so the
exact statement about what the iterators yield needs the value: a final cdr that is not `Null`
carries a real, non-empty span.  The predicates also take a property `R` of spans that every
element span has to satisfy (`Real input` below: "is `⟨posOf p, posOf q⟩` for prefixes `p ≤ q` of
the input"; or `fun _ => True`). -/

variable {R : Span → Prop}

mutual
/-- `InsideV R outer v info`: `Inside outer info`, where moreover the value `v` has the shape of
    `info` along the way and a final cdr other than `Null` is an element with a non-empty span -/
def InsideV (R : Span → Prop) (outer : Span) : Value → SpanInfo → Prop
  | _, .prim _ => True
  | v, .cons _ car cdr =>
    match v with
    | .cons a b =>
      (outer.start ≤ car.span.start ∧ car.span.start < car.span.stop ∧
        car.span.stop ≤ outer.stop ∧ R car.span ∧ InsideV R car.span a car) ∧
      TailV R outer car.span.stop b cdr
    | _ => False
  | v, .vec _ xs =>
    match v with
    | .vector vs => ElemsV R outer outer.start vs xs
    | _ => False
/-- the rest of a list (value `v`, info given) after an element that stopped at `lo` -/
def TailV (R : Span → Prop) (outer : Span) (lo : Pos) : Value → SpanInfo → Prop
  | v, .prim sp =>
    (v = .null ∧
      (sp = Span.empty ∨ (lo ≤ sp.start ∧ sp.start ≤ sp.stop ∧ sp.stop ≤ outer.stop))) ∨
    (lo ≤ sp.start ∧ sp.start < sp.stop ∧ sp.stop ≤ outer.stop ∧ R sp)
  | v, .cons _ car cdr =>
    match v with
    | .cons a b =>
      (lo ≤ car.span.start ∧ car.span.start < car.span.stop ∧
        car.span.stop ≤ outer.stop ∧ R car.span ∧ InsideV R car.span a car) ∧
      TailV R outer car.span.stop b cdr
    | _ => False
  | v, .vec sp xs =>
    lo ≤ sp.start ∧ sp.start < sp.stop ∧ sp.stop ≤ outer.stop ∧ R sp ∧
      match v with
      | .vector vs => ElemsV R sp sp.start vs xs
      | _ => False
/-- the entries of a vector (values and infos), from `lo` on -/
def ElemsV (R : Span → Prop) (outer : Span) (lo : Pos) : List Value → List SpanInfo → Prop
  | vs, [] => vs = []
  | vs, x :: xs =>
    match vs with
    | v :: vs' =>
      (lo ≤ x.span.start ∧ x.span.start < x.span.stop ∧ x.span.stop ≤ outer.stop ∧
        R x.span ∧ InsideV R x.span v x) ∧ ElemsV R outer x.span.stop vs' xs
    | [] => False
end

def ElemV (R : Span → Prop) (outer : Span) (lo : Pos) (v : Value) (x : SpanInfo) : Prop :=
  lo ≤ x.span.start ∧ x.span.start < x.span.stop ∧ x.span.stop ≤ outer.stop ∧ R x.span ∧
    InsideV R x.span v x

def CellV (R : Span → Prop) (outer : Span) (lo : Pos) (v : Value) (car cdr : SpanInfo) : Prop :=
  match v with
  | .cons a b => ElemV R outer lo a car ∧ TailV R outer car.span.stop b cdr
  | _ => False

theorem insideV_prim (o sp : Span) (v : Value) : InsideV R o v (.prim sp) := by simp [InsideV]
theorem insideV_cons (o sp : Span) (v : Value) (car cdr : SpanInfo) :
    InsideV R o v (.cons sp car cdr) ↔ CellV R o o.start v car cdr := by
  cases v <;> simp [InsideV, CellV, ElemV]
theorem insideV_vec (o sp : Span) (v : Value) (xs : List SpanInfo) :
    InsideV R o v (.vec sp xs) ↔ ∃ vs, v = .vector vs ∧ ElemsV R o o.start vs xs := by
  cases v <;> simp [InsideV]
theorem tailV_prim (o : Span) (lo : Pos) (v : Value) (sp : Span) :
    TailV R o lo v (.prim sp) ↔
      (v = .null ∧ (sp = Span.empty ∨ (lo ≤ sp.start ∧ sp.start ≤ sp.stop ∧ sp.stop ≤ o.stop))) ∨
      (lo ≤ sp.start ∧ sp.start < sp.stop ∧ sp.stop ≤ o.stop ∧ R sp) := by
  simp [TailV]
theorem tailV_cons (o : Span) (lo : Pos) (v : Value) (sp : Span) (car cdr : SpanInfo) :
    TailV R o lo v (.cons sp car cdr) ↔ CellV R o lo v car cdr := by
  cases v <;> simp [TailV, CellV, ElemV]
theorem tailV_vec (o : Span) (lo : Pos) (v : Value) (sp : Span) (xs : List SpanInfo) :
    TailV R o lo v (.vec sp xs) ↔ lo ≤ sp.start ∧ sp.start < sp.stop ∧ sp.stop ≤ o.stop ∧ R sp ∧
      ∃ vs, v = .vector vs ∧ ElemsV R sp sp.start vs xs := by
  cases v <;> simp [TailV]
theorem elemsV_nil (o : Span) (lo : Pos) (vs : List Value) : ElemsV R o lo vs [] ↔ vs = [] := by
  simp [ElemsV]
theorem elemsV_cons (o : Span) (lo : Pos) (vs : List Value) (x : SpanInfo) (xs : List SpanInfo) :
    ElemsV R o lo vs (x :: xs) ↔
      ∃ v vs', vs = v :: vs' ∧ ElemV R o lo v x ∧ ElemsV R o x.span.stop vs' xs := by
  cases vs with
  | nil => simp [ElemsV]
  | cons v vs' =>
    simp only [ElemsV, ElemV]
    constructor
    · intro h; exact ⟨v, vs', rfl, h⟩
    · rintro ⟨_, _, h, h'⟩; cases h; exact h'
theorem cellV_cons (o : Span) (lo : Pos) (a b : Value) (car cdr : SpanInfo) :
    CellV R o lo (.cons a b) car cdr ↔ ElemV R o lo a car ∧ TailV R o car.span.stop b cdr := Iff.rfl

theorem ElemV.mono {o o' : Span} {lo lo' : Pos} {v : Value} {x : SpanInfo} (h : ElemV R o lo v x)
    (hs : o.stop ≤ o'.stop) (hl : lo' ≤ lo) : ElemV R o' lo' v x :=
  ⟨Pos.le_trans hl h.1, h.2.1, Pos.le_trans h.2.2.1 hs, h.2.2.2⟩

theorem TailV.mono {o o' : Span} (hs : o.stop ≤ o'.stop) :
    ∀ {lo lo' : Pos} (v : Value) (t : SpanInfo), TailV R o lo v t → lo' ≤ lo → TailV R o' lo' v t
  | lo, lo', v, .prim sp, h, hl => by
    rw [tailV_prim] at *
    rcases h with ⟨hv, h | ⟨h1, h2, h3⟩⟩ | ⟨h1, h2, h3, h4⟩
    · exact Or.inl ⟨hv, Or.inl h⟩
    · exact Or.inl ⟨hv, Or.inr ⟨Pos.le_trans hl h1, h2, Pos.le_trans h3 hs⟩⟩
    · exact Or.inr ⟨Pos.le_trans hl h1, h2, Pos.le_trans h3 hs, h4⟩
  | lo, lo', v, .cons sp car cdr, h, hl => by
    rw [tailV_cons] at *
    cases v with
    | cons a b =>
      rw [cellV_cons] at *
      exact ⟨h.1.mono hs hl, TailV.mono hs b cdr h.2 (Pos.le_refl _)⟩
    | _ => exact h.elim
  | lo, lo', v, .vec sp xs, h, hl => by
    rw [tailV_vec] at *
    exact ⟨Pos.le_trans hl h.1, h.2.1, Pos.le_trans h.2.2.1 hs, h.2.2.2⟩

theorem CellV.mono {o o' : Span} {lo lo' : Pos} {v : Value} {c d : SpanInfo}
    (h : CellV R o lo v c d) (hs : o.stop ≤ o'.stop) (hl : lo' ≤ lo) : CellV R o' lo' v c d := by
  cases v with
  | cons a b =>
    rw [cellV_cons] at *
    exact ⟨h.1.mono hs hl, TailV.mono hs b d h.2 (Pos.le_refl _)⟩
  | _ => exact h.elim

theorem TailV.of_datum {o : Span} {lo : Pos} (v : Value) (t : SpanInfo) (h1 : lo ≤ t.span.start)
    (h2 : t.span.start < t.span.stop) (h3 : t.span.stop ≤ o.stop) (hR : R t.span)
    (hi : InsideV R t.span v t) : TailV R o lo v t := by
  cases t with
  | prim sp => rw [tailV_prim]; exact Or.inr ⟨h1, h2, h3, hR⟩
  | cons sp car cdr =>
    rw [insideV_cons] at hi
    rw [tailV_cons]
    exact hi.mono h3 h1
  | vec sp xs =>
    rw [insideV_vec] at hi
    rw [tailV_vec]
    exact ⟨h1, h2, h3, hR, hi⟩

/-- forgetting the values -/
theorem ElemV.forget_aux {o : Span} {lo : Pos} {v : Value} {x : SpanInfo}
    (ih : InsideV R x.span v x → Inside x.span x) (h : ElemV R o lo v x) : Elem o lo x :=
  ⟨h.1, h.2.1, h.2.2.1, ih h.2.2.2.2⟩

mutual
theorem InsideV.forget {o : Span} : ∀ (v : Value) (t : SpanInfo), InsideV R o v t → Inside o t
  | _, .prim _, _ => inside_prim _ _
  | v, .cons sp car cdr, h => by
    rw [insideV_cons] at h
    rw [inside_cons]
    cases v with
    | cons a b =>
      rw [cellV_cons] at h
      exact ⟨ElemV.forget_aux (InsideV.forget a car) h.1, TailV.forget b cdr h.2⟩
    | _ => exact h.elim
  | v, .vec sp xs, h => by
    rw [insideV_vec] at h
    obtain ⟨vs, _, h⟩ := h
    rw [inside_vec]
    exact ElemsV.forget vs xs h
theorem TailV.forget {o : Span} {lo : Pos} :
    ∀ (v : Value) (t : SpanInfo), TailV R o lo v t → Tail o lo t
  | v, .prim sp, h => by
    rw [tailV_prim] at h
    rw [tail_prim]
    rcases h with ⟨_, h⟩ | ⟨h1, h2, h3, _⟩
    · exact h
    · exact Or.inr ⟨h1, Pos.le_of_lt h2, h3⟩
  | v, .cons sp car cdr, h => by
    rw [tailV_cons] at h
    rw [tail_cons]
    cases v with
    | cons a b =>
      rw [cellV_cons] at h
      exact ⟨ElemV.forget_aux (InsideV.forget a car) h.1, TailV.forget b cdr h.2⟩
    | _ => exact h.elim
  | v, .vec sp xs, h => by
    rw [tailV_vec] at h
    obtain ⟨h1, h2, h3, _, vs, _, h⟩ := h
    rw [tail_vec]
    exact ⟨h1, h2, h3, ElemsV.forget vs xs h⟩
theorem ElemsV.forget {o : Span} {lo : Pos} :
    ∀ (vs : List Value) (xs : List SpanInfo), ElemsV R o lo vs xs → Elems o lo xs
  | _, [], _ => elems_nil _ _
  | vs, x :: xs, h => by
    rw [elemsV_cons] at h
    obtain ⟨v, vs', _, h1, h2⟩ := h
    rw [elems_cons]
    exact ⟨ElemV.forget_aux (InsideV.forget v x) h1, ElemsV.forget vs' xs h2⟩
end

/-- `SeqV R lo acc ms cur`: the values and infos collected so far are elements in order, the first
    after `lo`, the last ending at or before `cur` -/
def SeqV (R : Span → Prop) (lo : Pos) : List Value → List SpanInfo → Pos → Prop
  | [], [], cur => lo ≤ cur
  | a :: acc, m :: ms, cur =>
    lo ≤ m.span.start ∧ m.span.start < m.span.stop ∧ (R m.span ∧ InsideV R m.span a m) ∧
      SeqV R m.span.stop acc ms cur
  | _, _, _ => False

theorem SeqV.le {lo : Pos} {acc : List Value} {ms : List SpanInfo} {cur : Pos}
    (h : SeqV R lo acc ms cur) : lo ≤ cur := by
  induction acc generalizing lo ms with
  | nil => cases ms <;> simp only [SeqV] at h; exact h
  | cons a acc ih =>
    cases ms with
    | nil => simp only [SeqV] at h
    | cons m ms =>
      simp only [SeqV] at h
      exact Pos.le_trans h.1 (Pos.le_trans (Pos.le_of_lt h.2.1) (ih h.2.2.2))

theorem SeqV.nil_iff {lo : Pos} {acc : List Value} {ms : List SpanInfo} {cur : Pos}
    (h : SeqV R lo acc ms cur) : acc = [] ↔ ms = [] := by
  cases acc <;> cases ms <;> simp_all [SeqV]

theorem SeqV.weaken {lo : Pos} {acc : List Value} {ms : List SpanInfo} {cur cur' : Pos}
    (h : SeqV R lo acc ms cur) (hc : cur ≤ cur') : SeqV R lo acc ms cur' := by
  induction acc generalizing lo ms with
  | nil => cases ms <;> simp only [SeqV] at h ⊢; exact Pos.le_trans h hc
  | cons a acc ih =>
    cases ms with
    | nil => simp only [SeqV] at h
    | cons m ms =>
      simp only [SeqV] at h ⊢
      exact ⟨h.1, h.2.1, h.2.2.1, ih h.2.2.2⟩

theorem SeqV.snoc {lo : Pos} {acc : List Value} {ms : List SpanInfo} {cur : Pos} {a : Value}
    {m : SpanInfo} (h : SeqV R lo acc ms cur) (h1 : cur ≤ m.span.start)
    (h2 : m.span.start < m.span.stop) (hi : R m.span ∧ InsideV R m.span a m) :
    SeqV R lo (acc ++ [a]) (ms ++ [m]) m.span.stop := by
  induction acc generalizing lo ms with
  | nil =>
    cases ms <;> simp only [SeqV] at h
    simp only [List.nil_append, SeqV]
    exact ⟨Pos.le_trans h h1, h2, hi, Pos.le_refl _⟩
  | cons x xs ih =>
    cases ms with
    | nil => simp only [SeqV] at h
    | cons y ys =>
      simp only [SeqV] at h
      simp only [List.cons_append, SeqV]
      exact ⟨h.1, h.2.1, h.2.2.1, ih h.2.2.2⟩

theorem SeqV.elems {lo lo' : Pos} {acc : List Value} {ms : List SpanInfo} {cur : Pos} {o : Span}
    (h : SeqV R lo acc ms cur) (hl : lo' ≤ lo) (hc : cur ≤ o.stop) : ElemsV R o lo' acc ms := by
  induction acc generalizing lo lo' ms with
  | nil => cases ms <;> simp only [SeqV] at h; exact (elemsV_nil _ _ _).mpr rfl
  | cons a acc ih =>
    cases ms with
    | nil => simp only [SeqV] at h
    | cons m ms =>
      simp only [SeqV] at h
      rw [elemsV_cons]
      exact ⟨a, acc, rfl, ⟨Pos.le_trans hl h.1, h.2.1, Pos.le_trans h.2.2.2.le hc, h.2.2.1⟩,
        ih h.2.2.2 (Pos.le_refl _)⟩

/-- the elements collected, followed by the final cdr `tv`/`t` after `cur`: `buildMeta` lays them
    out as the car and cdr infos of the first cell of `Value.append acc tv` -/
theorem SeqV.cell {lo : Pos} {acc : List Value} {ms : List SpanInfo} {cur : Pos} {o : Span}
    {tv : Value} {t : SpanInfo} (h : SeqV R lo acc ms cur) (hne : acc ≠ []) (hc : cur ≤ o.stop)
    (ht : TailV R o cur tv t) :
    CellV R o lo (Value.append acc tv) (buildMeta ms t).1 (buildMeta ms t).2 := by
  induction acc generalizing lo ms with
  | nil => exact absurd rfl hne
  | cons a acc ih =>
    cases ms with
    | nil => simp only [SeqV] at h
    | cons m ms =>
      simp only [SeqV] at h
      have he : ElemV R o lo a m := ⟨h.1, h.2.1, Pos.le_trans h.2.2.2.le hc, h.2.2.1⟩
      cases acc with
      | nil =>
        cases ms with
        | nil =>
          have hl : m.span.stop ≤ cur := by simpa only [SeqV] using h.2.2.2
          exact ⟨he, TailV.mono (Pos.le_refl _) tv t ht hl⟩
        | cons _ _ => simp only [SeqV] at h; exact h.2.2.2.elim
      | cons b acc' =>
        cases ms with
        | nil => simp only [SeqV] at h; exact h.2.2.2.elim
        | cons m' ms' =>
          have := ih (lo := m.span.stop) (ms := m' :: ms') h.2.2.2 (by simp)
          simp only [buildMeta]
          show CellV R o lo (Value.cons a (Value.append (b :: acc') tv)) _ _
          rw [cellV_cons, tailV_cons]
          exact ⟨he, this⟩

/-- `s'` is `s` after consuming at least `k` bytes, position included.  Unlike `At0` of Run.lean
    (over `Adv`) it says nothing of the depth, so it holds across `enter` and `leave`; unlike
    `Progress.Ext` it knows the position. -/
structure Mv (k : Nat) (s s' : St) : Prop where
  reach : Reach s s'
  len : s'.rd.rest.length + k ≤ s.rd.rest.length

theorem Mv.refl (s : St) : Mv 0 s s := ⟨Reach.refl s, by omega⟩

theorem Mv.trans {a b : Nat} {s0 s1 s2 : St} (h1 : Mv a s0 s1) (h2 : Mv b s1 s2) :
    Mv (a + b) s0 s2 :=
  ⟨h1.reach.trans h2.reach, by have := h1.len; have := h2.len; omega⟩

theorem Mv.mono {a b : Nat} {s0 s1 : St} (h : Mv a s0 s1) (hb : b ≤ a) : Mv b s0 s1 :=
  ⟨h.reach, by have := h.len; omega⟩

theorem Mv.pos_le {k : Nat} {s s' : St} (h : Mv k s s') : s.rd.position ≤ s'.rd.position :=
  h.reach.pos_le

theorem Mv.pos_lt {k : Nat} {s s' : St} (h : Mv k s s') (hk : 1 ≤ k) :
    s.rd.position < s'.rd.position :=
  h.reach.pos_lt (by have := h.len; omega)

/-- a post-condition on the `ok` outcome alone: `Sat` with nothing asked of errors, panic, fuel -/
def Tri {α : Type} (m : P α) (s : St) (Q : α → St → Prop) : Prop :=
  Sat (m s) Q (fun _ _ => True) True

section tri
variable {α β : Type} {s : St}

theorem Tri.bind {m : P α} {f : α → P β} {Q1 : α → St → Prop} {Q : β → St → Prop}
    (hm : Tri m s Q1) (hf : ∀ a s', Q1 a s' → Tri (f a) s' Q) : Tri (m >>= f) s Q :=
  Sat.bind hm hf (fun _ _ _ => trivial) id

theorem Tri.pure {a : α} {Q : α → St → Prop} (h : Q a s) : Tri (Pure.pure a : P α) s Q := h

theorem Tri.conseq {m : P α} {Q Q' : α → St → Prop} (h : Tri m s Q)
    (hq : ∀ a s', Q a s' → Q' a s') : Tri m s Q' :=
  Sat.imp h hq (fun _ _ h => h) id

theorem Tri.ok {m : P α} {Q : α → St → Prop} {a : α} {s' : St} (h : Tri m s Q)
    (hm : m s = .ok a s') : Q a s' :=
  Res.Tri.ok (Sat.iff_tri.1 h) hm

/-- a `Tri` statement speaks about successful runs only -/
theorem Tri.of_ok {m : P α} {Q : α → St → Prop} (h : ∀ a s', m s = .ok a s' → Q a s') :
    Tri m s Q := by
  unfold Tri
  cases hm : m s with
  | ok a s' => exact h a s' hm
  | _ => trivial

theorem Tri.any {m : P α} : Tri m s (fun _ _ => True) := Tri.of_ok fun _ _ _ => trivial

theorem Tri.and {m : P α} {Q1 Q2 : α → St → Prop} (h1 : Tri m s Q1) (h2 : Tri m s Q2) :
    Tri m s (fun a s' => Q1 a s' ∧ Q2 a s') :=
  Tri.of_ok fun _ _ hm => ⟨h1.ok hm, h2.ok hm⟩

theorem Tri.of_neverOk {m : P α} {Q : α → St → Prop} (h : NeverOk m) : Tri m s Q :=
  Tri.of_ok fun a s' hm => absurd hm (h s a s')

theorem Tri.peekErr {c : Code} {Q : α → St → Prop} : Tri (peekErr c : P α) s Q := trivial
theorem Tri.panicAt {p : Site} {Q : α → St → Prop} : Tri (panicAt p : P α) s Q := trivial
theorem Tri.outOfFuel {Q : α → St → Prop} : Tri (outOfFuel : P α) s Q := trivial

theorem Tri.bind_getPos {f : Pos → P β} {Q : β → St → Prop} (h : Tri (f s.rd.position) s Q) :
    Tri (getPos >>= f) s Q := h

theorem Tri.bind_tokenFuel {f : Nat → P β} {Q : β → St → Prop}
    (h : Tri (f (s.rd.rest.length + 1)) s Q) : Tri (tokenFuel >>= f) s Q := h

theorem Tri.ite {c : Prop} [Decidable c] {A B : P α} {Q : α → St → Prop}
    (hA : c → Tri A s Q) (hB : ¬ c → Tri B s Q) : Tri (if c then A else B) s Q := by
  split
  · exact hA ‹_›
  · exact hB ‹_›

theorem Tri.bind_attempt {m : P α} {f : Except Err α → P β} {Q1 : α → St → Prop}
    {Q : β → St → Prop} (hm : Tri m s Q1) (hok : ∀ a s', Q1 a s' → Tri (f (.ok a)) s' Q)
    (herr : ∀ e, NeverOk (f (.error e))) : Tri (attempt m >>= f) s Q := by
  show Sat (P.bind (attempt m) f s) _ _ _
  unfold P.bind attempt
  cases hms : m s with
  | ok a s' => exact hok a s' (hm.ok hms)
  | err e s' => exact Tri.of_neverOk (herr e)
  | panic p => trivial
  | fuel => trivial

theorem _root_.Lexpr.Parse.Adv.reach {s s' : St} (h : Adv s s') : Reach s s' :=
  h.stable (Reach.refl s)

/-- what a function's statement (RunLexer.lean) says of how far it moves, and its post-condition -/
theorem _root_.Lexpr.Parse.Run.tri {m : P α} {lv : Lv} {ko : α → Nat} {ke : Err → Nat}
    {Q : α → St → Prop} {N F : Prop} (h : Run m lv s s ko ke Q N F) :
    Tri m s (fun a s' => Mv (ko a) s s' ∧ Q a s') :=
  Sat.iff_tri.2 (Res.Tri.imp (N' := True) (F' := True) h
    (fun _ _ h => ⟨⟨h.1.adv.reach, h.1.len⟩, h.2⟩) (fun _ _ _ => trivial) (fun _ => trivial)
    fun _ => trivial)

theorem _root_.Lexpr.Parse.Run.mv {m : P α} {lv : Lv} {ko : α → Nat} {ke : Err → Nat}
    {Q : α → St → Prop} {N F : Prop} (h : Run m lv s s ko ke Q N F) :
    Tri m s (fun a s' => Mv (ko a) s s') :=
  h.tri.conseq fun _ _ h => h.1

end tri

theorem wsLen_drop_head : ∀ l : List UInt8,
    (∀ b t, l.drop (wsLen l) = b :: t → isTrivia b = false ∧ b ≠ 59) ∧
    (∀ b t, l.drop (commentLen l) = b :: t → isTrivia b = false ∧ b ≠ 59) :=
  Parse.wsLen_drop_head

theorem parseWhitespace_tri (s : St) :
    Tri parseWhitespace s (fun o s1 => Mv 0 s s1 ∧
      s1.rd.rest = s.rd.rest.drop (wsLen s.rd.rest) ∧ o = s1.rd.rest.head?) :=
  parseWhitespace_run.tri.conseq fun _ _ ⟨hm, ho, hr⟩ => ⟨hm, hr, ho⟩

/-- the datum `d` returned by a run of `nextDatum` from `s` to `s'`: the run first moved over
    the leading trivia to a state `s1`, then over at least one byte to `s'`; the span of `d` is
    (position of `s1`, position of `s'`) and its info is well nested in that span -/
def DatumOK (R : Span → Prop) (s s' : St) (d : Datum) : Prop :=
  ∃ s1, Mv 0 s s1 ∧ s1.rd.rest = s.rd.rest.drop (wsLen s.rd.rest) ∧ Mv 1 s1 s' ∧
    d.info.span = ⟨s1.rd.position, s'.rd.position⟩ ∧ R d.info.span ∧
      InsideV R d.info.span d.value d.info

theorem DatumOK.mv {s s' : St} {d : Datum} (h : DatumOK R s s' d) : Mv 1 s s' := by
  obtain ⟨s1, h1, _, h2, _⟩ := h
  exact (h1.trans h2).mono (by omega)

theorem DatumOK.bounds {s s' : St} {d : Datum} (h : DatumOK R s s' d) :
    s.rd.position ≤ d.info.span.start ∧ d.info.span.start < d.info.span.stop ∧
      d.info.span.stop = s'.rd.position := by
  obtain ⟨s1, hm1, _, hm2, hspan, _⟩ := h
  rw [hspan]
  exact ⟨hm1.pos_le, hm2.pos_lt (Nat.le_refl _), rfl⟩

theorem DatumOK.inside {s s' : St} {d : Datum} (h : DatumOK R s s' d) :
    R d.info.span ∧ InsideV R d.info.span d.value d.info := by
  obtain ⟨_, _, _, _, _, h⟩ := h
  exact h

theorem SeqV.snoc_datum {lo cur : Pos} {acc : List Value} {ms : List SpanInfo} {s s' : St}
    {d : Datum} (h : SeqV R lo acc ms cur) (hc : cur ≤ s.rd.position) (hd : DatumOK R s s' d) :
    SeqV R lo (acc ++ [d.value]) (ms ++ [d.info]) s'.rd.position := by
  obtain ⟨h1, h2, h3⟩ := hd.bounds
  rw [← h3]
  exact h.snoc (Pos.le_trans hc h1) h2 hd.inside

/-- post-condition of `parseListMeta` started with element infos `ms` (first one after `lo`) -/
def ListPost (R : Span → Prop) (lo : Pos) (s : St) (r : Option (Value × SpanInfo × SpanInfo)) (s' : St) : Prop :=
  Mv 0 s s' ∧ ∀ v c d, r = some (v, c, d) → ∀ outer : Span, s'.rd.position ≤ outer.stop →
    CellV R outer lo v c d

theorem enter_tri (s : St) : Tri enter s (fun _ s' => s'.rd = s.rd) :=
  Tri.of_ok fun _ _ h => by rw [(enter_inv h).2]

theorem leave_tri (s : St) : Tri leave s (fun _ s' => s'.rd = s.rd) := rfl

theorem Mv.of_rd_eq {s s' : St} (h : s'.rd = s.rd) : Mv 0 s s' :=
  ⟨⟨[], by rw [h]; rfl, by rw [h]; rfl⟩, by rw [h]; omega⟩

/-- `enter; attempt m; leave; k`: `G` is what is known of the state after `enter`; the nested
    parser ends where `k` starts (only the depth differs), and `k` re-raises an error it captured -/
theorem Tri.nested {α β : Type} {s : St} {m : P α} {k : Except Err α → P β} {G : St → Prop}
    {Q1 : St → α → St → Prop} {Q : β → St → Prop} (hG : Tri enter s (fun _ s3 => G s3))
    (hm : ∀ s3, G s3 → Tri m s3 (Q1 s3))
    (hk : ∀ s3 a s4 s5, G s3 → Q1 s3 a s4 → s5.rd = s4.rd → Tri (k (.ok a)) s5 Q)
    (herr : ∀ e, NeverOk (k (.error e))) :
    Tri (enter >>= fun _ => attempt m >>= fun ret => leave >>= fun _ => k ret) s Q :=
  Tri.bind hG fun _ s3 h3 =>
    Tri.bind_attempt (hm s3 h3)
      (fun a s4 hq => Tri.bind (leave_tri s4) fun _ s5 h5 => hk s3 a s4 s5 h3 hq h5)
      (fun e => NeverOk.bind fun _ => herr e)

/-- the quotation arm: `k` starts where the nested parser ended -/
theorem Tri.deeper {α β : Type} {s : St} {m : P α} {k : α → P β} {G : St → Prop}
    {Q1 : St → α → St → Prop} {Q : β → St → Prop} (hG : Tri enter s (fun _ s3 => G s3))
    (hm : ∀ s3, G s3 → Tri m s3 (Q1 s3))
    (hk : ∀ s3 a s4 s5, G s3 → Q1 s3 a s4 → s5.rd = s4.rd → Tri (k a) s5 Q) :
    Tri (deeper m k) s Q :=
  Tri.nested hG hm hk fun _ => NeverOk.liftErr

/-- the list and vector arms: `k` starts after the closing delimiter -/
theorem Tri.deeperSeq {α β : Type} {s : St} {close : UInt8} {m : P α} {k : α → P β}
    {G : St → Prop} {Q1 : St → α → St → Prop} {Q : β → St → Prop}
    (hG : Tri enter s (fun _ s3 => G s3)) (hm : ∀ s3, G s3 → Tri m s3 (Q1 s3))
    (hk : ∀ s3 a s4 s6, G s3 → Q1 s3 a s4 → Mv 0 s4 s6 → Tri (k a) s6 Q) :
    Tri (deeperSeq close m k) s Q :=
  Tri.nested hG hm
    (fun s3 a s4 s5 h3 hq h5 => Tri.bind_attempt endSeq_run.mv
      (fun u s6 hm6 => by cases u; exact hk s3 a s4 s6 h3 hq ((Mv.of_rd_eq h5).trans hm6))
      fun _ => NeverOk.liftErr)
    (fun e => NeverOk.bind fun es => by cases es <;> exact NeverOk.liftErr)

theorem Tri.mv_trans {α : Type} {m : P α} {s0 s : St} {k : Nat} {Q : α → St → Prop} (h0 : Mv k s0 s)
    (h : Tri m s (fun r s' => Mv 0 s s' ∧ Q r s')) : Tri m s (fun r s' => Mv 0 s0 s' ∧ Q r s') :=
  h.conseq fun _ _ ⟨hmv, hq⟩ => ⟨(h0.trans hmv).mono (Nat.zero_le _), hq⟩

theorem never_peek_err {c1 c2 : Code} {α : Type} :
    NeverOk (do
      match (← peek) with
        | some _ => peekErr c1
        | none => (peekErr c2 : P α)) := by
  exact NeverOk.bind fun o => by cases o <;> exact NeverOk.peekErr

/-- Induction on the fuel; each of the three functions is walked with the `Tri` rules, the lexer's
    functions entering through their `Run` statements (`Run.mv`).  `Track base whole` is the ghost
    invariant of SpansPos.lean (its instances are `At input` and `Reach s0`); `R` is any property
    that the span between two states on one track has. -/
theorem spans_all (cfg : Cfg) (base : Pos) (whole : List UInt8)
    (hR : ∀ s1 s2, Track base whole s1 → Reach s1 s2 → R ⟨s1.rd.position, s2.rd.position⟩) :
    ∀ fuel : Nat,
    (∀ s, Track base whole s →
      Tri (nextDatum cfg fuel) s (fun od s' => ∀ d, od = some d → DatumOK R s s' d)) ∧
    (∀ term acc ms s lo, Track base whole s → SeqV R lo acc ms s.rd.position →
      Tri (parseListMeta cfg fuel term acc ms) s (ListPost R lo s)) ∧
    (∀ term acc ms s lo, Track base whole s → SeqV R lo acc ms s.rd.position →
      Tri (parseVectorMeta cfg fuel term acc ms) s
        (fun r s' => Mv 0 s s' ∧ SeqV R lo r.1 r.2 s'.rd.position)) := by
  intro fuel
  induction fuel with
  | zero =>
    refine ⟨?_, ?_, ?_⟩
    · intro s _; rw [nextDatum]; exact Tri.outOfFuel
    · intro term acc ms s lo _ _; rw [parseListMeta]; exact Tri.outOfFuel
    · intro term acc ms s lo _ _; rw [parseVectorMeta]; exact Tri.outOfFuel
  | succ f ih =>
    obtain ⟨ihD, ihL, ihV⟩ := ih
    refine ⟨?_, ?_, ?_⟩
    · intro s htr
      rw [nextDatum_succ]
      refine Tri.bind (parseWhitespace_tri s) ?_
      rintro o s1 ⟨hm1, hrest, ho⟩
      have htr1 : Track base whole s1 := htr.reach hm1.reach
      cases o with
      | none => exact Tri.pure (fun d hd => by cases hd)
      | some pk =>
        dsimp only
        refine Tri.bind_getPos ?_
        refine Tri.bind_tokenFuel ?_
        refine Tri.bind ((parseToken_run (c := 1) (Nat.le_refl 1) fun _ => ho.symm).mv) ?_
        intro tok s2 hm2
        -- every arm ends by returning a datum whose span runs from `s1` to the final state
        have fin : ∀ {s' : St} {v : Value} {i : SpanInfo}, Mv 1 s1 s' →
            i.span = ⟨s1.rd.position, s'.rd.position⟩ → InsideV R i.span v i →
            Tri (pure (some (Datum.mk v i))) s' (fun od s' => ∀ d, od = some d → DatumOK R s s' d) := by
          intro s' v i hmv hsp hin
          refine Tri.pure ?_
          intro d hd; cases hd
          exact ⟨s1, hm1, hrest, hmv, hsp, hsp ▸ hR s1 s' htr1 hmv.reach, hin⟩
        have atomCase : ∀ t : Token, Tri
            (match t.atom with
              | some v => do
                let stop ← getPos
                pure (some (Datum.mk v (SpanInfo.prim { start := s1.rd.position, stop := stop })))
              | none => panicAt Site.unreachable) s2
            (fun od s' => ∀ d, od = some d → DatumOK R s s' d) := by
          intro t
          cases ht : t.atom with
          | none => exact Tri.panicAt
          | some v => exact Tri.bind_getPos (fin hm2 rfl (insideV_prim _ _ _))
        cases tok with
        | byteVecOpen close =>
          dsimp only
          refine Tri.bind (parseByteList_run.mv) ?_
          intro bs s3 hm3
          exact Tri.bind_getPos (fin ((hm2.trans hm3).mono (by omega)) rfl (insideV_prim _ _ _))
        | vecOpen close =>
          refine Tri.deeperSeq (enter_tri s2)
            (Q1 := fun s3 r s4 => Mv 0 s3 s4 ∧ SeqV R s3.rd.position r.1 r.2 s4.rd.position)
            (fun s3 h3 => ihV close [] [] s3 s3.rd.position
              (htr1.reach (hm2.trans (Mv.of_rd_eq h3)).reach) (by rw [SeqV]; exact Pos.le_refl _))
            ?_
          rintro s3 ⟨xs, ms⟩ s4 s6 h3 ⟨hm4, hseq⟩ h46
          have h23 : Mv 1 s1 s3 := hm2.trans (Mv.of_rd_eq h3)
          refine Tri.bind_getPos (fin ((h23.trans (hm4.trans h46)).mono (by omega)) rfl ?_)
          show InsideV R _ (.vector xs) (.vec _ ms)
          rw [insideV_vec]
          exact ⟨xs, rfl, hseq.elems h23.pos_le h46.pos_le⟩
        | listOpen close =>
          refine Tri.deeperSeq (enter_tri s2)
            (Q1 := fun s3 r s4 => ListPost R s3.rd.position s3 r s4)
            (fun s3 h3 => ihL close [] [] s3 s3.rd.position
              (htr1.reach (hm2.trans (Mv.of_rd_eq h3)).reach) (by rw [SeqV]; exact Pos.le_refl _))
            ?_
          rintro s3 r s4 s6 h3 ⟨hm4, hr⟩ h46
          have h23 : Mv 1 s1 s3 := hm2.trans (Mv.of_rd_eq h3)
          have hmv : Mv 1 s1 s6 := (h23.trans (hm4.trans h46)).mono (by omega)
          rcases r with _ | ⟨v, c, d⟩
          · exact Tri.bind_getPos (fin hmv rfl (insideV_prim _ _ _))
          · refine Tri.bind_getPos (fin hmv rfl ?_)
            show InsideV R _ v (.cons _ c d)
            rw [insideV_cons]
            exact (hr v c d rfl ⟨s1.rd.position, s6.rd.position⟩ h46.pos_le).mono
              (Pos.le_refl _) h23.pos_le
        | quotation q =>
          refine Tri.bind_getPos ?_
          refine Tri.deeper (enter_tri s2)
            (Q1 := fun s3 od s4 => ∀ d, od = some d → DatumOK R s3 s4 d)
            (fun s3 h3 => ihD s3 (htr1.reach (hm2.trans (Mv.of_rd_eq h3)).reach)) ?_
          intro s3 od s4 s5 h3 hod h5
          cases od with
          | none => exact Tri.peekErr
          | some d =>
            have hd := hod d rfl
            obtain ⟨hb1, hb2, hb3⟩ := hd.bounds
            have h2t : s2.rd.position ≤ d.info.span.start :=
              Pos.le_trans (Mv.of_rd_eq h3).pos_le hb1
            refine fin ((hm2.trans ((Mv.of_rd_eq h3).trans (hd.mv.trans (Mv.of_rd_eq h5)))).mono
              (by omega)) ?_ ?_
            · show (⟨s1.rd.position, d.info.span.stop⟩ : Span) = _
              rw [hb3, h5]
            · show InsideV R ⟨s1.rd.position, d.info.span.stop⟩
                (.cons (.symbol q.name) (.cons d.value .null))
                (.cons _ (.prim ⟨s1.rd.position, s2.rd.position⟩)
                  (.cons d.info.span d.info (.prim ⟨d.info.span.stop, d.info.span.stop⟩)))
              rw [insideV_cons, cellV_cons, tailV_cons, cellV_cons, tailV_prim]
              exact ⟨⟨Pos.le_refl _, hm2.pos_lt (Nat.le_refl _),
                  Pos.le_trans h2t (Pos.le_of_lt hb2), hR s1 s2 htr1 hm2.reach, insideV_prim _ _ _⟩,
                ⟨h2t, hb2, Pos.le_refl _, hd.inside⟩,
                Or.inl ⟨rfl, Or.inr ⟨Pos.le_refl _, Pos.le_refl _, Pos.le_refl _⟩⟩⟩
        | null => exact atomCase Token.null
        | nil => exact atomCase Token.nil
        | bool b => exact atomCase (Token.bool b)
        | char c => exact atomCase (Token.char c)
        | number n => exact atomCase (Token.number n)
        | symbol s => exact atomCase (Token.symbol s)
        | keyword s => exact atomCase (Token.keyword s)
        | string s => exact atomCase (Token.string s)
        | bytes b => exact atomCase (Token.bytes b)
    · intro term acc ms s lo htr hseq
      rw [parseListMeta]
      refine Tri.bind (parseWhitespace_tri s) ?_
      rintro o s1 ⟨hm1, -, -⟩
      have htr1 : Track base whole s1 := htr.reach hm1.reach
      cases o with
      | none => exact Tri.peekErr
      | some c =>
        dsimp only
        refine Tri.ite
          (fun _ => Tri.ite (fun _ => Tri.peekErr) (fun _ => Tri.ite (fun _ => ?_) (fun hne => ?_)))
          (fun _ => Tri.ite (fun _ => ?_) (fun _ => ?_))
        · exact Tri.pure ⟨hm1, fun v c d h => by cases h⟩
        · have hacc : acc ≠ [] := by
            intro h; subst h; simp at hne
          refine Tri.pure ⟨hm1, ?_⟩
          intro v c d h outer ho
          cases h
          exact hseq.cell hacc (Pos.le_trans hm1.pos_le ho)
            (by rw [tailV_prim]; exact Or.inl ⟨rfl, Or.inl rfl⟩)
        · refine Tri.bind_getPos ?_
          refine Tri.bind (discard_run.mv) ?_
          intro _ s2 hm2
          refine Tri.bind (peekOrNull_run.mv) ?_
          intro nxt s3 hm3
          have h13 : Mv 1 s1 s3 := (hm2.trans hm3).mono (by omega)
          refine Tri.ite
            (fun _ => Tri.ite (fun _ => Tri.of_neverOk never_peek_err) (fun hne => ?_)) (fun _ => ?_)
          · have hacc : acc ≠ [] := by
              intro h; subst h; simp at hne
            refine Tri.bind (Q1 := fun (tail : Datum) s4 => DatumOK R s3 s4 tail) ?_ ?_
            · refine Tri.bind (ihD s3 (htr1.reach h13.reach)) ?_
              intro od s4 hod
              cases od with
              | none => exact Tri.peekErr
              | some d => exact Tri.pure (hod d rfl)
            · intro tail s4 htail
              refine Tri.bind (parseWhitespace_tri s4) ?_
              rintro o s5 ⟨hm5, -, -⟩
              cases o with
              | none => exact Tri.peekErr
              | some c' =>
                dsimp only
                refine Tri.ite (fun _ => ?_) (fun _ => Tri.peekErr)
                refine Tri.pure ⟨(hm1.trans (h13.trans (htail.mv.trans hm5))).mono (by omega), ?_⟩
                intro v c d h outer ho
                cases h
                obtain ⟨hb1, hb2, hb3⟩ := htail.bounds
                have hst : s.rd.position ≤ tail.info.span.start :=
                  Pos.le_trans (hm1.trans h13).pos_le hb1
                have hstop : tail.info.span.stop ≤ outer.stop :=
                  hb3 ▸ Pos.le_trans hm5.pos_le ho
                exact hseq.cell hacc (Pos.le_trans hst (Pos.le_trans (Pos.le_of_lt hb2) hstop))
                  (TailV.of_datum tail.value tail.info hst hb2 hstop htail.inside.1 htail.inside.2)
          · refine Tri.bind (parseSymbolBytes_run.mv) ?_
            intro name s4 hm4
            refine Tri.bind_getPos ?_
            have h14 : Mv 1 s1 s4 := (h13.trans hm4).mono (by omega)
            exact Tri.mv_trans (hm1.trans h14) (ihL term _ _ s4 lo (htr1.reach h14.reach)
              (hseq.snoc (m := SpanInfo.prim ⟨s1.rd.position, s4.rd.position⟩) hm1.pos_le
                (h14.pos_lt (Nat.le_refl _)) ⟨hR s1 s4 htr1 h14.reach, insideV_prim _ _ _⟩))
        · refine Tri.bind (ihD s1 htr1) ?_
          intro od s2 hod
          cases od with
          | none => exact Tri.peekErr
          | some d =>
            have hd := hod d rfl
            exact Tri.mv_trans (hm1.trans hd.mv) (ihL term _ _ s2 lo (htr1.reach hd.mv.reach)
              (hseq.snoc_datum hm1.pos_le hd))
    · intro term acc ms s lo htr hseq
      rw [parseVectorMeta]
      refine Tri.bind (parseWhitespace_tri s) ?_
      rintro o s1 ⟨hm1, -, -⟩
      have htr1 : Track base whole s1 := htr.reach hm1.reach
      cases o with
      | none => exact Tri.peekErr
      | some c =>
        dsimp only
        refine Tri.ite (fun _ => Tri.ite (fun _ => Tri.peekErr) (fun _ => ?_)) (fun _ => ?_)
        · exact Tri.pure ⟨hm1, hseq.weaken hm1.pos_le⟩
        · refine Tri.bind (ihD s1 htr1) ?_
          intro od s2 hod
          cases od with
          | none => exact Tri.peekErr
          | some d =>
            have hd := hod d rfl
            exact Tri.mv_trans (hm1.trans hd.mv) (ihV term _ _ s2 lo (htr1.reach hd.mv.reach)
              (hseq.snoc_datum hm1.pos_le hd))

theorem Inv.endsIn {α : Type} {I : St → Prop} {m : P α} (hm : Inv I m) {s s' : St} (hs : I s)
    (hr : (m s).endsIn s') : I s' := by
  have := hm s hs
  rcases hr with ⟨a, hr⟩ | ⟨e, hr⟩ <;> rw [hr] at this <;> exact this

/-- an element span is real in `input`: it is `⟨posOf p, posOf q⟩` for prefixes `p ≤ q` of it -/
def Real (input : List UInt8) (sp : Span) : Prop :=
  ∃ p q, p <+: q ∧ q <+: input ∧ sp = ⟨posOf p, posOf q⟩

theorem at_pos_eq {input : List UInt8} {a b : St} (ha : At input a) (hb : At input b)
    (h : a.rd.rest = b.rd.rest) : a.rd.position = b.rd.position := by
  obtain ⟨p1, e1, q1⟩ := ha
  obtain ⟨p2, e2, q2⟩ := hb
  have : p1 = p2 := by
    rw [h, ← e2] at e1
    exact List.append_cancel_right e1
  rw [q1, q2, this]

theorem real_of_at {input : List UInt8} {s1 s2 : St} (h1 : At input s1) (hr : Reach s1 s2) :
    Real input ⟨s1.rd.position, s2.rd.position⟩ := by
  obtain ⟨pre, e, p⟩ := h1
  obtain ⟨mid, e2, p2⟩ := hr
  exact ⟨pre, pre ++ mid, List.prefix_append _ _,
    ⟨s2.rd.rest, by rw [List.append_assoc, e2, e]⟩, by rw [p2, p, posOf_append]⟩

theorem datumOK_of_track {cfg : Cfg} {fuel : Nat} {s s' : St} {d : Datum} {base : Pos}
    {whole : List UInt8}
    (hR : ∀ s1 s2, Track base whole s1 → Reach s1 s2 → R ⟨s1.rd.position, s2.rd.position⟩)
    (htr : Track base whole s) (h : nextDatum cfg fuel s = .ok (some d) s') : DatumOK R s s' d :=
  ((spans_all cfg base whole hR fuel).1 s htr).ok h d rfl

/-- without any assumption on the starting state (take `s` itself as the start of the track) -/
theorem datumOK_of_ok {cfg : Cfg} {fuel : Nat} {s s' : St} {d : Datum}
    (h : nextDatum cfg fuel s = .ok (some d) s') : DatumOK (fun _ => True) s s' d :=
  datumOK_of_track (base := s.rd.position) (whole := s.rd.rest) (fun _ _ _ _ => trivial)
    (Reach.refl s) h

theorem append_drop_eq {α : Type} {mid l : List α} {n : Nat} (h : mid ++ l.drop n = l)
    (hn : n ≤ l.length) : mid = l.take n := by
  have h2 : l.take n ++ l.drop n = l := List.take_append_drop n l
  have hl : mid.length = (l.take n).length := by
    have := congrArg List.length h
    simp only [List.length_append, List.length_drop, List.length_take] at this ⊢
    omega
  exact (List.append_inj (h.trans h2.symm) hl).1

theorem wsLen_le : ∀ l : List UInt8, wsLen l ≤ l.length ∧ commentLen l ≤ l.length :=
  fun l => ⟨(Scans.ws_comment l []).1.1, (Scans.ws_comment l []).2.1⟩

/-- the span of the first datum found in `input`, as a decidable check for the examples -/
def topSpan : Res (Option Datum) → Option Span
  | .ok (some d) _ => some d.info.span
  | _ => none

/-- the spans of the elements of a list datum (cars, then a dotted tail), for the examples -/
def carSpans : SpanInfo → List Span
  | .cons _ car cdr => car.span :: carSpans cdr
  | .prim sp => if sp = Span.empty then [] else [sp]
  | .vec sp _ => [sp]

def topCarSpans : Res (Option Datum) → List Span
  | .ok (some d) _ => carSpans d.info
  | _ => []

/-- a datum whose span tree is well nested in its own span, following its value -/
def WellNested (R : Span → Prop) (d : Datum) : Prop := InsideV R d.info.span d.value d.info

/-- `Siblings R outer lo es`: the datums `es` are non-empty, lie between `lo` and the end of
    `outer`, follow one another without overlap, and each is well nested -/
def Siblings (R : Span → Prop) (outer : Span) : Pos → List Datum → Prop
  | _, [] => True
  | lo, e :: es =>
    lo ≤ e.info.span.start ∧ e.info.span.start < e.info.span.stop ∧
      e.info.span.stop ≤ outer.stop ∧ R e.info.span ∧ WellNested R e ∧
      Siblings R outer e.info.span.stop es

theorem siblings_cons (o : Span) (lo : Pos) (e : Datum) (es : List Datum) :
    Siblings R o lo (e :: es) ↔
      ElemV R o lo e.value e.info ∧ Siblings R o e.info.span.stop es := by
  simp only [Siblings, ElemV, WellNested, and_assoc]

/-- the first `n` results of calling `ListIter::next` repeatedly (`none` if its `expect` fires);
    the same function as `DCursor.take` of DatumValue.lean -/
def takeN : Nat → DCursor → Option (List (Option Datum))
  | 0, _ => some []
  | n + 1, c =>
    match c.next with
    | none => none
    | some (x, c') => (takeN n c').map (x :: ·)

/-- what is left to iterate is a well-nested rest of a list after `lo` -/
def CurOK (R : Span → Prop) (outer : Span) (lo : Pos) : DCursor → Prop
  | .cons car cdr cm dm => ElemV R outer lo car cm ∧ TailV R outer cm.span.stop cdr dm
  | .dot v m => ElemV R outer lo v m
  | .rest v m => ElemV R outer lo v m
  | .exhausted => True

theorem CurOK.next {outer : Span} {lo : Pos} {c : DCursor} (h : CurOK R outer lo c) :
    ∃ item c', c.next = some (item, c') ∧
      match item with
      | some e => ElemV R outer lo e.value e.info ∧ CurOK R outer e.info.span.stop c'
      | none => CurOK R outer lo c' := by
  cases c with
  | cons car cdr cm dm =>
    obtain ⟨h1, h2⟩ := h
    cases dm with
    | cons sp c d =>
      rw [tailV_cons] at h2
      cases cdr with
      | cons a b => exact ⟨_, _, rfl, h1, h2⟩
      | _ => exact h2.elim
    | prim sp =>
      rw [tailV_prim] at h2
      by_cases hn : cdr.isNull = true
      · refine ⟨some ⟨car, cm⟩, .exhausted, ?_, h1, trivial⟩
        simp [DCursor.next, hn]
      · refine ⟨some ⟨car, cm⟩, .dot cdr (.prim sp), ?_, h1, ?_⟩
        · simp [DCursor.next, hn]
        · rcases h2 with ⟨hv, _⟩ | h2
          · subst hv; exact absurd rfl hn
          · exact ⟨h2.1, h2.2.1, h2.2.2.1, h2.2.2.2, insideV_prim _ _ _⟩
    | vec sp xs =>
      rw [tailV_vec] at h2
      refine ⟨some ⟨car, cm⟩, .dot cdr (.vec sp xs), rfl, h1, h2.1, h2.2.1, h2.2.2.1, h2.2.2.2.1, ?_⟩
      show InsideV R sp cdr (.vec sp xs)
      rw [insideV_vec]
      exact h2.2.2.2.2
  | dot v m => exact ⟨none, .rest v m, rfl, h⟩
  | rest v m => exact ⟨some ⟨v, m⟩, .exhausted, rfl, h, trivial⟩
  | exhausted => exact ⟨none, .exhausted, rfl, trivial⟩

theorem CurOK.take {outer : Span} : ∀ (n : Nat) (lo : Pos) (c : DCursor), CurOK R outer lo c →
    ∃ l, takeN n c = some l ∧ Siblings R outer lo (l.filterMap id) := by
  intro n
  induction n with
  | zero => intro lo c _; exact ⟨[], rfl, trivial⟩
  | succ n ih =>
    intro lo c h
    obtain ⟨item, c', hn, hi⟩ := h.next
    cases item with
    | none =>
      obtain ⟨l, hl, hs⟩ := ih lo c' hi
      exact ⟨none :: l, by simp [takeN, hn, hl], by simpa using hs⟩
    | some e =>
      obtain ⟨l, hl, hs⟩ := ih _ c' hi.2
      refine ⟨some e :: l, by simp [takeN, hn, hl], ?_⟩
      simp only [List.filterMap_cons, id]
      exact (siblings_cons _ _ _ _).2 ⟨hi.1, hs⟩

theorem listIter_curOK {d : Datum} (h : WellNested R d) {c : DCursor} (hc : d.listIter = some c) :
    CurOK R d.info.span d.info.span.start c := by
  rcases d with ⟨v, i⟩
  unfold WellNested at h
  cases v <;> cases i <;> simp [Datum.listIter] at hc <;> subst hc <;> first | trivial | exact h

theorem elemsV_siblings {outer : Span} : ∀ (lo : Pos) (vs : List Value) (ms : List SpanInfo),
    ElemsV R outer lo vs ms →
    Siblings R outer lo ((vs.zip ms).map fun (v, m) => (⟨v, m⟩ : Datum)) ∧ vs.length = ms.length
  | lo, vs, [], h => by
    rw [elemsV_nil] at h
    subst h
    exact ⟨trivial, rfl⟩
  | lo, vs, m :: ms, h => by
    rw [elemsV_cons] at h
    obtain ⟨v, vs', rfl, h1, h2⟩ := h
    obtain ⟨ih1, ih2⟩ := elemsV_siblings m.span.stop vs' ms h2
    refine ⟨?_, by simp [ih2]⟩
    simp only [List.zip_cons_cons, List.map_cons]
    exact (siblings_cons _ _ _ _).2 ⟨h1, ih1⟩

/-- number of `next` results (out of 5 calls) of the list iterator of a parsed datum, for the
    examples -/
def iterLen : Res (Option Datum) → Option Nat
  | .ok (some d) _ => (d.listIter.bind (takeN 5)).map List.length
  | _ => none

theorem parseToken_39 (cfg : Cfg) (fuel : Nat) :
    parseToken cfg fuel 39 = (do discard; pure (.quotation .quote)) := parseToken_eq cfg fuel 39

theorem parseToken_96 (cfg : Cfg) (fuel : Nat) :
    parseToken cfg fuel 96 = (do discard; pure (.quotation .quasiquote)) :=
  parseToken_eq cfg fuel 96

theorem parseToken_44 (cfg : Cfg) (fuel : Nat) :
    parseToken cfg fuel 44 = (do
      discard
      let c ← peekOrNull
      if c == 64 then do discard; pure (.quotation .unquoteSplicing)
      else pure (.quotation .unquote)) := parseToken_eq cfg fuel 44

theorem parseToken_46 (cfg : Cfg) (fuel : Nat) :
    parseToken cfg fuel 46 = (do
      let name ← parseSymbolBytes []
      pure (symbolToken cfg.opts name)) := by
  rw [parseToken_eq]; rfl

/-- the characters of a quote shorthand: `'`, `` ` ``, `,`, `,@` -/
def _root_.Lexpr.Parse.Quote.shorthand : Quote → List UInt8
  | .quote => [39]
  | .quasiquote => [96]
  | .unquote => [44]
  | .unquoteSplicing => [44, 64]

theorem discard_tri {s : St} {b : UInt8} {t : List UInt8} (h : s.rd.rest = b :: t) :
    Tri discard s (fun _ s' => s'.rd.rest = t) :=
  discard_run.tri.conseq fun _ s' ⟨_, hq⟩ => by
    have := hq b (by rw [h]; rfl)
    rw [h] at this; exact (List.cons.inj this).2.symm

theorem peekOrNull_tri (s : St) :
    Tri peekOrNull s (fun c s' => s'.rd.rest = s.rd.rest ∧ c = s.rd.rest.head?.getD 0) :=
  peekOrNull_run.tri.conseq fun _ _ h => h.2

theorem quote_token_tri (cfg : Cfg) (fuel : Nat) (q : Quote) (x : List UInt8) (s : St)
    (hs : s.rd.rest = q.shorthand ++ x) (hq : q = .unquote → x.head? ≠ some 64) :
    Tri (parseToken cfg fuel ((q.shorthand ++ x).head?.getD 0)) s
      (fun tok s' => tok = .quotation q ∧ s'.rd.rest = x) := by
  cases q with
  | quote =>
    show Tri (parseToken cfg fuel 39) s _
    rw [parseToken_39]
    exact Tri.bind (discard_tri hs) fun _ s1 h1 => Tri.pure ⟨rfl, h1⟩
  | quasiquote =>
    show Tri (parseToken cfg fuel 96) s _
    rw [parseToken_96]
    exact Tri.bind (discard_tri hs) fun _ s1 h1 => Tri.pure ⟨rfl, h1⟩
  | unquote =>
    show Tri (parseToken cfg fuel 44) s _
    rw [parseToken_44]
    refine Tri.bind (discard_tri hs) fun _ s1 h1 => Tri.bind (peekOrNull_tri s1) ?_
    rintro c s2 ⟨h2, hc⟩
    have hne : (c == 64) = false := by
      rw [hc, h1]
      have := hq rfl
      cases x with
      | nil => decide
      | cons y ys =>
        simp only [List.head?_cons, ne_eq, Option.some.injEq] at this
        simpa using this
    simp only [hne]
    exact Tri.pure ⟨rfl, h2.trans h1⟩
  | unquoteSplicing =>
    show Tri (parseToken cfg fuel 44) s _
    rw [parseToken_44]
    refine Tri.bind (discard_tri hs) fun _ s1 h1 => Tri.bind (peekOrNull_tri s1) ?_
    rintro c s2 ⟨h2, hc⟩
    have hc64 : (c == 64) = true := by rw [hc, h1]; rfl
    simp only [hc64, if_true]
    exact Tri.bind (discard_tri (h2.trans h1)) fun _ s3 h3 => Tri.pure ⟨rfl, h3⟩

/-- the run of `nextDatum` up to the token, and the datum it builds at a quote shorthand -/
theorem quotation_inv {cfg : Cfg} {fuel : Nat} {s s' : St} {d : Datum}
    (h : nextDatum cfg fuel s = .ok (some d) s') :
    ∃ s1 pk tok s2, Mv 0 s s1 ∧ s1.rd.rest = s.rd.rest.drop (wsLen s.rd.rest) ∧
      s1.rd.rest.head? = some pk ∧
      parseToken cfg (s1.rd.rest.length + 1) pk s1 = .ok tok s2 ∧
      ∀ q, tok = .quotation q →
        ∃ dq, d = Datum.quotation q dq ⟨s1.rd.position, s2.rd.position⟩ := by
  cases fuel with
  | zero => rw [nextDatum] at h; cases h
  | succ f =>
    rw [nextDatum] at h
    obtain ⟨o, s1, hws, h⟩ := bind_ok h
    obtain ⟨hm1, hrest, ho⟩ := (parseWhitespace_tri s).ok hws
    cases o with
    | none => cases h
    | some pk =>
      dsimp only at h
      obtain ⟨start, s1a, hgp, h⟩ := bind_ok h
      cases hgp
      obtain ⟨tf, s1b, htf, h⟩ := bind_ok h
      cases htf
      obtain ⟨tok, s2, htok, h⟩ := bind_ok h
      refine ⟨s1, pk, tok, s2, hm1, hrest, ho.symm, htok, ?_⟩
      intro q hq
      subst hq
      dsimp only at h
      obtain ⟨tokenEnd, s2a, hgp2, h⟩ := bind_ok h
      cases hgp2
      obtain ⟨_, s3, _, h⟩ := bind_ok h
      obtain ⟨ret, s4, hret, h⟩ := bind_ok h
      obtain ⟨_, s5, _, h⟩ := bind_ok h
      rcases ret with e | _ | dq <;> dsimp only at h
      · cases h
      · cases h
      · cases h; exact ⟨dq, rfl⟩

/-- **C11_posOf_mono**: on prefixes, positions grow with the prefix, strictly for a proper prefix
    (every consumed byte strictly advances (line, column) in lexicographic order).  Hence a span
    `⟨posOf p, posOf q⟩` with `p` a proper prefix of `q` is non-empty. -/
theorem C11_posOf_mono {p q : List UInt8} (h : p <+: q) :
    posOf p ≤ posOf q ∧ (p ≠ q → posOf p < posOf q) :=
  ⟨posOf_mono h, posOf_strict h⟩

example : posOf (asc "a\nb") < posOf (asc "a\nbc") ∧ posOf (asc "a\nbc") = ⟨2, 2⟩ := by decide

/-- **C11_posOf_inj**: on the prefixes of one input the position determines the prefix, and the
    order of positions is the order of byte offsets: a reported (line, column) converts back to a
    byte offset uniquely. -/
theorem C11_posOf_inj {p q input : List UInt8} (hp : p <+: input) (hq : q <+: input) :
    (posOf p = posOf q → p = q) ∧ (posOf p ≤ posOf q ↔ p.length ≤ q.length) :=
  ⟨posOf_inj hp hq, posOf_le_iff hp hq⟩

example : asc "ab" <+: asc "ab\ncd" ∧ asc "ab\nc" <+: asc "ab\ncd" := by decide

/-- **C11_at_preserved**: the ghost invariant `At input` ("the reader has consumed a prefix `pre`
    of `input` and its position is `posOf pre`") is kept by every entry point, whether it ends with
    a result or with an error, for every amount of fuel.  So every position the parser records is
    `posOf` of a prefix of the input. -/
theorem C11_at_preserved (cfg : Cfg) (input : List UInt8) (s s' : St) (h : At input s) :
    (∀ fuel, (nextDatum cfg fuel s).endsIn s' → At input s') ∧
    (∀ fuel, (nextValue cfg fuel s).endsIn s' → At input s') ∧
    ((nextDatumTop cfg s).endsIn s' → At input s') ∧
    ((nextValueTop cfg s).endsIn s' → At input s') ∧
    ((expectDatum cfg s).endsIn s' → At input s') ∧
    ((expectValue cfg s).endsIn s' → At input s') ∧
    ((expectEnd s).endsIn s' → At input s') ∧
    ((fromTraitDatum cfg s).endsIn s' → At input s') ∧
    ((fromTrait cfg s).endsIn s' → At input s') :=
  ⟨fun fuel => (datum_invs cfg fuel).1.endsIn h, fun fuel => (value_invs cfg fuel).1.endsIn h,
   nextDatumTop_inv.endsIn h, nextValueTop_inv.endsIn h, expectDatum_inv.endsIn h,
   expectValue_inv.endsIn h, expectEnd_inv.endsIn h, fromTraitDatum_inv.endsIn h,
   fromTrait_inv.endsIn h⟩

theorem at_initSt (mode : Mode) (input : List UInt8) (faulty : Bool) :
    At input (initSt mode input faulty) := ⟨[], rfl, rfl⟩

example : ∃ c l k s', nextDatum exCfg 9 (initSt .io (asc "(a\n . )")) = .err (.syntax c l k) s' :=
  syntaxErr_elim (by decide +kernel)

/-- the state that a call hands on is the one in which its entry point stopped -/
theorem stepOp_endsIn {cfg : Cfg} {op : Op} {s s' : St} {it : Item}
    (h : stepOp cfg op s = (it, some s')) : (op.run cfg s).endsIn s' := by
  rw [stepOp_eq] at h
  generalize op.run cfg s = r at h
  rcases r with ⟨v, t⟩ | ⟨e, t⟩ | p | _ <;> cases h <;>
    first | exact .inl ⟨_, rfl⟩ | exact .inr ⟨_, rfl⟩

/-- **C11_at_history**: one call of any operation keeps the invariant, hence so does every call
    history on one parser. -/
theorem C11_at_history (cfg : Cfg) (input : List UInt8) (op : Op) (s s' : St) (it : Item)
    (h : At input s) (hstep : stepOp cfg op s = (it, some s')) : At input s' := by
  obtain ⟨-, -, hd, hv, hed, hev, hee, -, -⟩ := C11_at_preserved cfg input s s' h
  exact Op.run_forall (C := fun m => (m s).endsIn s' → At input s') hv hd hev hed hee op
    (stepOp_endsIn hstep)

example : (runHistory exCfg [.nextDatum, .expectEnd] (initSt .str (asc "a )"))).length = 2 := by
  decide +kernel

/-- **C11_span_bounds**: the span of a datum returned by `next_datum` is
    `⟨posOf p, posOf q⟩` for two prefixes `p`, `q` of the input, where `p` is where the reader
    stood after skipping the leading trivia, `q = p ++ b :: mid` is a strictly longer prefix
    that ends exactly where the parser stopped (`q ++ s'.rd.rest = input`), and the text
    `b :: mid` of the datum starts with a byte that is neither whitespace nor `;`. -/
theorem C11_span_bounds (cfg : Cfg) (fuel : Nat) (s s' : St) (d : Datum) (input : List UInt8)
    (h : nextDatum cfg fuel s = .ok (some d) s') (hat : At input s) :
    ∃ p b mid, p <+: input ∧ (p ++ b :: mid) ++ s'.rd.rest = input ∧
      isTrivia b = false ∧ b ≠ 59 ∧
      d.info.span = ⟨posOf p, posOf (p ++ b :: mid)⟩ ∧
      (∃ pre, pre ++ s.rd.rest = input ∧ p = pre ++ s.rd.rest.take (wsLen s.rd.rest)) := by
  obtain ⟨pre, hin, hpos⟩ := hat
  obtain ⟨s1, hm1, hrest, hm2, hspan, _⟩ := datumOK_of_ok h
  have p1 := hm1.reach.pos_of_drop hrest (wsLen_le _).1
  obtain ⟨mid2, e2, p2⟩ := hm2.reach
  cases mid2 with
  | nil =>
    have := hm2.len
    rw [← e2] at this
    simp only [List.nil_append] at this
    omega
  | cons b mid =>
    have hhead : s.rd.rest.drop (wsLen s.rd.rest) = b :: (mid ++ s'.rd.rest) := by
      rw [← hrest, ← e2]; rfl
    obtain ⟨hb1, hb2⟩ := (wsLen_drop_head s.rd.rest).1 b _ hhead
    have hcat : (pre ++ s.rd.rest.take (wsLen s.rd.rest) ++ b :: mid) ++ s'.rd.rest = input := by
      rw [List.append_assoc, e2, hrest, List.append_assoc, List.take_append_drop, hin]
    refine ⟨_, b, mid, ⟨(b :: mid) ++ s'.rd.rest, by rw [← hcat]; simp⟩, hcat, hb1, hb2, ?_,
      pre, hin, rfl⟩
    rw [hspan, p2, p1, hpos, posOf_append, posOf_append, posOf_append]

example : topSpan (nextDatum exCfg 20
      (initSt .io (asc " ; c\n  (a \"" ++ [0xCE, 0xBB] ++ asc "\")\n"))) =
    some ⟨⟨2, 2⟩, ⟨2, 10⟩⟩ := by decide +kernel

/-- **C11_span_nonempty**: consequently a datum's span is non-empty, starts at or after the
    position the call started from, and stops at the position of the state the call returns. -/
theorem C11_span_nonempty (cfg : Cfg) (fuel : Nat) (s s' : St) (d : Datum)
    (h : nextDatum cfg fuel s = .ok (some d) s') :
    s.rd.position ≤ d.info.span.start ∧ d.info.span.start < d.info.span.stop ∧
      d.info.span.stop = s'.rd.position :=
  (datumOK_of_ok h).bounds

example : ∃ d s', nextDatum exCfg 9 (initSt .slice (asc "\n#(1)")) = .ok (some d) s' :=
  okSome_elim (by decide +kernel)

/-- **C11_children_inside**: every datum returned by `next_datum` is well nested: the spans of
    its elements (cars along the list, a dotted tail, vector entries) are non-empty, lie within
    the datum's own span, follow one another without overlap, and recursively so for each element.
    For a quote shorthand the elements are the head, whose span is that of the shorthand token,
    and the quoted datum. -/
theorem C11_children_inside (cfg : Cfg) (fuel : Nat) (s s' : St) (d : Datum)
    (h : nextDatum cfg fuel s = .ok (some d) s') : Inside d.info.span d.info :=
  InsideV.forget _ _ (datumOK_of_ok h).inside.2

example : topCarSpans (nextDatum exCfg 30 (initSt .str (asc "(a 'b\n . #(c))"))) =
    [⟨⟨1, 1⟩, ⟨1, 2⟩⟩, ⟨⟨1, 3⟩, ⟨1, 5⟩⟩, ⟨⟨2, 3⟩, ⟨2, 7⟩⟩] := by decide +kernel

/-- **C11_sources**: spans do not depend on the kind of source.  Two parsers over the same unread
    input at the same position (whatever their modes, `peeked` flags, `faulty` flags and depths)
    that both return a datum return the same datum — value and the whole span tree — and stop at
    the same place.  The same holds for the public entry points. -/
theorem C11_sources (cfg : Cfg) (s1 s2 s1' s2' : St) (hs : Same s1 s2) :
    (∀ fuel d1 d2, nextDatum cfg fuel s1 = .ok d1 s1' → nextDatum cfg fuel s2 = .ok d2 s2' →
      d1 = d2 ∧ Same s1' s2') ∧
    (∀ d1 d2, nextDatumTop cfg s1 = .ok d1 s1' → nextDatumTop cfg s2 = .ok d2 s2' →
      d1 = d2 ∧ Same s1' s2') ∧
    (∀ d1 d2, expectDatum cfg s1 = .ok d1 s1' → expectDatum cfg s2 = .ok d2 s2' →
      d1 = d2 ∧ Same s1' s2') ∧
    (∀ d1 d2, fromTraitDatum cfg s1 = .ok d1 s1' → fromTraitDatum cfg s2 = .ok d2 s2' →
      d1 = d2 ∧ Same s1' s2') :=
  ⟨fun fuel _ _ h1 h2 => (datum_rels cfg fuel).1 s1 s2 hs _ _ _ _ h1 h2,
   fun _ _ h1 h2 => nextDatumTop_rel s1 s2 hs _ _ _ _ h1 h2,
   fun _ _ h1 h2 => expectDatum_rel s1 s2 hs _ _ _ _ h1 h2,
   fun _ _ h1 h2 => fromTraitDatum_rel s1 s2 hs _ _ _ _ h1 h2⟩

theorem same_initSt (m1 m2 : Mode) (input : List UInt8) (f1 f2 : Bool) :
    Same (initSt m1 input f1) (initSt m2 input f2) := ⟨rfl, rfl, rfl⟩

example :
    topSpan (nextDatum exCfg 20 (initSt .io (asc "\n '\"" ++ [0xCE, 0xBB] ++ asc "\" x"))) =
      some ⟨⟨2, 1⟩, ⟨2, 6⟩⟩ ∧
    topSpan (nextDatum exCfg 20 (initSt .str (asc "\n '\"" ++ [0xCE, 0xBB] ++ asc "\" x"))) =
      some ⟨⟨2, 1⟩, ⟨2, 6⟩⟩ := by
  decide +kernel

/-- **C11_well_nested**: the value-aware form of `C11_children_inside`, with the input: every
    datum returned by `next_datum` from a state that is `At input` is `WellNested (Real input)` —
    its value has the shape of its span tree; a final cdr other than `Null` (a dotted tail)
    carries a non-empty span after the last element and within the list; and the span of the datum
    and of every element, at every depth, is real in `input`: it is `⟨posOf p, posOf q⟩` for two
    prefixes `p ≤ q` of `input` (so it lies inside the input and converts back to byte offsets).
    This is what the statements about the iterators below start from. -/
theorem C11_well_nested (cfg : Cfg) (fuel : Nat) (s s' : St) (d : Datum) (input : List UInt8)
    (h : nextDatum cfg fuel s = .ok (some d) s') (hat : At input s) :
    Real input d.info.span ∧ WellNested (Real input) d :=
  (datumOK_of_track (base := ⟨1, 0⟩) (whole := input) (fun _ _ => real_of_at) hat h).inside

example : ∃ d s', nextDatum exCfg 30 (initSt .io (asc "(a . b)")) = .ok (some d) s' :=
  okSome_elim (by decide +kernel)

/-- **C11_list_iter_spans**: iterating `Datum::list_iter` over a well-nested datum never hits the
    "badly shaped list span information" `expect`, and the datums it yields (the elements, and a
    dotted tail as the last one) have non-empty spans inside the datum's span, each starting at or
    after the stop of the one before, each satisfies `R` (with `R = Real input`: is a pair of
    positions of prefixes of the input) and each is well nested again (so the statement applies
    recursively to every reachable sub-datum). -/
theorem C11_list_iter_spans (R : Span → Prop) (d : Datum) (h : WellNested R d) (c : DCursor)
    (hc : d.listIter = some c) (n : Nat) :
    ∃ l, takeN n c = some l ∧ Siblings R d.info.span d.info.span.start (l.filterMap id) :=
  CurOK.take n _ c (listIter_curOK h hc)

example : iterLen (nextDatum exCfg 30 (initSt .io (asc "(a 'b . c)"))) = some 5 := by
  decide +kernel

/-- **C11_vector_iter_spans**: the same for `Datum::vector_iter`: the datums it yields have
    non-empty, ordered, non-overlapping spans inside the vector's span, and each is well nested. -/
theorem C11_vector_iter_spans (R : Span → Prop) (d : Datum) (h : WellNested R d) (l : List Datum)
    (hv : d.vectorIter = some l) : Siblings R d.info.span d.info.span.start l := by
  rcases d with ⟨v, i⟩
  unfold WellNested at h
  cases v <;> cases i <;> simp [Datum.vectorIter] at hv
  subst hv
  simp only at h ⊢
  rw [insideV_vec] at h
  obtain ⟨vs, hvs, h⟩ := h
  cases hvs
  exact (elemsV_siblings _ _ _ h).1

example : ∃ d s', nextDatum exCfg 30 (initSt .slice (asc "#(a (b) \"c\")")) = .ok (some d) s' :=
  okSome_elim (by decide +kernel)

/-- **C11_quote_head_span**: when the text of a datum starts with a quote shorthand (`'`, `` ` ``, `,@`,
    or `,` not followed by `@`), `next_datum` returns `Datum::quotation` of the quoted datum with
    the head span covering exactly the shorthand characters: it runs from `posOf p` (where the
    datum starts) to `posOf (p ++ shorthand)`.  (By `C11_quote_head`/`C11_quote_span` of
    Props/C11.lean the whole datum then runs from `posOf p` to the end of the quoted datum, which
    keeps its own span tree.) -/
theorem C11_quote_head_span (cfg : Cfg) (fuel : Nat) (s s' : St) (d : Datum) (input : List UInt8)
    (h : nextDatum cfg fuel s = .ok (some d) s') (hat : At input s) (q : Quote) (x : List UInt8)
    (htext : s.rd.rest.drop (wsLen s.rd.rest) = q.shorthand ++ x)
    (hq : q = .unquote → x.head? ≠ some 64) :
    ∃ p dq, p <+: input ∧
      (∃ pre, pre ++ s.rd.rest = input ∧ p = pre ++ s.rd.rest.take (wsLen s.rd.rest)) ∧
      d = Datum.quotation q dq ⟨posOf p, posOf (p ++ q.shorthand)⟩ := by
  obtain ⟨s1, pk, tok, s2, hm1, hrest, hpk, htok, hd⟩ := quotation_inv h
  have hs1 : s1.rd.rest = q.shorthand ++ x := hrest.trans htext
  have hpk' : pk = (q.shorthand ++ x).head?.getD 0 := by rw [← hs1, hpk]; rfl
  obtain ⟨htq, hx⟩ :=
    (quote_token_tri cfg (s1.rd.rest.length + 1) q x s1 hs1 hq).ok (hpk' ▸ htok)
  obtain ⟨dq, hdq⟩ := hd q htq
  obtain ⟨pre, hin, hpos⟩ := hat
  have hp1 : s1.rd.position = posOf (pre ++ s.rd.rest.take (wsLen s.rd.rest)) := by
    rw [hm1.reach.pos_of_drop hrest (wsLen_le _).1, hpos, posOf_append]
  obtain ⟨mid2, e2, p2⟩ : Reach s1 s2 :=
    (parseToken_inv (I := Reach s1)).endsIn (Reach.refl s1) (.inl ⟨_, htok⟩)
  have hmid2 : mid2 = q.shorthand := by
    rw [hs1, hx] at e2
    exact List.append_cancel_right e2
  have hp2 : s2.rd.position =
      posOf (pre ++ s.rd.rest.take (wsLen s.rd.rest) ++ q.shorthand) := by
    rw [p2, hp1, hmid2]
    exact (posOf_append _ _).symm
  refine ⟨pre ++ s.rd.rest.take (wsLen s.rd.rest), dq,
    ⟨s1.rd.rest, by rw [List.append_assoc, hrest, List.take_append_drop, hin]⟩,
    ⟨pre, hin, rfl⟩, ?_⟩
  rw [hdq, hp1, hp2]

example : (initSt .io (asc " ,@x")).rd.rest.drop (wsLen (initSt .io (asc " ,@x")).rd.rest) =
    Quote.unquoteSplicing.shorthand ++ asc "x" := by decide
example : topCarSpans (nextDatum exCfg 9 (initSt .io (asc " ,@x"))) =
    [⟨⟨1, 1⟩, ⟨1, 3⟩⟩, ⟨⟨1, 3⟩, ⟨1, 4⟩⟩, ⟨⟨1, 4⟩, ⟨1, 4⟩⟩] := by decide +kernel

theorem twin_initSt (m1 m2 : Mode) (input : List UInt8) (faulty : Bool)
    (h : m1 = .str ↔ m2 = .str) : Twin (initSt m1 input faulty) (initSt m2 input faulty) :=
  ⟨rfl, rfl, rfl, rfl, rfl, h⟩

/-- **C11_sources_slice_io**: the byte-slice source and the stream source are interchangeable.
    From twin states (same unread input, position, `faulty`, depth; neither source a `&str`, or
    both) `next_datum` and the public entry points have the same outcome on both sides: the same
    datum — value and the whole span tree — and twin final states; or errors with the same code
    (only the line/column attached to an error may differ) and twin final states; or the same
    panic.  In particular one side returns a datum exactly when the other does, with identical
    spans.  (Between `&str` and the other two sources, which differ in UTF-8 validation,
    `C11_sources` gives the same conclusion whenever both sides succeed.) -/
theorem C11_sources_slice_io (cfg : Cfg) (s1 s2 : St) (h : Twin s1 s2) :
    (∀ fuel, ResSim Eq (nextDatum cfg fuel s1) (nextDatum cfg fuel s2)) ∧
    ResSim Eq (nextDatumTop cfg s1) (nextDatumTop cfg s2) ∧
    ResSim Eq (expectDatum cfg s1) (expectDatum cfg s2) ∧
    ResSim Eq (fromTraitDatum cfg s1) (fromTraitDatum cfg s2) ∧
    (∀ fuel d s1', nextDatum cfg fuel s1 = .ok d s1' →
      ∃ s2', nextDatum cfg fuel s2 = .ok d s2' ∧ Twin s1' s2') := by
  have sim {α : Type} {m : P α} (hm : PRel Twin sameCode Eq m m) : ResSim Eq (m s1) (m s2) :=
    srelV_iff.2 hm s1 s2 h
  refine ⟨fun fuel => sim (Gen.nextDatum cfg fuel), sim (Gen.nextDatumTop cfg),
    sim (Gen.expectDatum cfg), sim (Gen.fromTraitDatum cfg), ?_⟩
  intro fuel d s1' h1
  have := sim (Gen.nextDatum cfg fuel)
  rw [h1] at this
  cases h2 : nextDatum cfg fuel s2 <;> rw [h2] at this <;> simp only [ResSim] at this
  obtain ⟨rfl, ht⟩ := this
  exact ⟨_, rfl, ht⟩

example : Twin (initSt .slice (asc "(a . b)")) (initSt .io (asc "(a . b)")) :=
  twin_initSt _ _ _ _ (by decide)

end Spans
end Parse
end Lexpr
