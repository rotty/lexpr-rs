/-
  The first byte of a token decides which arm of `parse_token` runs.  `tokClass` names the sixteen
  arms, `tokArm` is the program of each, and `parseToken_eq` is the dispatch: what a file wants to
  know of one arm it reads off this equation.
-/
import LexprModel.Parse
import LexprModel.Proofs.Built
namespace Lexpr
namespace Parse

/-- the arms of `parse_token`, in source order -/
inductive TokClass where
  | hash | minus | plus | digit | dquote | lparen | lbracket | colon | alpha | qmark
  | quote | quasi | comma | hi | ext | other
  deriving DecidableEq

/-- which arm the peeked byte selects (`?` is classified without looking at the options) -/
def tokClass (b : UInt8) : TokClass :=
  if b == 35 then .hash else if b == 45 then .minus else if b == 43 then .plus
  else if isDigit b then .digit else if b == 34 then .dquote else if b == 40 then .lparen
  else if b == 91 then .lbracket else if b == 58 then .colon else if isAsciiAlpha b then .alpha
  else if b == 63 then .qmark else if b == 39 then .quote else if b == 96 then .quasi
  else if b == 44 then .comma else if b > 127 then .hi else if isSymbolExtended b then .ext
  else .other

/-- `#c…` once `#` and `c` have been consumed -/
def hashTail (cfg : Cfg) (fuel : Nat) (c : UInt8) : P Token :=
  if c == 116 then pure (.bool true)
  else if c == 102 then pure (.bool false)
  else if c == 110 then do expectIdent (asc "il"); pure .nil
  else if c == 40 then pure (.vecOpen 41)
  else if c == 58 && cfg.opts.kwOctothorpe then do
    let name ← parseSymbolBytes []
    pure (.keyword name)
  else if c == 118 then do expectIdent (asc "u8"); pure (.byteVecOpen 41)
  else if c == 117 then do expectIdent (asc "8"); pure (.byteVecOpen 41)
  else if c == 98 then do let n ← parseRadixToken cfg fuel 2; pure (.number n)
  else if c == 111 then do let n ← parseRadixToken cfg fuel 8; pure (.number n)
  else if c == 100 then do let n ← parseRadixToken cfg fuel 10; pure (.number n)
  else if c == 120 then do let n ← parseRadixToken cfg fuel 16; pure (.number n)
  else if c == 92 then do let ch ← parseR6rsChar fuel; pure (.char ch)
  else if c == 37 && cfg.opts.racket then do
    let name ← parseSymbolBytes (asc "#%")
    pure (.symbol name)
  else peekErr .expectedSomeIdent

def hashArm (cfg : Cfg) (fuel : Nat) : P Token := do
  discard
  match (← next) with
  | none => peekErr .eofValue
  | some c => hashTail cfg fuel c

def symArm (o : Options) (scratch : List UInt8) : P Token := do
  let name ← parseSymbolBytes scratch
  pure (symbolToken o name)

theorem symbolToken_cases (o : Options) (name : List UInt8) :
    symbolToken o name = .symbol name ∨ symbolToken o name = .keyword name.dropLast := by
  unfold symbolToken
  split
  · exact .inr rfl
  · exact .inl rfl

/-- the leading-digit path: the token is read as a symbol and re-read as a number -/
def wholeArm (cfg : Cfg) : P Token := do
  let sym ← parseSymbolBytes []
  match wholeNumber cfg sym with
  | some n => pure (.number n)
  | none => pure (symbolToken cfg.opts sym)

def numArm (cfg : Cfg) (fuel : Nat) (pos : Bool) : P Token := do
  let n ← parseNumToken cfg fuel pos
  pure (.number n)

def stringArm (syn : StringSyntax) (fuel : Nat) : P Token := do
  discard
  match syn with
  | .r6rs => do
    let s ← parseR6rsStr fuel []
    pure (.string s)
  | .elisp => do
    match (← parseElispStr fuel [] false false false) with
    | .multibyte s => pure (.string s)
    | .unibyte b => pure (.bytes b)

def punct (t : Token) : P Token := do discard; pure t

def bracketTok (b : Brackets) : Token :=
  match b with | .vector => .vecOpen 93 | .list => .listOpen 93

def colonArm (o : Options) : P Token :=
  if o.kwPrefix then do
    discard
    let name ← parseSymbolBytes []
    pure (.keyword name)
  else symArm o []

/-- the letter arm after the name has been read -/
def letterTail (o : Options) (name : List UInt8) : P Token :=
  if o.kwPostfix && name.getLast? == some 58 then pure (.keyword name.dropLast)
  else if o.nil != .default && name == asc "nil" then
    match o.nil with
    | .emptyList => pure .null
    | .special => pure .nil
    | .default => panicAt .unreachable
  else if o.t != .default && name == asc "t" then
    match o.t with
    | .true_ => pure (.bool true)
    | .default => panicAt .unreachable
  else pure (.symbol name)

/-- Closed form of what a letter-initial name reads as (all option sets). -/
def letterTok (o : Options) (name : List UInt8) : Token :=
  if o.kwPostfix = true ∧ name.getLast? = some 58 then .keyword name.dropLast
  else if o.nil ≠ .default ∧ name = asc "nil" then
    (match o.nil with | .emptyList => .null | _ => .nil)
  else if o.t ≠ .default ∧ name = asc "t" then .bool true
  else .symbol name

/-- the `unreachable!()` arms of the letter arm are never reached -/
theorem letterTail_pure (o : Options) (name : List UInt8) :
    letterTail o name = pure (letterTok o name) := by
  unfold letterTail letterTok
  simp only [Bool.and_eq_true, beq_iff_eq, bne_iff_ne, ne_eq]
  split
  · rfl
  · split
    · rename_i h; cases hn : o.nil <;> first | rfl | exact absurd hn h.1
    · split
      · rename_i h; cases ht : o.t <;> first | rfl | exact absurd ht h.1
      · rfl

def letterArm (o : Options) : P Token := parseSymbolBytes [] >>= letterTail o

def charArm (fuel : Nat) : P Token := do
  discard
  let c ← parseElispChar fuel
  pure (.char c)

def commaArm : P Token := do
  discard
  let c ← peekOrNull
  if c == 64 then do discard; pure (.quotation .unquoteSplicing)
  else pure (.quotation .unquote)

/-- number of continuation bytes `decode_utf8_sequence` reads after the initial byte -/
def seqLen (initial : UInt8) : Option Nat :=
  if 0xC0 ≤ initial && initial ≤ 0xDF then some 1
  else if 0xE0 ≤ initial && initial ≤ 0xF7 then some ((initial.toNat - 0xC0) / 16)
  else none

def hiArm (cfg : Cfg) (pk : UInt8) : P Token := do
  discard
  let (c, bytes) ← decodeUtf8Sequence pk
  if !cfg.isAlphabetic c then peekErr .expectedSomeValue
  else symArm cfg.opts bytes

def tokArm (cfg : Cfg) (fuel : Nat) (pk : UInt8) : TokClass → P Token
  | .hash => hashArm cfg fuel
  | .minus => parseSignToken cfg fuel 45 false
  | .plus => parseSignToken cfg fuel 43 true
  | .digit => if cfg.opts.leadingDigit then wholeArm cfg else numArm cfg fuel true
  | .dquote => stringArm cfg.opts.string fuel
  | .lparen => punct (.listOpen 41)
  | .lbracket => punct (bracketTok cfg.opts.brackets)
  | .colon => colonArm cfg.opts
  | .alpha => letterArm cfg.opts
  | .qmark => if cfg.opts.char == .elisp then charArm fuel else symArm cfg.opts []
  | .quote => punct (.quotation .quote)
  | .quasi => punct (.quotation .quasiquote)
  | .comma => commaArm
  | .hi => hiArm cfg pk
  | .ext => symArm cfg.opts []
  | .other => PrefixDet.badByte

/-- the tokens that are fixed words: their text and what they read as -/
def fixedTok (o : Options) : List (List UInt8 × Token) :=
  [([40], .listOpen 41), ([91], bracketTok o.brackets), ([39], .quotation .quote),
   ([96], .quotation .quasiquote), ([44], .quotation .unquote), ([44, 64], .quotation .unquoteSplicing),
   ([35, 116], .bool true), ([35, 102], .bool false), ([35, 40], .vecOpen 41),
   (35 :: 110 :: asc "il", .nil), (35 :: 118 :: asc "u8", .byteVecOpen 41),
   (35 :: 117 :: asc "8", .byteVecOpen 41)]

theorem fixedTok_mem {o : Options} (i : Nat) {p : List UInt8 × Token} (h : (fixedTok o)[i]? = some p) :
    p ∈ fixedTok o := List.mem_of_getElem? h

/-- one step of the dispatch: both sides test the same condition -/
theorem ite_arm {α β : Type} {c : Prop} [Decidable c] {f : α → β} {a a' : α} {x y : β}
    (h1 : x = f a) (h2 : ¬c → y = f a') : (if c then x else y) = f (if c then a else a') := by
  split
  · exact h1
  · exact h2 ‹_›

/-- The two cascades test the same conditions in the same order, except that `parse_token` asks for
    `?` and Emacs Lisp characters at once, so that `?` under R6RS characters falls through to the
    extended-symbol arm. -/
theorem parseToken_eq (cfg : Cfg) (fuel : Nat) (pk : UInt8) :
    parseToken cfg fuel pk = tokArm cfg fuel pk (tokClass pk) := by
  unfold parseToken tokClass
  refine ite_arm rfl fun _ => ite_arm rfl fun _ => ite_arm rfl fun _ => ite_arm rfl fun _ =>
    ite_arm rfl fun _ => ite_arm rfl fun _ => ite_arm ?_ fun _ => ite_arm rfl fun _ =>
    ite_arm rfl fun _ => ?_
  · show _ = punct _
    cases cfg.opts.brackets <;> rfl
  by_cases h63 : pk = 63
  · subst h63
    simp only [beq_self_eq_true, Bool.true_and, if_true, tokArm]
    refine ite_arm (f := id) rfl fun _ => ?_
    rw [if_neg (by decide), if_neg (by decide), if_neg (by decide), if_neg (by decide),
      if_pos (by decide)]
    rfl
  · have e : (pk == 63) = false := by simpa using h63
    simp only [e, Bool.false_and, Bool.false_eq_true, if_false]
    exact ite_arm rfl fun _ => ite_arm rfl fun _ => ite_arm rfl fun _ => ite_arm rfl fun _ =>
      ite_arm rfl fun _ => rfl

/-- a decidable fact about every byte is checked on the 256 of them
    (`apply byte_forall; decide +kernel`) -/
theorem byte_forall (p : UInt8 → Prop) [DecidablePred p]
    (h : ∀ n : Fin 256, p (UInt8.ofNat n.val)) : ∀ b : UInt8, p b := by
  intro b
  have := h ⟨b.toNat, b.toNat_lt⟩
  simpa using this

/-- the classes whose token is read (or may be read) by `parse_symbol_bytes` from its first byte -/
def TokClass.startsName : TokClass → Bool
  | .minus | .plus | .digit | .colon | .alpha | .qmark | .hi | .ext => true
  | _ => false

/-- the byte table behind the classes: the predicates of `Lex.lean` are disjoint (each is its
    class), no symbol terminator starts a name, and a class of a single byte says which byte -/
theorem tokClass_table : ∀ b : UInt8,
    (tokClass b = .digit ↔ isDigit b = true) ∧ (tokClass b = .alpha ↔ isAsciiAlpha b = true) ∧
    (tokClass b = .hi ↔ b > 127) ∧
    (tokClass b = .ext ↔ isSymbolExtended b = true ∧ b ≠ 58 ∧ b ≠ 63) ∧
    (symTermSlice b = true → (tokClass b).startsName = false) ∧
    (tokClass b = .hash → b = 35) ∧ (tokClass b = .minus → b = 45) ∧ (tokClass b = .plus → b = 43) ∧
    (tokClass b = .dquote → b = 34) ∧ (tokClass b = .lparen → b = 40) ∧
    (tokClass b = .lbracket → b = 91) ∧ (tokClass b = .colon → b = 58) ∧
    (tokClass b = .qmark → b = 63) ∧ (tokClass b = .quote → b = 39) ∧
    (tokClass b = .quasi → b = 96) ∧ (tokClass b = .comma → b = 44) := by
  apply byte_forall; decide +kernel

theorem tokClass_digit {b : UInt8} (h : isDigit b = true) : tokClass b = .digit :=
  (tokClass_table b).1.mpr h
theorem tokClass_alpha {b : UInt8} (h : isAsciiAlpha b = true) : tokClass b = .alpha :=
  (tokClass_table b).2.1.mpr h
theorem tokClass_hi {b : UInt8} (h : b > 127) : tokClass b = .hi := (tokClass_table b).2.2.1.mpr h
theorem tokClass_ext {b : UInt8} (h : isSymbolExtended b = true) (h58 : b ≠ 58) (h63 : b ≠ 63) :
    tokClass b = .ext := (tokClass_table b).2.2.2.1.mpr ⟨h, h58, h63⟩

theorem not_hi_of_tokClass {b : UInt8} (h : tokClass b ≠ .hi) : ¬ b > 127 :=
  fun hh => h (tokClass_hi hh)

theorem not_hi_of_ext {b : UInt8} (he : isSymbolExtended b = true) : ¬ b > 127 := by
  refine not_hi_of_tokClass ?_
  by_cases h58 : b = 58
  · subst h58; decide
  by_cases h63 : b = 63
  · subst h63; decide
  rw [tokClass_ext he h58 h63]; decide

theorem not_alpha_of_ext {b : UInt8} (he : isSymbolExtended b = true) : isAsciiAlpha b = false := by
  cases ha : isAsciiAlpha b
  · rfl
  · have hc := tokClass_alpha ha
    by_cases h58 : b = 58
    · subst h58; cases hc
    by_cases h63 : b = 63
    · subst h63; cases hc
    rw [tokClass_ext he h58 h63] at hc; cases hc

theorem startsName_nonterm {b : UInt8} (h : (tokClass b).startsName = true) :
    symTermSlice b = false := by
  cases ht : symTermSlice b
  · rfl
  · rw [(tokClass_table b).2.2.2.2.1 ht] at h; cases h

theorem ne_of_tokClass {b c : UInt8} (h : tokClass b ≠ tokClass c) : b ≠ c := fun e => h (e ▸ rfl)

end Parse
end Lexpr
