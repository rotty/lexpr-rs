/-
  FloatApproxNum — numeric core of the approximate float round trip.

  * `fast_total`: the fast path of `f64_from_parts` never reports `NumberOutOfRange` for a
    significand below `10^17` and an exponent such that `S * 10^E ≤ f64::MAX` (`InRange S E`).
    Below `17976931348623150e292` by the error analysis (two roundings before the product), above
    it by enumeration of the seven 17-digit decimals that remain.
  * `fast_total_needed`: `17976931348623158e292` — which rounds to `f64::MAX` — is rejected.
  * `parts_close`: if `S * 10^E` rounds to the finite double `B`, `f64_from_parts` returns a finite
    `g` with `|g - B| ≤ 2^-50 * B + 2^-1073` (`closeMag`).
-/
import LexprModel.Proofs.AccuracyLit
namespace Lexpr
namespace FloatApprox
open Parse F64 Numbers Decimals Accuracy

theorem fast_neg_some (pow10 : Nat → Nat) :
    ∀ (fuel f : Nat) (e : Int), e < 0 → ∃ g, fastParts pow10 fuel f e = some g := by
  intro fuel
  induction fuel with
  | zero => intro f e _; exact ⟨f, rfl⟩
  | succ n ih =>
    intro f e he
    by_cases h308 : e.natAbs ≤ 308
    · rw [fast_small _ _ _ h308, if_neg (by omega)]
      exact ⟨_, rfl⟩
    · rw [fast_big _ _ _ h308]
      split
      · exact ⟨_, rfl⟩
      · rw [if_neg (by omega)]
        exact ih _ _ (by omega)

/-- `S * 10^E ≤ f64::MAX`, cross-multiplied -/
def InRange (S : Nat) (E : Int) : Prop := S * 10 ^ E.toNat ≤ maxFin * 10 ^ (-E).toNat

instance (S : Nat) (E : Int) : Decidable (InRange S E) := by unfold InRange; exact inferInstance

/-- below this multiple of `10^292` the error analysis excludes an overflow -/
def kLow : Nat := 17976931348623150

set_option exponentiation.threshold 2048 in
/-- `10^292` under a name: the proofs compare multiples of it and never need its 293 digits -/
def P292 : Nat := 10 ^ 292
set_option exponentiation.threshold 2048 in
/-- `10^309`, likewise -/
def P309 : Nat := 10 ^ 309
set_option exponentiation.threshold 2048 in
/-- `10^291`, likewise -/
def P291 : Nat := 10 ^ 291

set_option exponentiation.threshold 2048 in
theorem pow_le_P291 {E : Nat} (h : E ≤ 291) : 10 ^ E ≤ P291 :=
  Nat.pow_le_pow_right (by decide) h
set_option exponentiation.threshold 2048 in
theorem split292 (S j : Nat) : S * 10 ^ (292 + j) = S * 10 ^ j * P292 := by
  have : 10 ^ (292 + j) = P292 * 10 ^ j := Nat.pow_add 10 292 j
  rw [this]; generalize P292 = a; generalize 10 ^ j = b
  grind
set_option exponentiation.threshold 2048 in
theorem P309_le_pow {E : Nat} (h : 309 ≤ E) : P309 ≤ 10 ^ E :=
  Nat.pow_le_pow_right (by decide) h

theorem rn_finite_rat {n d : Nat} (hd : 0 < d) (h : (n : Rat) / (d : Rat) ≤ (maxFin : Rat)) :
    rn n d < infBits := by
  apply rn_finite hd
  have hdp : (0 : Rat) < (d : Rat) := natCast_pos' hd
  have h1 := Rat.mul_le_mul_of_nonneg_right h (Rat.le_of_lt hdp)
  rw [div_mul_self hd, ← Rat.natCast_mul] at h1
  exact Rat.natCast_le_natCast.mp h1

set_option exponentiation.threshold 2048 in
theorem const_low :
    ((kLow * P292 : Nat) : Rat) * ((1 + u) * (1 + u)) ≤ (maxFin : Rat) := by decide +kernel

set_option exponentiation.threshold 2048 in
/-- the decimals `k * 10^292`, `kLow < k ≤ 17976931348623157`, in each of their spellings
    `S * 10^(292 + j)` -/
theorem top_cases : ∀ i, i < 7 → ∀ j, j < 17 → (kLow + 1 + i) % 10 ^ j = 0 →
    isInf (mulPos (F64.ofNat ((kLow + 1 + i) / 10 ^ j)) (rn (10 ^ (292 + j)) 1)) = false := by
  decide +kernel

set_option exponentiation.threshold 2048 in
theorem maxFin_lt_top : maxFin < (kLow + 8) * P292 := by decide +kernel

set_option exponentiation.threshold 2048 in
theorem ten308_lt_low : 10 ^ 17 * P291 ≤ kLow * P292 := by decide +kernel

set_option exponentiation.threshold 2048 in
theorem maxFin_lt_ten309 : maxFin < P309 := by decide +kernel

/-- the product step of the fast path is finite -/
theorem mul_finite {pow10 : Nat → Nat} (hp : ∀ k, k ≤ 308 → pow10 k = rn (10 ^ k) 1)
    {S : Nat} {E : Nat} (hS0 : 0 < S) (hS : S < 10 ^ 17) (hE : E ≤ 308)
    (hr : S * 10 ^ E ≤ maxFin) : isInf (mulPos (F64.ofNat S) (pow10 E)) = false := by
  by_cases hlow : S * 10 ^ E ≤ kLow * P292
  · -- error analysis
    apply isInf_false_of_lt
    obtain ⟨n, d, hd, h1, h2⟩ := mulPos_rat (F64.ofNat S) (pow10 E)
    rw [h1]
    apply rn_finite_rat hd
    rw [h2]
    have hfin0 : F64.ofNat S < infBits :=
      ofNat_finite (Nat.le_of_lt (Nat.lt_of_lt_of_le hS (by decide)))
    obtain ⟨_, f0hi⟩ := ofNat_err hS0 hfin0
    obtain ⟨_, _, _, phi, _⟩ := tab_facts hp hE
    have hv0 := val_nonneg (F64.ofNat S)
    have hv1 := val_nonneg (pow10 E)
    have hu := one_add_u_pos
    have hT : (0 : Rat) ≤ (10 : Rat) ^ E := Rat.le_trans (by decide) (one_le_ten_pow E)
    have hSr : (0 : Rat) ≤ (S : Rat) := Rat.le_trans (by decide) (natCast_one_le hS0)
    have hb2 : (0 : Rat) ≤ (10 : Rat) ^ E * (1 + u) := Rat.mul_nonneg hT (Rat.le_of_lt hu)
    have s1 : val (F64.ofNat S) * val (pow10 E) ≤ ((S : Rat) * (1 + u)) * ((10 : Rat) ^ E * (1 + u)) :=
      mul_le_mul_nn f0hi phi hv0 hv1
    have hxc : ((S * 10 ^ E : Nat) : Rat) = (S : Rat) * (10 : Rat) ^ E := by
      rw [Rat.natCast_mul, ten_pow_cast]
    have hlowr : ((S * 10 ^ E : Nat) : Rat) ≤ ((kLow * P292 : Nat) : Rat) :=
      Rat.natCast_le_natCast.mpr hlow
    have huu : (0 : Rat) ≤ (1 + u) * (1 + u) := Rat.le_of_lt (Rat.mul_pos hu hu)
    have s2 := Rat.mul_le_mul_of_nonneg_right hlowr huu
    have s3 := const_low
    rw [hxc] at s2
    generalize ((kLow * P292 : Nat) : Rat) = C at *
    generalize (10 : Rat) ^ E = T at *
    generalize val (F64.ofNat S) = a at *
    generalize val (pow10 E) = b at *
    generalize (S : Rat) = s at *
    generalize (maxFin : Rat) = M at *
    grind
  · -- enumeration
    have hlow' : kLow * P292 < S * 10 ^ E := by omega
    have hE292 : 292 ≤ E := by
      apply Nat.not_lt.mp
      intro hlt
      have h1 : 10 ^ E ≤ P291 := pow_le_P291 (by omega)
      have h2 : S * 10 ^ E ≤ 10 ^ 17 * P291 :=
        Nat.mul_le_mul (Nat.le_of_lt hS) h1
      have := ten308_lt_low
      omega
    obtain ⟨j, rfl⟩ : ∃ j, E = 292 + j := ⟨E - 292, by omega⟩
    have hj : j < 17 := by omega
    have hsplit := split292 S j
    rw [hsplit] at hlow' hr
    have hk1 : kLow < S * 10 ^ j := Nat.lt_of_mul_lt_mul_right hlow'
    have hk2 : S * 10 ^ j < kLow + 8 := by
      have := maxFin_lt_top
      exact Nat.lt_of_mul_lt_mul_right (Nat.lt_of_le_of_lt hr this)
    obtain ⟨i, hi⟩ : ∃ i, S * 10 ^ j = kLow + 1 + i := ⟨S * 10 ^ j - (kLow + 1), by omega⟩
    have hi7 : i < 7 := by omega
    have hpos : 0 < 10 ^ j := Nat.pow_pos (by decide)
    have hmod : (kLow + 1 + i) % 10 ^ j = 0 := by rw [← hi]; exact Nat.mul_mod_left _ _
    have hdiv : (kLow + 1 + i) / 10 ^ j = S := by rw [← hi]; exact Nat.mul_div_cancel _ hpos
    have := top_cases i hi7 j hj hmod
    rw [hdiv] at this
    rw [hp _ hE]
    exact this

/-- With a correctly rounded `POW10` table, the fast path returns a double for every significand
    below `10^17` and every exponent with `S * 10^E ≤ f64::MAX`. -/
theorem fast_total {pow10 : Nat → Nat} (hp : ∀ k, k ≤ 308 → pow10 k = rn (10 ^ k) 1)
    {S : Nat} {E : Int} (hS : S < 10 ^ 17) (hr : InRange S E) :
    ∃ g, fastParts pow10 (E.natAbs / 308 + 2) (F64.ofNat S) E = some g := by
  by_cases hS0 : S = 0
  · subst hS0; exact ⟨0, fast_sig_zero _ _ _⟩
  have hS0 : 0 < S := Nat.pos_of_ne_zero hS0
  by_cases he : E < 0
  · exact fast_neg_some _ _ _ _ he
  have hE0 : (-E).toNat = 0 := by omega
  unfold InRange at hr
  rw [hE0, Nat.pow_zero, Nat.mul_one] at hr
  have h308 : E.natAbs ≤ 308 := by
    apply Nat.not_lt.mp
    intro hgt
    have h1 : P309 ≤ 10 ^ E.toNat := P309_le_pow (by omega)
    have h2 : 1 * 10 ^ E.toNat ≤ S * 10 ^ E.toNat := Nat.mul_le_mul_right _ hS0
    have := maxFin_lt_ten309
    omega
  rw [show E.natAbs / 308 + 2 = (E.natAbs / 308 + 1) + 1 from rfl, fast_small _ _ _ h308,
    if_pos (by omega)]
  have hEq : E.toNat = E.natAbs := by omega
  rw [hEq] at hr
  rw [mul_finite hp hS0 hS h308 hr]
  exact ⟨_, rfl⟩

set_option exponentiation.threshold 2048 in
/-- the range condition is needed: `17976931348623158e292` rounds to `f64::MAX` (so a formatter
    writing it would meet `RyuSpec`), exceeds it by less than half an ulp, and is rejected by the
    fast path with the real table -/
theorem fast_total_needed :
    decRn 17976931348623158 292 = 0x7FEFFFFFFFFFFFFF ∧ ¬ InRange 17976931348623158 292 ∧
    fastParts pow10Tab ((292 : Int).natAbs / 308 + 2) (F64.ofNat 17976931348623158) 292 = none ∧
    InRange 17976931348623157 292 ∧ decRn 17976931348623157 292 = 0x7FEFFFFFFFFFFFFF := by
  decide +kernel

def cRel : Rat := 1 / 2 ^ 50
def cAbs : Rat := (2 : Rat) ^ (-1073 : Int)

/-- `|y - x| ≤ 2^-50 * x + 2^-1073` for the magnitudes `x`, `y` -/
def closeMag (x y : Rat) : Prop := x - (cRel * x + cAbs) ≤ y ∧ y ≤ x + (cRel * x + cAbs)

theorem cRel_pos : 0 < cRel := by decide +kernel
theorem cAbs_pos : 0 < cAbs := two_zpow_pos _

theorem closeMag_refl {x : Rat} (hx : 0 ≤ x) : closeMag x x := by
  have := Rat.mul_nonneg (Rat.le_of_lt cRel_pos) hx
  have := cAbs_pos
  constructor <;> grind

/-- from "`B` is the rounding of `x`" and "`g` is within the tight fast-path bound of `x`" to
    "`g` is close to `B`" -/
theorem close_of_bounds {x vB vg : Rat} (hx : 0 ≤ x)
    (hB1 : x * (1 - u) - eta ≤ vB) (hB2 : vB ≤ x * (1 + u) + eta)
    (hg1 : x * (1 - cTight) - aTight ≤ vg) (hg2 : vg ≤ x * (1 + cTight) + aTight) :
    closeMag vB vg := by
  have hrs : (1 - u) * sigma = 1 := rho_sigma
  have hsp := sigma_pos
  have hc : (0 : Rat) ≤ u + cTight := by
    have := u_pos; have := cTight_pos; grind
  have hvB : 0 ≤ vB + eta := by
    have := Rat.mul_nonneg hx (Rat.le_of_lt rho_pos)
    unfold rho at this
    grind
  have hx2 : x ≤ (vB + eta) * sigma := by
    have h := Rat.mul_le_mul_of_nonneg_right (show x * (1 - u) ≤ vB + eta by grind)
      (Rat.le_of_lt hsp)
    have e : x * (1 - u) * sigma = x * ((1 - u) * sigma) := Rat.mul_assoc _ _ _
    rw [e, hrs, Rat.mul_one] at h
    exact h
  have h3 := Rat.mul_le_mul_of_nonneg_left hx2 hc
  -- the two constants are chosen so that these hold
  have k1 : (u + cTight) * sigma ≤ cRel := by decide +kernel
  have h5 : cRel * eta + eta + aTight ≤ cAbs := by decide +kernel
  have h6 := Rat.mul_le_mul_of_nonneg_right k1 hvB
  have e3 : (u + cTight) * ((vB + eta) * sigma) = (u + cTight) * sigma * (vB + eta) := by
    generalize sigma = a; grind
  rw [e3] at h3
  have hcr := cRel_pos
  unfold closeMag
  generalize (u + cTight) * sigma * (vB + eta) = Q at *
  generalize sigma = sg at *
  generalize cRel = cr at *
  generalize cAbs = ca at *
  generalize eta = et at *
  generalize aTight = at' at *
  generalize cTight = ct at *
  generalize u = uu at *
  constructor <;> grind

/-- `S < 10^17`, `S * 10^E` rounds to the finite magnitude `B` (`decRn S E = B < infBits`), and —
    fast build — the table is correctly rounded and `S * 10^E ≤ f64::MAX`: `f64_from_parts`
    succeeds with `±g`, `g` finite and `|g - B| ≤ 2^-50 * B + 2^-1073`; without
    `fast-float-parsing`, `g = B`. -/
theorem parts_close (cfg : Cfg) (pos : Bool) (S : Nat) (E : Int) (B : Nat)
    (hS : S < 10 ^ 17) (hB : decRn S E = B) (hfin : B < infBits)
    (hp : cfg.fast = true → ∀ k, k ≤ 308 → cfg.pow10 k = rn (10 ^ k) 1)
    (hr : cfg.fast = true → InRange S E) :
    ∃ g, (∀ s, f64FromParts cfg pos S E s = .ok (signed pos g) s) ∧ g < infBits ∧
      closeMag (val B) (val g) ∧ (cfg.fast = false → g = B) := by
  have hS64 : S ≤ u64Max := Nat.le_of_lt (Nat.lt_of_lt_of_le hS (by decide))
  have hd : 0 < 10 ^ (-E).toNat := ten_pow_pos _
  have hBerr := rn_err (n := S * 10 ^ E.toNat) hd (by unfold decRn at hB; rw [hB]; exact hfin)
  rw [decRn_quot] at hBerr
  have hBv : val (rn (S * 10 ^ E.toNat) (10 ^ (-E).toNat)) = val B := by
    unfold decRn at hB; rw [hB]
  rw [hBv] at hBerr
  by_cases hfast : cfg.fast = true
  · obtain ⟨g, hg⟩ := fast_total (hp hfast) hS (hr hfast)
    have hok : ∀ s, f64FromParts cfg pos S E s = .ok (signed pos g) s := by
      intro s
      unfold f64FromParts
      rw [if_pos hfast, hg]
      rfl
    by_cases h0 : S = 0
    · subst h0
      rw [fast_sig_zero] at hg
      injection hg with hg; subst hg
      have hB0 : B = 0 := by rw [← hB]; simp [decRn, rn_zero_left]
      subst hB0
      exact ⟨0, hok, by decide, closeMag_refl (val_nonneg 0),
        fun hf => absurd (hfast.symm.trans hf) (by decide)⟩
    · obtain ⟨h3, h4, h5⟩ := C05_accuracy_fast_tight (hp hfast) h0
        (Nat.lt_of_lt_of_le hS (by decide)) hg
      exact ⟨g, hok, h3, close_of_bounds (dec_nonneg S E) hBerr.1 hBerr.2 h4 h5,
        fun hf => absurd (hfast.symm.trans hf) (by decide)⟩
  · have hfast' : cfg.fast = false := by simpa using hfast
    have hok : ∀ s, f64FromParts cfg pos S E s = .ok (signed pos B) s := by
      intro s
      rw [f64FromParts_slow cfg pos S E s hfast', rnDec_eq_all S E hS64, hB,
        isInf_false_of_lt hfin]
      rfl
    exact ⟨B, hok, hfin, closeMag_refl (val_nonneg B), fun _ => rfl⟩

#print axioms fast_total
#print axioms fast_total_needed
#print axioms parts_close

end FloatApprox
end Lexpr
