/-
  Truncation (C19): `next_value`, `parse_list`, `parse_vector` from their datum variants, by the
  rule `TS.map` (`sim_all`, DatumSim.lean: the value functions return the values of the data that
  the datum functions return, and fail in the same way).
-/
import LexprModel.Proofs.TruncDatum
import LexprModel.Proofs.DatumSim
namespace Lexpr
namespace Parse
namespace Trunc
open PrefixDet (Sim ext Scanner digitsLen scan ext_rest ext_consume)

section value
variable {X : Err → Prop} {s : St} {q : List UInt8}

theorem leave_rest (x : St) : ∃ x1, leave x = .ok () x1 ∧ x1.rd.rest = x.rd.rest :=
  ⟨_, rfl, rfl⟩

theorem NotOk.map {α β : Type} {h : α → β} {r : Res α} (hr : NotOk r) : NotOk (Res.map h r) := by
  cases r with
  | ok a s => exact absurd rfl (hr a s)
  | err e s => exact NotOk.err
  | panic p => exact NotOk.panic
  | fuel => exact NotOk.fuel

/-- `TS` for programs that differ from `m`, `m'` only in the values they return -/
theorem TS.map {α β : Type} {h : α → β} {m m' : P α} {M M' : P β} {Q : α → St → Res α → Prop}
    {Q' : β → St → Res β → Prop} (hM : MapSim h m M) (hM' : MapSim h m' M')
    (hQ : ∀ a s1 r, Q a s1 r → Q' (h a) s1 (Res.map h r)) (ht : TS X Q m m' s q) :
    TS X Q' M M' s q := by
  unfold TS at ht ⊢
  rw [← hM s, ← hM' (ext q s)]
  cases hm : m s with
  | ok a s1 =>
    rw [hm] at ht
    exact ⟨ht.1, ht.2.imp (fun hin => by rw [hin]; rfl) (fun ⟨h0, hq⟩ => ⟨h0, hQ _ _ _ hq⟩)⟩
  | err e s1 =>
    rw [hm] at ht
    exact ht.imp_right (Or.imp_right NotOk.map)
  | panic p => trivial
  | fuel => trivial

theorem EO.map {α β : Type} {h : α → β} {m : P α} {M : P β} {Pa : α → St → Prop}
    {Pb : β → St → Prop} (hM : MapSim h m M) (hP : ∀ a s1, Pa a s1 → Pb (h a) s1)
    (he : EO X m s Pa) : EO X M s Pb := by
  unfold EO at he ⊢
  rw [← hM s]
  cases hm : m s with
  | ok a s1 => rw [hm] at he; exact ⟨he.1, hP _ _ he.2⟩
  | err e s1 => rw [hm] at he; exact he
  | panic p => trivial
  | fuel => trivial

theorem value_ts (cfg : Cfg) (hq : q ≠ []) (hB : ∀ l k, X (.syntax .numberOutOfRange l k))
    (f f' : Nat) (h : f ≤ f') :
    (∀ s, TS X QT (nextValue cfg f) (nextValue cfg f') s q) ∧
    (∀ s term acc, TS X QF (parseList cfg f term acc) (parseList cfg f' term acc) s q) ∧
    (∀ s term acc, TS X QF (parseVector cfg f term acc) (parseVector cfg f' term acc) s q) := by
  obtain ⟨hd, hl, hv⟩ := datum_ts cfg hq hB f f' h
  obtain ⟨sd, sl, sv⟩ := sim_all cfg f
  obtain ⟨sd', sl', sv'⟩ := sim_all cfg f'
  exact ⟨fun s => (hd s).map sd sd' (fun _ _ _ _ => trivial),
    fun s term acc => (hl s term acc []).map (sl term acc []) (sl' term acc []) (fun _ _ _ h => h),
    fun s term acc => (hv s term acc []).map (sv term acc []) (sv' term acc []) (fun _ _ _ h => h)⟩

theorem nextValue_eo {cfg : Cfg} {f : Nat} (h0 : s.rd.rest = []) :
    EO X (nextValue cfg f) s (fun a s1 => a = none ∧ s1.depth = s.depth) :=
  (nextDatum_eo h0).map (sim_all cfg f).1 (fun _ _ ⟨ha, hd⟩ => ⟨ha ▸ rfl, hd⟩)

end value
end Trunc
end Parse
end Lexpr
