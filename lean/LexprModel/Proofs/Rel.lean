/-
  A small relational logic for the parser monad, and the generic part of the proof that two
  input sources agree: every function of the lexer and parser maps related states to related
  results as soon as the primitives listed in `Prims` do: those of `Reader.lean`, `enter`, `leave`,
  `tokenFuel`, `apiFuel` of Parse.lean and `finishStr true` of Lex.lean.  The lexer comes from
  `Built.Logic.of_held`, the parser proper from `Built.PLogic` (the errors that `attempt` captures
  are related by `E`, not equal, and each is thrown again).  The primitives in turn respect every
  relation on states with `Prims.Base` (`Prims.of_base`), and the two that read the mode of the
  source do if the states agree on whether it is a `&str` (`PrimsFull.of_str`).
-/
import LexprModel.Proofs.ParserProg
import LexprModel.Proofs.DatumSim
import LexprModel.Proofs.SymTerm
namespace Lexpr
namespace Parse

def ResRel (S : St → St → Prop) (E : Err → Err → Prop) {α β : Type} (V : α → β → Prop) :
    Res α → Res β → Prop
  | .ok a s, .ok b t => V a b ∧ S s t
  | .err e s, .err e' t => E e e' ∧ S s t
  | .panic p, .panic q => p = q
  | .fuel, .fuel => True
  | _, _ => False

theorem ResRel.mono {S S' : St → St → Prop} {E E' : Err → Err → Prop} {α β : Type}
    {V V' : α → β → Prop} (hS : ∀ s t, S s t → S' s t) (hE : ∀ e e', E e e' → E' e e')
    (hV : ∀ a b, V a b → V' a b) {r₁ : Res α} {r₂ : Res β} (h : ResRel S E V r₁ r₂) :
    ResRel S' E' V' r₁ r₂ := by
  cases r₁ <;> cases r₂ <;> simp only [ResRel] at h ⊢ <;>
    first | exact ⟨hV _ _ h.1, hS _ _ h.2⟩ | exact ⟨hE _ _ h.1, hS _ _ h.2⟩ | exact h

theorem ResRel.of_ok_left {S : St → St → Prop} {E : Err → Err → Prop}
    {α β : Type} {V : α → β → Prop} {a : α} {s : St} {r : Res β}
    (h : ResRel S E V (.ok a s) r) : ∃ b t, r = .ok b t ∧ V a b ∧ S s t := by
  cases r with
  | ok b t => exact ⟨b, t, rfl, h⟩
  | _ => exact h.elim

theorem ResRel.of_ok_right {S : St → St → Prop} {E : Err → Err → Prop}
    {α β : Type} {V : α → β → Prop} {b : β} {t : St} {r : Res α}
    (h : ResRel S E V r (.ok b t)) : ∃ a s, r = .ok a s ∧ V a b ∧ S s t := by
  cases r with
  | ok a s => exact ⟨a, s, rfl, h⟩
  | _ => exact h.elim

structure PRel (S : St → St → Prop) (E : Err → Err → Prop) {α β : Type} (V : α → β → Prop)
    (m₁ : P α) (m₂ : P β) : Prop where
  app : ∀ s t, S s t → ResRel S E V (m₁ s) (m₂ t)

section generic
variable {S : St → St → Prop} {E : Err → Err → Prop} {α β α' β' : Type}
  {V : α → α' → Prop} {W : β → β' → Prop}

theorem PRel.pure' {a : α} {b : α'} (h : V a b) : PRel S E V (pure a : P α) (pure b) := by
  constructor; intro s t hs; exact ⟨h, hs⟩

theorem PRel.bind' {m₁ : P α} {m₂ : P α'} {f₁ : α → P β} {f₂ : α' → P β'}
    (hm : PRel S E V m₁ m₂) (hf : ∀ a b, V a b → PRel S E W (f₁ a) (f₂ b)) :
    PRel S E W (m₁ >>= f₁) (m₂ >>= f₂) := by
  constructor; intro s t h
  have := hm.app s t h
  show ResRel S E W (P.bind m₁ f₁ s) (P.bind m₂ f₂ t)
  unfold P.bind
  cases h1 : m₁ s <;> cases h2 : m₂ t <;> rw [h1, h2] at this <;> simp only [ResRel] at this ⊢
  · exact (hf _ _ this.1).app _ _ this.2
  · exact this
  · exact this

theorem PRel.pure (a : α) : PRel S E Eq (pure a : P α) (pure a) := PRel.pure' rfl

theorem PRel.bind {m₁ m₂ : P α} {f₁ : α → P β} {f₂ : α → P β'}
    (hm : PRel S E Eq m₁ m₂) (hf : ∀ a, PRel S E W (f₁ a) (f₂ a)) :
    PRel S E W (m₁ >>= f₁) (m₂ >>= f₂) :=
  PRel.bind' hm (fun a _ h => h ▸ hf a)

theorem PRel.panicAt (p : Site) : PRel S E V (panicAt p : P α) (panicAt p) := by
  constructor; intro s t _; exact rfl

theorem PRel.outOfFuel : PRel S E V (outOfFuel : P α) outOfFuel := by
  constructor; intro s t _; exact True.intro

def ExRel (E : Err → Err → Prop) (V : α → α' → Prop) : Except Err α → Except Err α' → Prop
  | .ok a, .ok b => V a b
  | .error e, .error e' => E e e'
  | _, _ => False

theorem PRel.attempt {m₁ : P α} {m₂ : P α'} (hm : PRel S E V m₁ m₂) :
    PRel S E (ExRel E V) (attempt m₁) (attempt m₂) := by
  constructor; intro s t h
  have := hm.app s t h
  unfold Parse.attempt
  cases h1 : m₁ s <;> cases h2 : m₂ t <;> rw [h1, h2] at this <;>
    simp only [ResRel, ExRel] at this ⊢ <;> exact this

/-- `attempt m >>= f`: a captured error is passed on as a value, so the two continuations see
    related errors, not the same one -/
theorem PRel.bind_attempt {m₁ m₂ : P α} {f₁ : Except Err α → P β} {f₂ : Except Err α → P β'}
    (hm : PRel S E Eq m₁ m₂) (hok : ∀ a, PRel S E W (f₁ (.ok a)) (f₂ (.ok a)))
    (herr : ∀ e e', E e e' → PRel S E W (f₁ (.error e)) (f₂ (.error e'))) :
    PRel S E W (Parse.attempt m₁ >>= f₁) (Parse.attempt m₂ >>= f₂) := by
  refine PRel.bind' (PRel.attempt hm) fun r₁ r₂ hr => ?_
  cases r₁ <;> cases r₂ <;> simp only [ExRel] at hr
  · exact herr _ _ hr
  · exact hr ▸ hok _

/-- related runs stay related when the spans are forgotten (`m₁`, `m₂` the datum readers,
    `M₁`, `M₂` the value readers) -/
theorem PRel.map {h : α → β} {m₁ m₂ : P α} {M₁ M₂ : P β} (h₁ : MapSim h m₁ M₁)
    (h₂ : MapSim h m₂ M₂) (hm : PRel S E Eq m₁ m₂) : PRel S E Eq M₁ M₂ := by
  constructor; intro s t hst
  have := hm.app s t hst
  rw [← h₁ s, ← h₂ t]
  cases h1 : m₁ s <;> cases h2 : m₂ t <;> rw [h1, h2] at this <;> simp only [ResRel] at this ⊢ <;>
    first | exact ⟨congrArg h this.1, this.2⟩ | exact this

theorem PRel.errK {e e' : Err} (h : E e e') :
    PRel S E Eq (liftExcept (.error e) : P α) (liftExcept (.error e')) :=
  ⟨fun _ _ hs => ⟨h, hs⟩⟩

end generic

/-- The reader primitives respect the relation `S` on states (errors related by `E`). -/
class Prims (S : St → St → Prop) (E : Err → Err → Prop) : Prop where
  peek : PRel S E Eq peek peek
  next : PRel S E Eq next next
  discard : PRel S E Eq discard discard
  consumeN : ∀ n, PRel S E Eq (consumeN n) (consumeN n)
  getRest : PRel S E Eq getRest getRest
  getPos : PRel S E Eq getPos getPos
  tokenFuel : PRel S E Eq tokenFuel tokenFuel
  apiFuel : PRel S E Eq apiFuel apiFuel
  errAt : ∀ {α : Type} (c : Code), PRel S E Eq (errAt c : P α) (errAt c)
  peekErr : ∀ {α : Type} (c : Code), PRel S E Eq (peekErr c : P α) (peekErr c)
  enter : PRel S E Eq enter enter
  leave : PRel S E Eq leave leave
  /-- `as_str` when both sources validate -/
  finishChecked : ∀ bytes, PRel S E Eq (finishStr true bytes) (finishStr true bytes)
  peekPosE : ∀ {s t : St} (c : Code), S s t →
    E (.syntax c s.rd.peekPosition.line s.rd.peekPosition.col)
      (.syntax c t.rd.peekPosition.line t.rd.peekPosition.col)
  /-- a state is a value in the last arm of `parse_token` -/
  getSt : PRel S E S (fun s => Res.ok s s) (fun s => Res.ok s s)

/-- ... and so do the two places where the `&str` source skips UTF-8 validation. -/
class PrimsFull (S : St → St → Prop) (E : Err → Err → Prop) : Prop extends Prims S E where
  parseSymbolBytes : ∀ scratch, PRel S E Eq (parseSymbolBytes scratch) (parseSymbolBytes scratch)
  finishStr : ∀ checked bytes, PRel S E Eq (finishStr checked bytes) (finishStr checked bytes)

/-- What a relation on states has to satisfy for the reader primitives to respect it: related
    states are at the same point of the same input, agree on `faulty` and on the depth budget, and
    stay related when both consume, record a peeked byte or change the budget.  Of `E` only
    reflexivity is needed, except at `peek_position()`, where the sources differ. -/
structure Prims.Base (S : St → St → Prop) (E : Err → Err → Prop) : Prop where
  rest : ∀ {s t}, S s t → s.rd.rest = t.rd.rest
  faulty : ∀ {s t}, S s t → s.rd.faulty = t.rd.faulty
  depth : ∀ {s t}, S s t → s.depth = t.depth
  position : ∀ {s t}, S s t → s.rd.position = t.rd.position
  refl : ∀ e, E e e
  peekPosE : ∀ {s t} (c : Code), S s t →
    E (.syntax c s.rd.peekPosition.line s.rd.peekPosition.col)
      (.syntax c t.rd.peekPosition.line t.rd.peekPosition.col)
  consume : ∀ {s t}, S s t → ∀ n,
    S { s with rd := s.rd.consume n } { t with rd := t.rd.consume n }
  peeked : ∀ {s t}, S s t →
    S { s with rd := { s.rd with peeked := s.rd.peeked || s.rd.mode == .io } }
      { t with rd := { t.rd with peeked := t.rd.peeked || t.rd.mode == .io } }
  setDepth : ∀ {s t}, S s t → ∀ d, S { s with depth := d } { t with depth := d }

section base
variable {S : St → St → Prop} {E : Err → Err → Prop} (h : Prims.Base S E)
include h

theorem Prims.Base.errAt {α : Type} (c : Code) :
    PRel S E Eq (Parse.errAt c : P α) (Parse.errAt c) :=
  ⟨fun _ _ hs => ⟨h.position hs ▸ h.refl _, hs⟩⟩

/-- `finishStr true` asks for the mode and does not use it -/
theorem Prims.Base.finishChecked (bytes : List UInt8) :
    PRel S E Eq (Parse.finishStr true bytes) (Parse.finishStr true bytes) := by
  unfold Parse.finishStr
  refine PRel.bind' (V := fun _ _ => True) ⟨fun _ _ hs => ⟨trivial, hs⟩⟩ fun _ _ _ => ?_
  simp only [Bool.not_true, Bool.false_and, Bool.false_eq_true, if_false]
  exact ite_rel (.pure _) (h.errAt _)

theorem Prims.of_base : Prims S E where
  peek := ⟨fun s t hs => by
    unfold Parse.peek
    rw [← h.rest hs, ← h.faulty hs]
    cases hr : s.rd.rest with
    | nil =>
      cases s.rd.faulty
      · exact ⟨rfl, hs⟩
      · exact ⟨h.refl _, hs⟩
    | cons b bs => exact ⟨rfl, h.peeked hs⟩⟩
  next := ⟨fun s t hs => by
    unfold Parse.next
    rw [← h.rest hs, ← h.faulty hs]
    cases hr : s.rd.rest with
    | nil =>
      cases s.rd.faulty
      · exact ⟨rfl, hs⟩
      · exact ⟨h.refl _, hs⟩
    | cons b bs => exact ⟨rfl, h.consume hs 1⟩⟩
  discard := ⟨fun s t hs => by
    unfold Parse.discard
    rw [← h.rest hs]
    cases hr : s.rd.rest with
    | nil => exact rfl
    | cons b bs => exact ⟨rfl, h.consume hs 1⟩⟩
  consumeN n := ⟨fun _ _ hs => ⟨rfl, h.consume hs n⟩⟩
  getRest := ⟨fun _ _ hs => ⟨h.rest hs, hs⟩⟩
  getPos := ⟨fun _ _ hs => ⟨h.position hs, hs⟩⟩
  tokenFuel := ⟨fun _ _ hs => ⟨congrArg (·.length + 1) (h.rest hs), hs⟩⟩
  apiFuel := ⟨fun _ _ hs => ⟨congrArg (2 * ·.length + 4) (h.rest hs), hs⟩⟩
  errAt := h.errAt
  peekErr c := ⟨fun _ _ hs => ⟨h.peekPosE c hs, hs⟩⟩
  enter := ⟨fun s t hs => by
    unfold Parse.enter
    rw [← h.depth hs]
    split
    · exact rfl
    · split
      · exact ⟨h.peekPosE _ hs, hs⟩
      · exact ⟨rfl, h.setDepth hs _⟩⟩
  leave := ⟨fun _ _ hs => ⟨rfl, h.depth hs ▸ h.setDepth hs _⟩⟩
  finishChecked := h.finishChecked
  peekPosE := h.peekPosE
  getSt := ⟨fun _ _ hs => ⟨hs, hs⟩⟩

end base

section lexer
variable {S : St → St → Prop} {E : Err → Err → Prop}

open PrefixDet (scan) in
theorem PRel.scan [Prims S E] (g : List UInt8 → Nat) : PRel S E Eq (scan g) (scan g) :=
  show PRel S E Eq (getRest >>= fun r => consumeN (g r) >>= fun _ => Pure.pure (r.take (g r))) _ from
    .bind Prims.getRest fun _ => .bind (Prims.consumeN _) fun _ => .pure _

/-- The two places where the mode of the source is read ask only whether it is a `&str`: they
    respect a relation whose states agree on that. -/
theorem PrimsFull.of_str [Prims S E]
    (hm : ∀ s t, S s t → (s.rd.mode == .str) = (t.rd.mode == .str)) : PrimsFull S E :=
  have gm : PRel S E (fun m₁ m₂ : Mode => (m₁ == .str) = (m₂ == .str)) getMode getMode :=
    ⟨fun s t h => ⟨hm s t h, h⟩⟩
  { parseSymbolBytes := fun scratch => by
      rw [PrefixDet.parseSymbolBytes_eq]
      refine PRel.bind' gm fun m₁ m₂ h => ?_
      rw [funext (symLen_mode m₁ m₂), h]
      refine PRel.bind (PRel.scan _) fun tk => PRel.bind Prims.peek fun nxt => ?_
      repeat' first
        | exact PRel.pure _
        | exact Prims.errAt _
        | refine ite_rel ?_ ?_
    finishStr := fun checked bytes => by
      unfold Parse.finishStr
      refine PRel.bind' gm fun m₁ m₂ h => ?_
      rw [h]
      repeat' first
        | exact PRel.pure _
        | exact Prims.errAt _
        | refine ite_rel ?_ ?_ }

theorem PRel.badByte [Prims S E] : PRel S E Eq PrefixDet.badByte PrefixDet.badByte := by
  apply PRel.bind' Prims.getSt
  intro a b hab
  apply PRel.bind Prims.discard; intro _
  constructor; intro s t h; exact ⟨Prims.peekPosE _ hab, h⟩

/-- Related primitives make `PRel S E Eq` a logic for the programs of the lexer; without
    `PrimsFull`, for those that do not read the mode of the source. -/
theorem PRel.logic [Prims S E] {mode : Prop}
    (full : mode → (∀ scratch, PRel S E Eq (parseSymbolBytes scratch) (parseSymbolBytes scratch)) ∧
      ∀ bytes, PRel S E Eq (finishStr false bytes) (finishStr false bytes)) :
    Built.Logic ⟨False, False, mode⟩ (PRel S E Eq) where
  prim h := by
    cases h with
    | pure a => exact .pure a
    | errAt c => exact Prims.errAt c
    | peekErr c => exact Prims.peekErr c
    | peek => exact Prims.peek
    | next => exact Prims.next
    | discard => exact Prims.discard
    | panicAt p => exact .panicAt p
    | outOfFuel => exact .outOfFuel
    | skipWs => exact .scan _
    | skipDigits => exact .scan _
    | charName => exact .scan _
    | finishChecked bytes => exact Prims.finishChecked bytes
    | badByte => exact .badByte
    | parseSymbolBytes scratch hm => exact (full hm).1 scratch
    | finishUnchecked bytes hm => exact (full hm).2 bytes
  bind := PRel.bind
  outL h := h.elim
  outR h := h.elim

theorem Gen.lex [Prims S E] {c : Bool} {α : Type} {m : P α} (h : Held Kind.blind true c m m) :
    PRel S E Eq m m :=
  (PRel.logic fun hm => hm.elim).of_held h

theorem Gen.nextOrNull [Prims S E] :
    PRel S E Eq (nextOrNull) (nextOrNull) := Gen.lex .nextOrNull
theorem Gen.parseWhitespace [Prims S E] : PRel S E Eq parseWhitespace parseWhitespace :=
  Gen.lex .parseWhitespace
theorem Gen.endSeq [Prims S E] (close : UInt8) : PRel S E Eq (endSeq close) (endSeq close) :=
  Gen.lex (.endSeq close)
theorem Gen.expectEnd [Prims S E] : PRel S E Eq expectEnd expectEnd := Gen.lex .expectEnd
theorem Gen.parseByteList [Prims S E] (cfg : Cfg) (fuel : Nat) (close : UInt8) :
    PRel S E Eq (parseByteList cfg fuel close) (parseByteList cfg fuel close) :=
  Gen.lex (.parseByteList cfg close (.refl fuel))

/-- Related primitives make `PRel S E Eq` a logic for the parser proper as well: the errors that
    the two runs capture are related by `E`, and each is thrown again. -/
theorem PRel.plogic [Prims S E] {mode : Prop}
    (full : mode → (∀ scratch, PRel S E Eq (parseSymbolBytes scratch) (parseSymbolBytes scratch)) ∧
      ∀ bytes, PRel S E Eq (finishStr false bytes) (finishStr false bytes)) :
    Built.PLogic ⟨False, False, mode⟩ (PRel S E Eq) where
  toLogic := PRel.logic full
  getPos := Prims.getPos
  tokenFuel h := .bind Prims.tokenFuel fun n => h n n (.refl n)
  apiFuel h := .bind Prims.apiFuel fun n => h n n (.refl n)
  deeperSeq close _ _ _ _ hm hk :=
    .bind Prims.enter fun _ => .bind_attempt hm
      (fun a => .bind Prims.leave fun _ => .bind_attempt (Gen.endSeq close)
        (fun _ => hk a) fun _ _ he => .errK he)
      fun _ _ he => .bind Prims.leave fun _ => .bind' (PRel.attempt (Gen.endSeq close))
        fun _ _ _ => .errK he
  deeper hm hk :=
    .bind Prims.enter fun _ => .bind_attempt hm (fun a => .bind Prims.leave fun _ => hk a)
      fun _ _ he => .bind Prims.leave fun _ => .errK he

theorem PRel.plogicFull [PrimsFull S E] : Built.PLogic .same (PRel S E Eq) :=
  PRel.plogic fun _ => ⟨PrimsFull.parseSymbolBytes, PrimsFull.finishStr false⟩

theorem Gen.nextValue_all [PrimsFull S E] (cfg : Cfg) : ∀ f,
    PRel S E Eq (nextValue cfg f) (nextValue cfg f) ∧
    (∀ term acc, PRel S E Eq (parseList cfg f term acc) (parseList cfg f term acc)) ∧
    (∀ term acc, PRel S E Eq (parseVector cfg f term acc) (parseVector cfg f term acc)) :=
  fun f => PRel.plogicFull.value_all trivial cfg f f (.refl f)

theorem Gen.nextDatum_all [PrimsFull S E] (cfg : Cfg) : ∀ f,
    PRel S E Eq (nextDatum cfg f) (nextDatum cfg f) ∧
    (∀ term acc ms, PRel S E Eq (parseListMeta cfg f term acc ms) (parseListMeta cfg f term acc ms)) ∧
    (∀ term acc ms, PRel S E Eq (parseVectorMeta cfg f term acc ms) (parseVectorMeta cfg f term acc ms)) :=
  fun f => PRel.plogicFull.datum_all trivial cfg f f (.refl f)

theorem Gen.nextValue [PrimsFull S E] (cfg : Cfg) (f : Nat) : PRel S E Eq (nextValue cfg f) (nextValue cfg f) :=
  (Gen.nextValue_all cfg f).1
theorem Gen.nextDatum [PrimsFull S E] (cfg : Cfg) (f : Nat) : PRel S E Eq (nextDatum cfg f) (nextDatum cfg f) :=
  (Gen.nextDatum_all cfg f).1

end lexer

end Parse
end Lexpr
