/-
  Decimal literals with a fraction and / or an exponent (property C05, second part).

  `Numbers.lean` has the arithmetic core (`rn` theory, the fast path of `f64_from_parts`) and the
  integer literals.  This file adds the scanners `parse_decimal` / `parse_exponent` and their
  loops, ties them to `f64_from_parts`, and writes the five layouts of `ryu` as literals
  (`RyuDec`, `RyuSpec`); `FloatLeaf.lean` reads that text back.
-/
import LexprModel.Proofs.Numbers
import LexprModel.Proofs.AtomRT
namespace Lexpr

namespace ExpOverflow
open Parse

/-- number of exponent digits eaten up to and including the one at which the accumulator `x`
    would leave `i32` (`0` if that never happens) -/
def ovfAt : Nat → List UInt8 → Nat
  | _, [] => 0
  | x, c :: cs =>
    if overflow x 10 (c.toNat - 48) i32Max then 1 else 1 + ovfAt (x * 10 + (c.toNat - 48)) cs

/-- the outcome of `parse_exponent_overflow`: an error at `tErr` (significand non-zero, exponent
    positive) or the value `v` (a signed zero) at `tEnd` -/
def overflowOut {α : Type} (v : α) (sig : Nat) (posExp : Bool) (tErr tEnd : St) : Res α :=
  if (sig != 0 && posExp) = true then (errAt .numberOutOfRange : P α) tErr else .ok v tEnd

end ExpOverflow

namespace Decimals
open Parse F64 Numbers

/-! ## 1. Digit strings -/

/-- Horner value of a string of ASCII digits, starting from `acc`. -/
def dv (acc : Nat) (ds : List UInt8) : Nat := ds.foldl (fun a c => a * 10 + (c.toNat - 48)) acc

theorem decVal_eq_dv (ds : List UInt8) : decVal ds = dv 0 ds := rfl

@[simp] theorem dv_nil (acc : Nat) : dv acc [] = acc := by unfold dv; rw [List.foldl_nil]
@[simp] theorem dv_cons (acc : Nat) (c : UInt8) (ds : List UInt8) :
    dv acc (c :: ds) = dv (acc * 10 + (c.toNat - 48)) ds := by
  unfold dv; rw [List.foldl_cons]

theorem dv_append (acc : Nat) (a b : List UInt8) : dv acc (a ++ b) = dv (dv acc a) b := by
  simp [dv, List.foldl_append]

theorem dv_acc (ds : List UInt8) : ∀ acc, dv acc ds = acc * 10 ^ ds.length + dv 0 ds := by
  induction ds with
  | nil => intro acc; simp
  | cons c ds ih =>
    intro acc
    rw [dv_cons, dv_cons, ih (acc * 10 + (c.toNat - 48)), ih (0 * 10 + (c.toNat - 48))]
    simp only [List.length_cons, Nat.pow_succ]
    generalize 10 ^ ds.length = p
    generalize c.toNat - 48 = d
    grind

def AllDigits (ds : List UInt8) : Prop := ∀ c ∈ ds, isDigit c = true

instance (ds : List UInt8) : Decidable (AllDigits ds) := by unfold AllDigits; exact inferInstance

theorem AllDigits.tail {c : UInt8} {ds : List UInt8} (h : AllDigits (c :: ds)) : AllDigits ds :=
  fun x hx => h x (List.mem_cons_of_mem _ hx)

theorem AllDigits.head {c : UInt8} {ds : List UInt8} (h : AllDigits (c :: ds)) : isDigit c = true :=
  h c List.mem_cons_self

theorem allDigits_replicate (k : Nat) : AllDigits (List.replicate k 48) := by
  intro c hc
  rw [(List.mem_replicate.mp hc).2]; decide

theorem AllDigits.append {a b : List UInt8} (ha : AllDigits a) (hb : AllDigits b) :
    AllDigits (a ++ b) := by
  intro c hc
  rcases List.mem_append.mp hc with h | h
  · exact ha c h
  · exact hb c h

theorem AllDigits.take {a : List UInt8} (ha : AllDigits a) (k : Nat) : AllDigits (a.take k) :=
  fun c hc => ha c (List.mem_of_mem_take hc)

theorem AllDigits.drop {a : List UInt8} (ha : AllDigits a) (k : Nat) : AllDigits (a.drop k) :=
  fun c hc => ha c (List.mem_of_mem_drop hc)

theorem isDigit_val (c : UInt8) (h : isDigit c = true) :
    c.toNat - 48 < 10 ∧ digitVal 10 c = some (c.toNat - 48) :=
  (digitVal10_digit (by simpa [isDigit] using h)).symm

/-! ## 2. One digit fold behind every accumulator

  The integer digits (`intScan`), `shift_in`, the fraction loop and the exponent accumulator all
  feed decimal digits to an accumulator until `overflow!` fires.  `keep` is that fold on digit
  values; each loop is `keep` on its own digit list (`shiftIn_keep`, `fracScan_keep`, `intScan_keep`,
  `ovfAt_keep`), and what is kept and what is lost is said once (`keep_spec`, `keep_interval`). -/

/-- Horner value of a list of digit values -/
def hv (acc : Nat) (ds : List Nat) : Nat := ds.foldl (fun a d => a * 10 + d) acc

@[simp] theorem hv_nil (acc : Nat) : hv acc [] = acc := rfl
@[simp] theorem hv_cons (acc d : Nat) (ds : List Nat) : hv acc (d :: ds) = hv (acc * 10 + d) ds := rfl

theorem hv_append (acc : Nat) (a b : List Nat) : hv acc (a ++ b) = hv (hv acc a) b :=
  List.foldl_append

theorem hv_zeros (acc z : Nat) : hv acc (List.replicate z 0) = acc * 10 ^ z := by
  induction z generalizing acc with
  | zero => simp
  | succ z ih => rw [List.replicate_succ, hv_cons, ih, Nat.add_zero, Nat.pow_succ', Nat.mul_assoc]

theorem hv_interval : ∀ (r : List Nat) (a : Nat), (∀ d ∈ r, d < 10) →
    a * 10 ^ r.length ≤ hv a r ∧ hv a r < (a + 1) * 10 ^ r.length := by
  intro r
  induction r with
  | nil => intro a _; simp
  | cons x r ih =>
    intro a hd
    have hx : x < 10 := hd x (by simp)
    obtain ⟨h1, h2⟩ := ih (a * 10 + x) (fun d hd' => hd d (by simp [hd']))
    simp only [hv_cons, List.length_cons, Nat.pow_succ]
    have e1 : a * (10 ^ r.length * 10) = a * 10 * 10 ^ r.length := by
      rw [Nat.mul_comm (10 ^ r.length) 10, Nat.mul_assoc]
    have e2 : (a + 1) * (10 ^ r.length * 10) = (a * 10 + 10) * 10 ^ r.length := by
      rw [Nat.mul_comm (10 ^ r.length) 10, ← Nat.mul_assoc, Nat.add_mul, Nat.one_mul]
    rw [e1, e2]
    exact ⟨Nat.le_trans (Nat.mul_le_mul_right _ (Nat.le_add_right _ _)) h1,
      Nat.lt_of_lt_of_le h2 (Nat.mul_le_mul_right _ (by omega))⟩

/-- feed digits while `overflow!` does not fire: the accumulator and the number of digits fed -/
def keep (cap : Nat) : List Nat → Nat → Nat × Nat
  | [], acc => (acc, 0)
  | d :: ds, acc =>
    if overflow acc 10 d cap then (acc, 0)
    else ((keep cap ds (acc * 10 + d)).1, (keep cap ds (acc * 10 + d)).2 + 1)

theorem keep_le (cap : Nat) : ∀ (ds : List Nat) (acc : Nat), (keep cap ds acc).2 ≤ ds.length := by
  intro ds
  induction ds with
  | nil => intro _; exact Nat.le_refl _
  | cons d ds ih =>
    intro acc
    rw [keep]
    split
    · exact Nat.zero_le _
    · exact Nat.succ_le_succ (ih _)

/-- `keep` feeds the longest prefix whose Horner value fits. -/
theorem keep_spec (cap : Nat) : ∀ (ds : List Nat) (acc : Nat), (∀ d ∈ ds, d < 10) →
    (keep cap ds acc).1 = hv acc (ds.take (keep cap ds acc).2) ∧
    (acc ≤ cap ∨ 0 < (keep cap ds acc).2 → (keep cap ds acc).1 ≤ cap) ∧
    ((keep cap ds acc).2 = ds.length ∨ cap < hv acc (ds.take ((keep cap ds acc).2 + 1))) := by
  intro ds
  induction ds with
  | nil => intro acc _; exact ⟨rfl, fun h => h.elim id (absurd · (Nat.lt_irrefl 0)), .inl rfl⟩
  | cons d ds ih =>
    intro acc hd
    have hd10 : d < 10 := hd d (by simp)
    rw [keep]
    cases hov : overflow acc 10 d cap with
    | true =>
      have := (overflow_iff (by decide) hd10).mp hov
      exact ⟨rfl, fun h => h.elim id (absurd · (Nat.lt_irrefl 0)), .inr (by simpa using this)⟩
    | false =>
      have hle := (overflow_false_iff (by decide) hd10).mp hov
      obtain ⟨h2, h3, h4⟩ := ih (acc * 10 + d) (fun x hx => hd x (by simp [hx]))
      simp only [Bool.false_eq_true, if_false, List.length_cons, List.take_succ_cons, hv_cons]
      exact ⟨h2, fun _ => h3 (.inl hle), h4.imp (by omega) id⟩

theorem keep_append (cap : Nat) : ∀ (a b : List Nat) (acc : Nat),
    keep cap (a ++ b) acc =
      if (keep cap a acc).2 = a.length then
        ((keep cap b (keep cap a acc).1).1, a.length + (keep cap b (keep cap a acc).1).2)
      else keep cap a acc := by
  intro a
  induction a with
  | nil => intro b acc; simp [keep]
  | cons d a ih =>
    intro b acc
    rw [List.cons_append, keep, keep]
    cases hov : overflow acc 10 d cap with
    | true => simp
    | false =>
      simp only [Bool.false_eq_true, if_false, ih, List.length_cons, Nat.add_right_cancel_iff]
      split <;> simp <;> omega

theorem hv_ge (ds : List Nat) : ∀ acc, acc ≤ hv acc ds := by
  induction ds with
  | nil => exact fun acc => Nat.le_refl _
  | cons x r ih => exact fun acc => Nat.le_trans (by omega) (ih (acc * 10 + x))

theorem hv_take_le (acc : Nat) (ds : List Nat) (j : Nat) : hv acc (ds.take j) ≤ hv acc ds := by
  conv => rhs; rw [← List.take_append_drop j ds, hv_append]
  exact hv_ge _ _

theorem keep_fits {cap acc : Nat} {ds : List Nat} (hd : ∀ d ∈ ds, d < 10) (h : hv acc ds ≤ cap) :
    keep cap ds acc = (hv acc ds, ds.length) := by
  obtain ⟨h2, -, h4⟩ := keep_spec cap ds acc hd
  rcases h4 with h4 | h4
  · exact Prod.ext (by rw [h2, h4, List.take_length]) h4
  · exact absurd (Nat.lt_of_lt_of_le h4 (hv_take_le acc ds _)) (Nat.not_lt.mpr h)

theorem keep_all_iff {cap acc : Nat} {ds : List Nat} (hd : ∀ d ∈ ds, d < 10) (hacc : acc ≤ cap) :
    (keep cap ds acc).2 = ds.length ↔ hv acc ds ≤ cap := by
  obtain ⟨h2, h3, -⟩ := keep_spec cap ds acc hd
  constructor
  · intro h
    rw [h, List.take_length] at h2
    rw [← h2]; exact h3 (.inl hacc)
  · intro h
    rw [keep_fits hd h]

/-- What is lost by keeping a prefix: with `r` digits not fed, the full value lies in
    `[S * 10^r, (S + 1) * 10^r)` for the kept `S`; and a digit was refused only if `S` is within a
    factor ten of the cap. -/
theorem keep_interval (cap acc : Nat) (ds : List Nat) (hd : ∀ d ∈ ds, d < 10) :
    acc * 10 ^ (keep cap ds acc).2 ≤ (keep cap ds acc).1 ∧
    (keep cap ds acc).1 * 10 ^ (ds.length - (keep cap ds acc).2) ≤ hv acc ds ∧
    hv acc ds < ((keep cap ds acc).1 + 1) * 10 ^ (ds.length - (keep cap ds acc).2) ∧
    ((keep cap ds acc).2 = ds.length ∨ cap < (keep cap ds acc).1 * 10 + 9) := by
  obtain ⟨h2, -, h4⟩ := keep_spec cap ds acc hd
  have h1 := keep_le cap ds acc
  generalize (keep cap ds acc).2 = j at *
  have hsplit : hv acc ds = hv (hv acc (ds.take j)) (ds.drop j) := by
    rw [← hv_append, List.take_append_drop]
  have hI := hv_interval (ds.drop j) (hv acc (ds.take j)) (fun d h => hd d (List.mem_of_mem_drop h))
  have hT := (hv_interval (ds.take j) acc (fun d h => hd d (List.mem_of_mem_take h))).1
  rw [List.length_drop] at hI
  rw [List.length_take, Nat.min_eq_left h1] at hT
  rw [h2, hsplit]
  refine ⟨hT, hI.1, hI.2, h4.imp id fun h => ?_⟩
  by_cases hj : j < ds.length
  · rw [List.take_add_one, hv_append, List.getElem?_eq_getElem hj] at h
    have := hd ds[j] (List.getElem_mem hj)
    simp only [Option.toList_some, hv_cons, hv_nil] at h
    omega
  · rw [List.take_of_length_le (by omega)] at h ⊢
    omega

/-- digit values of ASCII digits -/
def dg (ds : List UInt8) : List Nat := ds.map fun c => c.toNat - 48

@[simp] theorem dg_length (ds : List UInt8) : (dg ds).length = ds.length := List.length_map _

theorem dv_eq_hv (acc : Nat) (ds : List UInt8) : dv acc ds = hv acc (dg ds) := by
  simp [dv, hv, dg, List.foldl_map]

theorem dv_ge (ds : List UInt8) (acc : Nat) : acc ≤ dv acc ds := by
  rw [dv_eq_hv]; exact hv_ge _ _

theorem dg_lt {ds : List UInt8} (h : AllDigits ds) : ∀ d ∈ dg ds, d < 10 := by
  intro d hd
  obtain ⟨c, hc, rfl⟩ := List.mem_map.mp hd
  exact (isDigit_val c (h c hc)).1

/-- the exponent accumulator is the same fold with the cap `i32::MAX` -/
theorem ovfAt_keep : ∀ (ds : List UInt8) (x : Nat),
    ExpOverflow.ovfAt x ds = min ((keep i32Max (dg ds) x).2 + 1) ds.length := by
  intro ds
  induction ds with
  | nil => intro x; rfl
  | cons c cs ih =>
    intro x
    simp only [ExpOverflow.ovfAt, dg, List.map_cons, keep, List.length_cons]
    cases overflow x 10 (c.toNat - 48) i32Max with
    | true => simp
    | false =>
      simp only [Bool.false_eq_true, if_false]
      rw [ih]
      simp only [dg]
      omega

/-- `shift_in` feeds `z` zeros and the digit; its flag says that not all of them went in. -/
theorem shiftIn_keep : ∀ (z sig : Nat) (exp : Int) (d : Nat),
    shiftIn sig exp z d =
      ((keep u64Max (List.replicate z 0 ++ [d]) sig).1,
       exp - ((keep u64Max (List.replicate z 0 ++ [d]) sig).2 : Int),
       decide ((keep u64Max (List.replicate z 0 ++ [d]) sig).2 < z + 1)) := by
  intro z
  induction z with
  | zero =>
    intro sig exp d
    simp only [shiftIn, List.replicate_zero, List.nil_append, keep]
    cases overflow sig 10 d u64Max <;> simp
  | succ z ih =>
    intro sig exp d
    rw [shiftIn, List.replicate_succ, List.cons_append, keep]
    cases overflow sig 10 0 u64Max with
    | true => simp
    | false =>
      simp only [Bool.false_eq_true, if_false, ih, Nat.add_zero, Prod.mk.injEq, true_and,
        Nat.add_lt_add_iff_right, and_true]
      omega

theorem zeros_digit_lt {z d : Nat} (hd : d < 10) : ∀ x ∈ List.replicate z 0 ++ [d], x < 10 := by
  intro x hx
  rcases List.mem_append.mp hx with h | h
  · rw [List.eq_of_mem_replicate h]; decide
  · rw [List.mem_singleton.mp h]; exact hd

theorem shiftIn_bounds (z sig : Nat) (exp : Int) (d : Nat) (hd : d < 10) (hs : sig ≤ u64Max) :
    (shiftIn sig exp z d).1 ≤ u64Max ∧ exp - ((z : Int) + 1) ≤ (shiftIn sig exp z d).2.1 ∧
    (shiftIn sig exp z d).2.1 ≤ exp := by
  obtain ⟨-, h3, -⟩ := keep_spec u64Max (List.replicate z 0 ++ [d]) sig (zeros_digit_lt hd)
  have h1 := keep_le u64Max (List.replicate z 0 ++ [d]) sig
  rw [shiftIn_keep]
  simp only [List.length_append, List.length_replicate, List.length_cons, List.length_nil] at h1
  dsimp only
  exact ⟨h3 (.inl hs), by omega, by omega⟩

/-- the integer part: significand kept and number of digits dropped -/
def intScan : List UInt8 → Nat → Nat × Nat
  | [], acc => (acc, 0)
  | c :: cs, acc =>
    if overflow acc 10 (c.toNat - 48) u64Max then (acc, cs.length + 1)
    else intScan cs (acc * 10 + (c.toNat - 48))

theorem intScan_keep : ∀ (ds : List UInt8) (acc : Nat),
    intScan ds acc = ((keep u64Max (dg ds) acc).1, ds.length - (keep u64Max (dg ds) acc).2) := by
  intro ds
  induction ds with
  | nil => intro acc; rfl
  | cons c cs ih =>
    intro acc
    rw [intScan]
    simp only [dg, List.map_cons, keep]
    cases overflow acc 10 (c.toNat - 48) u64Max with
    | true => simp
    | false =>
      simp only [Bool.false_eq_true, if_false, List.length_cons]
      rw [ih]
      simp only [dg, Prod.mk.injEq, true_and]
      omega

theorem intScan_fits (ds : List UInt8) (acc : Nat) (hd : AllDigits ds) (hle : dv acc ds ≤ u64Max) :
    intScan ds acc = (dv acc ds, 0) := by
  rw [intScan_keep, keep_fits (dg_lt hd) (by rw [← dv_eq_hv]; exact hle), ← dv_eq_hv, dg_length,
    Nat.sub_self]

theorem intScan_bounds (ds : List UInt8) (acc : Nat) (hd : AllDigits ds) (h : acc ≤ u64Max) :
    (intScan ds acc).1 ≤ u64Max ∧ (intScan ds acc).2 ≤ ds.length := by
  rw [intScan_keep]
  exact ⟨(keep_spec u64Max _ acc (dg_lt hd)).2.1 (.inl h), Nat.sub_le _ _⟩

/-- With `t` digits dropped the written integer lies in `[S * 10^t, (S + 1) * 10^t)` for the kept
    `S`, and digits are dropped only when `S` is within a factor ten of `u64::MAX`. -/
theorem intScan_interval (ds : List UInt8) (acc : Nat) (hd : AllDigits ds) :
    (intScan ds acc).1 * 10 ^ (intScan ds acc).2 ≤ dv acc ds ∧
    dv acc ds < ((intScan ds acc).1 + 1) * 10 ^ (intScan ds acc).2 ∧
    ((intScan ds acc).2 = 0 ∨ u64Max < (intScan ds acc).1 * 10 + 9) := by
  obtain ⟨-, h2, h3, h4⟩ := keep_interval u64Max acc (dg ds) (dg_lt hd)
  have := keep_le u64Max (dg ds) acc
  rw [dg_length] at h2 h3 h4 this
  rw [intScan_keep, dv_eq_hv]
  exact ⟨h2, h3, h4.imp (by dsimp only; omega) id⟩

theorem intScan_ne_zero (ds : List UInt8) (acc : Nat) (hd : AllDigits ds) (hacc : acc ≤ u64Max)
    (h : u64Max < dv acc ds) : (intScan ds acc).2 ≠ 0 := by
  have h1 := keep_le u64Max (dg ds) acc
  have h2 := mt (keep_all_iff (dg_lt hd) hacc).mp (by rw [← dv_eq_hv]; exact Nat.not_le.mpr h)
  rw [dg_length] at h1 h2
  rw [intScan_keep]
  dsimp only; omega

/-- a fraction with its trailing zeros removed -/
def stripZ : List UInt8 → List UInt8
  | [] => []
  | c :: cs => if c == 48 && (stripZ cs).isEmpty then [] else c :: stripZ cs

theorem stripZ_replicate (z : Nat) : stripZ (List.replicate z 48) = [] := by
  induction z with
  | zero => rfl
  | succ z ih => simp [List.replicate_succ, stripZ, ih]

theorem stripZ_append_cons (a : List UInt8) {c : UInt8} (hc : (c == 48) = false) (ds : List UInt8) :
    stripZ (a ++ c :: ds) = a ++ c :: stripZ ds := by
  induction a with
  | nil => simp [stripZ, hc]
  | cons x a ih => simp [stripZ, ih]

theorem stripZ_spec (ds : List UInt8) : ∃ t, ds = stripZ ds ++ List.replicate t 48 := by
  induction ds with
  | nil => exact ⟨0, rfl⟩
  | cons c cs ih =>
    obtain ⟨t, ht⟩ := ih
    rw [stripZ]
    split
    · next h =>
      simp only [Bool.and_eq_true, beq_iff_eq, List.isEmpty_iff] at h
      refine ⟨t + 1, ?_⟩
      rw [h.2] at ht
      rw [ht, h.1]; simp [List.replicate_succ]
    · exact ⟨t, by rw [List.cons_append, ← ht]⟩

theorem stripZ_sublist_digits {ds : List UInt8} (h : AllDigits ds) : AllDigits (stripZ ds) := by
  obtain ⟨t, ht⟩ := stripZ_spec ds
  intro c hc
  apply h c
  rw [ht]; exact List.mem_append_left _ hc

theorem stripZ_length_le (ds : List UInt8) : (stripZ ds).length ≤ ds.length := by
  obtain ⟨t, ht⟩ := stripZ_spec ds
  have := congrArg List.length ht
  simp at this; omega

theorem dv_trailing_zeros (acc : Nat) (t : Nat) : dv acc (List.replicate t 48) = acc * 10 ^ t := by
  rw [dv_eq_hv, ← hv_zeros acc t]
  simp [dg]

theorem dv_replicate_zero (z : Nat) : dv 0 (List.replicate z 48) = 0 := by
  rw [dv_trailing_zeros, Nat.zero_mul]

/-! ## 3. Reader steps on an exact state -/

theorem pk_cons (t : St) (b : UInt8) (tl : List UInt8) (h : t.rd.rest = b :: tl) :
    peekOrNull t = .ok b (adv t 0 (t.rd.peeked || t.rd.mode == .io)) := by
  unfold peekOrNull
  simp only [bind_apply, peek_eq, h, pure_apply, Option.getD_some]

theorem dc_cons (t : St) (b : UInt8) (tl : List UInt8) (h : t.rd.rest = b :: tl) :
    discard t = .ok () (adv t 1 false) := by
  rw [discard_eq, h]

theorem nx_cons (t : St) (b : UInt8) (tl : List UInt8) (h : t.rd.rest = b :: tl) :
    next t = .ok (some b) (adv t 1 false) := by
  rw [next_eq, h]

theorem pk_dc (t : St) (b : UInt8) (tl : List UInt8) (h : t.rd.rest = b :: tl) :
    peekOrNull t = .ok b (adv t 0 (t.rd.peeked || t.rd.mode == .io)) ∧
    discard (adv t 0 (t.rd.peeked || t.rd.mode == .io)) = .ok () (adv t 1 false) := by
  refine ⟨pk_cons t b tl h, ?_⟩
  rw [dc_cons _ b tl (by simp [h]), adv_adv]

/-- the byte after a run of digits is not a digit (or the input ends) -/
def StopDigit (rest : List UInt8) : Prop := isDigit (rest.head?.getD 0) = false

theorem takeWhile_digits (ds rest : List UInt8) (hd : AllDigits ds) (hs : StopDigit rest) :
    ((ds ++ rest).takeWhile isDigit).length = ds.length := by
  rw [List.takeWhile_append_of_pos hd]
  cases rest with
  | nil => simp
  | cons c tl =>
    have : isDigit c = false := hs
    simp [this]

theorem skipDigits_ok (t : St) (ds rest : List UInt8) (hrest : t.rd.rest = ds ++ rest)
    (hd : AllDigits ds) (hs : StopDigit rest) (hf : rest = [] → t.rd.faulty = false) :
    skipDigits t = .ok () (adv t ds.length (endPeek t rest)) := by
  unfold skipDigits
  simp only [bind_apply, getRest_eq, hrest, takeWhile_digits ds rest hd hs, consumeN_eq_adv]
  rw [peek_at _ rest (by simp [hrest]) (by simpa using hf)]
  simp only [adv_adv, adv_peeked, Bool.false_or, endPeek_adv, Nat.add_zero, pure_apply]

/-- a scanner's float result as a `Number` -/
def fltRes : Res Nat → Res Number
  | .ok g s => .ok (Number.flt g) s
  | .err e s => .err e s
  | .panic p => .panic p
  | .fuel => .fuel

theorem bind_flt (m : P Nat) (t : St) :
    (m >>= fun g => pure (Number.ofF64 g)) t = fltRes (m t) := by
  rw [bind_apply]; cases m t <;> rfl

/-! ## 4. The fraction loop -/

/-- The fraction loop including its overflow exit: once `shiftIn` raises the flag the remaining
    digits are skipped. -/
def fracScan : List UInt8 → Nat → Int → Nat → Nat × Int
  | [], sig, exp, _ => (sig, exp)
  | c :: cs, sig, exp, z =>
    if c == 48 then fracScan cs sig exp (z + 1)
    else
      match shiftIn sig exp z (c.toNat - 48) with
      | (s', e', true) => (s', e')
      | (s', e', false) => fracScan cs s' e' 0

theorem decimalLoop_total (rest : List UInt8) (hstop : StopDigit rest) :
    ∀ (ds : List UInt8) (f sig : Nat) (exp : Int) (z : Nat) (any : Bool) (t : St),
      AllDigits ds → t.rd.rest = ds ++ rest → t.rd.peeked = false →
      (rest = [] → t.rd.faulty = false) → ds.length + 1 ≤ f →
      decimalLoop f sig exp z any t =
        .ok ((fracScan ds sig exp z).1, (fracScan ds sig exp z).2, any || !ds.isEmpty)
          (adv t ds.length (endPeek t rest)) := by
  -- Induction on the digits: a turn of the loop peeks at a digit and discards it, and `fracScan`
  -- branches as the loop does; once `shift_in` raises its flag `skip_digits` takes the rest.
  intro ds
  induction ds with
  | nil =>
    intro f sig exp z any t _ hrest hpk hf hfuel
    obtain ⟨f, rfl⟩ : ∃ f', f = f' + 1 := ⟨f - 1, by omega⟩
    rw [decimalLoop]
    simp only [bind_apply, peekOrNull_at t rest (by simpa using hrest) hf]
    unfold StopDigit at hstop
    simp [hstop, hpk, fracScan]
  | cons c cs ih =>
    intro f sig exp z any t hd hrest hpk hf hfuel
    obtain ⟨f, rfl⟩ : ∃ f', f = f' + 1 := ⟨f - 1, by omega⟩
    simp only [List.length_cons] at hfuel
    simp only [List.cons_append] at hrest
    obtain ⟨hp, hdc⟩ := pk_dc t c _ hrest
    have hr1 : (adv t 1 false).rd.rest = cs ++ rest := by simp [hrest]
    -- both arms that go round the loop again do so from `adv t 1 false`, with `any = true`
    have hih : ∀ (sig' : Nat) (exp' : Int) (z' : Nat),
        decimalLoop f sig' exp' z' true (adv t 1 false) =
          .ok ((fracScan cs sig' exp' z').1, (fracScan cs sig' exp' z').2, any || !(c :: cs).isEmpty)
            (adv t (c :: cs).length (endPeek t rest)) := by
      intro sig' exp' z'
      rw [ih f sig' exp' z' true (adv t 1 false) hd.tail hr1 (by simp) (by simpa using hf)
        (by omega)]
      simp only [adv_adv, endPeek_adv, Bool.true_or, List.isEmpty_cons, Bool.not_false, Bool.or_true,
        List.length_cons, Nat.add_comm 1 cs.length]
    rw [decimalLoop]
    simp only [bind_apply, hp, hd.head, if_true, hdc]
    rw [fracScan]
    by_cases hc : (c == 48) = true
    · simp only [hc, if_true]
      exact hih _ _ _
    · simp only [hc, if_false, Bool.false_eq_true]
      cases hsh : shiftIn sig exp z (c.toNat - 48) with
      | mk s' r =>
        cases r with
        | mk e' b =>
          cases b with
          | true =>
            simp only [bind_apply, skipDigits_ok (adv t 1 false) cs rest hr1 hd.tail hstop
              (by simpa using hf), pure_apply, adv_adv, endPeek_adv, List.isEmpty_cons,
              Bool.not_false, Bool.or_true, List.length_cons]
            rw [Nat.add_comm 1 cs.length]
          | false => exact hih _ _ _

/-- The fraction loop is the fold on the fraction without its trailing zeros (`shift_in`'s partial
    progress included): zeros are fed only once a later digit shows that they are not trailing. -/
theorem fracScan_keep : ∀ (ds : List UInt8) (sig : Nat) (exp : Int) (z : Nat),
    fracScan ds sig exp z =
      ((keep u64Max (dg (stripZ (List.replicate z 48 ++ ds))) sig).1,
       exp - ((keep u64Max (dg (stripZ (List.replicate z 48 ++ ds))) sig).2 : Int)) := by
  intro ds
  induction ds with
  | nil => intro sig exp z; simp [fracScan, stripZ_replicate, dg, keep]
  | cons c cs ih =>
    intro sig exp z
    rw [fracScan]
    by_cases hc : (c == 48) = true
    · have hc' : c = 48 := by simpa using hc
      subst hc'
      have e : List.replicate (z + 1) (48 : UInt8) ++ cs = List.replicate z 48 ++ 48 :: cs := by
        rw [List.replicate_succ']; simp
      rw [if_pos hc, ih sig exp (z + 1), e]
    · have hc' : (c == 48) = false := by simpa using hc
      have ea : dg (List.replicate z 48 ++ c :: stripZ cs) =
          (List.replicate z 0 ++ [c.toNat - 48]) ++ dg (stripZ cs) := by
        simp [dg]
      rw [if_neg hc, stripZ_append_cons _ hc', ea, keep_append, shiftIn_keep]
      have hle := keep_le u64Max (List.replicate z 0 ++ [c.toNat - 48]) sig
      simp only [List.length_append, List.length_replicate, List.length_cons, List.length_nil,
        Nat.zero_add] at hle ⊢
      by_cases hk : (keep u64Max (List.replicate z 0 ++ [c.toNat - 48]) sig).2 = z + 1
      · simp only [hk, Nat.lt_irrefl, decide_false, if_true]
        rw [ih]
        simp only [List.replicate_zero, List.nil_append, Prod.mk.injEq, true_and]
        omega
      · simp only [hk, if_false, show (keep u64Max (List.replicate z 0 ++ [c.toNat - 48]) sig).2 < z + 1
          by omega, decide_true]

theorem allDigits_zeros_append {z : Nat} {ds : List UInt8} (hd : AllDigits ds) :
    AllDigits (List.replicate z 48 ++ ds) :=
  (allDigits_replicate z).append hd

/-- Without overflow the pending zeros and the digits, stripped of trailing zeros, are appended to
    the significand. -/
theorem fracScan_closed (ds : List UInt8) (sig : Nat) (exp : Int) (z : Nat) (hd : AllDigits ds)
    (hle : dv sig (stripZ (List.replicate z 48 ++ ds)) ≤ u64Max) :
    fracScan ds sig exp z =
      (dv sig (stripZ (List.replicate z 48 ++ ds)),
       exp - ((stripZ (List.replicate z 48 ++ ds)).length : Int)) := by
  rw [fracScan_keep, keep_fits (dg_lt (stripZ_sublist_digits (allDigits_zeros_append hd)))
    (by rw [← dv_eq_hv]; exact hle), ← dv_eq_hv, dg_length]

theorem fracScan_bounds (ds : List UInt8) (sig : Nat) (exp : Int) (z : Nat) (hd : AllDigits ds)
    (hs : sig ≤ u64Max) :
    (fracScan ds sig exp z).1 ≤ u64Max ∧
    exp - ((ds.length + z : Nat) : Int) ≤ (fracScan ds sig exp z).2 ∧ (fracScan ds sig exp z).2 ≤ exp := by
  have h1 := keep_le u64Max (dg (stripZ (List.replicate z 48 ++ ds))) sig
  have h2 := stripZ_length_le (List.replicate z 48 ++ ds)
  rw [dg_length] at h1
  rw [List.length_append, List.length_replicate] at h2
  rw [fracScan_keep]
  exact ⟨(keep_spec u64Max _ sig (dg_lt (stripZ_sublist_digits (allDigits_zeros_append hd)))).2.1
    (.inl hs), by dsimp only; omega, by dsimp only; omega⟩

/-! ## 5. The exponent -/

/-- the final exponent, with `saturating_add` / `saturating_sub` on `i32` -/
def expFin (startExp : Int) (posExp : Bool) (x : Nat) : Int :=
  if posExp then min (startExp + x) (i32Max : Int) else max (startExp - x) (-(i32Max : Int) - 1)

/-- the sign is applied by flipping the sign bit -/
def signed (pos : Bool) (f : Nat) : Nat := if pos then f else F64.neg f

theorem signed_zero (pos : Bool) : (if pos then 0 else F64.signBit) = signed pos 0 := by
  cases pos <;> decide

/-- the digit loop of `parse_exponent`, both exits: `f64_from_parts` with the saturated sum when
    the digits stay inside `i32`, `parse_exponent_overflow` at the digit where they leave it -/
theorem exponentLoop_eq (cfg : Cfg) (pos : Bool) (sig : Nat) (startExp : Int) (posExp : Bool)
    (rest : List UInt8) (hstop : StopDigit rest) :
    ∀ (ds : List UInt8) (f x : Nat) (t : St),
      AllDigits ds → t.rd.rest = ds ++ rest → t.rd.peeked = false →
      (rest = [] → t.rd.faulty = false) → x ≤ i32Max → ds.length + 1 ≤ f →
      exponentLoop cfg pos sig startExp posExp f x t =
        if dv x ds ≤ i32Max then
          f64FromParts cfg pos sig (expFin startExp posExp (dv x ds)) (adv t ds.length (endPeek t rest))
        else ExpOverflow.overflowOut (signed pos 0) sig posExp (adv t (ExpOverflow.ovfAt x ds) false)
          (adv t ds.length (endPeek t rest)) := by
  intro ds
  induction ds with
  | nil =>
    intro f x t _ hrest hpk hf hx hfuel
    obtain ⟨f, rfl⟩ : ∃ f', f = f' + 1 := ⟨f - 1, by omega⟩
    rw [exponentLoop]
    simp only [bind_apply, peekOrNull_at t rest (by simpa using hrest) hf]
    unfold StopDigit at hstop
    simp [hstop, hpk, expFin, hx]
  | cons c cs ih =>
    intro f x t hd hrest hpk hf hx hfuel
    obtain ⟨f, rfl⟩ : ∃ f', f = f' + 1 := ⟨f - 1, by omega⟩
    simp only [List.length_cons] at hfuel
    simp only [List.cons_append] at hrest
    obtain ⟨hlt, -⟩ := isDigit_val c hd.head
    obtain ⟨hp, hdc⟩ := pk_dc t c _ hrest
    have hr1 : (adv t 1 false).rd.rest = cs ++ rest := by simp [hrest]
    rw [exponentLoop]
    simp only [bind_apply, hp, hd.head, if_true, hdc, dv_cons, ExpOverflow.ovfAt]
    cases hovf : overflow x 10 (c.toNat - 48) i32Max with
    | true =>
      have hgt := (overflow_iff (a := x) (c := i32Max) (by decide) hlt).mp hovf
      have hbig : ¬ dv (x * 10 + (c.toNat - 48)) cs ≤ i32Max := by
        have := dv_ge cs (x * 10 + (c.toNat - 48)); omega
      simp only [if_true, if_neg hbig, parseExponentOverflow, ExpOverflow.overflowOut]
      cases hz : (sig != 0 && posExp) with
      | true => simp only [if_true]
      | false =>
        simp only [Bool.false_eq_true, if_false, bind_apply,
          skipDigits_ok (adv t 1 false) cs rest hr1 hd.tail hstop (by simpa using hf), pure_apply,
          adv_adv, endPeek_adv, List.length_cons, signed_zero, Nat.add_comm 1 cs.length]
    | false =>
      have hle := (overflow_false_iff (a := x) (c := i32Max) (by decide) hlt).mp hovf
      simp only [Bool.false_eq_true, if_false]
      rw [ih f _ (adv t 1 false) hd.tail hr1 (by simp) (by simpa using hf) hle (by omega)]
      simp only [adv_adv, endPeek_adv, List.length_cons, Nat.add_comm 1 cs.length]

/-- the sign of a written exponent: `e`, `e+` or `e-` -/
def expSignPos (sign : List UInt8) : Bool := sign != [45]

/-- the optional sign of an exponent; `c` is the byte `parse_exponent` has peeked at -/
theorem expSign_ok {sign : List UInt8} (hsign : sign = [] ∨ sign = [43] ∨ sign = [45])
    {d0 : UInt8} (hd0 : isDigit d0 = true) (tl : List UInt8) {c : UInt8} {tl' : List UInt8}
    (hc : sign ++ d0 :: tl = c :: tl') (u : St) (hr : u.rd.rest = c :: tl') :
    (if c == 43 then do discard; pure true
     else if c == 45 then do discard; pure false
     else pure true : P Bool) u =
      .ok (expSignPos sign) (adv u sign.length (sign.isEmpty && u.rd.peeked)) := by
  obtain ⟨-, h45, h43⟩ := isDigit_facts d0 hd0
  rcases hsign with rfl | rfl | rfl <;> injection hc with hc _ <;> subst hc
  · simp only [h43, h45, Bool.false_eq_true, if_false, pure_apply, List.length_nil,
      List.isEmpty_nil, Bool.true_and, adv_zero_self]
    rfl
  · simp only [beq_self_eq_true, if_true, bind_apply, dc_cons u _ _ hr, pure_apply]
    rfl
  · simp only [show ((45 : UInt8) == 43) = false by decide, beq_self_eq_true, if_true,
      Bool.false_eq_true, if_false, bind_apply, dc_cons u _ _ hr, pure_apply]
    rfl

/-! ## 6. Literals -/

/-- the exponent part of a literal: `e` or `E`, an optional sign, digits -/
structure ExpPart where
  mark : UInt8
  sign : List UInt8
  digits : List UInt8

def ExpPart.text (e : ExpPart) : List UInt8 := e.mark :: (e.sign ++ e.digits)

def ExpPart.WF (e : ExpPart) : Prop :=
  (e.mark = 101 ∨ e.mark = 69) ∧ (e.sign = [] ∨ e.sign = [43] ∨ e.sign = [45]) ∧
  e.digits ≠ [] ∧ AllDigits e.digits

/-- the written exponent without its sign -/
def ExpPart.abs (e : ExpPart) : Nat := dv 0 e.digits
/-- the written exponent -/
def ExpPart.val (e : ExpPart) : Int := if expSignPos e.sign then (e.abs : Int) else -(e.abs : Int)

def expText : Option ExpPart → List UInt8
  | none => []
  | some e => e.text

def fracText : Option (List UInt8) → List UInt8
  | none => []
  | some f => 46 :: f

/-- the written exponent (0 if there is none) -/
def exVal : Option ExpPart → Int
  | none => 0
  | some e => e.val

def exAbs : Option ExpPart → Nat
  | none => 0
  | some e => e.abs

/-- the exponent handed to `f64_from_parts` when the scan of the significand ended with `se` -/
def finExp (se : Int) : Option ExpPart → Int
  | none => se
  | some e => expFin se (expSignPos e.sign) e.abs

/-- What follows a literal: end of input, or a byte that is neither a digit nor `e` / `E`. -/
def ScanStop (rest : List UInt8) : Prop :=
  isDigit (rest.head?.getD 0) = false ∧ (rest.head?.getD 0 == 101 || rest.head?.getD 0 == 69) = false

theorem mark_facts (m : UInt8) (h : m = 101 ∨ m = 69) :
    (m == 101 || m == 69) = true ∧ isDigit m = false ∧ digitVal 10 m = none ∧ (m == 46) = false := by
  rcases h with rfl | rfl <;> decide

/-- byte offset, within the exponent part, of the digit at which the accumulator leaves `i32` -/
def exErr : Option ExpPart → Nat
  | none => 0
  | some e => 1 + e.sign.length + ExpOverflow.ovfAt 0 e.digits

/-- What the scanners return once significand `S` and exponent `E` are fixed: `f64_from_parts` at
    the end of the literal if the written exponent fits `i32` (or is absent), the outcome of
    `parse_exponent_overflow` if it does not. -/
def scanOut (cfg : Cfg) (pos : Bool) (S : Nat) (E : Int) : Option ExpPart → St → St → Res Nat
  | some e, tErr, tEnd =>
    if e.abs ≤ i32Max then f64FromParts cfg pos S E tEnd
    else ExpOverflow.overflowOut (signed pos 0) S (expSignPos e.sign) tErr tEnd
  | none, _, tEnd => f64FromParts cfg pos S E tEnd

theorem scanOut_fits (cfg : Cfg) (pos : Bool) (S : Nat) (E : Int) (ex : Option ExpPart)
    (tErr tEnd : St) (h : exAbs ex ≤ i32Max) :
    scanOut cfg pos S E ex tErr tEnd = f64FromParts cfg pos S E tEnd := by
  cases ex with
  | none => rfl
  | some e => exact if_pos h

/-- `parse_exponent` at the `e`, both outcomes -/
theorem parseExponent_eq (cfg : Cfg) (pos : Bool) (sig : Nat) (startExp : Int) (e : ExpPart)
    (rest : List UInt8) (f : Nat) (t : St) (hwf : e.WF)
    (hrest : t.rd.rest = e.text ++ rest) (hstop : StopDigit rest)
    (hf : rest = [] → t.rd.faulty = false) (hfuel : e.digits.length ≤ f) :
    parseExponent cfg f pos sig startExp t =
      scanOut cfg pos sig (finExp startExp (some e)) (some e) (adv t (exErr (some e)) false)
        (adv t e.text.length (endPeek t rest)) := by
  obtain ⟨mark, sign, xs⟩ := e
  obtain ⟨-, hs, hne, hd⟩ := hwf
  simp only [scanOut, finExp, exErr, ExpPart.abs, ExpPart.text] at hs hne hd hfuel hrest ⊢
  cases xs with
  | nil => exact absurd rfl hne
  | cons d0 ds =>
    simp only [List.cons_append, List.append_assoc] at hrest
    obtain ⟨c, tl', hc⟩ : ∃ c tl', sign ++ d0 :: (ds ++ rest) = c :: tl' := by
      rcases hs with h | h | h <;> rw [h] <;> exact ⟨_, _, rfl⟩
    obtain ⟨hlt, -⟩ := isDigit_val d0 hd.head
    have h0 : overflow 0 10 (d0.toNat - 48) i32Max = false := by
      rw [overflow_false_iff (by decide) hlt]; unfold i32Max; omega
    have hr1 : (adv t 1 false).rd.rest = c :: tl' := by simp [hrest, hc]
    have hp := pk_cons _ c tl' hr1
    have hsg := expSign_ok hs hd.head _ hc (adv t 1 (t.rd.mode == .io)) (by simp [hrest, hc])
    have hdrop : (t.rd.rest).drop (1 + sign.length) = d0 :: (ds ++ rest) := by
      rw [hrest, Nat.add_comm, List.drop_succ_cons]
      exact List.drop_left' rfl
    have hnx := nx_cons (adv t (1 + sign.length) (sign.isEmpty && (t.rd.mode == .io))) d0
      (ds ++ rest) (by rw [adv_rest, hdrop])
    simp only [adv_adv, adv_peeked, adv_mode, Bool.false_or, Nat.add_zero] at hp hsg hnx
    unfold parseExponent
    simp only [bind_apply, dc_cons t _ _ hrest, hp, hsg, hnx, hd.head, if_true]
    rw [exponentLoop_eq cfg pos sig startExp _ rest hstop ds f _ _ hd.tail
      (by rw [adv_rest, ← List.drop_drop, hdrop]; rfl)
      (by simp) (by simpa using hf) (by unfold i32Max; omega) (by simpa using hfuel)]
    simp only [adv_adv, endPeek_adv, dv_cons, ExpOverflow.ovfAt, h0, Bool.false_eq_true, if_false, Nat.zero_mul,
      Nat.zero_add, List.length_cons, List.length_append, Nat.add_assoc, Nat.add_comm,
      Nat.add_left_comm]

/-- the last step of `parse_decimal`, behind the fraction digits: look for an exponent -/
theorem tailExp_eq (cfg : Cfg) (pos : Bool) (sig : Nat) (se : Int) (ex : Option ExpPart)
    (rest : List UInt8) (f : Nat) (u : St)
    (hwf : ∀ e, ex = some e → e.WF ∧ e.digits.length ≤ f)
    (hrest : u.rd.rest = expText ex ++ rest)
    (hpk : ex = none → (u.rd.peeked || endPeek u rest) = endPeek u rest) (hstop : ScanStop rest)
    (hf : rest = [] → u.rd.faulty = false) :
    (do let c ← peekOrNull
        if c == 101 || c == 69 then parseExponent cfg f pos sig se
        else f64FromParts cfg pos sig se : P Nat) u =
      scanOut cfg pos sig (finExp se ex) ex (adv u (exErr ex) false)
        (adv u (expText ex).length (endPeek u rest)) := by
  cases ex with
  | none =>
    simp only [expText, List.nil_append] at hrest
    simp only [bind_apply, peekOrNull_at u rest hrest hf, hstop.2, Bool.false_eq_true, if_false,
      finExp, expText, List.length_nil, hpk rfl, scanOut]
  | some e =>
    obtain ⟨hew, hfu⟩ := hwf e rfl
    have hr := hrest
    simp only [expText, ExpPart.text, List.cons_append] at hr
    simp only [bind_apply, pk_cons u _ _ hr, (mark_facts e.mark hew.1).1, if_true]
    rw [parseExponent_eq cfg pos sig se e rest f _ hew (by rw [adv_rest]; exact hrest) hstop.1
      (by simpa using hf) hfu]
    simp only [adv_adv, endPeek_adv, expText, Nat.zero_add]

theorem expText_stop (ex : Option ExpPart) (rest : List UInt8) (hwf : ∀ e, ex = some e → e.WF)
    (hstop : ScanStop rest) : StopDigit (expText ex ++ rest) := by
  cases ex with
  | none => exact hstop.1
  | some e =>
    have := (mark_facts e.mark (hwf e rfl).1).2.1
    simpa [StopDigit, expText, ExpPart.text] using this

/-- `parse_decimal` at the `.`: the fraction digits (`fracScan`), then the exponent -/
theorem parseDecimal_eq (cfg : Cfg) (pos : Bool) (sig : Nat) (exp : Int) (fp : List UInt8)
    (ex : Option ExpPart) (rest : List UInt8) (f : Nat) (t : St)
    (hne : fp ≠ []) (hd : AllDigits fp)
    (hwf : ∀ e, ex = some e → e.WF ∧ e.digits.length ≤ f)
    (hrest : t.rd.rest = 46 :: (fp ++ (expText ex ++ rest))) (hstop : ScanStop rest)
    (hf : rest = [] → t.rd.faulty = false) (hfuel : fp.length + 1 ≤ f) :
    parseDecimal cfg f pos sig exp t =
      scanOut cfg pos (fracScan fp sig exp 0).1 (finExp (fracScan fp sig exp 0).2 ex) ex
        (adv t (1 + fp.length + exErr ex) false)
        (adv t (1 + fp.length + (expText ex).length) (endPeek t rest)) := by
  have hf' : expText ex ++ rest = [] → (adv t 1 false).rd.faulty = false := by
    intro h
    simp only [List.append_eq_nil_iff] at h
    simpa using hf h.2
  have hloop := decimalLoop_total (expText ex ++ rest)
    (expText_stop ex rest (fun e he => (hwf e he).1) hstop) fp f sig exp 0 false (adv t 1 false) hd
    (by simp [hrest]) (by simp) hf' hfuel
  have hany : (false || !fp.isEmpty) = true := by
    cases fp with
    | nil => exact absurd rfl hne
    | cons => rfl
  rw [hany] at hloop
  unfold parseDecimal
  simp only [bind_apply, dc_cons t _ _ hrest, hloop, Bool.not_true, Bool.false_eq_true, if_false]
  have := tailExp_eq cfg pos (fracScan fp sig exp 0).1 (fracScan fp sig exp 0).2 ex rest f
    (adv (adv t 1 false) fp.length (endPeek (adv t 1 false) (expText ex ++ rest))) hwf
    (by simp [hrest, Nat.add_comm 1 fp.length]) (by intro h; subst h; simp [expText]) hstop
    (by simpa using hf)
  simp only [bind_apply] at this
  rw [this]
  simp only [adv_adv, endPeek_adv]

theorem exVal_bounds (ex : Option ExpPart) :
    -(exAbs ex : Int) ≤ exVal ex ∧ exVal ex ≤ (exAbs ex : Int) := by
  cases ex with
  | none => exact ⟨Int.le_refl _, Int.le_refl _⟩
  | some e => simp only [exVal, exAbs, ExpPart.val]; split <;> omega

/-- without saturation the final exponent is the sum -/
theorem finExp_exact (se : Int) (ex : Option ExpPart)
    (h1 : -(i32Max : Int) - 1 ≤ se + exVal ex) (h2 : se + exVal ex ≤ (i32Max : Int)) :
    finExp se ex = se + exVal ex := by
  cases ex with
  | none => simp [finExp, exVal]
  | some e =>
    simp only [finExp, expFin, ExpPart.val, exVal] at h1 h2 ⊢
    unfold i32Max at h1 h2 ⊢
    cases hsg : expSignPos e.sign
    · simp only [hsg, Bool.false_eq_true, if_false] at h1 h2 ⊢; omega
    · simp only [hsg, if_true] at h1 h2 ⊢; omega

theorem finExp_small (k : Nat) (ex : Option ExpPart) (h : k + exAbs ex ≤ i32Max) :
    finExp (-(k : Int)) ex = exVal ex - (k : Int) := by
  obtain ⟨b1, b2⟩ := exVal_bounds ex
  rw [finExp_exact _ ex (by omega) (by omega)]; omega

/-! ## 7. The integer part, and the whole literal -/

/-- What the scanners hand to `f64_from_parts` once the integer part has left them with the
    significand `sig` and the exponent `se` (the number of integer digits dropped). -/
def scanTail (fp : Option (List UInt8)) (ex : Option ExpPart) (sig : Nat) (se : Int) : Nat × Int :=
  match fp with
  | none => (sig, finExp se ex)
  | some f => ((fracScan f sig se 0).1, finExp (fracScan f sig se 0).2 ex)

theorem digitVal_nondigit {c : UInt8} (h : isDigit c = false) : digitVal 10 c = none := by
  apply digitVal10_none
  simpa [isDigit] using h

/-- at a `.` or an `e`, `parse_num_tail` does what `parse_long_integer` does with no digit dropped -/
theorem numTail_eq_longInt (cfg : Cfg) (pos : Bool) (sig f : Nat) (u : St) (c : UInt8) (tl : List UInt8)
    (hr : u.rd.rest = c :: tl) (hc : c = 46 ∨ c = 101 ∨ c = 69) :
    parseNumTail cfg (f + 1) 10 pos sig u = fltRes (parseLongInteger cfg 10 pos sig (f + 1) 0 u) := by
  unfold parseNumTail
  rw [parseLongInteger, bind_apply, bind_apply, pk_cons u c tl hr]
  -- both sides now branch on the concrete byte `c`: `digitVal 10 c = none`, and the same call of
  -- `parseDecimal` (at `.`) or `parseExponent` (at `e`, `E`) remains, wrapped in `Number.ofF64`
  rcases hc with rfl | rfl | rfl
  · exact bind_flt _ _
  · exact bind_flt _ _
  · exact bind_flt _ _

theorem tail_head (fp : Option (List UInt8)) (ex : Option ExpPart) (rest : List UInt8)
    (hex : ∀ e, ex = some e → e.WF) (h : fp.isSome = true ∨ ex.isSome = true) :
    ∃ c tl, fracText fp ++ (expText ex ++ rest) = c :: tl ∧ (c = 46 ∨ c = 101 ∨ c = 69) := by
  cases fp with
  | some g => exact ⟨46, _, rfl, Or.inl rfl⟩
  | none =>
    cases ex with
    | some e => exact ⟨e.mark, _, rfl, Or.inr (hex e rfl).1⟩
    | none => simp at h

section tail
variable (cfg : Cfg) (pos : Bool) (sig : Nat) (fp : Option (List UInt8)) (ex : Option ExpPart)
  (rest : List UInt8)
  (hfp : ∀ g, fp = some g → g ≠ [] ∧ AllDigits g) (hex : ∀ e, ex = some e → e.WF)
  (hstop : ScanStop rest) (hdot : fp = none → ex = none → (rest.head?.getD 0 == 46) = false)
include hfp hex hstop hdot

/-- the arm of `parse_long_integer` that ends the integer digits: a fraction, an exponent, or
    (for an over-long integer) nothing.  One case per shape of what follows; each is the closed
    form of the scanner that takes over (`parseDecimal_eq`, `parseExponent_eq`) with the positions
    added up. -/
theorem longInt_tail (k F : Nat) (u : St)
    (hrest : u.rd.rest = fracText fp ++ (expText ex ++ rest))
    (hpk : fp = none → ex = none → u.rd.peeked = false)
    (hf : rest = [] → u.rd.faulty = false)
    (hfuel : (fracText fp).length + (expText ex).length + 1 ≤ F) :
    parseLongInteger cfg 10 pos sig F k u =
      scanOut cfg pos (scanTail fp ex sig k).1 (scanTail fp ex sig k).2 ex
        (adv u ((fracText fp).length + exErr ex) false)
        (adv u ((fracText fp).length + (expText ex).length) (endPeek u rest)) := by
  obtain ⟨f, rfl⟩ : ∃ f, F = f + 1 := ⟨F - 1, by omega⟩
  have e10 : ((10 : Nat) != 10) = false := by decide
  have hexf : ∀ e, ex = some e → e.WF ∧ e.digits.length ≤ f + 1 := fun e he =>
    ⟨hex e he, by
      subst he
      simp only [expText, ExpPart.text, List.length_cons, List.length_append] at hfuel
      omega⟩
  rw [parseLongInteger]
  cases fp with
  | some g =>
    obtain ⟨hgne, hgd⟩ := hfp g rfl
    simp only [fracText, List.cons_append, List.length_cons] at hrest hfuel
    simp only [bind_apply, pk_cons u _ _ hrest, show digitVal 10 46 = none by decide,
      beq_self_eq_true, if_true, e10, Bool.false_eq_true, if_false]
    rw [parseDecimal_eq cfg pos sig k g ex rest (f + 1) _ hgne hgd hexf (by simp [hrest]) hstop
      (by simpa using hf) (by omega)]
    simp only [adv_adv, endPeek_adv, scanTail, fracText, List.length_cons, Nat.zero_add,
      Nat.add_comm 1 g.length]
  | none =>
    simp only [fracText, List.nil_append, List.length_nil, Nat.zero_add] at hrest hfuel ⊢
    cases ex with
    | some e =>
      obtain ⟨hew, hfu⟩ := hexf e rfl
      obtain ⟨m1, -, m3, m4⟩ := mark_facts e.mark hew.1
      have hr := hrest
      simp only [expText, ExpPart.text, List.cons_append] at hr
      simp only [bind_apply, pk_cons u _ _ hr, m3, m4, m1, if_true, e10, Bool.false_eq_true,
        if_false]
      rw [parseExponent_eq cfg pos sig k e rest (f + 1) _ hew (by rw [adv_rest]; exact hrest)
        hstop.1 (by simpa using hf) hfu]
      simp only [adv_adv, endPeek_adv, scanTail, expText, Nat.zero_add]
    | none =>
      simp only [expText, List.nil_append] at hrest
      simp only [bind_apply, peekOrNull_at u rest hrest hf, digitVal_nondigit hstop.1, hdot rfl rfl,
        hstop.2, e10, Bool.false_eq_true, if_false, hpk rfl rfl, Bool.false_or, scanTail, finExp,
        expText, List.length_nil, scanOut]

/-- `parse_long_integer` over the remaining digits of the integer part, which it only counts -/
theorem longInt_run :
    ∀ (ds : List UInt8) (k F : Nat) (t : St), AllDigits ds →
      t.rd.rest = ds ++ (fracText fp ++ (expText ex ++ rest)) → t.rd.peeked = false →
      (rest = [] → t.rd.faulty = false) → k + ds.length ≤ i32Max →
      ds.length + ((fracText fp).length + (expText ex).length) + 1 ≤ F →
      parseLongInteger cfg 10 pos sig F k t =
        scanOut cfg pos (scanTail fp ex sig ((k + ds.length : Nat) : Int)).1
          (scanTail fp ex sig ((k + ds.length : Nat) : Int)).2 ex
          (adv t (ds.length + ((fracText fp).length + exErr ex)) false)
          (adv t (ds.length + ((fracText fp).length + (expText ex).length)) (endPeek t rest)) := by
  intro ds
  induction ds with
  | nil =>
    intro k F t _ hrest hpk hf _ hfuel
    rw [longInt_tail cfg pos sig fp ex rest hfp hex hstop hdot k F t hrest (fun _ _ => hpk) hf
      (by simpa using hfuel)]
    simp only [List.length_nil, Nat.add_zero, Nat.zero_add]
  | cons c cs ih =>
    intro k F t hd hrest hpk hf hk hfuel
    obtain ⟨f, rfl⟩ : ∃ f, F = f + 1 := ⟨F - 1, by omega⟩
    simp only [List.cons_append] at hrest
    simp only [List.length_cons] at hk hfuel
    obtain ⟨hlt, hdv⟩ := isDigit_val c hd.head
    obtain ⟨hp, hdc⟩ := pk_dc t c _ hrest
    rw [parseLongInteger]
    simp only [bind_apply, hp, hdv, Nat.not_le.mpr hlt, ge_iff_le, if_false, hdc,
      show ¬ (k + 1 > i32Max) by omega]
    rw [ih (k + 1) f (adv t 1 false) hd.tail (by simp [hrest]) (by simp) (by simpa using hf)
      (by omega) (by omega)]
    simp only [adv_adv, endPeek_adv, List.length_cons, Nat.add_assoc, Nat.add_comm 1]

/-- the digit loop of `parse_num_literal` over the integer part: digits are accumulated until one
    would overflow `u64` (`intScan`), the others are counted by `parse_long_integer`.  Induction on
    the digits: at their end `parse_num_tail` is `parse_long_integer` with nothing dropped
    (`numTail_eq_longInt`, `longInt_tail`); at an overflowing digit `longInt_run` takes the rest. -/
theorem intPart_eq :
    ∀ (ds : List UInt8) (acc F : Nat) (t : St), AllDigits ds →
      t.rd.rest = ds ++ (fracText fp ++ (expText ex ++ rest)) → t.rd.peeked = false →
      (rest = [] → t.rd.faulty = false) → (intScan ds acc).2 ≤ i32Max →
      ((intScan ds acc).2 = 0 → fp.isSome = true ∨ ex.isSome = true) →
      ds.length + ((fracText fp).length + (expText ex).length) + 2 ≤ F →
      numLoop cfg 10 pos F acc t =
        fltRes (scanOut cfg pos (scanTail fp ex (intScan ds acc).1 ((intScan ds acc).2 : Nat)).1
          (scanTail fp ex (intScan ds acc).1 ((intScan ds acc).2 : Nat)).2 ex
          (adv t (ds.length + ((fracText fp).length + exErr ex)) false)
          (adv t (ds.length + ((fracText fp).length + (expText ex).length)) (endPeek t rest))) := by
  intro ds
  induction ds with
  | nil =>
    intro acc F t _ hrest hpk hf _ hsome hfuel
    obtain ⟨f, rfl⟩ : ∃ f, F = f + 1 := ⟨F - 1, by omega⟩
    obtain ⟨c, tl, hc, hc3⟩ := tail_head fp ex rest hex (hsome rfl)
    simp only [List.nil_append] at hrest
    have hdv : digitVal 10 c = none := by rcases hc3 with rfl | rfl | rfl <;> decide
    rw [numLoop, bind_apply, pk_cons t c tl (by rw [hrest, hc])]
    simp only [hdv]
    rw [numTail_eq_longInt cfg pos acc f _ c tl (by simp [hrest, hc]) hc3,
      longInt_tail cfg pos acc fp ex rest hfp hex hstop hdot 0 (f + 1) _ (by simpa using hrest)
        (fun h1 h2 => by have := hsome rfl; simp [h1, h2] at this)
        (by simpa using hf) (by simp only [List.length_nil, Nat.zero_add] at hfuel; omega)]
    simp only [adv_adv, endPeek_adv, intScan, List.length_nil, Nat.zero_add, Int.natCast_zero]
  | cons c cs ih =>
    intro acc F t hd hrest hpk hf hk hsome hfuel
    obtain ⟨f, rfl⟩ : ∃ f, F = f + 1 := ⟨F - 1, by omega⟩
    simp only [List.cons_append] at hrest
    simp only [List.length_cons] at hfuel
    obtain ⟨hlt, hdv⟩ := isDigit_val c hd.head
    obtain ⟨hp, hdc⟩ := pk_dc t c _ hrest
    rw [numLoop]
    simp only [bind_apply, hp, hdv, Nat.not_le.mpr hlt, ge_iff_le, if_false, hdc]
    rw [intScan] at hk hsome ⊢
    cases hov : overflow acc 10 (c.toNat - 48) u64Max with
    | true =>
      simp only [hov, if_true] at hk ⊢
      rw [bind_flt, longInt_run cfg pos acc fp ex rest hfp hex hstop hdot cs 1 (f + 1)
        (adv t 1 false) hd.tail (by simp [hrest]) (by simp) (by simpa using hf) (by omega)
        (by omega)]
      simp only [adv_adv, endPeek_adv, List.length_cons, Nat.add_assoc, Nat.add_comm 1]
    | false =>
      simp only [hov, Bool.false_eq_true, if_false] at hk hsome ⊢
      rw [ih _ f (adv t 1 false) hd.tail (by simp [hrest]) (by simp) (by simpa using hf) hk hsome
        (by omega)]
      simp only [adv_adv, endPeek_adv, List.length_cons, Nat.add_assoc, Nat.add_comm 1]

end tail

/-- A decimal literal `digits [. digits] [(e|E) [+|-] digits]`. -/
structure DecLit where
  ip : List UInt8
  fp : Option (List UInt8)
  ex : Option ExpPart

namespace DecLit

def text (L : DecLit) : List UInt8 := L.ip ++ (fracText L.fp ++ expText L.ex)

/-- at least one digit before and, if there is a `.`, after it; a fraction or an exponent -/
def WF (L : DecLit) : Prop :=
  L.ip ≠ [] ∧ AllDigits L.ip ∧
  (∀ f, L.fp = some f → f ≠ [] ∧ AllDigits f) ∧
  (∀ e, L.ex = some e → e.WF) ∧
  (L.fp.isSome = true ∨ L.ex.isSome = true)

/-- the fraction digits that reach the significand: trailing zeros removed -/
def kept (L : DecLit) : List UInt8 :=
  match L.fp with
  | none => []
  | some f => stripZ f

/-- the written exponent (0 if there is none) -/
def expVal (L : DecLit) : Int := exVal L.ex

def expAbs (L : DecLit) : Nat := exAbs L.ex

/-- significand handed to `f64_from_parts` -/
def sig (L : DecLit) : Nat := dv 0 (L.ip ++ L.kept)
/-- exponent handed to `f64_from_parts` -/
def exp10 (L : DecLit) : Int := L.expVal - (L.kept.length : Int)

/-- all written digits as one integer -/
def rawSig (L : DecLit) : Nat := dv 0 (L.ip ++ (L.fp.getD []))
/-- the exponent that goes with `rawSig` -/
def rawExp (L : DecLit) : Int := L.expVal - ((L.fp.getD []).length : Int)

/-- the exponent arithmetic stays inside `i32` -/
def Small (L : DecLit) : Prop := L.kept.length + L.expAbs ≤ i32Max

end DecLit

/-- what `parse_num_literal` hands to `f64_from_parts` for an arbitrary literal -/
def DecLit.scanT (L : DecLit) : Nat × Int :=
  scanTail L.fp L.ex (intScan L.ip 0).1 ((intScan L.ip 0).2 : Int)

/-- the exponent part enters the scanned pair only through the final exponent arithmetic -/
theorem DecLit.scanT_ex (ip : List UInt8) (fp : Option (List UInt8)) (ex : Option ExpPart) :
    DecLit.scanT ⟨ip, fp, ex⟩ =
      ((DecLit.scanT ⟨ip, fp, none⟩).1, finExp (DecLit.scanT ⟨ip, fp, none⟩).2 ex) := by
  cases fp <;> rfl

theorem scanTail_le (fp : Option (List UInt8)) (ex : Option ExpPart) (sig : Nat) (se : Int)
    (hfp : ∀ g, fp = some g → AllDigits g) (h : sig ≤ u64Max) : (scanTail fp ex sig se).1 ≤ u64Max := by
  cases fp with
  | none => exact h
  | some g => exact (fracScan_bounds g sig se 0 (hfp g rfl) h).1

theorem DecLit.scanT0_bounds (ip : List UInt8) (fp : Option (List UInt8)) (hipd : AllDigits ip)
    (hfp : ∀ g, fp = some g → AllDigits g) :
    (DecLit.scanT ⟨ip, fp, none⟩).1 ≤ u64Max ∧
    -(((fp.getD []).length : Nat) : Int) ≤ (DecLit.scanT ⟨ip, fp, none⟩).2 ∧
    (DecLit.scanT ⟨ip, fp, none⟩).2 ≤ (ip.length : Int) := by
  obtain ⟨h1, h2⟩ := intScan_bounds ip 0 hipd (by decide)
  cases fp with
  | none =>
    simp only [DecLit.scanT, scanTail, finExp, Option.getD_none, List.length_nil]
    exact ⟨h1, by omega, by omega⟩
  | some f =>
    obtain ⟨a, b, c⟩ := fracScan_bounds f (intScan ip 0).1 ((intScan ip 0).2 : Int) 0 (hfp f rfl) h1
    simp only [DecLit.scanT, scanTail, finExp, Option.getD_some]
    exact ⟨a, by omega, by omega⟩

/-- The scan of a decimal float literal, every case: `parse_num_literal` on
    `digits [. digits] [(e|E) [+|-] digits]` (a fraction or an exponent present, or the integer
    part alone beyond `u64`) returns what `scanOut` says for the pair `L.scanT` the scanners keep:
    `f64_from_parts` at the end of the literal, or, for an exponent beyond `i32`, the outcome of
    `parse_exponent_overflow`.  The only way to a panic is `parse_long_integer` counting more than
    `i32::MAX` dropped digits, excluded by `hdrop`. -/
theorem scan_total (cfg : Cfg) (fuel : Nat) (pos : Bool) (L : DecLit) (rest : List UInt8) (s : St)
    (hipne : L.ip ≠ []) (hipd : AllDigits L.ip)
    (hfp : ∀ g, L.fp = some g → g ≠ [] ∧ AllDigits g) (hex : ∀ e, L.ex = some e → e.WF)
    (hfloat : L.fp.isSome = true ∨ L.ex.isSome = true ∨ u64Max < dv 0 L.ip)
    (hrest : s.rd.rest = L.text ++ rest) (hstop : ScanStop rest)
    (hdot : L.fp = none → L.ex = none → (rest.head?.getD 0 == 46) = false)
    (hf : rest = [] → s.rd.faulty = false)
    (hdrop : (intScan L.ip 0).2 ≤ i32Max) (hfuel : L.text.length + 1 ≤ fuel) :
    parseNumLiteral cfg fuel 10 pos s =
      fltRes (scanOut cfg pos L.scanT.1 L.scanT.2 L.ex
        (adv s (L.ip.length + ((fracText L.fp).length + exErr L.ex)) false)
        (adv s L.text.length (endPeek s rest))) := by
  obtain ⟨ip, fp, ex⟩ := L
  simp only [DecLit.text, DecLit.scanT] at *
  cases ip with
  | nil => exact absurd rfl hipne
  | cons c cs =>
    simp only [List.cons_append, List.length_cons, List.length_append] at hrest hfuel
    obtain ⟨hlt, hdv⟩ := isDigit_val c hipd.head
    have h0 : overflow 0 10 (c.toNat - 48) u64Max = false := by
      rw [overflow_false_iff (by decide) hlt]; unfold u64Max; omega
    have hsc : intScan (c :: cs) 0 = intScan cs (c.toNat - 48) := by
      rw [intScan, h0, Nat.zero_mul, Nat.zero_add]; rfl
    rw [hsc] at hdrop ⊢
    unfold parseNumLiteral
    simp only [bind_apply, nx_cons s _ _ hrest, hdv, Nat.not_le.mpr hlt, ge_iff_le, if_false]
    rw [intPart_eq cfg pos fp ex rest hfp hex hstop hdot cs _ fuel (adv s 1 false) hipd.tail
      (by simp [hrest]) (by simp) (by simpa using hf) hdrop
      (fun h => by
        rcases hfloat with h1 | h1 | h1
        · exact Or.inl h1
        · exact Or.inr h1
        · exact absurd h (intScan_ne_zero cs _ hipd.tail (by unfold u64Max; omega) (by simpa using h1)))
      (by omega)]
    simp only [adv_adv, endPeek_adv, List.length_cons, List.length_append, Nat.add_assoc,
      Nat.add_comm 1]

theorem DecLit.scanT_exact (L : DecLit) (hwf : L.WF) (hS : L.sig ≤ u64Max) (hsmall : L.Small) :
    L.scanT = (L.sig, L.exp10) := by
  obtain ⟨ip, fp, ex⟩ := L
  obtain ⟨_, hipd, hfp, _, _⟩ := hwf
  simp only [DecLit.scanT, DecLit.sig, DecLit.exp10, DecLit.kept, DecLit.Small, DecLit.expVal,
    DecLit.expAbs] at *
  cases fp with
  | none =>
    simp only [List.append_nil, List.length_nil, Nat.zero_add, Int.natCast_zero, Int.sub_zero] at *
    rw [intScan_fits ip 0 hipd hS]
    have := finExp_small 0 ex (by simpa using hsmall)
    simp only [Int.natCast_zero, Int.neg_zero, Int.sub_zero] at this
    simp only [scanTail, Int.natCast_zero, this]
  | some f =>
    simp only [] at hS hsmall ⊢
    rw [dv_append] at hS ⊢
    rw [intScan_fits ip 0 hipd (Nat.le_trans (dv_ge _ _) hS)]
    have hm := fracScan_closed f (dv 0 ip) 0 0 (hfp f rfl).2 (by simpa using hS)
    simp only [List.replicate_zero, List.nil_append, Int.zero_sub] at hm
    simp only [scanTail, Int.natCast_zero, hm]
    simp only [finExp_small _ ex hsmall]

theorem scan_any (cfg : Cfg) (fuel : Nat) (pos : Bool) (L : DecLit) (rest : List UInt8) (s : St)
    (hipne : L.ip ≠ []) (hipd : AllDigits L.ip)
    (hfp : ∀ g, L.fp = some g → g ≠ [] ∧ AllDigits g) (hex : ∀ e, L.ex = some e → e.WF)
    (hfloat : L.fp.isSome = true ∨ L.ex.isSome = true ∨ u64Max < dv 0 L.ip)
    (hrest : s.rd.rest = L.text ++ rest) (hstop : ScanStop rest)
    (hdot : L.fp = none → L.ex = none → (rest.head?.getD 0 == 46) = false)
    (hf : rest = [] → s.rd.faulty = false)
    (hdrop : (intScan L.ip 0).2 ≤ i32Max) (hexa : exAbs L.ex ≤ i32Max)
    (hfuel : L.text.length + 1 ≤ fuel) :
    parseNumLiteral cfg fuel 10 pos s =
      (f64FromParts cfg pos L.scanT.1 L.scanT.2 >>= fun g => pure (Number.flt g))
        (adv s L.text.length (endPeek s rest)) := by
  rw [scan_total cfg fuel pos L rest s hipne hipd hfp hex hfloat hrest hstop hdot hf hdrop hfuel,
    scanOut_fits _ _ _ _ _ _ _ hexa]
  exact (bind_flt _ _).symm

theorem scan_lit (cfg : Cfg) (fuel : Nat) (pos : Bool) (L : DecLit) (rest : List UInt8) (s : St)
    (hwf : L.WF) (hrest : s.rd.rest = L.text ++ rest) (hstop : ScanStop rest)
    (hf : rest = [] → s.rd.faulty = false) (hS : L.sig ≤ u64Max) (hsmall : L.Small)
    (hfuel : L.text.length + 1 ≤ fuel) :
    parseNumLiteral cfg fuel 10 pos s =
      (f64FromParts cfg pos L.sig L.exp10 >>= fun g => pure (Number.ofF64 g))
        (adv s L.text.length (endPeek s rest)) := by
  have hfit : dv 0 L.ip ≤ u64Max := by
    unfold DecLit.sig at hS; rw [dv_append] at hS; exact Nat.le_trans (dv_ge _ _) hS
  have hx : (L.fp.isSome = true ∨ L.ex.isSome = true) := hwf.2.2.2.2
  rw [scan_any cfg fuel pos L rest s hwf.1 hwf.2.1 hwf.2.2.1 hwf.2.2.2.1
    (hx.elim Or.inl (fun h => Or.inr (Or.inl h))) hrest hstop
    (fun h1 h2 => by rw [h1, h2] at hx; simp at hx) hf
    (by rw [intScan_fits L.ip 0 hwf.2.1 hfit]; exact Nat.zero_le _)
    (by unfold DecLit.Small DecLit.expAbs at hsmall; omega) hfuel,
    L.scanT_exact hwf hS hsmall]
  rfl

/-! ## 8. The value of a literal -/

/-- The pair handed to `f64_from_parts` denotes the same number as all written digits with the
    written exponent: `sig * 10^exp10 = rawSig * 10^rawExp`, stated over `Nat`. -/
theorem DecLit.value_eq (L : DecLit) :
    L.rawExp ≤ L.exp10 ∧ L.sig * 10 ^ (L.exp10 - L.rawExp).toNat = L.rawSig := by
  obtain ⟨ip, fp, ex⟩ := L
  cases fp with
  | none =>
    simp [DecLit.rawExp, DecLit.exp10, DecLit.kept, DecLit.sig, DecLit.rawSig]
  | some f =>
    obtain ⟨t, ht⟩ := stripZ_spec f
    have hl : f.length = (stripZ f).length + t := by
      have := congrArg List.length ht
      simpa using this
    simp only [DecLit.rawExp, DecLit.exp10, DecLit.kept, DecLit.sig, DecLit.rawSig, Option.getD_some]
    constructor
    · omega
    · have e1 : (DecLit.expVal ⟨ip, some f, ex⟩ - ((stripZ f).length : Int) -
          (DecLit.expVal ⟨ip, some f, ex⟩ - (f.length : Int))).toNat = t := by omega
      rw [e1]
      conv => rhs; rw [ht, ← List.append_assoc, dv_append, dv_trailing_zeros]

/-! ## 9. Correct rounding of a decimal -/

/-- the double nearest to `S * 10^E` (magnitude bits) -/
def decRn (S : Nat) (E : Int) : Nat := rn (S * 10 ^ E.toNat) (10 ^ (-E).toNat)

theorem decRn_cases (S : Nat) (E : Int) :
    decRn S E = if E ≥ 0 then rn (S * 10 ^ E.toNat) 1 else rn S (10 ^ (-E).toNat) := by
  unfold decRn
  by_cases h : E ≥ 0
  · have : (-E).toNat = 0 := by omega
    simp [h, this]
  · have : E.toNat = 0 := by omega
    simp [h, this]

theorem ten_pow_pos (k : Nat) : 0 < 10 ^ k := Nat.pow_pos (by decide)

theorem decRn_congr {S S' : Nat} {E E' : Int}
    (h : S * 10 ^ E.toNat * 10 ^ (-E').toNat = S' * 10 ^ E'.toNat * 10 ^ (-E).toNat) :
    decRn S E = decRn S' E' :=
  rn_quotient (ten_pow_pos _) (ten_pow_pos _) h

theorem decRn_shift (S t : Nat) (E : Int) : decRn (S * 10 ^ t) E = decRn S (E + t) := by
  apply decRn_congr
  have key : t + E.toNat + (-(E + (t : Int))).toNat = (E + (t : Int)).toNat + (-E).toNat := by
    have := toNat_bal (a := (t : Int)) (b := E) (c := E + t) (Int.add_comm _ _)
    rwa [Int.toNat_natCast, Int.toNat_neg_natCast, Nat.zero_add, Nat.add_comm (-E).toNat] at this
  have : 10 ^ t * 10 ^ E.toNat * 10 ^ (-(E + (t : Int))).toNat =
      10 ^ (E + (t : Int)).toNat * 10 ^ (-E).toNat := by
    rw [← Nat.pow_add, ← Nat.pow_add, ← Nat.pow_add, key]
  generalize 10 ^ t = a at *
  generalize 10 ^ E.toNat = b at *
  generalize 10 ^ (-(E + (t : Int))).toNat = c at *
  generalize 10 ^ (E + (t : Int)).toNat = d at *
  generalize 10 ^ (-E).toNat = e at *
  calc S * a * b * c = S * (a * b * c) := by grind
    _ = S * (d * e) := by rw [this]
    _ = S * d * e := by grind

theorem DecLit.decRn_eq (L : DecLit) : decRn L.sig L.exp10 = decRn L.rawSig L.rawExp := by
  obtain ⟨h1, h2⟩ := L.value_eq
  rw [← h2, decRn_shift]
  congr 1; omega

/-- `rnDec` is the correctly rounded value in the range where it calls `rn`. -/
theorem rnDec_eq (s : Nat) (e : Int) (hlo : -420 ≤ e) (hhi : e ≤ 400) : rnDec s e = decRn s e := by
  unfold rnDec
  by_cases hs : s = 0
  · subst hs; simp [decRn, rn_zero_left]
  · have h1 : ¬ e > 400 := by omega
    have h2 : ¬ e < -420 := by omega
    simp only [hs, h1, h2, if_false]
    rw [decRn_cases]

theorem f64FromParts_fast (cfg : Cfg) (pos : Bool) {sig : Nat} {e : Int} (s : St)
    (hfast : cfg.fast = true) (hp : ∀ k, k ≤ 22 → Exact (cfg.pow10 k) (10 ^ k))
    (hs : sig < 2 ^ 53) (hlo : -22 ≤ e) (hhi : e ≤ 22) :
    f64FromParts cfg pos sig e s = .ok (signed pos (decRn sig e)) s := by
  rw [C05_f64FromParts_fast cfg pos s hfast hp hs hlo hhi, decRn_cases]
  rfl

theorem f64FromParts_slow (cfg : Cfg) (pos : Bool) (sig : Nat) (e : Int) (s : St)
    (hfast : cfg.fast = false) :
    f64FromParts cfg pos sig e s =
      if isInf (rnDec sig e) then errAt .numberOutOfRange s
      else .ok (signed pos (rnDec sig e)) s := by
  rw [f64FromParts_eq, partsMag_slow hfast]
  cases isInf (rnDec sig e) <;> rfl

/-! ## 10. From the literal to the token -/

/-- What may follow a number token: end of input or a delimiter (`expect_number_end`). -/
def DelimStop (rest : List UInt8) : Prop := ∀ b, rest.head? = some b → isDelimiter b = true

theorem delim_facts (b : UInt8) (h : isDelimiter b = true) :
    isDigit b = false ∧ (b == 101 || b == 69) = false := by
  simp only [isDelimiter, Bool.or_eq_true, beq_iff_eq] at h
  rcases h with ((((((((((rfl | rfl) | rfl) | rfl) | rfl) | rfl) | rfl) | rfl) | rfl) | rfl) | rfl) | rfl <;>
    decide

theorem DelimStop.scanStop {rest : List UInt8} (h : DelimStop rest) : ScanStop rest := by
  cases rest with
  | nil => exact ⟨by decide, by decide⟩
  | cons b tl => exact delim_facts b (h b rfl)

theorem delimStop_of_follow {rest : List UInt8} (h : Follow rest) : DelimStop rest := h.delim

theorem numToken_lit (cfg : Cfg) (fuel : Nat) (pos : Bool) (L : DecLit) (rest : List UInt8)
    (s : St) (g : Nat)
    (hwf : L.WF) (hrest : s.rd.rest = L.text ++ rest) (hd : DelimStop rest)
    (hf : rest = [] → s.rd.faulty = false) (hS : L.sig ≤ u64Max) (hsmall : L.Small)
    (hfuel : L.text.length + 1 ≤ fuel)
    (hparts : ∀ u, f64FromParts cfg pos L.sig L.exp10 u = .ok g u) :
    parseNumToken cfg fuel pos s =
      .ok (.flt g) (adv s L.text.length (endPeek s rest)) := by
  unfold parseNumToken
  simp only [bind_apply, scan_lit cfg fuel pos L rest s hwf hrest hd.scanStop hf hS hsmall hfuel,
    hparts, pure_apply, Number.ofF64]
  rw [expectNumberEnd_reads _ _ rest (by simp [hrest]) hd (by simpa using hf)]
  simp

theorem numToken_lit_err (cfg : Cfg) (fuel : Nat) (pos : Bool) (L : DecLit) (rest : List UInt8)
    (s : St) (c : Code)
    (hwf : L.WF) (hrest : s.rd.rest = L.text ++ rest) (hd : ScanStop rest)
    (hf : rest = [] → s.rd.faulty = false) (hS : L.sig ≤ u64Max) (hsmall : L.Small)
    (hfuel : L.text.length + 1 ≤ fuel)
    (hparts : ∀ u, f64FromParts cfg pos L.sig L.exp10 u = errAt c u) :
    parseNumToken cfg fuel pos s = errAt c (adv s L.text.length (endPeek s rest)) ∧
    parseNumLiteral cfg fuel 10 pos s = errAt c (adv s L.text.length (endPeek s rest)) := by
  unfold parseNumToken
  simp only [bind_apply, scan_lit cfg fuel pos L rest s hwf hrest hd hf hS hsmall hfuel,
    hparts, errAt, and_self]

theorem digit_start_facts : ∀ c : UInt8, isDigit c = true →
    (c == 0 || isDelimiter c || isSignSubsequent c) = false ∧ (c == 46) = false := by
  apply byte_forall; decide +kernel

theorem DecLit.text_head (L : DecLit) (hwf : L.WF) :
    ∃ c tl, L.text = c :: tl ∧ isDigit c = true := by
  obtain ⟨ip, fp, ex⟩ := L
  obtain ⟨hne, hd, -⟩ := hwf
  cases ip with
  | nil => exact absurd rfl hne
  | cons c cs => exact ⟨c, _, rfl, hd.head⟩

/-- a literal after a minus sign as a token (any option set) -/
theorem token_lit_neg (cfg : Cfg) (fuel : Nat) (L : DecLit) (rest : List UInt8)
    (s : St) (g : Nat)
    (hwf : L.WF) (hrest : s.rd.rest = 45 :: (L.text ++ rest))
    (hd : DelimStop rest)
    (hf : rest = [] → s.rd.faulty = false) (hS : L.sig ≤ u64Max) (hsmall : L.Small)
    (hfuel : L.text.length + 1 ≤ fuel)
    (hparts : ∀ u, f64FromParts cfg false L.sig L.exp10 u = .ok g u) :
    parseToken cfg fuel 45 s =
      .ok (.number (.flt g)) (adv s (L.text.length + 1) (endPeek s rest)) := by
  obtain ⟨c, tl, htx, hc⟩ := L.text_head hwf
  obtain ⟨g1, g2⟩ := digit_start_facts c hc
  have hdsp : parseToken cfg fuel 45 = parseSignToken cfg fuel 45 false := by
    rw [parseToken_eq]; rfl
  have hr1 : (adv s 1 false).rd.rest = c :: (tl ++ rest) := by simp [hrest, htx]
  have hr1' : (adv s 1 false).rd.rest = L.text ++ rest := by simp [hrest]
  rw [hdsp]
  unfold parseSignToken
  simp only [bind_apply, dc_cons s _ _ hrest, pk_cons _ _ _ hr1, g1, g2, Bool.false_eq_true,
    if_false, adv_adv]
  rw [numToken_lit cfg fuel false L rest _ g hwf (by simp [hrest]) hd (by simpa using hf) hS hsmall
    hfuel hparts]
  simp only [adv_adv, endPeek_adv, pure_apply, Nat.add_comm 1]

/-! ## 11. The shortcuts of `rnDec` outside the range of a double -/

set_option exponentiation.threshold 2048 in
theorem two1024_le_ten401 : (2 : Nat) ^ 1024 ≤ 10 ^ 401 := by decide

set_option exponentiation.threshold 2048 in
theorem two1139_le_ten421 : (2 : Nat) ^ 1139 ≤ 10 ^ 421 := by decide

set_option exponentiation.threshold 2048 in
/-- `rnDec` is the correctly rounded value of `s * 10^e` for every exponent (`s` a `u64`):
    its two shortcuts agree with `rn`. -/
theorem rnDec_eq_all (s : Nat) (e : Int) (hs : s ≤ u64Max) : rnDec s e = decRn s e := by
  by_cases h0 : s = 0
  · subst h0; simp [rnDec, decRn, rn_zero_left]
  by_cases hhi : e > 400
  · have : rnDec s e = infBits := by simp [rnDec, h0, hhi]
    rw [this, decRn_cases, if_pos (by omega)]
    symm
    apply rn_overflow (by decide)
    have h1 : 10 ^ 401 ≤ 10 ^ e.toNat := Nat.pow_le_pow_right (by decide) (by omega)
    have h2 : 10 ^ e.toNat ≤ s * 10 ^ e.toNat := Nat.le_mul_of_pos_left _ (by omega)
    have h3 := two1024_le_ten401
    generalize (2 : Nat) ^ 1024 = T at *
    generalize (10 : Nat) ^ 401 = U at *
    omega
  by_cases hlo : e < -420
  · have : rnDec s e = 0 := by simp [rnDec, h0, hhi, hlo]
    rw [this, decRn_cases, if_neg (by omega)]
    symm
    apply rn_underflow (ten_pow_pos _)
    have h1 : 10 ^ 421 ≤ 10 ^ (-e).toNat := Nat.pow_le_pow_right (by decide) (by omega)
    have h2 : s * 2 ^ 1075 < 2 ^ 64 * 2 ^ 1075 :=
      Nat.mul_lt_mul_of_pos_right (by unfold u64Max at hs; omega) (Nat.two_pow_pos _)
    have h3 : (2 : Nat) ^ 64 * 2 ^ 1075 = 2 ^ 1139 := by rw [← Nat.pow_add]
    have h4 := two1139_le_ten421
    generalize (2 : Nat) ^ 1139 = T at *
    generalize (10 : Nat) ^ 421 = U at *
    omega
  · exact rnDec_eq s e (by omega) (by omega)

/-! ## 12. `f64_from_parts`: out of range -/

theorem isInf_infBits : isInf infBits = true := by decide

theorem f64FromParts_slow_inf (cfg : Cfg) (pos : Bool) (S : Nat) (E : Int) (hfast : cfg.fast = false)
    (hS : S ≤ u64Max) (hinf : decRn S E = infBits) (u : St) :
    f64FromParts cfg pos S E u = errAt .numberOutOfRange u := by
  rw [f64FromParts_slow cfg pos S E u hfast, rnDec_eq_all S E hS, hinf, isInf_infBits]
  rfl

theorem out_of_range_slow (cfg : Cfg) (pos : Bool) (S : Nat) (E : Int) (hfast : cfg.fast = false)
    (hS : S ≤ u64Max) (hbig : 2 ^ 1024 * 10 ^ (-E).toNat ≤ S * 10 ^ E.toNat) (u : St) :
    f64FromParts cfg pos S E u = errAt .numberOutOfRange u :=
  f64FromParts_slow_inf cfg pos S E hfast hS (rn_overflow (ten_pow_pos _) hbig) u

theorem isZero_ofNat {n : Nat} (hn : 0 < n) : isZero (F64.ofNat n) = false := by
  unfold isZero F64.ofNat
  rw [mag_of_le_inf (rn_le_inf n 1)]
  exact beq_false_of_ne (Nat.ne_of_gt (Nat.lt_of_lt_of_le (by decide) (rn_ge_one hn)))

theorem out_of_range_fast (cfg : Cfg) (pos : Bool) (S : Nat) (E : Int) (hfast : cfg.fast = true)
    (hS : 0 < S) (hE : 308 < E) (u : St) :
    f64FromParts cfg pos S E u = errAt .numberOutOfRange u := by
  have : fastParts cfg.pow10 (E.natAbs / 308 + 2) (F64.ofNat S) E = none := by
    rw [show E.natAbs / 308 + 2 = (E.natAbs / 308 + 1) + 1 from rfl, fastParts]
    have h1 : ¬ E.natAbs ≤ 308 := by omega
    have h2 : E ≥ 0 := by omega
    simp [h1, h2, isZero_ofNat hS]
  exact f64FromParts_none (by rw [partsMag_fast hfast, this]) pos u

theorem f64FromParts_cases (cfg : Cfg) (pos : Bool) (S : Nat) (E : Int) (u : St) :
    (∃ g, f64FromParts cfg pos S E u = .ok g u) ∨
    f64FromParts cfg pos S E u = errAt .numberOutOfRange u := by
  rw [f64FromParts_eq]
  cases partsMag cfg S E with
  | some g => exact Or.inl ⟨_, rfl⟩
  | none => exact Or.inr rfl

/-- the last step of every scan, `f64_from_parts` wrapped into a `Number`: a finite double or
    `NumberOutOfRange` -/
theorem flt_finite_or_range (cfg : Cfg) (pos : Bool) (S : Nat) (E : Int) (u : St) (hS : S ≤ u64Max)
    (hp : cfg.fast = true → ∀ k, k ≤ 308 → oneBits ≤ cfg.pow10 k ∧ cfg.pow10 k < infBits) :
    (∃ g, (f64FromParts cfg pos S E >>= fun g => pure (Number.flt g)) u = .ok (Number.flt g) u ∧
      isFinite g = true ∧ isInf g = false ∧ isNaN g = false) ∨
    (f64FromParts cfg pos S E >>= fun g => pure (Number.flt g)) u = errAt .numberOutOfRange u := by
  rcases f64FromParts_cases cfg pos S E u with ⟨g, hg⟩ | he
  · obtain ⟨a, b, c, -⟩ := C05_never_inf cfg pos S E _ _ g hS hp hg
    exact Or.inl ⟨g, by simp only [bind_apply, hg, pure_apply], a, b, c⟩
  · exact Or.inr (by simp only [bind_apply, he, errAt])

/-! ## 13. The digits that `itoa` / `ryu` print -/

theorem ofNat_digit : ∀ d, d < 10 →
    isDigit (UInt8.ofNat (48 + d)) = true ∧ (UInt8.ofNat (48 + d)).toNat - 48 = d ∧
    ((UInt8.ofNat (48 + d) == 48) = (d == 0)) := by decide

theorem natDigits_snoc (n : Nat) : ∃ init, natDigits n = init ++ [UInt8.ofNat (48 + n % 10)] := by
  by_cases h : n < 10
  · exact ⟨[], by rw [natDigits_lt h, Nat.mod_eq_of_lt h]; rfl⟩
  · exact ⟨natDigits (n / 10), natDigits_ge (by omega)⟩

theorem natDigits_allDigits (n : Nat) : AllDigits (natDigits n) := natDigits_isDigit n

theorem natDigits_ne_nil (n : Nat) : natDigits n ≠ [] := by
  obtain ⟨d, tl, -, h⟩ := natDigits_head n
  rw [h]; exact List.cons_ne_nil _ _

theorem dv_natDigits (n : Nat) : dv 0 (natDigits n) = n := by
  induction n using Nat.strongRecOn with
  | _ n ih =>
    by_cases h : n < 10
    · rw [natDigits_lt h, dv_cons, dv_nil, (ofNat_digit n h).2.1]; omega
    · rw [natDigits_ge (by omega), dv_append, ih (n / 10) (by omega), dv_cons, dv_nil,
        (ofNat_digit (n % 10) (Nat.mod_lt _ (by decide))).2.1]
      omega

theorem natDigits_len_le : ∀ (k n : Nat), n < 10 ^ (k + 1) → (natDigits n).length ≤ k + 1 := by
  intro k
  induction k with
  | zero => intro n h; rw [natDigits_lt (by simpa using h)]; simp
  | succ k ih =>
    intro n h
    by_cases h10 : n < 10
    · rw [natDigits_lt h10]; simp
    · rw [natDigits_ge (by omega)]
      have : n / 10 < 10 ^ (k + 1) := by
        apply Nat.div_lt_of_lt_mul
        rw [Nat.pow_succ (m := k + 1)] at h; omega
      have := ih (n / 10) this
      simp only [List.length_append, List.length_cons, List.length_nil]; omega

theorem lt_pow_len (n : Nat) : n < 10 ^ (natDigits n).length := by
  induction n using Nat.strongRecOn with
  | _ n ih =>
    by_cases h : n < 10
    · rw [natDigits_lt h]; simpa using h
    · rw [natDigits_ge (by omega)]
      have := ih (n / 10) (by omega)
      simp only [List.length_append, List.length_cons, List.length_nil, Nat.zero_add]
      rw [Nat.pow_succ]
      omega

/-- digits of a number that does not end in `0`: nothing is stripped, from any position on -/
theorem stripZ_drop_natDigits (m k : Nat) (hm : m % 10 ≠ 0) (hk : k < (natDigits m).length)
    (pre : List UInt8) :
    stripZ (pre ++ (natDigits m).drop k) = pre ++ (natDigits m).drop k := by
  obtain ⟨init, h⟩ := natDigits_snoc m
  have hl : k ≤ init.length := by
    have := congrArg List.length h
    simp at this; omega
  have hc : (UInt8.ofNat (48 + m % 10) == 48) = false := by
    rw [(ofNat_digit (m % 10) (Nat.mod_lt _ (by decide))).2.2]
    simpa using hm
  rw [h, List.drop_append_of_le_length hl, ← List.append_assoc]
  exact stripZ_append_cons _ hc []

/-! ## 14. The layouts of `ryu::Buffer::format` -/

/-- what the scan theorem needs to know about a literal -/
structure LitFacts (L : DecLit) (S : Nat) (E : Int) : Prop where
  wf : L.WF
  sig : L.sig = S
  exp : L.exp10 = E
  small : L.Small

theorem LitFacts.cast {L : DecLit} {S : Nat} {E E' : Int} (h : LitFacts L S E') (he : E' = E) :
    LitFacts L S E := he ▸ h

/-- the exponent part `e<x>` as ryu writes it: `-` for a negative exponent, no `+`, no padding -/
def expPart (x : Int) : ExpPart := ⟨101, if x < 0 then [45] else [], natDigits x.natAbs⟩

theorem expPart_text (x : Int) : (expPart x).text = 101 :: intDigits x := by
  unfold expPart ExpPart.text intDigits
  by_cases h : x < 0
  · simp only [h, if_true]; rfl
  · have : x.natAbs = x.toNat := by omega
    simp [h, this]

theorem expPart_wf (x : Int) : (expPart x).WF := by
  refine ⟨Or.inl rfl, ?_, natDigits_ne_nil _, natDigits_allDigits _⟩
  unfold expPart
  by_cases h : x < 0 <;> simp [h]

theorem expPart_val (x : Int) : (expPart x).val = x ∧ (expPart x).abs = x.natAbs := by
  have habs : (expPart x).abs = x.natAbs := by
    unfold ExpPart.abs expPart
    simp only [dv_natDigits]
  refine ⟨?_, habs⟩
  unfold ExpPart.val
  rw [habs]
  unfold expPart expSignPos
  by_cases h : x < 0
  · simp only [h, if_true]
    have : (([45] : List UInt8) != [45]) = false := by decide
    simp only [this, Bool.false_eq_true, if_false]; omega
  · simp only [h, if_false]
    have : (([] : List UInt8) != [45]) = true := by decide
    simp only [this, if_true]; omega

/-- `d…d0…0.0` -/
theorem lit_intDot0 (m k : Nat) :
    LitFacts ⟨natDigits m ++ List.replicate k 48, some [48], none⟩ (m * 10 ^ k) 0 := by
  refine ⟨⟨?_, ?_, ?_, ?_, Or.inl rfl⟩, ?_, ?_, ?_⟩
  · simp [natDigits_ne_nil]
  · exact (natDigits_allDigits m).append (allDigits_replicate k)
  · intro f hf
    simp only [Option.some.injEq] at hf
    subst hf
    exact ⟨by simp, fun c hc => by simp at hc; subst hc; decide⟩
  · intro e he; cases he
  · have : stripZ [48] = [] := by decide
    simp only [DecLit.sig, DecLit.kept, this, List.append_nil]
    rw [dv_append, dv_natDigits, dv_trailing_zeros]
  · have : stripZ [48] = [] := by decide
    simp [DecLit.exp10, DecLit.kept, DecLit.expVal, exVal, this]
  · have : stripZ [48] = [] := by decide
    simp [DecLit.Small, DecLit.kept, DecLit.expAbs, exAbs, this]

/-- `d…d.d…d` (with `k = 1` and an exponent: `d.d…de±x`) -/
theorem lit_split (m k : Nat) (ex : Option ExpPart) (hm : m % 10 ≠ 0) (hk0 : 0 < k)
    (hk : k < (natDigits m).length) (hex : ∀ e, ex = some e → e.WF)
    (hsm : (natDigits m).length + exAbs ex ≤ i32Max) :
    LitFacts ⟨(natDigits m).take k, some ((natDigits m).drop k), ex⟩ m
      (exVal ex - (((natDigits m).length - k : Nat) : Int)) := by
  have hs := stripZ_drop_natDigits m k hm hk []
  simp only [List.nil_append] at hs
  refine ⟨⟨?_, ?_, ?_, hex, Or.inl rfl⟩, ?_, ?_, ?_⟩
  · intro h
    have := congrArg List.length h
    rw [List.length_take, List.length_nil] at this; omega
  · exact (natDigits_allDigits m).take k
  · intro f hf
    simp only [Option.some.injEq] at hf
    subst hf
    refine ⟨?_, (natDigits_allDigits m).drop k⟩
    intro h
    have := congrArg List.length h
    rw [List.length_drop, List.length_nil] at this; omega
  · simp only [DecLit.sig, DecLit.kept, hs, List.take_append_drop, dv_natDigits]
  · simp only [DecLit.exp10, DecLit.kept, hs, DecLit.expVal, List.length_drop]
  · simp only [DecLit.Small, DecLit.kept, hs, DecLit.expAbs, List.length_drop]
    omega

/-- `0.0…0d…d` -/
theorem lit_small (m j : Nat) (hm : m % 10 ≠ 0) (hj : j + (natDigits m).length ≤ i32Max) :
    LitFacts ⟨[48], some (List.replicate j 48 ++ natDigits m), none⟩ m
      (-((j + (natDigits m).length : Nat) : Int)) := by
  have hs := stripZ_drop_natDigits m 0 hm
    (by have := natDigits_ne_nil m; cases h : natDigits m <;> simp_all) (List.replicate j 48)
  simp only [List.drop_zero] at hs
  refine ⟨⟨by simp, fun c hc => by simp at hc; subst hc; decide, ?_, ?_, Or.inl rfl⟩, ?_, ?_, ?_⟩
  · intro f hf
    simp only [Option.some.injEq] at hf
    subst hf
    exact ⟨by simp [natDigits_ne_nil], (allDigits_replicate j).append (natDigits_allDigits m)⟩
  · intro e he; cases he
  · simp only [DecLit.sig, DecLit.kept, hs, List.cons_append, List.nil_append, dv_cons]
    rw [dv_append]
    have : dv (0 * 10 + ((48 : UInt8).toNat - 48)) (List.replicate j 48) = 0 := dv_replicate_zero j
    rw [this, dv_natDigits]
  · simp [DecLit.exp10, DecLit.kept, hs, DecLit.expVal, exVal]
  · simp only [DecLit.Small, DecLit.kept, hs, DecLit.expAbs, exAbs, List.length_append,
      List.length_replicate]
    omega

/-- `de±x` -/
theorem lit_sci1 (m : Nat) (x : Int) (hx : x.natAbs ≤ i32Max) :
    LitFacts ⟨natDigits m, none, some (expPart x)⟩ m x := by
  refine ⟨⟨natDigits_ne_nil m, natDigits_allDigits m, ?_, ?_, Or.inr rfl⟩, ?_, ?_, ?_⟩
  · intro f hf; cases hf
  · intro e he
    simp only [Option.some.injEq] at he
    subst he
    exact expPart_wf x
  · simp [DecLit.sig, DecLit.kept, dv_natDigits]
  · simp [DecLit.exp10, DecLit.kept, DecLit.expVal, exVal, (expPart_val x).1]
  · simp only [DecLit.Small, DecLit.kept, DecLit.expAbs, exAbs, (expPart_val x).2, List.length_nil]
    omega

/-- ryu's five ways to lay out the decimal `m * 10^e` (`len` digits in `m`, `kk = len + e`):
    `d…d0…0.0`, `d…d.d…d`, `0.0…0d…d`, `d.d…de±x`, `de±x`. -/
inductive Layout where
  | intDot0 | mid | small | sci | sci1
  deriving DecidableEq, Repr

/-- A decimal as ryu prints it: sign, digits `m` (printed as `natDigits m`), exponent, layout. -/
structure RyuDec where
  neg : Bool
  m : Nat
  e : Int
  layout : Layout

namespace RyuDec

def len (d : RyuDec) : Nat := (natDigits d.m).length
def kk (d : RyuDec) : Int := (d.len : Int) + d.e

/-- the printed text (without the sign) as a literal -/
def lit (d : RyuDec) : DecLit :=
  match d.layout with
  | .intDot0 => ⟨natDigits d.m ++ List.replicate d.e.toNat 48, some [48], none⟩
  | .mid => ⟨(natDigits d.m).take d.kk.toNat, some ((natDigits d.m).drop d.kk.toNat), none⟩
  | .small => ⟨[48], some (List.replicate (-d.kk).toNat 48 ++ natDigits d.m), none⟩
  | .sci => ⟨(natDigits d.m).take 1, some ((natDigits d.m).drop 1), some (expPart (d.kk - 1))⟩
  | .sci1 => ⟨natDigits d.m, none, some (expPart (d.kk - 1))⟩

def text (d : RyuDec) : List UInt8 := (if d.neg then [45] else []) ++ d.lit.text

/-- 1–17 digits, no trailing zero where a fraction is printed, and the side conditions under which
    ryu picks each layout (only what the proof needs of them for the two scientific ones). -/
def WF (d : RyuDec) : Prop :=
  d.m < 10 ^ 17 ∧ d.e.natAbs < 10 ^ 8 ∧
  match d.layout with
  | .intDot0 => 0 ≤ d.e ∧ d.kk ≤ 16
  | .mid => d.e < 0 ∧ 0 < d.kk ∧ d.kk ≤ 16 ∧ d.m % 10 ≠ 0
  | .small => -5 < d.kk ∧ d.kk ≤ 0 ∧ d.m % 10 ≠ 0
  | .sci => 2 ≤ d.len ∧ d.m % 10 ≠ 0
  | .sci1 => d.len = 1

/-- the significand the scanner hands to `f64_from_parts` -/
def S (d : RyuDec) : Nat :=
  match d.layout with
  | .intDot0 => d.m * 10 ^ d.e.toNat
  | _ => d.m

/-- the exponent the scanner hands to `f64_from_parts` -/
def E (d : RyuDec) : Int :=
  match d.layout with
  | .intDot0 => 0
  | _ => d.e

theorem litFacts (d : RyuDec) (h : d.WF) : LitFacts d.lit d.S d.E := by
  obtain ⟨neg, m, e, layout⟩ := d
  obtain ⟨hm17, he8, hl⟩ := h
  simp only [] at hm17 he8
  have hlen : (natDigits m).length ≤ 17 := natDigits_len_le 16 m hm17
  have h8 : (10 : Nat) ^ 8 = 100000000 := by decide
  cases layout with
  | intDot0 => exact lit_intDot0 m e.toNat
  | mid =>
    obtain ⟨h1, h2, _, h4⟩ := hl
    simp only [kk, len] at h1 h2
    exact (lit_split m ((natDigits m).length + e).toNat none h4 (by omega) (by omega)
      (fun e he => by cases he) (by simp only [exAbs, i32Max]; omega)).cast
      (by simp only [exVal, E]; omega)
  | small =>
    obtain ⟨h1, h2, h3⟩ := hl
    simp only [kk, len] at h1 h2
    exact (lit_small m (-(((natDigits m).length : Int) + e)).toNat h3
      (by simp only [i32Max]; omega)).cast (by simp only [E]; omega)
  | sci =>
    obtain ⟨h1, h2⟩ := hl
    simp only [len] at h1
    exact (lit_split m 1 (some (expPart (((natDigits m).length : Int) + e - 1))) h2 (by omega)
      (by omega)
      (fun x hx => by simp only [Option.some.injEq] at hx; subst hx; exact expPart_wf _)
      (by simp only [exAbs, (expPart_val _).2, i32Max]; omega)).cast
      (by simp only [exVal, (expPart_val _).1, E]; omega)
  | sci1 =>
    simp only [len] at hl
    have he : ((natDigits m).length : Int) + e - 1 = e := by omega
    have := lit_sci1 m (((natDigits m).length : Int) + e - 1) (by simp only [i32Max]; omega)
    simp only [lit, kk, len]
    rw [he] at this ⊢
    exact this

theorem S_lt (d : RyuDec) (h : d.WF) : d.S < 10 ^ 17 := by
  obtain ⟨neg, m, e, layout⟩ := d
  obtain ⟨hm17, he8, hl⟩ := h
  cases layout with
  | intDot0 =>
    obtain ⟨h1, h2⟩ := hl
    simp only [kk, len] at h1 h2
    simp only [S]
    have h3 := lt_pow_len m
    have h4 : m * 10 ^ e.toNat < 10 ^ (natDigits m).length * 10 ^ e.toNat :=
      Nat.mul_lt_mul_of_pos_right h3 (ten_pow_pos _)
    rw [← Nat.pow_add] at h4
    have h5 : 10 ^ ((natDigits m).length + e.toNat) ≤ 10 ^ 17 :=
      Nat.pow_le_pow_right (by decide) (by omega)
    omega
  | mid => exact hm17
  | small => exact hm17
  | sci => exact hm17
  | sci1 => exact hm17

theorem decRn_SE (d : RyuDec) (h : d.WF) : decRn d.S d.E = decRn d.m d.e := by
  obtain ⟨neg, m, e, layout⟩ := d
  obtain ⟨hm17, he8, hl⟩ := h
  cases layout with
  | intDot0 =>
    simp only [S, E]
    rw [decRn_shift]
    congr 1
    have := hl.1
    simp only [] at this
    omega
  | mid => rfl
  | small => rfl
  | sci => rfl
  | sci1 => rfl

end RyuDec

/-! ## 15. Builds in which `f64_from_parts` is exact -/

/-- `f64_from_parts cfg · S E` returns the correctly rounded `S * 10^E`: the fast build inside its
    exact window (with a `POW10` table whose first 23 entries are exact), or the build without
    `fast-float-parsing` whenever the result is finite. -/
def ExactBuild (cfg : Cfg) (S : Nat) (E : Int) : Prop :=
  (cfg.fast = true ∧ (∀ k, k ≤ 22 → Exact (cfg.pow10 k) (10 ^ k)) ∧ S < 2 ^ 53 ∧ -22 ≤ E ∧ E ≤ 22) ∨
  (cfg.fast = false ∧ S ≤ u64Max ∧ decRn S E < infBits)

theorem ExactBuild.sig_le {cfg : Cfg} {S : Nat} {E : Int} (h : ExactBuild cfg S E) : S ≤ u64Max := by
  rcases h with ⟨_, _, h, _⟩ | ⟨_, h, _⟩
  · exact Nat.le_of_lt (Nat.lt_of_lt_of_le h (by decide))
  · exact h

theorem ExactBuild.parts {cfg : Cfg} {S : Nat} {E : Int} (h : ExactBuild cfg S E) (pos : Bool)
    (u : St) : f64FromParts cfg pos S E u = .ok (signed pos (decRn S E)) u := by
  rcases h with ⟨hfast, hp, hS, hlo, hhi⟩ | ⟨hfast, hS, hfin⟩
  · exact f64FromParts_fast cfg pos u hfast hp hS hlo hhi
  · rw [f64FromParts_slow cfg pos S E u hfast, rnDec_eq_all S E hS, isInf_false_of_lt hfin]
    rfl

theorem signed_bits {b : Nat} (hb : b < 2 ^ 64) : signed (!isNeg b) (b % signBit) = b := by
  unfold signed isNeg F64.neg
  by_cases h : b ≥ signBit
  · simp only [h, decide_true, Bool.not_true, Bool.false_eq_true, if_false]
    unfold signBit at *
    split <;> omega
  · simp only [h, decide_false, Bool.not_false, if_true]
    unfold signBit at *
    omega

theorem isInf_mod (b : Nat) : isInf (b % signBit) = isInf b := by
  unfold isInf; rw [Nat.mod_mod]

instance (rest : List UInt8) : Decidable (ScanStop rest) := by unfold ScanStop; exact inferInstance
instance (L : DecLit) : Decidable L.Small := by unfold DecLit.Small; exact inferInstance

/-- a decidable form of `DecLit.WF` -/
def DecLit.check (L : DecLit) : Bool :=
  !L.ip.isEmpty && L.ip.all isDigit &&
  (match L.fp with | none => true | some f => !f.isEmpty && f.all isDigit) &&
  (match L.ex with
   | none => true
   | some e => (e.mark == 101 || e.mark == 69) && (e.sign == [] || e.sign == [43] || e.sign == [45]) &&
       !e.digits.isEmpty && e.digits.all isDigit) &&
  (L.fp.isSome || L.ex.isSome)

theorem DecLit.wf_of_check (L : DecLit) (h : L.check = true) : L.WF := by
  obtain ⟨ip, fp, ex⟩ := L
  simp only [DecLit.check, Bool.and_eq_true, Bool.or_eq_true, Bool.not_eq_true',
    List.isEmpty_eq_false_iff, List.all_eq_true] at h
  obtain ⟨⟨⟨⟨h1, h2⟩, h3⟩, h4⟩, h5⟩ := h
  refine ⟨h1, h2, ?_, ?_, h5⟩
  · intro f hf
    simp only [] at hf
    subst hf
    simp only [Bool.and_eq_true, Bool.not_eq_true', List.isEmpty_eq_false_iff, List.all_eq_true] at h3
    exact h3
  · intro e he
    simp only [] at he
    subst he
    simp only [Bool.and_eq_true, Bool.or_eq_true, beq_iff_eq, Bool.not_eq_true',
      List.isEmpty_eq_false_iff, List.all_eq_true] at h4
    obtain ⟨⟨⟨m, sg⟩, ne⟩, dg⟩ := h4
    exact ⟨m, by rcases sg with (sg | sg) | sg <;> simp [sg], ne, dg⟩

/-- `ryu bits` is the text of the decimal `d` (digits, exponent, sign, layout), and `d` rounds to
    `bits`: the sign of `d` is the sign bit and the double nearest to `m * 10^e` has the magnitude
    bits of `bits`.  (ryu's shortest-digits property is not needed for reading back.) -/
structure RyuSpec (ryu : Nat → List UInt8) (bits : Nat) (d : RyuDec) : Prop where
  wf : d.WF
  text_eq : ryu bits = d.text
  sign_eq : d.neg = isNeg bits
  round_eq : decRn d.m d.e = bits % signBit

instance (d : RyuDec) : Decidable d.WF := by
  obtain ⟨n, m, e, l⟩ := d
  cases l <;> (simp only [RyuDec.WF]; exact inferInstance)

/-! ## 16. Example configurations -/

/-- example configuration: default dialect, fast build with the regenerated `POW10` table -/
def exCfgFast : Cfg :=
  { opts := Options.default, fast := true, isAlphabetic := fun _ => false, pow10 := pow10Tab }
/-- the same without `fast-float-parsing` -/
def exCfgSlow : Cfg :=
  { opts := Options.default, fast := false, isAlphabetic := fun _ => false, pow10 := fun _ => 0 }

/-- `12.500e-3` -/
def exLit : DecLit := ⟨asc "12", some (asc "500"), some ⟨101, asc "-", asc "3"⟩⟩

theorem exLit_wf : exLit.WF := exLit.wf_of_check (by decide +kernel)
theorem exLit_small : exLit.Small := by decide +kernel
theorem exLit_fuel : exLit.text.length + 1 ≤ 11 := by decide +kernel

theorem fast_boundary : 2 ^ 1024 ≤ 179769313486231591 * 10 ^ 291 ∧
    fastParts pow10Tab (291 / 308 + 2) (F64.ofNat 179769313486231591) 291 =
      some 0x7FEFFFFFFFFFFFFF := by decide +kernel

/-- a stand-in for ryu on nine doubles, covering the five layouts -/
def ryuEx (b : Nat) : List UInt8 :=
  if b = 0x3FF8000000000000 then asc "1.5"
  else if b = 0xC059000000000000 then asc "-100.0"
  else if b = 0x3F50624DD2F1A9FC then asc "0.001"
  else if b = 0x3E8091B5AEFFDB8E then asc "1.2345e-7"
  else if b = 0x4480F0CF064DD592 then asc "1e22"
  else if b = 0x437B69B4BA630F35 then asc "1.2345678901234568e17"
  else if b = 0x7FEFFFFFFFFFFFFF then asc "1.7976931348623157e308"
  else if b = 0x0000000000000001 then asc "5e-324"
  else if b = 0x8000000000000000 then asc "-0.0"
  else []

theorem exTable : ∀ k, k ≤ 22 → Exact (exCfgFast.pow10 k) (10 ^ k) :=
  fun k hk => pow10Tab_exact k (by omega)

theorem fast_1em23 : fastParts pow10Tab ((-23 : Int).natAbs / 308 + 2) (F64.ofNat 1) (-23) =
    some 0x3B282DB34012B252 ∧ decRn 1 (-23) = 0x3B282DB34012B251 := by decide +kernel

/-! ## 17. Property C05 for decimal literals -/

/-- A decimal literal `digits [. digits] [(e|E) [+|-] digits]` (`L.WF`: at
    least one digit before and, if there is a `.`, after it; a fraction or an exponent present),
    followed by end of input (not a failing read) or a byte that is neither a digit nor `e`/`E`,
    whose significant digits — integer part followed by the fraction with its trailing zeros
    removed — fit `u64` (`L.sig ≤ u64Max`: exactly the case where no `overflow!` fires), and whose
    exponent arithmetic stays inside `i32` (`L.Small`), is consumed entirely by
    `parse_num_literal`, for every source mode, and the result is that of
    `f64_from_parts(positive, L.sig, L.exp10)` run on the state after the literal.
    `L.exp10` is the written exponent minus the number of fraction digits kept, and
    `L.sig * 10^L.exp10` is the exact value of the literal: with `L.rawSig` all written digits and
    `L.rawExp` the written exponent minus the number of all fraction digits,
    `L.sig * 10^(L.exp10 - L.rawExp) = L.rawSig`. -/
theorem C05_scan_parts (cfg : Cfg) (fuel : Nat) (pos : Bool) (L : DecLit) (rest : List UInt8)
    (s : St) (hwf : L.WF) (hrest : s.rd.rest = L.text ++ rest) (hstop : ScanStop rest)
    (hf : rest = [] → s.rd.faulty = false) (hS : L.sig ≤ u64Max) (hsmall : L.Small)
    (hfuel : L.text.length + 1 ≤ fuel) :
    parseNumLiteral cfg fuel 10 pos s =
      (f64FromParts cfg pos L.sig L.exp10 >>= fun g => pure (Number.flt g))
        (adv s L.text.length (endPeek s rest)) ∧
    L.exp10 = L.expVal - (L.kept.length : Int) ∧
    L.rawExp ≤ L.exp10 ∧ L.sig * 10 ^ (L.exp10 - L.rawExp).toNat = L.rawSig :=
  ⟨scan_lit cfg fuel pos L rest s hwf hrest hstop hf hS hsmall hfuel, rfl, L.value_eq⟩

/-- `12.500e-3)`: scanned as `125e-4`, which is `12500e-6` -/
example : exLit.sig = 125 ∧ exLit.exp10 = -4 ∧ exLit.rawSig = 12500 ∧ exLit.rawExp = -6 ∧
    exLit.text = asc "12.500e-3" := by decide +kernel
example (cfg : Cfg) := C05_scan_parts cfg 11 true exLit (asc ")") (exSt (exLit.text ++ asc ")"))
  exLit_wf rfl (by decide) (fun _ => rfl) (by decide) exLit_small exLit_fuel

/-- The complement of the hypothesis `L.sig ≤ u64Max` of `C05_scan_parts`: `shiftIn` raises its
    flag exactly when appending `z` zeros and the digit `d` would exceed `u64`. -/
theorem C05_shiftIn (z sig : Nat) (exp : Int) (d : Nat) (hd : d < 10) :
    (sig * 10 ^ (z + 1) + d ≤ u64Max →
      shiftIn sig exp z d = (sig * 10 ^ (z + 1) + d, exp - ((z : Int) + 1), false)) ∧
    (u64Max < sig * 10 ^ (z + 1) + d → (shiftIn sig exp z d).2.2 = true) := by
  have hv' : hv sig (List.replicate z 0 ++ [d]) = sig * 10 ^ (z + 1) + d := by
    rw [hv_append, hv_zeros, hv_cons, hv_nil, Nat.pow_succ, Nat.mul_assoc]
  have hl : (List.replicate z 0 ++ [d]).length = z + 1 := by
    rw [List.length_append, List.length_replicate]; rfl
  obtain ⟨h1, h2, -⟩ := keep_spec u64Max (List.replicate z 0 ++ [d]) sig (zeros_digit_lt hd)
  have h3 := keep_le u64Max (List.replicate z 0 ++ [d]) sig
  rw [shiftIn_keep]
  constructor
  · intro h
    rw [keep_fits (zeros_digit_lt hd) (by rw [hv']; exact h), hv', hl, decide_eq_false (Nat.lt_irrefl _)]
    rfl
  · intro h
    -- had all `z + 1` digits gone in, the accumulator would hold the whole value, within the cap
    refine decide_eq_true (Nat.lt_of_le_of_ne (hl ▸ h3) fun he => ?_)
    rw [he, ← hl, List.take_length, hv'] at h1
    have := h2 (.inr (by omega))
    omega

example : shiftIn 1844674407370955161 0 0 5 = (18446744073709551615, -1, false) ∧
    (shiftIn 1844674407370955161 0 0 6).2.2 = true ∧ (shiftIn 184467440737095517 0 1 1).2.2 = true :=
  ⟨(C05_shiftIn 0 _ 0 5 (by decide)).1 (by decide), (C05_shiftIn 0 _ 0 6 (by decide)).2 (by decide),
   (C05_shiftIn 1 _ 0 1 (by decide)).2 (by decide)⟩

/-- For `|e| ≤ 400`, `rnDec s e` is `rn` of the rational `s * 10^e`. -/
theorem C05_rnDec_eq (s : Nat) (e : Int) (hlo : -400 ≤ e) (hhi : e ≤ 400) :
    rnDec s e = rn (s * 10 ^ e.toNat) (10 ^ (-e).toNat) :=
  rnDec_eq s e (by omega) hhi

/-- For a `u64` significand the two shortcuts of `rnDec` (infinity above
    `e = 400`, zero below `e = -420`) agree with correct rounding as well, so `rnDec` is the
    correctly rounded `s * 10^e` for every exponent. -/
theorem C05_rnDec_eq_all (s : Nat) (e : Int) (hs : s ≤ u64Max) :
    rnDec s e = rn (s * 10 ^ e.toNat) (10 ^ (-e).toNat) :=
  rnDec_eq_all s e hs

set_option exponentiation.threshold 2048 in
example : rnDec 15 (-1) = rn 15 10 ∧ rnDec 1 401 = rn (10 ^ 401) 1 ∧ rnDec 7 (-500) = rn 7 (10 ^ 500) :=
  ⟨C05_rnDec_eq 15 (-1) (by decide) (by decide), C05_rnDec_eq_all 1 401 (by decide),
   C05_rnDec_eq_all 7 (-500) (by decide)⟩

/-- In a build where `f64_from_parts` is exact on the scanned pair (`ExactBuild`) a literal reads as
    the double nearest to its written value `rawSig * 10^rawExp`. -/
theorem literal_exact (cfg : Cfg) (fuel : Nat) (pos : Bool) (L : DecLit) (rest : List UInt8)
    (s : St) (hwf : L.WF) (hrest : s.rd.rest = L.text ++ rest) (hstop : ScanStop rest)
    (hf : rest = [] → s.rd.faulty = false) (hsmall : L.Small) (hfuel : L.text.length + 1 ≤ fuel)
    (hb : ExactBuild cfg L.sig L.exp10) :
    parseNumLiteral cfg fuel 10 pos s =
      .ok (Number.flt (signed pos (decRn L.rawSig L.rawExp))) (adv s L.text.length (endPeek s rest)) := by
  rw [scan_lit cfg fuel pos L rest s hwf hrest hstop hf hb.sig_le hsmall hfuel]
  simp only [bind_apply, hb.parts, pure_apply, Number.ofF64, L.decRn_eq]

/-- Build with `fast-float-parsing`.  If the scanned significand is below
    `2^53` and the scanned exponent within `±22` (and the first 23 `POW10` entries are exact, which
    holds for the regenerated table: `Numbers.pow10Tab_exact`), the literal reads as the double
    nearest to its exact value `rawSig * 10^rawExp`, with the sign applied by `F64.neg`. -/
theorem C05_decimal_exact (cfg : Cfg) (fuel : Nat) (pos : Bool) (L : DecLit) (rest : List UInt8)
    (s : St) (hwf : L.WF) (hrest : s.rd.rest = L.text ++ rest) (hstop : ScanStop rest)
    (hf : rest = [] → s.rd.faulty = false) (hsmall : L.Small) (hfuel : L.text.length + 1 ≤ fuel)
    (hfast : cfg.fast = true) (hp : ∀ k, k ≤ 22 → Exact (cfg.pow10 k) (10 ^ k))
    (hS : L.sig < 2 ^ 53) (hlo : -22 ≤ L.exp10) (hhi : L.exp10 ≤ 22) :
    parseNumLiteral cfg fuel 10 pos s =
      .ok (Number.flt (if pos then rn (L.rawSig * 10 ^ L.rawExp.toNat) (10 ^ (-L.rawExp).toNat)
                       else F64.neg (rn (L.rawSig * 10 ^ L.rawExp.toNat) (10 ^ (-L.rawExp).toNat))))
        (adv s L.text.length (endPeek s rest)) :=
  literal_exact cfg fuel pos L rest s hwf hrest hstop hf hsmall hfuel
    (Or.inl ⟨hfast, hp, hS, hlo, hhi⟩)

/-- Build without `fast-float-parsing`: every literal whose significant
    digits fit `u64` and whose correctly rounded value is finite reads as that value. -/
theorem C05_decimal_exact_nofast (cfg : Cfg) (fuel : Nat) (pos : Bool) (L : DecLit)
    (rest : List UInt8) (s : St) (hwf : L.WF) (hrest : s.rd.rest = L.text ++ rest)
    (hstop : ScanStop rest) (hf : rest = [] → s.rd.faulty = false) (hsmall : L.Small)
    (hfuel : L.text.length + 1 ≤ fuel) (hfast : cfg.fast = false) (hS : L.sig ≤ u64Max)
    (hfin : rn (L.rawSig * 10 ^ L.rawExp.toNat) (10 ^ (-L.rawExp).toNat) < infBits) :
    parseNumLiteral cfg fuel 10 pos s =
      .ok (Number.flt (if pos then rn (L.rawSig * 10 ^ L.rawExp.toNat) (10 ^ (-L.rawExp).toNat)
                       else F64.neg (rn (L.rawSig * 10 ^ L.rawExp.toNat) (10 ^ (-L.rawExp).toNat))))
        (adv s L.text.length (endPeek s rest)) :=
  literal_exact cfg fuel pos L rest s hwf hrest hstop hf hsmall hfuel
    (Or.inr ⟨hfast, hS, by rw [L.decRn_eq]; exact hfin⟩)

/-- `12.500e-3` is read as the double nearest to 12500 / 10^6 in both builds -/
example (pos : Bool) :=
  C05_decimal_exact exCfgFast 11 pos exLit (asc ")") (exSt (exLit.text ++ asc ")"))
    exLit_wf rfl (by decide) (fun _ => rfl) exLit_small exLit_fuel rfl
    (fun k hk => pow10Tab_exact k (by omega)) (by decide) (by decide) (by decide)
example (pos : Bool) :=
  C05_decimal_exact_nofast exCfgSlow 11 pos exLit (asc ")") (exSt (exLit.text ++ asc ")"))
    exLit_wf rfl (by decide) (fun _ => rfl) exLit_small exLit_fuel rfl
    (by decide) (by decide +kernel)

/-- `C05_decimal_exact` at the level of `parse_token`'s number path
    (`parse_num_token` = literal + `expect_number_end`), in either build (`ExactBuild`), when the
    literal is followed by a delimiter or the end of the input. -/
theorem C05_decimal_token (cfg : Cfg) (fuel : Nat) (pos : Bool) (L : DecLit) (rest : List UInt8)
    (s : St) (hwf : L.WF) (hrest : s.rd.rest = L.text ++ rest) (hd : DelimStop rest)
    (hf : rest = [] → s.rd.faulty = false) (hsmall : L.Small) (hfuel : L.text.length + 1 ≤ fuel)
    (hb : ExactBuild cfg L.sig L.exp10) :
    parseNumToken cfg fuel pos s =
      .ok (Number.flt (signed pos (decRn L.rawSig L.rawExp))) (adv s L.text.length (endPeek s rest)) := by
  rw [← L.decRn_eq]
  exact numToken_lit cfg fuel pos L rest s _ hwf hrest hd hf hb.sig_le hsmall hfuel (hb.parts pos)

example := C05_decimal_token exCfgFast 11 false exLit (asc " x") (exSt (exLit.text ++ asc " x"))
  exLit_wf rfl (fun b hb => by simp [asc, ch] at hb; subst hb; decide)
  (fun h => by simp [asc] at h) exLit_small exLit_fuel
  (Or.inl ⟨rfl, fun k hk => pow10Tab_exact k (by omega), by decide, by decide, by decide⟩)

/-- A literal (significant digits within `u64`) is rejected with
    `NumberOutOfRange`, reported at the end of the literal,
    * in the build without `fast-float-parsing`: whenever its exact value is at least `2^1024`;
    * in the build with `fast-float-parsing`: whenever the scanned exponent exceeds 308 and the
      significand is not zero.
    In the fast build the first criterion is false near the boundary, see
    `C05_out_of_range_fast_counterexample`. -/
theorem C05_out_of_range_literal (cfg : Cfg) (fuel : Nat) (pos : Bool) (L : DecLit)
    (rest : List UInt8) (s : St) (hwf : L.WF) (hrest : s.rd.rest = L.text ++ rest)
    (hstop : ScanStop rest) (hf : rest = [] → s.rd.faulty = false) (hS : L.sig ≤ u64Max)
    (hsmall : L.Small) (hfuel : L.text.length + 1 ≤ fuel)
    (hbig : (cfg.fast = false ∧ 2 ^ 1024 * 10 ^ (-L.rawExp).toNat ≤ L.rawSig * 10 ^ L.rawExp.toNat) ∨
            (cfg.fast = true ∧ 0 < L.sig ∧ 308 < L.exp10)) :
    parseNumLiteral cfg fuel 10 pos s =
      errAt .numberOutOfRange (adv s L.text.length (endPeek s rest)) := by
  have hparts : ∀ u, f64FromParts cfg pos L.sig L.exp10 u = errAt .numberOutOfRange u := by
    intro u
    rcases hbig with ⟨hfast, hb⟩ | ⟨hfast, h0, h308⟩
    · exact f64FromParts_slow_inf cfg pos _ _ hfast hS
        (by rw [L.decRn_eq]; exact rn_overflow (ten_pow_pos _) hb) u
    · exact out_of_range_fast cfg pos _ _ hfast h0 h308 u
  exact (numToken_lit_err cfg fuel pos L rest s _ hwf hrest hstop hf hS hsmall hfuel hparts).2

/-- `2e308` and `1e309` -/
example := C05_out_of_range_literal exCfgSlow 7 true ⟨asc "2", none, some ⟨101, [], asc "308"⟩⟩
  (asc ")") (exSt (asc "2e308)")) (DecLit.wf_of_check _ (by decide)) (by decide +kernel) (by decide)
  (fun _ => rfl) (by decide) (by decide) (by decide) (Or.inl ⟨rfl, by decide +kernel⟩)
example := C05_out_of_range_literal exCfgFast 7 false ⟨asc "1", none, some ⟨69, asc "+", asc "309"⟩⟩
  [] (exSt (asc "1E+309")) (DecLit.wf_of_check _ (by decide)) (by decide +kernel) (by decide)
  (fun _ => rfl) (by decide) (by decide) (by decide) (Or.inr ⟨rfl, by decide, by decide⟩)

/-- The literal-level form of `C05_never_inf` /
    `C05_out_of_range`: in both builds a scanned literal yields a finite double or the error
    `NumberOutOfRange` at the end of the literal — never an infinity or a NaN, never another
    error, a panic or fuel exhaustion.  (Fast build: every `POW10` entry a finite double `≥ 1.0`,
    true for the regenerated table: `Numbers.pow10Tab_ge_one`.) -/
theorem C05_literal_finite_or_range (cfg : Cfg) (fuel : Nat) (pos : Bool) (L : DecLit)
    (rest : List UInt8) (s : St) (hwf : L.WF) (hrest : s.rd.rest = L.text ++ rest)
    (hstop : ScanStop rest) (hf : rest = [] → s.rd.faulty = false) (hS : L.sig ≤ u64Max)
    (hsmall : L.Small) (hfuel : L.text.length + 1 ≤ fuel)
    (hp : cfg.fast = true → ∀ k, k ≤ 308 → oneBits ≤ cfg.pow10 k ∧ cfg.pow10 k < infBits) :
    (∃ g, parseNumLiteral cfg fuel 10 pos s =
        .ok (Number.flt g) (adv s L.text.length (endPeek s rest)) ∧
      isFinite g = true ∧ isInf g = false ∧ isNaN g = false) ∨
    parseNumLiteral cfg fuel 10 pos s =
      errAt .numberOutOfRange (adv s L.text.length (endPeek s rest)) := by
  rw [scan_lit cfg fuel pos L rest s hwf hrest hstop hf hS hsmall hfuel]
  exact flt_finite_or_range cfg pos L.sig L.exp10 _ hS hp

example := C05_literal_finite_or_range exCfgFast 11 true exLit [] (exSt exLit.text)
  exLit_wf (by simp [exSt]) (by decide) (fun _ => rfl) (by decide) exLit_small exLit_fuel
  (fun _ k hk => pow10Tab_ge_one k (by omega))

set_option exponentiation.threshold 2048 in
/-- With `fast-float-parsing` and the real `POW10`
    table, the literal `179769313486231591e291` (no overflow while scanning: 18 digits) has a
    value above `2^1024`, yet `f64_from_parts` does not report `NumberOutOfRange`: the product of
    the two rounded factors rounds to the largest finite double, `f64::MAX`.  So "value `≥ 2^1024`
    implies `NumberOutOfRange`" holds only for the build without `fast-float-parsing`. -/
theorem C05_out_of_range_fast_counterexample :
    let L : DecLit := ⟨natDigits 179769313486231591, none, some (expPart 291)⟩
    L.text = asc "179769313486231591e291" ∧
    2 ^ 1024 * 10 ^ (-L.rawExp).toNat ≤ L.rawSig * 10 ^ L.rawExp.toNat ∧
    parseNumLiteral exCfgFast 30 10 true (exSt L.text) =
      .ok (Number.flt 0x7FEFFFFFFFFFFFFF) (adv (exSt L.text) L.text.length false) ∧
    isFinite 0x7FEFFFFFFFFFFFFF = true := by
  intro L
  have hfacts : LitFacts L 179769313486231591 291 := lit_sci1 _ 291 (by decide)
  refine ⟨by decide, ?_, ?_, by decide⟩
  · have h1 : L.rawSig = 179769313486231591 := by
      simp only [L, DecLit.rawSig, Option.getD_none, List.append_nil, dv_natDigits]
    have h2 : L.rawExp = 291 := by
      simp [L, DecLit.rawExp, DecLit.expVal, exVal, (expPart_val 291).1]
    rw [h1, h2]
    have : (-(291 : Int)).toNat = 0 := by decide
    rw [this, Nat.pow_zero, Nat.mul_one]
    exact fast_boundary.1
  · rw [scan_lit exCfgFast 30 true L [] (exSt L.text) hfacts.wf (by simp [exSt]) (by decide)
      (fun _ => rfl) (by rw [hfacts.sig]; decide) hfacts.small (by decide), hfacts.sig, hfacts.exp]
    have : ∀ u, f64FromParts exCfgFast true 179769313486231591 291 u = .ok 0x7FEFFFFFFFFFFFFF u :=
      fun u => f64FromParts_some (by rw [partsMag_fast rfl]; exact fast_boundary.2) true u
    simp only [bind_apply, this, pure_apply]
    rfl

/-- The overflow exits of the scanners.  Every decimal literal — any number of
    digits — that is a float literal (it has a fraction or an exponent, or its integer part alone
    exceeds `u64`) is consumed entirely, and `parse_num_literal` returns what
    `f64_from_parts(positive, S, E)` returns for `(S, E) = L.scanT`: the integer digits are
    accumulated until the first one that would overflow `u64`, that digit and the remaining
    integer digits are dropped and counted (`parse_long_integer`); the fraction is shifted in
    (zeros lazily, `shiftIn`) until the next step would overflow, after which its remaining digits
    are skipped; then the written exponent is added.  `S` is a `u64`, and when nothing overflows
    `(S, E)` is the exact pair `(L.sig, L.exp10)` of `C05_scan_parts`.  Hypotheses: digits where
    digits are expected; the exponent arithmetic stays inside `i32`; the literal is followed by
    the end of the input or by a byte that is neither a digit nor `e`/`E` — nor `.` in case the
    literal is a bare integer. -/
theorem C05_scan_any (cfg : Cfg) (fuel : Nat) (pos : Bool) (L : DecLit) (rest : List UInt8) (s : St)
    (hipne : L.ip ≠ []) (hipd : AllDigits L.ip)
    (hfp : ∀ g, L.fp = some g → g ≠ [] ∧ AllDigits g) (hex : ∀ e, L.ex = some e → e.WF)
    (hfloat : L.fp.isSome = true ∨ L.ex.isSome = true ∨ u64Max < dv 0 L.ip)
    (hrest : s.rd.rest = L.text ++ rest) (hstop : ScanStop rest)
    (hdot : L.fp = none → L.ex = none → (rest.head?.getD 0 == 46) = false)
    (hf : rest = [] → s.rd.faulty = false)
    (hsmall : L.ip.length + exAbs L.ex ≤ i32Max) (hfuel : L.text.length + 1 ≤ fuel) :
    parseNumLiteral cfg fuel 10 pos s =
      (f64FromParts cfg pos L.scanT.1 L.scanT.2 >>= fun g => pure (Number.flt g))
        (adv s L.text.length (endPeek s rest)) ∧
    L.scanT.1 ≤ u64Max ∧
    (L.WF → L.sig ≤ u64Max → L.Small → L.scanT = (L.sig, L.exp10)) := by
  obtain ⟨h1, h2⟩ := intScan_bounds L.ip 0 hipd (by decide)
  exact ⟨scan_any cfg fuel pos L rest s hipne hipd hfp hex hfloat hrest hstop hdot hf (by omega)
      (by omega) hfuel,
    scanTail_le _ _ _ _ (fun g hg => (hfp g hg).2) h1, L.scanT_exact⟩

/-- `18446744073709551616` (2^64), `123456789012345678901234567890.5`,
    `0.00000000000000000000123456789012345678901234567890e5`: what the scanners keep -/
example :
    DecLit.scanT ⟨asc "18446744073709551616", none, none⟩ = (1844674407370955161, 1) ∧
    DecLit.scanT ⟨asc "123456789012345678901234567890", some (asc "5"), none⟩ =
      (12345678901234567890, 10) ∧
    DecLit.scanT ⟨asc "0", some (asc "00000000000000000000123456789012345678901234567890"),
      some ⟨101, [], asc "5"⟩⟩ = (12345678901234567890, -35) := by decide +kernel

example (cfg : Cfg) := C05_scan_any cfg 40 true ⟨asc "18446744073709551616", none, none⟩ (asc ")")
  (exSt (asc "18446744073709551616)")) (by decide +kernel) (by decide +kernel) (fun g hg => by cases hg)
  (fun e he => by cases he) (Or.inr (Or.inr (by decide +kernel))) (by decide +kernel) (by decide)
  (fun _ _ => by decide) (fun _ => rfl) (by decide +kernel) (by decide +kernel)

/-- For every float literal, of any length, the result is a
    finite double or the error `NumberOutOfRange` reported at the end of the literal; in particular
    no panic (`exponent += 1` cannot overflow here), no fuel exhaustion, no infinity, no NaN. -/
theorem C05_any_literal_finite_or_range (cfg : Cfg) (fuel : Nat) (pos : Bool) (L : DecLit)
    (rest : List UInt8) (s : St)
    (hipne : L.ip ≠ []) (hipd : AllDigits L.ip)
    (hfp : ∀ g, L.fp = some g → g ≠ [] ∧ AllDigits g) (hex : ∀ e, L.ex = some e → e.WF)
    (hfloat : L.fp.isSome = true ∨ L.ex.isSome = true ∨ u64Max < dv 0 L.ip)
    (hrest : s.rd.rest = L.text ++ rest) (hstop : ScanStop rest)
    (hdot : L.fp = none → L.ex = none → (rest.head?.getD 0 == 46) = false)
    (hf : rest = [] → s.rd.faulty = false)
    (hsmall : L.ip.length + exAbs L.ex ≤ i32Max) (hfuel : L.text.length + 1 ≤ fuel)
    (hp : cfg.fast = true → ∀ k, k ≤ 308 → oneBits ≤ cfg.pow10 k ∧ cfg.pow10 k < infBits) :
    (∃ g, parseNumLiteral cfg fuel 10 pos s =
        .ok (Number.flt g) (adv s L.text.length (endPeek s rest)) ∧
      isFinite g = true ∧ isInf g = false ∧ isNaN g = false) ∨
    parseNumLiteral cfg fuel 10 pos s =
      errAt .numberOutOfRange (adv s L.text.length (endPeek s rest)) := by
  obtain ⟨h1, h2, -⟩ := C05_scan_any cfg fuel pos L rest s hipne hipd hfp hex hfloat hrest hstop hdot
    hf hsmall hfuel
  rw [h1]
  exact flt_finite_or_range cfg pos L.scanT.1 L.scanT.2 _ h2 hp

/-- forty nines, a fraction and an exponent: finite or out of range, nothing else -/
example := C05_any_literal_finite_or_range exCfgFast 60 false
  ⟨List.replicate 40 57, some (asc "25"), some ⟨69, asc "-", asc "7"⟩⟩ (asc " ")
  (exSt (List.replicate 40 57 ++ asc ".25E-7 ")) (by decide) (by decide +kernel)
  (fun g hg => by cases hg; exact ⟨by decide, by decide⟩)
  (fun e he => by cases he; exact ⟨Or.inr rfl, Or.inr (Or.inr rfl), by decide, by decide⟩)
  (Or.inl rfl) (by decide +kernel) (by decide) (fun h => by cases h) (fun h => by cases h)
  (by decide +kernel) (by decide +kernel)
  (fun _ k hk => pow10Tab_ge_one k (by omega))

#print axioms C05_scan_parts
#print axioms C05_shiftIn
#print axioms C05_rnDec_eq
#print axioms C05_rnDec_eq_all
#print axioms C05_decimal_exact
#print axioms C05_decimal_exact_nofast
#print axioms C05_decimal_token
#print axioms C05_out_of_range_literal
#print axioms C05_literal_finite_or_range
#print axioms C05_out_of_range_fast_counterexample
#print axioms C05_scan_any
#print axioms C05_any_literal_finite_or_range

end Decimals
end Lexpr
