/-
  FloatApproxImage — C13 "with floating-point numbers equal to within the accuracy stated in C05":
  parse → print (`pof R`) → parse gives a value `approxEq` to the first one, with `RyuSpecOnly`
  (no exactness window) in place of `Decimals.FloatOK` on the float leaves.

  The atoms of an accepted value that meets the side conditions are `AtomOKA`, the texts of its
  cars `ElemHead`s (`allOKA_of`), so that `Image.reparse_rel` / `reparse_next_rel` apply with the
  relation and the hypothesis of `struct_rtA`: `C13_reparse_approx`, `C13_reparse_next_approx`.
  `C13_reparse_approx_fin` discharges the finiteness part of `RyuSpecOnly` from
  `FloatApproxFin.lean` (floats in the image are finite).  `C13_float_cycle`,
  `C13_reparse_approx_strict`: on `(a 11e23 . #(2.5))`, in the default build, the value read back
  differs from the first one and the float never stabilises (so `Image.C13_reparse_partial` cannot
  apply).
-/
import LexprModel.Proofs.FloatApproxRT
import LexprModel.Proofs.FloatApproxFin
namespace Lexpr
namespace FloatApprox
open Parse Parse.ListRT Print Spec F64 Numbers Decimals

/-- (a') a float leaf is finite and ryu's text for it meets `RyuSpec` (`RyuSpecOnly`) -/
def floatSideA (cfg : Cfg) (ryu : Nat → List UInt8) : Value → Prop
  | .number (.flt b) => RyuSpecOnly cfg ryu b
  | _ => True

/-- the position-independent side conditions on an atom: (a') and (d1) of `Image.lean` -/
def AtomSideA (cfg : Cfg) (ryu : Nat → List UInt8) (a : Value) : Prop :=
  Image.kwDotOk cfg.opts a = true ∧ floatSideA cfg ryu a

theorem sideW_of_A (cfg : Cfg) (ryu : Nat → List UInt8) (a : Value)
    (hnf : ∀ b, a ≠ .number (.flt b)) (hs : AtomSideA cfg ryu a) : Image.AtomSideW cfg ryu a := by
  refine ⟨hs.1, ?_⟩
  cases a with
  | number n =>
    cases n with
    | flt b => exact absurd rfl (hnf b)
    | pos n => exact True.intro
    | neg i => exact True.intro
  | _ => exact True.intro

theorem atomOKA_of_img (cfg : Cfg) (ryu : Nat → List UInt8) (a : Value) (hat : Image.IsAtom a)
    (himg : Image.AtomImg cfg a) (hs : AtomSideA cfg ryu a) :
    AtomOKA (pof cfg.opts) cfg ryu a := by
  by_cases hf : ∃ b, a = .number (.flt b)
  · obtain ⟨b, rfl⟩ := hf
    exact atomOKA_of_W (atomOKW_float (pof cfg.opts) cfg ryu b hs.2)
  · exact atomOKA_of_exact (Image.atomOKW_of_img cfg ryu a hat himg
      (sideW_of_A cfg ryu a (fun b hb => hf ⟨b, hb⟩) hs))

theorem car_headA (cfg : Cfg) (ryu : Nat → List UInt8) (a : Value)
    (himg : Image.AllAtoms (Image.AtomImg cfg) a) (hs : Image.AllAtoms (AtomSideA cfg ryu) a)
    (hdot : ListRT.dotOkP (pof cfg.opts) a = true) :
    ListRT.ElemHead (Print.text (pof cfg.opts) ryu a) :=
  ListRT.text_head_of_leaf _ ryu a fun h1 h2 h3 => by
    have hat : Image.IsAtom a := ⟨h1, h2, h3⟩
    have hsw := Image.AllAtoms.atom hat hs
    by_cases hf : ∃ b, a = .number (.flt b)
    · obtain ⟨b, rfl⟩ := hf
      rw [FullRT.atomTextP_flt]
      exact float_head cfg ryu b hsw.2
    · have hW := sideW_of_A cfg ryu a (fun b hb => hf ⟨b, hb⟩) hsw
      exact (Image.atomOKP_of_img cfg ryu a hat (Image.AllAtoms.atom hat himg)
        ⟨hdot, hW.1, hW.2⟩).2.2.2.1

mutual
/-- an accepted value that meets the side conditions meets the hypothesis of `struct_rtA` -/
theorem allOKA_of (cfg : Cfg) (ryu : Nat → List UInt8) :
    ∀ v : Value, Image.AllAtoms (Image.AtomImg cfg) v → Image.AllAtoms (AtomSideA cfg ryu) v →
      Image.carDotOk (pof cfg.opts) v = true → AllOKA (pof cfg.opts) cfg ryu v := by
  intro v hi hs hc
  cases v with
  | cons a d =>
    simp only [Image.carDotOk, Bool.and_eq_true] at hc
    simp only [AllOKA]
    exact ⟨allOKA_of cfg ryu a hi.1 hs.1 hc.1.2, car_headA cfg ryu a hi.1 hs.1 hc.1.1,
      allOKA_of cfg ryu d hi.2 hs.2 hc.2⟩
  | vector xs =>
    simp only [AllOKA]
    exact allOKASeq_of cfg ryu xs hi hs (by simpa only [Image.carDotOk] using hc)
  | null => simp only [AllOKA]
  | _ => simp only [AllOKA]; exact atomOKA_of_img cfg ryu _ ⟨rfl, rfl, nofun⟩ hi hs
theorem allOKASeq_of (cfg : Cfg) (ryu : Nat → List UInt8) :
    ∀ xs : List Value, Image.AllAtomsSeq (Image.AtomImg cfg) xs →
      Image.AllAtomsSeq (AtomSideA cfg ryu) xs →
      Image.carDotOkSeq (pof cfg.opts) xs = true → AllOKASeq (pof cfg.opts) cfg ryu xs := by
  intro xs hi hs hc
  cases xs with
  | nil => simp only [AllOKASeq]
  | cons x xs =>
    simp only [Image.carDotOkSeq, Bool.and_eq_true] at hc
    simp only [AllOKASeq]
    exact ⟨allOKA_of cfg ryu x hi.1 hs.1 hc.1, allOKASeq_of cfg ryu xs hi.2 hs.2 hc.2⟩
end

/-- **C13_reparse_approx.**  `from_slice_custom(bytes, R) = Ok(v)` implies
    `from_slice_custom(to_string_custom(v, pof R), R) = Ok(w)` with `Value.approxEq v w` — the
    same value up to `floatClose` on float leaves (`2^-50` relative, `2^-1073` absolute) — for
    every parser option set `R`, provided
      * every atom of `v` satisfies `AtomSideA`: a float leaf is finite and ryu's text for it
        meets `RyuSpec` (`RyuSpecOnly`; no exactness window), a keyword is not named `.` unless
        `pof R` prints `name:` (d1);
      * `carDotOk` (b) and, only when `R` reads `nil` as `()`, the nesting bound (d2), exactly as
        in `Image.C13_reparse_partial`.
    The whole text is consumed and the recursion budget is back at 128. -/
theorem C13_reparse_approx (cfg : Cfg) (ryu : Nat → List UInt8) (bytes : List UInt8) (v : Value)
    (s1 : St) (h : fromTrait cfg (initSt .slice bytes) = .ok v s1)
    (hside : Image.AllAtoms (AtomSideA cfg ryu) v)
    (hdot : Image.carDotOk (pof cfg.opts) v = true)
    (hnest : cfg.opts.nil = .emptyList → ListRT.nestingP (pof cfg.opts) v ≤ 127) :
    ∃ w s', Value.approxEq v w ∧
      fromTrait cfg (initSt .slice (Print.text (pof cfg.opts) ryu v)) = .ok w s' ∧
      s'.rd.rest = [] ∧ s'.depth = 128 := by
  have := Image.reparse_rel (structural_approx _ _) (hyp_allOKA _ cfg ryu) (allOKA_of cfg ryu)
    bytes v s1 h hside hdot hnest
  rwa [Image.fold_pof] at this

/-- **C13_reparse_next_approx.**  The same for a value read by `next_value` in the middle of an
    input: in any non-faulty slice state whose unread input is the printed text followed by a
    token-ending context, with the recursion budget the value was read with, `next_value` returns
    one value `w` with `approxEq v w`. -/
theorem C13_reparse_next_approx (cfg : Cfg) (ryu : Nat → List UInt8) (fuel : Nat) (s0 s1 : St)
    (v : Value) (hm : s0.rd.mode ≠ .str) (hd : 1 ≤ s0.depth)
    (h : nextValue cfg fuel s0 = .ok (some v) s1)
    (hside : Image.AllAtoms (AtomSideA cfg ryu) v)
    (hdot : Image.carDotOk (pof cfg.opts) v = true)
    (hnil : cfg.opts.nil ≠ .emptyList) :
    ∃ w, Value.approxEq v w ∧
      ∀ (s : St) (rest : List UInt8) (fuel' : Nat), Parse.Follow rest →
        s.rd.mode = .slice ∧ s.rd.faulty = false →
        s.rd.rest = Print.text (pof cfg.opts) ryu v ++ rest →
        fuel' ≥ 2 * s.rd.rest.length + 3 → s0.depth ≤ s.depth →
        ∃ s', nextValue cfg fuel' s = .ok (some w) s' ∧ s'.rd.rest = rest ∧
          s'.depth = s.depth := by
  have := Image.reparse_next_rel (structural_approx _ _) (hyp_allOKA _ cfg ryu)
    (allOKA_of cfg ryu) fuel s0 s1 v hm hd h hside hdot hnil
  rwa [Image.fold_pof] at this

/-- a stand-in for ryu on `1.0999999999999999e24` (what the default build reads for `11e23`),
    its upper neighbour `1.1e24`, and `2.5` -/
def ryuC (b : Nat) : List UInt8 :=
  if b = 0x44ED1DE3D2D5C712 then asc "1.0999999999999999e24"
  else if b = 0x44ED1DE3D2D5C713 then asc "1.1e24"
  else if b = 0x4004000000000000 then asc "2.5"
  else []

/-- **C13_float_cycle** (finding).  In the default build, outside the exactness window,
    parse → print → parse need not reach a fixed point on a float: `11e23` is read as
    `g = 0x44ED1DE3D2D5C712` (the correctly rounded value is `g + 1`); the shortest decimal of `g`,
    `1.0999999999999999e24`, is read as `g + 1`; the shortest decimal of `g + 1`, `1.1e24`, is read
    as `g` again.  Each step is within the accuracy of C05 (one ulp), but the value never
    stabilises; `Image.C13_fixpoint` (which needs `FloatOK`) has no approximate counterpart. -/
theorem C13_float_cycle :
    fastParts pow10Tab ((23 : Int).natAbs / 308 + 2) (F64.ofNat 11) 23 = some 0x44ED1DE3D2D5C712 ∧
    decRn 10999999999999999 8 = 0x44ED1DE3D2D5C712 ∧
    fastParts pow10Tab ((8 : Int).natAbs / 308 + 2) (F64.ofNat 10999999999999999) 8 =
      some 0x44ED1DE3D2D5C713 ∧
    decRn 11 23 = 0x44ED1DE3D2D5C713 := by decide +kernel

theorem ryuC_g : RyuSpecOnly exCfgFast ryuC 0x44ED1DE3D2D5C712 :=
  ⟨by decide, by decide, ⟨false, 10999999999999999, 8, .sci⟩,
    ⟨by decide, by decide +kernel, by decide, C13_float_cycle.2.1⟩,
    fun h => ⟨exTab h, by decide +kernel⟩⟩

theorem ryuC_25 : RyuSpecOnly exCfgFast ryuC 0x4004000000000000 :=
  ryuSpecOnly_congr (by decide +kernel) ryuAx_25

/-- `(a 11e23 . #(2.5))` as the default build reads it -/
def exG : Value :=
  .cons (.symbol (asc "a")) (.cons (.number (.flt 0x44ED1DE3D2D5C712))
    (.vector [.number (.flt 0x4004000000000000)]))

/-- … and as it reads the printed text of that value -/
def exG' : Value :=
  .cons (.symbol (asc "a")) (.cons (.number (.flt 0x44ED1DE3D2D5C713))
    (.vector [.number (.flt 0x4004000000000000)]))

theorem exG_accepted : ∃ s1, fromTrait exCfgFast (initSt .slice (asc "(a 11e23 .  #(2.50))")) =
    .ok exG s1 :=
  shape3_inv (r := fromTrait exCfgFast (initSt .slice (asc "(a 11e23 .  #(2.50))")))
    (n := asc "a") (b := 0x44ED1DE3D2D5C712) (c := 0x4004000000000000) (by decide +kernel)

theorem exG_text : Print.text (pof exCfgFast.opts) ryuC exG =
    asc "(a 1.0999999999999999e24 . #(2.5))" := by decide +kernel

/-- **C13_reparse_approx_strict.**  Non-vacuity of `C13_reparse_approx`, on a case the exact
    theorem cannot cover: the default build accepts `(a 11e23 .  #(2.50))` as `exG`; the text
    `pof` prints for `exG`, `(a 1.0999999999999999e24 . #(2.5))`, is read back as `exG'`, which is
    `approxEq` to `exG` and different from it. -/
theorem C13_reparse_approx_strict :
    ∃ s', fromTrait exCfgFast (initSt .slice (Print.text (pof exCfgFast.opts) ryuC exG)) =
      .ok exG' s' ∧ Value.approxEq exG exG' ∧ exG ≠ exG' := by
  obtain ⟨s1, hacc⟩ := exG_accepted
  obtain ⟨w, s', hw, e, _, _⟩ := C13_reparse_approx exCfgFast ryuC _ exG s1 hacc
    (by simp only [exG, Image.AllAtoms, Image.AllAtomsSeq, AtomSideA, floatSideA, and_true]
        exact ⟨by decide, ⟨by decide, ryuC_g⟩, by decide, ryuC_25⟩)
    (by decide) (fun hn => absurd hn (by decide))
  have hsh : shape3 (fromTrait exCfgFast (initSt .slice (asc "(a 1.0999999999999999e24 . #(2.5))")))
      = some (asc "a", 0x44ED1DE3D2D5C713, 0x4004000000000000) := by decide +kernel
  obtain ⟨s'', e'⟩ := shape3_inv hsh
  rw [exG_text] at e ⊢
  have hww : w = exG' := by
    rw [e] at e'; injection e' with e' _
  subst hww
  exact ⟨s', e, hw, shape3_ne (by decide)⟩

#print axioms C13_reparse_approx
#print axioms C13_reparse_next_approx
#print axioms C13_float_cycle
#print axioms C13_reparse_approx_strict

/-! ## The finiteness of the float leaves discharged

  `C13_reparse_approx` asks `RyuSpecOnly` of every float leaf, which includes "the double is
  finite".  Floats in the image of the parser are always finite (`nextValue_floats_finite`,
  `FloatApproxFin.lean`), so the hypothesis can be reduced to what it says about the formatter:
  *if* the leaf is a finite double *then* ryu's text for it meets `RyuSpec` (`floatSideC`). -/

/-- (a'') what is asked of the formatter on a float leaf: if the leaf is a finite double, ryu's
    text for it meets `RyuSpec` (and, fast build, the table / range clauses of `RyuSpecOnly`) -/
def floatSideC (cfg : Cfg) (ryu : Nat → List UInt8) : Value → Prop
  | .number (.flt b) => FinF b → RyuSpecOnly cfg ryu b
  | _ => True

/-- (a'') and (d1) -/
def AtomSideC (cfg : Cfg) (ryu : Nat → List UInt8) (a : Value) : Prop :=
  Image.kwDotOk cfg.opts a = true ∧ floatSideC cfg ryu a

theorem sideA_of_C (cfg : Cfg) (ryu : Nat → List UInt8) (a : Value)
    (h : AtomSideC cfg ryu a ∧ LeafFin a) : AtomSideA cfg ryu a := by
  obtain ⟨⟨h1, h2⟩, h3⟩ := h
  refine ⟨h1, ?_⟩
  cases a with
  | number n =>
    cases n with
    | flt b => exact h2 h3
    | pos n => exact True.intro
    | neg i => exact True.intro
  | _ => exact True.intro

/-- **C13_reparse_approx_fin.**  `from_slice_custom(bytes, R) = Ok(v)` implies
    `from_slice_custom(to_string_custom(v, pof R), R) = Ok(w)` with `Value.approxEq v w`, where
    the only thing assumed about floats concerns the formatter: for each float leaf `b` of `v`,
    *if* `b` is a finite double *then* `RyuSpecOnly cfg ryu b` (`AtomSideC`).  That the leaves are
    finite is proved (`fromTrait_floats_finite`; the `POW10` table holds finite doubles `≥ 1.0`:
    `TabFin`).  Other hypotheses as in `Image.C13_reparse_partial`. -/
theorem C13_reparse_approx_fin (cfg : Cfg) (ryu : Nat → List UInt8) (bytes : List UInt8)
    (v : Value) (s1 : St) (ht : TabFin cfg)
    (h : fromTrait cfg (initSt .slice bytes) = .ok v s1)
    (hside : Image.AllAtoms (AtomSideC cfg ryu) v)
    (hdot : Image.carDotOk (pof cfg.opts) v = true)
    (hnest : cfg.opts.nil = .emptyList → ListRT.nestingP (pof cfg.opts) v ≤ 127) :
    ∃ w s', Value.approxEq v w ∧
      fromTrait cfg (initSt .slice (Print.text (pof cfg.opts) ryu v)) = .ok w s' ∧
      s'.rd.rest = [] ∧ s'.depth = 128 :=
  C13_reparse_approx cfg ryu bytes v s1 h
    (Image.AllAtoms.imp (sideA_of_C cfg ryu) v
      (Image.AllAtoms.and v hside (fromTrait_floats_finite ht h))) hdot hnest

/-- non-vacuity of `C13_reparse_approx_fin`: the accepted text `(a 11e23 .  #(2.50))` of
    `C13_reparse_approx_strict` -/
example : ∃ w s', Value.approxEq exG w ∧
    fromTrait exCfgFast (initSt .slice (Print.text (pof exCfgFast.opts) ryuC exG)) = .ok w s' ∧
    s'.rd.rest = [] ∧ s'.depth = 128 := by
  obtain ⟨s1, hacc⟩ := exG_accepted
  exact C13_reparse_approx_fin exCfgFast ryuC _ exG s1
    (tabFin_of_rounded _ exTab) hacc
    (by simp only [exG, Image.AllAtoms, Image.AllAtomsSeq, AtomSideC, floatSideC, and_true]
        exact ⟨by decide, ⟨by decide, fun _ => ryuC_g⟩, by decide, fun _ => ryuC_25⟩)
    (by decide) (fun hn => absurd hn (by decide))

#print axioms C13_reparse_approx_fin

end FloatApprox
end Lexpr
