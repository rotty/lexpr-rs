/-
  Property C05, written exponents beyond `i32`: the path `parse_exponent` →
  `parse_exponent_overflow` (model: `exponentLoop` → `parseExponentOverflow`).

  As soon as the exponent accumulator would leave `i32` (`overflow!(exp * 10 + digit, i32::MAX)`)
  the code stops computing: with a non-zero significand and a positive exponent it raises
  `NumberOutOfRange` right there (after the overflowing digit, the remaining digits unread);
  otherwise it skips the remaining digits and returns `±0.0`.  The significand tested is the one
  the scanners kept (`DecLit.scanT`), which is zero exactly when all written digits are zero.

  Part 1 (this file): the scanners on such a literal, in closed form (`scan_over`), read off
  `Decimals.scan_total`.
  Part 2 (`ExpOverflowVal.lean`): what the exact value demands, the combined theorems, examples.
-/
import LexprModel.Proofs.AccuracyTrunc
namespace Lexpr
namespace ExpOverflow
open Parse F64 Numbers Decimals Accuracy

theorem ovfAt_le : ∀ (ds : List UInt8) (x : Nat), ovfAt x ds ≤ ds.length := fun ds x => by
  rw [Decimals.ovfAt_keep]; exact Nat.min_le_right _ _

theorem scanT_fst_ex (ip : List UInt8) (fp : Option (List UInt8)) (ex ex' : Option ExpPart) :
    (DecLit.scanT ⟨ip, fp, ex⟩).1 = (DecLit.scanT ⟨ip, fp, ex'⟩).1 := by
  cases fp <;> rfl

/-- `parse_num_literal` on a decimal literal whose written exponent does not fit
    `i32`, in closed form: with `S` the significand the scanners keep (`L.scanT.1`),
    `NumberOutOfRange` raised right after the exponent digit at which the accumulator overflows
    if `S ≠ 0` and the exponent is positive; otherwise the whole literal is consumed and the
    result is a zero with the sign of the literal.  All source modes, both builds (the float
    conversion is never reached).  `L.ip.length ≤ i32Max`: beyond that `parse_long_integer`
    panics on its exponent counter (known, see `Decimals.longInt_run`). -/
theorem scan_over (cfg : Cfg) (fuel : Nat) (pos : Bool) (L : DecLit) (e : ExpPart)
    (rest : List UInt8) (s : St)
    (hipne : L.ip ≠ []) (hipd : AllDigits L.ip)
    (hfp : ∀ g, L.fp = some g → g ≠ [] ∧ AllDigits g) (hex : L.ex = some e) (hwf : e.WF)
    (hov : i32Max < e.abs)
    (hrest : s.rd.rest = L.text ++ rest) (hstop : ScanStop rest)
    (hf : rest = [] → s.rd.faulty = false)
    (hlen : L.ip.length ≤ i32Max) (hfuel : L.text.length + 1 ≤ fuel) :
    parseNumLiteral cfg fuel 10 pos s =
      overflowOut (Number.flt (signed pos 0)) L.scanT.1 (expSignPos e.sign)
        (adv s (L.ip.length + ((fracText L.fp).length + (1 + e.sign.length + ovfAt 0 e.digits)))
          false)
        (adv s L.text.length (endPeek s rest)) := by
  rw [scan_total cfg fuel pos L rest s hipne hipd hfp
    (fun e' he' => by rw [hex] at he'; cases he'; exact hwf) (Or.inr (Or.inl (by rw [hex]; rfl)))
    hrest hstop (fun _ h => by rw [hex] at h; cases h) hf
    (Nat.le_trans (intScan_bounds L.ip 0 hipd (by decide)).2 hlen) hfuel, hex]
  simp only [scanOut, if_neg (Nat.not_le.mpr hov), exErr, overflowOut]
  split <;> rfl

#print axioms scan_over

end ExpOverflow
end Lexpr
