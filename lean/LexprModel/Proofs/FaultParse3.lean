/-
  C06, read faults on the stream source: the public entry points, call histories, and the main
  theorems.

  Setting: the input is `pre ++ tail`.  The fault-free run reads `initSt .io (pre ++ tail)`; the
  faulty run reads a stream that delivers `pre` and whose next read fails, and keeps failing
  (`initSt .io pre true`; in the model `faulty := true` makes the end of `rest` a failing read
  instead of end of input).  The statements are made first from any pair of states related by
  `FSim tail`, for one call (`FaultOutcome`) and for histories and iterations (`FaultHist`), and
  then on bytes (`C06_never_swallowed`, `C06_fault_demanded`).
-/
import LexprModel.Proofs.FaultParse2
import LexprModel.Proofs.StepOp
namespace Lexpr
namespace Parse

/-- Outcome of a faulty call (right) against the fault-free call (left): `Err.io` with a dead
    parser, or the same outcome. -/
def FaultOutcome (tail : List UInt8) {α : Type} (r₁ r₂ : Res α) : Prop :=
  (∃ t', r₂ = .err .io t' ∧ FDead t' ∧ FBeyond tail r₁) ∨
  match r₁, r₂ with
  | .ok a s, .ok b t => a = b ∧ FSim tail s t
  | .err e s, .err e' t =>
    e = e' ∧ (FSim tail s t ∨ (FDead t ∧ s.rd.rest.length ≤ tail.length))
  | .panic p, .panic q => p = q
  | _, _ => False

theorem exists_dead_iff {e : Err} {s : St} {B : Prop} :
    (∃ t', (e = Err.io ∧ s = t') ∧ FDead t' ∧ B) ↔ e = .io ∧ FDead s ∧ B :=
  ⟨fun ⟨_, ⟨h1, h3⟩, h2⟩ => ⟨h1, h3 ▸ h2⟩, fun ⟨h1, h2⟩ => ⟨_, ⟨h1, rfl⟩, h2⟩⟩

theorem GRes.outcome {tail : List UInt8} {α : Type} {r₁ r₂ : Res α} (h : GRes tail r₁ r₂)
    (hf : r₂ ≠ .fuel) : FaultOutcome tail r₁ r₂ := by
  rcases h with h | h | h
  · exact absurd h hf
  · exact .inl h
  · exact .inr h

theorem FaultOutcome.reading {tail : List UInt8} {α : Type} {r₁ r₂ : Res α}
    (h : FaultOutcome tail r₁ r₂) :
    (∀ b t, r₂ = .ok b t → ∃ s, r₁ = .ok b s) ∧
    (∀ e t, r₂ = .err e t → e = .io ∨ ∃ s, r₁ = .err e s) ∧
    (∀ e t, r₂ = .err e t → e.category = .eof → ∃ s, r₁ = .err e s) ∧
    (∀ p, r₂ = .panic p → r₁ = .panic p) ∧ r₂ ≠ .fuel := by
  unfold FaultOutcome at h
  have hio : ¬ Err.io.category = Category.eof := by decide
  cases r₁ <;> cases r₂ <;> simp_all [exists_dead_iff]
  rcases h with ⟨rfl, _⟩ | ⟨rfl, _⟩ <;> simp_all

theorem FSim.init' (pre tail : List UInt8) :
    FSim tail (initSt .io (pre ++ tail)) (initSt .io pre true) :=
  ⟨rfl, rfl, rfl, rfl, rfl, rfl, rfl, rfl, rfl, fun h => nomatch h⟩

section calls
variable {tail : List UInt8} (cfg : Cfg) {s t : St} (h : FSim tail s t)
include h

/-- **C06 (faults), `next_value`** (`Parser::next_value`, the value iterators). -/
theorem C06_fault_value : FaultOutcome tail (nextValueTop cfg s) (nextValueTop cfg t) :=
  ((GRel.nextValueTop cfg).app s t h).outcome (Progress.C03_fuel cfg t).1

/-- **C06 (faults), `next_datum`**: values and spans. -/
theorem C06_fault_datum : FaultOutcome tail (nextDatumTop cfg s) (nextDatumTop cfg t) :=
  ((GRel.nextDatumTop cfg).app s t h).outcome (Progress.C03_fuel cfg t).2.1

/-- **C06 (faults), `expect_value`**. -/
theorem C06_fault_expectValue : FaultOutcome tail (expectValue cfg s) (expectValue cfg t) :=
  ((GRel.expectValue cfg).app s t h).outcome (Progress.C03_fuel cfg t).2.2.1

/-- **C06 (faults), `expect_datum`**. -/
theorem C06_fault_expectDatum : FaultOutcome tail (expectDatum cfg s) (expectDatum cfg t) :=
  ((GRel.expectDatum cfg).app s t h).outcome (Progress.C03_fuel cfg t).2.2.2.1

/-- **C06 (faults), `expect_end`**: a fault while looking for the end of the input is never
    reported as "end reached". -/
theorem C06_fault_expectEnd : FaultOutcome tail (expectEnd s) (expectEnd t) :=
  (GRel.expectEnd.app s t h).outcome (Progress.expectEnd_spec.no_fuel id)

/-- **C06 (faults), `from_trait`** (`from_reader`). -/
theorem C06_fault_fromTrait : FaultOutcome tail (fromTrait cfg s) (fromTrait cfg t) :=
  ((GRel.fromTrait cfg).app s t h).outcome (Progress.C03_fuel cfg t).2.2.2.2.2.1

/-- **C06 (faults), `datum::from_trait`**. -/
theorem C06_fault_fromTraitDatum :
    FaultOutcome tail (fromTraitDatum cfg s) (fromTraitDatum cfg t) :=
  ((GRel.fromTraitDatum cfg).app s t h).outcome (Progress.C03_fuel cfg t).2.2.2.2.2.2

end calls

/-- **C06 (faults), `from_reader` on bytes**: reading `pre ++ tail` from a stream that fails after
    `pre` reports the read error, or returns what the fault-free read returns. -/
theorem C06_fault_fromReader (cfg : Cfg) (pre tail : List UInt8) :
    FaultOutcome tail (fromTrait cfg (initSt .io (pre ++ tail))) (fromTrait cfg (initSt .io pre true)) :=
  C06_fault_fromTrait cfg (FSim.init' pre tail)

section hist
variable {tail : List UInt8}

theorem stepOp_dead (cfg : Cfg) (op : Op) {t : St} (h : FDead t) :
    ∃ t', stepOp cfg op t = (.err .io, some t') ∧ FDead t' := by
  obtain ⟨t', h1, h2⟩ := Op.run_forall
    (C := fun m => ∀ {t}, FDead t → ∃ t', m t = .err .io t' ∧ FDead t')
    (nextValueTop_dead cfg) (nextDatumTop_dead cfg) (expectValue_dead cfg) (expectDatum_dead cfg)
    expectEnd_dead op h
  exact ⟨t', by rw [stepOp_eq, h1]; rfl, h2⟩

/-- outcome of one call of a history: the faulty call (right) reports the read error and the
    parser is dead, or both return the same item and the parsers stay related (or the faulty one is
    dead after an error that both report) -/
def StepFault (tail : List UInt8) : Item × Option St → Item × Option St → Prop
  | (i, some s), (j, some t) =>
    (j = .err .io ∧ FDead t ∧ s.rd.rest.length ≤ tail.length) ∨
    (i = j ∧ (FSim tail s t ∨ (FDead t ∧ s.rd.rest.length ≤ tail.length)))
  | (_, none), (j, some t) => j = .err .io ∧ FDead t
  | (i, none), (j, none) => i = j
  | (_, some _), (_, none) => False

theorem FaultOutcome.step {α : Type} {r₁ r₂ : Res α} (h : FaultOutcome tail r₁ r₂)
    (mk : α → Item) : StepFault tail (r₁.step mk) (r₂.step mk) := by
  rcases h with ⟨t', rfl, hd, hb⟩ | hc
  · cases r₁ with
    | ok a s => exact .inl ⟨rfl, hd, hb s (.inl ⟨a, rfl⟩)⟩
    | err e s => exact .inl ⟨rfl, hd, hb s (.inr ⟨e, rfl⟩)⟩
    | panic p => exact ⟨rfl, hd⟩
    | fuel => exact ⟨rfl, hd⟩
  · cases r₁ <;> cases r₂ <;> simp only at hc <;> try exact hc.elim
    · exact .inr ⟨by rw [hc.1], .inl hc.2⟩
    · exact .inr ⟨by rw [hc.1], hc.2⟩
    · exact congrArg Item.panic hc

theorem stepOp_fault (cfg : Cfg) (op : Op) {s t : St} (h : FSim tail s t) :
    StepFault tail (stepOp cfg op s) (stepOp cfg op t) := by
  rw [stepOp_eq, stepOp_eq]
  exact (Op.run_forall (C := fun m => ∀ {s t}, FSim tail s t → FaultOutcome tail (m s) (m t))
    (C06_fault_value cfg) (C06_fault_datum cfg) (C06_fault_expectValue cfg)
    (C06_fault_expectDatum cfg) C06_fault_expectEnd op h).step op.item

/-- The faulty history (right) against the fault-free history (left): equal item for item up to
    the first `Err.io` of the faulty history; from there on the faulty history consists of
    `Err.io` only. -/
inductive FaultHist : List Item → List Item → Prop
  | nil : FaultHist [] []
  | same (i : Item) {is js : List Item} : FaultHist is js → FaultHist (i :: is) (i :: js)
  | io {is js : List Item} : (∀ j ∈ js, j = .err .io) → FaultHist is (.err .io :: js)

theorem runHistory_dead (cfg : Cfg) (ops : List Op) {t : St} (h : FDead t) :
    ∀ j ∈ runHistory cfg ops t, j = .err .io :=
  runHistory_forall (I := FDead) (Q := (· = .err .io))
    (fun op t h => by
      obtain ⟨t', h1, h2⟩ := stepOp_dead cfg op h
      rw [h1]; exact ⟨rfl, fun _ e => Option.some.inj e ▸ h2⟩)
    ops t h

theorem runHistory_fault (cfg : Cfg) : ∀ (ops : List Op) {s t : St}, FSim tail s t ∨ FDead t →
    FaultHist (runHistory cfg ops s) (runHistory cfg ops t)
  | [], _, _, _ => .nil
  | op :: ops, s, t, h => by
    rcases h with h | h
    · have hs := stepOp_fault cfg op h
      unfold runHistory
      revert hs
      rcases stepOp cfg op s with ⟨i, _ | s'⟩ <;> rcases stepOp cfg op t with ⟨j, _ | t'⟩ <;>
        simp only [StepFault] <;> intro hs
      · subst hs; exact .same _ .nil
      · obtain ⟨rfl, hd⟩ := hs; exact .io (runHistory_dead cfg ops hd)
      · exact hs.elim
      · rcases hs with ⟨rfl, hd, _⟩ | ⟨rfl, hr⟩
        · exact .io (runHistory_dead cfg ops hd)
        · exact .same _ (runHistory_fault cfg ops (hr.imp id And.left))
    · obtain ⟨t', h1, h2⟩ := stepOp_dead cfg op h
      simp only [runHistory, h1]
      exact .io (runHistory_dead cfg ops h2)

theorem iterate_dead (cfg : Cfg) (op : Op) (cap : Nat) {t : St} (h : FDead t) :
    ∀ j ∈ iterate cfg op cap t, j = .err .io :=
  fun j hj => runHistory_dead cfg _ h j (iterate_subset cfg op cap t j hj)

theorem iterate_fault (cfg : Cfg) (op : Op) : ∀ (cap : Nat) {s t : St}, FSim tail s t ∨ FDead t →
    FaultHist (iterate cfg op cap s) (iterate cfg op cap t)
  | 0, _, _, _ => .nil
  | cap + 1, s, t, h => by
    rcases h with h | h
    · have hs := stepOp_fault cfg op h
      unfold iterate
      revert hs
      rcases stepOp cfg op s with ⟨i, _ | s'⟩ <;> rcases stepOp cfg op t with ⟨j, _ | t'⟩ <;>
        simp only [StepFault] <;> intro hs
      · subst hs; cases i <;> exact .same _ .nil
      · obtain ⟨rfl, hd⟩ := hs; exact .io (iterate_dead cfg op cap hd)
      · exact hs.elim
      · rcases hs with ⟨rfl, hd, _⟩ | ⟨rfl, hr⟩
        · exact .io (iterate_dead cfg op cap hd)
        · cases i <;> first
            | exact .same _ .nil
            | exact .same _ (iterate_fault cfg op cap (hr.imp id And.left))
    · obtain ⟨t', h1, h2⟩ := stepOp_dead cfg op h
      simp only [iterate, h1]
      exact .io (iterate_dead cfg op cap h2)

theorem FaultHist.get {is js : List Item} (h : FaultHist is js) :
    ∀ (k : Nat) (j : Item), js[k]? = some j → j = .err .io ∨ is[k]? = some j := by
  induction h with
  | nil => intro k j hj; simp at hj
  | same i _ ih =>
    intro k j hj
    cases k with
    | zero => simp at hj; subst hj; exact .inr (by simp)
    | succ k => simp at hj; rcases ih k j hj with h | h <;> simp [h]
  | io hall =>
    intro k j hj
    cases k with
    | zero => simp at hj; exact .inl hj.symm
    | succ k => simp at hj; exact .inl (hall j (List.mem_of_getElem? hj))

theorem FaultHist.prefix {is js : List Item} (h : FaultHist is js) :
    ∃ n, js.take n = is.take n ∧ ∀ j ∈ js.drop n, j = .err .io := by
  induction h with
  | nil => exact ⟨0, rfl, by simp⟩
  | same i _ ih =>
    obtain ⟨n, h1, h2⟩ := ih
    exact ⟨n + 1, by simp [h1], by simpa using h2⟩
  | io hall =>
    refine ⟨0, rfl, ?_⟩
    intro j hj
    rcases List.mem_cons.mp (by simpa using hj) with rfl | hj
    · rfl
    · exact hall j hj

theorem FaultHist.eq_of_no_io {is js : List Item} (h : FaultHist is js)
    (hno : ∀ j ∈ js, j ≠ .err .io) : js = is := by
  induction h with
  | nil => rfl
  | same i _ ih => rw [ih (fun j hj => hno j (List.mem_cons_of_mem _ hj))]
  | io _ => exact absurd rfl (hno _ (List.mem_cons_self ..))

/-- After every call of the (fault-free) history more than `n` bytes are unread, and no call
    panics: with `n = |tail|`, the run never reads beyond the cut. -/
def withinCut (n : Nat) (cfg : Cfg) : List Op → St → Bool
  | [], _ => true
  | op :: ops, s =>
    match stepOp cfg op s with
    | (_, some s') => decide (n < s'.rd.rest.length) && withinCut n cfg ops s'
    | (_, none) => false

theorem runHistory_within (cfg : Cfg) : ∀ (ops : List Op) {s t : St}, FSim tail s t →
    withinCut tail.length cfg ops s = true → runHistory cfg ops t = runHistory cfg ops s
  | [], _, _, _, _ => rfl
  | op :: ops, s, t, h, hw => by
    have hs := stepOp_fault cfg op h
    unfold withinCut at hw
    unfold runHistory
    revert hs hw
    rcases stepOp cfg op s with ⟨i, _ | s'⟩ <;> rcases stepOp cfg op t with ⟨j, _ | t'⟩ <;>
      simp only [StepFault] <;> intro hs hw
    · cases hw
    · cases hw
    · exact hs.elim
    · simp only [Bool.and_eq_true, decide_eq_true_eq] at hw
      rcases hs with ⟨_, _, hl⟩ | ⟨rfl, hr | ⟨_, hl⟩⟩
      · omega
      · rw [runHistory_within cfg ops hr hw.2]
      · omega

/-- one call: if the fault-free call stops with more than `|tail|` unread bytes, the faulty call
    has the same outcome and the parsers stay related -/
theorem FaultOutcome.same_of_within {α : Type} {r₁ r₂ : Res α} (h : FaultOutcome tail r₁ r₂)
    (hw : ∃ s', r₁.endsIn s' ∧ tail.length < s'.rd.rest.length) :
    (∃ a s t, r₁ = .ok a s ∧ r₂ = .ok a t ∧ FSim tail s t) ∨
    (∃ e s t, r₁ = .err e s ∧ r₂ = .err e t ∧ FSim tail s t) := by
  obtain ⟨s', he, hl⟩ := hw
  rcases h with ⟨t', rfl, _, hb⟩ | hc
  · have := hb s' he; omega
  · revert hc he
    cases r₁ <;> cases r₂ <;> intro he hc <;> simp only at hc <;> try exact hc.elim
    · obtain ⟨rfl, hs⟩ := hc; exact .inl ⟨_, _, _, rfl, rfl, hs⟩
    · obtain ⟨rfl, hs⟩ := hc
      rcases he with ⟨_, h'⟩ | ⟨_, h'⟩ <;> cases h'
      rcases hs with hs | ⟨_, hl'⟩
      · exact .inr ⟨_, _, _, rfl, rfl, hs⟩
      · omega
    · rcases he with ⟨_, h'⟩ | ⟨_, h'⟩ <;> cases h'

end hist

/-- **C06_fault (histories)**: for input `pre ++ tail`, any sequence of calls on the stream that
    delivers `pre` and then fails returns, item for item, what the same calls return on the
    fault-free stream, up to the first item that is the read error; every later item is the read
    error again. -/
theorem C06_fault_history (cfg : Cfg) (ops : List Op) (pre tail : List UInt8) :
    FaultHist (runHistory cfg ops (initSt .io (pre ++ tail)))
      (runHistory cfg ops (initSt .io pre true)) :=
  runHistory_fault cfg ops (.inl (FSim.init' pre tail))

/-- **C06_fault (iteration)**: the same for `iterate` (one kind of call until end of input). -/
theorem C06_fault_iterate (cfg : Cfg) (op : Op) (cap : Nat) (pre tail : List UInt8) :
    FaultHist (iterate cfg op cap (initSt .io (pre ++ tail)))
      (iterate cfg op cap (initSt .io pre true)) :=
  iterate_fault cfg op cap (.inl (FSim.init' pre tail))

/-- **C06_fault (prefix form)**: there is an `n` such that the first `n` items of the two
    histories coincide and all later items of the faulty history are `Err.io`. -/
theorem C06_fault_prefix (cfg : Cfg) (ops : List Op) (pre tail : List UInt8) :
    ∃ n, (runHistory cfg ops (initSt .io pre true)).take n =
        (runHistory cfg ops (initSt .io (pre ++ tail))).take n ∧
      ∀ j ∈ (runHistory cfg ops (initSt .io pre true)).drop n, j = .err .io :=
  (C06_fault_history cfg ops pre tail).prefix

/-- **C06_never_swallowed**: every item `j` of the faulty history is the read error, or it is the
    item of the fault-free history at the same index.  Spelled out: a value / datum / `Ok(None)` /
    `Ok(())` returned by the faulty run is returned by the fault-free run at that call (a read
    failure is never swallowed into a successful parse of truncated data, and never treated as
    end of input); an error of the faulty run is `Err.io` or the fault-free run's error with the
    same code and position; an `Eof*` error of the faulty run is always the fault-free run's own
    error (EOF is never inferred from a fault). -/
theorem C06_never_swallowed (cfg : Cfg) (ops : List Op) (pre tail : List UInt8) (k : Nat) (j : Item)
    (hj : (runHistory cfg ops (initSt .io pre true))[k]? = some j) :
    (j = .err .io ∨ (runHistory cfg ops (initSt .io (pre ++ tail)))[k]? = some j) ∧
    (∀ v, j = .value v → (runHistory cfg ops (initSt .io (pre ++ tail)))[k]? = some (.value v)) ∧
    (∀ d, j = .datum d → (runHistory cfg ops (initSt .io (pre ++ tail)))[k]? = some (.datum d)) ∧
    (j = .none_ → (runHistory cfg ops (initSt .io (pre ++ tail)))[k]? = some .none_) ∧
    (j = .unit → (runHistory cfg ops (initSt .io (pre ++ tail)))[k]? = some .unit) ∧
    (∀ e, j = .err e → e.category = .eof →
      (runHistory cfg ops (initSt .io (pre ++ tail)))[k]? = some (.err e)) := by
  have h := (C06_fault_history cfg ops pre tail).get k j hj
  refine ⟨h, ?_, ?_, ?_, ?_, ?_⟩
  · rintro v rfl; rcases h with h | h; cases h; exact h
  · rintro d rfl; rcases h with h | h; cases h; exact h
  · rintro rfl; rcases h with h | h; cases h; exact h
  · rintro rfl; rcases h with h | h; cases h; exact h
  · rintro e rfl he; rcases h with h | h
    · cases h; cases he
    · exact h

/-- **C06_never_swallowed, one call**: `from_reader` on a stream that fails after `pre` returns
    `Ok(v)` only if the fault-free read of `pre ++ tail` returns `Ok(v)`, and reports an `Eof*`
    error only if the fault-free read reports that very error. -/
theorem C06_never_swallowed_fromReader (cfg : Cfg) (pre tail : List UInt8) :
    (∀ v t, fromTrait cfg (initSt .io pre true) = .ok v t →
      ∃ s, fromTrait cfg (initSt .io (pre ++ tail)) = .ok v s) ∧
    (∀ e t, fromTrait cfg (initSt .io pre true) = .err e t → e.category = .eof →
      ∃ s, fromTrait cfg (initSt .io (pre ++ tail)) = .err e s) ∧
    (∀ e t, fromTrait cfg (initSt .io pre true) = .err e t →
      e = .io ∨ ∃ s, fromTrait cfg (initSt .io (pre ++ tail)) = .err e s) :=
  have h := (C06_fault_fromReader cfg pre tail).reading
  ⟨h.1, h.2.2.1, h.2.1⟩

/-- **C06_fault (bytes demanded)**: if the fault-free run on `pre ++ tail` never reads beyond `pre`
    — after each of its calls more than `|tail|` bytes are unread, i.e. at least one byte of `pre`
    has not been consumed (the stream reader's lookahead slot holds at most that byte) — then the
    run on the stream that fails after `pre` returns exactly the same items.  Together with
    `C06_fault_history` (which says that otherwise the faulty history is the common prefix followed
    by `Err.io`): the fault is reported exactly where the bytes already delivered do not determine
    the outcome. -/
theorem C06_fault_demanded (cfg : Cfg) (ops : List Op) (pre tail : List UInt8)
    (hw : withinCut tail.length cfg ops (initSt .io (pre ++ tail)) = true) :
    runHistory cfg ops (initSt .io pre true) = runHistory cfg ops (initSt .io (pre ++ tail)) :=
  runHistory_within cfg ops (FSim.init' pre tail) hw

/-- conversely, a call at which the faulty run reports the read error is a call at which the
    fault-free run has read beyond the cut: the fault-free call panics or stops with at most
    `|tail|` unread bytes -/
theorem C06_fault_only_beyond {tail : List UInt8} (cfg : Cfg) {s t : St} (h : FSim tail s t) (t' : St)
    (hio : nextValueTop cfg t = .err .io t') :
    ∀ s', (nextValueTop cfg s).endsIn s' → s'.rd.rest.length ≤ tail.length := by
  rcases C06_fault_value cfg h with ⟨_, _, _, hb⟩ | hc
  · exact hb
  · rw [hio] at hc
    revert hc
    cases hr : nextValueTop cfg s <;> intro hc <;> simp only at hc
    have := (Progress.io_error_faulty cfg _ s _).1
      (by rw [nextValueTop_eq] at hr; rw [hc.1] at hr; exact hr)
    rw [h.faulty₁] at this; cases this

/-- if the faulty history reports no read error, it is the fault-free history -/
theorem C06_fault_no_io (cfg : Cfg) (ops : List Op) (pre tail : List UInt8)
    (hno : ∀ j ∈ runHistory cfg ops (initSt .io pre true), j ≠ .err .io) :
    runHistory cfg ops (initSt .io pre true) = runHistory cfg ops (initSt .io (pre ++ tail)) :=
  (C06_fault_history cfg ops pre tail).eq_of_no_io hno

/-! ## non-vacuity: concrete runs (evaluated by the kernel) -/

namespace FaultEx

def cfg : Cfg := { opts := Options.default, isAlphabetic := fun _ => false, pow10 := fun _ => 0 }

def isIo : Item → Bool
  | .err .io => true
  | _ => false
def isStr (bs : List UInt8) : Item → Bool
  | .value (.string s) => s == bs
  | _ => false
def isNum (n : Nat) : Item → Bool
  | .value (.number (.pos m)) => m == n
  | _ => false
def isSym (bs : List UInt8) : Item → Bool
  | .value (.symbol s) => s == bs
  | _ => false
def isNone : Item → Bool
  | .none_ => true
  | _ => false
def isSyntax (c : Code) : Item → Bool
  | .err (.syntax c' _ _) => c' == c
  | _ => false

/-- the run on the stream that delivers `pre` and then fails -/
def faulty (ops : List Op) (pre : String) : List Item := runHistory cfg ops (initSt .io (asc pre) true)
/-- the fault-free run on `pre ++ tail` -/
def free (ops : List Op) (pre tail : String) : List Item :=
  runHistory cfg ops (initSt .io (asc pre ++ asc tail))

/-- A fault inside a string literal: the faulty run reports `Err.io`; the fault-free run returns
    the string.  (No `EofString` is inferred.) -/
example : (faulty [.nextValue] "\"ab").map isIo = [true] ∧
    (free [.nextValue] "\"ab" "c\" 1").map (isStr (asc "abc")) = [true] := by decide +kernel

/-- A fault after a complete top-level atom whose delimiter was already delivered: the same value;
    the next call reports the fault, where the fault-free run returns the next value. -/
example : ((faulty [.nextValue, .nextValue] "12 ").zipWith (fun i f => f i) [isNum 12, isIo]) = [true, true] ∧
    ((free [.nextValue, .nextValue] "12 " "34").zipWith (fun i f => f i) [isNum 12, isNum 34]) = [true, true] := by
  decide +kernel

/-- Without the delimiter the delivered bytes do not determine the token: `Err.io`
    (the fault-free run reads `1234`). -/
example : (faulty [.nextValue] "12").map isIo = [true] ∧
    (free [.nextValue] "12" "34 ").map (isNum 1234) = [true] := by decide +kernel

/-- A fault at the very end of the input is not end of input: `Ok(None)` in the fault-free run,
    `Err.io` in the faulty run. -/
example : (faulty [.nextValue, .nextValue] "a ").zipWith (fun i f => f i) [isSym (asc "a"), isIo] = [true, true] ∧
    (free [.nextValue, .nextValue] "a " "").zipWith (fun i f => f i) [isSym (asc "a"), isNone] = [true, true] := by
  decide +kernel

/-- The error-capturing block of `next_value`: inside `(#q   )` the list body fails with
    `ExpectedSomeIdent`; `end_seq` then runs into the fault, and the code drops that read error in
    favour of the earlier syntax error (`(Err(err), _) => return Err(err)`): both runs report the
    same syntax error, the faulty parser is dead afterwards (`Err.io`), the fault-free one is at
    the end of its input. -/
example : (faulty [.nextValue, .nextValue] "(#q ").zipWith (fun i f => f i)
      [isSyntax .expectedSomeIdent, isIo] = [true, true] ∧
    (free [.nextValue, .nextValue] "(#q " "  )").zipWith (fun i f => f i)
      [isSyntax .expectedSomeIdent, isNone] = [true, true] := by
  decide +kernel

/-- instances of the theorems on these inputs -/
example : FaultHist (free [.nextValue, .nextValue] "12 " "34") (faulty [.nextValue, .nextValue] "12 ") :=
  C06_fault_history cfg _ (asc "12 ") (asc "34")
example : FaultOutcome (asc "c\"") (fromTrait cfg (initSt .io (asc "\"ab" ++ asc "c\"")))
    (fromTrait cfg (initSt .io (asc "\"ab") true)) :=
  C06_fault_fromReader cfg _ _
example : FaultHist (iterate cfg .nextDatum 9 (initSt .io (asc "(a . b) " ++ asc "#(1)")))
    (iterate cfg .nextDatum 9 (initSt .io (asc "(a . b) ") true)) :=
  C06_fault_iterate cfg _ _ _ _

/-- bytes demanded: reading `12` from `12 |34` looks at the space and no further, so the faulty run
    returns the same item (hypothesis of `C06_fault_demanded` checked by evaluation); a second call
    reads beyond the cut, and there the hypothesis fails. -/
example : withinCut (asc "34").length cfg [.nextValue] (initSt .io (asc "12 " ++ asc "34")) = true ∧
    withinCut (asc "34").length cfg [.nextValue, .nextValue] (initSt .io (asc "12 " ++ asc "34")) = false := by
  decide +kernel
example : faulty [.nextValue] "12 " = free [.nextValue] "12 " "34" :=
  C06_fault_demanded cfg _ (asc "12 ") (asc "34") (by decide +kernel)
/-- a list that is complete before the cut, followed by a delivered delimiter -/
example : faulty [.nextDatum, .nextValue] "(a . \"b\") #t " = free [.nextDatum, .nextValue] "(a . \"b\") #t " "#f" :=
  C06_fault_demanded cfg _ (asc "(a . \"b\") #t ") (asc "#f") (by decide +kernel)

end FaultEx

end Parse
end Lexpr

open Lexpr.Parse in
#print axioms GRelNE.parseToken
open Lexpr.Parse in
#print axioms GRel.value_all
open Lexpr.Parse in
#print axioms GRel.datum_all
open Lexpr.Parse in
#print axioms C06_fault_value
open Lexpr.Parse in
#print axioms C06_fault_datum
open Lexpr.Parse in
#print axioms C06_fault_expectValue
open Lexpr.Parse in
#print axioms C06_fault_expectDatum
open Lexpr.Parse in
#print axioms C06_fault_expectEnd
open Lexpr.Parse in
#print axioms C06_fault_fromTrait
open Lexpr.Parse in
#print axioms C06_fault_fromTraitDatum
open Lexpr.Parse in
#print axioms C06_fault_fromReader
open Lexpr.Parse in
#print axioms C06_fault_history
open Lexpr.Parse in
#print axioms C06_fault_iterate
open Lexpr.Parse in
#print axioms C06_fault_prefix
open Lexpr.Parse in
#print axioms C06_never_swallowed
open Lexpr.Parse in
#print axioms C06_never_swallowed_fromReader
open Lexpr.Parse in
#print axioms C06_fault_no_io
open Lexpr.Parse in
#print axioms C06_fault_demanded
open Lexpr.Parse in
#print axioms C06_fault_only_beyond
open Lexpr.Parse in
#print axioms FaultOutcome.same_of_within
