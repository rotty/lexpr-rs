/-
  The two symbol-terminator tables coincide; small facts shared by the source proofs.
-/
import LexprModel.Lex
namespace Lexpr
namespace Parse

/-- `SliceRead::parse_symbol_bytes` and `IoRead::parse_symbol_bytes` stop at the same bytes. -/
theorem symTermSlice_eq_io (b : UInt8) : symTermSlice b = symTermIo b := rfl

theorem symTerm_mode (m₁ m₂ : Mode) (b : UInt8) : symTerm m₁ b = symTerm m₂ b := by
  cases m₁ <;> cases m₂ <;> simp only [symTerm, symTermSlice_eq_io]

theorem symLen_mode (m₁ m₂ : Mode) (l : List UInt8) : symLen m₁ l = symLen m₂ l := by
  induction l with
  | nil => rfl
  | cons b bs ih => simp only [symLen, symTerm_mode m₁ m₂ b, ih]

/-- A byte on which `p` holds does not end a symbol, if `p` fails on the ten bytes that do. -/
theorem symTerm_false_of {p : UInt8 → Bool}
    (hp : ([32, 10, 9, 13, 12, 41, 93, 40, 91, 59] : List UInt8).all (fun v => !p v) = true)
    {m : Mode} {b : UInt8} (h : p b = true) : symTerm m b = false := by
  rw [show symTerm m b = symTermSlice b by cases m <;> rfl]
  cases hb : symTermSlice b
  · rfl
  · have hmem : b ∈ ([32, 10, 9, 13, 12, 41, 93, 40, 91, 59] : List UInt8) := by
      simpa [symTermSlice, or_assoc] using hb
    have := List.all_eq_true.mp hp b hmem
    simp [h] at this

theorem symTerm_of_ext {m : Mode} {b : UInt8} (h : isSymbolExtended b = true) :
    symTerm m b = false :=
  symTerm_false_of (by decide) h

theorem P.run_bind {α β : Type} (m : P α) (f : α → P β) (s : St) :
    (m >>= f) s = match m s with
      | .ok a s' => f a s'
      | .err e s' => .err e s'
      | .panic p => .panic p
      | .fuel => .fuel := rfl

theorem P.run_pure {α : Type} (a : α) (s : St) : (Pure.pure a : P α) s = .ok a s := rfl

theorem mode_slice_ne_str : (Mode.slice == Mode.str) = false := rfl
theorem mode_io_ne_str : (Mode.io == Mode.str) = false := rfl

end Parse
end Lexpr
