/-
  C04, second sentence, "to the accuracy of C05": Rust data → S-expression text → Rust data, with `f64` fields that
  are not exactly readable.  Here: the relation on data (`Data.approxEq`: same shape, identical leaves, `f64` leaves
  related by `floatApprox`) and what the text theorems of `FloatApproxSerde32.lean` need about values `approxEq` to a
  serialisation (`approxEq_list`, `approxEq_entry`, `approxEq_serInt`, `leafFullA_of_serLeaf`).
  `ser_inv` is a result of its own that the text theorems do not use: a value `approxEq` to `ser t d` is `ser t d'`
  for a well-typed `d'` with `Data.approxEq d d'`, for types without `f32` (`NoF32`): at an `f32` leaf the value read
  back is in general not the serialization of an `f32`.  By `Writes.induct` of `SerdeRT` (`writes_inv`).
-/
import LexprModel.Proofs.FloatApproxRT
import LexprModel.Proofs.SerdeText
namespace Lexpr
namespace Serde
open Parse FullRT Decimals FloatApprox

mutual
/-- Same shape and identical leaves, except that float leaves are related by
    `floatApprox` (equal, or both finite and within `2^-50` relative + `2^-1073` absolute). -/
def Data.approxEq : Data → Data → Prop
  | .float a, e => ∃ b, e = .float b ∧ floatApprox a b
  | .some d, e => ∃ d', e = .some d' ∧ Data.approxEq d d'
  | .seq ds, e => ∃ ds', e = .seq ds' ∧ Data.approxEqList ds ds'
  | .map kvs, e => ∃ kvs', e = .map kvs' ∧ Data.approxEqPairs kvs kvs'
  | .variant i p, e => ∃ p', e = .variant i p' ∧ Data.approxEq p p'
  | .int n, e => e = .int n
  | .bool b, e => e = .bool b
  | .char c, e => e = .char c
  | .str s, e => e = .str s
  | .bytes s, e => e = .bytes s
  | .unit, e => e = .unit
  | .none, e => e = .none
def Data.approxEqList : List Data → List Data → Prop
  | [], es => es = []
  | d :: ds, es => ∃ e es', es = e :: es' ∧ Data.approxEq d e ∧ Data.approxEqList ds es'
def Data.approxEqPairs : List (Data × Data) → List (Data × Data) → Prop
  | [], es => es = []
  | (k, v) :: kvs, es => ∃ k' v' es', es = (k', v') :: es' ∧ Data.approxEq k k' ∧
      Data.approxEq v v' ∧ Data.approxEqPairs kvs es'
end

mutual
theorem Data.approxEq_refl : ∀ d : Data, Data.approxEq d d
  | .float a => by simp only [Data.approxEq]; exact ⟨a, rfl, Or.inl rfl⟩
  | .some d => by simp only [Data.approxEq]; exact ⟨d, rfl, Data.approxEq_refl d⟩
  | .seq ds => by simp only [Data.approxEq]; exact ⟨ds, rfl, Data.approxEqList_refl ds⟩
  | .map kvs => by simp only [Data.approxEq]; exact ⟨kvs, rfl, Data.approxEqPairs_refl kvs⟩
  | .variant i p => by simp only [Data.approxEq]; exact ⟨p, rfl, Data.approxEq_refl p⟩
  | .int _ => by simp only [Data.approxEq]
  | .bool _ => by simp only [Data.approxEq]
  | .char _ => by simp only [Data.approxEq]
  | .str _ => by simp only [Data.approxEq]
  | .bytes _ => by simp only [Data.approxEq]
  | .unit => by simp only [Data.approxEq]
  | .none => by simp only [Data.approxEq]
theorem Data.approxEqList_refl : ∀ ds : List Data, Data.approxEqList ds ds
  | [] => by simp only [Data.approxEqList]
  | d :: ds => by
    simp only [Data.approxEqList]
    exact ⟨d, ds, rfl, Data.approxEq_refl d, Data.approxEqList_refl ds⟩
theorem Data.approxEqPairs_refl : ∀ kvs : List (Data × Data), Data.approxEqPairs kvs kvs
  | [] => by simp only [Data.approxEqPairs]
  | (k, v) :: kvs => by
    simp only [Data.approxEqPairs]
    exact ⟨k, v, kvs, rfl, Data.approxEq_refl k, Data.approxEq_refl v,
      Data.approxEqPairs_refl kvs⟩
end

mutual
def NoF32 : Ty → Prop
  | .f32 => False
  | .option t => NoF32 t
  | .seq t => NoF32 t
  | .set t => NoF32 t
  | .newtypeStruct t => NoF32 t
  | .map k v => NoF32 k ∧ NoF32 v
  | .tuple ts => NoF32Tys ts
  | .tupleStruct ts => NoF32Tys ts
  | .struct fs => NoF32Fields fs
  | .enum vs => NoF32Variants vs
  | _ => True
def NoF32Tys : TyList → Prop
  | .nil => True
  | .cons t ts => NoF32 t ∧ NoF32Tys ts
def NoF32Fields : FieldList → Prop
  | .nil => True
  | .cons _ t fs => NoF32 t ∧ NoF32Fields fs
def NoF32Variants : VariantList → Prop
  | .nil => True
  | .cons _ var vs =>
    (match var with
     | .unit => True
     | .newtype t => NoF32 t
     | .tuple ts => NoF32Tys ts
     | .struct fs => NoF32Fields fs) ∧ NoF32Variants vs
end

theorem approxEq_list : ∀ (xs : List Value) (w : Value), Value.approxEq (Value.list xs) w →
    ∃ ws, w = Value.list ws ∧ Value.approxEqList xs ws
  | [], w, h => by
    rw [list_nil] at h; simp only [Value.approxEq] at h
    exact ⟨[], by rw [h]; rfl, by simp only [Value.approxEqList]⟩
  | x :: xs, w, h => by
    rw [list_cons] at h; simp only [Value.approxEq] at h
    obtain ⟨a', d', rfl, ha, hd⟩ := h
    obtain ⟨ws, rfl, hws⟩ := approxEq_list xs d' hd
    exact ⟨a' :: ws, by rw [list_cons], by
      simp only [Value.approxEqList]; exact ⟨a', ws, rfl, ha, hws⟩⟩

theorem approxEq_serInt (w : IntTy) (n : Int) (x : Value)
    (h : Value.approxEq (serInt w n) x) : x = serInt w n := by
  have hnum : ∃ num, serInt w n = .number num ∧ ∀ b, num ≠ .flt b := by
    unfold serInt Number.ofSigned Number.ofUnsigned
    split
    · exact ⟨_, rfl, nofun⟩
    · split <;> exact ⟨_, rfl, nofun⟩
  obtain ⟨num, e, hf⟩ := hnum
  rw [e] at h ⊢
  exact approxEq_atom _ x rfl rfl (fun b hb => hf b (Value.number.inj hb)) h

theorem approxEq_entry {n : List UInt8} {v w : Value} (h : Value.approxEq (.cons (.symbol n) v) w) :
    ∃ v', w = .cons (.symbol n) v' ∧ Value.approxEq v v' := by
  simp only [Value.approxEq] at h
  obtain ⟨_, v', rfl, rfl, hv⟩ := h
  exact ⟨v', rfl, hv⟩

/-- The value read back is again a serialisation: the datum is rebuilt with the constructors of `Writes`
    (`constructor` finds the one of the case at hand, the judgement being directed by the type), an `f64`
    leaf taking the float that was read.  At an `f32` leaf the float read is in general not an `f32`,
    hence `NoF32`. -/
theorem writes_inv :
    (∀ {t d v}, Writes t d v → NoF32 t → ∀ w, Value.approxEq v w → ∃ d', Writes t d' w ∧ Data.approxEq d d') ∧
    (∀ {ts ds xs}, WritesTuple ts ds xs → NoF32Tys ts → ∀ ws, Value.approxEqList xs ws →
      ∃ ds', WritesTuple ts ds' ws ∧ Data.approxEqList ds ds') ∧
    (∀ {fs ds xs}, WritesFields fs ds xs → NoF32Fields fs → ∀ ws, Value.approxEqList xs ws →
      ∃ ds', WritesFields fs ds' ws ∧ Data.approxEqList ds ds') ∧
    (∀ {vs i p v}, WritesVariant vs i p v → NoF32Variants vs → ∀ w, Value.approxEq v w →
      ∃ p', WritesVariant vs i p' w ∧ Data.approxEq p p') := by
  apply Writes.induct
    (PL := fun t ds xs => NoF32 t → ∀ ws, Value.approxEqList xs ws →
      ∃ ds', WritesList t ds' ws ∧ Data.approxEqList ds ds')
    (PP := fun k w kvs xs => NoF32 k → NoF32 w → ∀ ws, Value.approxEqList xs ws →
      ∃ kvs', WritesPairs k w kvs' ws ∧ Data.approxEqPairs kvs kvs')
  case int =>
    refine fun h1 h2 _ x hx => ?_
    rw [approxEq_serInt _ _ x hx]
    exact ⟨_, .int h1 h2, Data.approxEq_refl _⟩
  case f32 => exact fun _ hn => hn.elim
  case f64 =>
    refine fun _ w hw => ?_
    simp only [Value.approxEq] at hw
    obtain ⟨b', rfl, hb⟩ := hw
    exact ⟨.float b', .f64, by simp only [Data.approxEq]; exact ⟨b', rfl, hb⟩⟩
  -- the other leaves, and the unit variant: the value read is the value written
  case bool | char | str | bytes | unit | unitStruct | none | vunit =>
    refine fun _ w hw => ?_
    simp only [Value.approxEq] at hw; subst hw
    exact ⟨_, by constructor, Data.approxEq_refl _⟩
  case some =>
    refine fun _ ih hn w hw => ?_
    simp only [Value.approxEq] at hw
    obtain ⟨x', n', rfl, hxx, rfl⟩ := hw
    obtain ⟨d', r, hR⟩ := ih hn x' hxx
    exact ⟨.some d', .some r, by simp only [Data.approxEq]; exact ⟨d', rfl, hR⟩⟩
  -- a proper list of components
  case seq | set | struct =>
    refine fun _ ih hn w hw => ?_
    obtain ⟨ws, rfl, hws⟩ := approxEq_list _ w hw
    obtain ⟨ds', r, hR⟩ := ih hn ws hws
    exact ⟨.seq ds', by constructor; exact r, by simp only [Data.approxEq]; exact ⟨ds', rfl, hR⟩⟩
  case map =>
    refine fun _ ih hn x hx => ?_
    obtain ⟨ws, rfl, hws⟩ := approxEq_list _ x hx
    obtain ⟨kvs', r, hR⟩ := ih hn.1 hn.2 ws hws
    exact ⟨.map kvs', .map r, by simp only [Data.approxEq]; exact ⟨kvs', rfl, hR⟩⟩
  -- a vector of components
  case tuple | tupleStruct =>
    refine fun _ ih hn w hw => ?_
    simp only [Value.approxEq] at hw
    obtain ⟨ws, rfl, hws⟩ := hw
    obtain ⟨ds', r, hR⟩ := ih hn ws hws
    exact ⟨.seq ds', by constructor; exact r, by simp only [Data.approxEq]; exact ⟨ds', rfl, hR⟩⟩
  case newtypeStruct =>
    refine fun _ ih hn w hw => ?_
    obtain ⟨d', r, hR⟩ := ih hn w hw
    exact ⟨d', .newtypeStruct r, hR⟩
  case enum =>
    refine fun {_ i _ _} _ ih hn w hw => ?_
    obtain ⟨p', r, hR⟩ := ih hn w hw
    exact ⟨.variant i p', .enum r, by simp only [Data.approxEq]; exact ⟨p', rfl, hR⟩⟩
  case lnil | tnil | fnil =>
    refine fun _ ws hws => ?_
    simp only [Value.approxEqList] at hws; subst hws
    exact ⟨[], .nil, by simp only [Data.approxEqList]⟩
  case pnil =>
    refine fun _ _ ws hws => ?_
    simp only [Value.approxEqList] at hws; subst hws
    exact ⟨[], .nil, by simp only [Data.approxEqPairs]⟩
  case lcons =>
    refine fun _ _ ih ihs hn ws hws => ?_
    simp only [Value.approxEqList] at hws
    obtain ⟨y, ws', rfl, hxy, hws'⟩ := hws
    obtain ⟨d', r, hR⟩ := ih hn y hxy
    obtain ⟨ds', rs, hRs⟩ := ihs hn ws' hws'
    exact ⟨d' :: ds', .cons r rs, by simp only [Data.approxEqList]; exact ⟨d', ds', rfl, hR, hRs⟩⟩
  case pcons =>
    refine fun _ _ _ ihx ihy ihs hk hw ws hws => ?_
    simp only [Value.approxEqList] at hws
    obtain ⟨z, ws', rfl, hz, hws'⟩ := hws
    simp only [Value.approxEq] at hz
    obtain ⟨x', y', rfl, hxx, hyy⟩ := hz
    obtain ⟨a', ra, hRa⟩ := ihx hk x' hxx
    obtain ⟨b', rb, hRb⟩ := ihy hw y' hyy
    obtain ⟨kvs', rs, hRs⟩ := ihs hk hw ws' hws'
    exact ⟨(a', b') :: kvs', .cons ra rb rs,
      by simp only [Data.approxEqPairs]; exact ⟨a', b', kvs', rfl, hRa, hRb, hRs⟩⟩
  case tcons =>
    refine fun _ _ ih ihs hn ws hws => ?_
    simp only [Value.approxEqList] at hws
    obtain ⟨y, ws', rfl, hxy, hws'⟩ := hws
    obtain ⟨d', r, hR⟩ := ih hn.1 y hxy
    obtain ⟨ds', rs, hRs⟩ := ihs hn.2 ws' hws'
    exact ⟨d' :: ds', .cons r rs, by simp only [Data.approxEqList]; exact ⟨d', ds', rfl, hR, hRs⟩⟩
  case fcons =>
    refine fun _ _ ih ihs hn ws hws => ?_
    simp only [Value.approxEqList] at hws
    obtain ⟨y, ws', rfl, hxy, hws'⟩ := hws
    obtain ⟨x', rfl, hxx⟩ := approxEq_entry hxy
    obtain ⟨d', r, hR⟩ := ih hn.1 x' hxx
    obtain ⟨ds', rs, hRs⟩ := ihs hn.2 ws' hws'
    exact ⟨d' :: ds', .cons r rs, by simp only [Data.approxEqList]; exact ⟨d', ds', rfl, hR, hRs⟩⟩
  case vnewtype =>
    refine fun _ ih hn w hw => ?_
    obtain ⟨x', rfl, hxx⟩ := approxEq_entry hw
    obtain ⟨p', r, hR⟩ := ih hn.1 x' hxx
    exact ⟨p', .newtype r, hR⟩
  -- `(name . items)`, the items a proper list
  case vtuple | vstruct =>
    refine fun _ ih hn w hw => ?_
    obtain ⟨l', rfl, hl'⟩ := approxEq_entry hw
    obtain ⟨ws, rfl, hws⟩ := approxEq_list _ l' hl'
    obtain ⟨ds', r, hR⟩ := ih hn.1 ws hws
    exact ⟨.seq ds', by constructor; exact r, by simp only [Data.approxEq]; exact ⟨ds', rfl, hR⟩⟩
  case vsucc =>
    refine fun _ ih hn w hw => ?_
    rw [NoF32Variants.eq_def] at hn
    obtain ⟨p', r, hR⟩ := ih hn.2 w hw
    exact ⟨p', .succ r, hR⟩

theorem ser_inv : ∀ (t : Ty) (d : Data) (v w : Value), HasTy t d → NoF32 t →
    ser t d = some v → Value.approxEq v w →
    ∃ d', ser t d' = some w ∧ HasTy t d' ∧ Data.approxEq d d' := fun _ _ _ w h hn hs hw =>
  let ⟨d', r, hR⟩ := writes_inv.1 (of_total (ser_total _ _ h) hs) hn w hw
  ⟨d', (writes_sound.1 r).1, (writes_sound.1 r).2, hR⟩

theorem serFields_inv : ∀ (fs : FieldList) (ds : List Data) (xs ws : List Value),
    HasTyFields fs ds → NoF32Fields fs → serFields fs ds = some xs → Value.approxEqList xs ws →
    ∃ ds', serFields fs ds' = some ws ∧ HasTyFields fs ds' ∧ Data.approxEqList ds ds' :=
  fun _ _ _ ws h hn hs hw =>
  let ⟨ds', r, hR⟩ := writes_inv.2.2.1 (of_total (serFields_total _ _ h) hs) hn ws hw
  ⟨ds', (writes_sound.2.2.1 r).1, (writes_sound.2.2.1 r).2, hR⟩

theorem serVariant_inv : ∀ (vs : VariantList) (i : Nat) (p : Data) (v w : Value),
    HasTyVariant vs i p → NoF32Variants vs → serVariant vs i p = some v → Value.approxEq v w →
    ∃ p', serVariant vs i p' = some w ∧ HasTyVariant vs i p' ∧ Data.approxEq p p' :=
  fun _ _ _ _ w h hn hs hw =>
  let ⟨p', r, hR⟩ := writes_inv.2.2.2 (of_total (serVariant_total _ _ _ h) hs) hn w hw
  ⟨p', (writes_sound.2.2.2 r).1, (writes_sound.2.2.2 r).2, hR⟩

theorem leafFullA_of_serLeaf (cfg : Cfg) (ryu : Nat → List UInt8) (v : Value)
    (h : SerLeaf PlainName (RyuSpecOnly cfg ryu) v) : LeafFullA cfg ryu v := by
  cases v with
  | number n => cases n <;> exact h
  | bool _ | bytes _ => trivial
  | char _ | string _ | symbol _ => exact h
  | nil | null | keyword _ | cons _ _ | vector _ => exact False.elim h

#print axioms ser_inv

end Serde
end Lexpr
