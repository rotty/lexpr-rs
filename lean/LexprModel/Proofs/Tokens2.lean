/-
  C08 — closed forms for the token classes that are not in `Tokens.lean`, for every option set and
  every follow context (the token is followed by a symbol terminator or the end of input):
  sign-initial tokens (`C08_sign…`), non-ASCII-initial tokens (`C08_nonascii…`) and `#`-initial
  tokens (`C08_octothorpe_keyword`, `C08_hash_fixed`, `C08_hash_simple`, `C08_hash_eof`), each with
  the options it consults (`C08_frame_…`).  The sign and non-ASCII closed forms are the slice
  instances of `sign_rows` / `unicode_rows` (TokenRT.lean: every row, every source).
-/
import LexprModel.Proofs.Tokens
namespace Lexpr
namespace Parse
namespace C08

/-- the next byte of the input, 0 at the end of input (`peek_or_null`) -/
def nextByte (l : List UInt8) : UInt8 := l.head?.getD 0

/-- after a sign these bytes (0 stands for the end of input) make the token a symbol -/
def signSymbolNext (b : UInt8) : Bool := b == 0 || isDelimiter b || isSignSubsequent b

/-- the bytes that end a symbol are delimiters (`|` and `"` are delimiters only) -/
theorem term_delimiter (b : UInt8) (h : symTermSlice b = true) : isDelimiter b = true :=
  isFollow_isDelimiter b ((isFollow_eq_symTermSlice b).symm ▸ h)

theorem term_signSymbolNext (b : UInt8) (h : symTermSlice b = true) : signSymbolNext b = true := by
  simp [signSymbolNext, term_delimiter b h]

theorem sign_dispatch (cfg : Cfg) (fuel : Nat) (sign : UInt8) (hsg : sign = 45 ∨ sign = 43) :
    parseToken cfg fuel sign = parseSignToken cfg fuel sign (sign == 43) := by
  rcases hsg with rfl | rfl <;> rfl

/-- `TokenRT.sign_rows` on a slice -/
theorem sign_tok (cfg : Cfg) (fuel : Nat) (sign : UInt8) (pos : Bool) (tl rest : List UInt8) (s : St)
    (hsg : sign = 45 ∨ sign = 43)
    (ht : IsToken (sign :: tl) rest) (hs : SliceAt s (sign :: tl ++ rest)) :
    parseSignToken cfg fuel sign pos s =
      if signSymbolNext (nextByte (tl ++ rest)) = true then
        .ok (symbolToken cfg.opts (sign :: tl)) (s.adv (tl.length + 1))
      else if nextByte (tl ++ rest) = 46 then
        if isDigit (nextByte ((tl ++ rest).drop 1)) = true then
          .err (.syntax .invalidNumber (s.adv 2).rd.peekPosition.line
            (s.adv 2).rd.peekPosition.col) (s.adv 2)
        else .ok (symbolToken cfg.opts (sign :: tl)) (s.adv (tl.length + 1))
      else (parseNumToken cfg fuel pos >>= fun n => pure (.number n)) (s.adv 1) := by
  have e : ∀ n r, adv s n (endPeek s r) = s.adv n := fun n r => adv_slice s n r hs.mode
  rw [sign_rows cfg fuel sign pos tl rest s (by rcases hsg with rfl | rfl <;> decide) hs.rest
    (follow_of_term ht.restOk) (fun _ => hs.faulty) (fun b hb => ht.noTerm b (by simp [hb]))
    (.inr ht.utf8)]
  simp only [e, signSymbolNext, nextByte, beq_iff_eq]
  rfl

/-- The sign-initial token is read by the symbol reader: the byte after the sign is a delimiter,
    a "sign subsequent" character or the end of input, or it is a dot that is not followed by a
    digit. -/
def signSymbolic (tl rest : List UInt8) : Bool :=
  signSymbolNext (nextByte (tl ++ rest)) ||
    (nextByte (tl ++ rest) == 46 && !isDigit (nextByte ((tl ++ rest).drop 1)))

/-- `+.5`, `-.5e3`: a sign, a dot and a digit is an error (`InvalidNumber`). -/
def signDotDigit (tl rest : List UInt8) : Bool :=
  !signSymbolNext (nextByte (tl ++ rest)) && nextByte (tl ++ rest) == 46 &&
    isDigit (nextByte ((tl ++ rest).drop 1))

theorem expectNumberEnd_ok {n n' : Number} {s s' : St} (h : expectNumberEnd n s = .ok n' s') :
    n' = n ∧ s'.rd.rest = s.rd.rest ∧
      (s'.rd.rest = [] ∨ ∃ b bs, s'.rd.rest = b :: bs ∧ isDelimiter b = true) := by
  obtain ⟨rfl, ⟨p, rfl⟩, hd⟩ := expectNumberEnd_inv h
  exact ⟨rfl, rfl, hd⟩

theorem parseNumLiteral_ok_digit {cfg : Cfg} {fuel : Nat} {pos : Bool} {n : Number} {s s' : St}
    (h : parseNumLiteral cfg fuel 10 pos s = .ok n s') :
    ∃ c bs, s.rd.rest = c :: bs ∧ isDigit c = true := by
  unfold parseNumLiteral at h
  obtain ⟨o, s1, hn, h⟩ := bind_ok h
  rcases next_ok hn with ⟨rfl, _, _⟩ | ⟨c, bs, rfl, hr, _⟩
  · cases h
  · refine ⟨c, bs, hr, ?_⟩
    by_cases hd : isDigit c = true
    · exact hd
    · exfalso
      have : digitVal 10 c = none := by
        have hd' : (decide (48 ≤ c) && decide (c ≤ 57)) = false := by simpa [isDigit] using hd
        simp [digitVal, hd']
      simp [this, peekErr] at h

theorem parseNumToken_ok {cfg : Cfg} {fuel : Nat} {pos : Bool} {n : Number} {s s' : St}
    (h : parseNumToken cfg fuel pos s = .ok n s') :
    (∃ c bs, s.rd.rest = c :: bs ∧ isDigit c = true) ∧
      (s'.rd.rest = [] ∨ ∃ b bs, s'.rd.rest = b :: bs ∧ isDelimiter b = true) := by
  obtain ⟨m, s1, hl, h⟩ := bind_ok h
  exact ⟨parseNumLiteral_ok_digit hl, (expectNumberEnd_ok h).2.2⟩

theorem hi_iff_ge80 {b : UInt8} : b > 127 ↔ 0x80 ≤ b :=
  ⟨fun h => UInt8.le_iff_toNat_le.mpr (UInt8.lt_iff_toNat_lt.mp h),
   fun h => UInt8.lt_iff_toNat_lt.mpr (UInt8.le_iff_toNat_le.mp h)⟩

/-- `#c…` consults the octothorpe option for `#:`, the Racket option for `#%`, and otherwise none -/
theorem hashTail_frame (c1 c2 : Cfg) (fuel : Nat) (c : UInt8) (hn : NumCfgEq c1 c2)
    (h58 : c = 58 → c1.opts.kwOctothorpe = c2.opts.kwOctothorpe)
    (h37 : c = 37 → c1.opts.racket = c2.opts.racket) : hashTail c1 fuel c = hashTail c2 fuel c := by
  by_cases e58 : c = 58
  · subst e58; rw [hashTail_colon, hashTail_colon, h58 rfl]
  by_cases e37 : c = 37
  · subst e37; rw [hashTail_percent, hashTail_percent, h37 rfl]
  have b58 : (c == 58) = false := by simpa using e58
  have b37 : (c == 37) = false := by simpa using e37
  simp only [hashTail, b58, b37, Bool.false_and, parseRadixToken_congr hn]

/-- … in every reader state -/
theorem hashArm_frame (c1 c2 : Cfg) (fuel : Nat) (s : St) (hn : NumCfgEq c1 c2)
    (h58 : ∀ b x, s.rd.rest = b :: 58 :: x → c1.opts.kwOctothorpe = c2.opts.kwOctothorpe)
    (h37 : ∀ b x, s.rd.rest = b :: 37 :: x → c1.opts.racket = c2.opts.racket) :
    hashArm c1 fuel s = hashArm c2 fuel s := by
  unfold hashArm
  apply bind_congr_ok
  intro u s1 hd
  obtain ⟨b, tl, hr, rfl⟩ := discard_ok hd
  apply bind_congr_ok
  intro o s2 hnx
  rcases next_ok hnx with ⟨rfl, _, _⟩ | ⟨c, x, rfl, hr1, _⟩
  · rfl
  · have hr' : s.rd.rest = b :: c :: x := by rw [hr]; simpa [hr] using hr1
    exact congrFun (hashTail_frame c1 c2 fuel c hn (fun e => h58 b x (e ▸ hr'))
      (fun e => h37 b x (e ▸ hr'))) s2

theorem symbolToken_of_head (o : Options) (name : List UInt8) (h : name.head? ≠ some 58) :
    symbolToken o name =
      if o.kwPostfix = true ∧ name.getLast? = some 58 then .keyword name.dropLast
      else .symbol name := by
  unfold symbolToken
  by_cases hl : name.getLast? = some 58
  · have hlen : name.length > 1 := by
      match name, h, hl with
      | [], _, hl => simp at hl
      | [x], h, hl => simp at h hl; exact absurd hl h
      | _ :: _ :: _, _, _ => simp
    cases hk : o.kwPostfix <;> simp [hl, hlen]
  · cases hk : o.kwPostfix <;> simp [hl]

theorem symbolToken_frame (o1 o2 : Options) (name : List UInt8)
    (h : o1.kwPostfix = o2.kwPostfix ∨ name.getLast? ≠ some 58) :
    symbolToken o1 name = symbolToken o2 name := by
  unfold symbolToken
  rcases h with h | h
  · rw [h]
  · have : (name.getLast? == some 58) = false := by simpa using h
    simp [this]

end C08

open C08

/-- A whole token that starts with `+` or `-`, for every option set and every follow context.  If
    the byte after the sign is a delimiter, a "sign subsequent" character (a letter or one of
    `!$%&*/:<=>?@^_~+-`) or the end of input, or a dot that is not followed by a digit, the token is
    read by `symbol_token` (a symbol, or a postfix keyword); sign-dot-digit is the error
    `InvalidNumber`; everything else goes to the number parser. -/
theorem C08_sign (cfg : Cfg) (fuel : Nat) (sign : UInt8) (tl rest : List UInt8) (s : St)
    (hsg : sign = 45 ∨ sign = 43)
    (ht : IsToken (sign :: tl) rest) (hs : SliceAt s (sign :: tl ++ rest)) :
    parseToken cfg fuel sign s =
      if signSymbolic tl rest = true then
        .ok (symbolToken cfg.opts (sign :: tl)) (s.adv (tl.length + 1))
      else if signDotDigit tl rest = true then
        .err (.syntax .invalidNumber (s.adv 2).rd.peekPosition.line
          (s.adv 2).rd.peekPosition.col) (s.adv 2)
      else (parseNumToken cfg fuel (sign == 43) >>= fun n => pure (.number n)) (s.adv 1) := by
  rw [sign_dispatch cfg fuel sign hsg, sign_tok cfg fuel sign (sign == 43) tl rest s hsg ht hs]
  unfold signSymbolic signDotDigit
  generalize signSymbolNext (nextByte (tl ++ rest)) = a
  generalize isDigit (nextByte ((tl ++ rest).drop 1)) = d
  by_cases h2 : nextByte (tl ++ rest) = 46 <;> cases a <;> cases d <;> simp [h2]

/-- `+` and `-` alone are the symbols `+` and `-`, whatever the options. -/
theorem C08_sign_alone (cfg : Cfg) (fuel : Nat) (sign : UInt8) (rest : List UInt8) (s : St)
    (hsg : sign = 45 ∨ sign = 43) (hr : RestOk rest) (hs : SliceAt s (sign :: [] ++ rest)) :
    parseToken cfg fuel sign s = .ok (.symbol [sign]) (s.adv 1) := by
  have ht : IsToken [sign] rest := by
    refine ⟨⟨?_, hr⟩, by simp, ?_⟩ <;> rcases hsg with rfl | rfl <;> decide
  have hsym : signSymbolic [] rest = true := by
    unfold signSymbolic
    rcases hr with rfl | ⟨b, bs, rfl, hb⟩
    · decide
    · simp [nextByte, term_signSymbolNext b hb]
  rw [C08_sign cfg fuel sign [] rest s hsg ht hs, if_pos hsym]
  simp [symbolToken]

/-- A sign-initial token that the symbol reader takes is the postfix keyword (without its colon)
    exactly when it ends in `:` and the colon-postfix spelling is enabled, and otherwise the
    symbol itself. -/
theorem C08_sign_keyword (cfg : Cfg) (fuel : Nat) (sign : UInt8) (tl rest : List UInt8) (s : St)
    (hsg : sign = 45 ∨ sign = 43)
    (ht : IsToken (sign :: tl) rest) (hs : SliceAt s (sign :: tl ++ rest))
    (hsym : signSymbolic tl rest = true) :
    parseToken cfg fuel sign s =
      .ok (if cfg.opts.kwPostfix = true ∧ (sign :: tl).getLast? = some 58
           then .keyword (sign :: tl).dropLast else .symbol (sign :: tl))
        (s.adv (tl.length + 1)) := by
  rw [C08_sign cfg fuel sign tl rest s hsg ht hs, if_pos hsym,
    symbolToken_of_head cfg.opts (sign :: tl) (by rcases hsg with rfl | rfl <;> simp)]

/-- A sign-initial token is read as a number exactly when it does not go to the symbol reader,
    is not sign-dot-digit, and the number parser accepts what follows the sign. -/
theorem C08_sign_number (cfg : Cfg) (fuel : Nat) (sign : UInt8) (tl rest : List UInt8) (s s' : St)
    (n : Number) (hsg : sign = 45 ∨ sign = 43)
    (ht : IsToken (sign :: tl) rest) (hs : SliceAt s (sign :: tl ++ rest)) :
    parseToken cfg fuel sign s = .ok (.number n) s' ↔
      signSymbolic tl rest = false ∧ signDotDigit tl rest = false ∧
        parseNumToken cfg fuel (sign == 43) (s.adv 1) = .ok n s' := by
  rw [C08_sign cfg fuel sign tl rest s hsg ht hs]
  cases h1 : signSymbolic tl rest
  · cases h2 : signDotDigit tl rest
    · rw [if_neg (by decide), if_neg (by decide)]
      constructor
      · intro h
        obtain ⟨m, s1, hn, h⟩ := bind_ok h
        cases h
        exact ⟨rfl, rfl, hn⟩
      · intro ⟨_, _, hn⟩
        rw [bind_apply, hn]; rfl
    · rw [if_neg (by decide), if_pos rfl]
      exact ⟨fun h => (nomatch h), fun ⟨_, h, _⟩ => (nomatch h)⟩
  · rw [if_pos rfl]
    refine ⟨fun h => ?_, fun ⟨h, _⟩ => (nomatch h)⟩
    injection h with h _
    rcases symbolToken_cases cfg.opts (sign :: tl) with e | e <;> rw [e] at h <;> cases h

/-- Conversely a sign-initial token is read as a symbol or keyword only through that path. -/
theorem C08_sign_symbol (cfg : Cfg) (fuel : Nat) (sign : UInt8) (tl rest : List UInt8) (s s' : St)
    (hsg : sign = 45 ∨ sign = 43)
    (ht : IsToken (sign :: tl) rest) (hs : SliceAt s (sign :: tl ++ rest)) (name : List UInt8)
    (h : parseToken cfg fuel sign s = .ok (.symbol name) s' ∨
         parseToken cfg fuel sign s = .ok (.keyword name) s') :
    signSymbolic tl rest = true := by
  rw [C08_sign cfg fuel sign tl rest s hsg ht hs] at h
  by_cases h1 : signSymbolic tl rest = true
  · exact h1
  · exfalso
    rw [if_neg h1] at h
    by_cases h2 : signDotDigit tl rest = true
    · rw [if_pos h2] at h; rcases h with h | h <;> cases h
    · rw [if_neg h2] at h
      rcases h with h | h <;> (obtain ⟨m, s1, _, h⟩ := bind_ok h; cases h)

/-- **number only if the token is a numeric literal** (sign-initial tokens): if the token is read
    as a number, the sign is followed by a digit of the token, and the number parser stopped at
    the end of input or in front of a delimiter (`expect_number_end`): `+5x`, `-1+` are errors,
    never a number followed by something else. -/
theorem C08_sign_number_only (cfg : Cfg) (fuel : Nat) (sign : UInt8) (tl rest : List UInt8)
    (s s' : St) (n : Number) (hsg : sign = 45 ∨ sign = 43)
    (ht : IsToken (sign :: tl) rest) (hs : SliceAt s (sign :: tl ++ rest))
    (h : parseToken cfg fuel sign s = .ok (.number n) s') :
    (∃ d tl', tl = d :: tl' ∧ isDigit d = true) ∧
      (s'.rd.rest = [] ∨ ∃ b bs, s'.rd.rest = b :: bs ∧ isDelimiter b = true) := by
  obtain ⟨_, _, hn⟩ := (C08_sign_number cfg fuel sign tl rest s s' n hsg ht hs).mp h
  obtain ⟨⟨c, bs, hc, hd⟩, hend⟩ := parseNumToken_ok hn
  refine ⟨?_, hend⟩
  have hr : (s.adv 1).rd.rest = tl ++ rest := by simp [hs.rest]
  rw [hr] at hc
  cases tl with
  | nil =>
    -- a digit does not end a token
    exfalso
    rcases ht.restOk with rfl | ⟨b, bs', rfl, hb⟩
    · cases hc
    · obtain ⟨rfl, _⟩ := List.cons.inj hc
      rw [startsName_nonterm (by rw [tokClass_digit hd]; rfl)] at hb
      cases hb
  | cons d tl' =>
    obtain ⟨rfl, _⟩ := List.cons.inj hc
    exact ⟨d, tl', rfl, hd⟩

/-- Sign-initial input consults `kwPostfix` only (and the float configuration of the build). -/
theorem C08_frame_sign_any (c1 c2 : Cfg) (fuel : Nat) (sign : UInt8) (hsg : sign = 45 ∨ sign = 43)
    (hn : c1.fast = c2.fast ∧ c1.pow10 = c2.pow10)
    (hk : c1.opts.kwPostfix = c2.opts.kwPostfix) :
    parseToken c1 fuel sign = parseToken c2 fuel sign := by
  have hn' : NumCfgEq c1 c2 := hn
  rw [sign_dispatch c1 fuel sign hsg, sign_dispatch c2 fuel sign hsg]
  simp only [parseSignToken, parseSignDotSymbol, symbolToken, hk, parseNumToken_congr hn']

/-- A sign-initial token that does not end in a colon consults no option at all. -/
theorem C08_frame_sign (c1 c2 : Cfg) (fuel : Nat) (sign : UInt8) (tl rest : List UInt8) (s : St)
    (hsg : sign = 45 ∨ sign = 43)
    (ht : IsToken (sign :: tl) rest) (hs : SliceAt s (sign :: tl ++ rest))
    (hn : c1.fast = c2.fast ∧ c1.pow10 = c2.pow10)
    (hk : c1.opts.kwPostfix = c2.opts.kwPostfix ∨ (sign :: tl).getLast? ≠ some 58) :
    parseToken c1 fuel sign s = parseToken c2 fuel sign s := by
  have hn' : NumCfgEq c1 c2 := hn
  rw [C08_sign c1 fuel sign tl rest s hsg ht hs, C08_sign c2 fuel sign tl rest s hsg ht hs,
    symbolToken_frame c1.opts c2.opts (sign :: tl) hk, parseNumToken_congr hn']

/-- A whole token whose first byte is not ASCII.  Its first scalar `c` (`Utf8.decodeFirst`) decides:
    if `char::is_alphabetic(c)` (the build's table `cfg.isAlphabetic`) the token is read by
    `symbol_token` — a symbol, or a postfix keyword — and otherwise the result is the error
    `ExpectedSomeValue`, reported just behind that scalar, for every option set. -/
theorem C08_nonascii (cfg : Cfg) (fuel : Nat) (pk : UInt8) (name rest : List UInt8) (s : St)
    (ht : IsToken name rest) (hs : SliceAt s (name ++ rest)) (hpk : name.head? = some pk)
    (hhi : pk > 127) :
    ∃ c r, Utf8.decodeFirst name = some (c, r) ∧ r.length < name.length ∧
      parseToken cfg fuel pk s =
        if cfg.isAlphabetic c = true then .ok (symbolToken cfg.opts name) (s.adv name.length)
        else
          .err (.syntax .expectedSomeValue (s.adv (name.length - r.length)).rd.peekPosition.line
            (s.adv (name.length - r.length)).rd.peekPosition.col)
            (s.adv (name.length - r.length)) := by
  cases name with
  | nil => cases hpk
  | cons x tl =>
    obtain rfl : x = pk := Option.some.inj hpk
    obtain ⟨⟨c, r⟩, hd⟩ := Option.isSome_iff_exists.mp (Utf8.decodeFirst_of_valid x tl ht.utf8)
    obtain ⟨cont, rfl, -, -⟩ := decodeFirst_split x tl c r (hi_not_ascii x hhi).1 hd
    refine ⟨c, r, hd, by simp; omega, ?_⟩
    rw [unicode_rows cfg fuel x _ rest s c r hhi hd (fun b hb => ht.noTerm b (by simp [hb]))
      ht.utf8 hs.rest (follow_of_term ht.restOk) (fun _ => hs.faulty), adv_slice _ _ _ hs.mode,
      ← sadv_eq]
    rfl

/-- … so with an alphabetic initial the token is the postfix keyword exactly when it ends in `:`
    and the colon-postfix spelling is enabled, and otherwise the symbol itself. -/
theorem C08_nonascii_keyword (cfg : Cfg) (fuel : Nat) (pk : UInt8) (name rest : List UInt8) (s : St)
    (ht : IsToken name rest) (hs : SliceAt s (name ++ rest)) (hpk : name.head? = some pk)
    (hhi : pk > 127) (c : Nat) (r : List UInt8) (hd : Utf8.decodeFirst name = some (c, r))
    (ha : cfg.isAlphabetic c = true) :
    parseToken cfg fuel pk s =
      .ok (if cfg.opts.kwPostfix = true ∧ name.getLast? = some 58
           then .keyword name.dropLast else .symbol name) (s.adv name.length) := by
  obtain ⟨c', r', hd', _, h⟩ := C08_nonascii cfg fuel pk name rest s ht hs hpk hhi
  rw [hd] at hd'
  obtain ⟨rfl, rfl⟩ : c = c' ∧ r = r' := by simpa using hd'
  rw [h, if_pos ha, symbolToken_of_head cfg.opts name (by
    rw [hpk]; intro e; exact ne_of_tokClass (by rw [tokClass_hi hhi]; decide) (Option.some.inj e))]

/-- Non-ASCII-initial input consults `kwPostfix` only (and the build's alphabetic table). -/
theorem C08_frame_nonascii_any (c1 c2 : Cfg) (fuel : Nat) (pk : UInt8) (hhi : pk > 127)
    (ha : c1.isAlphabetic = c2.isAlphabetic) (hk : c1.opts.kwPostfix = c2.opts.kwPostfix) :
    parseToken c1 fuel pk = parseToken c2 fuel pk := by
  rw [parseToken_hi c1 fuel pk hhi, parseToken_hi c2 fuel pk hhi]
  simp only [hiArm, ha, symArm, symbolToken, hk]

/-- A non-ASCII-initial token that does not end in a colon consults no option at all. -/
theorem C08_frame_nonascii (c1 c2 : Cfg) (fuel : Nat) (pk : UInt8) (name rest : List UInt8) (s : St)
    (ht : IsToken name rest) (hs : SliceAt s (name ++ rest)) (hpk : name.head? = some pk)
    (hhi : pk > 127) (ha : c1.isAlphabetic = c2.isAlphabetic)
    (hk : c1.opts.kwPostfix = c2.opts.kwPostfix ∨ name.getLast? ≠ some 58) :
    parseToken c1 fuel pk s = parseToken c2 fuel pk s := by
  obtain ⟨c, r, hd, _, h1⟩ := C08_nonascii c1 fuel pk name rest s ht hs hpk hhi
  obtain ⟨c', r', hd', _, h2⟩ := C08_nonascii c2 fuel pk name rest s ht hs hpk hhi
  rw [hd] at hd'
  obtain ⟨rfl, rfl⟩ : c = c' ∧ r = r' := by simpa using hd'
  rw [h1, h2, ha, symbolToken_frame c1.opts c2.opts name hk]

/-- `#:name` is the keyword `name` exactly when the `#:` spelling is enabled, and otherwise the
    error `ExpectedSomeIdent` (reported behind `#:`); no other option is consulted.  (`name` may be
    empty: `#:` alone is the keyword with the empty name.) -/
theorem C08_octothorpe_keyword (cfg : Cfg) (fuel : Nat) (s : St) (name rest : List UInt8)
    (hb : IsBody name rest) (hv : Utf8.valid name = true) (hdot : name ≠ [46])
    (hs : SliceAt s (35 :: 58 :: name ++ rest)) :
    parseToken cfg fuel 35 s =
      if cfg.opts.kwOctothorpe = true then .ok (.keyword name) (s.adv (name.length + 2))
      else .err (.syntax .expectedSomeIdent (s.adv 2).rd.peekPosition.line
        (s.adv 2).rd.peekPosition.col) (s.adv 2) := by
  rw [hash_name_rows cfg fuel 58 _ [] _ (hashTail_colon cfg fuel) name rest s hs.rest
    (follow_of_term hb.restOk) (fun _ => hs.faulty) hb.noTerm (by simpa using hdot)
    (.inr (by simpa using hv)), adv_slice _ _ _ hs.mode, ← sadv_eq]
  rfl

/-- `#:` consults `kwOctothorpe` only. -/
theorem C08_frame_octothorpe (c1 c2 : Cfg) (fuel : Nat) (s : St) (x : List UInt8)
    (hs : s.rd.rest = 35 :: 58 :: x) (h : c1.opts.kwOctothorpe = c2.opts.kwOctothorpe) :
    parseToken c1 fuel 35 s = parseToken c2 fuel 35 s := by
  rw [parseToken_hash c1 fuel 58 x s hs, parseToken_hash c2 fuel 58 x s hs, hashTail_colon,
    hashTail_colon, h]

/-- Every `#` token other than `#:` and `#%` (`#t #f #true #false #nil #( #u8( #vu8( #\ #x #b #o #d`,
    a lone `#`, `#` and anything else) consults no option at all: the result is the same under any
    two configurations of the same build. -/
theorem C08_hash_fixed (c1 c2 : Cfg) (fuel : Nat) (s : St) (x : List UInt8)
    (hn : c1.fast = c2.fast ∧ c1.pow10 = c2.pow10)
    (hs : s.rd.rest = 35 :: x) (h58 : x.head? ≠ some 58) (h37 : x.head? ≠ some 37) :
    parseToken c1 fuel 35 s = parseToken c2 fuel 35 s := by
  rw [parseToken_eq, parseToken_eq]
  refine hashArm_frame c1 c2 fuel s hn (fun b y e => ?_) (fun b y e => ?_)
  · rw [hs] at e; cases e; exact absurd rfl h58
  · rw [hs] at e; cases e; exact absurd rfl h37

/-- What the option-free `#` tokens read as: `#t`, `#f` (and so the first two bytes of `#true`,
    `#false`: the code does not look further), `#(`, `#nil`, `#u8`, `#vu8`. -/
theorem C08_hash_simple (cfg : Cfg) (fuel : Nat) (s : St) (x : List UInt8) :
    (s.rd.rest = 35 :: 116 :: x → parseToken cfg fuel 35 s = .ok (.bool true) (s.adv 2)) ∧
    (s.rd.rest = 35 :: 102 :: x → parseToken cfg fuel 35 s = .ok (.bool false) (s.adv 2)) ∧
    (s.rd.rest = 35 :: 40 :: x → parseToken cfg fuel 35 s = .ok (.vecOpen 41) (s.adv 2)) ∧
    (s.rd.rest = 35 :: 110 :: 105 :: 108 :: x → parseToken cfg fuel 35 s = .ok .nil (s.adv 4)) ∧
    (s.rd.rest = 35 :: 117 :: 56 :: x →
      parseToken cfg fuel 35 s = .ok (.byteVecOpen 41) (s.adv 3)) ∧
    (s.rd.rest = 35 :: 118 :: 117 :: 56 :: x →
      parseToken cfg fuel 35 s = .ok (.byteVecOpen 41) (s.adv 4)) := by
  simp only [sadv_eq]
  exact ⟨fixedTok_reads cfg fuel s [35, 116] x (fixedTok_mem 6 rfl) (by decide),
    fixedTok_reads cfg fuel s [35, 102] x (fixedTok_mem 7 rfl) (by decide),
    fixedTok_reads cfg fuel s [35, 40] x (fixedTok_mem 8 rfl) (by decide),
    fixedTok_reads cfg fuel s [35, 110, 105, 108] x (fixedTok_mem 9 rfl) (by decide),
    fixedTok_reads cfg fuel s [35, 117, 56] x (fixedTok_mem 11 rfl) (by decide),
    fixedTok_reads cfg fuel s [35, 118, 117, 56] x (fixedTok_mem 10 rfl) (by decide)⟩

/-- A lone `#` at the end of input is the error `EofWhileParsingValue`. -/
theorem C08_hash_eof (cfg : Cfg) (fuel : Nat) (s : St) (hs : s.rd.rest = [35])
    (hf : s.rd.faulty = false) :
    parseToken cfg fuel 35 s =
      .err (.syntax .eofValue (s.adv 1).rd.peekPosition.line (s.adv 1).rd.peekPosition.col)
        (s.adv 1) := by
  have hn : next (s.adv 1) = .ok none (s.adv 1) := by
    unfold next
    simp [hs, hf]
  rw [parseToken_eq]
  show hashArm cfg fuel s = _
  rw [hashArm, discard_bind _ s 35 _ hs, bind_apply, hn]
  rfl

/-! ### instances: the hypotheses are satisfiable and the closed forms compute -/

/-- a configuration whose alphabetic table knows `λ` (U+03BB) and nothing else -/
def cfgL (o : Options) : Cfg :=
  { opts := o, isAlphabetic := fun c => c == 955, pow10 := fun _ => 0 }

/-- `+` at the end of input (default options) and `-` before `)` (Emacs Lisp options) -/
example : parseToken (cfgOf Options.default) 5 43 (initSt .slice (43 :: [] ++ [])) =
    .ok (.symbol [43]) ((initSt .slice (43 :: [] ++ [])).adv 1) :=
  C08_sign_alone (cfgOf Options.default) 5 43 [] _ (.inr rfl) (.inl rfl) (sliceAt_init _)

example : parseToken (cfgOf Options.elisp) 5 45 (initSt .slice (45 :: [] ++ asc ")")) =
    .ok (.symbol [45]) ((initSt .slice (45 :: [] ++ asc ")")).adv 1) :=
  C08_sign_alone (cfgOf Options.elisp) 5 45 (asc ")") _ (.inl rfl) (.inr ⟨41, [], rfl, rfl⟩)
    (sliceAt_init _)

/-- `-5` is the number −5 under the default and under the Emacs Lisp options -/
example : ∃ s', parseToken (cfgOf Options.default) 5 45 (initSt .slice (45 :: asc "5" ++ [])) =
    .ok (.number (.neg (-5))) s' :=
  ⟨_, (C08_sign_number (cfgOf Options.default) 5 45 (asc "5") [] _ _ _ (.inl rfl)
    ⟨⟨by decide, .inl rfl⟩, by decide, by decide⟩ (sliceAt_init _)).mpr ⟨by decide, by decide, rfl⟩⟩

example : ∃ s', parseToken (cfgOf Options.elisp) 5 45 (initSt .slice (45 :: asc "5" ++ asc " x")) =
    .ok (.number (.neg (-5))) s' :=
  ⟨_, (C08_sign_number (cfgOf Options.elisp) 5 45 (asc "5") (asc " x") _ _ _ (.inl rfl)
    ⟨⟨by decide, .inr ⟨32, asc "x", rfl, rfl⟩⟩, by decide, by decide⟩ (sliceAt_init _)).mpr
    ⟨by decide, by decide, rfl⟩⟩

/-- `+foo:` is the keyword `+foo` with postfix keywords and the symbol `+foo:` without -/
example : parseToken (cfgOf { Options.default with kwPostfix := true }) 7 43
      (initSt .slice (43 :: asc "foo:" ++ [])) =
    .ok (.keyword (asc "+foo")) ((initSt .slice (43 :: asc "foo:" ++ [])).adv 5) :=
  C08_sign_keyword (cfgOf { Options.default with kwPostfix := true }) 7 43 (asc "foo:") [] _
    (.inr rfl) ⟨⟨by decide, .inl rfl⟩, by decide, by decide⟩ (sliceAt_init _) (by decide)

example : parseToken (cfgOf Options.default) 7 43 (initSt .slice (43 :: asc "foo:" ++ [])) =
    .ok (.symbol (asc "+foo:")) ((initSt .slice (43 :: asc "foo:" ++ [])).adv 5) :=
  C08_sign_keyword (cfgOf Options.default) 7 43 (asc "foo:") [] _
    (.inr rfl) ⟨⟨by decide, .inl rfl⟩, by decide, by decide⟩ (sliceAt_init _) (by decide)

/-- `+.x` and `-...` go to the symbol reader, `+.5` is sign-dot-digit, `+5x` goes to the number
    parser -/
example : signSymbolic (asc ".x") [] = true ∧ signSymbolic (asc "...") (asc ")") = true ∧
    signDotDigit (asc ".5") [] = true ∧ signSymbolic (asc "5x") [] = false ∧
    signDotDigit (asc "5x") [] = false := by decide

/-- `λ:` (CE BB 3A) is the keyword `λ` with postfix keywords and the symbol `λ:` without -/
example : parseToken (cfgL { Options.default with kwPostfix := true }) 4 206
      (initSt .slice ([206, 187, 58] ++ [])) =
    .ok (.keyword [206, 187]) ((initSt .slice ([206, 187, 58] ++ [])).adv 3) :=
  C08_nonascii_keyword (cfgL { Options.default with kwPostfix := true }) 4 206 [206, 187, 58] [] _
    ⟨⟨by decide, .inl rfl⟩, by decide, by decide⟩ (sliceAt_init _) rfl (by decide) 955 [58]
    (by decide) rfl

example : parseToken (cfgL Options.elisp) 4 206 (initSt .slice ([206, 187, 58] ++ asc ")")) =
    .ok (.symbol [206, 187, 58]) ((initSt .slice ([206, 187, 58] ++ asc ")")).adv 3) :=
  C08_nonascii_keyword (cfgL Options.elisp) 4 206 [206, 187, 58] (asc ")") _
    ⟨⟨by decide, .inr ⟨41, [], rfl, rfl⟩⟩, by decide, by decide⟩ (sliceAt_init _) rfl (by decide)
    955 [58] (by decide) rfl

/-- `×` (C3 97, U+00D7, not alphabetic) is rejected under every option set -/
example : IsToken [195, 151] [] ∧ Utf8.decodeFirst [195, 151] = some (215, []) ∧
    (cfgL Options.default).isAlphabetic 215 = false ∧
    (cfgL Options.elisp).isAlphabetic 215 = false :=
  ⟨⟨⟨by decide, .inl rfl⟩, by decide, by decide⟩, by decide, rfl, rfl⟩

/-- `#:a` is the keyword `a` under the default options (octothorpe keywords on) and the error
    `ExpectedSomeIdent` under the Emacs Lisp options (off) -/
example : parseToken (cfgOf Options.default) 4 35 (initSt .slice (35 :: 58 :: asc "a" ++ [])) =
    .ok (.keyword (asc "a")) ((initSt .slice (35 :: 58 :: asc "a" ++ [])).adv 3) := by
  have h := C08_octothorpe_keyword (cfgOf Options.default) 4 (initSt .slice (35 :: 58 :: asc "a" ++ []))
    (asc "a") [] ⟨by decide, .inl rfl⟩ (by decide) (by decide) (sliceAt_init _)
  rw [h]; rfl

example : ∃ l c s', parseToken (cfgOf Options.elisp) 4 35 (initSt .slice (35 :: 58 :: asc "a" ++ [])) =
    .err (.syntax .expectedSomeIdent l c) s' := by
  have h := C08_octothorpe_keyword (cfgOf Options.elisp) 4 (initSt .slice (35 :: 58 :: asc "a" ++ []))
    (asc "a") [] ⟨by decide, .inl rfl⟩ (by decide) (by decide) (sliceAt_init _)
  rw [h]; exact ⟨_, _, _, rfl⟩

example : parseToken (cfgOf Options.default) 4 46 (initSt .slice (asc "..." ++ [])) =
    .ok (.symbol (asc "...")) ((initSt .slice (asc "..." ++ [])).adv 3) :=
  C08_extended (cfgOf Options.default) 4 46 (asc "...") [] _
    ⟨⟨by decide, .inl rfl⟩, by decide, by decide⟩ (sliceAt_init _) rfl (by decide) (by decide)
    (by intro h; cases h) (by decide)

example : parseToken (cfgOf Options.elisp) 4 46 (initSt .slice (asc "..." ++ asc ")")) =
    .ok (.symbol (asc "...")) ((initSt .slice (asc "..." ++ asc ")")).adv 3) :=
  C08_extended (cfgOf Options.elisp) 4 46 (asc "...") (asc ")") _
    ⟨⟨by decide, .inr ⟨41, [], rfl, rfl⟩⟩, by decide, by decide⟩ (sliceAt_init _) rfl (by decide)
    (by decide) (by intro h; cases h) (by decide)

/-- the hypotheses of `C08_hash_fixed` hold for `#t`, `#xFF`, `#\a` and a lone `#` -/
example : (asc "t").head? ≠ some 58 ∧ (asc "xFF").head? ≠ some 37 ∧ (asc "\\a").head? ≠ some 58 ∧
    ([] : List UInt8).head? ≠ some 58 := by decide

/-- `#true` is read as `#t` followed by the symbol `rue` (the code does not look behind the
    `t`): as a whole input it is rejected with `TrailingCharacters`.  Not a C08 matter (no option
    is involved), recorded because the token list of the property's informal reader names
    `#true` / `#false`. -/
example : (match fromTrait (cfgOf Options.default) (initSt .slice (asc "#true")) with
    | .err e _ => some e | _ => none) = some (.syntax .trailingCharacters 1 3) := by decide

end Parse
end Lexpr

#print axioms Lexpr.Parse.C08_sign
#print axioms Lexpr.Parse.C08_sign_alone
#print axioms Lexpr.Parse.C08_sign_keyword
#print axioms Lexpr.Parse.C08_sign_symbol
#print axioms Lexpr.Parse.C08_sign_number
#print axioms Lexpr.Parse.C08_sign_number_only
#print axioms Lexpr.Parse.C08_frame_sign_any
#print axioms Lexpr.Parse.C08_frame_sign
#print axioms Lexpr.Parse.C08_nonascii
#print axioms Lexpr.Parse.C08_nonascii_keyword
#print axioms Lexpr.Parse.C08_frame_nonascii_any
#print axioms Lexpr.Parse.C08_frame_nonascii
#print axioms Lexpr.Parse.C08_octothorpe_keyword
#print axioms Lexpr.Parse.C08_frame_octothorpe
#print axioms Lexpr.Parse.C08_hash_fixed
#print axioms Lexpr.Parse.C08_hash_simple
#print axioms Lexpr.Parse.C08_hash_eof
