/-
  ImageTok — C13, the image of the lexer: which tokens `parse_token` can return.

  `TokImg cfg tok` describes, per atom kind, what is known of a token that `parse_token` has
  returned from a source that validates text (slice or stream):
    * a symbol is the full text of a name-shaped token that reads as a symbol (`nameShape` /
      `nameTok` of `TokenRT.lean`), or a digit-initial name that is not a number (option
      `leadingDigit`), or a `#%` name (option `racket`);
    * a keyword was read through an enabled keyword syntax: `#:name` / `:name` (then `name` is not
      the lone dot) or `name:` (then `name:` is a name-shaped or digit-initial token);
    * integers are in range, characters are scalar values, strings are well-formed.
  `parseToken_img` proves it by cases on `TokenCase` (TokenCase.lean): one fact per scanner and table row.
-/
import LexprModel.Proofs.ImageBase
import LexprModel.Proofs.TokenCase
namespace Lexpr
namespace Parse
namespace Image
open Utf8

def NonTerm (n : List UInt8) : Prop := ∀ b ∈ n, symTermSlice b = false
def DigitInit (n : List UInt8) : Prop := ∃ d tl, n = d :: tl ∧ isDigit d = true

instance (n : List UInt8) : Decidable (NonTerm n) := by unfold NonTerm; exact inferInstance

/-- the symbols `parse_token` returns -/
def SymImg (cfg : Cfg) (n : List UInt8) : Prop :=
  Utf8.valid n = true ∧ NonTerm n ∧
  ((nameShape cfg n = true ∧ nameTok cfg.opts n = .symbol n) ∨
   (cfg.opts.leadingDigit = true ∧ DigitInit n ∧ wholeNumber cfg n = none ∧
      symbolToken cfg.opts n = .symbol n) ∨
   (cfg.opts.racket = true ∧ ∃ body, n = 35 :: 37 :: body))

/-- the keywords `parse_token` returns -/
def KwImg (cfg : Cfg) (n : List UInt8) : Prop :=
  Utf8.valid n = true ∧ NonTerm n ∧
  (((cfg.opts.kwOctothorpe = true ∨ cfg.opts.kwPrefix = true) ∧ n ≠ [46]) ∨
   (cfg.opts.kwPostfix = true ∧ n ≠ [] ∧
     ((nameShape cfg (n ++ [58]) = true ∧ nameTok cfg.opts (n ++ [58]) = .keyword n) ∨
      (cfg.opts.leadingDigit = true ∧ DigitInit n ∧ wholeNumber cfg (n ++ [58]) = none))))

def TokImg (cfg : Cfg) : Token → Prop
  | .symbol n => SymImg cfg n
  | .keyword n => KwImg cfg n
  | .char c => isScalar c = true
  | .string s => Utf8.valid s = true
  | .number n => NumOK n
  | .null => cfg.opts.nil = .emptyList
  | _ => True

theorem nonterm_of_class (P : UInt8 → Bool)
    (h : ∀ t ∈ [32, 10, 9, 13, 12, 41, 93, 40, 91, 59], P t = false)
    (b : UInt8) (hb : P b = true) : symTermSlice b = false := by
  cases hs : symTermSlice b
  · rfl
  · rw [h b (by simpa [symTermSlice, or_assoc] using hs)] at hb
    cases hb

theorem alpha_nonterm : ∀ b : UInt8, isAsciiAlpha b = true → symTermSlice b = false :=
  fun _ h => startsName_nonterm (by rw [tokClass_alpha h]; rfl)
theorem digit_nonterm : ∀ b : UInt8, isDigit b = true → symTermSlice b = false :=
  fun _ h => startsName_nonterm (by rw [tokClass_digit h]; rfl)
theorem ext_nonterm : ∀ b : UInt8, isSymbolExtended b = true → symTermSlice b = false :=
  nonterm_of_class _ (by decide +kernel)
theorem hi_nonterm : ∀ b : UInt8, b > 127 → symTermSlice b = false :=
  fun _ h => startsName_nonterm (by rw [tokClass_hi h]; rfl)
theorem ascii_of_not_hi : ∀ b : UInt8, ¬ b > 127 → b < 0x80 := by
  intro b h
  simp only [gt_iff_lt, UInt8.lt_iff_toNat_lt, UInt8.reduceToNat] at h ⊢
  omega

theorem NonTerm.cons {b : UInt8} {tl : List UInt8} (hb : symTermSlice b = false) (h : NonTerm tl) :
    NonTerm (b :: tl) := by
  intro x hx
  rcases List.mem_cons.mp hx with rfl | hx
  · exact hb
  · exact h x hx

theorem nameShape_intro (cfg : Cfg) (b : UInt8) (tl : List UInt8) (hall : NonTerm (b :: tl))
    (hcls : (isAsciiAlpha b
      || (b == 58 && (!cfg.opts.kwPrefix || tl != [46]))
      || (isSymbolExtended b && b != 58 && !(b == 63 && cfg.opts.char == .elisp) &&
            (b :: tl) != [46])
      || ((b == 43 || b == 45) && signTailOk tl)
      || (decide (b > 127) &&
            match Utf8.decodeFirst (b :: tl) with
            | some (c, _) => cfg.isAlphabetic c
            | none => false)) = true) : nameShape cfg (b :: tl) = true := by
  simp only [nameShape, Bool.and_eq_true]
  refine ⟨?_, hcls⟩
  simp only [List.all_eq_true, Bool.not_eq_true']
  exact hall

theorem symbolToken_img_postfix (cfg : Cfg) (t : List UInt8) (hv : Utf8.valid t = true)
    (hnt : NonTerm t) (hk : cfg.opts.kwPostfix = true) (hlen : t.length > 1)
    (hlast : t.getLast? = some 58)
    (hsrc : (nameShape cfg t = true ∧ nameTok cfg.opts t = .keyword t.dropLast) ∨
      (cfg.opts.leadingDigit = true ∧ DigitInit t ∧ wholeNumber cfg t = none)) :
    KwImg cfg t.dropLast := by
  have hv' := U8.valid_dropLast_colon hv hlast
  obtain ⟨n, rfl⟩ := List.getLast?_eq_some_iff.mp hlast
  rw [List.dropLast_concat] at hv' hsrc ⊢
  refine ⟨hv', fun x hx => hnt x (List.mem_append_left _ hx), Or.inr ⟨hk, ?_, ?_⟩⟩
  · rintro rfl; simp at hlen
  · rcases hsrc with h | ⟨h1, ⟨d, tl, hd, hdd⟩, h3⟩
    · exact Or.inl h
    · refine Or.inr ⟨h1, ?_, h3⟩
      cases n with
      | nil => simp at hlen
      | cons y ys => cases hd; exact ⟨_, _, rfl, hdd⟩

theorem nameTok_nonalpha (o : Options) {b : UInt8} (tl : List UInt8) (ha : isAsciiAlpha b = false)
    (hk : ¬ (b = 58 ∧ o.kwPrefix = true)) : nameTok o (b :: tl) = symbolToken o (b :: tl) := by
  simp only [nameTok, ha, Bool.false_eq_true, if_false, hk]

theorem nameTok_cases (o : Options) (t : List UInt8) :
    nameTok o t = .symbol t ∨
    (o.kwPostfix = true ∧ t.length > 1 ∧ t.getLast? = some 58 ∧ nameTok o t = .keyword t.dropLast) ∨
    (∃ tl, t = 58 :: tl ∧ o.kwPrefix = true ∧ nameTok o t = .keyword tl) ∨
    (o.nil = .emptyList ∧ nameTok o t = .null) ∨ nameTok o t = .nil ∨ nameTok o t = .bool true := by
  cases t with
  | nil => exact .inl rfl
  | cons b tl =>
    generalize h : nameTok o (b :: tl) = tok
    simp only [nameTok] at h
    split at h
    · next ha =>
      unfold letterTok at h
      split at h
      · next hc => exact .inr (.inl ⟨hc.1, alpha_last b tl ha hc.2, hc.2, h.symm⟩)
      · split at h
        · split at h
          · next hn => exact .inr (.inr (.inr (.inl ⟨hn, h.symm⟩)))
          · exact .inr (.inr (.inr (.inr (.inl h.symm))))
        · split at h
          · exact .inr (.inr (.inr (.inr (.inr h.symm))))
          · exact .inl h.symm
    · split at h
      · next hp => exact .inr (.inr (.inl ⟨tl, by rw [hp.1], hp.2, h.symm⟩))
      · unfold symbolToken at h
        split at h
        · next hc =>
          simp only [Bool.and_eq_true, decide_eq_true_eq, beq_iff_eq] at hc
          exact .inr (.inl ⟨hc.1.1, hc.1.2, hc.2, h.symm⟩)
        · exact .inl h.symm

theorem nameTok_img (cfg : Cfg) (t : List UInt8) (hs : nameShape cfg t = true)
    (hv : Utf8.valid t = true) : TokImg cfg (nameTok cfg.opts t) := by
  -- by what `nameTok` returned: a symbol is in the image by the first clause of `SymImg`, `name:`
  -- by `symbolToken_img_postfix`, `:name` because `nameShape` excludes `:.`
  cases t with
  | nil => simp [nameShape] at hs
  | cons b tl =>
    have hs0 := hs
    simp only [nameShape, Bool.and_eq_true, List.all_eq_true, Bool.not_eq_true'] at hs
    obtain ⟨hnt, hcls⟩ := hs
    rcases nameTok_cases cfg.opts (b :: tl) with
      h | ⟨hk, hlen, hlast, h⟩ | ⟨tl', e, hk, h⟩ | ⟨hn, h⟩ | h | h
    · rw [h]; exact ⟨hv, hnt, Or.inl ⟨hs0, h⟩⟩
    · rw [h]; exact symbolToken_img_postfix cfg _ hv hnt hk hlen hlast (Or.inl ⟨hs0, h⟩)
    · cases e
      have htl : tl ≠ [46] := by
        rintro rfl
        revert hcls
        simp [hk, isAsciiAlpha, isSymbolExtended]
      rw [h]
      exact ⟨valid_tail58 tl hv, fun x hx => hnt x (by simp [hx]), Or.inl ⟨Or.inr hk, htl⟩⟩
    · rw [h]; exact hn
    · rw [h]; trivial
    · rw [h]; trivial

/-- the arms that classify the name with `symbolToken`; `hcls` says which arm it was -/
theorem symbolToken_img (cfg : Cfg) {b : UInt8} {tl : List UInt8} (hnt : NonTerm (b :: tl))
    (hv : Utf8.valid (b :: tl) = true) (ha : isAsciiAlpha b = false)
    (hk : ¬ (b = 58 ∧ cfg.opts.kwPrefix = true))
    (hcls : ((b == 58 && (!cfg.opts.kwPrefix || tl != [46]))
      || (isSymbolExtended b && b != 58 && !(b == 63 && cfg.opts.char == .elisp) &&
            (b :: tl) != [46])
      || ((b == 43 || b == 45) && signTailOk tl)
      || (decide (b > 127) &&
            match Utf8.decodeFirst (b :: tl) with
            | some (c, _) => cfg.isAlphabetic c
            | none => false)) = true) : TokImg cfg (symbolToken cfg.opts (b :: tl)) := by
  rw [← nameTok_nonalpha cfg.opts tl ha hk]
  exact nameTok_img cfg _ (nameShape_intro cfg b tl hnt (by rw [ha]; exact hcls)) hv

theorem letter_chain_inv (o : Options) (name : List UInt8) {s s' : St} {tok : Token}
    (h : (if (o.kwPostfix && name.getLast? == some 58) = true then
            (pure (.keyword name.dropLast) : P Token)
          else if (o.nil != .default && name == asc "nil") = true then
            match o.nil with
            | .emptyList => pure .null
            | .special => pure .nil
            | .default => panicAt .unreachable
          else if (o.t != .default && name == asc "t") = true then
            match o.t with
            | .true_ => pure (.bool true)
            | .default => panicAt .unreachable
          else pure (.symbol name)) s = .ok tok s') :
    tok = letterTok o name := by
  replace h : letterTail o name s = .ok tok s' := h
  rw [letterTail_pure] at h
  exact (pure_ok h).1.symm

theorem sign_nonterm {sign : UInt8} (h : sign = 43 ∨ sign = 45) : symTermSlice sign = false := by
  rcases h with rfl | rfl <;> decide

theorem sign_valid {sign : UInt8} (h : sign = 43 ∨ sign = 45) : sign < 0x80 := by
  rcases h with rfl | rfl <;> decide

theorem sign_img (cfg : Cfg) {sign : UInt8} (h : sign = 43 ∨ sign = 45) {tl : List UInt8}
    (hnt : NonTerm tl) (hv : Utf8.valid (sign :: tl) = true) (hs : signTailOk tl = true) :
    TokImg cfg (symbolToken cfg.opts (sign :: tl)) := by
  refine symbolToken_img cfg (NonTerm.cons (sign_nonterm h) hnt) hv ?_ ?_ ?_
  · rcases h with rfl | rfl <;> rfl
  · rcases h with rfl | rfl <;> exact fun h => absurd h.1 (by decide)
  · have : (sign == 43 || sign == 45) = true := by rcases h with rfl | rfl <;> rfl
    simp [this, hs]

theorem digit_sym_img (cfg : Cfg) (sym : List UInt8) (hld : cfg.opts.leadingDigit = true)
    (hv : Utf8.valid sym = true) (hnt : NonTerm sym) (hdi : DigitInit sym)
    (hw : wholeNumber cfg sym = none) : TokImg cfg (symbolToken cfg.opts sym) := by
  unfold symbolToken
  split
  · rename_i hc
    simp only [Bool.and_eq_true, decide_eq_true_eq, beq_iff_eq] at hc
    exact symbolToken_img_postfix cfg _ hv hnt hc.1.1 hc.1.2 hc.2 (Or.inr ⟨hld, hdi, hw⟩)
  · rename_i hc
    refine ⟨hv, hnt, Or.inr (Or.inl ⟨hld, hdi, hw, ?_⟩)⟩
    unfold symbolToken
    rw [if_neg hc]

/-- **Every token `parse_token` returns lies in the image** (sources that validate text): one
    case per way a token is read (`TokenCase`); an arm that wraps the result of a scanner has the image
    that scanner's inversion lemma gives. -/
theorem parseToken_img {cfg : Cfg} {fuel : Nat} {pk : UInt8} {s s' : St} {tok : Token}
    (h : parseToken cfg fuel pk s = .ok tok s') (hpk : ∃ tl, s.rd.rest = pk :: tl)
    (hm : s.rd.mode ≠ .str) : TokImg cfg tok := by
  have hstr : ∀ b, tok = .string b → Utf8.valid b = true := by
    rintro b rfl
    exact (U8.parseToken_pres h hpk (fun hs => absurd hs hm)).2
  obtain ⟨tl0, hr0⟩ := hpk
  have hhd : s.rd.rest.head? = some pk := by rw [hr0]; rfl
  cases parseToken_cases h with
  | fixed hf _ _ =>
    simp only [fixedTok, List.mem_cons, List.not_mem_nil, or_false, Prod.mk.injEq] at hf
    rcases hf with ⟨_, rfl⟩ | ⟨_, rfl⟩ | ⟨_, rfl⟩ | ⟨_, rfl⟩ | ⟨_, rfl⟩ | ⟨_, rfl⟩ | ⟨_, rfl⟩ |
      ⟨_, rfl⟩ | ⟨_, rfl⟩ | ⟨_, rfl⟩ | ⟨_, rfl⟩ | ⟨_, rfl⟩ <;>
      first | trivial | (cases cfg.opts.brackets <;> trivial)
  | @name pre sc nm nx mk s1 _ ha hl hx hn =>
    have L := hl hhd
    have hm1 : s1.rd.mode ≠ .str := by rw [L.mode]; exact hm
    have hr1 : pre = [] → s1.rd.rest = pk :: tl0 := by
      rintro rfl; rw [← hr0, L.rest]; rfl
    cases ha with
    | octothorpe _ ho =>
      obtain ⟨body, rfl, -, hnt, hdot, hv, -⟩ := psb_inv hn
      exact ⟨hv hm1, hnt, Or.inl ⟨Or.inl ho, hdot⟩⟩
    | colonKw _ hk =>
      obtain ⟨body, rfl, -, hnt, hdot, hv, -⟩ := psb_inv hn
      exact ⟨hv hm1, hnt, Or.inl ⟨Or.inr hk, hdot⟩⟩
    | racket _ ho =>
      obtain ⟨body, hname, -, hnt, -, hv, -⟩ := psb_inv hn
      rw [show asc "#%" = [35, 37] by decide] at hname
      subst hname
      exact ⟨hv hm1, NonTerm.cons (by decide) (NonTerm.cons (by decide) hnt),
        Or.inr (Or.inr ⟨ho, body, rfl⟩)⟩
    | sign hs =>
      obtain ⟨body, rfl, hbody, hnt, -, hv, -⟩ := psb_inv hn
      refine sign_img cfg hs.symm (tl := body) hnt (hv hm1) ?_
      rcases psb_body_cases hbody with rfl | ⟨tl, rfl⟩
      · rfl
      · simp only [signTailOk, hx, Bool.true_or]
    | signDot hs =>
      obtain ⟨body, rfl, hbody, hnt, -, hv, -⟩ := psb_inv hn
      refine sign_img cfg hs.symm (tl := 46 :: body) (NonTerm.cons (by decide) hnt) (hv hm1) ?_
      rcases psb_body_cases hbody with rfl | ⟨tl, rfl⟩
      · rfl
      · have hnd : isDigit (s1.rd.rest.head?.getD 0) = false := by simpa using hx
        simp [signTailOk, dotTailOk, hnd]
    | sym hs =>
      rcases hs with ⟨rfl, hk⟩ | ⟨rfl, hq⟩ | ⟨hext, h58, h63⟩
      · obtain ⟨tl, rfl, hnt, -, hv⟩ := psb_peeked hn (hr1 rfl) (by decide)
        exact symbolToken_img cfg hnt (hv hm1) (by decide) (fun h => by simp [hk] at h)
          (by simp [hk])
      · obtain ⟨tl, rfl, hnt, hdot, hv⟩ := psb_peeked hn (hr1 rfl) (by decide)
        have hq' : (cfg.opts.char == CharSyntax.elisp) = false := by simpa using hq
        exact symbolToken_img cfg hnt (hv hm1) (by decide) (fun h => absurd h.1 (by decide))
          (by simp [isSymbolExtended, hq', hdot])
      · obtain ⟨tl, rfl, hnt, hdot, hv⟩ := psb_peeked hn (hr1 rfl) (ext_nonterm pk hext)
        exact symbolToken_img cfg hnt (hv hm1)
          (by cases ha : isAsciiAlpha pk
              · rfl
              · have := tokClass_alpha ha; rw [tokClass_ext hext h58 h63] at this; cases this)
          (fun h => h58 h.1) (by simp [hext, h58, h63, hdot])
    | letter halpha =>
      obtain ⟨tl, rfl, hnt, -, hv⟩ := psb_peeked hn (hr1 rfl) (alpha_nonterm pk halpha)
      rw [← show nameTok cfg.opts (pk :: tl) = _ from if_pos halpha]
      exact nameTok_img cfg _ (nameShape_intro cfg pk tl hnt (by simp [halpha])) (hv hm1)
    | whole hdig hld =>
      obtain ⟨tl, rfl, hnt, -, hv⟩ := psb_peeked hn (hr1 rfl) (digit_nonterm pk hdig)
      show TokImg cfg (match wholeNumber cfg (pk :: tl) with
        | some n => Token.number n | none => symbolToken cfg.opts (pk :: tl))
      cases hw : wholeNumber cfg (pk :: tl)
      · exact digit_sym_img cfg _ hld (hv hm1) hnt ⟨pk, tl, rfl, hdig⟩ hw
      · exact wholeNumber_inv hw
  | hi hhi hl hseq hal hn =>
    -- the name is the decoded sequence followed by what `parse_symbol` adds
    have L := hl hhd
    obtain ⟨-, hm2, cont, rfl, hcn, hdec⟩ := dus_inv hseq (not_lt_of_hi hhi)
    obtain ⟨body, rfl, -, hnt, -, hv, -⟩ := psb_inv hn
    obtain ⟨hna, hn58⟩ := hi_not_misc pk hhi
    have hdec' : decodeFirst (pk :: (cont ++ body)) = _ := decodeFirst_append body hdec
    refine symbolToken_img cfg (NonTerm.cons (hi_nonterm pk hhi) fun x hx => ?_)
      (hv (by rw [hm2, L.mode]; exact hm)) hna (fun h => hn58 h.1) (by simp [hhi, hdec', hal])
    rcases List.mem_append.mp hx with hx | hx
    · exact hi_nonterm x (hcn x hx)
    · exact hnt x hx
  | radix _ _ hmk hn => exact parseRadixToken_inv (radixOfMark_pos hmk) hn
  | num _ _ hn => exact parseNumToken_inv hn
  | r6char _ _ hc => exact parseR6rsChar_inv hc
  | elchar _ _ _ hc => exact parseElispChar_inv hc
  | r6str _ _ _ _ => exact hstr _ rfl
  | @elstr r _ _ _ _ _ _ => cases r <;> first | trivial | exact hstr _ rfl

end Image
end Parse
end Lexpr
