/-
  Slice source versus stream source (C06).  `Sim`: the states of the two parsers at the same point
  of the same input.  The reader primitives respect it up to the positions inside errors (`ErrSim`:
  `peek_position()` differs between the two sources), so every function does, by Rel.lean.
-/
import LexprModel.Proofs.Rel
import LexprModel.Proofs.Consume
namespace Lexpr
namespace Parse

/-- The states of a slice parser and of a stream parser at the same point of the same input.
    The one-byte lookahead flags are unconstrained. -/
structure Sim (s₁ s₂ : St) : Prop where
  rest : s₁.rd.rest = s₂.rd.rest
  line : s₁.rd.line = s₂.rd.line
  col : s₁.rd.col = s₂.rd.col
  depth : s₁.depth = s₂.depth
  faulty₁ : s₁.rd.faulty = false
  faulty₂ : s₂.rd.faulty = false
  mode₁ : s₁.rd.mode = .slice
  mode₂ : s₂.rd.mode = .io

/-- Same error code (positions may differ); `Io` only with `Io`. -/
def ErrSim : Err → Err → Prop
  | .syntax c _ _, .syntax c' _ _ => c = c'
  | .io, .io => True
  | _, _ => False

def ResSim {α : Type} : Res α → Res α → Prop
  | .ok a s, .ok b t => a = b ∧ Sim s t
  | .err e s, .err e' t => ErrSim e e' ∧ Sim s t
  | .panic p, .panic q => p = q
  | .fuel, .fuel => True
  | _, _ => False

theorem resSim_iff {α : Type} (r₁ r₂ : Res α) : ResSim r₁ r₂ ↔ ResRel Sim ErrSim Eq r₁ r₂ := by
  cases r₁ <;> cases r₂ <;> simp only [ResSim, ResRel]

abbrev PSim {α : Type} (m₁ m₂ : P α) : Prop := PRel Sim ErrSim Eq m₁ m₂

theorem ErrSim.refl (e : Err) : ErrSim e e := by cases e <;> simp [ErrSim]

theorem Sim.consume {s t : St} (h : Sim s t) (n : Nat) :
    Sim { s with rd := s.rd.consume n } { t with rd := t.rd.consume n } := by
  have es := Rd.consume_congr (r₁ := s.rd) rfl rfl rfl n
  have et := Rd.consume_congr h.rest h.line h.col n
  exact ⟨by rw [et], by rw [et], by rw [et], h.depth, by rw [es]; exact h.faulty₁,
    by rw [et]; exact h.faulty₂, by rw [es]; exact h.mode₁, by rw [et]; exact h.mode₂⟩

/-- both `faulty` flags are off, so the relation is as `Prims.Base` wants it; error positions are
    not compared -/
theorem Sim.base : Prims.Base Sim ErrSim where
  rest h := h.rest
  faulty h := h.faulty₁.trans h.faulty₂.symm
  depth h := h.depth
  position h := by simp [Rd.position, h.line, h.col]
  refl := ErrSim.refl
  peekPosE _ _ := rfl
  consume := Sim.consume
  peeked h := ⟨h.rest, h.line, h.col, h.depth, h.faulty₁, h.faulty₂, h.mode₁, h.mode₂⟩
  setDepth h _ := ⟨h.rest, h.line, h.col, rfl, h.faulty₁, h.faulty₂, h.mode₁, h.mode₂⟩

instance : Prims Sim ErrSim := .of_base Sim.base

theorem PSim.discard : PSim discard discard := Prims.discard

instance : PrimsFull Sim ErrSim := .of_str fun _ _ h => by rw [h.mode₁, h.mode₂]; rfl

end Parse
end Lexpr
