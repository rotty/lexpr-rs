/-
  C01, structural part — the statements: lists, dotted lists, vectors and `()` printed with the
  default printer options are read back by `next_value` (default parser options, slice source),
  given that the atoms at the leaves are (`AtomOK`, packaged per value as `AllAtomsOK`), within the
  depth measure `nesting`.  They are proved in `ListRTGlue.lean`, as the default instance of
  `DialectStructRT.lean`.  Here also: the printed text of the composite values, `AtomOK` for `#nil`,
  `#t`, `#f`, exactness of the depth bound (`C01_depth_exact`), and a witness that the atom
  hypothesis needs its `ElemHead` component (`C01_elemhead_needed`).
-/
import LexprModel.Proofs.ReadsGlue
import LexprModel.Proofs.PrintWalk
namespace Lexpr
namespace Parse
namespace ListRT
open Print

abbrev po : Print.Options := Print.Options.default

theorem asc_lparen : asc "(" = [40] := by decide
theorem asc_rparen : asc ")" = [41] := by decide
theorem asc_space : asc " " = [32] := by decide
theorem asc_dot : asc "." = [46] := by decide

theorem flatten_append (a b : List Emit) : flatten (a ++ b) = flatten a ++ flatten b := by
  simp [flatten]

theorem flatten_cons_all (bs : List UInt8) (es : List Emit) :
    flatten (.all bs :: es) = bs ++ flatten es := by
  simp [flatten, Emit.bytes]

theorem flatten_nil : flatten [] = [] := rfl

theorem vecClose_eq (p : Print.Options) : vecClose p = [vclose p] := by
  unfold vecClose vclose; cases p.vector <;> decide

theorem vecOpen_eq (p : Print.Options) : vecOpen p = vopen p := by
  unfold vecOpen vopen; cases p.vector <;> decide

theorem textP_cons (p : Print.Options) (ryu : Nat → List UInt8) (a d : Value) :
    text p ryu (.cons a d) = 40 :: (text p ryu a ++ (flatten (emitsTail p ryu d) ++ [41])) := by
  simp [text, emits, flatten_cons_all, flatten_append, asc_lparen, asc_rparen, flatten_nil]

theorem textP_vector (p : Print.Options) (ryu : Nat → List UInt8) (xs : List Value) :
    text p ryu (.vector xs) = vopen p ++ (flatten (emitsSeq p ryu true xs) ++ [vclose p]) := by
  simp [text, emits, flatten_cons_all, flatten_append, vecOpen_eq, vecClose_eq, flatten_nil]

theorem textP_null (p : Print.Options) (ryu : Nat → List UInt8) : text p ryu .null = [40, 41] := by
  simp only [text, emits, atomEmits, flatten_cons_all, flatten_nil]; decide

theorem tailP_null (p : Print.Options) (ryu : Nat → List UInt8) :
    flatten (emitsTail p ryu .null) = [] := by
  simp [emitsTail, flatten_nil]

theorem tailP_cons (p : Print.Options) (ryu : Nat → List UInt8) (a d : Value) :
    flatten (emitsTail p ryu (.cons a d)) =
      32 :: (text p ryu a ++ flatten (emitsTail p ryu d)) := by
  simp [text, emitsTail, flatten_cons_all, flatten_append, asc_space]

theorem seqP_nil (p : Print.Options) (ryu : Nat → List UInt8) (first : Bool) :
    flatten (emitsSeq p ryu first []) = [] := by
  simp [emitsSeq, flatten_nil]

theorem seqP_true (p : Print.Options) (ryu : Nat → List UInt8) (x : Value) (xs : List Value) :
    flatten (emitsSeq p ryu true (x :: xs)) =
      text p ryu x ++ flatten (emitsSeq p ryu false xs) := by
  simp [text, emitsSeq, flatten_append]

theorem seqP_false (p : Print.Options) (ryu : Nat → List UInt8) (x : Value) (xs : List Value) :
    flatten (emitsSeq p ryu false (x :: xs)) =
      32 :: (text p ryu x ++ flatten (emitsSeq p ryu false xs)) := by
  simp [text, emitsSeq, flatten_append, flatten_cons_all, asc_space]

theorem tailP_dotted (p : Print.Options) (ryu : Nat → List UInt8) (d : Value)
    (h1 : d.isCons = false) (h2 : d ≠ .null) :
    flatten (emitsTail p ryu d) = 32 :: 46 :: 32 :: text p ryu d := by
  rw [emitsTail_dotted p ryu d h1 h2]
  simp [text, flatten_cons_all, asc_space, asc_dot]

theorem text_leaf (p : Print.Options) (ryu : Nat → List UInt8) (v : Value) (h1 : v.isCons = false)
    (h2 : v.isVector = false) : text p ryu v = flatten (atomEmits p ryu v) := by
  rw [text, emits_leaf p ryu h1 h2]

/-- at the default options a vector is written `#(`…`)` -/
theorem text_vector (ryu : Nat → List UInt8) (xs : List Value) :
    text po ryu (.vector xs) = 35 :: 40 :: (flatten (emitsSeq po ryu true xs) ++ [41]) :=
  textP_vector po ryu xs

def atomText (ryu : Nat → List UInt8) (v : Value) : List UInt8 := flatten (atomEmits po ryu v)

/-- `v` is an atom (not a pair, vector or the empty list) whose printed text is read back as `v`
    in every follow context, from every non-faulty slice state. -/
def AtomOK (cfg : Cfg) (ryu : Nat → List UInt8) (v : Value) : Prop :=
  v.isCons = false ∧ v.isVector = false ∧ v ≠ .null ∧ ElemHead (atomText ryu v) ∧
  ∀ (s : St) (rest : List UInt8) (fuel : Nat), Follow rest → Good s →
    s.rd.rest = atomText ryu v ++ rest → fuel ≥ s.rd.rest.length + 2 → 1 ≤ s.depth →
    Runs (nextValue cfg fuel) s (some v) rest

mutual
/-- every atom leaf (through car, cdr and vector elements) round-trips; `Null` always does -/
def AllAtomsOK (cfg : Cfg) (ryu : Nat → List UInt8) : Value → Prop
  | .cons a d => AllAtomsOK cfg ryu a ∧ AllAtomsOK cfg ryu d
  | .vector xs => AllAtomsOKSeq cfg ryu xs
  | .null => True
  | .nil => AtomOK cfg ryu .nil
  | .bool b => AtomOK cfg ryu (.bool b)
  | .number n => AtomOK cfg ryu (.number n)
  | .char c => AtomOK cfg ryu (.char c)
  | .string x => AtomOK cfg ryu (.string x)
  | .symbol x => AtomOK cfg ryu (.symbol x)
  | .keyword x => AtomOK cfg ryu (.keyword x)
  | .bytes x => AtomOK cfg ryu (.bytes x)
def AllAtomsOKSeq (cfg : Cfg) (ryu : Nat → List UInt8) : List Value → Prop
  | [] => True
  | x :: xs => AllAtomsOK cfg ryu x ∧ AllAtomsOKSeq cfg ryu xs
end

mutual
/-- number of `enter`s the parser has pending at the deepest point while reading the text of `v`:
    one per list or vector (also for `()`), not counting along the cdr chain -/
def nesting : Value → Nat
  | .cons a d => 1 + max (nesting a) (nestingTail d)
  | .vector xs => 1 + nestingSeq xs
  | .null => 1
  | .nil => 0
  | .bool _ => 0
  | .number _ => 0
  | .char _ => 0
  | .string _ => 0
  | .symbol _ => 0
  | .keyword _ => 0
  | .bytes _ => 0
/-- the same for the rest of a cdr chain, read inside the list that is already open -/
def nestingTail : Value → Nat
  | .cons a d => max (nesting a) (nestingTail d)
  | .vector xs => 1 + nestingSeq xs
  | .null => 0
  | .nil => 0
  | .bool _ => 0
  | .number _ => 0
  | .char _ => 0
  | .string _ => 0
  | .symbol _ => 0
  | .keyword _ => 0
  | .bytes _ => 0
def nestingSeq : List Value → Nat
  | [] => 0
  | x :: xs => max (nesting x) (nestingSeq xs)
end

/-- the list loop, after at least one element, reads the rest of the cdr chain `d` up to (not
    including) the closing parenthesis -/
def TailRT (cfg : Cfg) (ryu : Nat → List UInt8) (d : Value) : Prop :=
  ∀ (s : St) (rest : List UInt8) (fuel : Nat) (acc : List Value), acc ≠ [] → Good s →
    s.rd.rest = flatten (emitsTail po ryu d) ++ 41 :: rest → fuel ≥ 2 * s.rd.rest.length + 3 →
    nestingTail d + 1 ≤ s.depth →
    Runs (parseList cfg fuel 41 acc) s (Value.append acc d) (41 :: rest)

/-- the vector loop reads the elements up to (not including) the closing parenthesis -/
def SeqRT (cfg : Cfg) (ryu : Nat → List UInt8) (first : Bool) (xs : List Value) : Prop :=
  ∀ (s : St) (rest : List UInt8) (fuel : Nat) (acc : List Value), Good s →
    s.rd.rest = flatten (emitsSeq po ryu first xs) ++ 41 :: rest →
    fuel ≥ 2 * s.rd.rest.length + (if first then 4 else 3) →
    nestingSeq xs + 1 ≤ s.depth →
    Runs (parseVector cfg fuel 41 acc) s (acc ++ xs) (41 :: rest)

theorem nesting_atom (v : Value) (h1 : v.isCons = false) (h2 : v.isVector = false)
    (h3 : v ≠ .null) : nesting v = 0 ∧ nestingTail v = 0 := by
  cases v <;> simp_all [Value.isCons, Value.isVector, nesting, nestingTail]

theorem nestingTail_dotted (d : Value) (h1 : d.isCons = false) (h3 : d ≠ .null) :
    nestingTail d = nesting d := by
  cases d <;> simp_all [Value.isCons, nesting, nestingTail]

theorem allAtomsOK_leaf (cfg : Cfg) (ryu : Nat → List UInt8) (v : Value) (h1 : v.isCons = false)
    (h2 : v.isVector = false) (h3 : v ≠ .null) : AllAtomsOK cfg ryu v ↔ AtomOK cfg ryu v := by
  cases v <;> simp_all [Value.isCons, Value.isVector, AllAtomsOK]

theorem allAtomsOK_iff_leaves (cfg : Cfg) (ryu : Nat → List UInt8) :
    (∀ v, AllAtomsOK cfg ryu v ↔ FullRT.AllLeaves (AtomOK cfg ryu) v) ∧
    (∀ xs, AllAtomsOKSeq cfg ryu xs ↔ FullRT.AllLeavesSeq (AtomOK cfg ryu) xs) :=
  FullRT.allLeaves_of_unfold (fun _ _ => by simp only [AllAtomsOK])
    (fun _ => by simp only [AllAtomsOK]) (by simp only [AllAtomsOK]) (by simp only [AllAtomsOKSeq])
    (fun _ _ => by simp only [AllAtomsOKSeq]) (allAtomsOK_leaf cfg ryu)

/-- `hrun`: `parse_token` is called as `next_value` calls it, with the first byte of the text and
    fuel `unread length + 1` -/
theorem atomOK_of_parseToken (cfg : Cfg) (ryu : Nat → List UInt8) (v : Value) (tok : Token)
    (h1 : v.isCons = false) (h2 : v.isVector = false) (h3 : v ≠ .null)
    (hat : tok.atom = some v) (hhead : ElemHead (atomText ryu v))
    (hrun : ∀ (s : St) (rest : List UInt8) (pk : UInt8) (tl : List UInt8), Follow rest → Good s →
      atomText ryu v = pk :: tl → s.rd.rest = atomText ryu v ++ rest →
      Runs (parseToken cfg (s.rd.rest.length + 1) pk) s tok rest) :
    AtomOK cfg ryu v := by
  refine ⟨h1, h2, h3, hhead, ?_⟩
  intro s rest fuel hf hg hr hfu _
  obtain ⟨c, tl, ht, hc1, hc2, -, -, -⟩ := hhead
  obtain ⟨F, rfl⟩ : ∃ F, fuel = F + 1 := ⟨fuel - 1, by omega⟩
  exact nextValue_of_parseToken cfg F s c tl rest v tok hat hg (by rw [hr, ht]) hc1 hc2
    fun s1 g1 r1 => hrun s1 rest c tl hf g1 ht (by rw [r1, ht])

theorem atomOK_bool (cfg : Cfg) (ryu : Nat → List UInt8) (b : Bool) : AtomOK cfg ryu (.bool b) := by
  have htext : atomText ryu (.bool b) = [35, if b then 116 else 102] := by cases b <;> rfl
  refine atomOK_of_parseToken cfg ryu _ (.bool b) rfl rfl (by simp) rfl ?_ ?_
  · rw [htext]
    exact head_of_byte _ _ (by decide) (by decide) (by decide) (by decide) (by decide)
  · intro s rest pk tl _ hg ht hr
    rw [htext] at ht hr
    obtain ⟨rfl, rfl⟩ : pk = 35 ∧ tl = [if b then 116 else 102] := by simpa using ht.symm
    cases b
    · exact runs_of_adv _ s _ 2 false rest hg (false_aux cfg _ s rest hr) (by simp [hr])
    · exact runs_of_adv _ s _ 2 false rest hg (true_aux cfg _ s rest hr) (by simp [hr])

theorem atomOK_nil (cfg : Cfg) (ryu : Nat → List UInt8) : AtomOK cfg ryu .nil := by
  have htext : atomText ryu .nil = [35, 110, 105, 108] := Parse.atomText_nil ryu
  refine atomOK_of_parseToken cfg ryu .nil .nil rfl rfl (by simp) rfl ?_ ?_
  · rw [htext]
    exact head_of_byte _ _ (by decide) (by decide) (by decide) (by decide) (by decide)
  · intro s rest pk tl _ hg ht hr
    rw [htext] at ht hr
    obtain ⟨rfl, rfl⟩ : pk = 35 ∧ tl = [110, 105, 108] := by simpa using ht.symm
    exact runs_of_adv _ s _ 4 false rest hg (nil_aux cfg _ s rest hr) (by simp [hr])

/-- `()`, `(())`, `((()))`, … -/
def deep : Nat → Value
  | 0 => .null
  | n + 1 => .cons (deep n) .null

theorem nesting_deep (n : Nat) : nesting (deep n) = n + 1 := by
  induction n with
  | zero => simp [deep, nesting]
  | succ n ih => simp [deep, nesting, nestingTail, ih]; omega

theorem allAtomsOK_deep (cfg : Cfg) (ryu : Nat → List UInt8) (n : Nat) : AllAtomsOK cfg ryu (deep n) := by
  induction n with
  | zero => simp [deep, AllAtomsOK]
  | succ n ih => simp [deep, AllAtomsOK, ih]

theorem endSeq_total (s : St) (h : Good s) :
    ∃ r s', attempt (endSeq 41) s = .ok r s' ∧ Good s' ∧ s'.depth = s.depth := by
  obtain ⟨s1, e1, r1, g1, d1⟩ := ws_runs s h
  have hatt : ∀ s', (∃ e, endSeq 41 s = .err e s') ∨ endSeq 41 s = .ok () s' →
      ∃ r, attempt (endSeq 41) s = .ok r s' := by
    intro s' h
    rcases h with ⟨e, h⟩ | h
    · exact ⟨.error e, by simp [attempt, h]⟩
    · exact ⟨.ok (), by simp [attempt, h]⟩
  cases hx : List.drop (wsLen s.rd.rest) s.rd.rest with
  | nil =>
    rw [hx] at e1
    obtain ⟨r, hr⟩ := hatt s1 (Or.inl ⟨_, by simp only [endSeq, bind_apply, e1, List.head?_nil, peekErr]; rfl⟩)
    exact ⟨r, s1, hr, g1, d1⟩
  | cons b tl =>
    rw [hx] at e1 r1
    by_cases hb : b = 41
    · subst hb
      obtain ⟨s2, e2, r2, g2, d2⟩ := discard_runs s1 g1 41 tl r1
      obtain ⟨r, hr⟩ := hatt s2 (Or.inr (by simp [endSeq, e1, e2]))
      exact ⟨r, s2, hr, g2, by omega⟩
    · obtain ⟨r, hr⟩ := hatt s1 (Or.inl ⟨_, by
        simp only [endSeq, bind_apply, e1, List.head?_cons, beq_iff_eq, hb, if_false, peekErr]; rfl⟩)
      exact ⟨r, s1, hr, g1, d1⟩


/-- A depth budget of `n + 1` is one less than `deep n` needs.  By induction: the innermost `(`
    finds `depth = 1` (`enter_limit`); one level up `attempt` captures the error, `leave` and
    `end_seq` run whatever they find (`endSeq_total`), and the error is raised again. -/
theorem deep_fails (cfg : Cfg) (ryu : Nat → List UInt8) :
    ∀ (n : Nat) (s : St) (rest : List UInt8) (fuel : Nat), Good s →
      s.rd.rest = text po ryu (deep n) ++ rest → s.depth = n + 1 → fuel ≥ 2 * n + 1 →
      ∃ l c s', nextValue cfg fuel s = .err (.syntax .recursionLimitExceeded l c) s' ∧ Good s' ∧
        s'.depth = s.depth := by
  intro n
  induction n with
  | zero =>
    intro s rest fuel hg hr hd hfu
    simp only [deep, textP_null] at hr
    obtain ⟨F, rfl⟩ : ∃ F, fuel = F + 1 := ⟨fuel - 1, by omega⟩
    obtain ⟨s1, e1, r1, g1, d1⟩ := ws_start s hg 40 _ (by simpa using hr) (by decide) (by decide)
    obtain ⟨s2, e2, r2, g2, d2⟩ := parseToken_lparen cfg (s1.rd.rest.length + 1) s1 g1 _ r1
    refine ⟨s2.rd.peekPosition.line, s2.rd.peekPosition.col, s2, ?_, g2, by omega⟩
    simp only [nextValue, bind_apply, e1, tokenFuel, e2, enter_limit (s := s2) (by omega)]
  | succ n ih =>
    intro s rest fuel hg hr hd hfu
    simp only [deep, textP_cons, tailP_null] at hr
    obtain ⟨F, rfl⟩ : ∃ F, fuel = F + 2 := ⟨fuel - 2, by omega⟩
    obtain ⟨s1, e1, r1, g1, d1⟩ := ws_start s hg 40 _ (by simpa using hr) (by decide) (by decide)
    obtain ⟨s2, e2, r2, g2, d2⟩ := parseToken_lparen cfg (s1.rd.rest.length + 1) s1 g1 _ r1
    have g3 : Good { s2 with depth := s2.depth - 1 } := g2
    obtain ⟨tl, ht⟩ : ∃ tl, text po ryu (deep n) = 40 :: tl := by
      cases n <;> simp [deep, textP_null, textP_cons]
    obtain ⟨s4, e4, r4, g4, d4⟩ := ws_start { s2 with depth := s2.depth - 1 } g3 40
      (tl ++ ([41] ++ rest)) (by simp [r2, ht]) (by decide) (by decide)
    obtain ⟨l, k, s5, e5, g5, d5⟩ := ih s4 ([41] ++ rest) (F + 0) g4 (by simp [r4, ht])
      (by simp at d4; omega) (by omega)
    have g6 : Good { s5 with depth := s5.depth + 1 } := g5
    obtain ⟨r, s7, e7, g7, d7⟩ := endSeq_total { s5 with depth := s5.depth + 1 } g6
    refine ⟨l, k, s7, ?_, g7, ?_⟩
    · have hpl : parseList cfg (F + 1) 41 [] { s2 with depth := s2.depth - 1 } =
          .err (.syntax .recursionLimitExceeded l k) s5 := by
        simp only [Nat.add_zero] at e5
        rw [parseList]
        simp [e4, e5]
      have hat : attempt (parseList cfg (F + 1) 41 []) { s2 with depth := s2.depth - 1 } =
          .ok (.error (.syntax .recursionLimitExceeded l k)) s5 := by
        simp only [attempt, hpl]
      rw [nextValue]
      simp only [bind_apply, e1, tokenFuel, e2, enter_of_le (s := s2) (by omega), hat, leave, e7]
      cases r <;> rfl
    · simp at d4 d7; omega


theorem text_deep_length (ryu : Nat → List UInt8) (n : Nat) :
    (text po ryu (deep n)).length = 2 * n + 2 := by
  induction n with
  | zero => simp [deep, textP_null]
  | succ n ih => simp [deep, textP_cons, tailP_null, ih]; omega

theorem fromTrait_err (cfg : Cfg) (s s' : St) (e : Err)
    (h : nextValue cfg (2 * s.rd.rest.length + 4) s = .err e s') : fromTrait cfg s = .err e s' := by
  simp [fromTrait, expectValue, nextValueTop, apiFuel, h]

theorem deep_fails_top (cfg : Cfg) (ryu : Nat → List UInt8) :
    ∃ l c s', fromTrait cfg (initSt .slice (text po ryu (deep 127))) =
      .err (.syntax .recursionLimitExceeded l c) s' := by
  have hlen := text_deep_length ryu 127
  generalize ht : text po ryu (deep 127) = t at hlen
  obtain ⟨l, c, s', e, _, _⟩ := deep_fails cfg ryu 127 (initSt .slice t) []
    (2 * (initSt .slice t).rd.rest.length + 4) ⟨rfl, rfl⟩
    (by rw [ht]; exact (List.append_nil t).symm) rfl (by show 2 * t.length + 4 ≥ _; omega)
  exact ⟨l, c, s', fromTrait_err cfg _ _ _ e⟩

def cfg0 : Cfg :=
  { opts := Parse.Options.default, isAlphabetic := fun _ => false, pow10 := fun _ => 0 }

def errCode {α : Type} : Res α → Option Code
  | .err (.syntax c _ _) _ => some c
  | _ => none

def symbolAndRest : Res (Option Value) → Option (List UInt8 × List UInt8)
  | .ok (some (.symbol x)) s' => some (x, s'.rd.rest)
  | _ => none

/-- The symbol `.|a` is printed as `.|a` and read back as the same symbol with nothing left
    (`parse_symbol` does not stop at `|`), but inside a list `parse_list` takes `.` followed by the
    delimiter `|` for a dotted tail: `(.|a)` is rejected and `(#t .|a)` as well.  The same happens
    with `.` followed by a NUL byte (`dot_nul_witness`).  This is why `ElemHead` restricts what may
    follow a leading `.`. -/
theorem dot_symbol_witness :
    symbolAndRest (nextValue cfg0 20 (initSt .slice (text po (fun _ => []) (.symbol [46, 124, 97]))))
      = some ([46, 124, 97], []) ∧
    errCode (nextValue cfg0 20 (initSt .slice
      (text po (fun _ => []) (.cons (.symbol [46, 124, 97]) .null))))
      = some .expectedSomeValue := by
  constructor <;> decide

theorem dot_symbol_witness_tail :
    errCode (nextValue cfg0 20 (initSt .slice
      (text po (fun _ => []) (.cons (.bool true) (.cons (.symbol [46, 124, 97]) .null)))))
      = some .expectedSomeValue := by
  decide +kernel

theorem dot_nul_witness :
    symbolAndRest (nextValue cfg0 20 (initSt .slice (text po (fun _ => []) (.symbol [46, 0]))))
      = some ([46, 0], []) ∧
    errCode (nextValue cfg0 20 (initSt .slice
      (text po (fun _ => []) (.cons (.symbol [46, 0]) .null))))
      = some .expectedSomeValue := by
  constructor <;> decide

/-- The run part of `AtomOK` alone, without `ElemHead`. -/
def AtomRuns (cfg : Cfg) (ryu : Nat → List UInt8) (v : Value) : Prop :=
  v.isCons = false ∧ v.isVector = false ∧ v ≠ .null ∧
  ∀ (s : St) (rest : List UInt8) (fuel : Nat), Follow rest → Good s →
    s.rd.rest = atomText ryu v ++ rest → fuel ≥ s.rd.rest.length + 2 → 1 ≤ s.depth →
    Runs (nextValue cfg fuel) s (some v) rest

/-- the symbol `.|a` round-trips as an atom in every follow context -/
theorem atomRuns_dot_bar (cfg : Cfg) (hopts : cfg.opts = Parse.Options.default)
    (ryu : Nat → List UInt8) : AtomRuns cfg ryu (.symbol [46, 124, 97]) := by
  refine ⟨rfl, rfl, by simp, ?_⟩
  intro s rest fuel hf hg hr hfu _
  obtain ⟨F, rfl⟩ : ∃ F, fuel = F + 1 := ⟨fuel - 1, by omega⟩
  have htext : atomText ryu (.symbol [46, 124, 97]) = [46, 124, 97] := Parse.atomText_symbol ryu _
  rw [htext] at hr
  refine nextValue_of_parseToken cfg F s 46 [124, 97] rest _ (.symbol [46, 124, 97]) rfl hg hr
    (by decide) (by decide) fun s1 g1 r1 => ?_
  exact runs_of_adv _ s1 _ _ _ rest g1
    (atomRT_symbol cfg ryu _ s1 rest [46, 124, 97] 46 hopts (by decide) r1 rfl hf fun _ => g1.2)
    (by simp [r1, Parse.atomText_symbol])

/-- the depth formula at its smallest instance: `()` needs a budget of 2 -/
theorem null_depth_witness :
    errCode (nextValue cfg0 10 { initSt .slice [40, 41] with depth := 1 })
      = some .recursionLimitExceeded := by
  decide

/-- **C01_depth_exact.** The bound is exact: `deep n` = `n + 1` nested pairs of parentheses has
    no atoms and nesting `n + 1`; read with a depth budget of `n + 1` it fails with
    `RecursionLimitExceeded` (and the budget is restored).  In particular the 128-fold `((…()…))`
    is rejected by `from_slice`. -/
theorem C01_depth_exact (cfg : Cfg) (ryu : Nat → List UInt8) (n : Nat) :
    AllAtomsOK cfg ryu (deep n) ∧ nesting (deep n) = n + 1 ∧
    (∀ (s : St) (rest : List UInt8) (fuel : Nat), s.rd.mode = .slice → s.rd.faulty = false →
      s.rd.rest = text Print.Options.default ryu (deep n) ++ rest → s.depth = n + 1 →
      fuel ≥ 2 * n + 1 →
      ∃ l c s', nextValue cfg fuel s = .err (.syntax .recursionLimitExceeded l c) s' ∧
        s'.depth = s.depth) ∧
    (∃ l c s', fromTrait cfg (initSt .slice (text Print.Options.default ryu (deep 127))) =
      .err (.syntax .recursionLimitExceeded l c) s') := by
  refine ⟨allAtomsOK_deep cfg ryu n, nesting_deep n, ?_, deep_fails_top cfg ryu⟩
  intro s rest fuel hm hfa hr hd hfu
  obtain ⟨l, c, s', e, _, d⟩ := deep_fails cfg ryu n s rest fuel ⟨hm, hfa⟩ hr hd hfu
  exact ⟨l, c, s', e, d⟩

/-- **C01_elemhead_needed.** The statement with the run part of the atom hypothesis alone
    (`AtomRuns`, i.e. `AtomOK` without `ElemHead`) is false: the symbol `.|a` satisfies `AtomRuns`
    (for every configuration with default options), yet the one-element list `(.|a)` printed from
    it is rejected with `ExpectedSomeValue`, because `parse_list` takes a `.` followed by the
    delimiter `|` for the dot of a dotted tail.  `C01_structure` is the variant with `ElemHead`. -/
theorem C01_elemhead_needed :
    AtomRuns cfg0 (fun _ => []) (.symbol [46, 124, 97]) ∧
    errCode (fromTrait cfg0 (initSt .slice
      (text Print.Options.default (fun _ => []) (.cons (.symbol [46, 124, 97]) .null))))
      = some .expectedSomeValue :=
  ⟨atomRuns_dot_bar cfg0 rfl _, by decide +kernel⟩

example (cfg : Cfg) (ryu : Nat → List UInt8) :
    nesting (deep 127) = 128 ∧ AllAtomsOK cfg ryu (deep 127) :=
  ⟨nesting_deep 127, allAtomsOK_deep cfg ryu 127⟩

end ListRT
end Parse
end Lexpr

