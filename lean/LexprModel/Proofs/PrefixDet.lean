/-
  Prefix determinism (C19): a run that stops before the end of its input does not depend on what
  follows.  The judgement `Sim` holds of the reader primitives and is closed under `>>=` and the
  two error-capturing blocks of the parser, so it holds of every function (`Sim.logic`, `Sim.plogic`).
-/
import LexprModel.Proofs.Consume
import LexprModel.Proofs.ParserProg
namespace Lexpr
namespace Parse
namespace PrefixDet

def _root_.Lexpr.Parse.Rd.ext (q : List UInt8) (rd : Rd) : Rd := { rd with rest := rd.rest ++ q }

def ext (q : List UInt8) (s : St) : St := { s with rd := s.rd.ext q }

/-- Whenever `m`, run on a state `s`, stops (with a result or an error) in a state that still has
    unread input, `m'` run on `s` with any `q` appended to the unread input stops in the same way,
    with `q` appended to what is left.  (`m'` is `m` with at least as much fuel.) -/
def Sim {α : Type} (m m' : P α) : Prop := ∀ (s : St) (q : List UInt8),
  match m s with
  | .ok a s' => s'.rd.rest <:+ s.rd.rest ∧ (s'.rd.rest ≠ [] → m' (ext q s) = .ok a (ext q s'))
  | .err e s' => s'.rd.rest <:+ s.rd.rest ∧ (s'.rd.rest ≠ [] → m' (ext q s) = .err e (ext q s'))
  | .panic _ => True
  | .fuel => True

theorem consume_ext (q : List UInt8) : ∀ (n : Nat) (rd : Rd), n ≤ rd.rest.length →
    (rd.ext q).consume n = (rd.consume n).ext q := by
  intro n
  induction n with
  | zero => intro rd _; rfl
  | succ n ih =>
    intro rd h
    cases hr : rd.rest with
    | nil => simp [hr] at h
    | cons b bs =>
      have hx : (rd.ext q).rest = b :: (bs ++ q) := by simp [Rd.ext, hr]
      simp only [Rd.consume, hx, hr]
      exact ih { rd with rest := bs, line := (advance rd.line rd.col b).1,
                         col := (advance rd.line rd.col b).2, peeked := false }
        (by simp [hr] at h; simpa using h)

theorem ext_rest (q : List UInt8) (s : St) : (ext q s).rd.rest = s.rd.rest ++ q := rfl

theorem ext_consume (q : List UInt8) (s : St) (n : Nat) (h : n ≤ s.rd.rest.length) :
    ({ ext q s with rd := (ext q s).rd.consume n } : St) = ext q { s with rd := s.rd.consume n } := by
  simp only [ext]
  rw [consume_ext q n s.rd h]

theorem peekPosition_ext (q : List UInt8) (s : St) (h : s.rd.rest ≠ []) :
    (ext q s).rd.peekPosition = s.rd.peekPosition := by
  cases hr : s.rd.rest with
  | nil => exact absurd hr h
  | cons b t => simp [Rd.peekPosition, ext, Rd.ext, hr]

section simrules
variable {α β : Type}

theorem Sim.bind {m m' : P α} {f f' : α → P β} (h1 : Sim m m') (h2 : ∀ a, Sim (f a) (f' a)) :
    Sim (m >>= f) (m' >>= f') := by
  intro s q
  have h1' := h1 s q
  show match P.bind m f s with
    | .ok a s' => _ ∧ (_ → P.bind m' f' (ext q s) = _)
    | .err e s' => _ ∧ (_ → P.bind m' f' (ext q s) = _)
    | .panic _ => True
    | .fuel => True
  unfold P.bind
  cases hm : m s with
  | ok a s1 =>
    rw [hm] at h1'
    have h2' := h2 a s1 q
    dsimp only
    cases hf : f a s1 with
    | ok b s2 =>
      rw [hf] at h2'
      refine ⟨h2'.1.trans h1'.1, fun hne => ?_⟩
      have hne1 : s1.rd.rest ≠ [] := fun h0 => hne (by simpa [h0] using h2'.1)
      rw [h1'.2 hne1]
      exact h2'.2 hne
    | err e s2 =>
      rw [hf] at h2'
      refine ⟨h2'.1.trans h1'.1, fun hne => ?_⟩
      have hne1 : s1.rd.rest ≠ [] := fun h0 => hne (by simpa [h0] using h2'.1)
      rw [h1'.2 hne1]
      exact h2'.2 hne
    | panic p => trivial
    | fuel => trivial
  | err e s1 =>
    rw [hm] at h1'
    refine ⟨h1'.1, fun hne => ?_⟩
    rw [h1'.2 hne]
  | panic p => trivial
  | fuel => trivial

theorem Sim.pure {a : α} : Sim (pure a : P α) (pure a) :=
  fun _ _ => ⟨List.suffix_refl _, fun _ => rfl⟩

theorem Sim.errAt {c : Code} : Sim (errAt c : P α) (errAt c) :=
  fun _ _ => ⟨List.suffix_refl _, fun _ => rfl⟩

theorem Sim.peekErr {c : Code} : Sim (peekErr c : P α) (peekErr c) := by
  intro s q
  refine ⟨List.suffix_refl _, fun hne => ?_⟩
  show Res.err _ _ = _
  rw [peekPosition_ext q s hne]

theorem Sim.panicAt {p : Site} {m' : P α} : Sim (panicAt p : P α) m' := fun _ _ => trivial

theorem Sim.outOfFuel {m' : P α} : Sim (outOfFuel : P α) m' := fun _ _ => trivial

theorem Sim.liftExcept {x : Except Err α} : Sim (liftExcept x) (liftExcept x) := by
  cases x with
  | ok a => exact Sim.pure
  | error e => exact fun s _ => ⟨List.suffix_refl _, fun _ => rfl⟩

theorem Sim.bind_attempt {m m' : P α} {f f' : Except Err α → P β} (h : Sim m m')
    (hok : ∀ a, Sim (f (.ok a)) (f' (.ok a))) (herr : ∀ e, Sim (f (.error e)) (f' (.error e))) :
    Sim (attempt m >>= f) (attempt m' >>= f') := by
  refine Sim.bind ?_ (fun x => by cases x <;> first | exact hok _ | exact herr _)
  intro s q
  have h' := h s q
  unfold attempt
  cases hm : m s with
  | ok a s1 => rw [hm] at h'; exact ⟨h'.1, fun hne => by simp only [h'.2 hne]⟩
  | err e s1 => rw [hm] at h'; exact ⟨h'.1, fun hne => by simp only [h'.2 hne]⟩
  | panic p => trivial
  | fuel => trivial

theorem Sim.bind_tokenFuel {f f' : Nat → P β} (h : ∀ n n', n ≤ n' → Sim (f n) (f' n')) :
    Sim (tokenFuel >>= f) (tokenFuel >>= f') := by
  intro s q
  exact h (s.rd.rest.length + 1) ((ext q s).rd.rest.length + 1) (by simp [ext_rest]) s q

theorem Sim.bind_apiFuel {f f' : Nat → P β} (h : ∀ n n', n ≤ n' → Sim (f n) (f' n')) :
    Sim (apiFuel >>= f) (apiFuel >>= f') := by
  intro s q
  exact h (2 * s.rd.rest.length + 4) (2 * (ext q s).rd.rest.length + 4) (by simp [ext_rest]; omega) s q

end simrules

theorem peek_s : Sim peek peek := by
  intro s q
  unfold peek
  cases hr : s.rd.rest with
  | nil =>
    by_cases hf : s.rd.faulty = true <;> simp [hf, hr]
  | cons b t =>
    refine ⟨by simp [hr], fun _ => ?_⟩
    simp only [ext_rest, hr, List.cons_append]
    rfl

theorem next_s : Sim next next := by
  intro s q
  unfold next
  cases hr : s.rd.rest with
  | nil =>
    by_cases hf : s.rd.faulty = true <;> simp [hf, hr]
  | cons b t =>
    refine ⟨by simp [Rd.consume_rest, hr], fun _ => ?_⟩
    simp only [ext_rest, hr, List.cons_append]
    rw [ext_consume q s 1 (by simp [hr])]

theorem discard_s : Sim discard discard := by
  intro s q
  unfold discard
  cases hr : s.rd.rest with
  | nil => trivial
  | cons b t =>
    refine ⟨by simp [Rd.consume_rest, hr], fun _ => ?_⟩
    simp only [ext_rest, hr, List.cons_append]
    rw [ext_consume q s 1 (by simp [hr])]

theorem getMode_s : Sim getMode getMode := fun _ _ => ⟨List.suffix_refl _, fun _ => rfl⟩
theorem getPos_s : Sim getPos getPos := fun _ _ => ⟨List.suffix_refl _, fun _ => rfl⟩
theorem leave_s : Sim leave leave := fun _ _ => ⟨List.suffix_refl _, fun _ => rfl⟩

theorem enter_s : Sim enter enter := by
  intro s q
  unfold enter
  have hd : (ext q s).depth = s.depth := rfl
  by_cases h0 : (s.depth == 0) = true
  · simp only [h0, ↓reduceIte]
  · by_cases h1 : (s.depth - 1 == 0) = true
    · simp only [hd, h0, h1, ↓reduceIte]
      refine ⟨List.suffix_refl _, fun hne => ?_⟩
      rw [peekPosition_ext q s hne]
      simp
    · simp only [hd, h0, h1]
      exact ⟨List.suffix_refl _, fun _ => by simp; rfl⟩


/-- `g` measures a prefix of its argument and, if it stops before the end, does not depend on what
    follows -/
def Scanner (g : List UInt8 → Nat) : Prop :=
  ∀ p q, g p ≤ p.length ∧ (g p < p.length → g (p ++ q) = g p)

theorem scan_s {g : List UInt8 → Nat} (hg : Scanner g) : Sim (scan g) (scan g) := by
  intro s q
  unfold scan
  refine ⟨by simp [Rd.consume_rest, List.drop_suffix], fun hne => ?_⟩
  have hlen := (hg s.rd.rest q).1
  have hlt : g s.rd.rest < s.rd.rest.length := by
    rcases Nat.lt_or_ge (g s.rd.rest) s.rd.rest.length with h | h
    · exact h
    · exact absurd (by simp [Rd.consume_rest, List.drop_eq_nil_of_le h]) hne
  have hg' := (hg s.rd.rest q).2 hlt
  simp only [ext_rest, hg']
  rw [ext_consume q s _ hlen, List.take_append_of_le_length hlen]

theorem _root_.Lexpr.Parse.Scans.scanner {g : List UInt8 → Nat} (h : Scans g) : Scanner g :=
  fun p q => ⟨(h p q).1, (h p q).2.1⟩

theorem wsLen_scanner : Scanner wsLen := Scans.wsLen.scanner
theorem symLen_scanner (m : Mode) : Scanner (symLen m) := (Scans.symLen m).scanner
theorem charNameLen_scanner : Scanner charNameLen := Scans.charNameLen.scanner
theorem digits_scanner : Scanner digitsLen := Scans.digitsLen.scanner

theorem finishStr_s {c : Bool} {b : List UInt8} : Sim (finishStr c b) (finishStr c b) := by
  unfold finishStr
  refine Sim.bind getMode_s fun _ => ?_
  repeat' first | exact Sim.pure | exact Sim.errAt | refine ite_rel ?_ ?_

theorem badByte_eq (s : St) : badByte s =
    match s.rd.rest with
    | _ :: _ => .err (.syntax .expectedSomeValue s.rd.peekPosition.line s.rd.peekPosition.col)
        { s with rd := s.rd.consume 1 }
    | [] => .panic .discardAtEof := by
  show P.bind _ _ s = _
  simp only [P.bind, discard]
  cases s.rd.rest <;> rfl

theorem badByte_s : Sim badByte badByte := by
  intro s q
  rw [badByte_eq s, badByte_eq (ext q s)]
  cases hr : s.rd.rest with
  | nil => trivial
  | cons b t =>
    have hne : s.rd.rest ≠ [] := by simp [hr]
    refine ⟨by simp [Rd.consume_rest, hr], fun _ => ?_⟩
    simp only [ext_rest, hr, List.cons_append]
    rw [ext_consume q s 1 (by simp [hr]), peekPosition_ext q s hne]

theorem parseSymbolBytes_s {scratch : List UInt8} :
    Sim (parseSymbolBytes scratch) (parseSymbolBytes scratch) := by
  rw [parseSymbolBytes_eq]
  refine Sim.bind getMode_s fun _ => Sim.bind (scan_s (symLen_scanner _)) fun _ =>
    Sim.bind peek_s fun _ => ?_
  repeat' first | exact Sim.pure | exact Sim.errAt | refine ite_rel ?_ ?_

/-- `Sim` follows the programs of the lexer; the right-hand one may have more fuel. -/
theorem Sim.logic : Built.Logic Kind.longer @Sim where
  prim h := by
    cases h with
    | pure a => exact Sim.pure
    | errAt c => exact Sim.errAt
    | peekErr c => exact Sim.peekErr
    | peek => exact peek_s
    | next => exact next_s
    | discard => exact discard_s
    | panicAt p => exact Sim.panicAt
    | outOfFuel => exact Sim.outOfFuel
    | skipWs => exact scan_s wsLen_scanner
    | skipDigits => exact scan_s digits_scanner
    | charName => exact scan_s charNameLen_scanner
    | finishChecked bytes => exact finishStr_s
    | badByte => exact badByte_s
    | parseSymbolBytes scratch _ => exact parseSymbolBytes_s
    | finishUnchecked bytes _ => exact finishStr_s
  bind := Sim.bind
  outL _ := Sim.outOfFuel
  outR h := h.elim

theorem Sim.of_held {c : Bool} {α : Type} {m m' : P α} (h : Held Kind.longer true c m m') :
    Sim m m' :=
  Sim.logic.of_held h

theorem le_rel {f f' : Nat} (h : f ≤ f') : Kind.Rel Kind.longer f f' := by
  rcases Nat.eq_or_lt_of_le h with h | h
  · exact .inl h
  · exact .inr (.inl ⟨trivial, h⟩)

theorem parseWhitespace_s : Sim parseWhitespace parseWhitespace := .of_held .parseWhitespace
theorem nextOrNull_s : Sim nextOrNull nextOrNull := .of_held .nextOrNull
theorem endSeq_s {close : UInt8} : Sim (endSeq close) (endSeq close) := .of_held (.endSeq close)
theorem expectEnd_s : Sim expectEnd expectEnd := .of_held .expectEnd

theorem parseToken_s {cfg : Cfg} {f f' : Nat} {pk : UInt8} (h : f ≤ f') :
    Sim (parseToken cfg f pk) (parseToken cfg f' pk) :=
  .of_held (.parseToken trivial cfg pk (le_rel h))

/-- `Sim` follows the parser proper: a captured error is the same on the longer input unless the
    shorter input was read to its end, and then nothing is claimed. -/
theorem Sim.plogic : Built.PLogic Kind.longer @Sim where
  toLogic := Sim.logic
  getPos := getPos_s
  tokenFuel h := Sim.bind_tokenFuel fun n n' hn => h n n' (le_rel hn)
  apiFuel h := Sim.bind_apiFuel fun n n' hn => h n n' (le_rel hn)
  deeperSeq _ _ _ _ _ hm hk :=
    Sim.bind enter_s fun _ => Sim.bind_attempt hm
      (fun a => Sim.bind leave_s fun _ => Sim.bind_attempt endSeq_s (fun _ => hk a)
        fun _ => Sim.liftExcept)
      fun _ => Sim.bind leave_s fun _ => Sim.bind_attempt endSeq_s (fun _ => Sim.liftExcept)
        fun _ => Sim.liftExcept
  deeper hm hk :=
    Sim.bind enter_s fun _ => Sim.bind_attempt hm (fun a => Sim.bind leave_s fun _ => hk a)
      fun _ => Sim.bind leave_s fun _ => Sim.liftExcept

theorem value_ss (cfg : Cfg) : ∀ f f' : Nat, f ≤ f' →
    Sim (nextValue cfg f) (nextValue cfg f') ∧
    (∀ term acc, Sim (parseList cfg f term acc) (parseList cfg f' term acc)) ∧
    (∀ term acc, Sim (parseVector cfg f term acc) (parseVector cfg f' term acc)) :=
  fun f f' h => Sim.plogic.value_all trivial cfg f f' (le_rel h)

theorem datum_ss (cfg : Cfg) : ∀ f f' : Nat, f ≤ f' →
    Sim (nextDatum cfg f) (nextDatum cfg f') ∧
    (∀ term acc ms, Sim (parseListMeta cfg f term acc ms) (parseListMeta cfg f' term acc ms)) ∧
    (∀ term acc ms, Sim (parseVectorMeta cfg f term acc ms) (parseVectorMeta cfg f' term acc ms)) :=
  fun f f' h => Sim.plogic.datum_all trivial cfg f f' (le_rel h)

theorem nextValue_s {cfg : Cfg} {f f' : Nat} (h : f ≤ f') : Sim (nextValue cfg f) (nextValue cfg f') :=
  (value_ss cfg f f' h).1

theorem nextDatum_s {cfg : Cfg} {f f' : Nat} (h : f ≤ f') : Sim (nextDatum cfg f) (nextDatum cfg f') :=
  (datum_ss cfg f f' h).1

theorem nextValueTop_s {cfg : Cfg} : Sim (nextValueTop cfg) (nextValueTop cfg) :=
  Sim.plogic.nextValueTop trivial cfg
theorem nextDatumTop_s {cfg : Cfg} : Sim (nextDatumTop cfg) (nextDatumTop cfg) :=
  Sim.plogic.nextDatumTop trivial cfg
theorem expectValue_s {cfg : Cfg} : Sim (expectValue cfg) (expectValue cfg) :=
  Sim.plogic.expectValue trivial cfg
theorem expectDatum_s {cfg : Cfg} : Sim (expectDatum cfg) (expectDatum cfg) :=
  Sim.plogic.expectDatum trivial cfg
theorem fromTrait_s {cfg : Cfg} : Sim (fromTrait cfg) (fromTrait cfg) :=
  Sim.plogic.fromTrait trivial cfg
theorem fromTraitDatum_s {cfg : Cfg} : Sim (fromTraitDatum cfg) (fromTraitDatum cfg) :=
  Sim.plogic.fromTraitDatum trivial cfg

theorem Sim.err {α : Type} {m m' : P α} (h : Sim m m') {s s' : St} {e : Err} (q : List UInt8)
    (hr : m s = .err e s') (hne : s'.rd.rest ≠ []) : m' (ext q s) = .err e (ext q s') := by
  have := h s q
  rw [hr] at this
  exact this.2 hne

theorem Sim.ok {α : Type} {m m' : P α} (h : Sim m m') {s s' : St} {a : α} (q : List UInt8)
    (hr : m s = .ok a s') (hne : s'.rd.rest ≠ []) : m' (ext q s) = .ok a (ext q s') := by
  have := h s q
  rw [hr] at this
  exact this.2 hne

theorem ext_initSt (mode : Mode) (p q : List UInt8) (faulty : Bool) :
    ext q (initSt mode p faulty) = initSt mode (p ++ q) faulty := rfl

end PrefixDet
end Parse
end Lexpr
