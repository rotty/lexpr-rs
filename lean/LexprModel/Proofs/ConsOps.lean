/-
  Correctness of the hand-written `Clone` / `PartialEq` / `Drop` loops of `Cons` (cons.rs), of
  `Value::append` as written (value/mod.rs) and of the `to_vec` family's loops
  (model: LexprModel/ConsOps.lean).

  The loops address the list they build by a path (`cellAt`, `setCarAt`, `setCdrAt`); on
  `append xs t` the three have closed forms, and each loop invariant has the shape "`head` is
  `append ys (c . Null)` and `last` is its cell number `|ys|`".  The clone loop and its
  depth-instrumented twin (LexprModel/ConsOpsDepth.lean) are the same loop with the same invariant:
  they are proved together (`cloneV_spec`), the depth statements are read off in
  Proofs/ConsOpsDepth.lean.  The hand-written `==` is the derived structural `Value.beq` (`eqV_beq`),
  from which symmetry and, away from NaN, reflexivity follow.
-/
import LexprModel.ConsOpsDepth
import LexprModel.Depth
import LexprModel.Props.C15
namespace Lexpr
namespace ConsOps
open Value

/-! ### paths into `append xs t`

  `i` cdr steps into `append xs t` end in the list while `i < |xs|` and continue in `t` afterwards;
  everything else about paths is a case of these three. -/

theorem append_snoc (ys : List Value) (c t : Value) :
    append (ys ++ [c]) t = append ys (.cons c t) := (C15_append_merge ys [c] t).symm

theorem cellAt_append_eq (xs : List Value) (t : Value) (i : Nat) :
    cellAt (append xs t) i =
      if h : i < xs.length then some (xs[i], append (xs.drop (i + 1)) t)
      else cellAt t (i - xs.length) := by
  induction xs generalizing i with
  | nil => rfl
  | cons y ys ih =>
    cases i with
    | zero => rfl
    | succ i =>
      rw [append, cellAt, ih]
      by_cases h : i < ys.length
      · rw [dif_pos h, dif_pos (show i + 1 < (y :: ys).length from Nat.succ_lt_succ h)]; rfl
      · rw [dif_neg h, dif_neg (show ¬i + 1 < (y :: ys).length from fun h' => h (Nat.lt_of_succ_lt_succ h')),
          List.length_cons,
          Nat.add_sub_add_right]

theorem setCarAt_append_eq (xs : List Value) (t : Value) (i : Nat) (x : Value) :
    setCarAt (append xs t) i x =
      if i < xs.length then some (append (xs.set i x) t)
      else (setCarAt t (i - xs.length) x).map (append xs) := by
  induction xs generalizing i with
  | nil =>
    show setCarAt t i x = if i < 0 then _ else Option.map (append []) (setCarAt t i x)
    rw [if_neg (Nat.not_lt_zero i)]; cases setCarAt t i x <;> rfl
  | cons y ys ih =>
    cases i with
    | zero => rfl
    | succ i =>
      rw [append, setCarAt, ih, List.length_cons, Nat.add_sub_add_right]
      by_cases h : i < ys.length
      · rw [if_pos h, if_pos (Nat.succ_lt_succ h)]; rfl
      · rw [if_neg h, if_neg (fun h' => h (Nat.lt_of_succ_lt_succ h'))]
        cases setCarAt t (i - ys.length) x <;> rfl

theorem setCdrAt_append_eq (xs : List Value) (t : Value) (i : Nat) (x : Value) :
    setCdrAt (append xs t) i x =
      if i < xs.length then some (append (xs.take (i + 1)) x)
      else (setCdrAt t (i - xs.length) x).map (append xs) := by
  induction xs generalizing i with
  | nil =>
    show setCdrAt t i x = if i < 0 then _ else Option.map (append []) (setCdrAt t i x)
    rw [if_neg (Nat.not_lt_zero i)]; cases setCdrAt t i x <;> rfl
  | cons y ys ih =>
    cases i with
    | zero => rfl
    | succ i =>
      rw [append, setCdrAt, ih, List.length_cons, Nat.add_sub_add_right]
      by_cases h : i < ys.length
      · rw [if_pos h, if_pos (Nat.succ_lt_succ h)]; rfl
      · rw [if_neg h, if_neg (fun h' => h (Nat.lt_of_succ_lt_succ h'))]
        cases setCdrAt t (i - ys.length) x <;> rfl

/-- the cell right after the prefix `ys`: where `last` points in the loops below -/
theorem cellAt_append (ys : List Value) (c d : Value) :
    cellAt (append ys (.cons c d)) ys.length = some (c, d) := by
  rw [cellAt_append_eq, dif_neg (Nat.lt_irrefl _), Nat.sub_self]; rfl

theorem setCdrAt_append (ys : List Value) (c d x : Value) :
    setCdrAt (append ys (.cons c d)) ys.length x = some (append ys (.cons c x)) := by
  rw [setCdrAt_append_eq, if_neg (Nat.lt_irrefl _), Nat.sub_self]; rfl

theorem setCarAt_append (ys : List Value) (c d x : Value) :
    setCarAt (append ys (.cons c d)) ys.length x = some (append ys (.cons x d)) := by
  rw [setCarAt_append_eq, if_neg (Nat.lt_irrefl _), Nat.sub_self]; rfl

theorem finish_append (ys : List Value) (c d t : Value) :
    finish (append ys (.cons c d)) ys.length (.ok t) = .ok (append ys (.cons c t)) := by
  rw [finish, setCdrAt_append]

section
open Depth

mutual
/-- The loop returns a value structurally identical to its argument, for every value (dotted
    lists, lists in cars, vectors of lists, …), and the depth it reaches is exactly
    `Depth.looped v`: one level per nesting through cars / vector elements / the tail, nothing per
    element. -/
theorem cloneV_spec : ∀ v : Value, cloneV v = .ok v ∧ cloneVI v = (.ok v, looped v)
  | .cons a d => by
    have h := cloneWhile_spec d [] a (looped a)
    simp only [append, List.length_nil] at h
    simp only [cloneV, cloneVI, cloneV_spec a, h, looped, and_self]
  | .vector xs => by
    simp only [cloneV, cloneVI, cloneList_spec xs, Out.map, looped, and_self]
  | .nil | .null | .bool _ | .number _ | .char _ | .string _ | .symbol _ | .keyword _ | .bytes _ =>
    ⟨rfl, rfl⟩
/-- the loop invariant: `head` is the copied prefix `ys` followed by the cell `last = (c . Null)`;
    `k` is the deepest level reached so far -/
theorem cloneWhile_spec : ∀ (rest : Value) (ys : List Value) (c : Value) (k : Nat),
    cloneWhile (append ys (.cons c .null)) ys.length rest = .ok (append ys (.cons c rest)) ∧
    cloneWhileI (append ys (.cons c .null)) ys.length rest k
      = (.ok (append ys (.cons c rest)), max k (loopedTail rest))
  | .cons a d, ys, c, k => by
    have ih := cloneWhile_spec d (ys ++ [c]) a (max k (looped a))
    simp only [append_snoc, List.length_append, List.length_cons, List.length_nil,
      Nat.zero_add] at ih
    simp only [cloneWhile, cloneWhileI, cloneV_spec a, setCdrAt_append, cellAt_append, ih,
      loopedTail, Nat.max_assoc, and_self]
  | .vector xs, ys, c, k => by
    simp only [cloneWhile, cloneWhileI, cloneList_spec xs, Out.map, finish_append, loopedTail,
      and_self]
  | .nil, ys, c, k | .null, ys, c, k | .bool _, ys, c, k | .number _, ys, c, k | .char _, ys, c, k
  | .string _, ys, c, k | .symbol _, ys, c, k | .keyword _, ys, c, k | .bytes _, ys, c, k => by
    simp only [cloneWhile, cloneWhileI, finish_append, loopedTail, and_self]
theorem cloneList_spec : ∀ xs : List Value,
    cloneList xs = .ok xs ∧ cloneListI xs = (.ok xs, loopedList xs)
  | [] => ⟨rfl, rfl⟩
  | x :: xs => by
    simp only [cloneList, cloneListI, cloneV_spec x, cloneList_spec xs, Out.map, loopedList,
      and_self]
end

end

theorem clone_eq : ∀ v : Value, cloneV v = .ok v := fun v => (cloneV_spec v).1

theorem cloneWhile_eq : ∀ (rest : Value) (ys : List Value) (c : Value),
    cloneWhile (append ys (.cons c .null)) ys.length rest = .ok (append ys (.cons c rest)) :=
  fun rest ys c => (cloneWhile_spec rest ys c 0).1

theorem cloneList_eq : ∀ xs : List Value, cloneList xs = .ok xs := fun xs => (cloneList_spec xs).1

/-- neither the `unreachable!()` arm nor a dangling path is ever reached. -/
theorem clone_no_panic (v : Value) : (cloneV v).isOk = true := by rw [clone_eq]; rfl

theorem consClone_eq (a d : Value) : Cons.cloneLoop a d = .ok (.cons a d) := clone_eq _

/-- Outside the pair/pair and vector/vector arms the derived comparison is `eqAtom`; the hypotheses
    are the side conditions of `eqV`'s and `eqTail`'s last equation. -/
theorem eqAtom_beq_of (a b : Value)
    (hc : ∀ x y x' y' : Value, a = .cons x y → b = .cons x' y' → False)
    (hv : ∀ xs ys : List Value, a = .vector xs → b = .vector ys → False) :
    eqAtom a b = Value.beq a b := by
  fun_cases eqAtom a b
  all_goals first | rfl | skip
  rename_i h1 h2 h3 h4 h5 h6 h7 h8 h9
  exact (Value.beq.eq_12 _ _ h1 h2 h3 h4 h5 h6 h7 h8 h9 hc hv).symm

theorem eqAtom_beq (a b : Value) (h : a.isCons = false ∨ b.isCons = false)
    (hv : a.isVector = false ∨ b.isVector = false) : eqAtom a b = Value.beq a b := by
  refine eqAtom_beq_of a b ?_ ?_
  · rintro _ _ _ _ rfl rfl; cases h <;> contradiction
  · rintro _ _ rfl rfl; cases hv <;> contradiction

/-- By the case structure of `eqV` / `eqTail` / `eqList` themselves; `h` is the outcome of the
    early-return test `a.car() != b.car()`. -/
theorem eqV_beq :
    (∀ a b, eqV a b = Value.beq a b) ∧ (∀ xs ys, eqList xs ys = Value.beqList xs ys) ∧
    (∀ d d', eqTail d d' = Value.beq d d') := by
  apply eqV.mutual_induct
  · intro a d a' d' h ih
    rw [Bool.not_eq_true'] at h
    rw [eqV, h, Value.beq, ← ih, h]; rfl
  · intro a d a' d' h ih ih'
    rw [Bool.not_eq_true', Bool.not_eq_false] at h
    rw [eqV, h, Value.beq, ← ih, ← ih', h]; rfl
  · intro xs ys ih; rw [eqV, Value.beq, ih]
  · intro a b hc hv; rw [eqV.eq_3 a b hc hv]; exact eqAtom_beq_of a b hc hv
  · intro a d a' d' h ih
    rw [Bool.not_eq_true'] at h
    rw [eqTail, h, Value.beq, ← ih, h]; rfl
  · intro a d a' d' h ih ih'
    rw [Bool.not_eq_true', Bool.not_eq_false] at h
    rw [eqTail, h, Value.beq, ← ih, ← ih', h]; rfl
  · intro xs ys ih; rw [eqTail, Value.beq, ih]
  · intro a b hc hv; rw [eqTail.eq_3 a b hc hv]; exact eqAtom_beq_of a b hc hv
  · rfl
  · intro x xs y ys ih ih'; rw [eqList, Value.beqList, ih, ih']
  · intro t x h1 h2; rw [eqList.eq_3 t x h1 h2, Value.beqList.eq_3 t x h1 h2]

/-- the hand-written `==` is exactly the derived structural equality (IEEE on floats). -/
theorem eqLoop_iff : ∀ a b : Value, eqV a b = Value.beq a b := eqV_beq.1
theorem eqTail_beq : ∀ d d' : Value, eqTail d d' = Value.beq d d' := eqV_beq.2.2
theorem eqList_beq : ∀ xs ys : List Value, eqList xs ys = Value.beqList xs ys := eqV_beq.2.1

theorem consEq_iff (a d a' d' : Value) :
    Cons.eqLoop a d a' d' = (Value.beq a a' && Value.beq d d') := by
  rw [Cons.eqLoop, eqLoop_iff, Value.beq]

theorem neV_eq (a b : Value) : neV a b = !(Value.beq a b) := by rw [neV, eqLoop_iff]

theorem feq_symm (a b : Nat) : F64.feq a b = F64.feq b a := by
  unfold F64.feq
  by_cases ha : F64.isNaN a <;> by_cases hb : F64.isNaN b <;> simp [ha, hb]
  by_cases za : F64.isZero a <;> by_cases zb : F64.isZero b <;> simp [za, zb]
  all_goals exact Bool.eq_iff_iff.mpr ⟨fun h => by simpa using (by simpa using h : a = b).symm,
    fun h => by simpa using (by simpa using h : b = a).symm⟩

theorem numBeq_symm (a b : Number) : Number.beq a b = Number.beq b a := by
  cases a <;> cases b <;> first | rfl | exact BEq.comm | exact feq_symm ..

/-- By the case structure of `Value.beq`; off the diagonal both sides are `false`. -/
theorem beq_symm_both :
    (∀ a b : Value, Value.beq a b = Value.beq b a) ∧
    (∀ xs ys : List Value, Value.beqList xs ys = Value.beqList ys xs) := by
  apply Value.beq.mutual_induct
  · rfl
  · rfl
  · intro a b; rw [Value.beq, Value.beq, BEq.comm]
  · intro a b; rw [Value.beq, Value.beq, numBeq_symm]
  iterate 5 exact fun a b => by rw [Value.beq, Value.beq, BEq.comm]
  · intro a d a' d' ih ih'; rw [Value.beq, Value.beq, ih, ih']
  · intro xs ys ih; rw [Value.beq, Value.beq, ih]
  · intro a b h1 h2 h3 h4 h5 h6 h7 h8 h9 h10 h11
    rw [Value.beq.eq_12 a b h1 h2 h3 h4 h5 h6 h7 h8 h9 h10 h11,
      Value.beq.eq_12 b a (fun p q => h1 q p) (fun p q => h2 q p) (fun _ _ p q => h3 _ _ q p)
        (fun _ _ p q => h4 _ _ q p) (fun _ _ p q => h5 _ _ q p) (fun _ _ p q => h6 _ _ q p)
        (fun _ _ p q => h7 _ _ q p) (fun _ _ p q => h8 _ _ q p) (fun _ _ p q => h9 _ _ q p)
        (fun _ _ _ _ p q => h10 _ _ _ _ q p) (fun _ _ p q => h11 _ _ q p)]
  · rfl
  · intro x xs y ys ih ih'; rw [Value.beqList, Value.beqList, ih, ih']
  · intro xs ys h1 h2
    rw [Value.beqList.eq_3 xs ys h1 h2,
      Value.beqList.eq_3 ys xs (fun p q => h1 q p) (fun _ _ _ _ p q => h2 _ _ _ _ q p)]

theorem beq_symm : ∀ a b : Value, Value.beq a b = Value.beq b a := beq_symm_both.1
theorem beqList_symm : ∀ xs ys : List Value, Value.beqList xs ys = Value.beqList ys xs :=
  beq_symm_both.2

theorem eqV_symm (a b : Value) : eqV a b = eqV b a := by
  simp only [eqLoop_iff, beq_symm a b]

mutual
/-- No NaN anywhere inside the value. -/
def nanFree : Value → Bool
  | .number (.flt b) => !F64.isNaN b
  | .cons a d => nanFree a && nanFree d
  | .vector xs => nanFreeList xs
  | _ => true
def nanFreeList : List Value → Bool
  | [] => true
  | x :: xs => nanFree x && nanFreeList xs
end

theorem feq_refl (b : Nat) (h : F64.isNaN b = false) : F64.feq b b = true := by
  simp [F64.feq, h]

mutual
theorem beq_refl : ∀ v : Value, nanFree v = true → Value.beq v v = true
  | .cons a d, h => by
    simp only [nanFree, Bool.and_eq_true] at h
    rw [Value.beq, beq_refl a h.1, beq_refl d h.2]; rfl
  | .vector xs, h => by
    simp only [nanFree] at h
    rw [Value.beq, beqList_refl xs h]
  | .number n, h => by
    cases n with
    | flt b => simp only [nanFree, Bool.not_eq_true'] at h; exact feq_refl b h
    | pos n => exact beq_self_eq_true n
    | neg i => exact beq_self_eq_true i
  | .nil, _ | .null, _ => rfl
  | .bool _, _ | .char _, _ | .string _, _ | .symbol _, _ | .keyword _, _ | .bytes _, _ =>
    beq_self_eq_true _
theorem beqList_refl : ∀ xs : List Value, nanFreeList xs = true → Value.beqList xs xs = true
  | [], _ => rfl
  | x :: xs, h => by
    simp only [nanFreeList, Bool.and_eq_true] at h
    rw [Value.beqList, beq_refl x h.1, beqList_refl xs h.2]; rfl
end

theorem eqV_refl (v : Value) (h : nanFree v = true) : eqV v v = true := by
  rw [eqLoop_iff]; exact beq_refl v h

/-- The hypothesis is needed: a list holding a NaN is not equal to itself (IEEE), for the
    hand-written loop as for the derived comparison. -/
theorem eqV_nan_irrefl :
    eqV (.cons (.number (.flt 0x7ff8000000000000)) .null)
        (.cons (.number (.flt 0x7ff8000000000000)) .null) = false := by decide

/-- `-0.0 == 0.0` inside a list: equal values need not be identical. -/
theorem eqV_zero_signs :
    eqV (.cons (.number (.flt 0x8000000000000000)) .null) (.cons (.number (.flt 0)) .null) = true := by
  decide

/-- `v.clone() == v` and `v == v.clone()` for NaN-free `v`. -/
theorem clone_eqV (v : Value) (h : nanFree v = true) :
    ∃ c, cloneV v = .ok c ∧ eqV v c = true ∧ eqV c v = true :=
  ⟨v, clone_eq v, eqV_refl v h, eqV_refl v h⟩

example : nanFree (.cons (.number (.flt 0x8000000000000000)) (.vector [.null, .symbol [97]])) = true := by
  decide

/-- after at least one element: `list` holds the elements so far, `pair` is its last cell -/
theorem appendLoop_have (items : List Value) (tail : Value) (ys : List Value) (c : Value) :
    appendLoop (append ys (.cons c .null)) ys.length true items tail
      = .ok (append ys (.cons c (append items tail))) := by
  induction items generalizing ys c with
  | nil => simp only [appendLoop, if_true, setCdrAt_append, append]
  | cons item items ih =>
    have h := ih (ys ++ [c]) item
    have hset := setCarAt_append (ys ++ [c]) .nil .null item
    simp only [append_snoc, List.length_append, List.length_cons, List.length_nil,
      Nat.zero_add] at h hset
    simp only [appendLoop, if_true, setCdrAt_append, cellAt_append, hset, h, append]

/-- the loop of `Value::append` builds exactly `append xs t` (its `unwrap()`
    never fails), for every element sequence and every tail. -/
theorem appendImpl_eq (xs : List Value) (t : Value) : appendImpl xs t = .ok (append xs t) := by
  cases xs with
  | nil => rfl
  | cons x xs =>
    have h := appendLoop_have xs t [] x
    simp only [append, List.length_nil] at h
    simp only [appendImpl, appendLoop, Bool.false_eq_true, if_false, setCarAt, h, append]

theorem toVecLoop_eq (d : Value) : ∀ (acc : List Value) (a : Value),
    toVecLoop acc (consIter a d) = .ok (acc ++ (consToVec a d).1, (consToVec a d).2) := by
  induction d using cdr_induct with
  | stop t ht =>
    intro acc a
    rw [consIter.eq_2 a t ht.ne, consToVec.eq_2 a t ht.ne, toVecLoop, ht]; rfl
  | step x y ih =>
    intro acc a
    rw [consIter, consToVec, toVecLoop, ih, List.append_assoc]; rfl

/-- `Cons::to_vec` / `to_ref_vec` as written return the functional `consToVec` of ListOps.lean and
    never reach `unreachable!()`. -/
theorem toVec_impl_eq (a d : Value) : toVecLoop [] (consIter a d) = .ok (consToVec a d) :=
  toVecLoop_eq d [] a

/-- what the consuming iterator yields for the cell `p`: the car, and the cdr exactly when it ends the
    chain.  `IntoIter` is `Iter` mapped by `item` (`consIntoIter_map`, `intoIter_next`). -/
def item (p : Value × Value) : Value × Option Value := (p.1, if p.2.isCons then none else some p.2)

theorem consIntoIter_map (d : Value) : ∀ a, consIntoIter a d = (consIter a d).map item := by
  induction d using cdr_induct with
  | stop t ht =>
    intro a
    rw [consIntoIter.eq_2 a t ht.ne, consIter.eq_2 a t ht.ne, List.map_singleton, item,
      show t.isCons = false from ht]; rfl
  | step x y ih => intro a; rw [consIntoIter, consIter, ih x]; rfl

theorem intoVecLoop_map (cells : List (Value × Value)) (acc : List Value) :
    intoVecLoop acc (cells.map item) = toVecLoop acc cells := by
  induction cells generalizing acc with
  | nil => rfl
  | cons p cells ih =>
    obtain ⟨car, cdr⟩ := p
    cases h : cdr.isCons
    · simp [intoVecLoop, toVecLoop, item, h]
    · simp [intoVecLoop, toVecLoop, item, h, ih]

/-- `Cons::into_vec` as written. -/
theorem intoVec_impl_eq (a d : Value) : intoVecLoop [] (consIntoIter a d) = .ok (consToVec a d) := by
  rw [consIntoIter_map, intoVecLoop_map, toVec_impl_eq]

/-- the loop of `Cons::drop` drops one cell per element: each but the last with the emptied next
    cell `(Nil . Nil)` as its cdr, the last one with the tail — every element and the tail exactly once -/
theorem dropWhile_cells (x : Value) (xs : List Value) (t : Value) (ht : t.isCons = false) :
    dropWhile x (append xs t) =
      ((x :: xs).dropLast.map fun e => (e, Value.cons .nil .nil)) ++ [((x :: xs).getLast (by simp), t)] := by
  induction xs generalizing x with
  | nil => exact dropWhile.eq_2 x t (NotCons.ne ht)
  | cons y ys ih => rw [append, dropWhile, ih y]; rfl

/-- with fewer than three cells `Cons::drop` returns at once and leaves everything to the drop glue -/
theorem dropLoop_short (a d : Value) (h : ∀ x y z, d ≠ .cons x (.cons y z)) :
    Cons.dropLoop a d = ((a, d), []) := by
  unfold Cons.dropLoop
  split
  · rename_i x y z; exact absurd rfl (h x y z)
  · rfl

/-- with three cells or more the cell itself is left as `(Nil . Nil)` and the loop drops the chain -/
theorem dropLoop_long (a x y z : Value) :
    Cons.dropLoop a (.cons x (.cons y z)) = ((.nil, .nil), dropWhile a (.cons x (.cons y z))) := rfl

end ConsOps
end Lexpr
