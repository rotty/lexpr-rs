/-
  `stepOp` in normal form: a call runs one of five entry points (`Op.run`) and `Res.step` makes its
  result an item (`Op.item`) and the surviving parser.  What holds of the five entry points holds of
  every operation (`Op.run_forall`); what every call keeps and reports (`Res.Keeps`) holds along a
  history (`runHistory_forall`) and an iteration (`iterate_subset`).
-/
import LexprModel.Parse
namespace Lexpr
namespace Parse

def Op.Ret : Op → Type
  | .nextValue | .valueIterNext | .parserNext => Option Value
  | .nextDatum | .datumIterNext => Option Datum
  | .expectValue => Value
  | .expectDatum => Datum
  | .expectEnd => Unit

def Op.run (cfg : Cfg) : (op : Op) → P op.Ret
  | .nextValue | .valueIterNext | .parserNext => nextValueTop cfg
  | .nextDatum | .datumIterNext => nextDatumTop cfg
  | .expectValue => Parse.expectValue cfg
  | .expectDatum => Parse.expectDatum cfg
  | .expectEnd => Parse.expectEnd

def Op.item : (op : Op) → op.Ret → Item
  | .nextValue, some v | .valueIterNext, some v | .parserNext, some v => .value v
  | .nextDatum, some d | .datumIterNext, some d => .datum d
  | .nextValue, none | .valueIterNext, none | .parserNext, none => .none_
  | .nextDatum, none | .datumIterNext, none => .none_
  | .expectValue, v => .value v
  | .expectDatum, d => .datum d
  | .expectEnd, _ => .unit

def Res.step {α : Type} (mk : α → Item) : Res α → Item × Option St
  | .ok a s => (mk a, some s)
  | .err e s => (.err e, some s)
  | .panic p => (.panic p, none)
  | .fuel => (.fuel, none)

theorem stepOp_eq (cfg : Cfg) (op : Op) (s : St) :
    stepOp cfg op s = (op.run cfg s).step op.item := by
  cases op <;> simp only [stepOp, Op.run] <;> split <;> simp only [Res.step, Op.item, *]

theorem Op.run_forall {cfg : Cfg} {C : ∀ {α : Type}, P α → Prop} (hV : C (nextValueTop cfg))
    (hD : C (nextDatumTop cfg)) (hEV : C (Parse.expectValue cfg)) (hED : C (Parse.expectDatum cfg))
    (hEE : C Parse.expectEnd) : ∀ op : Op, C (op.run cfg)
  | .nextValue | .valueIterNext | .parserNext => hV
  | .nextDatum | .datumIterNext => hD
  | .expectValue => hEV
  | .expectDatum => hED
  | .expectEnd => hEE

theorem Op.item_forall {Q : Item → Prop} (hv : ∀ v, Q (.value v)) (hd : ∀ d, Q (.datum d))
    (hn : Q .none_) (hu : Q .unit) : ∀ (op : Op) (a : op.Ret), Q (op.item a)
  | .nextValue, some v | .valueIterNext, some v | .parserNext, some v => hv v
  | .nextDatum, some d | .datumIterNext, some d => hd d
  | .nextValue, none | .valueIterNext, none | .parserNext, none => hn
  | .nextDatum, none | .datumIterNext, none => hn
  | .expectValue, v => hv v
  | .expectDatum, d => hd d
  | .expectEnd, _ => hu

theorem Op.item_ne_err (op : Op) (a : op.Ret) (e : Err) : op.item a ≠ .err e :=
  Op.item_forall (Q := (· ≠ .err e)) (fun _ => nofun) (fun _ => nofun) nofun nofun op a

/-- The result leaves the parser, if it survives, in a state with `I`, and what it reports other
    than a return value satisfies `Q`. -/
def Res.Keeps {α : Type} (I : St → Prop) (Q : Item → Prop) : Res α → Prop
  | .ok _ s => I s
  | .err e s => I s ∧ Q (.err e)
  | .panic p => Q (.panic p)
  | .fuel => Q .fuel

theorem Res.Keeps.step {α : Type} {I : St → Prop} {Q : Item → Prop} {r : Res α} (h : r.Keeps I Q)
    {mk : α → Item} (hmk : ∀ a, Q (mk a)) :
    Q (r.step mk).1 ∧ ∀ s', (r.step mk).2 = some s' → I s' := by
  cases r with
  | ok a s => exact ⟨hmk a, fun _ e => Option.some.inj e ▸ h⟩
  | err e s => exact ⟨h.2, fun _ e => Option.some.inj e ▸ h.1⟩
  | panic p => exact ⟨h, nofun⟩
  | fuel => exact ⟨h, nofun⟩

section lift
variable {cfg : Cfg} {I : St → Prop} {Q : Item → Prop}

def StepKeeps (cfg : Cfg) (I : St → Prop) (Q : Item → Prop) : Prop :=
  ∀ op s, I s → Q (stepOp cfg op s).1 ∧ ∀ s', (stepOp cfg op s).2 = some s' → I s'

theorem StepKeeps.of_run (hv : ∀ v, Q (.value v)) (hd : ∀ d, Q (.datum d)) (hn : Q .none_)
    (hu : Q .unit) (h : ∀ (op : Op) s, I s → (op.run cfg s).Keeps I Q) : StepKeeps cfg I Q :=
  fun op s hs => stepOp_eq cfg op s ▸ (h op s hs).step (Op.item_forall hv hd hn hu op)

theorem runHistory_forall (h : StepKeeps cfg I Q) :
    ∀ (ops : List Op) (s : St), I s → ∀ it ∈ runHistory cfg ops s, Q it
  | [], _, _ => by simp [runHistory]
  | op :: ops, s, hs => by
    have h1 := h op s hs
    simp only [runHistory]
    split <;> rename_i heq <;> rw [heq] at h1 <;> intro x hx <;>
      rcases List.mem_cons.mp hx with rfl | hx
    · exact h1.1
    · exact runHistory_forall h ops _ (h1.2 _ rfl) x hx
    · exact h1.1
    · cases hx

end lift

theorem iterate_subset (cfg : Cfg) (op : Op) : ∀ (cap : Nat) (s : St),
    ∀ it ∈ iterate cfg op cap s, it ∈ runHistory cfg (List.replicate cap op) s
  | 0, _ => by simp [iterate]
  | cap + 1, s => by
    simp only [iterate, List.replicate_succ, runHistory]
    rcases stepOp cfg op s with ⟨i, _ | s'⟩
    · cases i <;> exact fun _ h => h
    · intro x hx
      have hx : x = i ∨ x ∈ iterate cfg op cap s' := by
        cases i <;> first
          | exact List.mem_cons.mp hx
          | exact .inl (List.mem_singleton.mp hx)
      exact List.mem_cons.mpr (hx.imp_right (iterate_subset cfg op cap s' x))

end Parse
end Lexpr
