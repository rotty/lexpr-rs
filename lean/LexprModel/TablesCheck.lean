/-
  The tables regenerated from /repo on every run (Generated/Tables.lean, exhaustive behavioural
  probes) agree with the tables the model uses.  Every statement ranges over the whole table and
  is checked by the kernel (`decide +kernel`); a table entry changed in the code makes the theorem
  named after the table fail (a `POW10` entry below `10^23` both `pow10_rounded` and `pow10_exact`).

  `delimiter_table`, `signSubsequent_table` and `symbolInitial_table` range over the bytes 1 … 127,
  as the harness probes them (`harness/src/tables.rs`): the probe reads a symbol that contains the
  byte, which a lone byte from 128 on cannot be part of, and 0 is what `peek_or_null` reports at the
  end of the input.
-/
import LexprModel.Parse
import LexprModel.Print
import LexprModel.Generated.Tables
namespace Lexpr
namespace TablesCheck
open Parse

def maskAgrees (mask : Nat) (f : UInt8 → Bool) (lo hi : Nat) : Bool :=
  (List.range (hi - lo)).all fun i => mask.testBit (lo + i) == f (UInt8.ofNat (lo + i))

theorem trivia_table : maskAgrees Gen.triviaMask isTrivia 0 256 = true := by decide +kernel
theorem comment_table : maskAgrees Gen.commentStartMask (fun b => b == 59) 0 256 = true := by
  decide +kernel
theorem symTermSlice_table : maskAgrees Gen.symTermSliceMask symTermSlice 0 256 = true := by
  decide +kernel
theorem symTermIo_table : maskAgrees Gen.symTermIoMask symTermIo 0 256 = true := by decide +kernel
theorem delimiter_table : maskAgrees Gen.delimiterMask isDelimiter 1 128 = true := by decide +kernel
/-- bytes after which a leading sign starts a symbol that runs on through the byte: the
    sign-subsequent set, the look-ahead delimiters that do not end a symbol, and the dot -/
theorem signSubsequent_table :
    maskAgrees Gen.signSubsequentMask
      (fun b => (isSignSubsequent b || isDelimiter b || b == 46) && !symTermSlice b) 1 128 = true := by
  decide +kernel
theorem charDelimiter_table : maskAgrees Gen.charDelimiterMask isCharDelimiter 0 256 = true := by
  decide +kernel
/-- bytes that start a symbol when no keyword syntax is enabled -/
theorem symbolInitial_table :
    maskAgrees Gen.symbolInitialMask
      (fun b => isAsciiAlpha b || isSymbolExtended b || b == 43 || b == 45) 1 128 = true := by
  decide +kernel

/-- A table given as a list is compared entry by entry in one pass (`zipIdx`): the kernel evaluates
    that in linear time, while looking every index up with `getD`, as the statements below are
    written, is quadratic. -/
theorem all_range_getD {α β : Type} [BEq β] (l : List α) (d : α) (n : Nat) (g : α → β) (f : Nat → β)
    (hn : n ≤ l.length) (h : (l.take n).zipIdx.all (fun p => g p.1 == f p.2) = true) :
    (List.range n).all (fun i => g (l.getD i d) == f i) = true := by
  rw [List.all_eq_true] at h ⊢
  intro i hi
  have hin : i < n := List.mem_range.mp hi
  have hi' : i < l.length := Nat.lt_of_lt_of_le hin hn
  rw [List.getD_eq_getElem?_getD, List.getElem?_eq_getElem hi', Option.getD_some]
  exact h (l[i], i) (List.mem_zipIdx_iff_getElem?.mpr (by simp [hi', hin]))

theorem hex_table :
    (List.range 256).all (fun i => Gen.hexVals.getD i 0 == (hexVal (UInt8.ofNat i)).getD 255) = true :=
  all_range_getD Gen.hexVals 0 256 id _ (by decide +kernel) (by decide +kernel)
theorem oct_table :
    (List.range 256).all (fun i => Gen.octVals.getD i 0 == (octVal (UInt8.ofNat i)).getD 255) = true :=
  all_range_getD Gen.octVals 0 256 id _ (by decide +kernel) (by decide +kernel)

def bytesOfNats (l : List Nat) : List UInt8 := l.map UInt8.ofNat

theorem print_r6rs_str_table :
    (List.range 128).all (fun i =>
      bytesOfNats (Gen.printR6rsStr.getD i []) ==
        asc "\"" ++ Print.escapeStr .r6rs [UInt8.ofNat i] ++ asc "\"") = true :=
  all_range_getD Gen.printR6rsStr [] 128 bytesOfNats _ (by decide +kernel) (by decide +kernel)
theorem print_elisp_str_table :
    (List.range 128).all (fun i =>
      bytesOfNats (Gen.printElispStr.getD i []) ==
        asc "\"" ++ Print.escapeStr .elisp [UInt8.ofNat i] ++ asc "\"") = true :=
  all_range_getD Gen.printElispStr [] 128 bytesOfNats _ (by decide +kernel) (by decide +kernel)
theorem print_default_str_table :
    (List.range 128).all (fun i =>
      bytesOfNats (Gen.printDefaultStr.getD i []) ==
        asc "\"" ++ Print.escapeStr .r6rs [UInt8.ofNat i] ++ asc "\"") = true :=
  all_range_getD Gen.printDefaultStr [] 128 bytesOfNats _ (by decide +kernel) (by decide +kernel)
theorem print_r6rs_char_table :
    (List.range 129).all (fun i => bytesOfNats (Gen.printR6rsChar.getD i []) == Print.schemeChar i)
      = true :=
  all_range_getD Gen.printR6rsChar [] 129 bytesOfNats _ (by decide +kernel) (by decide +kernel)
theorem print_elisp_char_table :
    (List.range 129).all (fun i => bytesOfNats (Gen.printElispChar.getD i []) == Print.elispChar i)
      = true :=
  all_range_getD Gen.printElispChar [] 129 bytesOfNats _ (by decide +kernel) (by decide +kernel)

def codeOfNat : Nat → Option Code
  | 0 => some .eofList | 1 => some .eofVector | 2 => some .eofString | 3 => some .eofValue
  | 4 => some .eofChar | 5 => some .expectedSomeIdent | 6 => some .mismatchedParenthesis
  | 7 => some .expectedSomeValue | 8 => some .expectedVector | 9 => some .expectedOctet
  | 10 => some .invalidEscape | 11 => some .invalidNumber | 12 => some .invalidSymbol
  | 13 => some .numberOutOfRange | 14 => some .invalidUnicodeCodePoint
  | 15 => some .invalidCharacterConstant | 16 => some .trailingCharacters
  | 17 => some .recursionLimitExceeded | _ => none

def catNo : Category → Nat | .io => 0 | .syntax => 1 | .eof => 2

/-- the documented io::ErrorKind: InvalidData (0) for syntax, UnexpectedEof (1) for EOF -/
def documentedKind : Category → Nat | .syntax => 0 | .eof => 1 | .io => 2

/-- Every one of the 18 syntax codes was triggered, classified as the model classifies it, and
    converted to the documented `io::ErrorKind`; the injected read error kept its category,
    kind and payload. -/
theorem error_table :
    Gen.errorTable.length = 19 ∧
    (Gen.errorTable.all fun (c, got, cat, kind) =>
      got == c &&
      (match codeOfNat c with
       | some code => cat == catNo code.category && kind == documentedKind code.category
       | none => c == 18 && cat == 0 && kind == 2)) = true := by decide +kernel

/-- the deepest accepted nesting is the same for every nesting construct, equals the model's
    limit (128 - 1) and is at least 100 -/
theorem depth_table : Gen.depthLimits.all (fun n => n == 127) = true := by decide +kernel

/-- `F64.rn` with the binary logarithm supplied instead of computed -/
def rnWith (e : Int) (n d : Nat) : Nat :=
  let ee : Int := if e < -1022 then -1022 else e
  let p : Int := ee - 52
  let m : Nat := if p ≥ 0 then F64.rne n (d * 2 ^ p.toNat) else F64.rne (n * 2 ^ (-p).toNat) d
  let bits := (ee + 1022).toNat * F64.two52 + m
  if bits ≥ F64.infBits then F64.infBits else bits

theorem rn_of_log {n L : Nat} (h1 : 2 ^ L ≤ n) (h2 : n < 2 ^ (L + 1)) :
    F64.rn n 1 = rnWith L n 1 := by
  have hn : n ≠ 0 := fun h => by subst h; exact absurd h1 (Nat.not_le.mpr (Nat.two_pow_pos L))
  have hl : Nat.log2 n = L := (Nat.log2_eq_iff hn).mpr ⟨h1, h2⟩
  have h0 : Nat.log2 1 = 0 := by decide
  simp only [F64.rn, rnWith, F64.ilog2, hl, h0, Int.natCast_zero, Int.sub_zero, Int.natCast_nonneg,
    ge_iff_le, if_true, Int.toNat_natCast, Nat.one_mul, decide_eq_true_eq, Nat.not_lt.mpr h1,
    if_false, hn, false_or, Nat.one_ne_zero]

/-- One entry `b` of the table against `10^k`.  `Nat.log2` runs one step per bit in the kernel, and
    `F64.rn` would run it afresh for each of the 309 powers; the exponent field of the entry itself
    says what the logarithm must be, and two comparisons confirm it. -/
def powOK (b k : Nat) : Bool :=
  let L := b / F64.two52 - 1023
  2 ^ L ≤ 10 ^ k && 10 ^ k < 2 ^ (L + 1) && b == rnWith L (10 ^ k) 1

theorem powOK_sound (b k : Nat) (h : powOK b k = true) : (id b == F64.rn (10 ^ k) 1) = true := by
  simp only [powOK, Bool.and_eq_true, decide_eq_true_eq] at h
  rw [rn_of_log h.1.1 h.1.2]; exact h.2

theorem pow10_rounded :
    Gen.pow10Bits.length = 309 ∧
    (List.range 309).all (fun k => Gen.pow10Bits.getD k 0 == F64.rn (10 ^ k) 1) = true :=
  ⟨by decide +kernel,
   all_range_getD Gen.pow10Bits 0 309 id _ (by decide +kernel)
     (List.all_eq_true.mpr fun p hp => powOK_sound p.1 p.2
       (List.all_eq_true.mp
         (show ((Gen.pow10Bits.take 309).zipIdx.all fun p => powOK p.1 p.2) = true by decide +kernel)
         p hp))⟩

theorem pow10_exact :
    (List.range 23).all (fun k =>
      let (m, p) := F64.decode (Gen.pow10Bits.getD k 0)
      p ≤ 0 && m == 10 ^ k * 2 ^ (-p).toNat || (p > 0 && m * 2 ^ p.toNat == 10 ^ k)) = true := by
  decide +kernel

end TablesCheck
end Lexpr
