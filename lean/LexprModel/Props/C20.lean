/-
  C20 — accessors, conversions and comparisons are coherent.
-/
import LexprModel.Value
namespace Lexpr
namespace Value

/-- the kind predicates, in `kind` order, are the indicator of `kind v` -/
theorem kindFlags_eq (v : Value) : v.kindFlags = (List.range 11).map (· == v.kind) := by
  cases v <;> rfl

/-- exactly one of the eleven kind predicates holds: the one numbered `kind v` -/
theorem C20_one_kind (v : Value) :
    ∀ i, i < 11 → (v.kindFlags.getD i false = true ↔ i = v.kind) := by
  intro i hi
  rw [kindFlags_eq, List.getD_eq_getElem?_getD, List.getElem?_map, List.getElem?_range hi]
  exact beq_iff_eq

/-- each `is_x` is `as_x().is_some()` by definition; `as_name` is `Some` exactly for strings,
    symbols and keywords -/
theorem C20_as_name (v : Value) :
    v.asName.isSome = (v.isString || v.isSymbol || v.isKeyword) := by
  cases v <;> rfl

theorem C20_as_name_payload (v : Value) (s : List UInt8) :
    v.asName = some s ↔ (v = string s ∨ v = symbol s ∨ v = keyword s) := by
  cases v <;> simp [asName]

def inI64 (i : Int) : Prop := i64Min ≤ i ∧ i ≤ i64Max
def inU64 (n : Nat) : Prop := n ≤ u64Max

attribute [local simp] asI64 asU64 asF64 isF64 asNumber Number.asI64 Number.asU64 Number.asF64
  Number.isF64 Option.bind Number.ofSigned Number.ofUnsigned Number.ofF64

/-- `From<iN>`: as_i64 returns the integer; as_u64 exactly when it is non-negative -/
theorem C20_from_signed (i : Int) (h : inI64 i) :
    (number (Number.ofSigned i)).asI64 = some i ∧
    (number (Number.ofSigned i)).asU64 = (if i ≥ 0 then some i.toNat else none) ∧
    (number (Number.ofSigned i)).isF64 = false := by
  unfold inI64 i64Min i64Max at h
  by_cases hi : i ≥ 0
  · simp [hi, i64Max]
    omega
  · simp [hi]

/-- `From<uN>`: as_u64 returns the integer; as_i64 exactly when it fits -/
theorem C20_from_unsigned (n : Nat) (_h : inU64 n) :
    (number (Number.ofUnsigned n)).asU64 = some n ∧
    (number (Number.ofUnsigned n)).asI64 = (if (n : Int) ≤ i64Max then some (n : Int) else none) ∧
    (number (Number.ofUnsigned n)).isF64 = false := by
  simp

/-- a float is never an integer, and `as_f64` returns it unchanged -/
theorem C20_from_f64 (b : Nat) :
    (number (Number.ofF64 b)).asI64 = none ∧ (number (Number.ofF64 b)).asU64 = none ∧
    (number (Number.ofF64 b)).asF64 = some b ∧ (number (Number.ofF64 b)).isF64 = true := by
  simp

/-- `as_f64` of an integer is the integer converted to the nearest double (`rn n 1`) -/
theorem C20_as_f64_int (n : Nat) (i : Int) :
    (number (.pos n)).asF64 = some (F64.rn n 1) ∧ (number (.neg i)).asF64 = some (F64.ofInt i) := by
  simp [F64.ofNat]

/-- the payload accessors return what was put in -/
theorem C20_payload (s : List UInt8) (c : Nat) (b : Bool) (a d : Value) (xs : List Value) :
    (string s).asStr = some s ∧ (symbol s).asSymbol = some s ∧ (keyword s).asKeyword = some s ∧
    (bytes s).asBytes = some s ∧ (char c).asChar = some c ∧ (bool b).asBool = some b ∧
    (cons a d).asPair = some (a, d) ∧ (vector xs).asSlice = some xs := by
  simp [asStr, asSymbol, asKeyword, asBytes, asChar, asBool, asPair, asSlice]

/-- comparison with a primitive = comparison of the primitive with the accessor's result.
    `eqI64 … eqStr` model the helpers `eq_i64 … eq_str` of value/partial_eq.rs; the `PartialEq`
    impls (both operand orders, `&Value`, `&mut Value`) only call them and are not modelled. -/
theorem C20_cmp (v : Value) (i : Int) (n : Nat) (f : Nat) (b : Bool) (s : List UInt8) :
    v.eqI64 i = (v.asI64 == some i) ∧ v.eqU64 n = (v.asU64 == some n) ∧
    v.eqF64 f = (match v.asF64 with | some x => F64.feq x f | none => false) ∧
    v.eqBool b = (v.asBool == some b) ∧ v.eqStr s = (v.asStr == some s) := by
  refine ⟨?_, ?_, rfl, ?_, ?_⟩
  · simp only [eqI64]; cases v.asI64 <;> simp
  · simp only [eqU64]; cases v.asU64 <;> simp
  · simp only [eqBool]; cases v.asBool <;> simp
  · simp only [eqStr]; cases v.asStr <;> simp

/-- cross-sign: a non-negative i64 compares equal to the same u64 payload -/
theorem C20_cross_sign (n : Nat) (h : (n : Int) ≤ i64Max) :
    (number (Number.ofUnsigned n)).eqI64 (n : Int) = true ∧
    (number (Number.ofSigned (n : Int))).eqU64 n = true := by
  simp [eqI64, eqU64, h]

example : (number (Number.ofSigned (-5))).asI64 = some (-5) := by decide
example : inI64 i64Min ∧ inI64 i64Max ∧ inU64 u64Max := by
  unfold inI64 inU64 i64Min i64Max u64Max; omega

end Value
end Lexpr
