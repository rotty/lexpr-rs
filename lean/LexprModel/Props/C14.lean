/-
  C14 — serialization produces the documented S-expression shapes.
  In LexprModel/Proofs/SerdeRT.lean (imported here): `C14_shape_seq`, `C14_shape_tuple`, `C14_shape_struct`,
  `C14_shape_option`, `C14_shape_unit_variant`, `C14_shape_int`, and the acceptance and rejection clauses:
  `C14_accept_vector_for_seq`, `C14_accept_list_for_tuple(_variant)`, `C14_reject_improper_seq`,
  `C14_reject_improper_tuple`, `C14_reject_improper_tuple_variant` (`VariantAccess::tuple_variant` calls
  `deserialize_tuple`, so an improper tail beyond the last item is seen; `'` below: at the entry point) with
  `C14_tuple_variant_surplus` (a proper over-long payload is still accepted).  In this file: the remaining shapes.
-/
import LexprModel.Proofs.SerdeRT
namespace Lexpr
namespace Serde

/-- every integer is serialised as the integer of the same mathematical value, in normal form -/
theorem C14_int_value (w : IntTy) (n : Int) (h : w.lo ≤ n ∧ n ≤ w.hi) :
    serInt w n = .number (if n ≥ 0 then .pos n.toNat else .neg n) := by
  split
  · exact serInt_nonneg w n ‹_›
  · exact serInt_neg w n (by omega) h.1

theorem C14_int_accessors (w : IntTy) (n : Int) (h : w.lo ≤ n ∧ n ≤ w.hi) :
    (serInt w n).asI64 = (if n ≤ i64Max then some n else none) ∧
    (serInt w n).asU64 = (if n ≥ 0 then some n.toNat else none) := by
  by_cases hn : n ≥ 0
  · rw [serInt_nonneg w n hn, if_pos hn]
    show (if (n.toNat : Int) ≤ i64Max then some (n.toNat : Int) else none) = _ ∧ _
    rw [Int.toNat_of_nonneg hn]
    exact ⟨rfl, rfl⟩
  · rw [serInt_neg w n (by omega) h.1, if_neg hn, if_pos (by unfold i64Max; omega)]
    exact ⟨rfl, rfl⟩

/-- None is the empty list, Some(x) a one-element list -/
theorem C14_option (t : Ty) (d : Data) :
    ser (.option t) .none = some .null ∧
    ser (.option t) (.some d) = (ser t d).map fun v => .cons v .null := C14_shape_option t d

/-- unit and unit structs are the empty list; newtype structs are their content -/
theorem C14_unit_newtype (t : Ty) (d : Data) :
    ser .unit .unit = some .null ∧ ser .unitStruct .unit = some .null ∧
    ser (.newtypeStruct t) d = ser t d := ⟨rfl, rfl, rfl⟩

/-- chars are characters, strings strings, byte buffers byte vectors, booleans booleans -/
theorem C14_atoms (c : Nat) (s b : List UInt8) (x : Bool) :
    ser .char (.char c) = some (.char c) ∧ ser .str (.str s) = some (.string s) ∧
    ser .bytes (.bytes b) = some (.bytes b) ∧ ser .bool (.bool x) = some (.bool x) := ⟨rfl, rfl, rfl, rfl⟩

/-- sequences and sets are proper lists, tuples and tuple structs vectors -/
theorem C14_seq_tuple (t : Ty) (ts : TyList) (ds : List Data) (v : Value) :
    (ser (.seq t) (.seq ds) = some v → v.isList = true) ∧
    (ser (.set t) (.seq ds) = some v → v.isList = true) ∧
    (ser (.tuple ts) (.seq ds) = some v → v.isVector = true) ∧
    (ser (.tupleStruct ts) (.seq ds) = some v → v.isVector = true) := by
  refine ⟨?_, ?_, ?_, ?_⟩ <;> intro h <;> obtain ⟨xs, _, rfl⟩ := Option.map_eq_some_iff.1 h
  · exact isList_list xs
  · exact isList_list xs
  · rfl
  · rfl

/-- unit variants are symbols; newtype variants `(name . payload)`;
    tuple variants `(name item...)`; struct variants `(name (field . value)...)` -/
theorem C14_variants (name : List UInt8) (vs : VariantList) (t : Ty) (ts : TyList) (fs : FieldList)
    (p : Data) (ds : List Data) :
    serVariant (.cons name .unit vs) 0 .unit = some (.symbol name) ∧
    serVariant (.cons name (.newtype t) vs) 0 p = (ser t p).map (fun v => .cons (.symbol name) v) ∧
    serVariant (.cons name (.tuple ts) vs) 0 (.seq ds) =
      (serTuple ts ds).map (fun xs => .cons (.symbol name) (Value.list xs)) ∧
    serVariant (.cons name (.struct fs) vs) 0 (.seq ds) =
      (serFields fs ds).map (fun xs => .cons (.symbol name) (Value.list xs)) := by
  refine ⟨rfl, ?_, rfl, rfl⟩
  cases p <;> rfl

/-- struct fields are `(name . value)` cells with the field name as a symbol, in declaration order -/
theorem C14_struct_field (n : List UInt8) (t : Ty) (fs : FieldList) (d : Data) (ds : List Data) :
    serFields (.cons n t fs) (d :: ds) =
      (ser t d).bind fun v => (serFields fs ds).map fun vs => Value.cons (.symbol n) v :: vs := by
  simp only [serFields]
  cases ser t d <;> simp
  cases serFields fs ds <;> simp

/-- the rejection clause for the items of a tuple variant: `(name x… . tl)` with a non-list tail is a
    data error, however many items there are: `C14_reject_improper_tuple_variant` at the entry point,
    `from_value::<E>` of `(name x… . tl)` -/
theorem C14_reject_improper_tuple_variant' (vs : VariantList) (name : List UInt8) (j : Nat) (ts : TyList)
    (h : vs.find name 0 = some (j, .tuple ts))
    (xs : List Value) (hxs : xs ≠ []) (tl : Value) (hnull : tl.isNull = false) (hcons : tl.isCons = false) :
    de (.enum vs) (.cons (.symbol name) (Value.append xs tl)) = .dataErr :=
  (de_enum vs _).trans (C14_reject_improper_tuple_variant vs 0 name j ts h xs hxs tl hnull hcons)

example : ser (.tuple (.cons (.int .u8) (.cons .str .nil))) (.seq [.int 1, .str [116]]) =
    some (.vector [.number (.pos 1), .string [116]]) := by
  simp [ser, serTuple, serInt, Number.ofSigned]

end Serde
end Lexpr
