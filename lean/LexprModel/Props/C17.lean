/-
  C17 — only well-formed UTF-8 ever reaches a str.
  Fully proved (LexprModel/Proofs/Utf8Lemmas.lean: the automaton; Utf8Valid.lean, imported here; main theorems
  in namespace Lexpr.C17; the kernel-evaluated witnesses of the input clause are in Proofs/Utf8Input*Ex.lean):
   * the automaton: `run_append`, `valid_append`, `valid_ascii`, `valid_split_ascii` (a valid string
     splits into valid halves at any ASCII byte), `encode_valid`, `decodeFirst_encode` for every scalar;
   * printer: `valid_escapeStr` and `C17_print_valid` — for every value with valid payloads and every
     printer option set the text is valid and so is every single emission (what `Display` needs);
   * parser: `C17_symbol_bytes_valid`, `C17_r6rs_str_valid` — the two `from_utf8_unchecked` sites of the
     &str source return valid bytes given valid input; `C17_elisp_str_valid` — Emacs strings are
     always checked; the slice and stream sources validate on return;
   * end to end (LexprModel/Proofs/Utf8Parse.lean): `C17_token_valid` — every token;
     `C17_next_value_valid`, `C17_next_datum_valid`,
     `C17_from_valid`, `C17_from_datum_valid` — every string, symbol and keyword of every value any
     entry point returns is valid UTF-8, for every source, option set and input (valid input for the
     &str source, arbitrary bytes otherwise); `C17_parse_print_valid` — parse then print is valid.
  Proved here in addition: every byte at which a scanner may stop is ASCII; the checked conversions
  reject invalid bytes.
  The clause "INPUT that is not valid UTF-8 inside a string, symbol or character is rejected" (as opposed
  to: what is returned is valid), for the R6RS string syntax (the default) and every other option
  (Proofs/Utf8Parse.lean, Utf8InputTokNum.lean, Utf8InputTok.lean, Utf8InputAll.lean;
  namespaces `InTok`, `InAll`):
   * tokens: `InTok.C17_r6rs_str_input_valid(_iff)`, `C17_symbol_input_valid`, `C17_char_input_valid_r6rs`,
     `C17_char_input_valid_elisp`, and for every token of every kind `InTok.C17_token_input_valid` — an accepted
     token of a slice or stream source consumed valid UTF-8 (number scanners consume only ASCII);
   * whole inputs: `InAll.C17_whole_input_valid` / `C17_whole_input_valid_no_comment` (restated below as
     `C17_ill_formed_input_never_accepted`) and the datum variants — if `from_slice` / `from_reader` accepts
     `bytes` and every run of trivia is valid UTF-8 (in particular: no `;` at all) then `bytes` is valid UTF-8;
     `InAll.C17_whole_input_valid_iff`: ill-formed bytes can hide in comments and nowhere else
     (`comment_may_hide_ill_formed_bytes`: `1;` FF is accepted as 1; `r6rs_hypothesis_needed`: the Emacs string
     syntax is excluded because of the finding below).  This is exactly the rule the direct oracle checks.
  For EVERY option set (Proofs/Utf8InputTok.lean, Utf8InputAll.lean, Utf8InputAllOpts.lean;
  namespace `InAllOpts`): `C17_whole_input_valid_all(_no_comment)`, `C17_whole_input_valid_datum_all(_no_comment)`,
  `C17_token_input_valid_all` — the same conclusion with the R6RS hypothesis replaced by a syntactic one that is
  only needed under the Emacs Lisp string syntax: `NoByteEsc bytes`, no backslash is directly followed by a blank,
  `x` or an octal digit (restated below as `C17_ill_formed_input_never_accepted_all`).  It excludes exactly the
  escapes of the recorded finding and is necessary (`noByteEsc_needed_hex/_octal/_datum`); it is
  sufficient, not sharp (`"\x41"` is excluded too).  The arm `b' '` of
  `parse_elisp_escape` rejects a continuation byte behind the blank, so the blank need not be excluded: the
  `_num` theorems (`C17_whole_input_valid_all_num`, …, restated below as
  `C17_ill_formed_input_never_accepted_all_num(_datum)`) need `NoNumEsc bytes` only — no backslash directly
  followed by `x` or an octal digit — and the `NoByteEsc` statements are their corollaries;
  `InAllOpts.escaped_blank_inside_sequence_rejected_whole`: `"` C3 `\ ` A9 `"` is rejected.
  The token-level analysis for the Emacs Lisp string syntax, where escape output and raw input meet in one buffer that is
  validated as a whole (Proofs/Utf8InputLoop.lean):
   * `C17_elisp_backslash_continuation_rejected` — a backslash followed by a continuation byte is an error
     in every state (/repo c74523a; `C17_repair29_input_rejected` is such an input);
   * `InLoop.C17_elisp_input_valid`, `InLoop.C17_elisp_input_valid_unibyte`, `InLoop.C17_elisp_input_valid_iff`,
     `InLoop.C17_elisp_token_input_valid` (restated below as `C17_elisp_input_clause`): for every source, fuel
     and state, if the string token is accepted and consumed the bytes `w`, then `w` is valid UTF-8 — UNLESS
     one of exactly two things happened, recorded by flags of an instrumented copy of the loop that is proved
     to agree with the model's loop (`parseElispStrT_agrees`): a numeric escape appended a byte >= 0x80 (`hi`),
     or an escaped blank was read while the buffer ended inside a sequence (`bl`); for a unibyte result the
     exception is a byte >= 0x80 directly after a backslash (`nc`; such input comes back as bytes, which the
     property allows).  Each exception is necessary: `C17_numeric_escape_completes_sequence` / `InLoop.hi_is_needed`
     (`"` C3 `\xa9"` is read as the string é), `InLoop.unibyte_catchall_raw_byte`; both are behaviours of the
     real code.  The exception `bl` is closed in the code: `InLoop.escaped_blank_inside_sequence_rejected` (`"` C3 `\ ` A9 `"`
     is an error), and for a string token `bl` is not a hypothesis:
     `InLoop.C17_elisp_input_valid_noblank`, `InLoop.C17_elisp_token_input_valid_noblank` (below as
     `C17_elisp_input_clause_noblank`).  The flag can rise on an accepted string together with `hi`
     (`InLoop.bl_still_set_string`), and `InLoop.C17_elisp_input_sync` needs it for a byte string
     (`InLoop.bl_needed_for_sync`).  So the clause as a whole is
     FALSE of the model and of the code in exactly the class of the recorded finding
     `[escape joins an ill-formed sequence]`, and true everywhere else.
  Histories (Proofs/Utf8InputHist.lean): `C17_history_consumed_valid` — any interleaving of `next_value`,
  `next_datum`, iterator steps, `expect_value`, `expect_datum`, `expect_end` on one parser over a slice or stream:
  while every call so far succeeded, the bytes consumed so far are valid UTF-8 (side conditions `TV` and, Emacs
  Lisp strings, `NoNumEsc`, both asked of the input the history starts from); `C17_history_ill_formed_prefix_fails`
  is the rule of the direct oracle for histories.
-/
import LexprModel.Proofs.Utf8Valid
import LexprModel.Proofs.Utf8Parse
import LexprModel.Proofs.Utf8InputLoop
import LexprModel.Proofs.Utf8InputAll
import LexprModel.Proofs.Utf8InputAllOpts
import LexprModel.Proofs.Utf8InputHist
import LexprModel.Proofs.Utf8InputLoopEx
import LexprModel.Proofs.Utf8InputAllOptsEx
namespace Lexpr
namespace Parse

/-- every byte at which a symbol, a string body or a character name may end is ASCII:
    terminators, delimiters, the quote and the backslash -/
theorem C17_stop_bytes_ascii (b : UInt8)
    (h : symTermSlice b = true ∨ symTermIo b = true ∨ isCharDelimiter b = true ∨ isDelimiter b = true ∨
         b = 34 ∨ b = 92) : b < 0x80 := by
  rcases h with h | h | h | h | rfl | rfl
  · exact U8.symTerm_ascii (m := .slice) h
  · exact U8.symTerm_ascii (m := .io) h
  · exact U8.isCharDelimiter_ascii h
  · exact U8.isDelimiter_ascii h
  · decide
  · decide

/-- the checked conversion (`as_str`) of the slice and stream sources accepts exactly valid bytes -/
theorem C17_finishStr_checked (bytes : List UInt8) (s : St) (h : s.rd.mode ≠ .str) :
    (Utf8.valid bytes = true → finishStr false bytes s = .ok bytes s) ∧
    (Utf8.valid bytes = false → ∃ l c, finishStr false bytes s = .err (.syntax .invalidUnicodeCodePoint l c) s) := by
  have hm : (s.rd.mode == Mode.str) = false := by cases hmode : s.rd.mode <;> simp_all
  constructor <;> intro hv <;>
    simp [finishStr, getMode, bind, P.bind, hm, hv, pure, P.pure, errAt]

/-- Emacs strings are validated for every source, the &str source included -/
theorem C17_finishStr_elisp (bytes : List UInt8) (s : St) (hv : Utf8.valid bytes = false) :
    ∃ l c, finishStr true bytes s = .err (.syntax .invalidUnicodeCodePoint l c) s := by
  simp [finishStr, getMode, bind, P.bind, hv, errAt]

/-- a backslash followed by a UTF-8 continuation byte is rejected by `parse_elisp_escape`, whatever has
    been read so far (/repo c74523a) -/
theorem C17_elisp_backslash_continuation_rejected (fuel : Nat) (acc : List UInt8) (S : St) (c : UInt8)
    (t : List UInt8) (h : S.rd.rest = c :: t) (hc : 128 ≤ c ∧ c ≤ 191) :
    ∃ l k S', parseElispEscape fuel acc S = .err (.syntax .invalidUnicodeCodePoint l k) S' :=
  elisp_escape_continuation_rejected fuel acc S c t h hc

/-- `"` F3 9F BB `\` 96 `"`, a backslash in front of the last continuation byte of a sequence,
    is rejected -/
theorem C17_repair29_input_rejected :
    Image.rejectsWith Image.cfgEl [0x22, 0xF3, 0x9F, 0xBB, 0x5C, 0x96, 0x22] .invalidUnicodeCodePoint = true :=
  ex_backslash_continuation_rejected

/-- the recorded finding: ill-formed input completed by a numeric escape is accepted -/
theorem C17_numeric_escape_completes_sequence :
    Utf8.valid [0x22, 0xC3, 0x5C, 0x78, 0x61, 0x39, 0x22] = false ∧
    Image.parsesTo Image.cfgEl [0x22, 0xC3, 0x5C, 0x78, 0x61, 0x39, 0x22] (.string [0xC3, 0xA9]) = true ∧
    Image.parsesTo Image.cfgEl [0x22, 0xC3, 0xA9, 0x22] (.string [0xC3, 0xA9]) = true :=
  numeric_escape_completes_sequence

/-- the input clause for Emacs Lisp strings at the token level: an accepted string token consumed valid
    UTF-8 unless a byte escape (`hi`) or an escaped blank inside a sequence (`bl`) joined an ill-formed
    sequence; an accepted unibyte token consumed valid UTF-8 unless a byte >= 0x80 followed a backslash -/
theorem C17_elisp_input_clause {cfg : Cfg} {fuel : Nat} {S S' : St} {tok : Token}
    {w : List UInt8} (h : parseToken cfg fuel 34 S = .ok tok S')
    (hel : cfg.opts.string = .elisp) (hpk : ∃ tl, S.rd.rest = 34 :: tl)
    (hw : S.rd.rest = w ++ S'.rd.rest) :
    ∃ S1 r fl, S.rd.rest = 34 :: S1.rd.rest ∧
      InLoop.parseElispStrT fuel [] false false false {} S1 = .ok (r, fl) S' ∧
      tok = InLoop.tokOf r ∧
      ((∃ s, tok = .string s) → fl.hi = false → fl.bl = false → Utf8.valid w = true) ∧
      ((∃ b, tok = .bytes b) → fl.nc = false → Utf8.valid w = true) :=
  InLoop.C17_elisp_token_input_valid h hel hpk hw

/-- the same with nothing asked of `bl`: the reader rejects a continuation byte after an escaped
    blank, so for a string token only `hi` is an exception -/
theorem C17_elisp_input_clause_noblank {cfg : Cfg} {fuel : Nat} {S S' : St} {tok : Token}
    {w : List UInt8} (h : parseToken cfg fuel 34 S = .ok tok S')
    (hel : cfg.opts.string = .elisp) (hpk : ∃ tl, S.rd.rest = 34 :: tl)
    (hw : S.rd.rest = w ++ S'.rd.rest) :
    ∃ S1 r fl, S.rd.rest = 34 :: S1.rd.rest ∧
      InLoop.parseElispStrT fuel [] false false false {} S1 = .ok (r, fl) S' ∧
      tok = InLoop.tokOf r ∧
      ((∃ s, tok = .string s) → fl.hi = false → Utf8.valid w = true) ∧
      ((∃ b, tok = .bytes b) → fl.nc = false → Utf8.valid w = true) :=
  InLoop.C17_elisp_token_input_valid_noblank h hel hpk hw

/-- the oracle's rule as a theorem: input of a slice or stream source that has no `;`, is accepted as a whole
    under the R6RS string syntax (any other options), is valid UTF-8 — ill-formed input is never accepted -/
theorem C17_ill_formed_input_never_accepted {cfg : Cfg} {mode : Mode} {bytes : List UInt8}
    {faulty : Bool} {v : Value} {S' : St}
    (h : fromTrait cfg (initSt mode bytes faulty) = .ok v S')
    (hr6 : cfg.opts.string = .r6rs) (hm : mode ≠ .str) (hno : ∀ b ∈ bytes, b ≠ 59) :
    Utf8.valid bytes = true :=
  InAll.C17_whole_input_valid_no_comment h hr6 hm hno

/-- every option set: the Emacs Lisp string syntax needs the syntactic side condition `NoByteEsc` (no
    backslash directly followed by a blank, `x` or an octal digit), which excludes exactly the recorded finding -/
theorem C17_ill_formed_input_never_accepted_all {cfg : Cfg} {mode : Mode} {bytes : List UInt8}
    {faulty : Bool} {v : Value} {S' : St}
    (h : fromTrait cfg (initSt mode bytes faulty) = .ok v S')
    (hm : mode ≠ .str) (hno : ∀ b ∈ bytes, b ≠ 59) (hnb : InAllOpts.NoByteEsc bytes) :
    Utf8.valid bytes = true :=
  InAllOpts.C17_whole_input_valid_all_no_comment h hm hno hnb

theorem C17_ill_formed_input_never_accepted_all_datum {cfg : Cfg} {mode : Mode} {bytes : List UInt8}
    {faulty : Bool} {d : Datum} {S' : St}
    (h : fromTraitDatum cfg (initSt mode bytes faulty) = .ok d S')
    (hm : mode ≠ .str) (hno : ∀ b ∈ bytes, b ≠ 59) (hnb : InAllOpts.NoByteEsc bytes) :
    Utf8.valid bytes = true :=
  InAllOpts.C17_whole_input_valid_datum_all_no_comment h hm hno hnb

/-- only the numeric escapes have to be excluded (`NoNumEsc`: no backslash directly followed by `x`
    or an octal digit): the reader rejects a continuation byte after an escaped blank -/
theorem C17_ill_formed_input_never_accepted_all_num {cfg : Cfg} {mode : Mode} {bytes : List UInt8}
    {faulty : Bool} {v : Value} {S' : St}
    (h : fromTrait cfg (initSt mode bytes faulty) = .ok v S')
    (hm : mode ≠ .str) (hno : ∀ b ∈ bytes, b ≠ 59) (hnb : InAllOpts.NoNumEsc bytes) :
    Utf8.valid bytes = true :=
  InAllOpts.C17_whole_input_valid_all_no_comment_num h hm hno hnb

theorem C17_ill_formed_input_never_accepted_all_num_datum {cfg : Cfg} {mode : Mode} {bytes : List UInt8}
    {faulty : Bool} {d : Datum} {S' : St}
    (h : fromTraitDatum cfg (initSt mode bytes faulty) = .ok d S')
    (hm : mode ≠ .str) (hno : ∀ b ∈ bytes, b ≠ 59) (hnb : InAllOpts.NoNumEsc bytes) :
    Utf8.valid bytes = true :=
  InAllOpts.C17_whole_input_valid_datum_all_no_comment_num h hm hno hnb

/-- the same through the location-tracking reader -/
theorem C17_ill_formed_input_never_accepted_datum {cfg : Cfg} {mode : Mode} {bytes : List UInt8}
    {faulty : Bool} {d : Datum} {S' : St}
    (h : fromTraitDatum cfg (initSt mode bytes faulty) = .ok d S')
    (hr6 : cfg.opts.string = .r6rs) (hm : mode ≠ .str) (hno : ∀ b ∈ bytes, b ≠ 59) :
    Utf8.valid bytes = true :=
  InAll.C17_whole_input_valid_datum_no_comment h hr6 hm hno

/-- **input clause over call histories, every option set** (Proofs/Utf8InputHist): whatever kinds of calls
    (`next_value`, `next_datum`, the three iterators, `expect_value`, `expect_datum`, `expect_end`) are made in
    whatever order on one parser over a slice or stream, as long as every call so far succeeded
    (`runAccepted … = some S'`) the bytes `w` consumed so far are valid UTF-8.  Side conditions as for single
    calls: trivia well-formed (`TV`: only comments may hide ill-formed bytes), `NoNumEsc` under the Emacs Lisp
    string syntax (necessary: the recorded finding). -/
theorem C17_history_consumed_valid {cfg : Cfg} {mode : Mode} {bytes w : List UInt8} {faulty : Bool}
    {ops : List Op} {S' : St}
    (h : InAllOpts.runAccepted cfg ops (initSt mode bytes faulty) = some S')
    (hm : mode ≠ .str) (htv : InAll.TV bytes)
    (hnb : cfg.opts.string = .elisp → InAllOpts.NoNumEsc bytes)
    (hw : bytes = w ++ S'.rd.rest) : Utf8.valid w = true :=
  InAllOpts.C17_history_consumed_valid h hm htv hnb hw

/-- the oracle's rule for histories: if the input up to some point is ill-formed (no `;`, no numeric escape),
    no all-successful history of calls gets the parser to that point -/
theorem C17_history_ill_formed_prefix_fails {cfg : Cfg} {mode : Mode} {bytes w rest : List UInt8}
    {faulty : Bool} {ops : List Op}
    (hm : mode ≠ .str) (hno : ∀ b ∈ bytes, b ≠ 59) (hnb : InAllOpts.NoNumEsc bytes)
    (hw : bytes = w ++ rest) (hbad : Utf8.valid w = false) :
    ∀ S', InAllOpts.runAccepted cfg ops (initSt mode bytes faulty) = some S' → S'.rd.rest ≠ rest :=
  InAllOpts.C17_history_ill_formed_prefix_fails hm hno hnb hw hbad

/-- `runAccepted` describes `runHistory`: all `ops.length` items were produced and each is a success -/
theorem C17_runAccepted_items {cfg : Cfg} (ops : List Op) {s s' : St}
    (h : InAllOpts.runAccepted cfg ops s = some s') :
    (runHistory cfg ops s).length = ops.length ∧
      ∀ it ∈ runHistory cfg ops s, InAllOpts.Item.accepted it = true :=
  InAllOpts.runAccepted_some_items ops h


/-- the history clause stated on `runHistory`, the function the correspondence runs against the real parser:
    if every item of the history is a success, the parser reached a state, and what it consumed to get there
    is valid UTF-8 -/
theorem C17_history_all_success_consumed_valid {cfg : Cfg} {mode : Mode} {bytes : List UInt8} {faulty : Bool}
    {ops : List Op}
    (hall : ∀ it ∈ runHistory cfg ops (initSt mode bytes faulty), InAllOpts.Item.accepted it = true)
    (hm : mode ≠ .str) (htv : InAll.TV bytes)
    (hnb : cfg.opts.string = .elisp → InAllOpts.NoNumEsc bytes) :
    ∃ S', InAllOpts.runAccepted cfg ops (initSt mode bytes faulty) = some S' ∧
      ∀ w, bytes = w ++ S'.rd.rest → Utf8.valid w = true := by
  obtain ⟨S', h⟩ := InAllOpts.runAccepted_of_items ops _ hall
  exact ⟨S', h, fun w hw => InAllOpts.C17_history_consumed_valid h hm htv hnb hw⟩

example : Utf8.valid [0xCE, 0xBB, 40, 120, 41] = true ∧ Utf8.valid [0xCE] = false ∧ Utf8.incomplete [0xCE] = true ∧
    Utf8.valid [0xC0, 0x80] = false ∧ Utf8.valid [0xED, 0xA0, 0x80] = false := by decide

end Parse
end Lexpr
