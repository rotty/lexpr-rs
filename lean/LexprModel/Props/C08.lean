/-
  C08 — each parser option changes exactly the tokens it governs.

  Proved for every option set (LexprModel/Proofs/Tokens.lean, imported here), on whole tokens
  (a run of non-terminator bytes followed by a terminator or the end of input):
   * `C08_letter`, `C08_nil`, `C08_t`, `C08_colon_postfix` with their frame lemmas: a letter-initial
     token is a postfix keyword / nil / t / symbol exactly as the three options `kwPostfix`, `nil`, `t`
     say, and no other option is consulted (`C08_frame_letter`);
   * `C08_colon_prefix`: `:name` is a keyword iff the colon-prefix spelling is enabled;
   * `C08_punct`, `C08_frame_punct`: `(`, `'`, `` ` ``, `,`, `,@` consult no option and expand to the
     fixed shorthand names; `C08_bracket`: `[` consults only `brackets`; `C08_frame_string`: `"` only
     `string`; `C08_elisp_char`, `C08_frame_qmark`: `?c` is a character only under Emacs character
     syntax (else a symbol, where only `kwPostfix` matters); `C08_hash_percent`: `#%name` only with
     the Racket option; `C08_digit`, `C08_frame_digit`: a digit-initial token under leading-digit
     symbols is a number only if the whole token is a numeric literal (`wholeNumber`);
   * `C08_quote_shorthand`: the shorthands expand to two-element lists headed by quote, quasiquote,
     unquote, unquote-splicing.
  Builder API of `parse::Options` (LexprModel/Proofs/Builder.lean, imported here; tied to the code by the
  `opts` operations: every chain of at most two builder calls from `new()`, `default()`, `elisp()`, and
  random longer chains, observed through the getters AND through the reader's behaviour on one probe
  token per option): `builder_frame` — a `with_*` call changes its own option and no other;
  `builder_commute`, `builder_last_wins`, `builder_addKeyword` (accumulates), `builder_setKeywords`
  (replaces), `builder_elisp`/`builder_default` (the presets are the documented chains),
  `builder_reachable` (all 1536 option sets are reachable).
  The remaining token classes (LexprModel/Proofs/Tokens2.lean, NumberEnd.lean; imported here):
   * `C08_sign`, `C08_sign_keyword`, `C08_sign_number(_only)`, `C08_frame_sign(_any)`: a sign-initial token is a
     symbol when the byte after the sign is the end, a delimiter, a sign-subsequent or a dot not followed by a
     digit — a postfix keyword exactly when it ends in `:` and that spelling is enabled — the error
     InvalidNumber for sign-dot-digit (`+.5`), otherwise whatever the number scanner makes of the whole token;
     no option is consulted unless the token ends in `:`;
   * `C08_nonascii(_keyword)`, `C08_frame_nonascii`: a token whose first scalar is non-ASCII is a symbol (or
     postfix keyword) iff that scalar is alphabetic, else ExpectedSomeValue, under every option set;
   * `C08_octothorpe_keyword`, `C08_frame_octothorpe`: `#:name` is the keyword iff the `#:` spelling is enabled,
     otherwise the error ExpectedSomeIdent reported behind `#:`; `C08_hash_fixed`: every other `#` token
     (`#t #f #nil #( #u8 #vu8 #\ #x #b #o #d`, junk) consults no option at all;
   * `C08_number_delimited`: whenever ANY token is read as a number the reader has stopped at the end of the
     input or in front of a delimiter — a token is a number only as a whole.
   * `C08_number_whole_token` (LexprModel/Spec/NumericLiteral.lean, Proofs/NumberWhole*.lean; imported here):
     whenever a token is read as a number, the bytes consumed are exactly a numeric literal of the C05 grammar
     (`numericLiteralShape`, a small decidable recogniser) and the reader stopped at the end of the input or in
     front of a delimiter — the clause "a token is read as a number only if the whole token is a numeric
     literal" in full, for every option set (the leading-digit path through `wholeNumber` included), both
     builds, all sources.
  The frame clause for whole inputs (LexprModel/Spec/Exercised.lean, Proofs/FrameTok.lean, Frame.lean, DepthInd.lean,
  ScanBase.lean, FrameScan.lean; imported here): `tokenOpts` names, per token, the options its reading may
  consult; `exercised cfg mode bytes` collects them over one flat scan of the input; **`C08_frame`** — two
  configurations of the same build that agree on every option in `exercised c1 mode bytes` give the same
  outcome of `from_str / from_slice / from_reader` on `bytes`: same value, or same error code and position,
  and the same final state — for every input (well-formed or not), every source, all 1536 x 1536 pairs.
  (`C08_frame_op` is the exact operational version; the flat scan over-approximates it: witnesses in FrameScan.)
  Kernel-checked examples at the end of Proofs/Tokens2.lean: `#true` as a whole input is rejected with
  TrailingCharacters (the reader takes `#t` and does not look behind the `t`; no option is involved); the two
  Boolean conditions of `C08_sign` are evaluated on `+.x` and `-...` (symbol reader), `+.5` (sign-dot-digit, the
  InvalidNumber arm) and `+5x` (number parser).
-/
import LexprModel.Proofs.Tokens
import LexprModel.Proofs.Builder
import LexprModel.Proofs.FrameScan
import LexprModel.Proofs.NumberEnd
import LexprModel.Proofs.NumberWhole
namespace Lexpr
namespace Parse

/-- `symbol_token` consults `kwPostfix` only; with it off the token is the symbol itself
    (`C08_symbol_token_off`) -/
theorem C08_symbol_token_frame (o o' : Options) (name : List UInt8) (h : o.kwPostfix = o'.kwPostfix) :
    symbolToken o name = symbolToken o' name :=
  C08.symbolToken_frame o o' name (.inl h)

theorem C08_symbol_token_off (o : Options) (name : List UInt8) (h : o.kwPostfix = false) :
    symbolToken o name = .symbol name := by simp [symbolToken, h]

/-- the four shorthands always expand to these head symbols -/
theorem C08_quote_names :
    Quote.quote.name = asc "quote" ∧ Quote.quasiquote.name = asc "quasiquote" ∧
    Quote.unquote.name = asc "unquote" ∧ Quote.unquoteSplicing.name = asc "unquote-splicing" := by
  refine ⟨rfl, rfl, rfl, rfl⟩

/-- Setting one parser option through the builder API leaves every other option as it was — the
    premise of "each option changes exactly the tokens it names". -/
theorem C08_builder_frame (o : Options) (st : Setter) (f : Field) (h : f ≠ st.field) :
    (o.set st).get f = o.get f := builder_frame o st f h

/-- every parser option set the properties quantify over is constructible through the public API -/
theorem C08_every_option_set (r : Options) : ∃ ops, Options.build Options.new ops = r :=
  builder_reachable r

end Parse
end Lexpr
