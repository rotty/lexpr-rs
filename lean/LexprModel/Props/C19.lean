/-
  C19 — parse errors carry an in-bounds location and truncation is reported as EOF.

  Proved in LexprModel/Proofs/Locations.lean and PrefixDet.lean (imported here; namespace
  Lexpr.Parse.Locations):
   * location clause, complete: `C19_location` / `C19_location_strong` / `C19_location_api` /
     `C19_location_history` — every syntax or EOF error raised by any entry point, any history of
     calls, any source (faulty or not) carries the position after a genuine prefix of the input;
     hence 1 ≤ line ≤ lines(input) and column ≤ length of that line (tighter than the property asks);
   * EOF classification: `C19_eof_only_at_end` (eofList / eofVector / eofValue are raised only with the
     input exhausted), `C19_eof_lexer`, `C19_syntax_at_end` (the seven syntax codes that can be raised
     at the very end of the input); `C19_eof_only_at_end_false` — the literal converse is false
     (`"\xZ" 1` reports eofString with input left) and is not part of C19;
   * truncation clause: `C19_prefix_det`, `C19_prefix_det_ok` (an outcome reached with input left
     does not depend on what follows), `C19_truncation_reads_all` (if the full text parses and a
     prefix does not, the prefix was read to its end), and, in LexprModel/Proofs/Truncation.lean and
     TruncHistory.lean (Trunc*.lean; imported here), the clause itself for every option set, both
     build features and every source: `C19_truncation`, `C19_truncation_datum` — the error on the
     proper prefix is of EOF category unless it is `NumberOutOfRange`; `C19_truncation_iff` — that
     exception is exactly the failure of the clause; `C19_truncation_history` — the same for any
     history of calls on one parser (the iterator API).  The clause as stated is FALSE
     (`C19_truncation_clause_false`): an integer part of more than 308 digits is out of range at
     the end of the input although `e-1` may follow (`C19_truncation_counterexample_long_integer`,
     `_fast`; known finding, both build features).  Two further cases, `#u8(#`
     (`C19_truncation_u8_hash`) and the surrogate-valued Emacs escapes `"\xD800`, `?\154000`,
     `"\N{U+D800` (examples in TruncExamples.lean), are repaired in /repo, and the model
     follows the repaired code (DESIGN.md section 9).
  Proved here: the classification clause, for the whole error table as
  regenerated from the code on this run, and the model's category function.
-/
import LexprModel.TablesCheck
import LexprModel.Proofs.Locations
import LexprModel.Proofs.TruncExamples
namespace Lexpr
namespace Parse

/-- the five EOF codes are exactly the codes classified as EOF -/
theorem C19_eof_codes (c : Code) :
    c.category = .eof ↔ (c = .eofList ∨ c = .eofVector ∨ c = .eofString ∨ c = .eofValue ∨ c = .eofChar) := by
  cases c <;> simp [Code.category]

/-- no syntax code is classified as I/O; an I/O error is never classified as syntax or EOF -/
theorem C19_io_category (e : Err) : e.category = .io ↔ e = .io := by
  rcases e with ⟨c, l, k⟩ | _
  · cases c <;> simp [Err.category, Code.category]
  · simp [Err.category]

/-- **C19_io_kind**: on the current build every one of the 18 syntax codes was raised by a concrete
    input, carried the category the model assigns, and converted to the documented `io::ErrorKind`
    (InvalidData for syntax, UnexpectedEof for EOF); an injected read error kept its own kind and
    payload. (Restates `TablesCheck.error_table`, which the kernel checks against the regenerated table.) -/
theorem C19_io_kind :
    Gen.errorTable.length = 19 ∧
    (Gen.errorTable.all fun (c, got, cat, kind) =>
      got == c &&
      (match TablesCheck.codeOfNat c with
       | some code => cat == TablesCheck.catNo code.category && kind == TablesCheck.documentedKind code.category
       | none => c == 18 && cat == 0 && kind == 2)) = true :=
  TablesCheck.error_table

/-- positions only move forward: consuming a byte never decreases the line -/
theorem advance_line (l c : Nat) (b : UInt8) : l ≤ (advance l c b).1 := by
  unfold advance; split <;> simp

example : (Code.eofValue).category = .eof ∧ (Code.invalidNumber).category = .syntax := by decide

end Parse
end Lexpr
