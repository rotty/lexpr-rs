/-
  C09 — `sexp!` builds the value the parser reads from the same S-expression.

  Macro side (LexprModel/Proofs/MacroSpec.lean, imported here): for the documented
  syntax as a tree type `Doc` with its rendering `toks` into the Rust token stream, the macro's token
  parser inverts `toks` for every well-formed tree (`C09_parse_inverts_toks`, lists, dotted lists with
  flattened tails, vectors), the generated code evaluates to the denoted value (`C09_eval_mv`), hence
  `expand env (toks d) = some (valueOf env d)` (`C09_expand`); an unquoted expression contributes
  exactly `Value::from(expr)`, also as a dotted tail (`C09_unquote`, `C09_unquote_tail`,
  `C09_unquote_expand`); tail flattening agrees with `Value::append` (`C09_tail_flatten*`).
  The well-formedness conditions are exactly the token-level ambiguities of Rust's tokenisation
  (a free-standing `-` before a NUMERIC literal, `:` before a literal or an identifier, the lone
  `.`), shown necessary by witnesses in that file (`minus_before_number_witness`).  A `-` before a
  string or character literal is the symbol `-` (parser.rs, `is_numeric_literal`): `(- "s")`,
  `(- 'a')`, `(- "s" 1)` are well formed and covered (`minus_before_string_tokens`,
  `C09_expand_minus_before_string`; end to end in LexprModel/Proofs/MacroMinus.lean, imported here:
  `C09_agree_minus_string/_char/_string_int`, `C09_agree_full_minus_string/_char/_escaped`,
  `C09_unquote_minus_string`, `C09_unquote_agree_minus_char`).
  Text side (LexprModel/Proofs/MacroText.lean, imported here): `stext d`, the S-expression
  text of a tree, equals the default printer's text of `valueOf d` (`stext_eq_print`), the default
  parser reads it as `valueOf d` (`C09_text`), hence `C09_agree`: for every well-formed tree in the
  sub-language `TextOK` (integers, strings and characters that need no escape, all symbol and
  keyword spellings, lists, dotted lists, vectors, nesting ≤ 127)
      expand env (toks d) = some (valueOf env d)  ∧  fromTrait cfg (initSt .slice (stext d)) = .ok (valueOf env d) _ ;
  `C09_text_literal` / `C09_agree_literal`: the same for the literal text with unmerged dotted tails
  (`(a . (b c))` reads as `(a b c)`); `C09_names`: every ASCII Rust identifier and every
  punctuation run but the lone `.` is a plain name.  Outside the theorem: floats, unquotes (no text),
  escapes in literals (rustc unescapes).
  Witnesses there: `(. 5)`, `#(. a)`, the 127-fold dotted literal.
  Extended text side (LexprModel/Proofs/MacroText2.lean with MacroText2Base, MacroText2Ex, MacroText2Embed;
  imported here): the syntax tree `Sx` adds float leaves with their written spelling (`DecLit`) and
  strings / characters of ARBITRARY content (a Rust literal reaches the macro unescaped; its equivalent
  S-expression text is the default printer's rendering, R6RS escapes); `C09_text2`, `C09_agree_full`
  (`TextOK2`: any valid UTF-8 string, any scalar character, `-0`, symbol names with a non-ASCII alphabetic
  initial, float leaves that are exactly readable in the build), `C09_agree_float_default` (digits below
  2^53 and |exponent| <= 22: macro and default parser give the same correctly rounded double, both signs),
  `C09_agree_float_nofast` (significand within `u64`, as 19 digits always are, and a finite value);
  `C09_agree_full_extends` (every `TextOK` tree is a `TextOK2` tree).
  Each float hypothesis is shown necessary by a kernel-checked witness that is also a behaviour of the
  real crate: `C09_float_window_needed` (`1e-23`), `C09_float_window_needed_8_5em30`,
  `C09_float_digits_needed` (`18446744073709553665.0`, 20 digits: one ulp apart in BOTH builds).
  Names: `C09_keyword_names_exact`, `C09_symbol_image`, `C09_space_symbol_no_text` (`#"a b"` has no
  text), `C09_dot_head_needed` (C13's dot-head condition seen through the macro).
  Unquotes (LexprModel/Proofs/MacroUnquote.lean, imported here): `C09_unquote_plug`, `C09_unquote_agree`
  (the macro on a tree with unquotes = the parser on the text of the plugged tree, at any depth),
  `C09_unquote_tail_list/_improper/_atom/_nested` (a dotted tail that evaluates to a list is merged as
  `Value::append` does).
  Tie: batches of generated `sexp!` invocations compiled against /repo, compared with `from_str`
  and with this model.
-/
import LexprModel.Proofs.MacroSpec
import LexprModel.Proofs.MacroText
import LexprModel.Proofs.MacroText2Ex
import LexprModel.Proofs.MacroText2Embed
import LexprModel.Proofs.MacroUnquote
import LexprModel.Proofs.MacroMinus
namespace Lexpr
namespace Macro

/-- the list parser's final step: a tail that is a list or a dotted list is merged into the
    elements -/
theorem C09_parseList_finish (f : Nat) (elements rl : List MV) (r : MV) :
    parseList f [] elements (some (.list rl)) = some (.list (elements ++ rl)) ∧
    parseList f [] elements (some (.improper rl r)) = some (.improper (elements ++ rl) r) ∧
    parseList f [] elements none = some (.list elements) :=
  ⟨parseList_nil f elements _, parseList_nil f elements _, parseList_nil f elements _⟩

/-- only a free-standing dot is the dotted-tail marker: a dot glued to more punctuation
    (as in `...`) starts a symbol -/
theorem C09_joint_dot_is_symbol :
    expand (fun _ => .nil) [.group true [.ident [97], .punct 46 .joint, .punct 46 .joint, .punct 46 .alone, .ident [98]]] =
      some (Value.list [.symbol [97], .symbol [46, 46, 46], .symbol [98]]) := by
  simp [expand, parse, parseList, parseIdentifier, isSymPunct, isIdPunct, eval, evalAll]

end Macro
end Lexpr
