/-
  C18 — deserialising any value is total and self-consistent.
  In LexprModel/Proofs/SerdeRT.lean (imported here), for every type of the universe and every value:
  `C18_total` (never a panic), `C18_data_error` (a value or a data-category error) and, for a well-formed type,
  `C18_typing` (a deserialised datum inhabits the type) and `C18_normalise` (serialising it and deserialising
  again returns the same datum).
  In this file: the instances for the primitive types (their visitors never panic and reject with a data error,
  for every value), and `C18_result_cases`: the result type of the model has no other category.
-/
import LexprModel.Proofs.SerdeRT
namespace Lexpr
namespace Serde

/-- the model's result type distinguishes exactly: a value, a data-category error, a panic -/
theorem C18_result_cases {α : Type} (r : DeRes α) : (∃ a, r = .ok a) ∨ r = .dataErr ∨ r = .panic := by
  cases r <;> simp

/-- the number visitors never panic -/
theorem C18_number_total (t : Ty) (n : Number) : deNumber t n ≠ .panic :=
  (deNumber_sat t n).ne_panic

/-- primitives: any value either deserialises or is rejected with a data error -/
theorem C18_prim_total (v : Value) :
    de .bool v ≠ .panic ∧ de .char v ≠ .panic ∧ de .str v ≠ .panic ∧ de .bytes v ≠ .panic ∧
    de .unit v ≠ .panic ∧ de .unitStruct v ≠ .panic ∧ de .f64 v ≠ .panic ∧ de .f32 v ≠ .panic :=
  ⟨C18_total _ v, C18_total _ v, C18_total _ v, C18_total _ v, C18_total _ v, C18_total _ v,
    C18_total _ v, C18_total _ v⟩

theorem C18_int_total (w : IntTy) (v : Value) : de (.int w) v ≠ .panic := C18_total _ v

/-- an integer out of range for the width is rejected, not wrapped -/
theorem C18_int_range (w : IntTy) (n : Nat) (h : (n : Int) > w.hi) :
    de (.int w) (.number (.pos n)) = .dataErr := by
  rw [de, deNumber, if_neg (by omega)]

example : de (.int .u8) (.number (.pos 256)) = .dataErr := C18_int_range .u8 256 (by simp [IntTy.hi])

end Serde
end Lexpr
