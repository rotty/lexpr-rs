/-
  C15 — list construction, traversal, conversion and indexing are consistent.
  Reference model: an element sequence `xs` and a tail `t` that is not a pair (a pair tail merges
  into the chain: `C15_append_merge`).  Every theorem is for all `xs`, `t`, indices and keys.

  The implementations themselves (LexprModel/ConsOps.lean: `Value::append` as written with
  `set_cdr` / `cdr_mut` / `as_cons_mut().unwrap()`, the `to_vec` / `into_vec` loops with their
  `unreachable!()`, the iterator state machines with `peek` / `peek_mut` / `is_empty`, the
  mutators `set_car` / `set_cdr` / `car_mut` / `cdr_mut` / `into_pair`, and the hand-written
  `Clone` / `PartialEq` loops of `Cons` and of a datum's span information) are proved against the
  functional definitions used below in LexprModel/Proofs/ConsOps*.lean (namespace `Lexpr.ConsOps`;
  those files import this one): `appendImpl_eq`, `toVec_impl_eq`, `intoVec_impl_eq`,
  `clone_eq` (the clone is the value itself, no panic site reachable), `eqLoop_iff` (the hand-written
  `==` is the structural comparison, IEEE on floats), `setCarAt_ref` / `setCdrAt_ref` and
  `after_setCar_*` / `after_setCdr_*` (what every traversal of this file sees after a store into
  cell i), `iter_peek_next`, `intoIter_peek_next`, `listIter_isEmpty_iff`, `script_*` (a store
  followed by an observation, and single steps, on the script interpreter).  Tied to the code by
  the `clone`, `dclone` and `consmut` operations of the check.
-/
import LexprModel.ListOps
namespace Lexpr
namespace Value

/-- A tail that terminates the chain: anything but a pair. -/
def NotCons (t : Value) : Prop := t.isCons = false

/-- The side condition of the traversals' stop equations (`consToVec.eq_2`, `assocFind.eq_4`, …). -/
theorem NotCons.ne {t : Value} (h : NotCons t) (a d : Value) : t = cons a d → False := by
  rintro rfl; exact Bool.noConfusion h

theorem cons_or_notCons (v : Value) : (∃ a d, v = cons a d) ∨ NotCons v := by
  cases v with
  | cons a d => exact .inl ⟨a, d, rfl⟩
  | _ => exact .inr rfl

/-- Induction along the cdr chain: the loops over a chain are proved at the terminating tail and
    carried over one cell. -/
theorem cdr_induct {P : Value → Prop} (stop : ∀ t, NotCons t → P t)
    (step : ∀ a d, P d → P (cons a d)) : ∀ v, P v
  | cons a d => step a d (cdr_induct stop step d)
  | nil | null | bool _ | number _ | char _ | string _ | symbol _ | keyword _ | bytes _
  | vector _ => stop _ rfl

/-- A pair tail merges into the chain. -/
theorem C15_append_merge (xs ys : List Value) (t : Value) :
    append xs (append ys t) = append (xs ++ ys) t := by
  induction xs with
  | nil => rfl
  | cons x xs ih => rw [List.cons_append, append, append, ih]

/-- `Cons::to_vec`, `into_vec`, `to_ref_vec` recover `(xs, t)`. -/
theorem C15_to_vec (x : Value) (xs : List Value) (t : Value) (ht : NotCons t) :
    consToVec x (append xs t) = (x :: xs, t) := by
  induction xs generalizing x with
  | nil => exact consToVec.eq_2 x t ht.ne
  | cons y ys ih => simp only [append, consToVec, ih]

/-- cell iteration visits `|xs|` cells -/
theorem C15_iter_len (x : Value) (xs : List Value) (t : Value) (ht : NotCons t) :
    (consIter x (append xs t)).length = (x :: xs).length := by
  induction xs generalizing x with
  | nil => rw [append, consIter.eq_2 x t ht.ne]; rfl
  | cons y ys ih => simp only [append, consIter, List.length_cons, ih]

/-- the consuming iterator yields each element once, the tail attached to the last -/
theorem C15_into_iter (x : Value) (xs : List Value) (t : Value) (ht : NotCons t) :
    consIntoIter x (append xs t) =
      ((x :: xs).dropLast.map fun e => (e, none)) ++ [((x :: xs).getLast (by simp), some t)] := by
  induction xs generalizing x with
  | nil => exact consIntoIter.eq_2 x t ht.ne
  | cons y ys ih => rw [append, consIntoIter, ih y]; rfl

/-- `Value::to_vec` / `to_ref_vec`: `Some xs` exactly for a proper list. -/
theorem C15_value_to_vec (xs : List Value) (t : Value) (ht : NotCons t) :
    (append xs t).toVec = if t.isNull then some xs else none := by
  cases xs with
  | nil =>
    cases t with
    | cons a d => exact (ht.ne a d rfl).elim
    | _ => rfl
  | cons x xs => simp only [append, toVec, C15_to_vec x xs t ht]

theorem ListCursor.take_exhausted (n : Nat) :
    ListCursor.take n .exhausted = List.replicate n none := by
  induction n with
  | zero => rfl
  | succ n ih => simp only [ListCursor.take, ListCursor.next, ih, List.replicate_succ]

/-- where the element iterator stands after the last cell -/
theorem ListCursor.next_stop {t : Value} (ht : NotCons t) (x : Value) :
    (ListCursor.cons x t).next = (some x, if t.isNull then .exhausted else .dot t) := by
  cases t with
  | cons a d => exact (ht.ne a d rfl).elim
  | _ => rfl

/-- the element iterator yields `xs` and goes on as the cursor after the last cell does -/
theorem ListCursor.take_cons_append (x : Value) (xs : List Value) (t : Value) (ht : NotCons t)
    (n : Nat) :
    (ListCursor.cons x (append xs t)).take ((x :: xs).length + n) =
      (x :: xs).map some ++ (if t.isNull then ListCursor.exhausted else .dot t).take n := by
  induction xs generalizing x with
  | nil => rw [List.length_singleton, Nat.add_comm, ListCursor.take, append, next_stop ht]; rfl
  | cons y ys ih =>
    rw [List.length_cons, Nat.add_right_comm]
    simp only [ListCursor.take, append, ListCursor.next, ih y, List.map_cons, List.cons_append]

/-- the element iterator: `xs`, then for a tail other than the empty list `None, t, None`, then `None` forever -/
theorem C15_list_iter (x : Value) (xs : List Value) (t : Value) (ht : NotCons t) (k : Nat) :
    (ListCursor.cons x (append xs t)).take ((x :: xs).length + 3 + k) =
      (x :: xs).map some ++
        (if t.isNull then List.replicate (3 + k) none
         else [none, some t] ++ List.replicate (1 + k) none) := by
  rw [Nat.add_assoc, ListCursor.take_cons_append x xs t ht]
  split
  · rw [ListCursor.take_exhausted]
  · rw [show 3 + k = 1 + k + 1 + 1 by omega]
    simp only [ListCursor.take, ListCursor.next, ListCursor.take_exhausted, List.cons_append,
      List.nil_append]

/-- positional indexing returns `xs[i]` for `i < |xs|` and `None` beyond, for every `i` -/
theorem C15_index_usize (x : Value) (xs : List Value) (t : Value) (ht : NotCons t) (i : Nat) :
    (cons x (append xs t)).getIdx i = (x :: xs)[i]? := by
  rw [getIdx]
  induction xs generalizing x i with
  | nil =>
    cases i with
    | zero => rw [getIdx.nth]; rfl
    | succ i => exact getIdx.nth.eq_3 x t i ht.ne
  | cons y ys ih =>
    cases i with
    | zero => rw [getIdx.nth]; rfl
    | succ i => exact ih y i

/-- `ops::Index` returns `xs[i]` or `Nil`. -/
theorem C15_index_op (x : Value) (xs : List Value) (t : Value) (ht : NotCons t) (i : Nat) :
    indexOr ((cons x (append xs t)).getIdx i) = ((x :: xs)[i]?).getD nil := by
  rw [C15_index_usize x xs t ht i]; cases (x :: xs)[i]? <;> rfl

/-- the proper-list and dotted-list predicates are complementary, on every value -/
theorem tail_complementary : ∀ d : Value, isList.isListTail d = !isDottedList.isDottedTail d
  | .cons _ d => tail_complementary d
  | .nil | .null | .bool _ | .number _ | .char _ | .string _ | .symbol _ | .keyword _ | .bytes _
  | .vector _ => rfl

theorem C15_complementary (v : Value) : v.isList = !v.isDottedList := by
  cases v with
  | cons a d => exact tail_complementary d
  | _ => rfl

/-- `is_list` holds exactly when the terminator is the empty list -/
theorem C15_is_list (xs : List Value) (t : Value) (ht : NotCons t) :
    (append xs t).isList = t.isNull := by
  have tail : ∀ v : Value, v.isList = isList.isListTail v := fun v => by cases v <;> rfl
  rw [tail]
  induction xs with
  | nil =>
    cases t with
    | cons a d => exact (ht.ne a d rfl).elim
    | _ => rfl
  | cons y ys ih => exact ih

/-- Reference association lookup: the cdr of the first entry that is a pair whose key matches. -/
def refAssoc (p : Value → Bool) : List Value → Option Value
  | [] => none
  | cons k v :: rest => if p k then some v else refAssoc p rest
  | _ :: rest => refAssoc p rest

theorem C15_assoc (p : Value → Bool) (x : Value) (xs : List Value) (t : Value) (ht : NotCons t) :
    assocFind p x (append xs t) = refAssoc p (x :: xs) := by
  induction xs generalizing x with
  | nil =>
    rcases cons_or_notCons x with ⟨k, v, rfl⟩ | hx
    · rw [append, assocFind.eq_2 p t k v ht.ne, refAssoc]; cases p k <;> rfl
    · rw [append, assocFind.eq_4 p x t hx.ne ht.ne, refAssoc.eq_3 p x [] hx.ne]; rfl
  | cons y ys ih =>
    rcases cons_or_notCons x with ⟨k, v, rfl⟩ | hx
    · rw [append, assocFind.eq_1, ih, refAssoc]; cases p k <;> rfl
    · rw [append, assocFind.eq_3 p x y _ hx.ne, ih, refAssoc.eq_3 p x _ hx.ne]

/-- lookup by name: the first entry whose key is a string, symbol or keyword with that name -/
theorem C15_alist_name (name : List UInt8) (x : Value) (xs : List Value) (t : Value)
    (ht : NotCons t) :
    (cons x (append xs t)).getName name = refAssoc (fun k => k.asName == some name) (x :: xs) :=
  C15_assoc _ x xs t ht

/-- lookup by value: the first entry whose key equals the given value -/
theorem C15_alist_value (key : Value) (x : Value) (xs : List Value) (t : Value) (ht : NotCons t) :
    (cons x (append xs t)).getKey key = refAssoc (fun k => Value.beq k key) (x :: xs) :=
  C15_assoc _ x xs t ht

/-- indexing a value that is not a list never finds anything (and, being total, never panics) -/
theorem C15_index_total (v : Value) (hv : v.isCons = false) (hvec : v.isVector = false)
    (i : Nat) (name : List UInt8) (key : Value) :
    v.getIdx i = none ∧ v.getName name = none ∧ v.getKey key = none := by
  cases v with
  | cons a d => exact Bool.noConfusion hv
  | vector xs => exact Bool.noConfusion hvec
  | _ => exact ⟨rfl, rfl, rfl⟩

/-- Every value decomposes as `append xs t` with `t` not a pair, so the theorems above cover
    every value (non-vacuity of the reference model). -/
theorem C15_decompose (v : Value) : ∃ xs t, NotCons t ∧ v = append xs t := by
  induction v using cdr_induct with
  | stop t ht => exact ⟨[], t, ht, rfl⟩
  | step a d ih =>
    obtain ⟨xs, t, ht, rfl⟩ := ih
    exact ⟨a :: xs, t, ht, rfl⟩

example : NotCons (Value.number (.pos 7)) ∧
    consToVec (.symbol [97]) (append [.null, .vector []] (.number (.pos 7))) =
      ([.symbol [97], .null, .vector []], .number (.pos 7)) := by
  exact ⟨rfl, C15_to_vec _ _ _ rfl⟩

end Value
end Lexpr
