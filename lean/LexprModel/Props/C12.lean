/-
  C12 — datum sequences: concatenation, trivia insensitivity, terminating iteration.  Fully proved, in
  the modules named below, which are imported here.

  Progress (Proofs/Progress.lean), for every configuration and state: `rest_suffix` — every call only
  consumes input; `C12_progress` — every successful item and every syntax error of `next_value` /
  `next_datum` strictly consumes input; `C12_none_at_end` — `None` is returned only at the end of the
  input; `C12_terminates` — iterating next_value, next_datum, value_iter, datum_iter or Iterator for
  Parser on a non-failing source yields at most `length` items followed by the end marker (no fuel, no
  I/O item, the cap is never what stops it); `io_error_faulty` — an I/O error implies a failing source.
  (Agreement of the four iteration styles: `C10_streams`, Props/C10.)

  Trivia clause (Proofs/Trivia.lean with TriviaBase, TriviaBytes, TriviaRel; namespace
  Lexpr.Parse.ListRT): `TV p ryu v t` — `t` is the text the printer `p` writes for `v` with an arbitrary
  trivia string (whitespace bytes and complete line comments) at every token boundary, non-empty where
  the printer writes a space, also inside byte vectors.  `trivia_structure`, `C12_trivia`,
  `C12_trivia_plain`, `C12_trivia_eq`, `C12_trivia_printT`: for every compatible printer/parser option
  pair and every value plain for the pair, every trivia variant (with leading trivia and a possibly
  unterminated final comment) reads as the same value as the plain text.

  Concatenation clause (Proofs/Concat.lean with ConcatBase, ConcatDatum, ConcatSources, ConcatTrivia;
  namespace Lexpr.Parse.Concat): `C12_concat` — for every compatible pair, any list of values plain for
  the pair, leading trivia, trivia separators and final trivia whose last comment may lack its newline:
  the `next_value` loop, `value_iter` and `Iterator for Parser` yield exactly the (folded) values in
  order, then end of input on every further call, with the depth budget back at 128 and the unread
  input after the i-th call exactly the text after the i-th value.  `SepsOK`: a separator may be empty
  only at the very start, after a pair / vector / `()` or before a text starting with a delimiter;
  `empty_separator_merges`, `octothorpe_vector_needs_separator` and
  `string_after_symbol_needs_separator` show the restriction is needed.  `C12_concat_default` (default
  options: the values themselves), `C12_concat_datum` (`next_datum`, `datum_iter`), `C12_concat_io`,
  `C12_concat_str` (stream and &str sources), `C12_concat_trivia` (each value written with arbitrary
  trivia inside: both clauses together).

  Stated here: the lexer-level facts (from Proofs/Reads.lean) — any string of whitespace and complete
  line comments in front of a token is skipped entirely, whatever it contains, and every trivia byte
  ends a symbol in both symbol scanners (the defect class behind `foo<FF>bar`) — and the two clauses.
-/
import LexprModel.Proofs.Progress
import LexprModel.Proofs.Trivia
import LexprModel.Proofs.ConcatSources
import LexprModel.Proofs.ConcatTrivia
import LexprModel.Proofs.ConcatDatum
import LexprModel.Proofs.FloatApproxConcat
namespace Lexpr
namespace Parse

/-- Trivia: whitespace bytes and complete comments `; … \n`. -/
inductive Trivia : List UInt8 → Prop where
  | nil : Trivia []
  | ws (b : UInt8) (t : List UInt8) : isTrivia b = true → Trivia t → Trivia (b :: t)
  | comment (body t : List UInt8) : (∀ x ∈ body, x ≠ 10) → Trivia t → Trivia (59 :: (body ++ 10 :: t))

/-- `ListRT.Triv` of `Proofs/Reads.lean` is this predicate under a name of its own: that file is
    imported here and cannot use this one -/
theorem trivia_iff (t : List UInt8) : Trivia t ↔ ListRT.Triv t := by
  constructor
  · intro h; induction h with
    | nil => exact .nil
    | ws b t hb _ ih => exact .ws b t hb ih
    | comment body t hb _ ih => exact .comment body t hb ih
  · intro h; induction h with
    | nil => exact .nil
    | ws b t hb _ ih => exact .ws b t hb ih
    | comment body t hb _ ih => exact .comment body t hb ih

/-- **C12_trivia_skipped**: trivia in front of any input is skipped as a whole. -/
theorem C12_trivia_skipped (tr rest : List UInt8) (h : Trivia tr) :
    wsLen (tr ++ rest) = tr.length + wsLen rest :=
  ListRT.wsLen_triv tr rest ((trivia_iff tr).1 h)

/-- a final comment without a newline, at the very end of the input, is skipped too -/
theorem C12_final_comment (body : List UInt8) (h : ∀ x ∈ body, x ≠ 10) :
    wsLen (59 :: body) = body.length + 1 :=
  ListRT.wsLen_final_comment body h

/-- every trivia byte and the comment character end a symbol, in both scanners -/
theorem C12_trivia_terminates_symbols (b : UInt8) (h : isTrivia b = true ∨ b = 59) :
    symTermSlice b = true ∧ symTermIo b = true :=
  (ListRT.trivia_byte_facts b h).2.2

/-- **C12_trivia_insensitive** (the trivia clause of the property): for every compatible
    printer/parser option pair, every value that is plain for the pair (nesting at most 127), every
    assignment `τ` of trivia strings to the token boundaries of its printed text, any leading trivia and
    any final trivia (whose last comment may lack its newline): parsing the text with trivia gives
    exactly what parsing the printed text gives, namely the (folded) value. -/
theorem C12_trivia_insensitive (cfg : Cfg) (p : Print.Options) (ryu : Nat → List UInt8)
    (hc : Spec.Compatible p cfg.opts = true) (v : Value) (h : ListRT.AllPlainFor p cfg v)
    (hn : ListRT.nestingP p v ≤ 127) (τ : Nat → List UInt8) (hτ : ∀ i, Trivia (τ i))
    (lead trail : List UInt8) (hl : Trivia lead) (ht : ListRT.TrivEnd trail) :
    ListRT.okValue (fromTrait cfg (initSt .slice (lead ++ (ListRT.textT τ p ryu v ++ trail)))) =
      ListRT.okValue (fromTrait cfg (initSt .slice (Print.text p ryu v))) ∧
    ListRT.okValue (fromTrait cfg (initSt .slice (lead ++ (ListRT.textT τ p ryu v ++ trail)))) =
      some (Spec.fold p cfg.opts v) :=
  ListRT.C12_trivia_printT cfg p ryu hc v h hn τ (fun i => (trivia_iff _).1 (hτ i)) lead trail
    ((trivia_iff _).1 hl) ht

/-- **C12_concatenation** (the concatenation clause of the property, default dialect): parsing the
    concatenation of printed values separated by trivia yields exactly those values, in order, then end
    of input — by the `next_value` loop, `value_iter` or `Iterator for Parser` alike. -/
theorem C12_concatenation (cfg : Cfg) (ho : cfg.opts = Parse.Options.default) (ryu : Nat → List UInt8)
    (op : Op) (hop : Concat.ValueOp op) (items : List (List UInt8 × Value)) (tEnd : List UInt8)
    (hall : ∀ it ∈ items, ListRT.AllPlainFor Print.Options.default cfg it.2 ∧
      ListRT.nestingP Print.Options.default it.2 ≤ 127)
    (hs : Concat.SepsOK Print.Options.default ryu true items) (hE : Concat.TriviaEnd tEnd) :
    iterate cfg op (items.length + 1)
        (initSt .slice (Concat.concatText Print.Options.default ryu items ++ tEnd)) =
      items.map (fun it => Item.value it.2) ++ [.none_] :=
  (Concat.C12_concat_default cfg ho ryu op hop items tEnd hall hs hE).1 (items.length + 1) (Nat.le_refl _)

example : Trivia (asc " \t;c (\n\x0c") := by
  refine .ws 32 _ (by decide) (.ws 9 _ (by decide) ?_)
  exact .comment (asc "c (") (asc "\x0c") (by decide) (.ws 12 _ (by decide) .nil)

end Parse
end Lexpr
