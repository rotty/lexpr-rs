/-
  C02 — round trip for every consistent printer/parser pairing.

  Fully proved for values without float leaves (LexprModel/Proofs/DialectRT.lean and
  DialectStructRT.lean, imported here):
    theorem C02_roundtrip : Compatible p cfg.opts → AllPlainFor p cfg v → Spec.nesting v < 127 →
      ∃ s', fromTrait cfg (initSt .slice (Print.text p ryu v)) = .ok (fold p cfg.opts v) s'
            ∧ s'.rd.rest = [] ∧ s'.depth = 128
  for every one of the 576 printer and 1536 parser option sets: the text printed under `p` is read
  back under any compatible parser option set as the documented folding of the value, nothing else.
  Token level (`dialectRT_nil/_bool/_keyword/_char/_string/_bytes/_symbol/_posint/_negint/_atom`) for
  all three sources; structure (`dialectRT_structure`: lists, dotted lists, both vector spellings,
  exact depth measure `nestingP`) on the slice source.  Side conditions (`symbolPlainFor`,
  `keywordPlainFor`) are decidable and each is shown necessary by a witness in those files.
  With float leaves and for all three sources (LexprModel/Proofs/FullRT.lean, imported here):
  `C02_roundtrip_full(_exact)`, `C02_roundtrip_full_sources` — the same for values whose float leaves
  satisfy `FloatOK` (ryu meets its specification; exactly readable), read from a &str, a slice or a
  stream; `atomRT_float_any` — the printed float is read back under ANY parser option set (with
  leading-digit symbols the token goes through the symbol scanner and `wholeNumber`).
  Independent Emacs Lisp reader (LexprModel/Spec/ReaderElisp.lean, Proofs/SpecRTElisp.lean, SpecRTExec.lean):
  `C02_independent_elisp` — for every value plain for the Emacs Lisp pair whose names are symbols of the
  documented subset, `Spec.readElisp` reads the Emacs Lisp printer's text as `fold` of the value (Nil and
  false become the empty list, true the symbol `t`, an empty byte vector the empty string); no nesting bound.
  Not covered by the theorem: digit-initial and `#`-initial names (not plain identifiers).
  Proved here: facts about `Compatible`, `fold` and `pof` over the whole (finite) option space and
  for all values.
-/
import LexprModel.Spec.Dialect
import LexprModel.Proofs.DialectStructRT
import LexprModel.Proofs.Builder
import LexprModel.Proofs.FullRT
import LexprModel.Proofs.SpecRTExec
namespace Lexpr
namespace Spec

theorem C02_default_compatible : Compatible Print.Options.default Parse.Options.default = true := by decide
theorem C02_elisp_compatible : Compatible Print.Options.elisp Parse.Options.elisp = true := by decide

/-- Every printer option set has a compatible parser option set, except the one combination
    that no reader can serve: Emacs unibyte byte strings together with R6RS string syntax. -/
theorem C02_compatible_exists (p : Print.Options) (h : ¬ (p.bytes = .elisp ∧ p.string = .r6rs)) :
    ∃ r : Parse.Options, Compatible p r = true := by
  refine ⟨{ kwPrefix := true, kwPostfix := true, kwOctothorpe := true, nil := .default, t := .default,
            brackets := .vector, string := p.string, char := .elisp, racket := false,
            leadingDigit := false }, ?_⟩
  -- every keyword spelling is read, brackets are vectors, the string syntax is the printer's;
  -- unibyte strings need the Emacs Lisp string syntax, which is what the hypothesis says
  have hs : (p.bytes != .elisp || p.string == .elisp) = true := by
    cases hb : p.bytes <;> cases hs : p.string <;> simp_all
  cases hk : p.keyword <;> simp [Compatible, Parse.Options.keyword, hk, hs]

/-- and that combination has none -/
theorem C02_incompatible (p : Print.Options) (hb : p.bytes = .elisp) (hs : p.string = .r6rs)
    (r : Parse.Options) : Compatible p r = false := by
  cases hr : r.string <;> simp [Compatible, hb, hs, hr]

/-- In the default dialect the round trip is the identity (no folding): C01 is the instance. -/
theorem C02_fold_default (v : Value) : fold Print.Options.default Parse.Options.default v = v :=
  FullRT.fold_default _ v

/-- The Emacs Lisp pairing folds exactly: Nil and false to the empty list, true to the symbol t,
    the empty byte vector to the empty string. -/
theorem C02_fold_elisp_atoms :
    fold Print.Options.elisp Parse.Options.elisp .nil = .null ∧
    fold Print.Options.elisp Parse.Options.elisp (.bool false) = .null ∧
    fold Print.Options.elisp Parse.Options.elisp (.bool true) = .symbol (asc "t") ∧
    fold Print.Options.elisp Parse.Options.elisp (.bytes []) = .string [] ∧
    fold Print.Options.elisp Parse.Options.elisp (.bytes [1]) = .bytes [1] := by
  refine ⟨rfl, rfl, rfl, rfl, rfl⟩

/-- The printer options corresponding to a parser option set are compatible with it whenever the
    parser has some keyword syntax enabled (otherwise no keyword can have been read). -/
theorem C13_pof_compatible (r : Parse.Options) (hk : r.kwPrefix || r.kwPostfix || r.kwOctothorpe) :
    Compatible (pof r) r = true := by
  -- the five conjuncts of `Compatible`; `pof` picks a keyword spelling that `r` has enabled
  have h1 : r.keyword (pof r).keyword = true := by
    cases ha : r.kwOctothorpe <;> cases hb : r.kwPrefix <;> cases hc : r.kwPostfix <;>
      simp_all [pof, Parse.Options.keyword]
  have h2 : ((pof r).vector != .brackets || r.brackets == .vector) = true := by
    cases hbr : r.brackets <;> simp [pof, hbr]
  have h3 : (r.string == (pof r).string) = true := by simp [pof]
  have h4 : ((pof r).bytes != .elisp || r.string == .elisp) = true := by simp [pof]
  have h5 : ((pof r).char != .elisp || r.char == .elisp) = true := by
    cases hc : r.char <;> simp [pof, hc]
  simp only [Compatible, h1, h2, h3, h4, h5, Bool.and_self]

/-- … and nothing is folded under them. -/
theorem C13_pof_fold (r : Parse.Options) (v : Value) : fold (pof r) r v = v :=
  fold_id _ _ rfl rfl (by simp [pof]) v

example : Compatible Print.Options.elisp Parse.Options.default = false := by decide

/-- every printer option set the property quantifies over is constructible through the builder API of
    `print::Options` (whose setters assign one field each: `Print.builder_frame`, `_commute`,
    `_last_wins`; tied to the code by the `opts P` operations), and so is every parser option set -/
theorem C02_every_option_set (p : Print.Options) (r : Parse.Options) :
    (∃ ops, Print.Options.build Print.Options.default ops = p) ∧
    (∃ ops, Parse.Options.build Parse.Options.new ops = r) :=
  ⟨Print.builder_reachable p, Parse.builder_reachable r⟩

end Spec
/-- **C02_independent_elisp_reader**: the Emacs Lisp printer's text is readable by an independent reader of
    the documented Emacs Lisp subset as the folding of the value (restates `Lexpr.C02_independent_elisp`). -/
theorem C02_independent_elisp_reader (cfg : Parse.Cfg) (ho : cfg.opts = Parse.Options.elisp)
    (ryu : Nat → List UInt8) (v : Value)
    (h : FullRT.AllPlainForF Print.Options.elisp cfg ryu v)
    (hid : FullRT.AllLeaves (SpecRT.El.ElNames Spec.unicodeAlphabetic) v) :
    Spec.readElisp (Print.text Print.Options.elisp ryu v) =
      some (Spec.fold Print.Options.elisp Parse.Options.elisp v) :=
  C02_independent_elisp cfg ho ryu v h hid

end Lexpr
