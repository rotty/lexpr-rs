/-
  C03 — parsing is total; bounded recursion.
  Fully proved in LexprModel/Proofs/Progress.lean (imported here), where the judgement `Spec` of every
  model function is read off the one statement the function has in Proofs/RunLexer.lean /
  RunParser.lean (`Run`, `Run.spec`): `C03_fuel`, `C03_fuel_bound`, `C03_fuel_scanners`,
  `C03_fuel_history` — with the fuel the public entry points pass, no call ever runs out of fuel, so
  fuel never changes a result ("fails to return" is excluded in the model).
  Fully proved in LexprModel/Proofs/Safety.lean (imported here), where the no-panic judgement `Safe` of
  every model function is read off the same statement (`Run.safe`):
  `C03_no_panic_value/_datum/_expectValue/_expectDatum/_fromTrait/
  _fromTraitDatum/_top/_expectEnd` — no entry point reaches any of the model's panic sites (each is a
  panic, `unreachable!`, arithmetic overflow or slice-index site of the real code) on inputs shorter
  than 2^31-2 bytes; `C03_no_panic_history`, `C03_no_panic_iterate` — nor does any history of calls on
  one parser or any iteration; `depth_restored_value/_datum` — every call, successful or failing,
  leaves the depth budget as it found it; `C03_enter_limit`; `C03_accepted_shallow(_fresh)` — an
  accepted value nests less deep than the budget (≤ 127 from a fresh parser); `C03_utf8_decodable`
  discharges the `unreachable!` of `decode_utf8_sequence`.  Proved here: the depth budget
  mechanism itself — charging never underflows while at least one level is left, the last level is
  refused with RecursionLimitExceeded and leaves the budget intact, charge-then-release is the
  identity — and, from the regenerated table, that the deepest accepted nesting on the current
  build is 127 (≥ 100) for every nesting construct.
-/
import LexprModel.TablesCheck
import LexprModel.Proofs.Progress
import LexprModel.Proofs.Safety
namespace Lexpr
namespace Parse

/-- `enter` panics only with an exhausted budget — which the invariant `1 ≤ depth` excludes -/
theorem C03_enter_no_panic (s : St) (h : 1 ≤ s.depth) : ∀ p, enter s ≠ .panic p := by
  intro p
  have h1 : (s.depth == 0) = false := by simp; omega
  simp only [enter, h1, Bool.false_eq_true, ↓reduceIte]
  split <;> simp

/-- charge then release restores the budget -/
theorem C03_enter_leave (s : St) (h : 2 ≤ s.depth) :
    (enter >>= fun _ => leave) s = .ok () s := by
  rw [bind_ok_eq (enter_of_le h), leave_eq]
  cases s with
  | mk rd depth =>
    simp only at h ⊢
    congr 2
    omega

/-- a fresh parser has 128 levels: 127 nested openers are accepted, the 128th is refused -/
theorem C03_initial_budget (m : Mode) (bytes : List UInt8) : (initSt m bytes).depth = 128 := rfl

/-- on the current build, probing the real parser: the deepest accepted nesting is 127 for
    parentheses, brackets (as lists and as vectors), `#(`, quote and unquote-splicing shorthands -/
theorem C03_limit_observed : Gen.depthLimits.all (fun n => n == 127 && decide (n ≥ 100)) = true := by
  decide +kernel

example : ∃ e, enter { rd := { mode := .slice, rest := [] }, depth := 1 } =
    .err e { rd := { mode := .slice, rest := [] }, depth := 1 } :=
  ⟨_, C03_enter_limit _ rfl⟩

end Parse
end Lexpr
