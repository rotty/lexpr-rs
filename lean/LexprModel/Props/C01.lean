/-
  C01 — print then parse returns the same value (default Scheme dialect).
  Proved (LexprModel/Proofs/AtomRT.lean, Reads.lean, ListRT.lean, ListRTGlue.lean, imported here):
   * token level, for all three sources: the printed text of #nil, booleans, every scalar character,
     every valid UTF-8 string (escape/unescape by induction over the bytes), plain-identifier symbols
     (ASCII and special initials, sign-initial peculiar identifiers, non-ASCII alphabetic initials),
     keywords, u64 and negative i64 integers and byte vectors is lexed back to the same token in every
     follow context (`atomRT_*`);
   * structure: one induction over the value (`reads_rel`, ReadsRel.lean) through the closure lemmas of
     Reads.lean — proper and dotted lists, vectors, arbitrary nesting up to the depth limit, fuel of
     the public entry point sufficient (`C01_structure`, `C01_structure_public`); the depth bound is
     exact (`C01_depth_exact`);
   * end to end: `C01_roundtrip` below.
   * float leaves (LexprModel/Proofs/FloatLeaf.lean): `atomRT_float`, `C01_roundtrip_floats` — the end to
     end theorem extended to values whose float leaves satisfy `FloatOK` (ryu meets its specification
     `RyuSpec`; default build: shortest form within the exactness window, as the property states;
     build without fast-float-parsing: every finite double).
   * every leaf kind and every source (LexprModel/Proofs/FullRT.lean, imported here):
     `C01_roundtrip_full`, `C01_roundtrip_full_sources` — for every value whose leaves are #nil, booleans,
     integers, floats satisfying `FloatOK`, scalar characters, valid UTF-8 strings, plain-identifier
     symbols and keywords and ANY byte vectors, nesting at most 127, the text of the default printer is
     read by the default parser from a &str, a byte slice or a (fault-free) stream as exactly that value,
     consuming everything and restoring the depth budget; `C01_text_valid` (the text is valid UTF-8,
     which is what makes the &str source applicable); `C01_roundtrip_plain` (names with a non-ASCII
     alphabetic initial).
   * the independent-reader clause (LexprModel/Spec/Reader.lean: a reader written from the documented
     R6RS/R7RS-style grammar — tokenise, classify, build with a stack machine; it shares nothing with the
     model of the crate's parser; LexprModel/Proofs/SpecRT*.lean, imported here): `C01_independent_reader` below —
     for every supported value whose names are identifiers of the grammar, `Spec.readScheme` reads the
     default printer's text as exactly that value: NO nesting bound, and floats need only `RyuSpec` (the
     specification gives a literal its correctly rounded value), not the exactness window.  The identifier
     hypothesis is needed and is what the property says ("names are plain identifiers"): witnesses
     `SpecRT.witness_dot5` (the symbol `.5` prints as `.5`, a number in the grammar), `witness_quote`,
     `witness_hash`, `witness_plus_i`, `witness_keyword_digit`.  Tie: the `specrd` operations run the
     specification reader on texts written by the real printer.
   * floats that are NOT exactly readable (LexprModel/Proofs/FloatApprox*.lean, imported here): outside the
     exactness window of the default build the property only asks for the C05 accuracy, and that is what is
     proved — `atomRT_float_approx` (the shortest form of every finite double, ryu as a specified parameter
     without any window, is read back under every option set as a float within 2^-50 relative + 2^-1073
     absolute, never an error, integer or symbol), `C01_roundtrip_approx` / `C02_roundtrip_approx` (the
     whole value reads back as a value of the same shape with identical leaves except such floats, all
     sources), witness `C01_roundtrip_approx_strict` (`(a 1e-23 . #(2.5))` reads back close but not equal).
     The one extra hypothesis in the default build, `InRange` (the decimal does not exceed f64::MAX), is
     needed: `1.7976931348623158e308` rounds to f64::MAX yet is rejected (known finding C05); the shortest
     form of every finite double satisfies it.
  Also proved here: all print entry points produce the same bytes, no folding in the default pairing.
-/
import LexprModel.Props.C07
import LexprModel.Props.C02
import LexprModel.Proofs.ListRTGlue
import LexprModel.Proofs.FloatLeaf
import LexprModel.Proofs.FullRT
import LexprModel.Proofs.SpecRTExec
import LexprModel.Proofs.FloatApproxRT
namespace Lexpr

/-- **C01_roundtrip** (proved for every value without floats and byte vectors; see the header):
    parsing the default printer's text with the default parser returns the value, consumes the whole
    text and restores the depth budget.  `AllSupported v`: atoms are #nil, booleans, integers in
    u64 / negative i64 range, scalar characters, valid UTF-8 strings, plain-identifier symbols and
    keywords; nesting at most 127 (the documented limit; `C01_depth_exact` shows 128 is refused). -/
theorem C01_roundtrip (cfg : Parse.Cfg) (ho : cfg.opts = Parse.Options.default)
    (ryu : Nat → List UInt8) (v : Value) (h : Parse.ListRT.AllSupported v)
    (hn : Parse.ListRT.nesting v ≤ 127) :
    ∃ s', Parse.fromTrait cfg (Parse.initSt .slice (Print.text Print.Options.default ryu v)) = .ok v s' ∧
      s'.rd.rest = [] ∧ s'.depth = 128 :=
  Parse.ListRT.C01_roundtrip_supported cfg ho ryu v h hn

/-- **C01_roundtrip_all_sources**: the same for every leaf kind (floats that are exactly readable, byte
    vectors included) and for each of the three input sources. -/
theorem C01_roundtrip_all_sources (cfg : Parse.Cfg) (ho : cfg.opts = Parse.Options.default)
    (ryu : Nat → List UInt8) (v : Value) (h : FullRT.AllSupportedFull cfg ryu v)
    (hn : Parse.ListRT.nesting v ≤ 127) (m : Parse.Mode) :
    ∃ s', Parse.fromTrait cfg (Parse.initSt m (Print.text Print.Options.default ryu v)) = .ok v s' ∧
      s'.rd.rest = [] ∧ s'.depth = 128 :=
  FullRT.C01_roundtrip_full_sources cfg ho ryu v h hn m

/-- **C01_independent_reader**: the printed text is readable as the same datum by an independent reader of
    the documented grammar (restates `Lexpr.C01_independent` of Proofs/SpecRTExec.lean). -/
theorem C01_independent_reader (cfg : Parse.Cfg) (ryu : Nat → List UInt8) (v : Value)
    (h : FullRT.AllSupportedFull cfg ryu v)
    (hid : FullRT.AllLeaves (SpecRT.IdentNames Spec.unicodeAlphabetic) v) :
    Spec.readScheme (Print.text Print.Options.default ryu v) = some v :=
  C01_independent cfg ryu v h hid

/-- to_string / to_vec / to_writer / Display all run the same printer: same emissions, same text -/
theorem C01_entry_points (ryu : Nat → List UInt8) (v : Value) :
    Print.textDefault ryu v = Print.text Print.Options.default ryu v :=
  (Print.C07_default_eq_custom ryu v).2

/-- in the default pairing nothing is folded: the round trip is the identity on values -/
theorem C01_no_folding (v : Value) :
    Spec.fold Print.Options.default Parse.Options.default v = v := Spec.C02_fold_default v

theorem C01_default_spellings (ryu : Nat → List UInt8) :
    Print.text Print.Options.default ryu .nil = asc "#nil" ∧
    Print.text Print.Options.default ryu .null = asc "()" ∧
    Print.text Print.Options.default ryu (.bool true) = asc "#t" ∧
    Print.text Print.Options.default ryu (.bool false) = asc "#f" := by
  refine ⟨rfl, rfl, rfl, rfl⟩

/-- a list prints as its elements separated by single spaces between parentheses, a dotted tail
    after ` . ` -/
theorem C01_list_text (ryu : Nat → List UInt8) (a b : Value) :
    Print.text Print.Options.default ryu (.cons a (.cons b .null)) =
      asc "(" ++ Print.text Print.Options.default ryu a ++ asc " " ++
        Print.text Print.Options.default ryu b ++ asc ")" := by
  simp [Print.text, Print.emits, Print.emitsTail, Print.flatten, Print.Emit.bytes]

example : Print.text Print.Options.default (fun _ => []) (.cons (.symbol [97]) (.bool true)) =
    asc "(a . #t)" := by decide

end Lexpr
