/-
  C10 — the location-tracking parse API agrees with the plain value API.

  Fully proved (LexprModel/Proofs/DatumValue.lean, imported here; the simulation itself, `sim_all`,
  stands in Proofs/DatumSim.lean and DatumValue.lean reads the statements off it), for every
  configuration, fuel and parser state:
   * `C10_sim`: `nextDatum` mapped to its value equals `nextValue` — same value or same error (code and
     position), same residual state, same panic/fuel; `C10_sim_list`, `C10_sim_vector` for the
     duplicated list and vector readers; `C10_sim_api` for `next_datum`/`expect_datum`/`from_*`;
   * `C10_streams`: any call history with the datum operations yields, item for item, what the same
     history with the value operations yields (`runHistory`, `iterate`), so the streams end together;
   * `C10_into_value`; `C10_shaped`: every datum any entry point returns has a span tree mirroring its
     value; on such datums `C10_list_iter` (the datum list iterator never hits its `expect` and yields
     the value iterator's items), `C10_as_pair` (the `unreachable!` never fires), `C10_vector_iter`.
-/
import LexprModel.Proofs.DatumValue
namespace Lexpr
namespace Parse

/-- the quotation datum has the value `(name quoted)` -/
theorem C10_quotation_value (q : Quote) (d : Datum) (sp : Span) :
    (Datum.quotation q d sp).value = Value.list [.symbol q.name, d.value] := rfl

example : (Datum.quotation .quote ⟨.symbol [97], .prim ⟨⟨1, 1⟩, ⟨1, 2⟩⟩⟩ ⟨⟨1, 0⟩, ⟨1, 1⟩⟩).asPair.isSome = true := rfl

end Parse
end Lexpr
