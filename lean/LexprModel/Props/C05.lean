/-
  C05 — numeric literals denote their exact mathematical value.
  Fully proved (LexprModel/Proofs/Numbers.lean, imported here; namespace Lexpr.Numbers):
   * `overflow_iff`: the `overflow!` test is exact; `rn_exact`: integers below 2^53 convert exactly;
     `mulPos_correct`, `divPos_correct`: one multiplication / division of exact operands is one correct
     rounding of the exact product / quotient;
   * `C05_fast_exact`, `C05_f64FromParts_fast`: with `sig < 2^53` and `|e| <= 22` the fast path returns the
     correctly rounded `sig * 10^e` (premise: the first 23 POW10 entries are exact — discharged for the
     regenerated table by `pow10Tab_exact`);
   * `C05_int_digits_radix`, `C05_int_digits`: an integer literal in radix 2, 8, 10 or 16 with any
     number of leading zeros whose value is at most u64::MAX reads as exactly that integer; negative
     literals down to -2^63 as that i64, below that as the negated float;
   * `C05_never_inf`, `C05_out_of_range`: the conversion never returns infinity or NaN; the only error is
     NumberOutOfRange.
  Decimal literals (LexprModel/Proofs/Decimals.lean, imported here): `C05_scan_parts` — the scanners
  (`parseNumLiteral`, `parseDecimal`, `parseExponent`, trailing-zero stripping) deliver exactly the
  significand/exponent pair of the written literal; `C05_rnDec_eq(_all)`; `C05_decimal_exact` — in the
  default build a literal whose digits fit 2^53 with |exponent| ≤ 22 reads as the correctly rounded
  double of its exact value; `C05_decimal_exact_nofast` — without fast-float-parsing every literal with
  at most 19 significant digits (sig ≤ u64::MAX) does; `C05_decimal_token` — as a whole token;
  `C05_out_of_range_literal`, `C05_literal_finite_or_range`, `C05_any_literal_finite_or_range` — every
  literal of any length reads as a finite double or is rejected as NumberOutOfRange at its end, never
  infinity, NaN, panic or fuel exhaustion; (LexprModel/Proofs/FloatLeaf.lean, imported here)
  `atomRT_float` — the printer's shortest form of a double
  (ryu as a specified parameter, `RyuSpec`) reads back bit-exactly in the exactness window (default
  build) or always (other build); witnesses `atomRT_float_window_needed` (1e-23 is one ulp off in
  the default build, allowed by the property) and `C05_out_of_range_fast_counterexample`.
  Accuracy clause (LexprModel/Proofs/Accuracy.lean with AccuracyRn, AccuracyFast, AccuracyLit,
  AccuracyTrunc, AccuracyEx; imported here; values as core `Rat`): `rn_relerr` / `rn_abserr` — one
  rounding is within 2^-53 relative in the normal range and 2^-1075 absolute below it;
  `C05_accuracy_fast(_tight)` — whatever the fast path returns for `sig * 10^e` (sig < 2^64, any
  exponent) is finite and within 2^-50 relative + 2^-1074 absolute (in fact 6*2^-53 and
  1.125*2^-1075) of the exact value, given the table is correctly rounded (`tab_rounded`, from the
  regenerated table); `C05_accuracy_nofast` (2^-53 without fast-float-parsing);
  `C05_accuracy_parts`, `C05_accuracy_literal`, and `C05_accuracy_any_literal` — a decimal literal
  of ANY length (the truncation of over-long significands included) reads as a finite double within
  that bound of its exact value, or is rejected as NumberOutOfRange at its end; kernel-evaluated
  instances equal to the bits the real code returns (1e-23, 5e-324, 1e-320, 18446744073709551616.5, …).
  Written exponents of ANY size (LexprModel/Proofs/ExpOverflow.lean, ExpOverflowVal.lean, ExpAll.lean; imported
  here): `scan_over` (the overflow path of `parse_exponent` / `parse_exponent_overflow` in closed form),
  `C05_exp_overflow` — an exponent that does not fit i32 gives signed zero when every digit is zero (value 0)
  or the exponent is negative (value below 2^-1075: zero IS the correct rounding), and NumberOutOfRange when
  positive (value at least 2^1024); `C05_accuracy_all_exponents` — the accuracy statement with no bound on the
  exponent at all, for literals shorter than 2^31 - 324 bytes.  That length bound is needed
  (`length_bound_needed`, `length_bound_needed_pos`: a 2 GiB run of zeros can compensate the exponent —
  reproduced on the real crate: `1` + (2^31-101 zeros) + `e-2147483648` reads as 0.0 although it denotes
  1e-101; recorded in DESIGN.md section 9 as an observation, no check feeds 2 GiB inputs).
  Not covered by a theorem: that acceptance is complete near f64::MAX (known findings).
  Proved here, against the table regenerated from the code on this run: every `POW10`
  entry is the correctly rounded power of ten and the first 23 are exact (the premise of the
  exactness region |exponent| ≤ 22); and basic facts of the rounding function.
-/
import LexprModel.TablesCheck
import LexprModel.Proofs.Numbers
import LexprModel.Proofs.Decimals
import LexprModel.Proofs.FloatLeaf
import LexprModel.Proofs.Accuracy
import LexprModel.Proofs.ExpAll
namespace Lexpr
namespace F64

/-- the table the fast path multiplies and divides by: correctly rounded, all 309 entries -/
theorem C05_pow10_rounded :
    Gen.pow10Bits.length = 309 ∧
    (List.range 309).all (fun k => Gen.pow10Bits.getD k 0 == rn (10 ^ k) 1) = true :=
  TablesCheck.pow10_rounded

/-- … and exact up to 10^22 -/
theorem C05_pow10_exact :
    (List.range 23).all (fun k =>
      let (m, p) := decode (Gen.pow10Bits.getD k 0)
      p ≤ 0 && m == 10 ^ k * 2 ^ (-p).toNat || (p > 0 && m * 2 ^ p.toNat == 10 ^ k)) = true :=
  TablesCheck.pow10_exact

/-- zero has a zero significand whatever the exponent: the result is (signed) zero, not an error -/
theorem C05_zero (e : Int) : rnDec 0 e = 0 := by simp [rnDec]

/-- a literal beyond the range of a double rounds to infinity in the exact reader, which the parser
    turns into NumberOutOfRange -/
theorem C05_huge (s : Nat) (hs : s ≠ 0) (e : Int) (he : e > 400) : rnDec s e = infBits := by
  simp [rnDec, hs, he]

example : rn 1 1 = 0x3FF0000000000000 ∧ rn 1 10 = 0x3FB999999999999A ∧ rn 5 (10 ^ 324) = 1 := by
  decide +kernel

end F64

/-- The accuracy clause of the property, default build, with the table regenerated from the code:
    whatever `f64_from_parts` returns for a non-zero significand below 2^64 and
    any exponent is a finite double within relative error 2^-50 (plus 2^-1074 for results in the
    subnormal range) of `sig * 10^e`. -/
theorem C05_accuracy {sig : Nat} {e : Int} {f : Nat} (hs0 : sig ≠ 0) (hs64 : sig < 2 ^ 64)
    (h : Accuracy.fastReal sig e = some f) :
    f < F64.infBits ∧
    Accuracy.dec sig e * (1 - Accuracy.c50) - Accuracy.a1074 ≤ Accuracy.val f ∧
    Accuracy.val f ≤ Accuracy.dec sig e * (1 + Accuracy.c50) + Accuracy.a1074 :=
  Accuracy.C05_accuracy_fast_real hs0 hs64 h

end Lexpr
