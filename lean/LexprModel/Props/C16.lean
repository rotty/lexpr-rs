/-
  C16 — stack use does not grow with the number of list elements.  (partial: the call depth is proved
  in the model; bytes per frame and the platform's stack are observed by running the real code on a
  2 MiB stack, see the `depth` probes of the check.)

  Proved: an operation that loops along the cdr chain and recurses only into the cars and the tail
  (the measure `Depth.looped`) has call depth at most `nesting + 1`, for every value
  (`C16_depth_looped`), while a derived, per-field recursion has depth `n + 1` on a flat list of `n`
  elements (`C16_derived_linear`); `Clone`, `PartialEq` and drop of `Cons` and of a datum's span
  information are therefore hand-written loops in cons.rs and datum.rs.  On depth-instrumented models
  of those loops as they are written (LexprModel/ConsOps.lean, ConsOpsDepth.lean, ConsOpsDatum.lean;
  tied to the code by the `clone` / `dclone` / `consmut` operations):
  `ConsOps.C16_cons_loops_depth` (Proofs/ConsOpsAll.lean, which imports this file) — `Cons::clone`
  and `==` on values stay within `nesting + 1` levels (clone reaches exactly `looped v`,
  `cloneVI_eq`), `Drop` within `2 * nesting + 2`;
  `C16_datum_clone_depth / _eq_depth / _drop_depth` (Proofs/DatumDepth.lean) — for every datum any
  entry point or history returns, the span tree nests exactly as deep as the value
  (`loopedS_eq_of_shaped`, from `C10_shaped`), so cloning, comparing and dropping a datum stay within
  `nesting value + 2`, `+ 2` and `2 * nesting value + 3`: "with or without source-location
  information".  None of the bounds depends on the length.  That the compiled code behaves like the
  models is what the depth probes observe (10^6 elements, 2 MiB stack).
-/
import LexprModel.Depth
import LexprModel.ListOps
namespace Lexpr
namespace Depth
open Spec

theorem max_le_max {a b c d : Nat} (h₁ : a ≤ b) (h₂ : c ≤ d) : max a c ≤ max b d :=
  Nat.max_le.2 ⟨Nat.le_trans h₁ (Nat.le_max_left ..), Nat.le_trans h₂ (Nat.le_max_right ..)⟩

/-- `looped` and `nesting` recurse in the same way; `looped` counts the frame of an atom as well. -/
theorem looped_le_all :
    (∀ v : Value, looped v ≤ nesting v + 1) ∧ (∀ xs : List Value, loopedList xs ≤ nestingList xs + 1) ∧
    (∀ v : Value, loopedTail v ≤ nestingTail v + 1) := by
  have step : ∀ {a b c d : Nat}, a ≤ b + 1 → c ≤ d + 1 → max a c ≤ max b d + 1 := fun h₁ h₂ =>
    Nat.le_trans (max_le_max h₁ h₂) (Nat.le_of_eq (Nat.add_max_add_right ..))
  apply looped.mutual_induct
  · intro a d ha hd; rw [looped, nesting]; exact Nat.succ_le_succ (step ha hd)
  · intro xs h; rw [looped, nesting]; exact Nat.succ_le_succ h
  · intro t hc hv; rw [looped.eq_3 t hc hv]; exact Nat.le_add_left 1 _
  · intro a d ha hd; rw [loopedTail, nestingTail]; exact step ha hd
  · intro xs h; rw [loopedTail, nestingTail]; exact Nat.succ_le_succ h
  · intro t hc hv; rw [loopedTail.eq_3 t hc hv]; exact Nat.le_add_left 1 _
  · exact Nat.zero_le _
  · intro x xs hx hxs; rw [loopedList, nestingList]; exact step hx hxs

theorem looped_le : ∀ v : Value, looped v ≤ nesting v + 1 := looped_le_all.1
theorem loopedTail_le : ∀ v : Value, loopedTail v ≤ nestingTail v + 1 := looped_le_all.2.2
theorem loopedList_le : ∀ xs : List Value, loopedList xs ≤ nestingList xs + 1 := looped_le_all.2.1

/-- The measure `looped` is at most nesting + 1, whatever the number of elements.  That clone and
    `==` as written reach at most `looped` levels is proved on their instrumented models
    (`ConsOps.cloneVI_eq`, `eqVI_spec`; span trees: `cloneSI_eq`, `eqS_depth_le`); `Drop` needs up
    to twice that (`dropD_le`, `drop_depth_le`: `Cons::drop` hands short lists to the
    recursive drop glue and frees the cells of longer ones one level below itself; still independent
    of the length).  For print, Display, parse, to_vec, the iterators, index and is_list the
    measure is the classification of Depth.lean, observed by the depth probes, not proved. -/
theorem C16_depth_looped (v : Value) : looped v ≤ nesting v + 1 := looped_le v

/-- a flat list of n atoms has nesting 1: depth 2 for the looped operations, for every n -/
theorem C16_flat_list (n : Nat) : looped (Value.list (List.replicate n (.number (.pos 7)))) ≤ 2 := by
  have h : ∀ n, loopedTail (Value.append (List.replicate n (.number (.pos 7))) .null) ≤ 1 := by
    intro n; induction n with
    | zero => simp [Value.append, loopedTail]
    | succ n ih => simp only [List.replicate_succ, Value.append, loopedTail, looped]; omega
  cases n with
  | zero => simp [Value.list, Value.append, looped]
  | succ n =>
    simp only [Value.list, List.replicate_succ, Value.append, looped]
    have := h n; omega

/-- a derived `Clone` / `==` (one recursive call per field, `Depth.derived`) recurses once per
    element of a flat list -/
theorem C16_derived_linear (n : Nat) :
    derived (Value.list (List.replicate n (.number (.pos 7)))) = n + 1 := by
  induction n with
  | zero => simp [Value.list, Value.append, derived]
  | succ n ih =>
    simp only [Value.list, List.replicate_succ, Value.append, derived] at ih ⊢
    omega

example : nesting (Value.list [.number (.pos 1), Value.list [.null]]) = 2 := by decide

end Depth
end Lexpr
