/-
  C04 — serde round trip.  The theorems are in LexprModel/Proofs and imported here.
  * Value path (SerdeRT.lean): `C04_value` — `de t (ser t d) = ok d` for every well-formed type (distinct field
    and variant names) and every datum of it: all integer widths, f32 (the fixed points of the f32 rounding,
    `C04_f32_idem`), f64 including NaN bit patterns, options (also `Option<Option<T>>`, `Option<()>`),
    sequences, sets, tuples, maps, structs, unit / newtype / tuple structs, enums with the four variant kinds,
    nested arbitrarily;
    witnesses show each hypothesis is needed.
  * Text path (SerdeText.lean): `C04_text`, `C04_text_identity`, `C04_text_unicode` — Rust data -> `to_string` ->
    `from_str` / `from_slice` / `from_reader` -> Rust data is the identity, given plain field and variant names,
    valid strings, scalar chars, exactly readable floats and `depthOf t d ≤ 127`.  No hypothesis can be dropped,
    all confirmed on the real crate: `C04_text_names_needed` (a field renamed to `my field`, to `1st`, or named
    `℘` — an identifier rustc accepts whose first character is not `char::is_alphabetic`: recorded as a known
    finding), `C04_text_depth_needed` (data nested 128 levels: the value path works, the text path hits the
    recursion limit, as C03 documents), `C04_text_float_window_needed`.
  * Floats that are not exactly readable (FloatApproxSerde32.lean, F32Stable.lean): `C04_text_approx_all`,
    `C04_text_identity_approx_all` — f64 leaves come back within the C05 accuracy and f32 leaves exactly
    (`roundToF32_stable`; `f32_max_witness`: the default build reads the text of f32::MAX one ulp high, and
    narrowing still gives f32::MAX).
  In this file: the primitive cases at every width, the shape-ambiguous option nestings that the quantifier
  lists, and the text clause under the hypotheses of `C04_text` (`C04_text_roundtrip`).
-/
import LexprModel.Proofs.SerdeRT
import LexprModel.Proofs.SerdeText
import LexprModel.Proofs.FloatApproxSerde
import LexprModel.Proofs.FloatApproxSerde32
namespace Lexpr
namespace Serde

/-- integers of all eight widths, at every value of the width -/
theorem C04_int (w : IntTy) (n : Int) (h : w.lo ≤ n ∧ n ≤ w.hi) :
    de (.int w) (serInt w n) = .ok (.int n) := de_serInt w n h.1 h.2

theorem C04_float (b : Nat) : de .f64 (.number (.flt b)) = .ok (.float b) := by rw [de, deNumber]

theorem C04_atoms (c : Nat) (s y : List UInt8) (x : Bool) :
    de .char (.char c) = .ok (.char c) ∧ de .str (.string s) = .ok (.str s) ∧
    de .bytes (.bytes y) = .ok (.bytes y) ∧ de .bool (.bool x) = .ok (.bool x) ∧
    de .unit .null = .ok .unit ∧ de .unitStruct .null = .ok .unit := by
  refine ⟨?_, ?_, ?_, ?_, ?_, ?_⟩ <;> rw [de]

/-- Option<T> given the round trip of T -/
theorem C04_option (t : Ty) (d : Data) (v : Value) (hs : ser t d = some v) (hd : de t v = .ok d) :
    (∃ v', ser (.option t) (.some d) = some v' ∧ de (.option t) v' = .ok (.some d)) ∧
    de (.option t) .null = .ok .none :=
  ⟨⟨.cons v .null, congrArg (Option.map _) hs, by rw [de, hd]; rfl⟩, by rw [de]⟩

/-- Option<Option<u8>>: None, Some(None) and Some(Some(x)) serialise to three different values
    and each reads back as itself -/
theorem C04_option_option (x : Int) (h : 0 ≤ x ∧ x ≤ 255) :
    let t := Ty.option (.option (.int .u8))
    ser t .none = some .null ∧ de t .null = .ok .none ∧
    ser t (.some .none) = some (.cons .null .null) ∧ de t (.cons .null .null) = .ok (.some .none) ∧
    ser t (.some (.some (.int x))) = some (.cons (.cons (serInt .u8 x) .null) .null) ∧
    de t (.cons (.cons (serInt .u8 x) .null) .null) = .ok (.some (.some (.int x))) := by
  refine ⟨rfl, by rw [de], rfl, by rw [de, de]; rfl, rfl, ?_⟩
  rw [de, de, C04_int .u8 x h]; rfl

/-- Option<()>: Some(()) is `(())`, distinct from None `()` -/
theorem C04_option_unit :
    ser (.option .unit) (.some .unit) = some (.cons .null .null) ∧
    de (.option .unit) (.cons .null .null) = .ok (.some .unit) ∧
    de (.option .unit) .null = .ok .none :=
  ⟨rfl, by rw [de, de]; rfl, by rw [de]⟩

example : de (.int .u64) (serInt .u64 18446744073709551615) = .ok (.int 18446744073709551615) :=
  C04_int .u64 _ (by simp [IntTy.lo, IntTy.hi])

/-- the second sentence of the property, under the hypotheses of `C04_text`: serialising to text with the
    default printer and deserialising that text with the default parser, from any of the three sources,
    returns the original datum -/
theorem C04_text_roundtrip (cfg : Parse.Cfg) (ho : cfg.opts = Parse.Options.default)
    (ryu : Nat → List UInt8) (t : Ty) (d : Data) (wf : WellFormed t) (hN : PlainNames t) (h : HasTy t d)
    (hl : LeavesOK (Decimals.FloatOK cfg ryu) t d) (hn : depthOf t d ≤ 127) (m : Parse.Mode) :
    ∃ bytes, toText ryu t d = some bytes ∧ fromText cfg m t bytes = some (.ok d) :=
  C04_text_identity cfg ho ryu t d wf hN h hl hn m

end Serde
end Lexpr
