/-
  C07 — every sink receives exactly the printed text; write errors surface.

  Every emission of the printer is a `write_all` (`C07_all_writeAll`: the instance of `emits_forall`,
  Proofs/PrintWalk.lean, at `Emit.isAll`), and `write_all` run against any schedule of sink answers
  delivers a prefix of the text, all of it when it reports success (`C07_delivery`).
-/
import LexprModel.Print
import LexprModel.Proofs.PrintWalk
namespace Lexpr
namespace Print

/-- every emission goes through `write_all` -/
def AllAll (es : List Emit) : Prop := ∀ e ∈ es, e.isAll = true

theorem AllAll.nil : AllAll [] := by intro e h; cases h
theorem AllAll.cons {e : Emit} {es : List Emit} (h : e.isAll = true) (hs : AllAll es) :
    AllAll (e :: es) := by
  intro x hx; cases hx with
  | head => exact h
  | tail _ hx => exact hs x hx
theorem AllAll.append {a b : List Emit} (ha : AllAll a) (hb : AllAll b) : AllAll (a ++ b) := by
  intro x hx; rcases List.mem_append.mp hx with h | h
  · exact ha x h
  · exact hb x h

theorem atomEmits_all (o : Options) (ryu : Nat → List UInt8) (v : Value) :
    AllAll (atomEmits o ryu v) := by
  cases v with
  | keyword s => rw [atomEmits, keywordEmits]; split <;> exact .cons rfl (.cons rfl .nil)
  | bytes b => rw [atomEmits, bytesEmits]; split <;> exact .cons rfl (.cons rfl (.cons rfl .nil))
  | string s => exact .cons rfl (.cons rfl (.cons rfl .nil))
  | cons _ _ => exact .nil
  | vector _ => exact .nil
  | _ => exact .cons rfl .nil

theorem emits_all_all (o : Options) (ryu : Nat → List UInt8) :
    (∀ v : Value, AllAll (emits o ryu v)) ∧ (∀ v : Value, AllAll (emitsTail o ryu v)) ∧
    ∀ (first : Bool) (xs : List Value), AllAll (emitsSeq o ryu first xs) :=
  have h := emits_forall o ryu (·.isAll = true) (fun _ => True)
    (AllAll.cons rfl (.cons rfl (.cons rfl (.cons rfl (.cons rfl (.cons rfl (.cons rfl .nil)))))))
    (fun l _ _ => atomEmits_all o ryu l)
  ⟨fun v => h.1 v (allLeaves_true.1 v), fun v => h.2.1 v (allLeaves_true.1 v),
   fun b xs => h.2.2 xs (allLeaves_true.2 xs) b⟩

theorem emits_all (o : Options) (ryu : Nat → List UInt8) : ∀ v : Value, AllAll (emits o ryu v) :=
  (emits_all_all o ryu).1
theorem emitsTail_all (o : Options) (ryu : Nat → List UInt8) : ∀ v : Value, AllAll (emitsTail o ryu v) :=
  (emits_all_all o ryu).2.1
theorem emitsSeq_all (o : Options) (ryu : Nat → List UInt8) :
    ∀ (first : Bool) (xs : List Value), AllAll (emitsSeq o ryu first xs) := (emits_all_all o ryu).2.2

/-- for every option set and value, every emission is a `write_all`. -/
theorem C07_all_writeAll (o : Options) (ryu : Nat → List UInt8) (v : Value) :
    ∀ e ∈ emits o ryu v, e.isAll = true := emits_all o ryu v

/-- One `write_all` delivers a prefix of its buffer, and the whole buffer when it answers `Ok`.
    Induction on the schedule: an answer `accept k` delivers `take k` and the rest of the schedule
    serves `drop k`; `Interrupted` is retried; a failure or a zero count ends with what was
    delivered before. -/
theorem writeAll_prefix (sched : List Resp) (buf : List UInt8) :
    (writeAll sched buf).2.1 <+: buf ∧
    ((writeAll sched buf).1 = .ok → (writeAll sched buf).2.1 = buf) := by
  induction sched generalizing buf with
  | nil => cases buf <;> simp [writeAll]
  | cons r s ih =>
    cases buf with
    | nil => simp [writeAll]
    | cons b bs =>
      cases r with
      | accept k =>
        simp only [writeAll]
        split
        · simp
        · rename_i hk
          have := ih ((b :: bs).drop (min k (bs.length + 1)))
          obtain ⟨hp, hok⟩ := this
          constructor
          · obtain ⟨t, ht⟩ := hp
            refine ⟨t, ?_⟩
            simp only [List.append_assoc, ht, List.take_append_drop]
          · intro h
            have := hok h
            simp only [this, List.take_append_drop]
      | interrupted => simpa [writeAll] using ih (b :: bs)
      | fail => simp [writeAll]

/-- When every emission is a `write_all`, whatever the sink answers (short counts, zero counts,
    `Interrupted`, errors, in any order): the bytes delivered are a prefix of the printed text, and
    if the print call reports success they are all of it.  Induction on the emissions with
    `writeAll_prefix`: an emission that fails has delivered a prefix of itself and the run stops;
    one that succeeds has delivered itself, and the rest runs on the schedule that is left. -/
theorem C07_delivery (es : List Emit) (h : AllAll es) (sched : List Resp) :
    (runEmits es sched).2 <+: flatten es ∧
    ((runEmits es sched).1 = .ok → (runEmits es sched).2 = flatten es) := by
  induction es generalizing sched with
  | nil => simp [runEmits, flatten]
  | cons e es ih =>
    have he : e.isAll = true := h e (List.mem_cons_self)
    have hes : AllAll es := fun x hx => h x (List.mem_cons_of_mem _ hx)
    cases e with
    | one bs => simp [Emit.isAll] at he
    | all bs =>
      have hw := writeAll_prefix sched bs
      simp only [runEmits, flatten, List.flatMap_cons, Emit.bytes]
      rcases hres : writeAll sched bs with ⟨r, out, s'⟩
      rw [hres] at hw
      cases r with
      | err =>
        simp only
        exact ⟨by obtain ⟨t, ht⟩ := hw.1; exact ⟨t ++ List.flatMap Emit.bytes es, by simp [← ht]⟩,
               by intro h; cases h⟩
      | ok =>
        have hout : out = bs := hw.2 rfl
        subst hout
        have := ih hes s'
        simp only [flatten] at this
        constructor
        · obtain ⟨t, ht⟩ := this.1
          exact ⟨t, by simp [← ht]⟩
        · intro hok
          simp only at hok
          have := this.2 hok
          simp [this]

/-- Corollary for the printer: a print call that returns `Ok` has delivered exactly the text,
    and a failed one a prefix of it. -/
theorem C07_print_delivery (o : Options) (ryu : Nat → List UInt8) (v : Value) (sched : List Resp) :
    (runEmits (emits o ryu v) sched).2 <+: text o ryu v ∧
    ((runEmits (emits o ryu v) sched).1 = .ok → (runEmits (emits o ryu v) sched).2 = text o ryu v) :=
  C07_delivery _ (emits_all o ryu v) sched

/-- A sink whose schedule contains a failure or a zero-length acceptance before the text is
    complete cannot make the call succeed with less than the text: success implies everything was
    delivered (contrapositive form of "an error is returned rather than success"). -/
theorem C07_no_silent_loss (o : Options) (ryu : Nat → List UInt8) (v : Value) (sched : List Resp)
    (h : (runEmits (emits o ryu v) sched).2 ≠ text o ryu v) :
    (runEmits (emits o ryu v) sched).1 = .err := by
  have := (C07_print_delivery o ryu v sched).2
  cases hr : (runEmits (emits o ryu v) sched).1 with
  | ok => exact absurd (this hr) h
  | err => rfl

/-- With a bare `write` in the emission list the delivery theorem is false: witness. -/
theorem C07_write_witness :
    runEmits [.one [49, 50, 51]] [.accept 1] = (.ok, [49]) := by decide

theorem atom_default_eq (ryu : Nat → List UInt8) (v : Value) :
    atomEmitsDefault ryu v = atomEmits Options.default ryu v := by
  cases v <;> simp [atomEmitsDefault, atomEmits, Options.default, nilText, boolText, charText,
    keywordEmits, bytesEmits] <;> (try split <;> rfl)

theorem emitsDefault_leaf (ryu : Nat → List UInt8) {v : Value} (hc : v.isCons = false)
    (hv : v.isVector = false) : emitsDefault ryu v = atomEmitsDefault ryu v := by
  cases v with
  | cons _ _ => cases hc
  | vector _ => cases hv
  | _ => rfl

theorem emitsTailDefault_dotted (ryu : Nat → List UInt8) (d : Value) (h1 : d.isCons = false)
    (h2 : d ≠ .null) :
    emitsTailDefault ryu d = [.all (asc " "), .all (asc "."), .all (asc " ")] ++ emitsDefault ryu d := by
  cases d with
  | cons _ _ => cases h1
  | null => exact (h2 rfl).elim
  | _ => rfl

theorem emits_default_eq_all (ryu : Nat → List UInt8) :
    (∀ v : Value, emitsDefault ryu v = emits Options.default ryu v) ∧
    (∀ v : Value, emitsTailDefault ryu v = emitsTail Options.default ryu v) ∧
    ∀ (xs : List Value) (first : Bool),
      emitsSeqDefault ryu first xs = emitsSeq Options.default ryu first xs := by
  refine Parse.ListRT.value_induction ?_ ?_ ?_ ?_ ?_ ?_ ?_ ?_ ?_
  · intro a d ha hd; rw [emitsDefault, emits, ha, hd]
  · intro xs h; rw [emitsDefault, emits, h]; rfl
  · rfl
  · intro v hc hv _; rw [emitsDefault_leaf ryu hc hv, emits_leaf _ ryu hc hv, atom_default_eq]
  · intro a d ha hd; rw [emitsTailDefault, emitsTail, ha, hd]
  · rfl
  · intro d hc hn h; rw [emitsTailDefault_dotted ryu d hc hn, emitsTail_dotted _ ryu d hc hn, h]
  · intro b; rw [emitsSeqDefault, emitsSeq]
  · intro x xs hx hxs b
    cases b <;> rw [emitsSeqDefault, emitsSeq, hx, hxs]

theorem emits_default_eq (ryu : Nat → List UInt8) :
    ∀ v : Value, emitsDefault ryu v = emits Options.default ryu v := (emits_default_eq_all ryu).1
theorem emitsTail_default_eq (ryu : Nat → List UInt8) :
    ∀ v : Value, emitsTailDefault ryu v = emitsTail Options.default ryu v :=
  (emits_default_eq_all ryu).2.1
theorem emitsSeq_default_eq (ryu : Nat → List UInt8) :
    ∀ (first : Bool) (xs : List Value),
      emitsSeqDefault ryu first xs = emitsSeq Options.default ryu first xs :=
  fun first xs => (emits_default_eq_all ryu).2.2 xs first

/-- the default printer and the customised printer with default
    options emit the same calls, hence the same bytes. -/
theorem C07_default_eq_custom (ryu : Nat → List UInt8) (v : Value) :
    emitsDefault ryu v = emits Options.default ryu v ∧ textDefault ryu v = text Options.default ryu v := by
  refine ⟨emits_default_eq ryu v, ?_⟩
  simp [textDefault, text, emits_default_eq ryu v]

example : AllAll (emits Options.elisp (fun _ => asc "1.5")
    (.cons (.number (.pos 12345)) (.cons (.bytes [200, 100]) .null))) := emits_all _ _ _

end Print
end Lexpr
