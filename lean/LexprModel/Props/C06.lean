/-
  C06 — str, slice and stream input give the same result; read errors surface.
  Proved in LexprModel/Proofs/Sources.lean (with Rel, Hist, SliceIo, StrSlice, Fault; imported here):
   * slice vs stream, whole parser: `C06_slice_io_value/_datum/_expectEnd/_fromTrait/_fromTraitDatum`
     and `C06_slice_io_history` — from related states every entry point and every history of calls
     gives the same values, the same error codes at the same items (positions of a few errors differ
     between the two, shown by a witness, and are not part of C06) and the same end of input;
   * &str vs slice: `C06_str_slice` — on valid UTF-8 every history gives *equal* results, positions
     included (`C06_str_slice_history`, `_value`, `_datum`, `_fromTrait*`); the two unchecked
     conversions agree with the checked ones (`C06_str_slice_parseSymbolBytes`, `_parseR6rsStr`);
   * read faults: `C06_fault_peek_next`, `C06_fault_scanners`, `C06_fault_parseToken`,
     `C06_fault_endSeq_expectEnd`, `C06_fault_reading` — up to and including the tokenizer a run on a
     stream failing after k bytes either reports the I/O error or returns exactly what the fault-free
     run returns; a fault is never turned into a value, a syntax error or an end-of-input error.
     Whole parser (LexprModel/Proofs/FaultParse.lean, FaultParse2, FaultParse3; imported here):
     `C06_fault_value/_datum/_expectValue/_expectDatum/_expectEnd/_fromTrait/_fromTraitDatum`,
     `C06_fault_fromReader` — for every entry point, the run on a stream that delivers `pre` and then
     fails either reports the I/O error (and the parser is dead: every later call reports it again) or
     has exactly the outcome of the run on the fault-free stream `pre ++ tail`; `C06_fault_history`,
     `C06_fault_iterate`, `C06_fault_prefix`, `C06_fault_no_io` — item for item over any history of
     calls; `C06_never_swallowed` — an item of the faulty run is the I/O error or the fault-free run's
     item: never a value, `None`, or an end-of-input error of its own; `C06_fault_demanded`,
     `C06_fault_only_beyond` — if the fault-free run leaves more than |tail| bytes unread after every
     call, the fault is never seen, and an I/O error implies the fault-free call read into the tail.
  Chunking, `Interrupted` and `BufReader` are std behaviour and not modelled (compared directly).
  Proved here: the two hand-duplicated symbol scanners stop at the same bytes; a read
  fault surfaces as an I/O error from the primitives and is never reported as end of input; the
  slice and stream readers consume identically.
-/
import LexprModel.Lex
import LexprModel.Proofs.Sources
import LexprModel.Proofs.FaultParse3
namespace Lexpr
namespace Parse

theorem C06_symLen_mode (m m' : Mode) (bs : List UInt8) : symLen m bs = symLen m' bs :=
  symLen_mode m m' bs

/-- at the faulty end of a stream `peek` and `next` return the I/O error, not end of input -/
theorem C06_fault_surfaces (s : St) (h : s.rd.rest = []) (hf : s.rd.faulty = true) :
    peek s = .err .io s ∧ next s = .err .io s := by
  rw [peek_nil h, next_nil h, hf]
  exact ⟨rfl, rfl⟩

/-- without a fault the end of the stream is end of input -/
theorem C06_eof (s : St) (h : s.rd.rest = []) (hf : s.rd.faulty = false) :
    peek s = .ok none s ∧ next s = .ok none s :=
  ⟨peek_end h hf, next_end h hf⟩

/-- `next` returns the same byte and leaves the same remaining input for every source -/
theorem C06_next_mode (s : St) (b : UInt8) (bs : List UInt8) (h : s.rd.rest = b :: bs) :
    ∃ s', next s = .ok (some b) s' ∧ s'.rd.rest = bs ∧ s'.depth = s.depth ∧ s'.rd.mode = s.rd.mode :=
  ⟨adv1 s, next_cons h, Rd.consume_one_rest h, rfl, Rd.consume_mode 1 s.rd⟩

/-- an I/O error is in the I/O category, never EOF or syntax -/
theorem C06_io_category : Err.io.category = .io := rfl

/-- **C06_read_errors_surface** (the read-error clause of the property): over any history of calls on
    one parser, each item a failing stream yields is either the I/O error or exactly the item the
    fault-free stream yields at that position; a fault never produces a value, `None` or an EOF error. -/
theorem C06_read_errors_surface (cfg : Cfg) (ops : List Op) (pre tail : List UInt8) :
    FaultHist (runHistory cfg ops (initSt .io (pre ++ tail))) (runHistory cfg ops (initSt .io pre true)) :=
  C06_fault_history cfg ops pre tail

example : symLen .io (asc "abc def") = 3 ∧ symLen .slice (asc "abc def") = 3 := by decide

end Parse
end Lexpr
